-- Root of the `GoLevel` library: models, proofs and property theorems.
import GoLevel.Gen.Consts
import GoLevel.Model.Bytes
import GoLevel.Model.Key
import GoLevel.Model.Filter
import GoLevel.Model.LSM
import GoLevel.Model.CRC
import GoLevel.Model.Journal
import GoLevel.Model.Hash
import GoLevel.Model.Bloom
import GoLevel.Model.Iter
import GoLevel.Model.IterErr
import GoLevel.Model.Conc
import GoLevel.Model.Snaps
import GoLevel.Model.ConcSnaps
import GoLevel.Model.Block
import GoLevel.Model.BlockIter
import GoLevel.Model.Table
import GoLevel.Spec.Cursor
import GoLevel.Props.C01
import GoLevel.Props.C01Seq
import GoLevel.Props.C02
import GoLevel.Props.C03
import GoLevel.Props.C04
import GoLevel.Props.C04FS
import GoLevel.Props.C05
import GoLevel.Props.C06
import GoLevel.Props.C06Score
import GoLevel.Props.C07
import GoLevel.Proofs.RefLoopLong
import GoLevel.Props.C08
import GoLevel.Props.C09
import GoLevel.Props.C10
import GoLevel.Props.C11
import GoLevel.Props.C11Dur
import GoLevel.Props.C11NS
import GoLevel.Props.C12
import GoLevel.Props.C13
import GoLevel.Props.C14
import GoLevel.Props.C15
import GoLevel.Props.C16
import GoLevel.Props.C16Select
import GoLevel.Props.C17
import GoLevel.Props.C18
import GoLevel.Props.C19
import GoLevel.Props.C19Strict
import GoLevel.Props.C20

import GoLevel.Proofs.BlockIterPrev
/-!
# `blockIter.Seek` over a well-formed block

`block.seek` finds a restart slot whose key is not above the target (or the first slot of the slice).  The first
pass of the `for i.Next()` loop is `Next` from that restart point (`next_lands`); every further pass is `Next` from
a related iterator (`rel_next`), so the loop walks the cursor forward until the key is not below the target.
-/
namespace GoLevel.C13
open GoLevel

variable {b : BlockR} {kvs : List KV} {off : Nat → Nat} {R : Nat} {rs : Nat → Nat}
variable {cmp : Bytes → Bytes → Ordering}

structure IsSlice (kvs xs : List KV) (lo hi : Nat) : Prop where
  len : xs.length = hi - lo
  get : ∀ i, i < hi - lo → xs[i]? = some (kAt kvs (lo + i), vAt kvs (lo + i))

namespace IsSlice
variable {xs : List KV} {lo hi : Nat}

theorem seek (X : IsSlice kvs xs lo hi) (key : Bytes) {i : Nat} (hi' : i ≤ hi - lo)
    (hbelow : ∀ x, x < i → cmp (kAt kvs (lo + x)) key = .lt) (hge : i < hi - lo → cmp (kAt kvs (lo + i)) key ≠ .lt) :
    Cursor.seek xs (geK cmp key) = if i < hi - lo then .at i else .eoi := by
  have hk : ∀ x, x < hi - lo → kAt xs x = kAt kvs (lo + x) := fun x hx => kAt_of_getElem? (X.get x hx)
  rw [Cursor.seek_eq, ← List.findIdx_eq_getD_findIdx?, IndexedIter.atOr, X.len, findIdx_geK (X.len ▸ hi') (fun x hx => by rw [hk x (by omega)]; exact hbelow x hx)
    fun h => by rw [hk i (X.len ▸ h)]; exact hge (X.len ▸ h)]

end IsSlice

/-- entered where the coming `Next` lands on slice entry `i` (or at the end) and all earlier entries are below the target -/
theorem seekLoop_lands (L : Layout b kvs off R rs) {lo hi q0 q1 : Nat} (S : SliceCfg kvs R rs lo hi q0 q1)
    {xs : List KV} (X : IsSlice kvs xs lo hi) (key : Bytes) :
    ∀ (fuel : Nat) (it : BIter) (i : Nat), hi - lo - i < fuel →
      (∀ x, x < i → cmp (kAt kvs (lo + x)) key = .lt) →
      Lands kvs off rs lo hi q0 q1 (BIter.next b it) (if i < hi - lo then .at i else .eoi) →
      Lands kvs off rs lo hi q0 q1 (BIter.seekLoop cmp b key fuel it) (Cursor.seek xs (geK cmp key)) := by
  intro fuel
  induction fuel with
  | zero => intro it i hf; omega
  | succ fuel ih =>
    intro it i hf hbelow hnext
    rw [BIter.seekLoop]
    generalize BIter.next b it = r at hnext
    obtain ⟨ok, it'⟩ := r
    by_cases hlt : i < hi - lo
    · rw [if_pos hlt] at hnext
      cases (hnext.ok : ok = true)
      have hkey : it'.key = kAt kvs (lo + i) := hnext.rel.at_facts.2.2.1
      simp only [hkey]
      by_cases hge : cmp (kAt kvs (lo + i)) key = .lt
      · rw [if_neg (fun h => h hge)]
        refine ih it' (i + 1) (by omega) (fun x hx => ?_) ?_
        · rcases Nat.lt_succ_iff_lt_or_eq.1 hx with h | rfl
          · exact hbelow x h
          · exact hge
        · simpa only [Cursor.next, X.len] using rel_next L S xs X.len hnext.rel
      · rw [if_pos hge, X.seek key (Nat.le_of_lt hlt) hbelow fun _ => hge, if_pos hlt]
        exact hnext
    · rw [if_neg hlt] at hnext
      cases (hnext.ok : ok = false)
      rw [X.seek key (Nat.le_refl _) (fun x hx => hbelow x (by omega)) fun h => absurd h (Nat.lt_irrefl _),
        if_neg (Nat.lt_irrefl _)]
      exact hnext

theorem seek_from (L : Layout b kvs off R rs) {lo hi q0 q1 : Nat} {xs : List KV} (X : IsSlice kvs xs lo hi) (key : Bytes)
    {it : BIter} {q : Nat} (M : Mid kvs off R rs it lo hi q0 q1) (hdir : it.dir = .forward ∨ it.dir = .backward)
    (hoff : it.offset = off (rs q)) (hri : it.restartIndex = q) (hq0 : q0 ≤ q) (hq1 : q < q1)
    (hbelow : q0 < q → ∀ x, x < rs q → cmp (kAt kvs x) key = .lt) :
    Lands kvs off rs lo hi q0 q1 (BIter.seekLoop cmp b key (b.restartsOffset + 1) it)
      (Cursor.seek xs (geK cmp key)) := by
  have S := M.slice
  have hq1R := S.q1R
  have hq0lo := S.q0lo
  have hjhi : rs q ≤ hi := by
    have := L.rs_le (p := q) (q := q1 - 1) (by omega) (by omega)
    have := S.q1hi; omega
  -- the scan starts at the restart entry, or at `lo` when that lies further on
  have hpre : ∀ x, x < max (rs q) lo - lo → cmp (kAt kvs (lo + x)) key = .lt := fun x hx =>
    hbelow (Nat.lt_of_le_of_ne hq0 fun h => by subst h; omega) (lo + x) (by omega)
  exact seekLoop_lands L S X key _ it _ (by have := L.fuel_ok S.hin; omega) hpre
    (next_lands L M hdir hoff (Or.inl ⟨q, by omega, rfl⟩) hjhi (by omega) (hri ▸ hq0) (hri ▸ hq1)
      (by rw [hri]; omega))

/-- whatever `restartIndex`, `offset`, key buffer the iterator had: `Seek` sets them -/
theorem seek_ready (L : Layout b kvs off R rs) (hc : LawfulCmp cmp) (hsorted : StrictSorted cmp kvs)
    {lo hi q0 q1 : Nat} {xs : List KV} (X : IsSlice kvs xs lo hi) (key : Bytes) {it : BIter}
    (M : Mid kvs off R rs it lo hi q0 q1) :
    Lands kvs off rs lo hi q0 q1 (BIter.seek cmp b key it) (Cursor.seek xs (geK cmp key)) := by
  obtain ⟨hcfg, S, herr, hdir, hn, hk⟩ := M
  have hnr : it.dir ≠ .released := by
    rcases hdir with h | h | h | h <;> rw [h] <;> simp
  obtain ⟨q, hq, hq0, hq1, hle⟩ := seekR_spec L hc hsorted S.q01 S.q1R key
  rw [← hcfg.riStart, ← hcfg.riLimit] at hq
  have hmax : max it.offsetStart (off (rs q)) = off (rs q) := by
    rw [hcfg.offsetStart]
    have := L.off_le (L.rs_le hq0 (by have := S.q1R; omega)) (L.rs_le_len (by have := S.q1R; omega))
    omega
  rw [seek_eq herr hnr hq]
  by_cases hse : it.dir = .soi ∨ it.dir = .eoi
  · rw [if_pos hse]
    have hnb : it.dir ≠ .backward := by rcases hse with h | h <;> rw [h] <;> simp
    exact seek_from L X key ⟨hcfg.congr rfl rfl rfl rfl rfl, S, herr, Or.inr (Or.inr (Or.inl rfl)),
      Or.inr (hn.resolve_left hnb), Or.inr (hk.resolve_left hnb)⟩ (Or.inl rfl) hmax rfl hq0 hq1 hle
  · rw [if_neg hse]
    exact seek_from L X key ⟨hcfg.congr rfl rfl rfl rfl rfl, S, herr, hdir, hn, hk⟩
      ((hdir.resolve_left fun h => hse (Or.inl h)).resolve_left fun h => hse (Or.inr h)) hmax rfl hq0 hq1 hle

end GoLevel.C13

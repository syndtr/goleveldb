import GoLevel.Proofs.DurableView
import GoLevel.Proofs.ConcView
import GoLevel.Proofs.RecoverOpsBasic
/-!
`Recover` at the level of storage operations: the semantic core of crash-atomicity during `openDB`.

While `recoverJournal` flushes journal after journal, the groups `S` of the journals are split three ways:
`S = P ++ Q ++ R` — `P` sits in tables only (its journals are gone), `Q` sits in a table *and* still in its
journal, `R` sits in journals only.  A `Recover` started on such a storage finds the table entries `T ∪ P ∪ Q` and
the journal stream `Q ++ R`; its replay skips a prefix of `Q` (sequence numbers below the largest one in the
tables) and applies the rest, so it ends with the same *set* of entries — and reads the same — as the `Recover` that
was interrupted (`rebuild_mid`).
-/
namespace GoLevel.Dur
open GoLevel GoLevel.Conc

theorem ents_le_of_fin {g : Grp} {x : Nat} (h : g.fin ≤ x) (hw : g.wf) : ∀ e ∈ g.ents, e.seq ≤ x := by
  intro e he
  obtain ⟨_, h2, h3⟩ := ents_seq_range hw he
  rw [h3]; omega

/-- of journals that ascend, the replay keeps the groups at or above the largest sequence number in the tables, and
    everything found is visible at the end of the replay -/
theorem rebuild_filter {inp : RebuildIn} (hasc : AscFrom 0 (inp.journals.flatMap (·.2)))
    (hwf : ∀ g ∈ inp.journals.flatMap (·.2), g.wf) :
    (rebuild inp).entries = inp.tables.flatMap (·.2) ++ ((inp.journals.flatMap (·.2)).filter fun g =>
      decide (maxSeqOf (inp.tables.flatMap (·.2)) ≤ g.seq)).flatMap Grp.ents ∧
    ∀ e ∈ (rebuild inp).entries, e.seq ≤ (rebuild inp).seq := by
  obtain ⟨a1, a2, a3⟩ := replayJ_filter (s := maxSeqOf (inp.tables.flatMap (·.2))) hasc
  refine ⟨by simp only [rebuild, Rebuilt.entries, a1], fun e he => ?_⟩
  have he : e ∈ _ ++ List.flatMap Grp.ents (replayJ _ _).1 := he
  rw [a1] at he
  show e.seq ≤ (replayJ _ _).2
  rcases List.mem_append.1 he with h1 | h1
  · exact Nat.le_trans (maxSeqOf_ge _ e h1) a2
  · obtain ⟨g, hg, heg⟩ := List.mem_flatMap.1 h1
    obtain ⟨hg, hle⟩ := List.mem_filter.1 hg
    exact ents_le_of_fin (a3 g hg (of_decide_eq_true hle)) (hwf g hg) e heg

theorem rebuild_of_asc {inp : RebuildIn}
    (hasc : AscFrom (maxSeqOf (inp.tables.flatMap (·.2))) (inp.journals.flatMap (·.2)))
    (hwf : ∀ g ∈ inp.journals.flatMap (·.2), g.wf) :
    (rebuild inp).entries = inp.tables.flatMap (·.2) ++ (inp.journals.flatMap (·.2)).flatMap Grp.ents ∧
    ∀ e ∈ (rebuild inp).entries, e.seq ≤ (rebuild inp).seq := by
  have h := rebuild_filter (hasc.mono (Nat.zero_le _)) hwf
  rwa [List.filter_eq_self.2 fun g hg => decide_eq_true (hasc.le_of_mem hg)] at h

theorem AscFrom.before {s : Nat} {l l' : List Grp} (h : AscFrom s (l ++ l')) {g g' : Grp} (hg : g ∈ l)
    (hg' : g' ∈ l') : g.fin ≤ g'.seq := by
  have hp := h.pairwise
  rw [List.pairwise_append] at hp
  exact hp.2.2 g hg g' hg'

/-- the input of a `Recover` that follows an interrupted `openDB`, relative to the input `inp` of the
    interrupted one -/
structure MidIn (inp inp' : RebuildIn) (P Q R : List Grp) : Prop where
  split : inp.journals.flatMap (·.2) = P ++ Q ++ R
  tabs : ∀ e, e ∈ inp'.tables.flatMap (·.2) ↔ e ∈ inp.tables.flatMap (·.2) ∨ e ∈ (P ++ Q).flatMap Grp.ents
  js : inp'.journals.flatMap (·.2) = Q ++ R

/-- **the second `Recover` reads what the first would have read** -/
theorem rebuild_mid {c : UCmp} {inp inp' : RebuildIn} {P Q R : List Grp}
    (hU : Uniq (inp.tables.flatMap (·.2) ++ (inp.journals.flatMap (·.2)).flatMap Grp.ents))
    (hasc : AscFrom (maxSeqOf (inp.tables.flatMap (·.2))) (inp.journals.flatMap (·.2)))
    (hwf : ∀ g ∈ inp.journals.flatMap (·.2), g.wf)
    (h : MidIn inp inp' P Q R) (k : Bytes) :
    (rebuild inp').get c k = (rebuild inp).get c k ∧
    (∀ e, e ∈ (rebuild inp').entries ↔ e ∈ (rebuild inp).entries) := by
  obtain ⟨hent, hvis⟩ := rebuild_of_asc hasc hwf
  rw [h.split] at hasc hwf hent
  -- `R` starts above everything the tables of the second run hold
  have hRlow : ∀ g ∈ R, maxSeqOf (inp'.tables.flatMap (·.2)) ≤ g.seq := by
    intro g hg
    refine maxSeqOf_le_iff.2 fun e he => ?_
    rcases (h.tabs e).1 he with h1 | h1
    · exact Nat.le_trans (maxSeqOf_ge _ e h1) (hasc.le_of_mem (List.mem_append_right _ hg))
    · obtain ⟨g0, hg0, heg⟩ := List.mem_flatMap.1 h1
      exact ents_le_of_fin (hasc.before hg0 hg) (hwf g0 (List.mem_append_left _ hg0)) e heg
  -- so the replay of `Q ++ R` keeps all of `R`, and of `Q` the groups at or above that number
  obtain ⟨hent', hvis'⟩ := rebuild_filter (inp := inp')
    (h.js ▸ (List.append_assoc P Q R ▸ hasc).of_append_right.mono (Nat.zero_le _))
    (h.js ▸ fun g hg => hwf g (List.append_assoc P Q R ▸ List.mem_append_right P hg))
  have hset : ∀ e, e ∈ (rebuild inp').entries ↔ e ∈ (rebuild inp).entries := by
    intro e
    rw [hent', hent, h.js, List.flatMap_append, List.mem_append, List.mem_append, List.mem_append, h.tabs e]
    constructor
    · rintro ((h1 | h1) | h1)
      · exact Or.inl h1
      · exact Or.inr (Or.inl h1)
      · obtain ⟨g, hg, he⟩ := List.mem_flatMap.1 h1
        exact Or.inr ((List.mem_append.1 (List.mem_filter.1 hg).1).imp
          (fun x => List.mem_flatMap.2 ⟨g, List.mem_append_right _ x, he⟩) fun x => List.mem_flatMap.2 ⟨g, x, he⟩)
    · rintro (h1 | h1 | h1)
      · exact Or.inl (Or.inl h1)
      · exact Or.inl (Or.inr h1)
      · obtain ⟨g, hg, he⟩ := List.mem_flatMap.1 h1
        exact Or.inr (List.mem_flatMap.2
          ⟨g, List.mem_filter.2 ⟨List.mem_append_right _ hg, decide_eq_true (hRlow g hg)⟩, he⟩)
  refine ⟨?_, hset⟩
  have hU0 : Uniq (rebuild inp).entries := by rw [hent, ← h.split]; exact hU
  unfold Rebuilt.get
  -- same set of entries at the second run's position, then move the position
  rw [Conc.view_congr (c := c) (k := k) (s := (rebuild inp').seq) hU0 (fun e he => he) (fun e _ => hset e)]
  exact view_above (fun e he => hvis' e ((hset e).2 he)) hvis k

end GoLevel.Dur

import GoLevel.Proofs.TableR
import GoLevel.Proofs.BlockIterBuild
/-! C13(d,e): `find` / `get` / `offsetOf` on a written table. -/
namespace GoLevel.C13
open GoLevel BlockWriter TableWriter

/-- `Separator` contract: for `a < b` a non-nil result `d` satisfies `a ≤ d < b` -/
def SepOK (cfg : TableCfg) : Prop :=
  ∀ a b d, cfg.cmp a b = .lt → cfg.sep a b = some d → cfg.cmp a d ≠ .gt ∧ cfg.cmp d b = .lt

/-- `Successor` contract: a non-nil result `d` satisfies `b ≤ d` -/
def SuccOK (cfg : TableCfg) : Prop := ∀ b d, cfg.succ b = some d → cfg.cmp b d ≠ .gt

/-- what the table writer needs from comparer and checksum -/
structure CfgOK (cfg : TableCfg) : Prop where
  cmp : LawfulCmp cfg.cmp
  sep : SepOK cfg
  succ : SuccOK cfg
  ck : Cksum32 cfg.cksum

theorem ixKey_ge {cfg : TableCfg} (hcfg : CfgOK cfg)
    (last next : Bytes) (hlt : next ≠ [] → cfg.cmp last next = .lt) : cfg.cmp last (ixKey cfg last next) ≠ .gt := by
  unfold ixKey
  by_cases hn : next = []
  · subst hn
    simp only [List.isEmpty_nil, if_true]
    cases h : cfg.succ last with
    | none => exact hcfg.cmp.ord.le_refl _
    | some d => exact hcfg.succ _ _ h
  · have : next.isEmpty = false := by cases next <;> simp_all
    simp only [this, Bool.false_eq_true, if_false]
    cases h : cfg.sep last next with
    | none => exact hcfg.cmp.ord.le_refl _
    | some d => exact (hcfg.sep _ _ _ (hlt hn) h).1

theorem ixKey_lt {cfg : TableCfg} (hsep : SepOK cfg) (last next : Bytes) (hn : next ≠ [])
    (hlt : cfg.cmp last next = .lt) : cfg.cmp (ixKey cfg last next) next = .lt := by
  unfold ixKey
  have : next.isEmpty = false := by cases next <;> simp_all
  simp only [this, Bool.false_eq_true, if_false]
  cases h : cfg.sep last next with
  | none => exact hlt
  | some d => exact (hsep _ _ _ hlt h).2

/-- no empty key (for an empty next key `Append` asks for the `Successor` of the block's last key, as `Close` does, and
that need not lie below the keys still to come) -/
def KeysNE (l : List KV) : Prop := ∀ kv ∈ l, kv.1 ≠ []

theorem lastKeyD_mem (c : List KV) (h : c ≠ []) : ∃ v, (lastKeyD [] c, v) ∈ c := by
  refine ⟨(c.getLast h).2, ?_⟩
  have : lastKeyD [] c = (c.getLast h).1 := by
    simp [lastKeyD, List.getLast?_eq_some_getLast h]
  rw [this]
  exact List.getLast_mem h

theorem le_lastKey {cmp : Bytes → Bytes → Ordering} (hc : LawfulCmp cmp) (c : List KV) (hs : StrictSorted cmp c)
    (kv : KV) (hm : kv ∈ c) : cmp kv.1 (lastKeyD [] c) ≠ .gt := by
  obtain ⟨l, hl⟩ := Option.isSome_iff_exists.1 (List.getLast?_isSome.2 (List.ne_nil_of_mem hm))
  have : lastKeyD [] c = l.1 := by simp [lastKeyD, hl]
  rw [this]
  exact (rel_getLast_or_eq hs hl kv hm).elim StrictOrd.le_of_lt fun h => h ▸ hc.ord.le_refl _

theorem ixKey_chunk {cfg : TableCfg} (hcfg : CfgOK cfg)
    (c R : List KV) (hne : c ≠ []) (hs : StrictSorted cfg.cmp (c ++ R)) (hk : KeysNE R) :
    (∀ kv ∈ c, cfg.cmp kv.1 (ixKey cfg (lastKeyD [] c) (firstKeyD R)) ≠ .gt) ∧
    (∀ kv ∈ R, cfg.cmp (ixKey cfg (lastKeyD [] c) (firstKeyD R)) kv.1 = .lt) := by
  have hsc := (List.pairwise_append.mp hs).1
  obtain ⟨lv, hlm⟩ := lastKeyD_mem c hne
  cases R with
  | nil =>
    refine ⟨fun kv hm => ?_, by simp⟩
    exact hcfg.cmp.ord.le_trans (le_lastKey hcfg.cmp c hsc kv hm) (ixKey_ge hcfg _ _ (fun h => absurd rfl h))
  | cons r R' =>
    obtain ⟨k, v⟩ := r
    have hkne : k ≠ [] := hk (k, v) (by simp)
    have hlt : cfg.cmp (lastKeyD [] c) k = .lt := (List.pairwise_append.mp hs).2.2 _ hlm (k, v) (by simp)
    have hfk : firstKeyD ((k, v) :: R') = k := rfl
    rw [hfk]
    refine ⟨fun kv hm => ?_, fun kv hm => ?_⟩
    · exact hcfg.cmp.ord.le_trans (le_lastKey hcfg.cmp c hsc kv hm) (ixKey_ge hcfg _ _ (fun _ => hlt))
    · have h1 := ixKey_lt hcfg.sep _ k hkne hlt
      rcases List.mem_cons.mp hm with rfl | hm'
      · exact h1
      · have hsR := (List.pairwise_append.mp hs).2.1
        have : cfg.cmp k kv.1 = .lt := (List.pairwise_cons.mp hsR).1 kv hm'
        exact hcfg.cmp.trans _ _ _ h1 this

/-- keys after the first chunk are non-empty (only the very first key of a table may be empty) -/
def TailKeysNE (cs : List (List KV)) (tl : List KV) : Prop :=
  match cs with
  | [] => True
  | _ :: rest => KeysNE (rest.flatten ++ tl)

theorem TailKeysNE.tail {c : List KV} {rest : List (List KV)} {tl : List KV} (h : TailKeysNE (c :: rest) tl) :
    TailKeysNE rest tl := by
  cases rest with
  | nil => trivial
  | cons c2 r2 =>
    intro kv hm
    exact h kv (by simp only [List.flatten_cons, List.append_assoc]; exact List.mem_append_right _ hm)

structure ChunksOK (cfg : TableCfg) (cs : List (List KV)) (tl : List KV) : Prop where
  sorted : StrictSorted cfg.cmp (cs.flatten ++ tl)
  ne : ∀ c ∈ cs, c ≠ []
  keys : TailKeysNE cs tl

theorem ChunksOK.tail {cfg : TableCfg} {c : List KV} {rest : List (List KV)} {tl : List KV}
    (h : ChunksOK cfg (c :: rest) tl) : ChunksOK cfg rest tl :=
  ⟨by have := h.sorted; simp only [List.flatten_cons, List.append_assoc] at this
      exact (List.pairwise_append.mp this).2.1,
   fun x hx => h.ne x (List.mem_cons_of_mem _ hx), h.keys.tail⟩

theorem ChunksOK.head {cfg : TableCfg} (hcfg : CfgOK cfg)
    {c : List KV} {rest : List (List KV)} {tl : List KV} (h : ChunksOK cfg (c :: rest) tl) :
    (∀ kv ∈ c, cfg.cmp kv.1 (ixKey cfg (lastKeyD [] c) (firstKeyD (rest.flatten ++ tl))) ≠ .gt) ∧
    (∀ kv ∈ rest.flatten ++ tl, cfg.cmp (ixKey cfg (lastKeyD [] c) (firstKeyD (rest.flatten ++ tl))) kv.1 = .lt) :=
  ixKey_chunk hcfg c (rest.flatten ++ tl) (h.ne c (List.mem_cons_self ..))
    (by have := h.sorted; simpa only [List.flatten_cons, List.append_assoc] using this) h.keys

theorem ixE_bounds {cfg : TableCfg} (hcfg : CfgOK cfg)
    (tl : List KV) : ∀ (cs : List (List KV)) (off : Nat), ChunksOK cfg cs tl →
    ∀ e ∈ ixE cfg off cs tl, ∃ c ∈ cs, ∀ kv ∈ c, cfg.cmp kv.1 e.1 ≠ .gt := by
  intro cs
  induction cs with
  | nil => intro off _ e he; simp [ixE] at he
  | cons c rest ih =>
    intro off h e he
    simp only [ixE, List.mem_cons] at he
    rcases he with rfl | he
    · exact ⟨c, List.mem_cons_self .., (h.head hcfg).1⟩
    · obtain ⟨c', hc', hb⟩ := ih _ h.tail e he
      exact ⟨c', List.mem_cons_of_mem _ hc', hb⟩

theorem ixE_sorted {cfg : TableCfg} (hcfg : CfgOK cfg)
    (tl : List KV) : ∀ (cs : List (List KV)) (off : Nat), ChunksOK cfg cs tl →
    StrictSorted cfg.cmp (ixE cfg off cs tl) := by
  intro cs
  induction cs with
  | nil => intro off _; exact List.Pairwise.nil
  | cons c rest ih =>
    intro off h
    simp only [ixE, StrictSorted]
    refine List.pairwise_cons.mpr ⟨fun e he => ?_, ih _ h.tail⟩
    obtain ⟨c', hc', hb⟩ := ixE_bounds hcfg tl rest _ h.tail e he
    obtain ⟨v, hlm⟩ := lastKeyD_mem c' (h.ne c' (List.mem_cons_of_mem _ hc'))
    have hmem : (lastKeyD [] c', v) ∈ rest.flatten ++ tl :=
      List.mem_append_left _ (List.mem_flatten.mpr ⟨c', hc', hlm⟩)
    exact hcfg.cmp.ord.lt_of_lt_of_le ((h.head hcfg).2 _ hmem) (hb _ hlm)

theorem ixE_sorted_shape {cfg : TableCfg} (hcfg : CfgOK cfg)
    {cs : List (List KV)} (hshape : cs = [[]] ∨ ChunksOK cfg cs []) : StrictSorted cfg.cmp (ixE cfg 0 cs []) := by
  rcases hshape with rfl | hok
  · simp [ixE, StrictSorted]
  · exact ixE_sorted hcfg [] cs 0 hok

def DownClosed (cmp : Bytes → Bytes → Ordering) (P : KV → Bool) : Prop :=
  ∀ a b : KV, cmp a.1 b.1 ≠ .gt → P b = true → P a = true

theorem lt_down {cmp : Bytes → Bytes → Ordering} (hc : LawfulCmp cmp) (key : Bytes) :
    DownClosed cmp (fun e => cmp e.1 key == .lt) := by
  intro a b hab hb
  simp only [beq_iff_eq] at hb ⊢
  exact hc.ord.lt_of_le_of_lt hab hb

theorem ChunksOK.right {cfg : TableCfg} {tl : List KV} : ∀ {csL csR : List (List KV)},
    ChunksOK cfg (csL ++ csR) tl → ChunksOK cfg csR tl := by
  intro csL
  induction csL with
  | nil => intro csR h; exact h
  | cons c rest ih => intro csR h; exact ih h.tail

theorem all_of_ix_all {cfg : TableCfg} (hcfg : CfgOK cfg)
    (P : KV → Bool) (hP : DownClosed cfg.cmp P) (tl : List KV) (csL csR : List (List KV)) (off : Nat)
    (h : ChunksOK cfg (csL ++ csR) tl) (hall : ∀ e ∈ ixE cfg off csL (csR.flatten ++ tl), P e = true) :
    ∀ kv ∈ csL.flatten, P kv = true := by
  intro kv hkv
  obtain ⟨c, hc, hkc⟩ := List.mem_flatten.1 hkv
  obtain ⟨A, B, rfl⟩ := List.append_of_mem hc
  -- the index key of the chunk that holds `kv` is not below it
  have hok : ChunksOK cfg (c :: (B ++ csR)) tl := (List.append_assoc A (c :: B) csR ▸ h).right
  have hb := (hok.head hcfg).1 kv hkc
  rw [List.flatten_append, List.append_assoc] at hb
  exact hP kv (_, BH.encode ⟨off + (dataBytes cfg A).length, (Block.build cfg.restartInterval c).length⟩) hb
    (hall _ (by rw [ixE_append]; exact List.mem_append_right _ (List.mem_cons_self ..)))

theorem none_after_head {cfg : TableCfg} (hcfg : CfgOK cfg)
    (P : KV → Bool) (hP : DownClosed cfg.cmp P) (tl : List KV) (cs : List (List KV)) (off : Nat)
    (h : ChunksOK cfg cs tl) (hhd : ∀ e, (ixE cfg off cs tl).head? = some e → P e = false) :
    ∀ c rest, cs = c :: rest → ∀ kv ∈ rest.flatten ++ tl, P kv = false := by
  intro c rest hcs kv hkv
  subst hcs
  have h1 := (h.head hcfg).2 kv hkv
  have h2 := hhd _ (by simp only [ixE, List.head?_cons]; rfl)
  cases hp : P kv with
  | false => rfl
  | true =>
    have := hP (ixKey cfg (lastKeyD [] c) (firstKeyD (rest.flatten ++ tl)),
      BH.encode ⟨off, (Block.build cfg.restartInterval c).length⟩) kv (StrictOrd.le_of_lt h1) hp
    rw [this] at h2; exact absurd h2 (by decide)

theorem ixE_split (cfg : TableCfg) (p : KV → Bool) (tl : List KV) : ∀ (cs : List (List KV)) (off : Nat),
    ∃ csL csR, cs = csL ++ csR ∧
      (ixE cfg off cs tl).takeWhile p = ixE cfg off csL (csR.flatten ++ tl) ∧
      (ixE cfg off cs tl).dropWhile p = ixE cfg (off + (dataBytes cfg csL).length) csR tl ∧
      (∀ e, (ixE cfg (off + (dataBytes cfg csL).length) csR tl).head? = some e → p e = false) := by
  intro cs
  induction cs with
  | nil => intro off; exact ⟨[], [], rfl, by simp [ixE], by simp [ixE], by simp [ixE]⟩
  | cons c rest ih =>
    intro off
    cases hp : p (ixKey cfg (lastKeyD [] c) (firstKeyD (rest.flatten ++ tl)),
        BH.encode ⟨off, (Block.build cfg.restartInterval c).length⟩) with
    | true =>
      obtain ⟨L, R, rfl, htw, hdw, hhd⟩ := ih (off + (blockBytes cfg c).length)
      refine ⟨c :: L, R, rfl, ?_, ?_, ?_⟩
      · rw [List.flatten_append, List.append_assoc] at hp
        simp only [ixE, List.takeWhile_cons, List.flatten_append, List.append_assoc, hp, if_true, htw]
      · simp only [ixE, List.dropWhile_cons, hp, if_true, hdw, dataBytes_cons, List.length_append,
          Nat.add_assoc]
      · simpa only [dataBytes_cons, List.length_append, Nat.add_assoc] using hhd
    | false =>
      refine ⟨[], c :: rest, rfl, by simp [ixE, hp], by simp [ixE, hp, dataBytes], ?_⟩
      intro e he
      simp only [dataBytes, List.map_nil, List.flatten_nil, List.length_nil, Nat.add_zero, ixE, List.head?_cons,
        Option.some.injEq] at he
      rw [← he]; exact hp

theorem all_of_takeWhile_eq {p : KV → Bool} {l l' : List KV} (h : l.takeWhile p = l') : ∀ e ∈ l', p e = true :=
  h ▸ Initial.mem_takeWhile

/-- `Find`'s answer for the first pair not below the key: the pair, or `ErrNotFound` -/
def resultOf : Option KV → Result KV
  | some kv => .ok kv
  | none => .notFound

/-- what `find` computes once the index seek has landed on the chunk suffix `csR` -/
def findTail (cmp : Bytes → Bytes → Ordering) (key : Bytes) : List (List KV) → Result KV
  | [] => .notFound
  | c :: rest =>
    match c.find? (fun e => cmp e.1 key != .lt) with
    | some kv => .ok kv
    | none =>
      match rest with
      | [] => .notFound
      | c2 :: _ => resultOf c2.head?

theorem ixE_at (cfg : TableCfg) (csL : List (List KV)) (c : List KV) (rest : List (List KV)) :
    (ixE cfg 0 (csL ++ c :: rest) [])[csL.length]? =
      some (ixKey cfg (lastKeyD [] c) (firstKeyD (rest.flatten ++ [])),
        BH.encode ⟨(dataBytes cfg csL).length, (Block.build cfg.restartInterval c).length⟩) := by
  rw [ixE_append, List.getElem?_append_right (by rw [ixE_length]; exact Nat.le_refl _), ixE_length, Nat.sub_self]
  simp [ixE]

/-- the index seek of `find` / `OffsetOf`: the cursor stands on the entry of the first chunk whose index key is not
below the target -/
theorem Reads.index_seek {cfg : TableCfg} {cs : List (List KV)} {t : TableR} (hr : Reads cfg cs t)
    (hcfg : CfgOK cfg) (hshape : cs = [[]] ∨ ChunksOK cfg cs []) (key : Bytes) :
    ∃ csL csR, cs = csL ++ csR ∧
      (ixE cfg 0 cs []).takeWhile (fun e => cfg.cmp e.1 key == .lt) = ixE cfg 0 csL (csR.flatten ++ []) ∧
      (∀ e, (ixE cfg (dataBytes cfg csL).length csR []).head? = some e → (cfg.cmp e.1 key == .lt) = false) ∧
      t.index.seekCursor t.cmp key =
        some (curAt t.index (ixE cfg 0 cs []) (offB 1 (ixE cfg 0 cs [])) csL.length) := by
  obtain ⟨csL, csR, hsplit, htw, hdw, hhd⟩ := ixE_split cfg (fun e => cfg.cmp e.1 key == .lt) [] cs 0
  rw [Nat.zero_add] at hdw hhd
  refine ⟨csL, csR, hsplit, htw, hhd, ?_⟩
  have hlen := congrArg List.length htw
  rw [List.takeWhile_eq_take_findIdx_not, List.length_take,
    Nat.min_eq_left List.findIdx_le_length, ixE_length] at hlen
  rw [hr.cmp, hr.index.seekCursor hcfg.cmp (ixE_sorted_shape hcfg hshape) key, ← hlen]
  rfl

/-- `find` from where the index seek lands; a filtered lookup goes the same way provided the filter passes the key
for the chunk landed on -/
theorem Reads.find_at {cfg : TableCfg} {cs : List (List KV)} {t : TableR} (hr : Reads cfg cs t)
    (hc : LawfulCmp cfg.cmp) (hck : Cksum32 cfg.cksum)
    (hcs : ∀ c ∈ cs, StrictSorted cfg.cmp c) (key : Bytes) (csL csR : List (List KV))
    (hsplit : cs = csL ++ csR)
    (hseek : t.index.seekCursor t.cmp key =
      some (curAt t.index (ixE cfg 0 cs []) (offB 1 (ixE cfg 0 cs [])) csL.length))
    (f : Bool) (hpass : f = true → ∀ pol fb, t.filter = some (pol, fb) → ∀ c rest, csR = c :: rest →
      fb.contains pol (dataBytes cfg csL).length key = true) :
    t.find key f = findTail cfg.cmp key csR := by
  have LI := hr.index
  unfold TableR.find
  rw [hseek]
  cases csR with
  | nil => rw [curAt_of_ge (by rw [ixE_length, hsplit, List.append_nil]; exact Nat.le_refl _)]; rfl
  | cons c rest =>
    have hcm : c ∈ cs := by rw [hsplit]; simp
    have hat := hsplit ▸ ixE_at cfg csL c rest
    have hlt : csL.length < (ixE cfg 0 cs []).length := by rw [ixE_length, hsplit]; simp
    rw [curAt_of_getElem? hat]
    simp only
    rw [hr.decode_chunk csL c rest hsplit]
    simp only
    rw [if_neg]
    rotate_left
    · -- a filter that is asked passes the key
      intro habs
      rcases Bool.eq_false_or_eq_true f with hf | hf
      · cases hfl : t.filter with
        | none => simp [hf, hfl] at habs
        | some pf => simp [hf, hfl, hpass hf pf.1 pf.2 hfl c rest rfl] at habs
      · simp [hf] at habs
    obtain ⟨b, hb, L⟩ := hr.dataBlock_chunk hck csL rest hsplit
    rw [hb]
    simp only
    rw [hr.cmp, L.seekCursor hc (hcs c hcm) key]
    have hfi : c.find? (fun e => cfg.cmp e.1 key != .lt) = c[c.findIdx (geK cfg.cmp key)]? :=
      List.find?_eq_getElem?_findIdx
    simp only [findTail, hfi]
    generalize c.findIdx (geK cfg.cmp key) = i
    cases hci : c[i]? with
    | some kv => obtain ⟨k, v⟩ := kv; rw [curAt_of_getElem? hci]
    | none =>
      rw [curAt_of_ge (List.getElem?_eq_none_iff.1 hci)]
      simp only
      rw [← kAt_of_getElem? hat, LI.step_succ hlt]
      cases rest with
      | nil => rw [curAt_of_ge (by rw [ixE_length, hsplit]; simp)]
      | cons c2 rest2 =>
        have hsplit2 : cs = (csL ++ [c]) ++ c2 :: rest2 := by rw [hsplit]; simp
        have hat2 := hsplit2 ▸ ixE_at cfg (csL ++ [c]) c2 rest2
        have hdec2 := hr.decode_chunk (csL ++ [c]) c2 rest2 hsplit2
        obtain ⟨b2, hd2, L2⟩ := hr.dataBlock_chunk hck (csL ++ [c]) rest2 hsplit2
        rw [List.length_append, List.length_singleton] at hat2
        rw [curAt_of_getElem? hat2]
        simp only
        rw [hdec2]
        simp only
        rw [hd2]
        simp only
        rw [L2.step_first]
        cases c2 with
        | nil => rfl
        | cons kv t2 => rfl

theorem find?_none_of_all_lt {cmp : Bytes → Bytes → Ordering} (key : Bytes) (l : List KV)
    (h : ∀ kv ∈ l, cmp kv.1 key = .lt) : l.find? (fun e => cmp e.1 key != .lt) = none := by
  rw [List.find?_eq_none]
  intro kv hm
  simp [h kv hm]

theorem findTail_spec {cfg : TableCfg} (hcfg : CfgOK cfg)
    (key : Bytes) (csL csR : List (List KV)) (hok : ChunksOK cfg (csL ++ csR) [])
    (hall : ∀ e ∈ ixE cfg 0 csL (csR.flatten ++ []), (cfg.cmp e.1 key == .lt) = true)
    (hhd : ∀ e, (ixE cfg (dataBytes cfg csL).length csR []).head? = some e → (cfg.cmp e.1 key == .lt) = false) :
    findTail cfg.cmp key csR = resultOf ((csL ++ csR).flatten.find? fun e => cfg.cmp e.1 key != .lt) := by
  have hbelow := all_of_ix_all hcfg _ (lt_down hcfg.cmp key) [] csL csR 0 hok hall
  rw [List.flatten_append, List.find?_append, find?_none_of_all_lt key _ (fun kv h => beq_iff_eq.mp (hbelow kv h)),
    Option.none_or]
  have hokR := hok.right
  cases csR with
  | nil => rfl
  | cons c rest =>
    simp only [findTail, List.flatten_cons, List.find?_append]
    cases hfc : c.find? (fun e => cfg.cmp e.1 key != .lt) with
    | some kv => rfl
    | none =>
      simp only [Option.none_or]
      cases rest with
      | nil => rfl
      | cons c2 rest2 =>
        have hne2 : c2 ≠ [] := hokR.ne c2 (by simp)
        cases c2 with
        | nil => exact absurd rfl hne2
        | cons kv t2 =>
          have := none_after_head hcfg _ (lt_down hcfg.cmp key) [] _ _ hokR hhd c _ rfl kv (by simp)
          simp [resultOf, bne, this]

theorem sorted_chunk {cmp : Bytes → Bytes → Ordering} (cs : List (List KV)) (hs : StrictSorted cmp cs.flatten)
    (c : List KV) (hm : c ∈ cs) : StrictSorted cmp c := by
  obtain ⟨A, B, rfl⟩ := List.append_of_mem hm
  simp only [List.flatten_append, List.flatten_cons] at hs
  exact (List.pairwise_append.mp (List.pairwise_append.mp hs).2.1).1

/-- C13(d) for any reader over the data blocks and the index block of a written table -/
theorem Reads.find {cfg : TableCfg} {cs : List (List KV)} {t : TableR} (hr : Reads cfg cs t)
    (hcfg : CfgOK cfg)
    (hshape : cs = [[]] ∨ ChunksOK cfg cs []) (key : Bytes) :
    t.find key false = resultOf (cs.flatten.find? fun e => cfg.cmp e.1 key != .lt) := by
  have hsorted : StrictSorted cfg.cmp cs.flatten := by
    rcases hshape with rfl | hok
    · exact List.Pairwise.nil
    · simpa using hok.sorted
  obtain ⟨csL, csR, hsplit, htw, hhd, hseek⟩ := hr.index_seek hcfg hshape key
  rw [hr.find_at hcfg.cmp hcfg.ck (sorted_chunk cs hsorted) key csL csR hsplit hseek false nofun]
  rcases hshape with rfl | hok
  · -- the empty table: `csR` is `[]` or `[[]]`
    have : csR = [] ∨ csR = [[]] := by
      cases csL with
      | nil => exact Or.inr hsplit.symm
      | cons a l =>
        have := congrArg List.length hsplit
        cases csR with
        | nil => exact Or.inl rfl
        | cons x y => simp at this
    rcases this with rfl | rfl <;> rfl
  · rw [hsplit]
    exact findTail_spec hcfg key csL csR (hsplit ▸ hok) (all_of_takeWhile_eq htw) hhd

theorem dataBytes_take_mono (cfg : TableCfg) (cs : List (List KV)) (n m : Nat) (h : n ≤ m) :
    (dataBytes cfg (cs.take n)).length ≤ (dataBytes cfg (cs.take m)).length := by
  rw [← List.take_append_drop n (cs.take m), List.take_take, Nat.min_eq_left h, dataBytes_append, List.length_append]
  exact Nat.le_add_right ..

theorem takeWhile_length_mono {α : Type} (p q : α → Bool) (hpq : ∀ x, p x = true → q x = true) :
    ∀ l : List α, (l.takeWhile p).length ≤ (l.takeWhile q).length := by
  intro l
  induction l with
  | nil => simp
  | cons a t ih =>
    cases hp : p a with
    | true => simp [hp, hpq a hp]; exact ih
    | false => simp [hp]

/-- the block offset `OffsetOf` reports: the start of the first chunk whose index key is not below the key
(the end of the data blocks when there is none) -/
def offsetSpec (cfg : TableCfg) (cs : List (List KV)) (key : Bytes) : Nat :=
  (dataBytes cfg (cs.take ((ixE cfg 0 cs []).takeWhile fun e => cfg.cmp e.1 key == .lt).length)).length

theorem Reads.offsetOf {cfg : TableCfg} {cs : List (List KV)} {t : TableR} (hr : Reads cfg cs t)
    (hcfg : CfgOK cfg) (hshape : cs = [[]] ∨ ChunksOK cfg cs [])
    (hde : t.dataEnd = (dataBytes cfg cs).length) (key : Bytes) :
    t.offsetOf key = .ok (offsetSpec cfg cs key) := by
  obtain ⟨csL, csR, hsplit, htw, _, hseek⟩ := hr.index_seek hcfg hshape key
  have hoff : offsetSpec cfg cs key = (dataBytes cfg csL).length := by
    unfold offsetSpec
    rw [htw, ixE_length, hsplit, List.take_left' rfl]
  unfold TableR.offsetOf
  rw [hseek, hoff]
  cases csR with
  | nil => rw [curAt_of_ge (by rw [ixE_length, hsplit, List.append_nil]; exact Nat.le_refl _), hde, hsplit,
      List.append_nil]
  | cons c rest =>
    rw [curAt_of_getElem? (hsplit ▸ ixE_at cfg csL c rest)]
    simp only
    rw [hr.decode_chunk csL c rest hsplit]

/-- C13(e) on the shape level: the reported offset never decreases as the key grows -/
theorem offsetSpec_mono {cfg : TableCfg} (hc : LawfulCmp cfg.cmp) (cs : List (List KV)) (k1 k2 : Bytes)
    (hle : cfg.cmp k1 k2 ≠ .gt) : offsetSpec cfg cs k1 ≤ offsetSpec cfg cs k2 := by
  unfold offsetSpec
  apply dataBytes_take_mono
  apply takeWhile_length_mono
  intro e he
  have h1 : cfg.cmp e.1 k1 = .lt := by
    cases h : cfg.cmp e.1 k1 <;> simp [h] at he ⊢
  simp [hc.ord.lt_of_lt_of_le h1 hle]

end GoLevel.C13

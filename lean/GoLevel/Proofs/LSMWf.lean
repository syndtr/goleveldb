import GoLevel.Proofs.LSMCompact
/-!
# Well-formedness of versions under edits (`Version.apply`)

`Version.apply` level by level (`apply_lvl`), and `EditOK`, a sufficient condition for an edit to keep a version
well formed (`apply_wf`).
-/
namespace GoLevel

def Version.lvl (v : Version) (i : Nat) : Level := v.levels[i]?.getD []

/-- Prop form of `Version.wfB`, by level index -/
structure Version.WFi (c : UCmp) (v : Version) : Prop where
  tables : ∀ i, ∀ t ∈ v.lvl i, t.wfB c = true
  disjoint : ∀ i, 1 ≤ i → (v.lvl i).Pairwise (tlt c)
  ordered : ∀ i j, i < j → NewerThan (Level.entries (v.lvl i)) (Level.entries (v.lvl j))

theorem Version.lvl_getElem (v : Version) {i : Nat} (hi : i < v.levels.length) : v.lvl i = v.levels[i] := by
  rw [Version.lvl, List.getElem?_eq_getElem hi]; rfl

theorem Version.lvl_beyond (v : Version) {i : Nat} (hi : v.levels.length ≤ i) : v.lvl i = [] := by
  rw [Version.lvl, List.getElem?_eq_none hi]; rfl

theorem Version.lvl_mem_or_nil (v : Version) (i : Nat) : v.lvl i ∈ v.levels ∨ v.lvl i = [] :=
  (Nat.lt_or_ge i v.levels.length).imp (fun h => v.lvl_getElem h ▸ List.getElem_mem h) v.lvl_beyond

theorem Version.mem_flatMap_lvl (v : Version) {β : Type} {g : Level → List β} (h0 : g [] = []) {x : β} :
    x ∈ v.levels.flatMap g ↔ ∃ i, x ∈ g (v.lvl i) := by
  rw [List.mem_flatMap]
  constructor
  · rintro ⟨l, hl, hx⟩
    obtain ⟨i, hi⟩ := List.mem_iff_getElem?.1 hl
    exact ⟨i, by rw [Version.lvl, hi]; exact hx⟩
  · rintro ⟨i, hx⟩
    rcases v.lvl_mem_or_nil i with h | h
    · exact ⟨_, h, hx⟩
    · rw [h, h0] at hx; cases hx

theorem Version.mem_entries {v : Version} {x : Entry} :
    x ∈ v.entries ↔ ∃ i, x ∈ Level.entries (v.lvl i) := v.mem_flatMap_lvl rfl

theorem Level.mem_entries {l : Level} {x : Entry} : x ∈ Level.entries l ↔ ∃ t ∈ l, x ∈ t.entries := by
  simp [Level.entries, List.mem_flatMap]

theorem Level.entries_mono {l l' : Level} (h : ∀ t ∈ l, t ∈ l') : ∀ x ∈ Level.entries l, x ∈ Level.entries l' := by
  intro x hx
  obtain ⟨t, ht, hxt⟩ := Level.mem_entries.1 hx
  exact Level.mem_entries.2 ⟨t, h t ht, hxt⟩

theorem Version.forall_lvl (v : Version) {Q : Level → Prop} (h0 : Q []) (n : Nat) :
    (∀ l ∈ v.levels.drop n, Q l) ↔ ∀ i, n ≤ i → Q (v.lvl i) := by
  constructor
  · intro h i hi
    unfold Version.lvl
    cases hv : v.levels[i]? with
    | none => exact h0
    | some l =>
      refine h l (List.mem_iff_getElem?.2 ⟨i - n, ?_⟩)
      rw [List.getElem?_drop, Nat.add_sub_cancel' hi]; exact hv
  · intro h l hl
    obtain ⟨j, hj⟩ := List.mem_iff_getElem?.1 hl
    rw [List.getElem?_drop] at hj
    have := h (n + j) (Nat.le_add_right _ _)
    rwa [Version.lvl, hj] at this

theorem Version.pairwise_lvl (v : Version) {R : Level → Level → Prop} (h0 : ∀ l, R l []) :
    v.levels.Pairwise R ↔ ∀ i j, i < j → R (v.lvl i) (v.lvl j) := by
  rw [List.pairwise_iff_getElem]
  constructor
  · intro h i j hij
    by_cases hj : j < v.levels.length
    · rw [v.lvl_getElem (Nat.lt_trans hij hj), v.lvl_getElem hj]; exact h i j (Nat.lt_trans hij hj) hj hij
    · rw [v.lvl_beyond (Nat.le_of_not_lt hj)]; exact h0 _
  · intro h i j hi hj hij
    rw [← v.lvl_getElem hi, ← v.lvl_getElem hj]; exact h i j hij

theorem Version.ordered_lvl (v : Version) :
    (v.levels.map Level.entries).Pairwise NewerThan ↔
      ∀ i j, i < j → NewerThan (Level.entries (v.lvl i)) (Level.entries (v.lvl j)) := by
  rw [List.pairwise_map]; exact v.pairwise_lvl fun _ => NewerThan.nil_right _

section wfi
variable {c : UCmp} (hl : LawfulUCmp c)
include hl

theorem Version.wfB_iff_WFi (v : Version) : v.wfB c = true ↔ v.WFi c := by
  have hT := v.forall_lvl (Q := fun l => ∀ t ∈ l, t.wfB c = true) (fun _ h => nomatch h) 0
  have hD := v.forall_lvl (Q := fun l => levelDisjointB c l = true) rfl 1
  have hdis : ∀ l : Level, (∀ t ∈ l, t.wfB c = true) → (levelDisjointB c l = true ↔ l.Pairwise (tlt c)) :=
    fun l hwf => levelDisjoint_pairwise hl l (fun t ht => Table.wf_imin_le_imax hl (hwf t ht))
  constructor
  · intro h
    obtain ⟨h1, h2, h3⟩ := Version.wfB_parts h
    have htab := fun i => hT.1 h1 i (Nat.zero_le i)
    exact ⟨htab, fun i hi => (hdis _ (htab i)).1 (hD.1 h2 i hi),
      v.ordered_lvl.1 ((levelsOrdered_pairwise hl v.levels).1 h3)⟩
  · intro h
    simp only [Version.wfB, Bool.and_eq_true, List.all_eq_true]
    exact ⟨⟨hT.2 fun i _ => h.tables i, hD.2 fun i hi => (hdis _ (h.tables i)).2 (h.disjoint i hi)⟩,
      (levelsOrdered_pairwise hl v.levels).2 (v.ordered_lvl.2 h.ordered)⟩

end wfi

/-- the first `mapIdx` of `Version.apply` -/
def Edit.delAt (e : Edit) (i : Nat) (l : Level) : Level :=
  l.filter fun t => !(e.deleted.any fun (lv, n) => lv = i && n = t.num)

/-- the second `mapIdx` of `Version.apply` -/
def Edit.addAt (c : UCmp) (e : Edit) (i : Nat) (l : Level) : Level :=
  (e.added.filter (·.1 = i)).foldl (fun acc (_, t) =>
    if i = 0 then insertByNumDesc t acc else insertByKey c t acc) l

def Version.survivors (v : Version) (e : Edit) (i : Nat) : Level := e.delAt i (v.lvl i)

def Version.newLevel (c : UCmp) (v : Version) (e : Edit) (i : Nat) : Level :=
  e.addAt c i (v.survivors e i)

theorem Version.apply_levels (c : UCmp) (v : Version) (e : Edit) :
    (v.apply c e).levels = trimLevels
      (((padLevels v.levels ((e.added.map (·.1)).foldl max 0 + 1)).mapIdx (fun i l => e.delAt i l)).mapIdx
        (fun i l => e.addAt c i l)) := rfl

theorem padLevels_length (ls : List Level) (n : Nat) : (padLevels ls n).length = max ls.length n := by
  rw [padLevels, List.length_append, List.length_replicate, Nat.add_comm, Nat.sub_add_eq_max, Nat.max_comm]

theorem padLevels_getElem?_lt (ls : List Level) (n i : Nat) (h : i < max ls.length n) :
    (padLevels ls n)[i]? = some (ls[i]?.getD []) := by
  unfold padLevels
  rw [List.getElem?_append]
  split
  · rename_i hlt
    rw [List.getElem?_eq_getElem hlt]; rfl
  · rename_i hge
    have hge := Nat.le_of_not_lt hge
    have hn : i < n := Nat.lt_of_not_le fun hn => Nat.not_le_of_lt h (Nat.max_le.2 ⟨hge, hn⟩)
    rw [List.getElem?_replicate, if_pos (Nat.sub_lt_sub_right hge hn), List.getElem?_eq_none hge]; rfl

theorem foldl_max_ge (l : List Nat) (a : Nat) : a ≤ l.foldl max a ∧ ∀ x ∈ l, x ≤ l.foldl max a := by
  induction l generalizing a with
  | nil => exact ⟨Nat.le_refl _, nofun⟩
  | cons y ys ih =>
    obtain ⟨h1, h2⟩ := ih (max a y)
    refine ⟨Nat.le_trans (Nat.le_max_left a y) h1, fun x hx => ?_⟩
    rcases List.mem_cons.1 hx with rfl | hx
    · exact Nat.le_trans (Nat.le_max_right a x) h1
    · exact h2 x hx

/-- trimming removes only empty levels at the end -/
theorem trimLevels_getD (ls : List Level) (i : Nat) : (trimLevels ls)[i]?.getD [] = ls[i]?.getD [] := by
  have hsplit : ls = trimLevels ls ++ (ls.reverse.takeWhile (·.isEmpty)).reverse := by
    unfold trimLevels
    rw [← List.reverse_append, List.takeWhile_append_dropWhile, List.reverse_reverse]
  conv => rhs; rw [hsplit]
  rw [List.getElem?_append]
  split
  · rfl
  · rename_i h
    rw [List.getElem?_eq_none (Nat.le_of_not_lt h)]
    cases ht : (ls.reverse.takeWhile (·.isEmpty)).reverse[i - (trimLevels ls).length]? with
    | none => rfl
    | some l =>
      exact (List.isEmpty_iff.1
        (List.all_eq_true.1 List.all_takeWhile l (List.mem_reverse.1 (List.mem_of_getElem? ht)))).symm

/-- trimming changes no level; inside the padded list the level is the new level; beyond it nothing was
there and nothing is added, the padding reaching past every level the edit adds to -/
theorem Version.apply_lvl (c : UCmp) (v : Version) (e : Edit) (i : Nat) :
    (v.apply c e).lvl i = v.newLevel c e i := by
  rw [Version.lvl, Version.apply_levels, trimLevels_getD, List.getElem?_mapIdx, List.getElem?_mapIdx]
  by_cases h : i < max v.levels.length ((e.added.map (·.1)).foldl max 0 + 1)
  · rw [padLevels_getElem?_lt _ _ _ h]; rfl
  · have hle := Nat.le_of_not_lt h
    have h1 := v.lvl_beyond (Nat.le_trans (Nat.le_max_left _ _) hle)
    have h2 : e.added.filter (·.1 = i) = [] := List.filter_eq_nil_iff.2 fun p hp hpi =>
      Nat.ne_of_lt (Nat.lt_of_lt_of_le
        (Nat.lt_succ_of_le ((foldl_max_ge _ 0).2 p.1 (List.mem_map.2 ⟨p, hp, rfl⟩)))
        (Nat.le_trans (Nat.le_max_right _ _) hle)) (of_decide_eq_true hpi)
    rw [List.getElem?_eq_none (by rw [padLevels_length]; exact hle), Version.newLevel, Version.survivors, h1,
      Edit.addAt, h2]; rfl

theorem insertByKey_perm (c : UCmp) (t : Table) (l : Level) : (insertByKey c t l).Perm (t :: l) := by
  induction l with
  | nil => exact List.Perm.refl _
  | cons x xs ih =>
    simp only [insertByKey]
    split
    · exact List.Perm.refl _
    · split
      · exact List.Perm.refl _
      · exact (List.Perm.cons x ih).trans (List.Perm.swap t x xs)
    · exact (List.Perm.cons x ih).trans (List.Perm.swap t x xs)

theorem insertByNumDesc_perm (t : Table) (l : Level) : (insertByNumDesc t l).Perm (t :: l) := by
  induction l with
  | nil => exact List.Perm.refl _
  | cons x xs ih =>
    simp only [insertByNumDesc]
    split
    · exact List.Perm.refl _
    · exact (List.Perm.cons x ih).trans (List.Perm.swap t x xs)

theorem foldl_insertTable_perm (c : UCmp) (i : Nat) (ps : List (Nat × Table)) (l : Level) :
    (ps.foldl (fun acc (p : Nat × Table) =>
      if i = 0 then insertByNumDesc p.2 acc else insertByKey c p.2 acc) l).Perm (l ++ ps.map (·.2)) := by
  induction ps generalizing l with
  | nil => simp
  | cons p ps ih =>
    rw [List.foldl_cons]
    refine (ih _).trans ?_
    rw [List.map_cons]
    have h1 : (if i = 0 then insertByNumDesc p.2 l else insertByKey c p.2 l).Perm (p.2 :: l) := by
      split
      · exact insertByNumDesc_perm _ _
      · exact insertByKey_perm _ _ _
    refine (List.Perm.append_right _ h1).trans ?_
    exact (List.perm_middle (l₁ := l) (a := p.2) (l₂ := ps.map (·.2))).symm

theorem mem_insertByKey (c : UCmp) (t x : Table) (l : Level) : x ∈ insertByKey c t l ↔ x = t ∨ x ∈ l := by
  rw [(insertByKey_perm c t l).mem_iff, List.mem_cons]

theorem mem_insertByNumDesc (t x : Table) (l : Level) : x ∈ insertByNumDesc t l ↔ x = t ∨ x ∈ l := by
  rw [(insertByNumDesc_perm t l).mem_iff, List.mem_cons]

theorem Edit.mem_addAt (c : UCmp) (e : Edit) (i : Nat) (l : Level) (x : Table) :
    x ∈ e.addAt c i l ↔ x ∈ l ∨ (i, x) ∈ e.added := by
  unfold Edit.addAt
  rw [(foldl_insertTable_perm c i _ l).mem_iff, List.mem_append, List.mem_map]
  refine or_congr_right ⟨?_, fun h => ⟨(i, x), List.mem_filter.2 ⟨h, by simp⟩, rfl⟩⟩
  rintro ⟨⟨j, y⟩, hp, rfl⟩
  obtain ⟨h1, h2⟩ := List.mem_filter.1 hp
  obtain rfl : j = i := by simpa using h2
  exact h1

theorem Edit.mem_delAt (e : Edit) (i : Nat) (l : Level) (x : Table) :
    x ∈ e.delAt i l ↔ x ∈ l ∧ (i, x.num) ∉ e.deleted := by
  unfold Edit.delAt
  rw [List.mem_filter]
  apply and_congr_right
  intro _
  simp only [Bool.not_eq_true', List.any_eq_false, Bool.and_eq_true, decide_eq_true_eq, not_and]
  exact ⟨fun h hmem => h (i, x.num) hmem rfl rfl, fun h ⟨_, _⟩ hmem h1 h2 => h (h1 ▸ h2 ▸ hmem)⟩

theorem Version.mem_survivors (v : Version) (e : Edit) (i : Nat) (x : Table) :
    x ∈ v.survivors e i ↔ x ∈ v.lvl i ∧ (i, x.num) ∉ e.deleted := Edit.mem_delAt e i _ x

theorem Version.survivors_sub (v : Version) (e : Edit) (i : Nat) : ∀ x ∈ v.survivors e i, x ∈ v.lvl i :=
  fun x hx => ((v.mem_survivors e i x).1 hx).1

theorem Version.mem_newLevel (c : UCmp) (v : Version) (e : Edit) (i : Nat) (x : Table) :
    x ∈ v.newLevel c e i ↔ x ∈ v.survivors e i ∨ (i, x) ∈ e.added := Edit.mem_addAt c e i _ x

section insert
variable {c : UCmp} (hl : LawfulUCmp c)
include hl

theorem tlt_of_icmp {t x : Table} (ht : c.le t.imin.ukey t.imax.ukey) (hx : c.le x.imin.ukey x.imax.ukey)
    (h : tlt c t x ∨ tlt c x t) :
    match icmp c t.imin x.imin with
    | .lt => tlt c t x
    | .eq => False
    | .gt => tlt c x t := by
  rcases h with h | h
  · rw [(icmp_order hl _ _).2 (.inl (hl.ord.lt_of_le_of_lt ht h))]; exact h
  · rw [(icmp_gt_iff hl _ _).2 ((icmp_order hl _ _).2 (.inl (hl.ord.lt_of_le_of_lt hx h)))]; exact h

theorem insertByKey_pairwise (t : Table) (l : Level) (hp : l.Pairwise (tlt c))
    (ht : c.le t.imin.ukey t.imax.ukey) (hle : ∀ x ∈ l, c.le x.imin.ukey x.imax.ukey)
    (hcmp : ∀ x ∈ l, tlt c t x ∨ tlt c x t) : (insertByKey c t l).Pairwise (tlt c) := by
  induction l with
  | nil => simp [insertByKey]
  | cons x xs ih =>
    obtain ⟨hx, hxs⟩ := List.pairwise_cons.1 hp
    have hxle := hle x (.head _)
    have key := tlt_of_icmp hl ht hxle (hcmp x (.head _))
    simp only [insertByKey]
    split <;> rename_i hc <;> rw [hc] at key
    · refine List.pairwise_cons.2 ⟨?_, hp⟩
      intro y hy
      rcases List.mem_cons.1 hy with rfl | hy
      · exact key
      · exact hl.trans _ _ _ key (hl.ord.lt_of_le_of_lt hxle (hx y hy))
    · exact key.elim
    · refine List.pairwise_cons.2 ⟨?_, ih hxs (fun y hy => hle y (List.mem_cons_of_mem _ hy))
        (fun y hy => hcmp y (List.mem_cons_of_mem _ hy))⟩
      intro y hy
      rcases (mem_insertByKey c t y xs).1 hy with rfl | hy
      · exact key
      · exact hx y hy

theorem foldl_insertByKey_pairwise (ps : List (Nat × Table)) (l : Level)
    (hp : l.Pairwise (tlt c)) (hle : ∀ x ∈ l, c.le x.imin.ukey x.imax.ukey)
    (hple : ∀ p ∈ ps, c.le p.2.imin.ukey p.2.imax.ukey)
    (hcmp : ∀ p ∈ ps, ∀ x ∈ l, tlt c p.2 x ∨ tlt c x p.2)
    (hpp : ps.Pairwise (fun p q => tlt c p.2 q.2 ∨ tlt c q.2 p.2)) :
    (ps.foldl (fun acc (p : Nat × Table) => insertByKey c p.2 acc) l).Pairwise (tlt c) := by
  induction ps generalizing l with
  | nil => exact hp
  | cons p ps ih =>
    obtain ⟨hp1, hp2⟩ := List.pairwise_cons.1 hpp
    rw [List.foldl_cons]
    apply ih
    · exact insertByKey_pairwise hl p.2 l hp (hple p (.head _)) hle (hcmp p (.head _))
    · intro x hx
      rcases (mem_insertByKey c p.2 x l).1 hx with rfl | hx
      · exact hple p (.head _)
      · exact hle x hx
    · exact fun q hq => hple q (List.mem_cons_of_mem _ hq)
    · intro q hq x hx
      rcases (mem_insertByKey c p.2 x l).1 hx with rfl | hx
      · exact (hp1 q hq).symm
      · exact hcmp q (List.mem_cons_of_mem _ hq) x hx
    · exact hp2

end insert

structure EditOK (c : UCmp) (v : Version) (e : Edit) : Prop where
  added_wf : ∀ p ∈ e.added, p.2.wfB c = true
  disj : ∀ p ∈ e.added, 1 ≤ p.1 → ∀ x ∈ v.survivors e p.1, tlt c p.2 x ∨ tlt c x p.2
  disj_added : e.added.Pairwise (fun p q => p.1 = q.1 → 1 ≤ p.1 → tlt c p.2 q.2 ∨ tlt c q.2 p.2)
  ord_below : ∀ p ∈ e.added, ∀ j, p.1 < j → NewerThan p.2.entries (Level.entries (v.survivors e j))
  ord_above : ∀ p ∈ e.added, ∀ i, i < p.1 → NewerThan (Level.entries (v.survivors e i)) p.2.entries
  ord_added : ∀ p ∈ e.added, ∀ q ∈ e.added, p.1 < q.1 → NewerThan p.2.entries q.2.entries

theorem apply_wf {c : UCmp} (hl : LawfulUCmp c) (v : Version) (e : Edit) (hv : v.wfB c = true)
    (he : EditOK c v e) : (v.apply c e).wfB c = true := by
  have hw := (Version.wfB_iff_WFi hl v).1 hv
  rw [Version.wfB_iff_WFi hl]
  have hsurv := v.survivors_sub e
  refine ⟨?_, ?_, ?_⟩
  · intro i t ht
    rw [Version.apply_lvl, Version.mem_newLevel] at ht
    rcases ht with ht | ht
    · exact hw.tables i t (hsurv i t ht)
    · exact he.added_wf _ ht
  · intro i hi
    have hat : ∀ p ∈ e.added.filter (·.1 = i), p ∈ e.added ∧ p.1 = i := fun p hp =>
      ⟨(List.mem_filter.1 hp).1, of_decide_eq_true (List.mem_filter.1 hp).2⟩
    rw [Version.apply_lvl]
    unfold Version.newLevel Edit.addAt
    simp only [if_neg (Nat.ne_of_gt hi)]
    apply foldl_insertByKey_pairwise hl _ _ ((hw.disjoint i hi).filter _)
    · exact fun x hx => Table.wf_imin_le_imax hl (hw.tables i x (hsurv i x hx))
    · exact fun p hp => Table.wf_imin_le_imax hl (he.added_wf p (hat p hp).1)
    · intro p hp x hx
      obtain ⟨hp1, rfl⟩ := hat p hp
      exact he.disj p hp1 hi x hx
    · refine List.Pairwise.imp_of_mem ?_ (he.disj_added.filter _)
      intro p q hp hq h
      obtain ⟨-, rfl⟩ := hat p hp
      exact h (hat q hq).2.symm hi
  · intro i j hij a ha b hb hk
    rw [Version.apply_lvl, Level.mem_entries] at ha hb
    obtain ⟨ta, hta, hata⟩ := ha
    obtain ⟨tb, htb, hbtb⟩ := hb
    rw [Version.mem_newLevel] at hta htb
    rcases hta with hta | hta <;> rcases htb with htb | htb
    · exact hw.ordered i j hij a (Level.mem_entries.2 ⟨ta, hsurv i ta hta, hata⟩) b
        (Level.mem_entries.2 ⟨tb, hsurv j tb htb, hbtb⟩) hk
    · exact he.ord_above (j, tb) htb i hij a (Level.mem_entries.2 ⟨ta, hta, hata⟩) b hbtb hk
    · exact he.ord_below (i, ta) hta j hij a hata b (Level.mem_entries.2 ⟨tb, htb, hbtb⟩) hk
    · exact he.ord_added (i, ta) hta (j, tb) htb hij a hata b hbtb hk

end GoLevel

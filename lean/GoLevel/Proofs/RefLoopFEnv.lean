import GoLevel.Proofs.RefLoopBasic
/-! The FULL environment of the reference loop (C07): version ids with holes (ids of failed commits, which
`session.commit` abandons), trivial-move deltas (a table both added and deleted), the empty delta of
`session.recover` (the loop's view `L` of a version may be smaller than the version's tables `T`), and the
shutdown sequence of `session.close` (a closing version that is referenced, the current version released
without a delta).  Everything is a ghost history: only appended to.
Then its well-formedness (`EnvF.WF`), the messages it may send (`EnvStepF`), and that they keep it well-formed. -/
namespace GoLevel.RefLoop

inductive Slot
  /-- the id of a version spawned by a `session.commit` that failed (`s.abandon <- nv.id`) -/
  | failed
  /-- an installed version: `T` = its tables (what `version.incref` sends), `L` = the loop's view of it
  (the sum of the deltas up to it), `din` = the delta that `session.setVersion` sends when installing it
  (filed under the id of its predecessor) -/
  | inst (T L : List Nat) (din : Delta)
  deriving Repr

def Slot.isInst : Slot → Bool
  | .inst .. => true
  | .failed => false
def Slot.T : Slot → List Nat
  | .inst T _ _ => T
  | .failed => []
def Slot.L : Slot → List Nat
  | .inst _ L _ => L
  | .failed => []
def Slot.din : Slot → Delta
  | .inst _ _ d => d
  | .failed => ⟨[], []⟩

structure EnvF where
  vs : List Slot
  /-- id of the oldest installed version whose delta has not been sent (= the current version, except inside
  `setVersion` between `v.incref()` and the send on `deltaCh`) -/
  dn : Nat
  rel : List Nat
  /-- `session.close` has installed its closing version -/
  closing : Bool
  deriving Repr

def EnvF.init : EnvF := { vs := [], dn := 0, rel := [], closing := false }
def EnvF.N (G : EnvF) : Nat := G.vs.length
def EnvF.slot (G : EnvF) (k : Nat) : Slot := G.vs[k]?.getD .failed
def EnvF.inst (G : EnvF) (k : Nat) : Prop := (G.slot k).isInst = true
def EnvF.T (G : EnvF) (k : Nat) : List Nat := (G.slot k).T
def EnvF.L (G : EnvF) (k : Nat) : List Nat := (G.slot k).L
def EnvF.din (G : EnvF) (k : Nat) : Delta := (G.slot k).din
/-- the first installed id `≥ k` (`N` or more when there is none) -/
def EnvF.up (G : EnvF) (k : Nat) : Nat := k + (G.vs.drop k).findIdx Slot.isInst

instance (G : EnvF) (k : Nat) : Decidable (G.inst k) := by unfold EnvF.inst; infer_instance

theorem EnvF.inst_lt {G : EnvF} {k : Nat} (h : G.inst k) : k < G.N := by
  unfold EnvF.inst EnvF.slot at h
  rcases Nat.lt_or_ge k G.N with h1 | h1
  · exact h1
  · rw [List.getElem?_eq_none h1] at h; simp [Slot.isInst] at h

theorem EnvF.slot_ge {G : EnvF} {k : Nat} (h : G.N ≤ k) : G.slot k = .failed := by
  unfold EnvF.slot; rw [List.getElem?_eq_none h]; rfl

theorem EnvF.T_not_inst {G : EnvF} {k : Nat} (h : ¬ G.inst k) : G.T k = [] := by
  unfold EnvF.inst at h; unfold EnvF.T
  cases hs : G.slot k <;> simp_all [Slot.isInst, Slot.T]

theorem EnvF.up_ge_self (G : EnvF) (k : Nat) : k ≤ G.up k := Nat.le_add_right _ _

theorem EnvF.up_of_ge {G : EnvF} {k : Nat} (h : G.N ≤ k) : G.up k = k := by
  unfold EnvF.up; rw [List.drop_eq_nil_of_le h]; rfl

theorem EnvF.up_le (G : EnvF) {k : Nat} (h : k ≤ G.N) : G.up k ≤ G.N := by
  unfold EnvF.up
  have := List.findIdx_le_length (p := Slot.isInst) (xs := G.vs.drop k)
  simp only [List.length_drop, EnvF.N] at *; omega

theorem EnvF.up_inst_of_lt (G : EnvF) (k : Nat) (h : G.up k < G.N) : G.inst (G.up k) := by
  have hlt : (G.vs.drop k).findIdx Slot.isInst < (G.vs.drop k).length := by
    unfold EnvF.up EnvF.N at h; rw [List.length_drop]; omega
  have := List.findIdx_getElem (w := hlt)
  rw [List.getElem_drop] at this
  unfold EnvF.inst EnvF.slot
  rw [List.getElem?_eq_getElem h]; exact this

theorem EnvF.not_inst_below_up (G : EnvF) (k j : Nat) (h1 : k ≤ j) (h2 : j < G.up k) : ¬ G.inst j := by
  intro hi
  have := List.not_of_lt_findIdx (p := Slot.isInst) (xs := G.vs.drop k) (i := j - k) (by unfold EnvF.up at h2; omega)
  rw [List.getElem_drop] at this
  have hj := EnvF.inst_lt hi
  unfold EnvF.inst EnvF.slot at hi
  rw [List.getElem?_eq_getElem hj] at hi
  simp only [show k + (j - k) = j by omega] at this
  exact absurd (hi.symm.trans this) (by decide)

theorem EnvF.up_le_of_inst {G : EnvF} {k j : Nat} (hkj : k ≤ j) (hj : G.inst j) : G.up k ≤ j := by
  rcases Nat.lt_or_ge j (G.up k) with h | h
  · exact absurd hj (G.not_inst_below_up k j hkj h)
  · exact h

theorem EnvF.up_inst {G : EnvF} {k : Nat} (h : G.inst k) : G.up k = k :=
  Nat.le_antisymm (EnvF.up_le_of_inst (Nat.le_refl _) h) (G.up_ge_self k)

theorem EnvF.up_mono (G : EnvF) {k j : Nat} (hkj : k ≤ j) : G.up k ≤ G.up j := by
  rcases Nat.lt_or_ge (G.up j) G.N with h | h
  · exact EnvF.up_le_of_inst (Nat.le_trans hkj (G.up_ge_self j)) (G.up_inst_of_lt j h)
  · rcases Nat.lt_or_ge k G.N with h1 | h1
    · exact Nat.le_trans (G.up_le (Nat.le_of_lt h1)) h
    · rw [EnvF.up_of_ge h1]; exact Nat.le_trans hkj (G.up_ge_self j)

theorem EnvF.up_eq_of_between {G : EnvF} {k j : Nat} (h1 : k ≤ j) (h2 : j ≤ G.up k) : G.up j = G.up k := by
  apply Nat.le_antisymm
  · rcases Nat.lt_or_ge (G.up k) G.N with h | h
    · exact EnvF.up_le_of_inst h2 (G.up_inst_of_lt k h)
    · rcases Nat.lt_or_ge j G.N with hj | hj
      · have := G.up_le (Nat.le_of_lt hj)
        have hk : k ≤ G.N := by omega
        have := G.up_le hk
        omega
      · rw [EnvF.up_of_ge hj]; exact h2
  · exact G.up_mono h1

theorem EnvF.up_failed {G : EnvF} {k : Nat} (hk : k < G.N) (h : ¬ G.inst k) : G.up k = G.up (k + 1) := by
  refine (EnvF.up_eq_of_between (Nat.le_succ k) (Nat.lt_of_le_of_ne (G.up_ge_self k) fun e => h ?_)).symm
  have := G.up_inst_of_lt k (by omega)
  rwa [← e] at this

def EnvF.push (G : EnvF) (s : Slot) : EnvF := { G with vs := G.vs ++ [s] }

@[simp] theorem EnvF.push_N (G : EnvF) (s : Slot) : (G.push s).N = G.N + 1 := by simp [EnvF.push, EnvF.N]
@[simp] theorem EnvF.push_dn (G : EnvF) (s : Slot) : (G.push s).dn = G.dn := rfl
@[simp] theorem EnvF.push_rel (G : EnvF) (s : Slot) : (G.push s).rel = G.rel := rfl
@[simp] theorem EnvF.push_closing (G : EnvF) (s : Slot) : (G.push s).closing = G.closing := rfl

theorem EnvF.push_slot_lt {G : EnvF} {s : Slot} {k : Nat} (h : k < G.N) : (G.push s).slot k = G.slot k := by
  simp only [EnvF.slot, EnvF.push, EnvF.N] at *
  rw [List.getElem?_append_left h]

theorem EnvF.push_slot_eq {G : EnvF} {s : Slot} : (G.push s).slot G.N = s := by
  simp [EnvF.slot, EnvF.push, EnvF.N]

theorem EnvF.push_slot (G : EnvF) (s : Slot) (k : Nat) :
    (G.push s).slot k = if k < G.N then G.slot k else if k = G.N then s else .failed := by
  by_cases h1 : k < G.N
  · simp [h1, EnvF.push_slot_lt h1]
  · by_cases h2 : k = G.N
    · subst h2; simp [EnvF.push_slot_eq]
    · simp only [h1, h2, if_false]; apply EnvF.slot_ge; simp; omega

/-- a failed commit's id changes no slot (beyond `N` every slot reads as failed already) -/
theorem EnvF.push_failed_slot (G : EnvF) (k : Nat) : (G.push .failed).slot k = G.slot k := by
  rw [EnvF.push_slot]
  split
  · rfl
  · rw [EnvF.slot_ge (by omega)]; split <;> rfl

theorem EnvF.push_failed_inst (G : EnvF) (k : Nat) : (G.push .failed).inst k ↔ G.inst k := by
  unfold EnvF.inst; rw [EnvF.push_failed_slot]
theorem EnvF.push_failed_T (G : EnvF) (k : Nat) : (G.push .failed).T k = G.T k := by
  unfold EnvF.T; rw [EnvF.push_failed_slot]
theorem EnvF.push_failed_L (G : EnvF) (k : Nat) : (G.push .failed).L k = G.L k := by
  unfold EnvF.L; rw [EnvF.push_failed_slot]

theorem EnvF.push_T (G : EnvF) (s : Slot) (k : Nat) :
    (G.push s).T k = if k < G.N then G.T k else if k = G.N then s.T else [] := by
  unfold EnvF.T; rw [EnvF.push_slot]; split; rfl; split <;> rfl
theorem EnvF.push_L (G : EnvF) (s : Slot) (k : Nat) :
    (G.push s).L k = if k < G.N then G.L k else if k = G.N then s.L else [] := by
  unfold EnvF.L; rw [EnvF.push_slot]; split; rfl; split <;> rfl

theorem EnvF.push_up {G : EnvF} {s : Slot} {k : Nat} (hk : k ≤ G.N) :
    (G.push s).up k = if G.up k < G.N then G.up k else if s.isInst then G.N else G.N + 1 := by
  have hlen : (G.vs.drop k).length = G.N - k := by simp [EnvF.N]
  unfold EnvF.up EnvF.push
  simp only []
  rw [List.drop_append_of_le_length hk, List.findIdx_append, hlen, List.findIdx_singleton]
  have hle := List.findIdx_le_length (p := Slot.isInst) (xs := G.vs.drop k)
  rw [hlen] at hle
  by_cases h : List.findIdx Slot.isInst (G.vs.drop k) < G.N - k
  · have : k + List.findIdx Slot.isInst (G.vs.drop k) < G.N := by omega
    simp [h, this]
  · have : ¬ k + List.findIdx Slot.isInst (G.vs.drop k) < G.N := by omega
    simp only [h, this, if_false]
    split <;> omega

theorem EnvF.push_inst_lt {G : EnvF} {s : Slot} {k : Nat} (h : k < G.N) : (G.push s).inst k ↔ G.inst k := by
  unfold EnvF.inst; rw [EnvF.push_slot_lt h]
theorem EnvF.push_T_lt {G : EnvF} {s : Slot} {k : Nat} (h : k < G.N) : (G.push s).T k = G.T k := by
  unfold EnvF.T; rw [EnvF.push_slot_lt h]
theorem EnvF.push_L_lt {G : EnvF} {s : Slot} {k : Nat} (h : k < G.N) : (G.push s).L k = G.L k := by
  unfold EnvF.L; rw [EnvF.push_slot_lt h]
theorem EnvF.push_din_lt {G : EnvF} {s : Slot} {k : Nat} (h : k < G.N) : (G.push s).din k = G.din k := by
  unfold EnvF.din; rw [EnvF.push_slot_lt h]
theorem EnvF.push_T_eq {G : EnvF} {s : Slot} : (G.push s).T G.N = s.T := by
  unfold EnvF.T; rw [EnvF.push_slot_eq]
theorem EnvF.push_L_eq {G : EnvF} {s : Slot} : (G.push s).L G.N = s.L := by
  unfold EnvF.L; rw [EnvF.push_slot_eq]
theorem EnvF.push_din_eq {G : EnvF} {s : Slot} : (G.push s).din G.N = s.din := by
  unfold EnvF.din; rw [EnvF.push_slot_eq]
theorem EnvF.push_inst_eq {G : EnvF} {s : Slot} : (G.push s).inst G.N ↔ s.isInst = true := by
  unfold EnvF.inst; rw [EnvF.push_slot_eq]

theorem EnvF.push_inst_cases {G : EnvF} {s : Slot} {k : Nat} (h : (G.push s).inst k) :
    (k < G.N ∧ G.inst k) ∨ (k = G.N ∧ s.isInst = true) := by
  have hlt := EnvF.inst_lt h
  simp only [EnvF.push_N] at hlt
  by_cases hk : k < G.N
  · exact Or.inl ⟨hk, (EnvF.push_inst_lt hk).mp h⟩
  · have : k = G.N := by omega
    subst this; exact Or.inr ⟨rfl, EnvF.push_inst_eq.mp h⟩

theorem EnvF.push_T_mem {G : EnvF} {s : Slot} {k f : Nat} (h : f ∈ (G.push s).T k) :
    (k < G.N ∧ f ∈ G.T k) ∨ (k = G.N ∧ f ∈ s.T) := by
  by_cases hk : k < G.N
  · rw [EnvF.push_T_lt hk] at h; exact Or.inl ⟨hk, h⟩
  · by_cases hk2 : k = G.N
    · subst hk2; rw [EnvF.push_T_eq] at h; exact Or.inr ⟨rfl, h⟩
    · have : ¬ (G.push s).inst k := fun hi => by have := EnvF.inst_lt hi; simp at this; omega
      rw [EnvF.T_not_inst this] at h; cases h

theorem EnvF.L_not_inst {G : EnvF} {k : Nat} (h : ¬ G.inst k) : G.L k = [] := by
  unfold EnvF.inst at h; unfold EnvF.L
  cases hs : G.slot k <;> simp_all [Slot.isInst, Slot.L]

structure EnvF.WF (G : EnvF) : Prop where
  nodupT : ∀ k, (G.T k).Nodup
  nodupL : ∀ k, (G.L k).Nodup
  sub : ∀ k f, f ∈ G.L k → f ∈ G.T k
  /-- `newSession`: version 0 is installed and empty -/
  first : 0 < G.N → G.inst 0 ∧ G.T 0 = []
  dn : (G.N = 0 ∧ G.dn = 0) ∨ G.inst G.dn
  chain : ∀ b, b < G.dn → G.inst b → NetExact (G.L b) (G.din (G.up (b + 1))) (G.L (G.up (b + 1)))
  rel : ∀ k ∈ G.rel, G.inst k ∧ (k < G.dn ∨ (G.closing = true ∧ k = G.dn))
  /-- a table of a superseded version that the loop did not count for it is counted for its successor (only
  `session.recover` installs such a version: its delta is empty, the first commit's delta lists every table) -/
  keep : ∀ b, b < G.dn → G.inst b → ∀ f, f ∈ G.T b → f ∉ G.L b → f ∈ G.L (G.up (b + 1))
  /-- the closing version is the newest id, installed and empty; nothing follows it -/
  cls : G.closing = true → 0 < G.N ∧ G.inst (G.N - 1) ∧ G.T (G.N - 1) = [] ∧ G.dn + 1 < G.N ∧ G.up (G.dn + 1) = G.N - 1

/-- the version whose view is the base of the counters when the loop stands at `next` -/
def EnvF.cb (G : EnvF) (next : Nat) : Nat := G.up (min G.dn next)

/-- version `j` still matters to the loop standing at `nx`: it is unreleased, or the loop has not passed it -/
def EnvF.alive (G : EnvF) (nx j : Nat) : Prop := j ∉ G.rel ∨ G.cb nx ≤ j

/-- File numbers are reused (`session.reuseFileNum`: the number of a removed table is handed out again when it
was the newest one), so "a table that left the version never comes back" holds for NUMBERS only relative to the
versions that still matter: -/
structure GL (G : EnvF) (nx : Nat) : Prop where
  gone : ∀ f j l m, j < l → l < m → G.inst l → G.alive nx j → f ∈ G.T j → f ∉ G.T l → f ∉ G.T m
  /-- a table that the loop does not count for a version although an older version had it is not in it -/
  left : ∀ f j k, j < k → G.inst k → G.alive nx j → f ∈ G.T j → f ∉ G.L k → f ∉ G.T k

/-- No file number is ever used for two tables (what `GL` says, for every version): needed only for
"removed exactly once". -/
structure NoReuse (G : EnvF) : Prop where
  gone : ∀ f j l m, j < l → l < m → G.inst l → f ∈ G.T j → f ∉ G.T l → f ∉ G.T m
  left : ∀ f j k, j < k → G.inst k → f ∈ G.T j → f ∉ G.L k → f ∉ G.T k

theorem NoReuse.gl {G : EnvF} (h : NoReuse G) (nx : Nat) : GL G nx :=
  ⟨fun f j l m h1 h2 h3 _ => h.gone f j l m h1 h2 h3, fun f j k h1 h2 _ => h.left f j k h1 h2⟩

inductive EnvStepF (nx : Nat) : EnvF → Msg → EnvF → Prop
  /-- `v.incref()` in `setVersion`: the next id; no delta is pending -/
  | ref (G : EnvF) (fs L : List Nat) (din : Delta) : G.closing = false → fs.Nodup → L.Nodup →
      (∀ f ∈ L, f ∈ fs) → (G.N = 0 → fs = []) → (0 < G.N → G.N ≤ G.up (G.dn + 1)) →
      (∀ f ∈ fs, ∀ j l, j < l → G.inst l → G.alive nx j → f ∈ G.T j → f ∈ G.T l) →
      (∀ f ∈ fs, ∀ j, G.alive nx j → f ∈ G.T j → f ∈ L) →
      EnvStepF nx G (.ref G.N fs) (G.push (.inst fs L din))
  /-- the send on `deltaCh` in `setVersion`: filed under the id of the superseded version -/
  | delta (G : EnvF) : G.closing = false → G.up (G.dn + 1) < G.N →
      NetExact (G.L G.dn) (G.din (G.up (G.dn + 1))) (G.L (G.up (G.dn + 1))) →
      (∀ f, f ∈ G.T G.dn → f ∉ G.L G.dn → f ∈ G.L (G.up (G.dn + 1))) →
      EnvStepF nx G (.delta G.dn (G.din (G.up (G.dn + 1)))) { G with dn := G.up (G.dn + 1) }
  /-- `version.releaseNB` dropping the last reference of a superseded version -/
  | rel (G : EnvF) (k : Nat) : G.inst k → k < G.dn → k ∉ G.rel →
      EnvStepF nx G (.rel k (G.T k)) { G with rel := k :: G.rel }
  /-- `session.commit` failed: the id it spawned is abandoned -/
  | abandon (G : EnvF) : G.closing = false → 0 < G.N →
      EnvStepF nx G (.abandon G.N) (G.push .failed)
  | expire (G : EnvF) (v : Nat) : EnvStepF nx G (.expire v) G
  /-- `session.close`: `setVersion(nil, &version{closing: true, id: s.ntVersionID})` references the closing
  version (no tables) … -/
  | refClose (G : EnvF) : G.closing = false → 0 < G.N → G.N ≤ G.up (G.dn + 1) →
      EnvStepF nx G (.ref G.N []) { G.push (.inst [] [] ⟨[], []⟩) with closing := true }
  /-- … sends no delta (`r == nil`) and releases the current version -/
  | relClose (G : EnvF) : G.closing = true → G.dn ∉ G.rel →
      EnvStepF nx G (.rel G.dn (G.T G.dn)) { G with rel := G.dn :: G.rel }

theorem EnvF.WF.dn_inst {G : EnvF} (h : G.WF) (hN : 0 < G.N) : G.inst G.dn := by
  rcases h.dn with h1 | h1
  · omega
  · exact h1

theorem EnvF.WF.dn_lt {G : EnvF} (h : G.WF) (hN : 0 < G.N) : G.dn < G.N := EnvF.inst_lt (h.dn_inst hN)

/-- until `session.close` only superseded versions are released -/
theorem EnvF.WF.rel_lt {G : EnvF} (h : G.WF) (hc : G.closing = false) {k : Nat} (hk : k ∈ G.rel) : k < G.dn := by
  rcases (h.rel k hk).2 with h1 | ⟨h1, _⟩
  · exact h1
  · rw [hc] at h1; cases h1

theorem EnvF.WF.up_le_dn {G : EnvF} (h : G.WF) {b : Nat} (hb : b < G.dn) : G.up (b + 1) ≤ G.dn := by
  rcases h.dn with h1 | h1
  · omega
  · exact EnvF.up_le_of_inst (by omega) h1

theorem EnvF.cb_mono (G : EnvF) {a b : Nat} (h : a ≤ b) : G.cb a ≤ G.cb b :=
  G.up_mono (by omega)

theorem cb_le_liveF (G : EnvF) {next j : Nat} (hj : next ≤ j) (hi : G.inst j) : G.cb next ≤ j :=
  Nat.le_trans (G.up_mono (Nat.min_le_right _ _)) (EnvF.up_le_of_inst hj hi)

theorem EnvF.WF.cb_inst {G : EnvF} (h : G.WF) (hN : 0 < G.N) (next : Nat) : G.inst (G.cb next) :=
  have hdi := h.dn_inst hN
  G.up_inst_of_lt _ (Nat.lt_of_le_of_lt (EnvF.up_le_of_inst (Nat.min_le_left _ _) hdi) (EnvF.inst_lt hdi))

theorem EnvF.lt_cb (G : EnvF) {k next : Nat} (hd : k < G.dn) (hn : k < next) : k < G.cb next :=
  Nat.lt_of_lt_of_le (by omega) (G.up_ge_self _)

theorem cb_of_dn_le {G : EnvF} {next : Nat} (hi : G.inst G.dn) (hd : G.dn ≤ next) : G.cb next = G.dn := by
  unfold EnvF.cb; rw [Nat.min_eq_left hd]; exact EnvF.up_inst hi

theorem cb_pass_sameF {G : EnvF} {next : Nat} (hn : next < G.N)
    (hc : ¬ G.inst next ∨ G.dn ≤ next) : G.cb (next + 1) = G.cb next := by
  unfold EnvF.cb
  by_cases hd : G.dn ≤ next
  · rw [Nat.min_eq_left hd, Nat.min_eq_left (by omega)]
  · have hni : ¬ G.inst next := by rcases hc with h1 | h1; exact h1; omega
    rw [Nat.min_eq_right (by omega), Nat.min_eq_right (by omega), EnvF.up_failed hn hni]

theorem cb_pass_instF {G : EnvF} {next : Nat} (hi : G.inst next) (hd : next < G.dn) :
    G.cb next = next ∧ G.cb (next + 1) = G.up (next + 1) := by
  unfold EnvF.cb
  rw [Nat.min_eq_right (by omega), Nat.min_eq_right (by omega)]
  exact ⟨EnvF.up_inst hi, rfl⟩

/-- below `dn` appending an id moves nothing: the next installed id is an old one -/
theorem EnvF.WF.push_below {G : EnvF} (h : G.WF) (s : Slot) {b : Nat} (hb : b < G.dn) :
    b < G.N ∧ G.up (b + 1) < G.N ∧ (G.push s).up (b + 1) = G.up (b + 1) := by
  have hN : 0 < G.N := by rcases h.dn with h1 | h1; omega; have := EnvF.inst_lt h1; omega
  have hdn := h.dn_lt hN
  have hup := h.up_le_dn hb
  have hupN : G.up (b + 1) < G.N := by omega
  exact ⟨by omega, hupN, by rw [EnvF.push_up (by omega)]; simp [hupN]⟩

theorem cb_pushF {G : EnvF} (wf : G.WF) {s : Slot} (hN : 0 < G.N) (next : Nat) :
    (G.push s).cb next = G.cb next ∧ G.cb next < G.N := by
  have hlt := EnvF.inst_lt (wf.cb_inst hN next)
  have hdn := wf.dn_lt hN
  refine ⟨?_, hlt⟩
  unfold EnvF.cb at hlt ⊢
  rw [EnvF.push_dn, EnvF.push_up (by omega)]
  simp [hlt]

theorem wf_push {G : EnvF} (h : G.WF) {s : Slot} (hc : G.closing = false) (hnd : s.T.Nodup) (hnl : s.L.Nodup)
    (hsub : ∀ f ∈ s.L, f ∈ s.T) (hfirst : G.N = 0 → s.isInst = true ∧ s.T = []) : (G.push s).WF := by
  refine ⟨fun k => ?_, fun k => ?_, fun k f => ?_, fun _ => ?_, Or.inr ?_, fun b hb hib => ?_, fun k hk => ?_,
    fun b hb hib => ?_, fun hcl => ?_⟩
  · rw [EnvF.push_T]; split; exact h.nodupT k; split; exact hnd; exact List.nodup_nil
  · rw [EnvF.push_L]; split; exact h.nodupL k; split; exact hnl; exact List.nodup_nil
  · rw [EnvF.push_L, EnvF.push_T]; split; exact h.sub k f; split; exact hsub f; exact id
  · by_cases h0 : 0 < G.N
    · rw [EnvF.push_inst_lt h0, EnvF.push_T_lt h0]; exact h.first h0
    · have h0' : G.N = 0 := by omega
      have h1 := @EnvF.push_inst_eq G s
      have h2 := @EnvF.push_T_eq G s
      rw [h0'] at h1 h2
      exact ⟨h1.mpr (hfirst h0').1, by rw [h2]; exact (hfirst h0').2⟩
  · rcases h.dn with ⟨h1, h2⟩ | h1
    · show (G.push s).inst G.dn
      rw [h2]
      have := @EnvF.push_inst_eq G s
      rw [h1] at this; exact this.mpr (hfirst h1).1
    · exact (EnvF.push_inst_lt (EnvF.inst_lt h1)).mpr h1
  · obtain ⟨hbN, hupN, e1⟩ := h.push_below s hb
    rw [e1, EnvF.push_L_lt hbN, EnvF.push_L_lt hupN, EnvF.push_din_lt hupN]
    exact h.chain b hb ((EnvF.push_inst_lt hbN).mp hib)
  · obtain ⟨h1, h2⟩ := h.rel k hk
    exact ⟨(EnvF.push_inst_lt (EnvF.inst_lt h1)).mpr h1, h2⟩
  · obtain ⟨hbN, hupN, e1⟩ := h.push_below s hb
    rw [e1, EnvF.push_L_lt hbN, EnvF.push_L_lt hupN, EnvF.push_T_lt hbN]
    exact h.keep b hb ((EnvF.push_inst_lt hbN).mp hib)
  · rw [EnvF.push_closing, hc] at hcl; cases hcl

/-- a release: of a superseded version, or of the current one by `session.close` -/
theorem EnvF.WF.rel_cons {G : EnvF} (h : G.WF) {k : Nat} (hi : G.inst k)
    (hk : k < G.dn ∨ (G.closing = true ∧ k = G.dn)) : ({ G with rel := k :: G.rel } : EnvF).WF := by
  refine ⟨h.nodupT, h.nodupL, h.sub, h.first, h.dn, h.chain, ?_, h.keep, h.cls⟩
  intro j hj
  rcases List.mem_cons.mp hj with rfl | hj
  · exact ⟨hi, hk⟩
  · exact h.rel j hj

theorem wf_stepF {nx : Nat} {G G' : EnvF} {m : Msg} (h : G.WF) (hs : EnvStepF nx G m G') : G'.WF := by
  cases hs with
  | ref fs L din hc hnd hnl hsub hfirst _ hmono hleft =>
    exact wf_push h hc hnd hnl hsub (fun h0 => ⟨rfl, hfirst h0⟩)
  | abandon hc hN => exact wf_push h hc List.nodup_nil List.nodup_nil (fun _ hf => hf) (fun h0 => by omega)
  | expire v => exact h
  | delta hc hlt hex hkeep =>
    have hi := G.up_inst_of_lt _ hlt
    -- the installed ids below the new `dn` are those below the old one, and the old one
    have hsplit : ∀ b, b < G.up (G.dn + 1) → G.inst b → b < G.dn ∨ b = G.dn := fun b hb hib =>
      Classical.byContradiction fun hn => G.not_inst_below_up (G.dn + 1) b (by omega) hb hib
    refine ⟨h.nodupT, h.nodupL, h.sub, h.first, Or.inr hi, ?_, ?_, ?_, ?_⟩
    · intro b hb hib
      rcases hsplit b hb hib with h1 | rfl
      · exact h.chain b h1 hib
      · exact hex
    · intro k hk
      have := G.up_ge_self (G.dn + 1)
      have := h.rel_lt hc hk
      exact ⟨(h.rel k hk).1, Or.inl (show k < G.up (G.dn + 1) by omega)⟩
    · intro b hb hib
      rcases hsplit b hb hib with h1 | rfl
      · exact h.keep b h1 hib
      · exact hkeep
    · intro hcl; rw [show G.closing = false from hc] at hcl; cases hcl
  | rel k hik hk hnot => exact h.rel_cons hik (Or.inl hk)
  | relClose hc hnot =>
    have hN := (h.cls hc).1
    exact h.rel_cons (h.dn_inst hN) (Or.inr ⟨hc, rfl⟩)
  | refClose hc hN hup =>
    have hw := wf_push (s := .inst [] [] ⟨[], []⟩) h hc List.nodup_nil List.nodup_nil (fun _ hf => hf)
      (fun _ => ⟨rfl, rfl⟩)
    have hdn := h.dn_lt hN
    refine ⟨hw.nodupT, hw.nodupL, hw.sub, hw.first, hw.dn, hw.chain, ?_, hw.keep, ?_⟩
    · exact fun k hk => ⟨(hw.rel k hk).1, Or.inl (hw.rel_lt hc hk)⟩
    · intro _
      show 0 < (G.push _).N ∧ (G.push _).inst ((G.push _).N - 1) ∧ (G.push _).T ((G.push _).N - 1) = [] ∧
        G.dn + 1 < (G.push _).N ∧ (G.push _).up (G.dn + 1) = (G.push _).N - 1
      simp only [EnvF.push_N, Nat.add_sub_cancel]
      refine ⟨by omega, EnvF.push_inst_eq.mpr rfl, by rw [EnvF.push_T_eq]; rfl, by omega, ?_⟩
      rw [EnvF.push_up (by omega)]
      have : ¬ G.up (G.dn + 1) < G.N := by omega
      simp [this, Slot.isInst]

end GoLevel.RefLoop

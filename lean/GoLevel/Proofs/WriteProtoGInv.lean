import GoLevel.Proofs.WriteProtoGroup
import GoLevel.Proofs.WriteProtoInv
/-! The thread-local group invariant `GLoc` holds in every reachable state (any configuration). -/
namespace GoLevel.WP

theorem unled_setPc (w : Thread) (p : Pc) : Unled (w.setPc p) = Unled w := rfl

theorem gloc_at {c : Cfg} {w : Thread} {p : Pc} (hp : w.pc = p) (h : GLoc c w) : GLoc c (w.setPc p) := by
  subst hp; exact h

/-- a thread outside `writeLocked` moves on outside it -/
theorem gloc_move (c : Cfg) (w : Thread) (p : Pc) (hl : Loc w)
    (hp : w.pc = .idle ∨ w.pc = .selecting ∨ w.pc = .waitMerged ∨ w.pc = .waitAck ∨ w.pc = .hold)
    (hp' : p = .idle ∨ p = .selecting ∨ p = .waitMerged ∨ p = .waitAck ∨ p = .hold ∨ ∃ r, p = .returned r)
    (h : GLoc c w) : GLoc c (w.setPc p) := by
  have hU : Unled w ∧ w.jout = none := by
    rcases hp with hp | hp | hp | hp | hp <;> simp only [GLoc, hp] at h <;> have hl := loc_at hp hl
    · exact ⟨h, hl.2.2.1⟩
    · exact ⟨h, hl.2.2.1⟩
    · exact ⟨h, hl.2.2.2.1⟩
    · exact ⟨h, hl.2.2.1⟩
    · exact ⟨h, hl.2.2.2.1⟩
  rcases hp' with rfl | rfl | rfl | rfl | rfl | ⟨r, rfl⟩
  all_goals first | exact hU.1 | exact Or.inl hU

theorem gloc_asLeader (c : Cfg) (w : Thread) (h : Unled w) : GLoc c w.asLeader := by
  obtain ⟨h1, h2, h3⟩ := h
  simp only [GLoc, Thread.asLeader, FlushShape]
  exact ⟨h2, h1, h3, rfl, trivial, trivial, trivial⟩

theorem objsOf_nil (b : Bool) : objsOf b [] = [] := by cases b <;> rfl

theorem post_of {w : Thread} (h1 : w.gn = w.flat.length) (h2 : w.jrecs = w.flat) (h3 : w.jsync = some w.gsync)
    (h4 : w.arecs = w.flat) : Post w := ⟨h1, fun _ => ⟨h2, h3⟩, fun _ => h4⟩

theorem shape_of_flush (c : Cfg) (l : Thread) (free : Nat) (h : FlushShape l) :
    Shape c { l with pc := .lead .merging 0 false, gfree := free, glimit := mergeLimitOf l.bsize free,
                     batches := [.own] } := by
  obtain ⟨h1, h2, h3, h4, h5, h6, h7⟩ := h
  simp [Shape, h1, objsOf_nil, h5, anyPut, pooled, putRecs, h4, h6, anySync, sizes, h7, putSizes, h3]

theorem gloc_returned {c : Cfg} {l : Thread} {m : Nat} {r : Res}
    (h : (Unled l ∧ l.jout = none ∧ m = 0) ∨ (Shape c l ∧ l.members.length = m ∧ Post l)) :
    GLoc c (l.setPc (.returned r)) :=
  h.elim (fun h => .inl ⟨h.1, h.2.1⟩) fun h => .inr ⟨h.1, h.2.2⟩

theorem step_gloc (s t : St) (h : Step s t) (h1 : ∀ (i : Nat) (w : Thread), s.ws[i]? = some w → Loc w)
    (hg : ∀ (i : Nat) (w : Thread), s.ws[i]? = some w → GLoc s.cfg w) :
    ∀ (i : Nat) (w : Thread), t.ws[i]? = some w → GLoc t.cfg w := by
  cases h with
  | call i w hi hp | retClosed i w hi hp hk hc | retPerErr i w hi hp hk hc | hAcquire i w hi hp hk ht
  | hRelease i w hi hp hk =>
    exact inv_set hg hi (gloc_move _ w _ (h1 i w hi) (by simp [hp]) (by simp))
  | lock i w g hi hp hk ht => exact inv_set hg hi fun hW => gloc_asLeader _ w (gloc_at hp hW)
  | flushOk j l m o free hj hp =>
    refine inv_set hg hj fun hL => ?_
    have hL := gloc_at hp hL
    simp only [GLoc]
    exact ⟨shape_of_flush _ l free hL, by simp [show l.members = [] from hL.1]⟩
  | flushFail j l m o hj hp =>
    exact inv_set hg hj fun hL => have hL := gloc_at hp hL
      .inl ⟨⟨hL.2.1, hL.1, hL.2.2.1⟩, (loc_at hp (h1 j l hj)).2.2.2.1, rfl⟩
  | recvAccept i j w l m g hj hi hp hm hl' hq hk hwm hsz =>
    refine inv_set2 hg hj hi (fun hL => ?_) (gloc_move _ w _ (h1 i w hi) (by simp [hq]) (by simp))
    have hL := gloc_at hp hL
    simp only [GLoc, Thread.setPc]
    exact ⟨accept_shape s.cfg l i w (poolGet s.pool g).1 hL.1 (gloc_at hq (hg i w hi)).2.2 hsz hm,
      (List.length_append ..).trans (congrArg (· + 1) hL.2)⟩
  | reply i j w l m o hj hi hp hq =>
    exact inv_set2 hg hj hi (fun hL => (gloc_at hp hL :)) fun hW => (gloc_at hq hW :)
  | recvOverflow i j w l m hj hi hp hm hl' hq hk hwm hsz =>
    exact inv_set2 hg hj hi (fun hL => have hL := gloc_at hp hL; ⟨hL.1, hL.2, rfl⟩)
      (gloc_move _ w _ (h1 i w hi) (by simp [hq]) (by simp))
  | mergeDone j l m o hj hp => exact inv_set hg hj fun hL => have hL := gloc_at hp hL; ⟨hL.1, hL.2, rfl⟩
  | journalOk j l m o hj hp =>
    exact inv_set hg hj fun hL => have hL := gloc_at hp hL; ⟨hL.1, hL.2.1, hL.2.2, rfl, rfl⟩
  | journalFail j l m o hj hp =>
    exact inv_set hg hj fun hL => have hL := gloc_at hp hL
      .inr ⟨hL.1, hL.2.1, hL.2.2, fun _ => ⟨rfl, rfl⟩, fun h => absurd (loc_at hp (h1 j l hj)).2.2.2.2 h⟩
  | apply j l m o hj hp =>
    exact inv_set hg hj fun hL => have hL := gloc_at hp hL
      ⟨hL.1, hL.2.1, hL.2.2.1, hL.2.2.2.1, hL.2.2.2.2, rfl⟩
  | publish j l m o rot hj hp hrot =>
    cases rot
    · exact inv_set hg hj fun hL => have hL := gloc_at hp hL
        .inr ⟨hL.1, hL.2.1, post_of hL.2.2.1 hL.2.2.2.1 hL.2.2.2.2.1 hL.2.2.2.2.2⟩
    · exact inv_set hg hj fun hL => (gloc_at hp hL :)
  | rotateOk j l m o hj hp | rotateFail j l m o hj hp =>
    exact inv_set hg hj fun hL => have hL := gloc_at hp hL
      .inr ⟨hL.1, hL.2.1, post_of hL.2.2.1 hL.2.2.2.1 hL.2.2.2.2.1 hL.2.2.2.2.2⟩
  | ack i j w l k m o r hj hi hp hq =>
    exact inv_set2 hg hj hi (fun hL => (gloc_at hp hL :)) (gloc_move _ w _ (h1 i w hi) (by simp [hq]) (by simp))
  | handoff i j w l m r g hj hi hp hq hc =>
    exact inv_set2 hg hj hi (fun hL => gloc_returned (gloc_at hp hL)) fun hW => gloc_asLeader _ w (gloc_at hq hW)
  | release j l m r hj hp | releaseLost j l m r hj hp hc hr =>
    exact inv_set hg hj fun hL => gloc_returned (gloc_at hp hL)

end GoLevel.WP

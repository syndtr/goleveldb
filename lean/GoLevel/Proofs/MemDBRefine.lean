import GoLevel.Proofs.MemDBInv
/-! `Put` preserves the invariant and acts on the abstract sorted map as `insert`; the empty table; `insert`, `erase` and
`get` of the sorted map around a key (C14). -/
namespace GoLevel.MemDB

variable {cmp : Cmp}

theorem lookup_put (kv : List (Bytes × Bytes)) (key v k : Bytes) :
    ((key, v) :: kv.filter (·.1 != key)).lookup k = if k = key then some v else kv.lookup k := by
  by_cases hk : k = key
  · subst hk; simp []
  · have : (k == key) = false := by simpa using hk
    simp [List.lookup_cons, this, lookup_filter_ne, hk]

namespace SMap
variable {k : Bytes} {A B : SMap}

theorem size_append (a b : SMap) : size (a ++ b) = size a + size b := by simp [size, List.sum_append]
theorem size_cons (p : Bytes × Bytes) (a : SMap) : size (p :: a) = p.1.length + p.2.length + size a := by
  simp [size]

section
variable (hc : LawfulCmp cmp)
include hc

theorem filters_split (hA : ∀ p ∈ A, cmp p.1 k = .lt) (hB : ∀ p ∈ B, cmp k p.1 = .lt) :
    A.filter (fun p => cmp p.1 k == .lt) = A ∧ B.filter (fun p => cmp p.1 k == .lt) = [] ∧
    A.filter (fun p => cmp p.1 k == .gt) = [] ∧ B.filter (fun p => cmp p.1 k == .gt) = B ∧
    A.filter (fun p => cmp p.1 k != .eq) = A ∧ B.filter (fun p => cmp p.1 k != .eq) = B := by
  have hB' : ∀ p ∈ B, cmp p.1 k = .gt := fun p hp => (hc.gt_iff _ _).2 (hB p hp)
  refine ⟨?_, ?_, ?_, ?_, ?_, ?_⟩
  · exact List.filter_eq_self.2 (fun p hp => by simp [hA p hp])
  · exact List.filter_eq_nil_iff.2 (fun p hp => by simp [hB' p hp])
  · exact List.filter_eq_nil_iff.2 (fun p hp => by simp [hA p hp])
  · exact List.filter_eq_self.2 (fun p hp => by simp [hB' p hp])
  · exact List.filter_eq_self.2 (fun p hp => by simp [hA p hp])
  · exact List.filter_eq_self.2 (fun p hp => by simp [hB' p hp])

theorem insert_split (v : Bytes) (hA : ∀ p ∈ A, cmp p.1 k = .lt) (hB : ∀ p ∈ B, cmp k p.1 = .lt) :
    insert cmp k v (A ++ B) = A ++ (k, v) :: B := by
  obtain ⟨h1, h2, h3, h4, _⟩ := filters_split hc hA hB
  simp [insert, List.filter_append, h1, h2, h3, h4]

theorem insert_split_mem (v o : Bytes) (hA : ∀ p ∈ A, cmp p.1 k = .lt) (hB : ∀ p ∈ B, cmp k p.1 = .lt) :
    insert cmp k v (A ++ (k, o) :: B) = A ++ (k, v) :: B := by
  obtain ⟨h1, h2, h3, h4, _⟩ := filters_split hc hA hB
  simp [insert, List.filter_append, h1, h2, h3, h4, hc.refl]

theorem erase_split_mem (o : Bytes) (hA : ∀ p ∈ A, cmp p.1 k = .lt) (hB : ∀ p ∈ B, cmp k p.1 = .lt) :
    erase cmp k (A ++ (k, o) :: B) = A ++ B := by
  obtain ⟨_, _, _, _, h5, h6⟩ := filters_split hc hA hB
  simp [erase, List.filter_append, h5, h6, hc.refl]

theorem erase_absent {m : SMap} (h : ∀ p ∈ m, p.1 ≠ k) : erase cmp k m = m :=
  List.filter_eq_self.2 fun p hp => bne_iff_ne.2 fun e => h p hp (hc.eq_of _ _ e)

theorem get_absent {m : SMap} (h : ∀ p ∈ m, p.1 ≠ k) : get cmp k m = none := by
  rw [get, List.find?_eq_none.2 fun p hp => by simpa using fun e => h p hp (hc.eq_of _ _ e)]; rfl

theorem get_split_mem (o : Bytes) (hA : ∀ p ∈ A, cmp p.1 k = .lt) :
    get cmp k (A ++ (k, o) :: B) = some o := by
  have h7 : A.find? (fun p => cmp p.1 k == .eq) = none :=
    List.find?_eq_none.2 (fun p hp => by simp [hA p hp])
  simp [get, List.find?_append, h7, hc.refl]

end
end SMap

/-- `(key, value)` as `abs` lists it -/
abbrev DB.pair (db : DB) (k : Bytes) : Bytes × Bytes := (k, db.value k)

theorem abs_eq (db : DB) : db.abs = db.level0.map db.pair := rfl

section
variable (hc : LawfulCmp cmp)
include hc

theorem abs_split_new {db : DB} (h : Inv cmp db) {key : Bytes} (hk : key ∉ db.level0) :
    db.abs = (db.level0.takeWhile (below cmp key)).map db.pair ++ (db.level0.dropWhile (below cmp key)).map db.pair ∧
    (∀ p ∈ (db.level0.takeWhile (below cmp key)).map db.pair, cmp p.1 key = .lt) ∧
    (∀ p ∈ (db.level0.dropWhile (below cmp key)).map db.pair, cmp key p.1 = .lt) := by
  refine ⟨?_, List.forall_mem_map.2 (below_of_mem_takeWhile key),
    List.forall_mem_map.2 (gt_of_mem_dropWhile hc h.sorted0 hk)⟩
  rw [abs_eq, ← List.map_append, List.takeWhile_append_dropWhile]

end

structure SplitMem (cmp : Cmp) (db : DB) (key : Bytes) (pre post : List Bytes) : Prop where
  l0 : db.level0 = pre ++ key :: post
  lt : ∀ x ∈ pre, cmp x key = .lt
  gt : ∀ x ∈ post, cmp key x = .lt
  tw : db.level0.takeWhile (below cmp key) = pre
  dw : db.level0.dropWhile (below cmp key) = key :: post

section
variable (hc : LawfulCmp cmp)
include hc

theorem splitMem {db : DB} (h : Inv cmp db) {key : Bytes} (hk : key ∈ db.level0) :
    ∃ pre post, SplitMem cmp db key pre post := by
  obtain ⟨pre, post, a, b, c, d, e⟩ := split_mem hc h.sorted0 hk
  exact ⟨pre, post, ⟨a, b, c, d, e⟩⟩

omit hc in
theorem SplitMem.abs {db : DB} {key : Bytes} {pre post : List Bytes} (s : SplitMem cmp db key pre post) :
    db.abs = pre.map db.pair ++ (key, db.value key) :: post.map db.pair ∧
    (∀ p ∈ pre.map db.pair, cmp p.1 key = .lt) ∧ (∀ p ∈ post.map db.pair, cmp key p.1 = .lt) :=
  ⟨by rw [abs_eq, s.l0]; simp, List.forall_mem_map.2 s.lt, List.forall_mem_map.2 s.gt⟩

end

theorem inv_empty (cmp : Cmp) : Inv cmp DB.empty where
  ne := by simp [DB.empty]
  height := by simp [DB.empty]; decide
  sorted := by intro l hl; simp [DB.empty] at hl; subst hl; exact List.Pairwise.nil
  towers := by simp [DB.empty]
  dom := by intro k; simp [DB.empty, DB.level0]
  len := by simp [DB.empty, DB.level0]
  size := by simp [DB.empty, DB.abs, DB.level0, SMap.size]

theorem abs_empty : DB.empty.abs = [] := by simp [DB.empty, DB.abs, DB.level0]

theorem Inv.level_sub0 {db : DB} (h : Inv cmp db) : ∀ l ∈ db.levels, ∀ x ∈ l, x ∈ db.level0 := by
  intro l hl x hx
  have hT := h.towersSub
  unfold DB.level0
  cases hL : db.levels with
  | nil => rw [hL] at hl; cases hl
  | cons l0 ls =>
    rw [hL] at hl hT
    rcases List.mem_cons.1 hl with rfl | hl'
    · exact hx
    · exact (List.pairwise_cons.1 hT).1 l hl' x hx

theorem level0_mk (ls : List (List Bytes)) (kv : List (Bytes × Bytes)) (a b c : Nat) :
    (DB.mk ls kv a b c).level0 = ls.headD [] := rfl

theorem value_put_self (db : DB) (key v : Bytes) (ls : List (List Bytes)) (a b c : Nat) :
    (DB.mk ls ((key, v) :: db.kv.filter (·.1 != key)) a b c).value key = v := by
  simp [DB.value]

theorem value_put_other (db : DB) {key k : Bytes} (hne : k ≠ key) (v : Bytes) (ls : List (List Bytes)) (a b c : Nat) :
    (DB.mk ls ((key, v) :: db.kv.filter (·.1 != key)) a b c).value k = db.value k := by
  simp only [DB.value]
  rw [lookup_put]; simp [hne]

theorem pair_put_other (db : DB) {key : Bytes} (v : Bytes) (ls : List (List Bytes)) (a b c : Nat)
    (l : List Bytes) (hl : ∀ x ∈ l, x ≠ key) :
    l.map (DB.mk ls ((key, v) :: db.kv.filter (·.1 != key)) a b c).pair = l.map db.pair := by
  apply List.map_congr_left
  intro x hx
  simp only [DB.pair]
  rw [value_put_other db (hl x hx)]

section
variable (hc : LawfulCmp cmp)
include hc

theorem put_new {db : DB} (h : Inv cmp db) {key : Bytes} (hk : key ∉ db.level0) (v : Bytes) (ht : Nat) :
    put cmp db key v ht =
      { levels := linkIdeal cmp key ht db.levels
        kv := (key, v) :: db.kv.filter (·.1 != key)
        n := db.n + 1
        kvSize := db.kvSize + key.length + v.length
        used := db.used + key.length + v.length } := by
  unfold put
  rw [findGE_prev hc h key]
  simp only [hk, decide_false]
  rw [linkLevels_eq hc key ht db.levels h.sorted]

theorem put_old {db : DB} (h : Inv cmp db) {key : Bytes} (hk : key ∈ db.level0) (v : Bytes) (ht : Nat) :
    put cmp db key v ht =
      { db with
        kv := (key, v) :: db.kv.filter (·.1 != key)
        kvSize := db.kvSize + v.length - (db.value key).length
        used := db.used + key.length + v.length } := by
  unfold put
  rw [findGE_prev hc h key]
  simp only [hk, decide_true, succ_of_mem hc h.sorted0 hk]

omit hc in
theorem key_not_in_levels {db : DB} (h : Inv cmp db) {key : Bytes} (hk : key ∉ db.level0) :
    ∀ l ∈ db.levels, key ∉ l :=
  fun l hl hmem => hk (h.level_sub0 l hl key hmem)

omit hc in
theorem level0_put_new {db : DB} {key : Bytes} {ht : Nat} (hpos : 1 ≤ ht) :
    (linkIdeal cmp key ht db.levels).headD [] = ins cmp key db.level0 := by
  obtain ⟨h', rfl⟩ : ∃ h', ht = h' + 1 := ⟨ht - 1, by omega⟩
  exact linkIdeal_head key h' db.levels

theorem abs_put_new {db : DB} (h : Inv cmp db) {key : Bytes} (hk : key ∉ db.level0) (v : Bytes) {ht : Nat}
    (hpos : 1 ≤ ht) :
    (put cmp db key v ht).abs =
      (db.level0.takeWhile (below cmp key)).map db.pair ++ (key, v) :: (db.level0.dropWhile (below cmp key)).map db.pair := by
  rw [put_new hc h hk, abs_eq]
  simp only [level0_mk]
  rw [level0_put_new hpos]
  simp only [ins, List.map_append, List.map_cons]
  rw [pair_put_other, pair_put_other]
  · simp [DB.pair, DB.value]
  · intro x hx e; exact hk (e ▸ (List.dropWhile_sublist _).subset hx)
  · intro x hx; exact hc.ord.ne_of_lt (below_of_mem_takeWhile key x hx)

theorem abs_put_old {db : DB} (h : Inv cmp db) {key : Bytes} {pre post : List Bytes}
    (s : SplitMem cmp db key pre post) (v : Bytes) (ht : Nat) :
    (put cmp db key v ht).abs = pre.map db.pair ++ (key, v) :: post.map db.pair := by
  have hk : key ∈ db.level0 := by rw [s.l0]; simp
  rw [put_old hc h hk, abs_eq]
  simp only [level0_mk]
  show List.map _ db.level0 = _
  rw [s.l0]
  simp only [List.map_append, List.map_cons]
  rw [pair_put_other, pair_put_other]
  · simp [DB.pair, DB.value]
  · intro x hx; exact (hc.ord.ne_of_lt (s.gt x hx)).symm
  · intro x hx; exact hc.ord.ne_of_lt (s.lt x hx)

theorem put_abs {db : DB} (h : Inv cmp db) (key v : Bytes) {ht : Nat} (hpos : 1 ≤ ht) :
    (put cmp db key v ht).abs = SMap.insert cmp key v db.abs := by
  by_cases hk : key ∈ db.level0
  · obtain ⟨pre, post, s⟩ := splitMem hc h hk
    obtain ⟨e, hA, hB⟩ := s.abs
    rw [abs_put_old hc h s, e, SMap.insert_split_mem hc v _ hA hB]
  · obtain ⟨e, hA, hB⟩ := abs_split_new hc h hk
    rw [abs_put_new hc h hk v hpos, e, SMap.insert_split hc v hA hB]

theorem put_inv {db : DB} (h : Inv cmp db) (key v : Bytes) {ht : Nat} (hpos : 1 ≤ ht) (hle : ht ≤ Gen.tMaxHeight) :
    Inv cmp (put cmp db key v ht) := by
  by_cases hk : key ∈ db.level0
  · -- overwrite in place
    obtain ⟨pre, post, s⟩ := splitMem hc h hk
    have habs := abs_put_old hc h s v ht
    obtain ⟨e, _, _⟩ := s.abs
    rw [put_old hc h hk] at habs ⊢
    refine ⟨h.ne, h.height, h.sorted, h.towers, ?_, h.len, ?_⟩
    · intro k
      show k ∈ db.level0 ↔ _
      simp only
      rw [lookup_put]
      by_cases hkk : k = key
      · subst hkk; simp [hk]
      · simp [hkk, h.dom k]
    · show db.kvSize + v.length - (db.value key).length = _
      rw [habs, h.size, e]
      simp only [SMap.size_append, SMap.size_cons]
      omega
  · -- a new node
    have habs := abs_put_new hc h hk v hpos
    obtain ⟨e, _, _⟩ := abs_split_new hc h hk
    have hK := key_not_in_levels h hk
    rw [put_new hc h hk] at habs ⊢
    refine ⟨?_, ?_, linkIdeal_sorted hc key ht db.levels h.sorted hK,
      linkIdeal_towers hc key ht db.levels h.sorted h.towers, ?_, ?_, ?_⟩
    · intro e0
      have := linkIdeal_length (cmp := cmp) key ht db.levels
      simp only at e0
      rw [e0] at this
      simp at this; omega
    · show (linkIdeal cmp key ht db.levels).length ≤ _
      rw [linkIdeal_length]
      exact Nat.max_le.2 ⟨hle, h.height⟩
    · intro k
      show k ∈ (linkIdeal cmp key ht db.levels).headD [] ↔ _
      rw [level0_put_new hpos, mem_ins]
      simp only
      rw [lookup_put]
      by_cases hkk : k = key
      · subst hkk; simp
      · simp [hkk, h.dom k]
    · show db.n + 1 = ((linkIdeal cmp key ht db.levels).headD []).length
      rw [level0_put_new hpos, ins_length, h.len]
    · show db.kvSize + key.length + v.length = _
      rw [habs, h.size, e]
      simp only [SMap.size_append, SMap.size_cons]
      omega

end

end GoLevel.MemDB

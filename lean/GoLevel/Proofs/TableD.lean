import GoLevel.Model.Table
import GoLevel.Proofs.Bytes
/-! C13(g): a single altered byte inside payload ‖ type ‖ checksum of a block is detected by `readRawBlock`
with verification on.  The checksum is abstract; what is needed from it is `DetectsSingle`. -/
namespace GoLevel.C13
open GoLevel

/-- altering one position of the input changes the checksum (proved for CRC32C elsewhere) -/
def DetectsSingle (cksum : Bytes → Nat) : Prop :=
  ∀ (bs : Bytes) (i : Nat) (b : UInt8) (h : i < bs.length), b ≠ bs[i] → cksum (bs.set i b) ≠ cksum bs

/-- the little-endian value determines the bytes (`leN_rdLE`), so altering one changes it -/
theorem rdLE_set_ne (l : Bytes) (j : Nat) (b : UInt8) (h : j < l.length) (hne : b ≠ l[j]) :
    rdLE (l.set j b) ≠ rdLE l := by
  intro e
  have h1 := leN_rdLE (l.set j b)
  rw [List.length_set, e, leN_rdLE] at h1
  have h2 := congrArg (·[j]?) h1
  simp only [List.getElem?_set_self h, List.getElem?_eq_getElem h, Option.some.injEq] at h2
  exact hne h2.symm

/-- a raw block `raw` = payload (`n` bytes) ‖ type ‖ checksum that verifies no longer does once any one of its bytes
is altered: in front of the checksum field the checksum function notices, inside it the stored value changes -/
theorem raw_damage {cksum : Bytes → Nat} (hd : DetectsSingle cksum) (raw : Bytes) (n j : Nat) (b : UInt8)
    (hlen : raw.length = n + 5) (hj : j < raw.length) (hok : rd32 (raw.drop (n + 1)) = cksum (raw.take (n + 1)))
    (hne : b ≠ raw[j]) :
    rd32 ((raw.set j b).drop (n + 1)) ≠ cksum ((raw.set j b).take (n + 1)) := by
  by_cases hjn : j < n + 1
  · rw [List.drop_set_of_lt hjn, List.take_set, hok]
    have hl2 : j < (raw.take (n + 1)).length := by rw [List.length_take]; omega
    exact fun e => hd (raw.take (n + 1)) j b hl2 (by rw [List.getElem_take]; exact hne) e.symm
  · rw [List.take_set_of_le (by omega), List.drop_set, if_neg hjn, ← hok]
    have hl4 : (raw.drop (n + 1)).length = 4 := by rw [List.length_drop]; omega
    simp only [rd32]
    rw [List.take_of_length_le (by rw [List.length_set]; omega), List.take_of_length_le (by omega)]
    refine rdLE_set_ne _ _ b (by omega) ?_
    rw [List.getElem_drop]
    have : raw[n + 1 + (j - (n + 1))]'(by omega) = raw[j] := by congr 1; omega
    rw [this]; exact hne

def rawSlice (file : Bytes) (bh : BH) : Bytes := (file.drop bh.offset).take (bh.length + Gen.blockTrailerLen)

/-- C13(g) -/
theorem readRawBlock_damage {cksum : Bytes → Nat} (hd : DetectsSingle cksum) (file : Bytes) (bh : BH)
    (hin : bh.offset + bh.length + Gen.blockTrailerLen ≤ file.length)
    (hok : rd32 ((rawSlice file bh).drop (bh.length + 1)) = cksum ((rawSlice file bh).take (bh.length + 1)))
    (i : Nat) (b : UInt8) (hlo : bh.offset ≤ i) (hhi : i < bh.offset + bh.length + Gen.blockTrailerLen)
    (hne : b ≠ file[i]'(by omega)) :
    readRawBlock cksum (file.set i b) bh true = none := by
  have h5 : Gen.blockTrailerLen = 5 := rfl
  rw [h5] at hin hhi
  have hslice : ((file.set i b).drop bh.offset).take (bh.length + 5) = (rawSlice file bh).set (i - bh.offset) b := by
    rw [List.drop_set, if_neg (by omega), List.take_set, rawSlice, h5]
  have hlen : (rawSlice file bh).length = bh.length + 5 := by
    simp only [rawSlice, h5, List.length_take, List.length_drop]; omega
  have hget : (rawSlice file bh)[i - bh.offset]'(by omega) = file[i]'(by omega) := by
    simp only [rawSlice, List.getElem_take, List.getElem_drop]
    congr 1; omega
  have hmis := raw_damage hd (rawSlice file bh) bh.length (i - bh.offset) b hlen (by omega) hok (by rw [hget]; exact hne)
  unfold readRawBlock
  simp only [h5, hslice, List.length_set, hlen, Nat.lt_irrefl, if_false, Bool.true_and]
  have : (rd32 (((rawSlice file bh).set (i - bh.offset) b).drop (bh.length + 1)) !=
      cksum (((rawSlice file bh).set (i - bh.offset) b).take (bh.length + 1))) = true := by
    simpa using hmis
  simp [this]

end GoLevel.C13

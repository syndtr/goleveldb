import GoLevel.Proofs.CacheLocksInv
import GoLevel.Proofs.CacheProgress
/-! The lock-level cache system (C17): every kind of step keeps `LInv`.  Two frames carry the argument:
`linv_phase` for a thread moving through `Close`'s locking, `linv_rw` (in the shape `afterBase` produces) for the
base steps; each is `linv_set` with `WOK.phase` resp. `WOK.held` for the two locks. -/
namespace GoLevel.CacheL
open GoLevel.CacheM

/-- `mu` admits one writer: while `t` is inside `Close`'s locking, every other thread is outside. -/
theorem LInv.others_idle {ls : LSys} (h : LInv ls) {t : Nat} {th : LThread} (hth : ls.tl[t]? = some th)
    (hw : th.phase ≠ .idle ∨ ls.mu.writer = none) :
    ∀ t2 th2, t2 ≠ t → ls.tl[t2]? = some th2 → th2.phase = .idle := by
  intro t2 th2 hne h2
  refine Decidable.byContradiction fun hp2 => ?_
  have h3 := h.mu_writer t2 th2 h2 hp2
  rcases hw with hw | hw
  · rw [h.mu_writer t th hth hw] at h3; exact hne (Option.some.inj h3).symm
  · rw [hw] at h3; cases h3

/-- … and `unrefMu` has no writer unless `t` itself is at `r.unrefMu.Lock()` or beyond. -/
theorem LInv.un_free {ls : LSys} (h : LInv ls) {t : Nat} {th : LThread} (hth : ls.tl[t]? = some th)
    (hw : th.phase ≠ .idle ∨ ls.mu.writer = none) (hu : unPhase th.phase = false) : ls.un.writer = none := by
  simpa [ann, hu, LSys.lock] using (h.lk .un).writer_eq hth (h.others_idle hth hw)

theorem linv_phase {ls : LSys} {t : Nat} {th : LThread} {T : List Instr} {p' : Phase} {mu' un' : RW}
    (h : LInv ls) (hth : ls.tl[t]? = some th) (hT : ls.base.threads[t]? = some T)
    (hoth : ∀ t2 th2, t2 ≠ t → ls.tl[t2]? = some th2 → th2.phase = .idle)
    (hmr : mu'.readers = ls.mu.readers) (hur : un'.readers = ls.un.readers)
    (hmw : mu'.writer = if ann .mu p' = true then some t else none)
    (huw : un'.writer = if ann .un p' = true then some t else none)
    (c3 : p' ≠ .idle → th.held = [] ∧ (preBody p' = true → ∃ f, T = [Instr.closeLock f]))
    (c5e : hel .mu p' = true → ls.mu.readers = 0)
    (c5f : hel .un p' = true → ls.un.readers = 0) :
    LInv { ls with tl := ls.tl.set t { th with phase := p' }, mu := mu', un := un' } :=
  have hk := h.thr t th T hth hT
  linv_set h hT (set_self hT).symm ⟨hk.runlocks, c3, hk.unref⟩ ((h.lk .mu).phase hth hoth hmr hmw c5e)
    ((h.lk .un).phase hth hoth hur huw c5f) (by rw [hmr, hur]; exact h.readers)

theorem linv_same {ls : LSys} {t : Nat} {th : LThread} {T T' : List Instr} {b' : Sys} (h : LInv ls)
    (hth : ls.tl[t]? = some th) (hT : ls.base.threads[t]? = some T)
    (hthr : b'.threads = ls.base.threads.set t T') (hrl : b'.sh.rlock = ls.base.sh.rlock)
    (hk1 : T'.count .runlock = T.count .runlock)
    (hk3 : preBody th.phase = false) (hk6 : LockId.un ∈ th.held → unShape T') : LInv { ls with base := b' } := by
  have hk := h.thr t th T hth hT
  have := linv_set (th' := th) (mu' := ls.mu) (un' := ls.un) h hT hthr
    ⟨by rw [hk1]; exact hk.runlocks, fun hne => ⟨(hk.closing hne).1, fun hb => by rw [hk3] at hb; cases hb⟩,
      fun hu => ⟨(hk.unref hu).1, hk6 hu⟩⟩
    (by rw [set_self hth]; exact h.lk .mu) (by rw [set_self hth]; exact h.lk .un) (by rw [hrl]; exact h.readers)
  simpa [set_self hth] using this

theorem exec_extz_push {sh sh' : Shared} {id : Nat} {k : Key} {push evs}
    (he : exec sh (.extz id k) = some (sh', push, evs)) (rest : List Instr) : unShape (push ++ rest) := by
  cases exec_spec he
  · exact Or.inl ⟨_, rfl⟩
  · exact Or.inr (Or.inr ⟨_, _, _, rfl⟩)
  · exact Or.inr (Or.inl ⟨_, _, rfl⟩)

theorem linv_lockstep {ls : LSys} {t : Nat} {th : LThread} {T : List Instr} {p' : Phase} {mu' un' : RW}
    (h : LInv ls) (hwc : ∀ T ∈ ls.base.threads, WC T)
    (hth : ls.tl[t]? = some th) (hT : ls.base.threads[t]? = some T)
    (hs : LockStep ls t T th.phase p' mu' un') :
    LInv { ls with tl := ls.tl.set t { th with phase := p' }, mu := mu', un := un' } := by
  have hk3 := (h.thr t th T hth hT).closing
  have hoth := h.others_idle hth hs.pre
  have hW := fun l => (h.lk l).writer_eq hth hoth
  have hmx := (h.lk .mu).excl t th hth
  generalize hp : th.phase = p at hs hW hmx
  have hne : p ≠ .idle → th.phase ≠ .idle := fun hq => hp ▸ hq
  have c3 : p ≠ .idle → preBody p = true → p' ≠ .idle →
      th.held = [] ∧ (preBody p' = true → ∃ f, T = [Instr.closeLock f]) :=
    fun hq hb _ => ⟨(hk3 (hne hq)).1, fun _ => (hk3 (hne hq)).2 (hp ▸ hb)⟩
  -- the writers after the step: those before (`hW`, at the old phase) or set by the step (`rfl`)
  rcases hs with h0 | _ | h0 | _ | _ | ⟨⟨f, rest, hTf⟩, _⟩
  · exact linv_phase h hth hT hoth rfl rfl (hW .mu) (hW .un) (c3 nofun rfl) (fun _ => h0) nofun
  · exact linv_phase h hth hT hoth rfl rfl (hW .mu) rfl (c3 nofun rfl) (fun _ => hmx rfl) nofun
  · exact linv_phase h hth hT hoth rfl rfl (hW .mu) (hW .un) (c3 nofun rfl) (fun _ => hmx rfl) (fun _ => h0)
  · exact linv_phase h hth hT hoth rfl rfl (hW .mu) rfl (fun _ => ⟨(hk3 (hne nofun)).1, nofun⟩)
      (fun _ => hmx rfl) nofun
  · exact linv_phase h hth hT hoth rfl rfl rfl (hW .un) (fun hi => absurd rfl hi) nofun nofun
  · -- `r.mu.Lock()` announced: the thread has nothing else to do and holds no read lock
    have hT1 : T = [Instr.closeLock f] := by
      subst hTf
      rcases (hwc _ (List.mem_of_getElem? hT)).head with ⟨_, _, rfl⟩ | ⟨hcl, _⟩
      · rfl
      · cases hcl
    have hheld : th.held = [] := by
      have := (h.thr t th T hth hT).runlocks
      rw [hT1] at this
      simpa using this
    exact linv_phase h hth hT hoth rfl rfl rfl (hW .un) (fun _ => ⟨hheld, fun _ => ⟨f, hT1⟩⟩) nofun nofun

/-- While a thread holds `unrefMu` its next instruction takes no lock and, unless it is the `RUnlock`, pushes
nothing. -/
theorem unShape_head {ls : LSys} {i : Instr} {rest : List Instr} (h : unShape (i :: rest)) :
    rlockOf ls i = none ∧ (i = .runlock ∨
      ∀ {sh sh' push evs}, exec sh i = some (sh', push, evs) → unShape (push ++ rest)) := by
  rcases h with ⟨r, hr⟩ | ⟨k, r, hr⟩ | ⟨id, f, r, hr⟩ <;> injection hr with h1 h2 <;> subst h1
  · exact ⟨rfl, Or.inl rfl⟩
  · exact ⟨rfl, Or.inr fun he => by cases exec_spec he <;> exact Or.inl ⟨r, h2⟩⟩
  · exact ⟨rfl, Or.inr fun he => by cases exec_spec he <;> exact Or.inl ⟨r, h2⟩⟩

theorem linv_body {ls ls' : LSys} {t : Nat} {th : LThread} {T : List Instr} (h : LInv ls)
    (huum : ls.unrefUsesMu = false) (hth : ls.tl[t]? = some th) (hT : ls.base.threads[t]? = some T)
    (hp : th.phase = .hasBoth) (hb : closeBody ls t th = some ls') : LInv ls' := by
  obtain ⟨b', hs, rfl⟩ := closeBody_cases hb
  rw [huum]
  simp only [Bool.false_eq_true, if_false]
  have hne : th.phase ≠ .idle := by rw [hp]; simp
  have hk3 := (h.thr t th T hth hT).closing hne
  obtain ⟨f, hTf⟩ := hk3.2 (by rw [hp]; rfl)
  have hoth := h.others_idle hth (.inl hne)
  have hW := fun l => (h.lk l).writer_eq hth hoth
  rw [hp] at hW
  -- first the phase, then the base step
  have h1 : LInv { ls with tl := ls.tl.set t { th with phase := .relUn }, mu := ls.mu, un := ls.un } :=
    linv_phase h hth hT hoth rfl rfl (hW .mu) (hW .un)
      (fun _ => ⟨hk3.1, fun hb => by cases hb⟩)
      (fun _ => (h.lk .mu).excl t th hth (by rw [hp]; rfl)) (fun _ => (h.lk .un).excl t th hth (by rw [hp]; rfl))
  obtain ⟨sh', push, evs, he, rfl⟩ := sysStep_at (hTf ▸ hT) hs
  obtain ⟨hrl, _, hc0⟩ := (exec_rlock he).2 nofun
  have hc0 := hc0 rfl rfl
  rw [hc0] at hrl
  exact linv_same (T' := push ++ []) h1 (get_set_self hth) hT rfl hrl (by rw [hTf]; simp [hc0])
    rfl (fun hu => by rw [hk3.1] at hu; cases hu)

/-- Only the `RLock` of a call (`mu`) and that of `unRefExternal` (`unrefMu`, in the code as it is) take a lock. -/
theorem rlockOf_some {ls : LSys} {i : Instr} {l : LockId} (huum : ls.unrefUsesMu = false)
    (h : rlockOf ls i = some l) :
    i ≠ .runlock ∧ ((l = .mu ∧ isEnter i = true) ∨ (l = .un ∧ ∃ id k, i = .extz id k)) := by
  cases i <;> simp_all [rlockOf, isEnter, LSys.unrefLock]

theorem rlockOf_none {ls : LSys} {i : Instr} (h : rlockOf ls i = none) : isEnter i = false ∧ isExtz i = false := by
  cases i <;> first | exact ⟨rfl, rfl⟩ | cases h

theorem lock_setLock (ls : LSys) (l l' : LockId) (rw : RW) :
    (ls.setLock l rw).lock l' = if l' = l then rw else ls.lock l' := by
  cases l <;> cases l' <;> rfl

theorem linv_rw {ls : LSys} {t : Nat} {th : LThread} {T T' : List Instr} {b' : Sys} {held' : List LockId}
    {l : LockId} {rw' : RW} (h : LInv ls) (hth : ls.tl[t]? = some th) (hT : ls.base.threads[t]? = some T)
    (hthr : b'.threads = ls.base.threads.set t T') (hw : rw'.writer = (ls.lock l).writer)
    (hr : rw'.readers + th.held.count l = (ls.lock l).readers + held'.count l)
    (hoth : ∀ l', l' ≠ l → th.held.count l' = held'.count l')
    (hle : rw'.readers ≤ (ls.lock l).readers ∨ (ls.lock l).writer = none)
    (hok : TOK { th with held := held' } T')
    (hk7 : b'.sh.rlock + (ls.lock l).readers = ls.base.sh.rlock + rw'.readers) :
    LInv { (ls.setLock l rw') with base := b', tl := ls.tl.set t { th with held := held' } } := by
  have hk := h.readers
  have hlk : ∀ l', WOK l' ((ls.setLock l rw').lock l') (ls.tl.set t { th with held := held' }) := by
    intro l'
    rw [lock_setLock]
    split
    · subst l'; exact (h.lk l).held hth hw hr hle
    · exact (h.lk l').held hth rfl (by rw [hoth l' ‹_›]) (Or.inl (Nat.le_refl _))
  cases l <;>
    exact linv_set h hT hthr hok (hlk .mu) (hlk .un) (by simp only [LSys.lock, LSys.setLock] at hk7 ⊢; omega)

theorem linv_base {ls : LSys} {t : Nat} {th : LThread} {i : Instr} {rest : List Instr} {b' : Sys} (h : LInv ls)
    (huum : ls.unrefUsesMu = false) (hth : ls.tl[t]? = some th) (hT : ls.base.threads[t]? = some (i :: rest))
    (hp : th.phase = .idle) (hfree : ∀ l, rlockOf ls i = some l → (ls.lock l).writer = none)
    (hs : sysStep false ls.base (.step t) = some b') : LInv (afterBase ls t th i b') := by
  obtain ⟨sh', push, evs, he, rfl⟩ := sysStep_at hT hs
  have hfr := exec_rlock he
  have hk := h.thr t th _ hth hT
  have hk1 := hk.runlocks
  have hk6 := hk.unref
  have hidle : th.phase ≠ .idle → False := fun hne => hne hp
  have hun := fun hu => unShape_head (ls := ls) (hk6 hu).2
  rcases afterBase_cases ls t th i { sh := sh', threads := ls.base.threads.set t (push ++ rest), log := ls.base.log ++ evs }
    with ⟨hnr, hnp, heq⟩ | ⟨l, hro, hup, heq⟩ | ⟨l, hl, hrun, hh, heq⟩ <;> rw [heq]
  · by_cases hrun' : i = .runlock
    · subst hrun'
      rw [hnr rfl] at hk1; simp at hk1
    · obtain ⟨hcnt, _, hz⟩ := hfr.2 hrun'
      have hc0 : push.count .runlock = 0 := by
        cases hro : rlockOf ls i with
        | none => exact hz (rlockOf_none hro).1 (rlockOf_none hro).2
        | some l => have := hnp _ hro; simp only [] at this; omega
      exact linv_same h hth hT rfl (by simp only []; omega)
        (by rw [List.count_append, hc0, List.count_cons_of_ne hrun']; simp)
        (by rw [hp]; rfl) (fun hu => (hun hu).2.resolve_left hrun' he)
  · -- `RLock()` of `l`
    obtain ⟨hrun', hkind⟩ := rlockOf_some huum hro
    have hc1 : push.count .runlock = 1 := by
      obtain ⟨_, _, _⟩ := hfr.2 hrun'; simp only [] at hup; omega
    have hnoU : LockId.un ∉ th.held := fun hu => by rw [(hun hu).1] at hro; cases hro
    have hk1' : (l :: th.held).length = (push ++ rest).count .runlock := by
      rw [List.length_cons, hk1, List.count_cons_of_ne hrun', List.count_append, hc1]; omega
    have hk6' : LockId.un ∈ l :: th.held →
        (∃ hs, l :: th.held = LockId.un :: hs ∧ LockId.un ∉ hs) ∧ unShape (push ++ rest) := by
      intro hu
      rcases List.mem_cons.mp hu with h1 | h1
      · subst h1
        refine ⟨⟨th.held, rfl, hnoU⟩, ?_⟩
        obtain ⟨eid, ek, rfl⟩ := (hkind.resolve_left fun h => nomatch h.1).2
        exact exec_extz_push he rest
      · exact absurd h1 hnoU
    simp only [] at hup
    exact linv_rw (held' := l :: th.held) h hth hT rfl rfl (by simp; omega)
      (fun l' hne => by simp [Ne.symm hne]) (Or.inr (hfree l hro))
      ⟨hk1', fun hne => (hidle hne).elim, hk6'⟩ (by simp only []; omega)
  · -- `RUnlock()` of `l`
    subst hrun
    obtain ⟨hrl, hpush⟩ := hfr.1 rfl
    subst hpush
    rw [hh] at hk1 hk6
    have hge : th.held.count l ≤ cnt l ls.tl := le_sum_map (fun th : LThread => th.held.count l) hth
    rw [hh, ← (h.lk l).count] at hge
    simp only [List.count_cons_self] at hge
    have hnoU : LockId.un ∉ hl := by
      intro hu
      obtain ⟨⟨hs', h1, h2⟩, _⟩ := hk6 (List.mem_cons_of_mem _ hu)
      injection h1 with _ h3; subst h3; exact h2 hu
    have hk7 := h.readers
    exact linv_rw (held' := hl) h hth hT rfl rfl (by rw [hh]; simp; omega)
      (fun l' hne => by rw [hh]; simp [Ne.symm hne]) (Or.inl (by simp))
      ⟨by simp at hk1 ⊢; omega, fun hne => (hidle hne).elim, fun hu => absurd hu hnoU⟩
      (by cases l <;> simp only [LSys.lock] at hge ⊢ <;> omega)

end GoLevel.CacheL

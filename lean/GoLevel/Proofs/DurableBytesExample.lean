import GoLevel.Proofs.DurableBytesFile
import GoLevel.Proofs.DurableView
/-!
Concrete byte-level disks for the non-vacuity examples of `Props/C04.lean` (byte counts of their records, and
which records lie wholly within a given cut).
-/
namespace GoLevel.Dur
open GoLevel GoLevel.Journal GoLevel.Manifest
open GoLevel.Gen (journalBlockSize journalHeaderSize)

instance (r : Batch.Rec) : Decidable r.valid := by unfold Batch.Rec.valid; infer_instance
instance (g : Grp) : Decidable g.Encodable := by unfold Grp.Encodable; infer_instance
instance (g : Grp) : Decidable g.wf := by unfold Grp.wf; infer_instance
instance (r : MRec) : Decidable r.Encodable :=
  decidable_of_iff (r.jn.all (fun j => decide (j < 2 ^ 63)) = true ∧ r.sq.all (fun s => decide (s < 2 ^ 64)) = true ∧
      r.nf < 2 ^ 63 ∧ (∀ n ∈ r.added, n < 2 ^ 63) ∧ (∀ n ∈ r.deleted, n < 2 ^ 63))
    (by unfold MRec.Encodable; cases r.jn <;> cases r.sq <;> simp)
instance (d : Disk) : Decidable d.Encodable := by unfold Disk.Encodable; infer_instance

/-- comparer name `"c"`; every table at level 0, 100 bytes, empty key bounds -/
def exCtx : EncCtx := ⟨[99], fun n => ⟨0, n, 100, [], []⟩⟩

theorem exCtx_valid : exCtx.Valid :=
  ⟨by decide, fun _ => ⟨by simp [exCtx], by simp [exCtx], by simp [exCtx], by simp [exCtx]⟩⟩

def gA : Grp := ⟨1, [⟨1, [107], [118]⟩], true⟩
def gB : Grp := ⟨2, [⟨1, [108], [119]⟩], true⟩
def gC : Grp := ⟨3, [⟨1, [109], [120]⟩, ⟨0, [107], []⟩], false⟩
def gD : Grp := ⟨5, [⟨1, [110], [121]⟩], false⟩

def mSnap : MRec := { snapshot := true, jn := some 0, sq := some 0, nf := 2 }
def mFirst : MRec := { jn := some 2, sq := some 0, nf := 3 }
/-- the edit of the flush of journal 3 into table 4 -/
def mFlush : MRec := { jn := some 5, sq := some 1, nf := 6, added := [4] }

/-- A DB in the middle of a flush: manifest 1 (snapshot, first commit; the edit of the flush appended but not
    synced), the frozen journal 3 (one synced group), the current journal 5 (one synced group, two written
    without `Sync`), table 4 (the flushed group, synced). -/
def exDisk : Disk :=
  { current := some 1
    manifests := [(1, ⟨[mSnap, mFirst], [mFlush]⟩)]
    journals := [(3, ⟨[gA], []⟩), (5, ⟨[gB], [gC, gD]⟩)]
    tables := [(4, ⟨[gA], true, false⟩)] }

theorem exDisk_encodable : exDisk.Encodable := by decide

theorem len_gA : (encGrpBytes gA).length = 17 := by decide +kernel

/-- journal 5 holds 24 synced bytes and 27 + 24 unsynced ones.  10 unsynced bytes: the cut is in the payload of
    the first unsynced record; 30: in the header of the second one; 39: in its payload. -/
theorem kept_j5_10 : keptRecs [encGrpBytes gB] [encGrpBytes gC, encGrpBytes gD] 10 = 0 := by decide +kernel
theorem kept_j5_30 : keptRecs [encGrpBytes gB] [encGrpBytes gC, encGrpBytes gD] 30 = 1 := by decide +kernel
theorem kept_j5_39 : keptRecs [encGrpBytes gB] [encGrpBytes gC, encGrpBytes gD] 39 = 1 := by decide +kernel
theorem kept_j3 (k : Nat) : keptRecs [encGrpBytes gA] [] k = 0 := by
  have := Journal.fits_le 0 ([encGrpBytes gA] ++ []) ((Journal.encode [encGrpBytes gA]).length + k)
  simp only [keptRecs, List.append_nil, List.length_cons, List.length_nil] at this ⊢
  omega

/-- manifest 1: 10 unsynced bytes cut the edit (7 + 12 bytes) in its payload -/
theorem kept_m1_10 :
    keptRecs [encMRecBytes exCtx mSnap, encMRecBytes exCtx mFirst] [encMRecBytes exCtx mFlush] 10 = 0 := by
  decide +kernel
theorem kept_m1_19 :
    keptRecs [encMRecBytes exCtx mSnap, encMRecBytes exCtx mFirst] [encMRecBytes exCtx mFlush] 19 = 1 := by
  decide +kernel

theorem emitRecord_length_ge (pos : Nat) (r : Bytes) : r.length ≤ (emitRecord pos r).1.length := by
  have := chunksAt_length_ge _ true r (pad_pos_le pos) nofun
  rw [emitRecord_eq, List.length_append]
  omega

theorem keptRecs_big (r : Bytes) (U : List Bytes) (k : Nat) (h : k < r.length) : keptRecs [] (r :: U) k = 0 := by
  have := emitRecord_length_ge 0 r
  simp only [keptRecs, Journal.fits, Journal.encode, Journal.encodeFrom, List.nil_append, List.length_nil,
    Nat.zero_add, Nat.sub_zero]
  rw [if_neg (by omega)]

/-- a put of a 40000-byte value: its journal record fills block 0 and continues in block 1 -/
def gBig : Grp := ⟨1, [⟨1, [107], List.replicate 40000 7⟩], false⟩

def bigDisk : Disk :=
  { current := some 1
    manifests := [(1, ⟨[mSnap, mFirst], []⟩)]
    journals := [(2, ⟨[], [gBig, gD]⟩)] }

theorem gBig_encodable : gBig.Encodable := by
  refine ⟨by decide, by decide, ?_⟩
  intro r hr
  have e : r = ⟨1, [107], List.replicate 40000 7⟩ := List.mem_singleton.1 hr
  subst e
  refine ⟨Or.inr (by decide), by decide, ?_⟩
  show (List.replicate 40000 (7 : UInt8)).length < 2 ^ 64
  rw [List.length_replicate]; decide

theorem bigDisk_encodable : bigDisk.Encodable := by
  refine ⟨by decide, ?_⟩
  intro p hp g hg
  have e : p = (2, ⟨[], [gBig, gD]⟩) := List.mem_singleton.1 hp
  subst e
  have hg' : g = gBig ∨ g = gD := by simpa [LogFile.all] using hg
  rcases hg' with rfl | rfl
  · exact gBig_encodable
  · decide

/-- not by evaluation: the value of `gBig` is long -/
theorem encGrpBytes_put_length_ge (seq : Nat) (key val : Bytes) (sync : Bool) :
    val.length ≤ (encGrpBytes ⟨seq, [⟨Gen.keyTypeVal, key, val⟩], sync⟩).length := by
  simp only [encGrpBytes, Batch.encode, Batch.encodeBody, Batch.encodeRec, List.flatMap_cons, List.flatMap_nil, if_true,
    List.length_append, List.length_cons]
  omega

theorem len_gBig : 40000 ≤ (encGrpBytes gBig).length := by
  have := encGrpBytes_put_length_ge 1 [107] (List.replicate 40000 7) false
  rwa [List.length_replicate] at this

/-- nothing of the two-block record survives a cut at the block boundary (32768 bytes) or in the header of its
    second chunk (32771) -/
theorem kept_big (k : Nat) (hk : k < 40000) : keptRecs [] [encGrpBytes gBig, encGrpBytes gD] k = 0 :=
  keptRecs_big _ _ k (Nat.lt_of_lt_of_le hk len_gBig)

end GoLevel.Dur

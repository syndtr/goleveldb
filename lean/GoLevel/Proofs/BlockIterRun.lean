import GoLevel.Proofs.BlockIterSeek
import GoLevel.Proofs.BlockIterBuild
/-!
# Every call of `blockIter` simulates the cursor; every call sequence answers like `Cursor.run`

In particular a fresh unsliced iterator over `Block.build` output (`run_build`).
-/
namespace GoLevel.C13
open GoLevel

variable {b : BlockR} {kvs : List KV} {off : Nat → Nat} {R : Nat} {rs : Nat → Nat}
variable {cmp : Bytes → Bytes → Ordering}

theorem rel_cur {lo hi q0 q1 : Nat} {xs : List KV} (X : IsSlice kvs xs lo hi) {it : BIter} {p : Pos}
    (h : Rel kvs off rs lo hi q0 q1 it p) :
    it.cur = Cursor.get xs p ∧ posOk p = (Cursor.get xs p).isSome ∧ it.err = none := by
  obtain ⟨_, herr, hpos⟩ := h
  refine ⟨?_, ?_, herr⟩ <;>
  cases p with
  | soi => simp [BIter.cur, BIter.valid, hpos.1, Cursor.get, posOk]
  | eoi => simp [BIter.cur, BIter.valid, hpos.1, Cursor.get, posOk]
  | «at» i =>
    have hx := X.get i (by have := hpos.1; omega)
    obtain ⟨hd, _, hk, hv, _⟩ := Rel.at_facts (it := it) ⟨‹_›, herr, hpos⟩
    rcases hd with hd | hd <;> simp [BIter.cur, BIter.valid, herr, hd, hk, hv, Cursor.get, hx, posOk]

theorem rel_step (L : Layout b kvs off R rs) (hc : LawfulCmp cmp) (hsorted : StrictSorted cmp kvs)
    {lo hi q0 q1 : Nat} (S : SliceCfg kvs R rs lo hi q0 q1) {xs : List KV} (X : IsSlice kvs xs lo hi)
    (cl : Call Bytes) {it : BIter} {p : Pos} (h : Rel kvs off rs lo hi q0 q1 it p) :
    Rel kvs off rs lo hi q0 q1 (BIter.step cmp b cl it).2 (Cursor.step xs (geK cmp) cl p) ∧
      (BIter.step cmp b cl it).1 = posOk (Cursor.step xs (geK cmp) cl p) := by
  have M := h.mid S
  have hnr : it.dir ≠ .released := by rcases M.dirs with h | h | h | h <;> rw [h] <;> simp
  -- `First` and `Last` are `Next` from `.soi` and `Prev` from `.eoi` after the cache is dropped
  have hreset : ∀ d, PosRel kvs off rs { it.dropCache with dir := d } lo hi q0 q1 (if d = .soi then .soi else .eoi) →
      Rel kvs off rs lo hi q0 q1 { it.dropCache with dir := d } (if d = .soi then .soi else .eoi) := fun d hp =>
    ⟨h.cfg.dropCache.congr rfl rfl rfl rfl rfl, by simpa using h.err, hp⟩
  cases cl with
  | first =>
    have := rel_next L S xs X.len (hreset .soi ⟨rfl, M.dc⟩)
    simp only [BIter.step, Cursor.step, first_eq h.err hnr]
    exact ⟨this.rel, this.ok⟩
  | last =>
    simp only [BIter.step, Cursor.step, last_eq h.err hnr]
    exact rel_prev L S xs X.len (hreset .eoi ⟨rfl, M.dc⟩)
  | seek k =>
    have := seek_ready L hc hsorted X k M
    exact ⟨this.rel, this.ok⟩
  | next => exact ⟨(rel_next L S xs X.len h).rel, (rel_next L S xs X.len h).ok⟩
  | prev => exact rel_prev L S xs X.len h

/-- for any relation `Q` (the sliced iterator, the one sliced to nothing); `err = none` also says no loop ran out of fuel -/
theorem run_of_sim {xs : List KV} {Q : BIter → Pos → Prop}
    (hstep : ∀ cl {it p}, Q it p → Q (BIter.step cmp b cl it).2 (Cursor.step xs (geK cmp) cl p) ∧
      (BIter.step cmp b cl it).1 = posOk (Cursor.step xs (geK cmp) cl p))
    (hcur : ∀ {it p}, Q it p → it.cur = Cursor.get xs p ∧ posOk p = (Cursor.get xs p).isSome ∧ it.err = none)
    (cs : List (Call Bytes)) : ∀ {it : BIter} {p : Pos}, Q it p →
    BIter.run cmp b it cs = ((Cursor.run xs (geK cmp) p cs).map fun o => (o.isSome, o)) ∧
      (BIter.exec cmp b it cs).err = none := by
  induction cs with
  | nil => intro it p h; exact ⟨rfl, (hcur h).2.2⟩
  | cons cl cs ih =>
    intro it p h
    obtain ⟨h1, h2⟩ := hstep cl h
    obtain ⟨h3, h4, _⟩ := hcur h1
    simp only [BIter.run, BIter.exec, Cursor.run, List.map_cons]
    rw [(ih h1).1, h2, h3, h4]
    exact ⟨rfl, (ih h1).2⟩

theorem rel_run (L : Layout b kvs off R rs) (hc : LawfulCmp cmp) (hsorted : StrictSorted cmp kvs)
    {lo hi q0 q1 : Nat} (S : SliceCfg kvs R rs lo hi q0 q1) {xs : List KV} (X : IsSlice kvs xs lo hi)
    (cs : List (Call Bytes)) {it : BIter} {p : Pos} (h : Rel kvs off rs lo hi q0 q1 it p) :
    BIter.run cmp b it cs = ((Cursor.run xs (geK cmp) p cs).map fun o => (o.isSome, o)) ∧
      (BIter.exec cmp b it cs).err = none :=
  run_of_sim (fun cl _ _ h => rel_step L hc hsorted S X cl h) (fun h => rel_cur X h) cs h

/-- `isFirst` / `isLast`: what `indexIter.Get` consults to decide whether a data block gets the slice -/
theorem rel_isFirst_isLast (L : Layout b kvs off R rs) {lo hi q0 q1 : Nat} (S : SliceCfg kvs R rs lo hi q0 q1)
    {it : BIter} {i : Nat} (h : Rel kvs off rs lo hi q0 q1 it (.at i)) :
    it.isFirst = decide (i = 0) ∧ it.isLast = decide (i + 1 = hi - lo) := by
  have hin := S.hin
  obtain ⟨hd, hoff, _⟩ := h.at_facts
  obtain ⟨hcfg, _, hlt, hfb⟩ := h
  refine ⟨?_, ?_⟩
  · rcases hfb with f | f
    · simp only [BIter.isFirst, f.dir]
      rw [f.prevOffset, hcfg.real, Bool.eq_iff_iff]
      simp only [beq_iff_eq, decide_eq_true_eq]
      constructor
      · intro e; have := L.off_inj (by omega) (by omega) e; omega
      · intro e; subst e; rfl
    · have hrR : it.restartIndex < R := by have := f.rhi; have := S.q1R; omega
      simp only [BIter.isFirst, f.dir]
      rw [Bool.eq_iff_iff]
      simp only [Bool.and_eq_true, beq_iff_eq, decide_eq_true_eq]
      rw [f.node, hcfg.riStart]
      simp only [List.length_cons, cNodes_length]
      have := f.rc
      rcases S.start_cases f.rlo hrR with ⟨_, hm⟩ | ⟨_, _, hm⟩ <;> rw [hm] <;> omega
  · have : it.isLast = (it.offset == it.offsetLimit) := by rcases hd with e | e <;> simp [BIter.isLast, e]
    rw [this, hoff, hcfg.limit, Bool.eq_iff_iff]
    simp only [beq_iff_eq, decide_eq_true_eq]
    constructor
    · intro e; have := L.off_inj (by omega) (by omega) e; omega
    · intro e; congr 1; omega

theorem SliceCfg.whole (L : Layout b kvs off R rs) : SliceCfg kvs R rs 0 kvs.length 0 R where
  lohi := Nat.zero_le _
  hin := Nat.le_refl _
  q01 := L.rpos
  q1R := Nat.le_refl _
  q0lo := by rw [L.rs0]; exact Nat.le_refl _
  q0max := fun q h1 h2 => by have := L.rs_lt h1 h2; have := L.rs0; omega
  q1hi := L.rs_le_len (by have := L.rpos; omega)

theorem IsSlice.whole (kvs : List KV) : IsSlice kvs kvs 0 kvs.length where
  len := rfl
  get := fun i hi => by rw [Nat.zero_add]; exact getElem?_kv (by omega)

theorem rel_new (L : Layout b kvs off R rs) : Rel kvs off rs 0 kvs.length 0 R (BIter.new b) .soi where
  cfg := ⟨rfl, L.rlen, by rw [L.rs0, L.off0]; rfl, by rw [L.off0]; rfl, L.offN.symm⟩
  err := rfl
  pos := ⟨rfl, rfl, rfl⟩

theorem run_whole (L : Layout b kvs off R rs) (hc : LawfulCmp cmp) (hsorted : StrictSorted cmp kvs)
    (cs : List (Call Bytes)) :
    BIter.run cmp b (newBlockIter cmp b none false) cs =
        ((Cursor.run kvs (geK cmp) .soi cs).map fun o => (o.isSome, o)) ∧
      (BIter.exec cmp b (newBlockIter cmp b none false) cs).err = none :=
  rel_run L hc hsorted (SliceCfg.whole L) (IsSlice.whole kvs) cs (rel_new L)

theorem run_build (hc : LawfulCmp cmp) (ri : Nat) (kvs : List KV) (hs : SmallKV kvs)
    (hsorted : StrictSorted cmp kvs) (hsz : (Block.build ri kvs).length < 2 ^ 32) (cs : List (Call Bytes)) :
    ∃ b, Block.read (Block.build ri kvs) = some b ∧
      BIter.run cmp b (newBlockIter cmp b none false) cs =
        (Cursor.run kvs (geK cmp) .soi cs).map fun o => (o.isSome, o) :=
  ⟨_, read_build ri kvs hsz, (run_whole (layout_build ri kvs hs hsz) hc hsorted cs).1⟩

end GoLevel.C13

import GoLevel.Proofs.RefLoopFHist
/-! Messages that append an id to the history (`ref`, `abandon`, the closing `ref`): the loop's invariant; `SafeF`;
`GL` under every message (C07). -/
namespace GoLevel.RefLoop

/-- version `k` must keep its tables: it is unreleased (a live reader, the current version), or — until
`session.close` — it is released but the loop standing at `nx` has not passed it yet -/
def EnvF.needs (G : EnvF) (nx k : Nat) : Prop := k ∉ G.rel ∨ (G.closing = false ∧ G.cb nx ≤ k)

theorem needs_of_alive {G : EnvF} {nx k : Nat} (hc : G.closing = false) (h : G.alive nx k) : G.needs nx k :=
  h.imp id fun h => ⟨hc, h⟩

/-- Nothing in `rm` belongs to a version that must keep its tables. -/
def SafeF (G : EnvF) (nx : Nat) (rm : List Nat) : Prop := ∀ r ∈ rm, ∀ k, G.inst k → G.needs nx k → r ∉ G.T k

theorem safeF_nil (G : EnvF) (nx : Nat) : SafeF G nx [] := fun r hr => by cases hr

theorem safeF_append {G : EnvF} {nx : Nat} {a b : List Nat} (ha : SafeF G nx a) (hb : SafeF G nx b) :
    SafeF G nx (a ++ b) := by
  intro r hr
  rcases List.mem_append.mp hr with h | h
  · exact ha r h
  · exact hb r h

/-- The versions that still matter only get fewer: releases come in, the loop's base moves up. -/
theorem EnvF.alive.anti {G G' : EnvF} {nx nx' j : Nat} (h : G'.alive nx' j)
    (hrel : ∀ k, k ∈ G.rel → k ∈ G'.rel) (hcb : G.cb nx ≤ G'.cb nx') : G.alive nx j :=
  h.imp (fun h1 h2 => h1 (hrel j h2)) (Nat.le_trans hcb)

theorem EnvF.needs.anti {G G' : EnvF} {nx nx' j : Nat} (h : G'.needs nx' j)
    (hrel : ∀ k, k ∈ G.rel → k ∈ G'.rel) (hc : G'.closing = false → G.closing = false)
    (hcb : G.cb nx ≤ G'.cb nx') : G.needs nx j :=
  h.imp (fun h1 h2 => h1 (hrel j h2)) (fun h1 => ⟨hc h1.1, Nat.le_trans hcb h1.2⟩)

/-- later removals are judged against the final state: what was safe stays safe when a version is released, a delta
arrives or the loop moves on (the set of versions that must keep their tables only shrinks) -/
theorem safeF_shrink {G G' : EnvF} {nx nx' : Nat} {rm : List Nat} (hs : SafeF G nx rm) (hvs : G'.vs = G.vs)
    (hrel : ∀ k, k ∈ G.rel → k ∈ G'.rel) (hc : G'.closing = false → G.closing = false)
    (hcb : G.cb nx ≤ G'.cb nx') : SafeF G' nx' rm := by
  have hn : ∀ k, G'.needs nx' k → G.needs nx k := fun k h => h.anti hrel hc hcb
  cases G; cases G'; cases hvs
  exact fun r hr k hik h => hs r hr k hik (hn k h)

theorem safeF_mono {G : EnvF} {nx nx' : Nat} {rm : List Nat} (h : nx ≤ nx') (hs : SafeF G nx rm) :
    SafeF G nx' rm :=
  safeF_shrink hs rfl (fun _ h => h) id (G.cb_mono h)

/-- `GL` reads the slots, and `rel` and `dn` only to say which versions still matter -/
theorem gl_shrink {G G' : EnvF} {nx nx' : Nat} (h : GL G nx) (hvs : G'.vs = G.vs)
    (hrel : ∀ k, k ∈ G.rel → k ∈ G'.rel) (hcb : G.cb nx ≤ G'.cb nx') : GL G' nx' := by
  have hal : ∀ j, G'.alive nx' j → G.alive nx j := fun j hj => hj.anti hrel hcb
  cases G; cases G'; cases hvs
  exact ⟨fun f j l m h1 h2 h3 h4 => h.gone f j l m h1 h2 h3 (hal j h4),
    fun f j k h1 h2 h3 => h.left f j k h1 h2 (hal j h3)⟩

theorem gl_next {G : EnvF} {nx nx' : Nat} (h : GL G nx) (hle : nx ≤ nx') : GL G nx' :=
  gl_shrink h rfl (fun _ h => h) (G.cb_mono hle)

theorem base_pushF {S : State} {G : EnvF} (hI : InvF S G) {s : Slot} (h0 : G.N = 0 → s.L = []) :
    (G.push s).L ((G.push s).cb S.next) = G.L (G.cb S.next) := by
  by_cases hN : 0 < G.N
  · obtain ⟨h1, h2⟩ := cb_pushF hI.wf (s := s) hN S.next
    rw [h1, EnvF.push_L_lt h2]
  · -- the first id: the loop has no view of anything yet, whichever id is the base
    have hN0 : G.N = 0 := by omega
    have hL : ∀ j, G.L j = [] := fun j => EnvF.L_not_inst fun hi => by have := EnvF.inst_lt hi; omega
    rw [EnvF.push_L, hL, hL, h0 hN0]; simp

theorem noReuse_push {G : EnvF} {s : Slot} (h : NoReuse (G.push s)) : NoReuse G := by
  refine ⟨?_, ?_⟩
  · intro f j l m h1 h2 h3 h4 h5 h6
    have hm := EnvF.inst_lt (EnvF.mem_T_inst h6)
    have hl := EnvF.inst_lt h3
    refine h.gone f j l m h1 h2 ((EnvF.push_inst_lt hl).mpr h3) ?_ ?_ ?_
    · rw [EnvF.push_T_lt (by omega)]; exact h4
    · rw [EnvF.push_T_lt hl]; exact h5
    · rw [EnvF.push_T_lt hm]; exact h6
  · intro f j k h1 h2 h3 h4
    have hk := EnvF.inst_lt h2
    have := h.left f j k h1 ((EnvF.push_inst_lt hk).mpr h2)
    rw [EnvF.push_T_lt (by omega), EnvF.push_L_lt hk, EnvF.push_T_lt hk] at this
    exact this h3 h4

/-- An appended id leaves the removal history as it is: `next` and the base of the counters stay, so nothing is
accounted anew, and no counter moves. -/
theorem histC_pushF {S S' : State} {G : EnvF} {R : List Nat} (hI : InvF S G) {s : Slot} (h0 : G.N = 0 → s.L = [])
    (hc : G.closing = false) (hnx : S'.next = S.next) (hfr : S'.fileRef = S.fileRef) (hH : HistC S G R) :
    HistC S' (G.push s) R := by
  intro _ hnu f
  have hacc : AccF S' (G.push s) f ↔ AccF S G f := by
    unfold AccF
    rw [hnx, base_pushF hI h0]
    exact or_congr (exists_congr fun k => and_congr_right fun hk => by
      rw [EnvF.push_T_lt (by have := hI.nx; omega)]) Iff.rfl
  rw [hacc, hfr]
  exact hH hc (noReuse_push hnu) f

theorem din_pushF {G : EnvF} (h : G.WF) {s : Slot} {k : Nat} (hk : k < G.dn) :
    (G.push s).din ((G.push s).up (k + 1)) = G.din (G.up (k + 1)) := by
  obtain ⟨_, hupN, e⟩ := h.push_below s hk
  rw [e]; exact EnvF.push_din_lt hupN

/-- the appended id touches `abandoned` and `ref` only -/
theorem inv_pushF {S : State} {G : EnvF} (hI : InvF S G) {s : Slot} (hw : (G.push s).WF) (h0 : G.N = 0 → s.L = [])
    {ab : List Nat} {rf : List (Nat × List Nat)} (last : Nat)
    (hab : ab.Nodup ∧ ∀ k, k ∈ ab ↔ S.next ≤ k ∧ k < G.N + 1 ∧ ¬ (G.push s).inst k)
    (href : ∀ k, rf.lookup k = if S.next ≤ k ∧ (G.push s).inst k ∧ k ∉ G.rel then some ((G.push s).T k) else none) :
    InvF { S with abandoned := ab, ref := rf, last := last } (G.push s) := by
  refine ⟨hw, by show S.next ≤ _; rw [EnvF.push_N]; have := hI.nx; omega, by rwa [EnvF.push_N], href, ?_, ?_,
    ⟨hI.rfd.1, ?_⟩, ?_⟩
  · intro k
    rw [hI.rld k]
    by_cases hk : k < G.dn
    · rw [din_pushF hI.wf hk]; rfl
    · simp [hk]
  · intro k
    rw [hI.dl k]
    by_cases hk : k < G.dn
    · rw [din_pushF hI.wf hk]
      simp only [EnvF.push_inst_lt (hI.wf.push_below s hk).1]; rfl
    · simp [hk]
  · intro k
    rw [hI.rfd.2 k]
    by_cases hk : k < S.next
    · simp only [EnvF.push_inst_lt (show k < G.N by have := hI.nx; omega)]; rfl
    · simp [hk]
  · intro f
    rw [hI.cnt f, base_pushF hI h0]
    show _ = _ + (S.referenced.filter _).length
    congr 2
    apply List.filter_congr
    intro k hk
    have := ((hI.rfd.2 k).mp hk).1
    rw [EnvF.push_T_lt (by have := hI.nx; omega)]

/-- the invariant does not read the `closing` flag (only `WF` does) -/
theorem invF_flag {S : State} {G : EnvF} (hI : InvF S G) {c : Bool} (hw : ({ G with closing := c } : EnvF).WF) :
    InvF S { G with closing := c } :=
  ⟨hw, hI.nx, hI.ab, hI.ref, hI.rld, hI.dl, hI.rfd, hI.cnt⟩

theorem inv_refF {S : State} {G : EnvF} (hI : InvF S G) {fs L : List Nat} {din : Delta}
    (hw : (G.push (.inst fs L din)).WF) (h0 : G.N = 0 → L = []) :
    (S.ref.lookup G.N).isSome = false ∧
    ∀ last, InvF { S with ref := (G.N, fs) :: S.ref, last := last } (G.push (.inst fs L din)) := by
  have hnr : G.N ∉ G.rel := fun h => by have := EnvF.inst_lt (hI.wf.rel _ h).1; omega
  have hni : ¬ G.inst G.N := fun h => by have := EnvF.inst_lt h; omega
  have hlook : (S.ref.lookup G.N).isSome = false := by rw [hI.ref]; simp [hni]
  refine ⟨hlook, fun last => inv_pushF hI hw h0 last ⟨hI.ab.1, fun k => ?_⟩ fun k => ?_⟩
  · rw [hI.ab.2 k]
    by_cases hk : k < G.N
    · simp only [EnvF.push_inst_lt hk]
      constructor
      · rintro ⟨h1, h2, h3⟩; exact ⟨h1, by omega, h3⟩
      · rintro ⟨h1, h2, h3⟩; exact ⟨h1, hk, h3⟩
    · constructor
      · rintro ⟨_, h2, _⟩; omega
      · rintro ⟨h1, h2, h3⟩
        have : k = G.N := by omega
        subst this
        exact absurd (EnvF.push_inst_eq.mpr rfl) h3
  · rw [lookup_cons_eq]
    by_cases hk : k = G.N
    · subst hk
      have hi : (G.push (.inst fs L din)).inst G.N := EnvF.push_inst_eq.mpr rfl
      have ht : (G.push (.inst fs L din)).T G.N = fs := EnvF.push_T_eq
      simp [hI.nx, hi, ht, hnr]
    · simp only [hk, if_false, hI.ref k]
      by_cases hkn : k < G.N
      · simp only [EnvF.push_inst_lt hkn, EnvF.push_T_lt hkn]
      · have h1 : ¬ G.inst k := fun h => hkn (EnvF.inst_lt h)
        have h2 : ¬ (G.push (.inst fs L din)).inst k := fun h => by
          have := EnvF.inst_lt h; simp at this; omega
        simp [h1, h2]

theorem inv_abandonF {S : State} {G : EnvF} (hI : InvF S G) (hw : (G.push .failed).WF) :
    G.N ∉ S.abandoned ∧ InvF { S with abandoned := G.N :: S.abandoned } (G.push .failed) := by
  have hna : G.N ∉ S.abandoned := fun h => by have := ((hI.ab.2 _).mp h).2.1; omega
  refine ⟨hna, inv_pushF hI hw (fun _ => rfl) S.last ⟨List.nodup_cons.mpr ⟨hna, hI.ab.1⟩, fun k => ?_⟩ fun k => ?_⟩
  · rw [List.mem_cons, hI.ab.2 k]
    simp only [EnvF.push_failed_inst]
    have hnN : ¬ G.inst G.N := fun h => by have := EnvF.inst_lt h; omega
    constructor
    · rintro (rfl | ⟨h1, h2, h3⟩)
      · exact ⟨hI.nx, by omega, hnN⟩
      · exact ⟨h1, by omega, h3⟩
    · rintro ⟨h1, h2, h3⟩
      by_cases hk : k = G.N
      · exact Or.inl hk
      · exact Or.inr ⟨h1, by omega, h3⟩
  · rw [hI.ref k]
    simp only [EnvF.push_failed_inst, EnvF.push_failed_T]

theorem alive_pushF {G : EnvF} (wf : G.WF) {s : Slot} (hN : 0 < G.N) {nx j : Nat} :
    (G.push s).alive nx j ↔ G.alive nx j := by
  unfold EnvF.alive
  rw [(cb_pushF wf (s := s) hN nx).1]; rfl

/-- An appended id keeps `GL` when the tables it brings have stayed in every version since a version that still
matters had them, and its view counts them (a failed commit's id brings none). -/
theorem gl_push {G : EnvF} (wf : G.WF) {nx : Nat} (h : GL G nx) {s : Slot}
    (hmono : ∀ f ∈ s.T, ∀ j l, j < l → G.inst l → G.alive nx j → f ∈ G.T j → f ∈ G.T l)
    (hleft : ∀ f ∈ s.T, ∀ j, G.alive nx j → f ∈ G.T j → f ∈ s.L) : GL (G.push s) nx := by
  by_cases hN : 0 < G.N
  · refine ⟨?_, ?_⟩
    · intro f j l m hjl hlm hil hal hj hl
      rw [alive_pushF wf hN] at hal
      rcases EnvF.push_inst_cases hil with ⟨hlN, hil'⟩ | ⟨hlN, _⟩
      · rw [EnvF.push_T_lt (by omega)] at hj
        rw [EnvF.push_T_lt hlN] at hl
        by_cases hm : m < G.N
        · rw [EnvF.push_T_lt hm]; exact h.gone f j l m hjl hlm hil' hal hj hl
        · intro hfm
          rcases EnvF.push_T_mem hfm with ⟨h1, _⟩ | ⟨_, h2⟩
          · omega
          · exact hl (hmono f h2 j l hjl hil' hal hj)
      · intro hfm
        rcases EnvF.push_T_mem hfm with ⟨h1, _⟩ | ⟨h1, _⟩ <;> omega
    · intro f j k hjk hik hal hj hk
      rw [alive_pushF wf hN] at hal
      rcases EnvF.push_inst_cases hik with ⟨hkN, hik'⟩ | ⟨hkN, _⟩
      · rw [EnvF.push_T_lt (by omega)] at hj
        rw [EnvF.push_L_lt hkN] at hk
        rw [EnvF.push_T_lt hkN]
        exact h.left f j k hjk hik' hal hj hk
      · subst hkN
        rw [EnvF.push_T_lt hjk] at hj
        rw [EnvF.push_L_eq] at hk
        rw [EnvF.push_T_eq]
        exact fun hf => hk (hleft f hf j hal hj)
  · refine ⟨?_, ?_⟩
    · intro f j l m hjl hlm hil
      have := EnvF.inst_lt hil; simp at this; omega
    · intro f j k hjk hik
      have := EnvF.inst_lt hik; simp at this; omega

theorem gl_stepF {nx : Nat} {G G' : EnvF} {m : Msg} (wf : G.WF) (h : GL G nx) (hs : EnvStepF nx G m G') : GL G' nx := by
  cases hs with
  | expire v => exact h
  | ref fs L din _ _ _ _ _ _ hmono hleft => exact gl_push wf h hmono hleft
  | abandon _ _ => exact gl_push wf h (fun f hf => by cases hf) (fun f hf => by cases hf)
  | delta _ _ _ _ =>
    exact gl_shrink h rfl (fun _ h => h) (G.up_mono (by
      show min G.dn nx ≤ min (G.up (G.dn + 1)) nx
      have := G.up_ge_self (G.dn + 1); omega))
  | rel k _ _ _ => exact gl_shrink h rfl (fun _ h => List.mem_cons_of_mem _ h) (Nat.le_refl _)
  | relClose _ _ => exact gl_shrink h rfl (fun _ h => List.mem_cons_of_mem _ h) (Nat.le_refl _)
  | refClose _ _ _ =>
    -- `GL` does not read the flag
    have h' := gl_push (s := .inst [] [] ⟨[], []⟩) wf h (fun f hf => by cases hf) (fun f hf => by cases hf)
    exact ⟨h'.gone, h'.left⟩

end GoLevel.RefLoop

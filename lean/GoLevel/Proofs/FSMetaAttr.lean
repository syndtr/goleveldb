import Lean.Meta.Tactic.Simp.RegisterCommand

/-- the definitions of `Model/FSMeta.lean`, unfolded to run `setMeta` / `GetMeta` on an explicit file system -/
register_simp_attr fsm_eval

import GoLevel.Proofs.LocksInv
/-! `SetReadOnly` takes effect, and the persistent-error state fails fast (machine as coded): a thread at the first
`select` of a write-side call takes only an error arm while the token is in `writeLockC`; `compReadOnly` stays set; the
`hasperr` loop does not give its token back. -/
namespace GoLevel.Locks
open CompErr

/-- while the token is in `writeLockC` — the DB open, closing or closed — a thread at the first `select` of a
write-side call stays there, or returns the error it receives from `compPerErrC`, or (`closeC` closed) returns
`ErrClosed`: it does not get the lock -/
theorem sel_thread_step_arms (cfg : Cfg) (s t : St) (f : Bool) (h : Step cfg f s t) (i' : Nat) (p' q' : Pc)
    (hi' : s.ws[i']? = some p') (hsel : selNext p' = some q') (htok : s.tok = true) :
    t.ws[i']? = some p' ∨ t.ws[i']? = some (.retE s.ehErr) ∨ (s.closed = true ∧ t.ws[i']? = some (.ret false)) := by
  rcases step_at h hi' with e | ⟨_, _, _, e, _⟩ | ⟨_, e, o⟩
  · exact .inl e
  · subst e; cases hsel
  · rcases o.2.2.2 _ hsel with ht | rfl | ⟨hc, rfl⟩
    · rw [htok] at ht; cases ht
    · exact .inr (.inl e)
    · exact .inr (.inr ⟨hc, e⟩)

theorem sel_thread_step (cfg : Cfg) (s t : St) (f : Bool) (h : Step cfg f s t) (i' : Nat) (p' q' : Pc)
    (hi' : s.ws[i']? = some p') (hsel : selNext p' = some q') (htok : s.tok = true) (hcl : s.closed = false) :
    t.ws[i']? = some p' ∨ t.ws[i']? = some (.retE s.ehErr) := by
  rcases sel_thread_step_arms cfg s t f h i' p' q' hi' hsel htok with e | e | ⟨hc, _⟩
  · exact .inl e
  · exact .inr e
  · rw [hcl] at hc; cases hc

theorem steps_ro (cfg : Cfg) (s t : St) (h : Steps cfg s t) (hr : s.ro = true) : t.ro = true :=
  steps_inv_of_step (fun s => s.ro = true) (fun _ _ _ h => (sim h).flags.2.1) s t h hr

namespace Tr
variable {cfg : Cfg} {n n' : Cnt} {s s' : St}

/-- the `hasperr` loop does not give its token back: with `compactionError` in `hasperr`, a token in `writeLockC`
for `compWriteLocking` and no `SetReadOnly` between its two `select`s, the next state is the same in these respects
(the machine leaves `hasperr` only through `ehClose`, which keeps both) -/
theorem hasperr_locked (h : Tr cfg s n n' s') (he : s.eh = .hasperr) (hk : s.ehTok = true) (htok : s.tok = true)
    (hw : n.sr = 0) : s'.ehTok = true ∧ s'.cwl = s.cwl := by
  cases h with
  | takeTok ht | takeTokSR ht | ehAcquire _ ht => rw [htok] at ht; cases ht
  | srSend | srGiveBack | srGiveUp => cases hw
  | clKept hx | ehTake hx => rw [he] at hx; cases hx
  | _ => exact ⟨hk, rfl⟩

end Tr

end GoLevel.Locks

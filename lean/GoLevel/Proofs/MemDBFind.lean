import GoLevel.Proofs.MemDBList
/-! The search loops of the skip list (`findGE`, `findLT`, `findLast`) in closed form (C14). -/
namespace GoLevel.MemDB

variable {cmp : Cmp}

theorem walkGE_eq (key : Bytes) (chain : List Bytes) (node : Node) :
    walkGE cmp key chain node =
      (((chain.takeWhile (below cmp key)).getLast?).or node, (chain.dropWhile (below cmp key)).head?) := by
  induction chain generalizing node with
  | nil => simp [walkGE]
  | cons x xs ih =>
    by_cases hx : cmp x key = .lt
    · simp only [walkGE, hx, if_true, ih, List.takeWhile_cons, List.dropWhile_cons, below, beq_self_eq_true]
      rw [List.getLast?_cons]
      cases (List.takeWhile (fun x => cmp x key == Ordering.lt) xs).getLast? <;> simp
    · have hb : (cmp x key == .lt) = false := by simp [hx]
      simp [walkGE, hx, below, hb]

theorem walkLT_eq_fst (key : Bytes) (chain : List Bytes) (node : Node) :
    walkLT cmp key chain node = (walkGE cmp key chain node).1 := by
  induction chain generalizing node with
  | nil => rfl
  | cons x xs ih => simp only [walkLT, walkGE, ih]; split <;> rfl

theorem walkLast_eq (chain : List Bytes) (node : Node) : walkLast chain node = chain.getLast?.or node := by
  induction chain generalizing node with
  | nil => simp [walkLast]
  | cons x xs ih =>
    simp only [walkLast, ih]
    rw [List.getLast?_cons]
    cases xs.getLast? <;> simp

section
variable (hc : LawfulCmp cmp)
include hc

/-- a sorted level entered at the predecessor found on a level `cur` contained in it: the walk ends at the level's own
predecessor and successor of the key -/
theorem walkGE_level {l cur : List Bytes} (hs : Sorted cmp l) (hsub : ∀ x ∈ cur, x ∈ l) (key : Bytes) :
    walkGE cmp key (after l (pred cmp cur key)) (pred cmp cur key) = (pred cmp l key, succ cmp l key) := by
  rw [walkGE_eq]
  cases he : pred cmp cur key with
  | none => simp [after, pred, succ]
  | some n =>
    obtain ⟨hn, hlt⟩ := pred_mem he
    obtain ⟨pre, post, rfl, h1, _⟩ := sorted_split hs (hsub n hn)
    have hpre : ∀ x ∈ pre, below cmp key x = true := by
      intro x hx; simp [below, hc.trans _ _ _ (h1 x hx) hlt]
    have hnb : below cmp key n = true := by simp [below, hlt]
    rw [after_append (fun x hx => hc.ord.ne_of_lt (h1 x hx)), pred, succ, List.takeWhile_append_of_pos hpre,
      List.dropWhile_append_of_pos hpre, List.takeWhile_cons, List.dropWhile_cons, hnb]
    simp only [if_true, List.getLast?_append, List.getLast?_cons]
    cases (List.takeWhile (below cmp key) post).getLast? <;> simp

theorem walkLT_level {l cur : List Bytes} (hs : Sorted cmp l) (hsub : ∀ x ∈ cur, x ∈ l) (key : Bytes) :
    walkLT cmp key (after l (pred cmp cur key)) (pred cmp cur key) = pred cmp l key := by
  rw [walkLT_eq_fst, walkGE_level hc hs hsub]

theorem walkLast_level {l cur : List Bytes} (hs : Sorted cmp l) (hsub : ∀ x ∈ cur, x ∈ l) :
    walkLast (after l cur.getLast?) cur.getLast? = l.getLast? := by
  rw [walkLast_eq]
  cases he : cur.getLast? with
  | none => simp [after]
  | some n =>
    obtain ⟨pre, post, rfl, h1, _⟩ := sorted_split hs (hsub n (List.mem_of_getLast? he))
    rw [after_append (fun x hx => hc.ord.ne_of_lt (h1 x hx)), List.getLast?_append, List.getLast?_cons]
    cases post.getLast? <;> simp

end

/-- the lowest level of a top-first list of levels -/
def bottom (T : List (List Bytes)) : List Bytes := T.getLast?.getD []

theorem bottom_cons_cons (a b : List Bytes) (T : List (List Bytes)) : bottom (a :: b :: T) = bottom (b :: T) := by
  simp [bottom, List.getLast?_cons_cons]

theorem bottom_single (a : List Bytes) : bottom [a] = a := by simp [bottom]

theorem bottom_top (T : List (List Bytes)) : bottom ([] :: T) = bottom T := by
  cases T <;> simp [bottom, List.getLast?_cons_cons]

theorem bottom_mem {T : List (List Bytes)} (h : T ≠ []) : bottom T ∈ T := by
  unfold bottom
  cases hl : T.getLast? with
  | none => simp [List.getLast?_eq_none_iff] at hl; exact absurd hl h
  | some x => simpa using List.mem_of_getLast? hl

section
variable (hc : LawfulCmp cmp)
include hc

/-! The descents below enter every level at the predecessor found on the level above (`cur`; the head node is the
predecessor on an empty level above the top), so they are stated for `cur :: T`. -/

/-- `findGE(key, prev)`: the node found is the successor on level 0 whatever level the search stops at (without
`prev` it stops where it meets the key itself); with `prev` the path is the predecessor on every level -/
theorem findGEFrom_eq (key : Bytes) (prev : Bool) : ∀ (T : List (List Bytes)) (cur : List Bytes) (acc : List Node),
    (∀ l ∈ T, Sorted cmp l) → (cur :: T).Pairwise (fun hi lo => ∀ x ∈ hi, x ∈ lo) → T ≠ [] →
    findGEFrom cmp key prev T (pred cmp cur key) acc =
      ⟨succ cmp (bottom T) key, isEq cmp key (succ cmp (bottom T) key),
        if prev then (T.map (pred cmp · key)).reverse ++ acc else acc⟩ := by
  intro T
  induction T with
  | nil => intro _ _ _ _ h; exact absurd rfl h
  | cons l lower ih =>
    intro cur acc hS hT hne
    have hl : Sorted cmp l := hS l (.head _)
    have hT' := (List.pairwise_cons.1 hT).2
    unfold findGEFrom
    simp only [walkGE_level hc hl ((List.pairwise_cons.1 hT).1 l (.head _))]
    by_cases hk : prev = false ∧ key ∈ l
    · -- early exit: the key itself was met on this level, and then it is on the bottom level too
      obtain ⟨rfl, hk⟩ := hk
      have hkB : key ∈ bottom (l :: lower) := by
        cases lower with
        | nil => exact hk
        | cons l2 rest => rw [bottom_cons_cons]; exact (List.pairwise_cons.1 hT').1 _ (bottom_mem (by simp)) key hk
      simp [succ_of_mem hc hl hk, succ_of_mem hc (hS _ (bottom_mem hne)) hkB, isEq, hc.refl]
    · have hgo : (!prev && isEq cmp key (succ cmp l key)) = false := by
        rw [succ_eq_iff hc hl]
        cases prev
        · simpa using hk
        · rfl
      simp only [hgo, Bool.false_eq_true, if_false]
      cases lower with
      | nil => cases prev <;> simp [bottom_single]
      | cons l2 rest =>
        simp only [List.isEmpty_cons, Bool.false_eq_true, if_false]
        rw [ih l _ (fun x hx => hS x (.tail _ hx)) hT' (by simp), bottom_cons_cons]
        cases prev <;> simp

theorem findLTFrom_eq (key : Bytes) : ∀ (T : List (List Bytes)) (cur : List Bytes),
    (∀ l ∈ T, Sorted cmp l) → (cur :: T).Pairwise (fun hi lo => ∀ x ∈ hi, x ∈ lo) →
    findLTFrom cmp key T (pred cmp cur key) = pred cmp (bottom (cur :: T)) key := by
  intro T
  induction T with
  | nil => intro cur _ _; rw [bottom_single]; rfl
  | cons l lower ih =>
    intro cur hS hT
    have hT' := List.pairwise_cons.1 hT
    rw [findLTFrom, walkLT_level hc (hS l (.head _)) (hT'.1 l (.head _)),
      ih l (fun x hx => hS x (.tail _ hx)) hT'.2, bottom_cons_cons]

theorem findLastFrom_eq : ∀ (T : List (List Bytes)) (cur : List Bytes),
    (∀ l ∈ T, Sorted cmp l) → (cur :: T).Pairwise (fun hi lo => ∀ x ∈ hi, x ∈ lo) →
    findLastFrom T cur.getLast? = (bottom (cur :: T)).getLast? := by
  intro T
  induction T with
  | nil => intro cur _ _; rw [bottom_single]; rfl
  | cons l lower ih =>
    intro cur hS hT
    have hT' := List.pairwise_cons.1 hT
    rw [findLastFrom, walkLast_level hc (hS l (.head _)) (hT'.1 l (.head _)), ih l (fun x hx => hS x (.tail _ hx)) hT'.2,
      bottom_cons_cons]

end

end GoLevel.MemDB

import GoLevel.Proofs.IterView
/-!
# Range restriction commutes with visibility
-/
namespace GoLevel

section
variable {c : UCmp} (hl : LawfulUCmp c)
include hl

/-- for an entry the DB can hold, "not below `probe(S, keyMaxSeq)`" is "user key not below `S`" -/
theorem ge_probeMax (e : Entry) (S : Bytes) (hkind : e.kind ≤ Gen.keyTypeVal) (hseq : e.seq ≤ Gen.keyMaxSeq) :
    (icmp c e.key (probe S Gen.keyMaxSeq) != .lt) = (c.cmp e.ukey S != .lt) := by
  have : icmp c e.key (probe S Gen.keyMaxSeq) = .lt ↔ c.cmp e.ukey S = .lt := by
    rw [icmp_probe_lt hl e.key S _ hkind]
    exact ⟨fun h => h.elim id fun h => absurd hseq (Nat.not_le.2 h.2), .inl⟩
  rw [Bool.eq_iff_iff, bne_iff_ne, bne_iff_ne, Ne, Ne, this]

theorem lt_probeMax (e : Entry) (L : Bytes) (hkind : e.kind ≤ Gen.keyTypeVal) (hseq : e.seq ≤ Gen.keyMaxSeq) :
    (icmp c e.key (probe L Gen.keyMaxSeq) == .lt) = (c.cmp e.ukey L == .lt) := by
  simpa [bne] using congrArg (fun b => !b) (ge_probeMax hl e L hkind hseq)

/-- the internal range `[probe(Start, max), probe(Limit, max))` cuts the raw entries by user key -/
theorem sliceOf_probe (es : List Entry) (start limit : Option Bytes)
    (hk : ∀ e ∈ es, e.kind ≤ Gen.keyTypeVal) (hq : ∀ e ∈ es, e.seq ≤ Gen.keyMaxSeq) :
    sliceOf c es (start.map (probe · Gen.keyMaxSeq)) (limit.map (probe · Gen.keyMaxSeq))
      = es.filter (fun e => inRange c start limit e.ukey) := by
  simp only [sliceOf]
  apply List.filter_congr
  intro e he
  simp only [inRange]
  congr 1
  · cases start with
    | none => rfl
    | some S => exact ge_probeMax hl e S (hk e he) (hq e he)
  · cases limit with
    | none => rfl
    | some L => exact lt_probeMax hl e L (hk e he) (hq e he)

theorem isVisible_filter (es : List Entry) (seq : Nat) (g : Bytes → Bool) (e : Entry) (hg : g e.ukey = true) :
    isVisible c (es.filter (fun e => g e.ukey)) seq e = isVisible c es seq e := by
  simp only [isVisible]
  congr 1
  rw [List.all_filter]
  apply List.all_congr rfl
  intro e'
  by_cases hc : c.cmp e'.ukey e.ukey = .eq
  · have := hl.eq_of _ _ hc
    simp [this, hg]
  · simp [hc]

theorem visible_slice (es : List Entry) (seq : Nat) (start limit : Option Bytes) :
    visible c (es.filter (fun e => inRange c start limit e.ukey)) seq
      = (visible c es seq).filter (fun p => inRange c start limit p.1) := by
  simp only [visible]
  rw [List.filter_map]
  congr 1
  rw [List.filter_filter, List.filter_filter]
  apply List.filter_congr
  intro e _
  by_cases hg : inRange c start limit e.ukey = true
  · rw [isVisible_filter hl es seq (inRange c start limit) e hg]
    simp [hg, Bool.and_comm]
  · simp [hg]

/-- `run_new` for a raw iterator restricted to the internal range of `util.Range{Start, Limit}` -/
theorem run_new_range {σ : Type} {o : IterOps σ} {R : σ → Pos → Prop} {U : List Entry} (start limit : Option Bytes)
    (hsim : Sim o c (sliceOf c U (start.map (probe · Gen.keyMaxSeq)) (limit.map (probe · Gen.keyMaxSeq))) R)
    (hs : SortedEntries c U) (hk : ∀ e ∈ U, e.kind ≤ Gen.keyTypeVal) (hq : ∀ e ∈ U, e.seq ≤ Gen.keyMaxSeq)
    {raw : σ} (hR : R raw .soi) (seq fuel : Nat) (hfuel : U.length < fuel) (cs : List (Call Bytes)) :
    DBIter.run o c (DBIter.new raw seq fuel) cs
      = Cursor.run ((visible c U seq).filter (fun p => inRange c start limit p.1)) (geUser c) .soi cs := by
  rw [← visible_slice hl, ← sliceOf_probe hl U start limit hk hq]
  exact run_new hsim hl (hs.sublist List.filter_sublist) (fun e he => hk e (List.mem_filter.1 he).1) hR seq fuel
    (Nat.lt_of_le_of_lt (List.length_filter_le _ _) hfuel) cs

end
end GoLevel

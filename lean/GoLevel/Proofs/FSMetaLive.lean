import GoLevel.Proofs.FSMeta
import GoLevel.Proofs.FSMetaRepair
/-!
`setMeta` from a clean directory: what `GetMeta` can see in a state it can end in (`Shows`, which the crash images
satisfy as well: `Proofs/FSMetaImage.lean`) and what it answers there (`liveAnswer`, `Shows.answer`).
-/
namespace GoLevel.FSMeta

/-- what `GetMeta` answers in a state `setMeta b` ended in (no crash): `b` once `CURRENT.<b>` is completely written
    and `b` is the greater number, or once the rename has happened -/
def liveAnswer (p : CleanP) (fs : FS) : FD :=
  if fs.read .cur = some (.gen (m p.b)) then m p.b
  else if fs.read (.pend p.b) = some (.gen (m p.b)) ∧ p.a < p.b then m p.b
  else m p.a

theorem liveAnswer_cases (p : CleanP) (fs : FS) : liveAnswer p fs = m p.a ∨ liveAnswer p fs = m p.b := by
  unfold liveAnswer
  split
  · exact .inr rfl
  · split
    · exact .inr rfl
    · exact .inl rfl

/-- what `GetMeta` can see in a state `setMeta b` ended in and in the crash images of one: the old `CURRENT` or the
    new one and nothing pending; or the old `CURRENT` and `CURRENT.<b>` pending, complete or unreadable -/
structure Shows (p : CleanP) (fs : FS) : Prop where
  pendOK : PendOK fs
  files : fs.vdir.files = p.files
  sees : (fs.read .cur = some (.ptr (m p.a) p.canonA) ∨ fs.read .cur = some (.gen (m p.b))) ∧ fs.pending = [] ∨
    fs.read .cur = some (.ptr (m p.a) p.canonA) ∧ fs.pending = [p.b] ∧
      ∃ v, (v = .gen (m p.b) ∨ v.parse = none) ∧ fs.read (.pend p.b) = some v

theorem Shows.answer {p : CleanP} (hp : p.Ok) {fs : FS} (h : Shows p fs) (ro : Bool) :
    ask {} ro fs = .ok (liveAnswer p fs) := by
  rw [ask_eq]
  have hne : Content.ptr (m p.a) p.canonA ≠ .gen (m p.b) := by simp [Content.gen, hp.ne]
  rcases h.sees with ⟨hc, hpe⟩ | ⟨hc, hpe, v, hv, hr⟩
  · have hnb : fs.read (.pend p.b) = none := by
      have : fs.vdir.get (.pend p.b) = none := Classical.not_not.1 fun hg => by simpa [hpe] using FS.mem_pending.2 hg
      simp [FS.read, this]
    rcases hc with hc | hc
    · rw [answer_settled _ (by rw [FS.names, hc]; rfl) hpe (by rw [h.files]; exact hp.fa)]
      simp [liveAnswer, hc, hnb, hne]
    · rw [answer_settled _ (by rw [FS.names, hc]; rfl) hpe (by rw [h.files]; exact hp.fb)]
      simp [liveAnswer, hc]
  · rw [answer_one_pending hc (by rw [h.files]; exact hp.fa) hpe hr]
    rcases hv with rfl | hv
    · simp [liveAnswer, hc, hr, hp.ne, Content.gen, Content.parse, h.files, hp.fb]
    · have : v ≠ .gen (m p.b) := fun e => by simp [e, Content.gen, Content.parse] at hv
      simp [liveAnswer, hc, hr, hne, hv, this]

theorem Shows.answer_cases {p : CleanP} (hp : p.Ok) {fs : FS} (h : Shows p fs) (ro : Bool) :
    ask {} ro fs = .ok (m p.a) ∨ ask {} ro fs = .ok (m p.b) := by
  rw [h.answer hp]
  exact (liveAnswer_cases p _).imp (congrArg _) (congrArg _)

theorem cutOf_parse (c : Content) : (cutOf c).parse = none := by cases c <;> rfl

theorem filling_parse {fd : FD} {y : Inode} (hy : y ∈ filling .empty (.gen fd)) :
    (y.dur = .gen fd ∨ y.dur.parse = none) ∧ (y.vol = .gen fd ∨ y.vol.parse = none) := by
  simp only [filling, List.mem_cons, List.not_mem_nil, or_false] at hy
  rcases hy with rfl | rfl | rfl | rfl | rfl | rfl <;> simp [cutOf_parse, parse_empty]

theorem Shape.shows {p : CleanP} {r : Except Err Unit} {fs : FS} (h : Shape p r fs) : Shows p fs := by
  obtain ⟨a, b, ca, bak, files⟩ := p
  cases h with
  | new _ y hy =>
    have : y.vol = .ptr (m b) true ∨ y.vol.parse = none := (filling_parse hy).2
    cases bak <;> refine ⟨?_, ?_, ?_⟩ <;> simp [*, PendOK, fsm_eval]
  | _ => cases bak <;> refine ⟨?_, ?_, ?_⟩ <;> simp [PendOK, fsm_eval]

theorem shape_live (p : CleanP) (hp : p.Ok) {r : Except Err Unit} {fs : FS} (h : Shape p r fs) (ro : Bool) :
    ask {} ro fs = .ok (liveAnswer p fs) := h.shows.answer hp ro

/-- `setMeta b` has returned nil only in the last form: every other one carries `r ≠ .ok ()` -/
theorem Shape.eq_fin_of_ok {p : CleanP} {fs : FS} (h : Shape p (.ok ()) fs) :
    fs = ⟨[p.cur, p.bakDone, p.newDone], { ents := [(.cur, 2), (.bak, 1)], files := p.files }, []⟩ := by
  cases h <;> simp_all

theorem shape_done_live (p : CleanP) (hp : p.Ok) {fs : FS} (h : Shape p (.ok ()) fs) (ro : Bool) :
    ask {} ro fs = .ok (m p.b) := by
  rw [shape_live p hp h, h.eq_fin_of_ok]
  simp [liveAnswer, fsm_eval]

end GoLevel.FSMeta

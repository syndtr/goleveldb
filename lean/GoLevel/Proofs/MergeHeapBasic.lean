import GoLevel.Model.MergeHeap
/-!
# `container/heap` (model `GoHeap`): structural facts

`swap`, `up`, `down`, `init`, `push` permute the slice; the order axioms `SWO`, the heap predicate, and what the
proofs need to know about the parent `(k - 1) / 2` of the implicit tree.
-/
namespace GoLevel.GoHeap

/-- `less` is a strict weak order on the elements satisfying `S` -/
structure SWO (less : Nat → Nat → Bool) (S : Nat → Prop) : Prop where
  irrefl   : ∀ a, S a → less a a = false
  trans    : ∀ a b d, S a → S b → S d → less a b = true → less b d = true → less a d = true
  negtrans : ∀ a b d, S a → S b → S d → less a b = false → less b d = false → less a d = false

theorem SWO.asymm {less : Nat → Nat → Bool} {S : Nat → Prop} (hs : SWO less S) {a b : Nat} (ha : S a) (hb : S b)
    (h : less a b = true) : less b a = false := by
  cases hba : less b a with
  | false => rfl
  | true =>
    have := hs.trans a b a ha hb ha h hba
    rw [hs.irrefl a ha] at this; cases this

theorem getD_mem {h : List Nat} {k : Nat} (hk : k < h.length) : h.getD k 0 ∈ h := by
  rw [List.getD_eq_getElem?_getD, List.getElem?_eq_getElem hk]
  exact List.getElem_mem hk

def LinkOK (less : Nat → Nat → Bool) (h : List Nat) (j : Nat) : Prop :=
  less (h.getD j 0) (h.getD ((j - 1) / 2) 0) = false

/-- the heap invariant of `container/heap` on the prefix of length `n`, for all nodes `≥ i0`:
`!h.Less(j, parent(j))` for every `j < n` whose parent is `≥ i0` -/
def HeapFrom (less : Nat → Nat → Bool) (h : List Nat) (n i0 : Nat) : Prop :=
  ∀ j, 0 < j → j < n → i0 ≤ (j - 1) / 2 → LinkOK less h j

def IsHeap (less : Nat → Nat → Bool) (h : List Nat) : Prop := HeapFrom less h h.length 0

@[simp] theorem swap_length (h : List Nat) (i j : Nat) : (swap h i j).length = h.length := by
  simp [swap]

theorem swap_getD_right {h : List Nat} {i j : Nat} (hj : j < h.length) : (swap h i j).getD j 0 = h.getD i 0 := by
  unfold swap
  rw [List.getD_eq_getElem?_getD, List.getElem?_set_self (by rw [List.length_set]; exact hj)]
  rfl

theorem swap_getD_left {h : List Nat} {i j : Nat} (hi : i < h.length) : (swap h i j).getD i 0 = h.getD j 0 := by
  by_cases hij : i = j
  · rw [← hij]; exact swap_getD_right hi
  · unfold swap
    rw [List.getD_eq_getElem?_getD, List.getElem?_set_ne (Ne.symm hij), List.getElem?_set_self hi]
    rfl

theorem swap_getD_other {h : List Nat} {i j k : Nat} (h1 : k ≠ i) (h2 : k ≠ j) :
    (swap h i j).getD k 0 = h.getD k 0 := by
  unfold swap
  rw [List.getD_eq_getElem?_getD, List.getElem?_set_ne (Ne.symm h2), List.getElem?_set_ne (Ne.symm h1),
    ← List.getD_eq_getElem?_getD]

theorem swap_perm {h : List Nat} {i j : Nat} (hi : i < h.length) (hj : j < h.length) : (swap h i j).Perm h := by
  unfold swap
  rw [List.getD_eq_getElem?_getD, List.getD_eq_getElem?_getD, List.getElem?_eq_getElem hi,
    List.getElem?_eq_getElem hj]
  exact List.set_set_perm hi hj

theorem parent_lt {k : Nat} (hk : 0 < k) : (k - 1) / 2 < k := by omega

theorem eq_child {k i : Nat} (hk : 0 < k) (hp : (k - 1) / 2 = i) : k = 2 * i + 1 ∨ k = 2 * i + 2 := by omega

theorem parent_child (i : Nat) : (2 * i + 1 - 1) / 2 = i ∧ (2 * i + 2 - 1) / 2 = i := by omega

/-- the child `down` compares with: the right one if it exists and is `Less` than the left one -/
def child (less : Nat → Nat → Bool) (h : List Nat) (i n : Nat) : Nat :=
  if 2 * i + 1 + 1 < n && lessAt less h (2 * i + 1 + 1) (2 * i + 1) then 2 * i + 1 + 1 else 2 * i + 1

theorem downF_succ (less : Nat → Nat → Bool) (fuel : Nat) (h : List Nat) (i n : Nat) :
    downF less (fuel + 1) h i n =
      if 2 * i + 1 ≥ n then h
      else if !lessAt less h (child less h i n) i then h
      else downF less fuel (swap h i (child less h i n)) (child less h i n) n := rfl

theorem child_cases (less : Nat → Nat → Bool) (h : List Nat) (i n : Nat) :
    (child less h i n = 2 * i + 1 ∧ (2 * i + 2 < n → lessAt less h (2 * i + 2) (2 * i + 1) = false)) ∨
    (child less h i n = 2 * i + 2 ∧ 2 * i + 2 < n ∧ lessAt less h (2 * i + 2) (2 * i + 1) = true) := by
  unfold child
  by_cases h1 : 2 * i + 1 + 1 < n
  · cases h2 : lessAt less h (2 * i + 1 + 1) (2 * i + 1) with
    | true => right; simp [h1]
    | false => left; simp
  · left; simp [h1]

theorem child_bounds (less : Nat → Nat → Bool) (h : List Nat) {i n : Nat} (h1 : 2 * i + 1 < n) :
    i < child less h i n ∧ child less h i n < n ∧ (child less h i n - 1) / 2 = i := by
  rcases child_cases less h i n with ⟨e, _⟩ | ⟨e, h2, _⟩ <;> rw [e]
  · exact ⟨by omega, h1, (parent_child i).1⟩
  · exact ⟨by omega, h2, (parent_child i).2⟩

theorem upF_succ (less : Nat → Nat → Bool) (fuel : Nat) (h : List Nat) (j : Nat) :
    upF less (fuel + 1) h j =
      if ((j - 1) / 2 == j || !lessAt less h j ((j - 1) / 2)) then h
      else upF less fuel (swap h ((j - 1) / 2) j) ((j - 1) / 2) := rfl

theorem downF_length (less : Nat → Nat → Bool) (n fuel : Nat) (h : List Nat) (i : Nat) :
    (downF less fuel h i n).length = h.length := by
  induction fuel generalizing h i with
  | zero => rfl
  | succ fuel ih =>
    rw [downF_succ]
    split
    · rfl
    · split
      · rfl
      · rw [ih, swap_length]

theorem downF_perm (less : Nat → Nat → Bool) (n fuel : Nat) (h : List Nat) (i : Nat) (hn : n ≤ h.length) :
    (downF less fuel h i n).Perm h ∧ ∀ k, n ≤ k → (downF less fuel h i n).getD k 0 = h.getD k 0 := by
  induction fuel generalizing h i with
  | zero => exact ⟨List.Perm.refl _, fun _ _ => rfl⟩
  | succ fuel ih =>
    rw [downF_succ]
    by_cases h1 : 2 * i + 1 ≥ n
    · rw [if_pos h1]; exact ⟨List.Perm.refl _, fun _ _ => rfl⟩
    · rw [if_neg h1]
      split
      · exact ⟨List.Perm.refl _, fun _ _ => rfl⟩
      · obtain ⟨hic, hcn, _⟩ := child_bounds less h (Nat.lt_of_not_le h1)
        have hcl := Nat.lt_of_lt_of_le hcn hn
        obtain ⟨hp, hge⟩ := ih (swap h i (child less h i n)) (child less h i n) (by rw [swap_length]; exact hn)
        refine ⟨hp.trans (swap_perm (Nat.lt_trans hic hcl) hcl), fun k hk => ?_⟩
        have hck := Nat.lt_of_lt_of_le hcn hk
        rw [hge k hk, swap_getD_other (Nat.ne_of_gt (Nat.lt_trans hic hck)) (Nat.ne_of_gt hck)]

theorem upF_length (less : Nat → Nat → Bool) :
    ∀ (fuel : Nat) (h : List Nat) (j : Nat), (upF less fuel h j).length = h.length := by
  intro fuel
  induction fuel with
  | zero => intro h j; rfl
  | succ fuel ih =>
    intro h j
    rw [upF_succ]
    split
    · rfl
    · rw [ih, swap_length]

theorem upF_perm (less : Nat → Nat → Bool) (fuel : Nat) (h : List Nat) (j : Nat) (hj : j < h.length) :
    (upF less fuel h j).Perm h := by
  induction fuel generalizing h j with
  | zero => exact List.Perm.refl _
  | succ fuel ih =>
    rw [upF_succ]
    split
    · exact List.Perm.refl _
    · have hi : (j - 1) / 2 < h.length :=
        Nat.lt_of_le_of_lt (Nat.le_trans (Nat.div_le_self _ _) (Nat.sub_le _ _)) hj
      exact (ih _ _ (by rw [swap_length]; exact hi)).trans (swap_perm hi hj)

theorem initLoop_length (less : Nat → Nat → Bool) (n k : Nat) (h : List Nat) :
    (initLoop less n k h).length = h.length := by
  induction k generalizing h with
  | zero => rfl
  | succ k ih => simp only [initLoop]; rw [ih]; exact downF_length less n _ _ _

theorem initLoop_perm (less : Nat → Nat → Bool) (k : Nat) (h : List Nat) (hk : k ≤ h.length / 2) :
    (initLoop less h.length k h).Perm h := by
  induction k generalizing h with
  | zero => exact List.Perm.refl _
  | succ k ih =>
    simp only [initLoop]
    have hlen : (down less h k h.length).length = h.length := downF_length less _ _ _ _
    have hp : (down less h k h.length).Perm h := (downF_perm less _ _ _ _ (Nat.le_refl _)).1
    have := ih (down less h k h.length) (by rw [hlen]; omega)
    rw [hlen] at this
    exact this.trans hp

theorem init_perm (less : Nat → Nat → Bool) (h : List Nat) : (init less h).Perm h :=
  initLoop_perm less _ h (Nat.le_refl _)

theorem push_perm (less : Nat → Nat → Bool) (h : List Nat) (x : Nat) : (push less h x).Perm (h ++ [x]) :=
  upF_perm less _ _ _ (by simp)

end GoLevel.GoHeap

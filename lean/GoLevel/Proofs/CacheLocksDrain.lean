import GoLevel.Proofs.CacheLocksMeasure
/-! The lock-level cache system (C17): the readers a pending `Close` waits for DRAIN.  `Phi l ls` is the
total weight of the instructions the threads that hold read lock `l` still have to execute.  While a writer is
announced on `mu` (and on `l`), no step of any thread increases it, every holder can move, and a holder's step
decreases it: under weak fairness the readers leave and `Close` gets its lock. -/
namespace GoLevel.CacheL
open GoLevel.CacheM

def bnd (b : Sys) : Nat := b.sh.lru.recent.length + (pending b).countP promoteLike

def phiAt (l : LockId) (ls : LSys) (B : Nat) (t : Nat) : Nat :=
  if l ∈ (ls.tl[t]?.getD { held := [], phase := .idle }).held then tw B (ls.base.threads[t]?.getD []) else 0

theorem phiAt_eq {l : LockId} {ls : LSys} {B t : Nat} {th : LThread} {T : List Instr}
    (hth : ls.tl[t]? = some th) (hT : ls.base.threads[t]? = some T) :
    phiAt l ls B t = if l ∈ th.held then tw B T else 0 := by
  simp [phiAt, hth, hT]

theorem phiAt_congr {l : LockId} {ls ls' : LSys} {B j : Nat} (h1 : ls'.tl[j]? = ls.tl[j]?)
    (h2 : ls'.base.threads[j]? = ls.base.threads[j]?) : phiAt l ls' B j = phiAt l ls B j := by
  simp [phiAt, h1, h2]

def Phi (l : LockId) (ls : LSys) : Nat := ((List.range ls.tl.length).map (phiAt l ls (bnd ls.base))).sum

theorem wt_pos (B : Nat) (i : Instr) : 1 ≤ wt B i := by
  cases i <;> simp [wt] <;> omega

theorem afterBase_tl {ls : LSys} {t : Nat} {th : LThread} {i : Instr} {b' : Sys} (hth : ls.tl[t]? = some th) :
    ∃ held', (afterBase ls t th i b').tl = ls.tl.set t { th with held := held' } ∧
      ∀ l ∈ held', l ∈ th.held ∨ rlockOf ls i = some l := by
  rcases afterBase_cases ls t th i b' with ⟨_, _, h⟩ | ⟨l, hl, _, h⟩ | ⟨l, rest, _, hh, h⟩ <;> rw [h]
  · exact ⟨th.held, by simp [set_self hth], fun _ => .inl⟩
  · exact ⟨l :: th.held, by simp, fun l' hl' => (List.mem_cons.mp hl').symm.imp_right fun (e : l' = l) => e ▸ hl⟩
  · exact ⟨rest, by simp, fun _ hl' => .inl (hh ▸ List.mem_cons_of_mem _ hl')⟩

/-- `step_measure` for a thread of the system, at `B = bnd`. -/
theorem bnd_step {b : Sys} {t : Nat} {i : Instr} {rest push : List Instr} {sh' : Shared} {evs : List Ev}
    (hT : b.threads[t]? = some (i :: rest)) (he : exec b.sh i = some (sh', push, evs)) (hen : isEnter i = false) :
    bnd { sh := sh', threads := b.threads.set t (push ++ rest), log := b.log ++ evs } ≤ bnd b ∧
    (isCloseLock i = false → tw (bnd b) push < wt (bnd b) i) := by
  obtain ⟨h1, h2⟩ := pending_step push sh' (b.log ++ evs) hT
  have h1 := h1.countP_eq promoteLike
  have h2 := h2.countP_eq promoteLike
  rw [List.countP_cons] at h1
  rw [List.countP_append] at h2
  obtain ⟨hbe, hwt⟩ := step_measure he hen
  generalize (if promoteLike i = true then 1 else 0) = c at h1 hbe hwt
  unfold bnd
  exact ⟨by simp only []; omega, fun hc => hwt hc _ (by omega)⟩

theorem phi_frame {ls ls' : LSys} {l : LockId} {t : Nat} {th th' : LThread} {T T' : List Instr}
    (hth : ls.tl[t]? = some th) (hT : ls.base.threads[t]? = some T)
    (htl : ls'.tl = ls.tl.set t th') (hthr : ls'.base.threads = ls.base.threads.set t T')
    (hB : bnd ls'.base ≤ bnd ls.base)
    (ht : l ∈ th'.held → l ∈ th.held ∧ tw (bnd ls.base) T' ≤ tw (bnd ls.base) T) :
    Phi l ls' ≤ Phi l ls ∧
    (l ∈ th.held → tw (bnd ls.base) T' < tw (bnd ls.base) T → Phi l ls' < Phi l ls) := by
  have hth' : ls'.tl[t]? = some th' := by rw [htl]; exact get_set_self hth
  have hT' : ls'.base.threads[t]? = some T' := by rw [hthr]; exact get_set_self hT
  have hmono : ∀ j, phiAt l ls' (bnd ls'.base) j ≤ phiAt l ls' (bnd ls.base) j := by
    intro j; unfold phiAt; split
    · exact tw_mono hB _
    · exact Nat.le_refl _
  have hle : ∀ j, phiAt l ls' (bnd ls'.base) j ≤ phiAt l ls (bnd ls.base) j := by
    intro j
    refine Nat.le_trans (hmono j) ?_
    by_cases hj : j = t
    · subst hj
      rw [phiAt_eq hth' hT', phiAt_eq hth hT]
      split
      · rw [if_pos (ht ‹_›).1]; exact (ht ‹_›).2
      · exact Nat.zero_le _
    · have hj := Ne.symm hj
      exact Nat.le_of_eq (phiAt_congr (by rw [htl, List.getElem?_set_ne hj]) (by rw [hthr, List.getElem?_set_ne hj]))
  unfold Phi
  rw [htl, List.length_set]
  refine ⟨sum_map_le fun j _ => hle j, fun hl hlt => ?_⟩
  refine sum_map_lt (fun j _ => hle j) (List.mem_range.mpr (List.getElem?_eq_some_iff.mp hth).1)
    (Nat.lt_of_le_of_lt (hmono t) ?_)
  rw [phiAt_eq hth' hT', phiAt_eq hth hT, if_pos hl]
  split <;> omega

/-- An enabled ordinary instruction of thread `t` while a writer is announced on `l`: it takes no read lock on `l`. -/
theorem phi_base_step {ls : LSys} {l : LockId} {t : Nat} {th : LThread} {i : Instr} {rest : List Instr} {b' : Sys}
    (hth : ls.tl[t]? = some th) (hT : ls.base.threads[t]? = some (i :: rest))
    (hen : isEnter i = false) (hcl : isCloseLock i = false)
    (hfree : ∀ l', rlockOf ls i = some l' → (ls.lock l').writer = none) (hlw : (ls.lock l).writer ≠ none)
    (hs : sysStep false ls.base (.step t) = some b') :
    Phi l (afterBase ls t th i b') ≤ Phi l ls ∧ (l ∈ th.held → Phi l (afterBase ls t th i b') < Phi l ls) := by
  obtain ⟨sh', push, evs, he, rfl⟩ := sysStep_at hT hs
  obtain ⟨held', htl, hheld⟩ := afterBase_tl (i := i)
    (b' := { sh := sh', threads := ls.base.threads.set t (push ++ rest), log := ls.base.log ++ evs }) hth
  obtain ⟨hB, hwt⟩ := bnd_step hT he hen
  have hlt : tw (bnd ls.base) (push ++ rest) < tw (bnd ls.base) (i :: rest) := by
    simp only [tw_append, tw_cons]; exact Nat.add_lt_add_right (hwt hcl) _
  have h := phi_frame (l := l) hth hT htl (by rw [afterBase_base]) (by rw [afterBase_base]; exact hB)
    fun hl' => ⟨(hheld l hl').resolve_right fun h1 => hlw (hfree l h1), Nat.le_of_lt hlt⟩
  exact ⟨h.1, fun hl => h.2 hl hlt⟩

theorem phi_noninc {ls ls' : LSys} {a : Act} {l : LockId} (hr : LReachable ls) (huum : ls.unrefUsesMu = false)
    (hmw : ls.mu.writer ≠ none) (hlw : (ls.lock l).writer ≠ none) (hs : lstep ls a = some ls') :
    Phi l ls' ≤ Phi l ls := by
  have hI := linv_reachable hr huum
  cases a with
  | call t c =>
    obtain ⟨th, hth, _, ht', _, rfl⟩ := lstep_call hs
    have hcp := (pending_call c ht').countP_eq promoteLike
    have h0 : (startCall c).countP promoteLike = 0 := by cases c <;> rfl
    exact And.left <| phi_frame hth ht' (set_self hth).symm rfl
      (by unfold bnd; rw [List.countP_append] at hcp; simp only []; omega) fun hl => nomatch ((hI.thr t th [] hth ht').of_holder hl).2
  | step t =>
    obtain ⟨th, T, hth, hT, hc⟩ := lstepThread_cases hs
    rcases hc with ⟨_, _, _, _, rfl⟩ | ⟨hp, hb⟩ | ⟨hp, i, rest, b', hTi, hcl, hfree, hb, rfl⟩
    · exact And.left <| phi_frame hth hT rfl (set_self hT).symm (Nat.le_refl _) fun hl => ⟨hl, Nat.le_refl _⟩
    · -- the body of `Close`: the thread holds no read lock
      obtain ⟨b', hsb, rfl⟩ := closeBody_cases hb
      have hpre : preBody th.phase = true := by rcases hp with ⟨hp, _⟩ | hp <;> rw [hp] <;> rfl
      have hk3 := (hI.thr t th T hth hT).closing fun h0 => by rw [h0] at hpre; cases hpre
      obtain ⟨f, hTf⟩ := hk3.2 hpre
      subst hTf
      obtain ⟨sh', push, evs, he, rfl⟩ := sysStep_at hT hsb
      exact And.left <| phi_frame hth hT rfl rfl (bnd_step hT he rfl).1 fun hl => by rw [hk3.1] at hl; cases hl
    · subst hTi
      have hen : isEnter i = false := by
        cases hi : isEnter i with
        | false => rfl
        | true =>
          have : rlockOf ls i = some .mu := by cases i <;> first | rfl | cases hi
          exact absurd (hfree _ this) hmw
      exact (phi_base_step hth hT hen hcl hfree hlw hb).1

theorem phi_holder_dec {ls : LSys} {l : LockId} (hr : LReachable ls) (huum : ls.unrefUsesMu = false)
    (hlw : (ls.lock l).writer ≠ none) {t : Nat} {th : LThread} (hth : ls.tl[t]? = some th) (hl : l ∈ th.held)
    (hun : ls.un.writer = none ∨ l = .un) :
    ∃ ls', lstepThread ls t = some ls' ∧ Phi l ls' < Phi l ls := by
  obtain ⟨i, rest, b', hT, hcl, hen, hfree, hb, hstep⟩ := holder_enabled hr huum hth hl hun
  exact ⟨_, hstep, (phi_base_step hth hT hen hcl hfree hlw hb).2 hl⟩

/-- A holder always has something left to do (its `RUnlock`). -/
theorem phi_zero {ls : LSys} {l : LockId} (hr : LReachable ls) (huum : ls.unrefUsesMu = false)
    (h0 : Phi l ls = 0) : (ls.lock l).readers = 0 := by
  have hI := linv_reachable hr huum
  rw [(hI.lk l).count]
  rcases Nat.eq_zero_or_pos (cnt l ls.tl) with h | h
  · exact h
  · exfalso
    obtain ⟨t, th, hth, hl⟩ := cnt_pos h
    obtain ⟨T, hT⟩ := hI.thread_of hth
    have hmem := ((hI.thr t th T hth hT).of_holder hl).2
    have hle := le_sum_map (phiAt l ls (bnd ls.base)) (List.getElem?_range (List.getElem?_eq_some_iff.mp hth).1)
    rw [phiAt_eq hth hT, if_pos hl] at hle
    unfold Phi at h0
    cases T with
    | nil => cases hmem
    | cons i rest => have := wt_pos (bnd ls.base) i; simp at hle; omega

end GoLevel.CacheL

import GoLevel.Proofs.IterErrMerged
import GoLevel.Proofs.IterErrIndexed
import GoLevel.Proofs.IterErrDBRun
import GoLevel.Proofs.IterStack
/-!
# The whole stack over children that fail (C02 / C08)

`ENode` (a memdb / level-0 table iterator that fails as a whole, or an indexed iterator whose blocks fail) is a
`FailSim` whose twin is the error-free `Node`; `ENodeSpec` describes such a child and its error-free
counterpart `NodeSpec`.
-/
namespace GoLevel

namespace ENode

def proj : ENode → Node
  | .arr a => .arr a.inner
  | .idx x => .idx (EIndexed.proj x)

def Healthy : ENode → Prop
  | .arr a => a.err = none
  | .idx x => EIndexed.Healthy x

def Failed (c : UCmp) : ENode → Err → Prop
  | .arr a, e => a.err = some e
  | .idx x, e => x.err = some e ∧ EIndexed.cur c x = none

theorem step_arr (c : UCmp) (cl : Call IKey) (a : FailChild ArrIter) :
    (ENode.ops c).toIterOps.step cl (.arr a) = .arr ((EIndexed.dops c).toIterOps.step cl a) := by cases cl <;> rfl

theorem step_idx (c : UCmp) (cl : Call IKey) (x : EIndexed) :
    (ENode.ops c).toIterOps.step cl (.idx x) = .idx ((EIndexed.ops c).toIterOps.step cl x) := by cases cl <;> rfl

theorem failSim (c : UCmp) : FailSim (ENode.ops c) (Node.ops c) proj Healthy (Failed c) := by
  have ha := FailChild.failSim (ArrIter.ops c)
  have hx := EIndexed.failSim c
  refine ⟨?_, ?_, ?_, ?_, ?_, ?_, ?_⟩
  · intro s h; cases s with
    | arr a => exact ha.herr a h
    | idx x => exact hx.herr x h
  · intro s h; cases s with
    | arr a => exact ha.hcur a h
    | idx x => exact hx.hcur x h
  · intro s cl h he; cases s with
    | arr a =>
      rw [step_arr] at he ⊢
      exact ⟨(ha.hstep a cl h he).1, (NodeSpec.step_arr c cl _).symm ▸ congrArg Node.arr (ha.hstep a cl h he).2⟩
    | idx x =>
      rw [step_idx] at he ⊢
      exact ⟨(hx.hstep x cl h he).1, (NodeSpec.step_idx c cl _).symm ▸ congrArg Node.idx (hx.hstep x cl h he).2⟩
  · intro s cl e h he; cases s with
    | arr a => rw [step_arr] at he ⊢; exact ha.hfail a cl e h he
    | idx x => rw [step_idx] at he ⊢; exact hx.hfail x cl e h he
  · intro s e h; cases s with
    | arr a => exact ha.ferr a e h
    | idx x => exact hx.ferr x e h
  · intro s e h; cases s with
    | arr a => exact ha.masked a e h
    | idx x => exact hx.masked x e h
  · intro s e cl h; cases s with
    | arr a => rw [step_arr]; exact ha.sticky a e cl h
    | idx x => rw [step_idx]; exact hx.sticky x e cl h

end ENode

/-- a child of the raw iterator together with how it fails -/
inductive ENodeSpec
  | arr (xs : List Entry) (plan : Option (Nat × Err))
  | idx (chs : List EIdxChild)

namespace ENodeSpec

def spec : ENodeSpec → NodeSpec
  | .arr xs _ => .arr xs
  | .idx chs => .idx (chs.map EIndexed.toIdx)

/-- the freshly created child; a nested indexed iterator has the `strict` of the whole stack -/
def fresh (strict : Bool) : ENodeSpec → ENode
  | .arr xs plan => .arr (FailChild.new ⟨xs, .soi⟩ plan)
  | .idx chs => .idx (EIndexed.new chs strict)

theorem proj_fresh (strict : Bool) (sp : ENodeSpec) : (sp.fresh strict).proj = sp.spec.fresh := by
  cases sp <;> rfl

theorem healthy_fresh (sp : ENodeSpec) : (sp.fresh true).Healthy := by
  cases sp with
  | arr xs plan => rfl
  | idx chs => exact ⟨rfl, rfl, fun a h => by cases h⟩

end ENodeSpec

/-- the strict raw iterator `DB.newRawIterator` builds, over children that fail -/
def eRaw (specs : List ENodeSpec) : EMerged ENode := EMerged.new (specs.map (·.fresh true)) true

theorem eRaw_healthy (specs : List ENodeSpec) : EMerged.Healthy ENode.Healthy (eRaw specs) := by
  refine ⟨rfl, rfl, ?_⟩
  intro s hs
  simp only [eRaw, EMerged.new, MergedIter.new, List.mem_map] at hs
  obtain ⟨sp, _, rfl⟩ := hs
  exact sp.healthy_fresh

theorem eRaw_proj (specs : List ENodeSpec) :
    EMerged.proj ENode.proj (eRaw specs) = MergedIter.new ((specs.map (·.spec)).map (·.fresh)) := by
  simp only [eRaw, EMerged.proj, EMerged.new, MergedIter.new, MergedIter.mapIters, List.map_map]
  congr 1
  apply List.map_congr_left
  intro sp _
  exact sp.proj_fresh true

theorem eRaw_rel (c : UCmp) (specs : List ENodeSpec) (U : List Entry) :
    MergedIter.Rel (Node.ops c) c (stackRs c (specs.map (·.spec))) ((specs.map (·.spec)).map (·.list)) U
      (EMerged.proj ENode.proj (eRaw specs)) .soi := by
  rw [eRaw_proj]; exact stack_rel_new c _ U

theorem eDB_rel (c : UCmp) (specs : List ENodeSpec) (U : List Entry) (seq fuel : Nat) (hfuel : U.length < fuel) :
    DBRel c (MergedIter.Rel (Node.ops c) c (stackRs c (specs.map (·.spec))) ((specs.map (·.spec)).map (·.list)) U)
      U seq ((EDBIter.new (eRaw specs) seq fuel).base.mapRaw (EMerged.proj ENode.proj)) .soi :=
  ⟨rfl, hfuel, .soi rfl (eRaw_rel c specs U)⟩

end GoLevel

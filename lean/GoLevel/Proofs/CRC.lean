import GoLevel.Model.CRC
/-! CRC32C: changing one byte of the input changes the checksum (and the masked checksum). -/
namespace GoLevel.CRC

theorem tab_eq (b : UInt8) : tab b = entry b.toNat := by
  have h : b.toNat < 256 := UInt8.toNat_lt b
  simp [tab, table, h]

def hi (i : Nat) : UInt8 := (entry i >>> 24).toUInt8

/-- `unhiAux cs v` is the xor of the `cs[k]` over the set bits `k` of `v` -/
def unhiAux : List Nat → Nat → Nat
  | [], _ => 0
  | c :: cs, v => (if v % 2 = 1 then c else 0) ^^^ unhiAux cs (v / 2)

/-- Left inverse of `hi` on `[0, 256)`.  `hi` is linear over xor (the table entries are remainders modulo the
    polynomial), so its inverse is too: constant `k` is the index whose entry has high byte `2 ^ k`. -/
def unhi (v : UInt8) : Nat := unhiAux [241, 226, 196, 136, 16, 32, 177, 98] v.toNat

/-- the high bytes of the 256 table entries are pairwise distinct: evaluated over the whole table -/
theorem unhi_hi : ∀ i < 256, unhi (hi i) = i := by decide +kernel

theorem hi_inj {i j : Nat} (hi' : i < 256) (hj : j < 256) (h : hi i = hi j) : i = j := by
  rw [← unhi_hi i hi', h, unhi_hi j hj]

theorem tab_hi_inj {x y : UInt8} (h : (tab x >>> 24).toUInt8 = (tab y >>> 24).toUInt8) : x = y := by
  rw [tab_eq, tab_eq] at h
  exact UInt8.toNat_inj.mp (hi_inj (UInt8.toNat_lt x) (UInt8.toNat_lt y) h)

theorem tab_inj {x y : UInt8} (h : tab x = tab y) : x = y := tab_hi_inj (by rw [h])

theorem step_inj_byte {s : UInt32} {b b' : UInt8} (h : step s b = step s b') : b = b' := by
  unfold step at h
  have h1 : tab (s.toUInt8 ^^^ b) = tab (s.toUInt8 ^^^ b') := (UInt32.xor_left_inj _).mp h
  exact (UInt8.xor_right_inj _).mp (tab_inj h1)

theorem hi_xor_shift (t s : UInt32) : ((t ^^^ (s >>> 8)) >>> 24).toUInt8 = (t >>> 24).toUInt8 := by
  apply UInt8.toNat_inj.mp
  have hs : s.toNat < 2 ^ 32 := UInt32.toNat_lt s
  simp only [UInt32.toNat_toUInt8, UInt32.toNat_shiftRight, UInt32.toNat_xor, Nat.shiftRight_xor_distrib]
  have : s.toNat >>> 8 >>> 24 = 0 := by
    rw [← Nat.shiftRight_add, Nat.shiftRight_eq_div_pow]
    exact Nat.div_eq_of_lt hs
  simp [this]

theorem step_inj_state {s s' : UInt32} {b : UInt8} (h : step s b = step s' b) : s = s' := by
  -- the top byte of `step s b` is that of the table entry, which gives the index `lo s ^^^ b`, hence `lo s`;
  -- xoring the entry away leaves `s >>> 8`
  unfold step at h
  have h1 := congrArg (fun v : UInt32 => (v >>> 24).toUInt8) h
  simp only [hi_xor_shift] at h1
  have hx := tab_hi_inj h1
  rw [hx] at h
  have h2 : s >>> 8 = s' >>> 8 := (UInt32.xor_right_inj _).mp h
  have h3 : s.toUInt8 = s'.toUInt8 := (UInt8.xor_left_inj _).mp hx
  apply UInt32.toNat_inj.mp
  have a := congrArg UInt32.toNat h2
  have b := congrArg UInt8.toNat h3
  simp only [UInt32.toNat_shiftRight, UInt32.toNat_toUInt8, Nat.shiftRight_eq_div_pow] at a b
  have e1 := Nat.div_add_mod s.toNat 256
  have e2 := Nat.div_add_mod s'.toNat 256
  simp at a b
  omega

theorem update_inj_state {s s' : UInt32} {bs : Bytes} (h : update s bs = update s' bs) : s = s' := by
  induction bs generalizing s s' with
  | nil => exact h
  | cons b bs ih => exact step_inj_state (ih (by simpa [update] using h))

theorem update_append (s : UInt32) (a b : Bytes) : update s (a ++ b) = update (update s a) b := by
  simp [update]

theorem crc32c_single_byte (a c : Bytes) (x y : UInt8) (h : x ≠ y) :
    crc32c (a ++ x :: c) ≠ crc32c (a ++ y :: c) := by
  intro e
  unfold crc32c at e
  have e1 := (UInt32.xor_left_inj _).mp e
  rw [update_append, update_append] at e1
  have e2 : step (update 0xFFFFFFFF a) x = step (update 0xFFFFFFFF a) y := update_inj_state (bs := c) e1
  exact h (step_inj_byte e2)

/-- the rotation in `util.CRC.Value` swaps the low 15 and the high 17 bits -/
theorem rot_toNat (c : UInt32) :
    ((c >>> 15) ||| (c <<< 17)).toNat = 2 ^ 17 * (c.toNat % 2 ^ 15) + c.toNat / 2 ^ 15 := by
  have hd : c.toNat / 2 ^ 15 < 2 ^ 17 := by have := UInt32.toNat_lt c; omega
  rw [UInt32.toNat_or, UInt32.toNat_shiftRight, UInt32.toNat_shiftLeft, Nat.or_comm]
  show c.toNat <<< 17 % 2 ^ 32 ||| c.toNat >>> 15 = _
  rw [Nat.shiftLeft_eq, Nat.shiftRight_eq_div_pow, show (2 : Nat) ^ 32 = 2 ^ 15 * 2 ^ 17 from rfl,
    Nat.mul_mod_mul_right, Nat.mul_comm]
  exact (Nat.two_pow_add_eq_or_of_lt hd _).symm

theorem rot_inj {c c' : UInt32} (h : (c >>> 15) ||| (c <<< 17) = (c' >>> 15) ||| (c' <<< 17)) : c = c' := by
  have h' := congrArg UInt32.toNat h
  rw [rot_toNat, rot_toNat] at h'
  have := UInt32.toNat_lt c
  have := UInt32.toNat_lt c'
  exact UInt32.toNat_inj.mp (by omega)

theorem crcMask_inj {c c' : UInt32} (h : Gen.crcMask c = Gen.crcMask c') : c = c' := by
  unfold Gen.crcMask at h
  exact rot_inj ((UInt32.add_left_inj _).mp h)

theorem crcValue_single_byte (a c : Bytes) (x y : UInt8) (h : x ≠ y) :
    crcValue (a ++ x :: c) ≠ crcValue (a ++ y :: c) :=
  fun e => crc32c_single_byte a c x y h (crcMask_inj e)

end GoLevel.CRC

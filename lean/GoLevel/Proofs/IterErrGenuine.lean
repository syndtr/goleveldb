import GoLevel.Proofs.IterErrMerged
/-!
# Whatever its children do, the merged iterator only shows a child's current pair (C02 / C08)

`MergedIter.Gen`: for any child operations (no sortedness, no simulation: children may drop out at any time, as failed
children do in non-strict mode) every call keeps "a key on record in `keys[x]` is the key under child `x`": `keys[x]`
is only ever written together with `iters[x]`, as what the moved child shows.  The heap plays no part.
`EMerged.step_spec`, `EMerged.nonstrict_run` are the corollaries for the error paths.
-/
namespace GoLevel
namespace MergedIter
variable {σ : Type}

structure Gen (o : IterOps σ) (m : MergedIter σ) : Prop where
  key  : ∀ x s k, m.iters[x]? = some s → keyAt m.keys x = some k → keyOf o s = some k
  nrel : m.dir ≠ .released

theorem gen_new (o : IterOps σ) (iters : List σ) : Gen o (new iters) where
  key := fun x s k _ hk => by
    cases h : iters[x]? <;> simp [new, keyAt, h] at hk
  nrel := by simp [new]

section
variable {o : IterOps σ} {m : MergedIter σ} (hg : Gen o m)
include hg

/-- `next()`/`prev()` leave `iters` and `keys` alone -/
theorem gen_popNext (c : UCmp) : Gen o (popNext c m) := by
  simp only [popNext, pop]
  cases m.heap <;> exact ⟨hg.key, nofun⟩

theorem gen_popPrev (c : UCmp) : Gen o (popPrev c m) := by
  simp only [popPrev, pop]
  cases m.heap <;> exact ⟨hg.key, nofun⟩

omit hg in
theorem gen_resetAll (rev : Bool) (f : σ → σ) (d : Dir) (hd : d ≠ .released) :
    Gen o { resetAll o rev f m with dir := d } :=
  ⟨fun _ _ _ hs hk => (resetAll_keyAt rev f m hs).symm.trans hk, hd⟩

theorem gen_stepIndex (f : σ → σ) : Gen o (stepIndex o f m) := by
  cases hs : m.iters[m.index]? with
  | none => simp only [stepIndex, hs]; exact hg
  | some s0 =>
    rw [stepIndex_eq f hs]
    refine ⟨fun x s k hx hk => ?_, hg.nrel⟩
    simp only [keyAt, List.getElem?_set] at hx hk
    by_cases hxe : m.index = x
    · rw [if_pos hxe] at hx hk
      split at hx <;> cases hx
      split at hk
      · exact hk
      · cases hk
    · rw [if_neg hxe] at hx hk
      exact hg.key x s k hx hk

theorem gen_turnBack (key : IKey) : Gen o (turnBack o key m) := by
  refine ⟨fun x s k hs hk => ?_, hg.nrel⟩
  rw [turnBack_keyAt key m hs] at hk
  split at hk
  · rename_i hx
    subst hx
    exact hg.key _ s k (turnBack_iters_index key m ▸ hs) hk
  · exact hk

variable (c : UCmp)

theorem gen_first : Gen o (first o c m) := by
  unfold first
  rw [if_neg hg.nrel]
  exact gen_popNext (gen_resetAll false o.first .soi nofun) c

theorem gen_last : Gen o (last o c m) := by
  unfold last
  rw [if_neg hg.nrel]
  exact gen_popPrev (gen_resetAll true o.last .eoi nofun) c

theorem gen_seek (k : IKey) : Gen o (seek o c k m) := by
  unfold seek
  rw [if_neg hg.nrel]
  exact gen_popNext (gen_resetAll false (o.seek k) .soi nofun) c

theorem gen_next : Gen o (next o c m) := by
  unfold next
  cases m.dir with
  | eoi => exact hg
  | released => exact hg
  | soi => exact gen_first hg c
  | forward => exact gen_popNext (gen_stepIndex hg _) c
  | backward =>
    simp only
    cases keyAt m.keys m.index with
    | none => exact hg
    | some key =>
      simp only
      split
      · exact gen_seek hg c key
      · exact gen_popNext (gen_stepIndex (gen_seek hg c key) _) c

theorem gen_prev : Gen o (prev o c m) := by
  unfold prev
  cases m.dir with
  | soi => exact hg
  | released => exact hg
  | eoi => exact gen_last hg c
  | backward => exact gen_popPrev (gen_stepIndex hg _) c
  | forward =>
    simp only
    cases keyAt m.keys m.index with
    | none => exact hg
    | some key => exact gen_popPrev (gen_stepIndex (gen_turnBack hg key) _) c

theorem gen_step (cl : Call IKey) : Gen o ((ops o c).step cl m) := by
  cases cl with
  | first => exact gen_first hg c
  | last => exact gen_last hg c
  | seek k => exact gen_seek hg c k
  | next => exact gen_next hg c
  | prev => exact gen_prev hg c

omit c in
theorem gen_cur (e : Entry) (h : cur o m = some e) : ∃ s ∈ m.iters, o.cur s = some e := by
  unfold cur at h
  split at h
  · split at h
    · rename_i k s hk hs
      have := hg.key _ s k hs hk
      simp only [keyOf, Option.map_eq_some_iff] at this
      obtain ⟨e0, hc, rfl⟩ := this
      refine ⟨s, List.mem_of_getElem? hs, ?_⟩
      rw [← h, hc]; rfl
    · cases h
  · cases h

end
end MergedIter

namespace EMerged
variable {σ : Type}

/-- **one call**, for ANY children and either `strict`: if `Error()` is nil afterwards the state is the
error-free model's over the same children (a failed child is seen through its masked `cur`, i.e. as an
exhausted one); if not, the error has an `Origin`: it is `ErrIterReleased` of a released iterator, or an
error that some child state reports and that is fatal in this mode (strict, or not a corruption) -/
theorem step_spec (o : EIterOps σ) (c : UCmp) (cl : Call IKey) (m : EMerged σ) (hm : m.err = none) :
    (((ops o c).toIterOps.step cl m).err = none →
      ((ops o c).toIterOps.step cl m).base = (MergedIter.ops o.toIterOps c).step cl m.base ∧
      ((ops o c).toIterOps.step cl m).strict = m.strict) ∧
    (∀ e, ((ops o c).toIterOps.step cl m).err = some e → Origin o m e) := by
  have d := step_does (ChildSim.refl o m.strict) hm (fun _ _ => trivial) c cl
  rw [MergedIter.mapIters_id] at d
  exact ⟨fun h => ⟨by rw [← (d.ok h).2, MergedIter.mapIters_id], d.strict⟩, d.origin⟩

theorem cur_base (o : EIterOps σ) (m : EMerged σ) (hm : m.err = none) :
    cur o m = MergedIter.cur o.toIterOps m.base := by
  simp [cur, hm]

def after (o : EIterOps σ) (c : UCmp) (m : EMerged σ) (cs : List (Call IKey)) : EMerged σ :=
  cs.foldl (fun m cl => (ops o c).toIterOps.step cl m) m

/-- a call on an iterator for which no error of a child is fatal (non-strict mode over children that fail with
corruption errors only; children that never fail): never an error, and the call is the error-free call over the
children as they appear (a failed child appears exhausted) -/
theorem step_of_no_fatal (o : EIterOps σ) (c : UCmp) (cl : Call IKey) (m : EMerged σ) (hm : m.err = none)
    (hr : m.base.dir ≠ .released) (hnf : ∀ s e, o.err s = some e → m.strict = false ∧ e.isCorrupted = true) :
    ((ops o c).toIterOps.step cl m).err = none ∧ ((ops o c).toIterOps.step cl m).strict = m.strict ∧
    ((ops o c).toIterOps.step cl m).base = (MergedIter.ops o.toIterOps c).step cl m.base := by
  obtain ⟨h1, h2⟩ := step_spec o c cl m hm
  rcases Option.eq_none_or_eq_some ((ops o c).toIterOps.step cl m).err with he | ⟨e, he⟩
  · exact ⟨he, (h1 he).2, (h1 he).1⟩
  · exfalso
    rcases h2 e he with ⟨_, hr'⟩ | ⟨⟨s, hse⟩, hst⟩
    · exact hr hr'
    · obtain ⟨h3, h4⟩ := hnf s e hse
      rw [h3, h4] at hst
      rcases hst with hst | hst <;> cases hst

theorem nonstrict_run (o : EIterOps σ) (c : UCmp) (hcorr : ∀ s e, o.err s = some e → e.isCorrupted = true)
    (cs : List (Call IKey)) (m : EMerged σ) (hm : m.err = none) (hs : m.strict = false)
    (hg : MergedIter.Gen o.toIterOps m.base) :
    (after o c m cs).err = none ∧ MergedIter.Gen o.toIterOps (after o c m cs).base ∧
    ∀ e, cur o (after o c m cs) = some e → ∃ s ∈ (after o c m cs).base.iters, o.cur s = some e := by
  induction cs generalizing m with
  | nil =>
    refine ⟨hm, hg, ?_⟩
    intro e he
    rw [show after o c m [] = m from rfl, cur_base o m hm] at he
    exact MergedIter.gen_cur hg e he
  | cons cl cs ih =>
    obtain ⟨h1, h2, h3⟩ := step_of_no_fatal o c cl m hm hg.nrel fun s e h => ⟨hs, hcorr s e h⟩
    exact ih _ h1 (h2.trans hs) (h3 ▸ MergedIter.gen_step hg c cl)

end EMerged
end GoLevel

import GoLevel.Model.Strict
import GoLevel.Proofs.Bytes
/-!
Behind `Props/C19Strict.lean`: what `recoverTable`'s options answer for each strict flag (`getStrict_recover`: the user's
bit, `StrictReader` masked out) and what the read options of `compaction.newIterator` answer for `StrictReader`
(`compactionRO_reader`).
-/
namespace GoLevel.Strict
open GoLevel

theorem and_two_pow_ne_zero (a k : Nat) : (a &&& 2 ^ k != 0) = a.testBit k := by
  rw [Bool.eq_iff_iff, bne_iff_ne, Ne, and_two_pow_eq_zero, Bool.not_eq_false]

theorem testBit_allOnes (i : Nat) : allOnes.testBit i = decide (i < 64) := by
  unfold allOnes
  exact Nat.testBit_two_pow_sub_one 64 i

theorem testBit_compl_two_pow (k i : Nat) (hk : k < 64) :
    (compl (2 ^ k)).testBit i = (decide (i < 64) && !decide (k = i)) := by
  unfold compl
  rw [Nat.testBit_xor, testBit_allOnes, Nat.testBit_two_pow]
  by_cases h1 : i < 64 <;> by_cases h2 : k = i <;> simp [h1, h2]
  omega

theorem testBit_mask (a r i : Nat) (hr : r < 64) :
    (a &&& compl (2 ^ r)).testBit i = (a.testBit i && decide (i < 64) && !decide (r = i)) := by
  rw [Nat.testBit_and, testBit_compl_two_pow r i hr, Bool.and_assoc]

theorem testBit_mask_self (a r : Nat) (hr : r < 64) : (a &&& compl (2 ^ r)).testBit r = false := by
  rw [testBit_mask a r r hr, decide_eq_true rfl]; exact Bool.and_false _

theorem testBit_mask_of_ne (a : Nat) {r i : Nat} (hr : r < 64) (hi : i < 64) (h : r ≠ i) :
    (a &&& compl (2 ^ r)).testBit i = a.testBit i := by
  rw [testBit_mask a r i hr, decide_eq_true hi, decide_eq_false h]; simp

theorem reader_is_bit5 : Gen.optStrictReader = 2 ^ 5 := by decide

/-- `GetStrict` reads a single flag off the duplicated options (`dupOptions` resolves "unset" the same way) -/
theorem getStrict_dup (s k : Nat) : getStrict s (2 ^ k) = (dup s).testBit k := by
  unfold getStrict dup
  split <;> exact and_two_pow_ne_zero _ _

/-- what `recoverTable`'s options answer for each of the seven flags: the bit of the user's options with `StrictReader`
(bit 5) masked out — also when the masking leaves zero, thanks to the zero repair -/
theorem getStrict_recover (s k : Nat) (hk : k < 7) :
    getStrict (recoverStrict true s) (2 ^ k) = (dup s &&& compl (2 ^ 5)).testBit k := by
  unfold recoverStrict
  simp only [Bool.true_and, reader_is_bit5]
  by_cases hm : dup s &&& compl (2 ^ 5) = 0
  · rw [if_pos (decide_eq_true hm), hm, Nat.zero_testBit]
    -- `NoStrict` has none of the seven flags
    exact (by decide : ∀ j, j < 7 → getStrict noStrict (2 ^ j) = false) k hk
  · rw [if_neg (by simpa using hm)]
    unfold getStrict
    rw [if_neg hm, and_two_pow_ne_zero]

/-- `StrictOverride` is always in the read options of `compaction.newIterator`, so the user's options are not consulted:
the iterators are strict exactly when the options have `StrictCompaction` and the flag added then makes a reader strict -/
theorem compactionRO_reader (extra o : Nat) :
    getStrictRO o (compactionRO extra o) Gen.optStrictReader =
      (getStrict o Gen.optStrictCompaction && roGetStrict (Gen.optStrictOverride ||| extra) Gen.optStrictReader) := by
  have hov : roGetStrict (Gen.optStrictOverride ||| extra) Gen.optStrictOverride = true := by
    unfold roGetStrict
    rw [show Gen.optStrictOverride = 2 ^ 7 from rfl, and_two_pow_ne_zero, Nat.testBit_or, Nat.testBit_two_pow_self,
      Bool.true_or]
  unfold getStrictRO compactionRO
  cases getStrict o Gen.optStrictCompaction
  · rw [if_neg Bool.false_ne_true, if_pos (by decide), Bool.false_and]; decide
  · rw [if_pos rfl, if_pos hov, Bool.true_and]

end GoLevel.Strict

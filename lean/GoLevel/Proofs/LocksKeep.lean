import GoLevel.Proofs.LocksRO
import GoLevel.Proofs.LocksLive
/-! The write lock of a read-only (or corrupted) DB is kept through `Close` (wp51, repair of D42): the `closeC` case
of `compactionError` does `close(db.compLockedC)` instead of giving the lock back, and `Close` selects on
`writeLockC <-` / `<-compLockedC`.  Once `compWriteLocking` is set the token never leaves `writeLockC` again. -/
namespace GoLevel.Locks
open CompErr

theorem steps_cwl (cfg : Cfg) (s t : St) (h : Steps cfg s t) (hr : s.cwl = true) : t.cwl = true :=
  steps_inv_of_step (fun s => s.cwl = true) (fun _ _ _ h => (sim h).flags.2.2) s t h hr

/-- the repaired configurations: the three leaks and the `SetReadOnly`∥`Close` leak closed, the hand-over of 832d000,
the machine keeps the lock on `closeC`, `Close` selects on `compLockedC` -/
def Cfg.Keeps (cfg : Cfg) : Prop :=
  Fixed3 cfg ∧ cfg.m = .asCoded true ∧ cfg.closeSel = true ∧ cfg.HandsOver ∧ cfg.setReadOnlyReleasesOnClose = true

theorem keeps_covered (cfg : Cfg) (hk : cfg.Keeps) (s : St) (hr : Reachable cfg s) : Covered cfg s :=
  ⟨hk.1, by rw [hk.2.2.1]; exact hk.2.1, Or.inl hk.2.2.2.1, Or.inl ⟨hk.2.2.2.2, Or.inl hr⟩⟩

theorem keepInv_reachable (cfg : Cfg) (hk : cfg.Keeps) (s : St) (hr : Reachable cfg s) : KeepInv s := by
  obtain ⟨n, hs⟩ := hr
  exact steps_inv_of_step KeepInv (fun _ _ _ h => (sim h).keepInv hk.2.1 hk.2.2.2.1) _ _ hs (keepInv_init n)

theorem tokE_owner {a : Nat} {t o e c : Bool} (h : a + b2n o + b2n e + b2n c = b2n t) (hec : e = true ∨ c = true) :
    t = true ∧ a = 0 ∧ o = false ∧ (c = true → e = false) := by
  cases t <;> cases o <;> cases e <;> cases c <;> simp [b2n] at h hec ⊢ <;> omega

/-- **the lock is kept**, whether `Close` has been called or not, once `compWriteLocking` is set — in particular once
`SetReadOnly` returned nil -/
theorem kept_locked (cfg : Cfg) (hk : cfg.Keeps) (s : St) (hr : Reachable cfg s)
    (hw : s.cwl = true ∨ s.ro = true) :
    s.cwl = true ∧ s.tok = true ∧ (s.ehTok = true ∨ s.closeTok = true) ∧ tot tokW s.ws = 0 ∧ tot srW s.ws = 0 ∧
    s.trOpen = false := by
  have ki := keepInv_reachable cfg hk s hr
  have hcw : s.cwl = true := hw.elim id ki.1
  have hx := exact_handsOver cfg s (keeps_covered cfg hk s hr) hk.2.2.2.1 hk.2.2.2.2
  have hE : tot tokW s.ws + b2n s.trOpen + b2n s.ehTok + b2n s.closeTok = b2n s.tok := hx.1
  have hsr : tot srW s.ws ≤ b2n s.ehTok := hx.2.2.1
  have own : (s.ehTok = true ∧ tot srW s.ws = 0) ∨ s.closeTok = true := by
    by_cases he : s.eh = .exited
    · exact Or.inr (ki.2.2 hcw he)
    · exact Or.inl (hx.2.1 hcw he)
  obtain ⟨htok, h0, htr, hce⟩ := tokE_owner hE (own.imp And.left id)
  refine ⟨hcw, htok, own.imp And.left id, h0, ?_, htr⟩
  rcases own with ⟨_, h2⟩ | h1
  · exact h2
  · rw [hce h1] at hsr; exact Nat.le_zero.1 hsr

theorem sel_thread_step_tok (cfg : Cfg) (s t : St) (f : Bool) (h : Step cfg f s t) (i' : Nat) (p' q' : Pc)
    (hi' : s.ws[i']? = some p') (hsel : selNext p' = some q') (htok : s.tok = true) :
    t.ws[i']? = some p' ∨ t.ws[i']? = some (.retE s.ehErr) ∨ t.ws[i']? = some (.ret false) :=
  (sel_thread_step_arms cfg s t f h i' p' q' hi' hsel htok).imp_right (Or.imp_right And.right)

end GoLevel.Locks

import GoLevel.Model.Conc
import GoLevel.Proofs.LSMOrder
/-!
# `newest` / `view` as functions of the *set* of entries (for collections with unique sequence numbers)

What the concurrency proofs use: only matching members at or below the read position count; a write appends strictly
newer entries; a compaction swaps the tables under a buffer part that is an intact top segment of the history; a read at `s`
sees a collection only through `leF s`, which appending entries above `s` (`Grow`) does not change.
-/
namespace GoLevel.Conc

variable {c : UCmp} {k : Bytes} {s : Nat}

def Uniq (L : List Entry) : Prop := ∀ a ∈ L, ∀ b ∈ L, a.seq = b.seq → a = b

theorem Uniq.sub {L U : List Entry} (hU : Uniq U) (h : ∀ e ∈ L, e ∈ U) : Uniq L :=
  fun a ha b hb hab => hU a (h a ha) b (h b hb) hab

theorem newest_some_spec {L : List Entry} {r : Entry} (h : newest c L k s = some r) : IsNewestE c L k s r :=
  newest_isNewest c k s L r h

theorem newest_of_best {L : List Entry} {r : Entry} (hU : Uniq L) (h : IsNewestE c L k s r) :
    newest c L k s = some r :=
  newest_of_isNewest (fun a ha b hb _ _ hn => hU a ha b hb (by simp only [Entry.seq, IKey.seq, hn])) h

theorem newest_congr {U L1 L2 : List Entry} (hU : Uniq U) (h2 : ∀ e ∈ L2, e ∈ U)
    (h : ∀ e, Matches c k s e → (e ∈ L1 ↔ e ∈ L2)) : newest c L1 k s = newest c L2 k s := by
  cases hn : newest c L1 k s with
  | none =>
    symm; rw [newest_eq_none_iff]
    exact fun e he hm => (newest_eq_none_iff c k s L1).1 hn e ((h e hm).2 he) hm
  | some r =>
    have hb := newest_some_spec hn
    exact (newest_of_best (hU.sub h2)
      ⟨(h r hb.2.1).1 hb.1, hb.2.1, fun e he hm => hb.2.2 e ((h e hm).2 he) hm⟩).symm

theorem view_congr {U L1 L2 : List Entry} (hU : Uniq U) (h2 : ∀ e ∈ L2, e ∈ U)
    (h : ∀ e, Matches c k s e → (e ∈ L1 ↔ e ∈ L2)) : view c L1 k s = view c L2 k s := by
  simp only [view, newest_congr hU h2 h]

theorem pickNewer_left {a : Entry} {x : Option Entry} (h : ∀ y, x = some y → y.key.num ≤ a.key.num) :
    pickNewer (some a) x = some a := by
  cases x with
  | none => rfl
  | some y => exact if_neg (Nat.not_lt.2 (h y rfl))

theorem view_append_present {L F : List Entry} (h : ∀ e ∈ F, e ∈ L) : view c (L ++ F) k s = view c L k s := by
  simp only [view, newest_append]
  cases hF : newest c F k s with
  | none => rw [pickNewer_none_right]
  | some f =>
    have hf := h f (newest_mem hF)
    cases hL : newest c L k s with
    | none => exact absurd (newest_matches hF) ((newest_eq_none_iff c k s L).1 hL f hf)
    | some l =>
      rw [pickNewer_left fun y hy => by cases hy; exact (newest_some_spec hL).2.2 f hf (newest_matches hF)]

theorem view_newer_congr {A A' E : List Entry}
    (hnew : ∀ e ∈ E, (∀ a ∈ A, a.seq < e.seq) ∧ (∀ a ∈ A', a.seq < e.seq))
    (h : view c A k s = view c A' k s) : view c (A ++ E) k s = view c (A' ++ E) k s := by
  simp only [view, newest_append] at h ⊢
  cases hn : newest c E k s with
  | none => simpa only [pickNewer_none_right] using h
  | some r =>
    -- the newest of `E` beats whatever the older part offers
    have wins : ∀ B : List Entry, (∀ a ∈ B, a.seq < r.seq) → pickNewer (newest c B k s) (some r) = some r := by
      intro B hB
      cases hb : newest c B k s with
      | none => rfl
      | some b => exact if_pos (Entry.num_lt_of_seq_lt (hB b (newest_mem hb)))
    rw [wins A (hnew r (newest_mem hn)).1, wins A' (hnew r (newest_mem hn)).2]

/-- `B` is an intact top segment of `U` as far as position `s` is concerned: whatever of `U` at or below
`s` is not in `B` is older than all of `B` -/
def Intact (U B : List Entry) (s : Nat) : Prop :=
  ∀ h ∈ U, h.seq ≤ s → h ∈ B ∨ ∀ x ∈ B, h.seq < x.seq

/-- the newest match of an intact buffer part is the newest match of everything: the others are in `B` or older
than all of `B` -/
theorem top_best {U B : List Entry} {b : Entry} (hint : Intact U B s) (hb : newest c B k s = some b) :
    ∀ e ∈ U, Matches c k s e → e.key.num ≤ b.key.num := fun e he hm =>
  (hint e he hm.2).elim (fun h => (newest_some_spec hb).2.2 e h hm)
    fun h => Nat.le_of_lt (Entry.num_lt_of_seq_lt (h b (newest_mem hb)))

/-- an intact buffer part that knows the key decides: what follows it is not consulted -/
theorem newest_top {U B X : List Entry} {b : Entry} (hX : ∀ e ∈ X, e.seq ≤ s → e ∈ U) (hint : Intact U B s)
    (hb : newest c B k s = some b) : newest c (B ++ X) k s = some b := by
  rw [newest_append, hb, pickNewer_left fun y hy =>
    top_best hint hb y (hX y (newest_mem hy) (newest_matches hy).2) (newest_matches hy)]

theorem view_top {U B X : List Entry} {b : Entry} (hU : Uniq U) (hB : ∀ e ∈ B, e ∈ U)
    (hX : ∀ e ∈ X, e.seq ≤ s → e ∈ U) (hint : Intact U B s) (hb : newest c B k s = some b) :
    view c (B ++ X) k s = view c U k s := by
  simp only [view, newest_top hX hint hb,
    newest_of_best hU ⟨hB b (newest_mem hb), newest_matches hb, top_best hint hb⟩]

theorem view_top_none {B X : List Entry} (hb : newest c B k s = none) : view c (B ++ X) k s = view c X k s := by
  simp only [view, newest_append, hb, pickNewer_none_left]

theorem view_comp_congr {U B T T' : List Entry} (hU : Uniq U) (hB : ∀ e ∈ B, e ∈ U) (hT' : ∀ e ∈ T', e ∈ U)
    (hint : Intact U B s) (hcov : view c (B ++ T) k s = view c U k s)
    (heq : view c T' k s = view c T k s) : view c (B ++ T') k s = view c U k s := by
  cases hb : newest c B k s with
  | some b => exact view_top hU hB (fun e he _ => hT' e he) hint hb
  | none => rw [view_top_none hb, heq, ← view_top_none hb, hcov]

theorem view_clip {L : List Entry} {p : Nat} (hL : ∀ e ∈ L, e.seq ≤ p) (hp : p ≤ s) :
    view c L k s = view c L k p := by
  have : newest c L k s = newest c L k p := by
    induction L with
    | nil => rfl
    | cons x xs ih =>
      have hx : Matches c k s x ↔ Matches c k p x :=
        ⟨fun h => ⟨h.1, hL x List.mem_cons_self⟩, fun h => ⟨h.1, Nat.le_trans h.2 hp⟩⟩
      rw [newest_cons, newest_cons, ih fun e he => hL e (List.mem_cons_of_mem _ he)]
      simp only [cand, hx]
  simp only [view, this]

/-- above every sequence number of the list the position of the reader does not matter -/
theorem view_above {L : List Entry} {a b : Nat} (ha : ∀ e ∈ L, e.seq ≤ a) (hb : ∀ e ∈ L, e.seq ≤ b) (k : Bytes) :
    view c L k a = view c L k b := by
  rcases Nat.le_total a b with h | h
  · exact (view_clip ha h).symm
  · exact view_clip hb h

theorem view_write {U U' L L' E : List Entry} (hU' : Uniq U')
    (hUU : ∀ e, e ∈ U' ↔ e ∈ U ∨ e ∈ E) (hLL : ∀ e, e ∈ L' ↔ e ∈ L ∨ e ∈ E)
    (hL : ∀ e ∈ L, e ∈ U) (hnew : ∀ e ∈ E, ∀ u ∈ U, u.seq < e.seq)
    (h : view c L k s = view c U k s) : view c L' k s = view c U' k s := by
  have hUE : ∀ e ∈ U ++ E, e ∈ U' := fun e he => (hUU e).2 (List.mem_append.1 he)
  have hLE : ∀ e ∈ L ++ E, e ∈ U' := fun e he =>
    (hUU e).2 ((List.mem_append.1 he).imp_left (hL e))
  rw [view_congr hU' hLE (fun e _ => by rw [hLL, List.mem_append]),
    view_congr (L1 := U') hU' hUE (fun e _ => by rw [hUU, List.mem_append])]
  exact view_newer_congr (fun e he => ⟨fun a ha => hnew e he a (hL a ha), hnew e he⟩) h

def leF (s : Nat) (L : List Entry) : List Entry := L.filter (fun e => decide (e.seq ≤ s))

theorem newest_leF (L : List Entry) : newest c L k s = newest c (leF s L) k s := by
  induction L with
  | nil => rfl
  | cons x xs ih =>
    by_cases hx : x.seq ≤ s
    · rw [show leF s (x :: xs) = x :: leF s xs by simp [leF, hx], newest_cons, newest_cons, ih]
    · rw [show leF s (x :: xs) = leF s xs by simp [leF, hx], newest_cons,
        cand_of_not_matches (fun h => hx h.2), pickNewer_none_left, ih]

theorem view_leF (L : List Entry) : view c L k s = view c (leF s L) k s := by
  simp only [view, ← newest_leF]

theorem view_eq_of_leF {L1 L2 : List Entry} (h : leF s L1 = leF s L2) : view c L1 k s = view c L2 k s := by
  rw [view_leF L1, view_leF L2, h]

theorem leF_append (A B : List Entry) : leF s (A ++ B) = leF s A ++ leF s B := by
  simp [leF]

theorem leF_above {E : List Entry} (h : ∀ e ∈ E, s < e.seq) : leF s E = [] := by
  simp only [leF, List.filter_eq_nil_iff, decide_eq_true_eq]
  intro e he; have := h e he; omega

theorem leF_append_above {A E : List Entry} (h : ∀ e ∈ E, s < e.seq) : leF s (A ++ E) = leF s A := by
  rw [leF_append, leF_above h, List.append_nil]

/-- `B` is `A` with entries above `p` appended: how the history and each buffer change over a step, or an execution,
that starts at `pub = p` -/
def Grow (p : Nat) (A B : List Entry) : Prop := ∃ ext, B = A ++ ext ∧ ∀ e ∈ ext, p < e.seq

theorem Grow.refl (p : Nat) (A : List Entry) : Grow p A A := ⟨[], (List.append_nil A).symm, nofun⟩

theorem Grow.trans {A B C : List Entry} {p p' : Nat} (hp : p ≤ p') (h1 : Grow p A B) (h2 : Grow p' B C) :
    Grow p A C := by
  obtain ⟨e1, rfl, h1'⟩ := h1
  obtain ⟨e2, rfl, h2'⟩ := h2
  refine ⟨e1 ++ e2, List.append_assoc .., fun e he => ?_⟩
  rcases List.mem_append.1 he with he | he
  · exact h1' e he
  · exact Nat.lt_of_le_of_lt hp (h2' e he)

theorem Grow.sub {A B : List Entry} {p : Nat} (h : Grow p A B) : ∀ e ∈ A, e ∈ B := by
  obtain ⟨x, rfl, -⟩ := h
  exact fun e he => List.mem_append_left _ he

theorem Grow.old {A B : List Entry} {p : Nat} (h : Grow p A B) : ∀ e ∈ B, e ∈ A ∨ p < e.seq := by
  obtain ⟨x, rfl, hx⟩ := h
  exact fun e he => (List.mem_append.1 he).imp_right (hx e)

theorem Grow.leF {A B : List Entry} {p : Nat} (h : Grow p A B) (hs : s ≤ p) : leF s B = leF s A := by
  obtain ⟨x, rfl, hx⟩ := h
  exact leF_append_above fun e he => Nat.lt_of_le_of_lt hs (hx e he)

theorem mem_of_leF {L L' : List Entry} (h : leF s L' = leF s L) {e : Entry} (he : e ∈ L')
    (hle : e.seq ≤ s) : e ∈ L := by
  have : e ∈ leF s L' := List.mem_filter.2 ⟨he, decide_eq_true hle⟩
  rw [h] at this
  exact (List.mem_filter.1 this).1

theorem above_of_leF {L L' : List Entry} (h : leF s L' = leF s L) (ha : ∀ e ∈ L, s < e.seq) :
    ∀ e ∈ L', s < e.seq :=
  fun e he => Nat.lt_of_not_le fun hle => Nat.lt_irrefl _ (Nat.lt_of_lt_of_le (ha e (mem_of_leF h he hle)) hle)

theorem intact_of_leF {H H' B B' : List Entry} (hH : leF s H' = leF s H) (hB : leF s B' = leF s B)
    (h : Intact H B s) : Intact H' B' s := by
  intro e he hle
  rcases h e (mem_of_leF hH he hle) hle with h1 | h1
  · exact Or.inl (mem_of_leF hB.symm h1 hle)
  · refine Or.inr fun x hx => ?_
    by_cases hx' : x.seq ≤ s
    · exact h1 x (mem_of_leF hB hx hx')
    · omega

end GoLevel.Conc

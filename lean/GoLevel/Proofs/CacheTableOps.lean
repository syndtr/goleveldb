import GoLevel.Proofs.CacheTableChain
/-! Hash table of the cache (C17): membership; a resize (pushing a head of uninitialised buckets) keeps every
node; `Cache.getBucket`; what the tails of `mBucket.get` / `mBucket.delete` do to the set of nodes. -/
namespace GoLevel.CacheT

def MemC (hs : List Head) (x : TNode) : Prop :=
  ∃ h ps, hs = h :: ps ∧ ∃ i, i < h.buckets.length ∧ x ∈ vnodes hs i

theorem memC_cons {h : Head} {ps : List Head} {x : TNode} :
    MemC (h :: ps) x ↔ ∃ i, i < h.buckets.length ∧ x ∈ vnodes (h :: ps) i := by
  constructor
  · rintro ⟨h', ps', heq, i, hi, hx⟩
    injection heq with h1 h2; subst h1; subst h2
    exact ⟨i, hi, hx⟩
  · rintro ⟨i, hi, hx⟩; exact ⟨h, ps, rfl, i, hi, hx⟩

theorem memC_bucket {hashfn : Nat → Nat → Nat} {h : Head} {ps : List Head} (hw : WFChain hashfn (h :: ps))
    {x : TNode} {i : Nat} (hi : i < h.buckets.length) (hx : x ∈ vnodes (h :: ps) i) :
    x.hash = hashfn x.ns x.key ∧ x.hash % h.buckets.length = i :=
  (vnodes_ok hw hi).2 x hx

theorem memC_equiv {hs' hs : List Head} (he : Equiv hs' hs) (x : TNode) : MemC hs' x ↔ MemC hs x := by
  cases hs with
  | nil => rw [he.nil]
  | cons h ps =>
    obtain ⟨h', ps', rfl, _, hl⟩ := he.head
    rw [memC_cons, memC_cons, hl]
    simp only [he.1]

theorem newHead_bucket (n j : Nat) : (newHead n).bucket j = { nodes := [], state := .uninit } := by
  unfold newHead Head.bucket
  simp only [List.getD_eq_getElem?_getD, List.getElem?_replicate]
  split <;> rfl

@[simp] theorem newHead_len (n : Nat) : (newHead n).buckets.length = n := by simp [newHead]

@[simp] theorem newHead_mask (n : Nat) : (newHead n).mask = n - 1 := rfl

theorem headOK_newHead {h : Head} (hk : HeadOK h) {n : Nat}
    (hn : n = 2 * h.buckets.length ∨ h.buckets.length = 2 * n) : HeadOK (newHead n) := by
  obtain ⟨k, h1, _⟩ := hk
  rcases hn with hn | hn
  · exact ⟨k + 1, by simp [hn, h1, Nat.pow_succ, Nat.mul_comm], by simp [hn, h1, Nat.pow_succ, Nat.mul_comm]⟩
  · cases k with
    | zero => simp at h1; omega
    | succ k =>
      have : n = 2 ^ k := by rw [h1, Nat.pow_succ] at hn; omega
      exact ⟨k, by simp [this], by simp [this]⟩

theorem push_ok {hashfn : Nat → Nat → Nat} {h : Head} {ps : List Head} (hw : WFChain hashfn (h :: ps)) {n : Nat}
    (hn : n = 2 * h.buckets.length ∨ h.buckets.length = 2 * n) :
    WFChain hashfn (newHead n :: h :: ps) ∧ ∀ x, MemC (newHead n :: h :: ps) x ↔ MemC (h :: ps) x := by
  have hok := headOK_newHead hw.headOK hn
  have hwn : WFChain hashfn (newHead n :: h :: ps) := by
    refine ⟨hok, fun i _ hst => ?_, ?_, hw⟩
    · rw [newHead_bucket] at hst; simp at hst
    · simp only [newHead_len]; exact hn
  refine ⟨hwn, fun x => ?_⟩
  have hnpos := hok.pos
  -- every bucket of the new head is uninitialised: it will hold the old nodes whose hash selects it
  have hv := fun i (hi : i < (newHead n).buckets.length) => mem_vnodes_uninit hwn hi (by rw [newHead_bucket])
    (fun j hj x hx => (memC_bucket hw hj hx).2) x
  rw [memC_cons, memC_cons]
  exact ⟨fun ⟨i, hi, hx⟩ => ((hv i hi).mp hx).1,
    fun hx => ⟨_, Nat.mod_lt _ hnpos, (hv _ (Nat.mod_lt _ hnpos)).mpr ⟨hx, rfl⟩⟩⟩

/-- The current head has no frozen bucket: only a successor freezes buckets. -/
structure TWF (hashfn : Nat → Nat → Nat) (t : Table) : Prop where
  chain : WFChain hashfn t.heads
  nf : ∀ h ps, t.heads = h :: ps → ∀ i, (h.bucket i).state ≠ .frozen
  bug : t.bug = false

def Mem (t : Table) (x : TNode) : Prop := MemC t.heads x

/-- What an operation leaves behind; `n` is `Nodes()`. -/
structure Holds (hashfn : Nat → Nat → Nat) (t : Table) (P : TNode → Prop) (n : Int) (id : Nat) : Prop where
  wf : TWF hashfn t
  mem : ∀ x, Mem t x ↔ P x
  nodes : t.statNodes = n
  nid : t.nextId = id

theorem Holds.congr {hashfn : Nat → Nat → Nat} {t : Table} {P Q : TNode → Prop} {n : Int} {id : Nat}
    (h : Holds hashfn t P n id) (hPQ : ∀ x, P x ↔ Q x) : Holds hashfn t Q n id :=
  ⟨h.wf, fun x => (h.mem x).trans (hPQ x), h.nodes, h.nid⟩

def Same (hashfn : Nat → Nat → Nat) (t' t : Table) : Prop := Holds hashfn t' (Mem t) t.statNodes t.nextId

theorem twf_heads {hashfn : Nat → Nat → Nat} {t : Table} (hwf : TWF hashfn t) : ∃ h ps, t.heads = h :: ps := by
  have := hwf.chain
  cases hh : t.heads with
  | nil => rw [hh] at this; exact this.elim
  | cons h ps => exact ⟨h, ps, rfl⟩

theorem TWF.chain_cons {hashfn : Nat → Nat → Nat} {t : Table} {h : Head} {ps : List Head} (hwf : TWF hashfn t)
    (hh : t.heads = h :: ps) : WFChain hashfn (h :: ps) := hh ▸ hwf.chain

theorem nf_cons {h : Head} {ps : List Head} (hnf : ∀ j, (h.bucket j).state ≠ .frozen) :
    ∀ h2 ps2, h :: ps = h2 :: ps2 → ∀ j, (h2.bucket j).state ≠ .frozen := by
  intro h2 ps2 heq j
  injection heq with h1 _
  rw [← h1]; exact hnf j

theorem mem_heads {t : Table} {h : Head} {ps : List Head} (hh : t.heads = h :: ps) (x : TNode) :
    Mem t x ↔ MemC (h :: ps) x := by
  unfold Mem; rw [hh]

/-- What the tails of `mBucket.get` / `mBucket.delete` make of a table `t` with heads `h :: ps`: bucket `i` of `h` becomes
`b'` (the overflow counter may move), the counters become `sn` and `id`, and a head of twice or half the size may be pushed. -/
def Finish (t : Table) (h : Head) (ps : List Head) (i : Nat) (b' : Bucket) (sn : Int) (id : Nat) (t' : Table) : Prop :=
  ∃ h2 t1, h2.mask = h.mask ∧ h2.buckets = h.buckets.set i b' ∧ t1.bug = t.bug ∧ t1.statNodes = sn ∧
    t1.nextId = id ∧ (t' = { t1 with heads := h2 :: ps } ∨
      ∃ n g, (n = 2 * h.buckets.length ∨ h.buckets.length = 2 * n) ∧ t' = resize t1 h2 ps n g)

theorem finish_ok {hashfn : Nat → Nat → Nat} {t : Table} {h : Head} {ps : List Head} {i : Nat}
    (hwf : TWF hashfn t) (hh : t.heads = h :: ps) (hi : i < h.buckets.length)
    {b' : Bucket} {t' : Table} {sn : Int} {id : Nat} (hc : Finish t h ps i b' sn id t')
    (hst' : b'.state = .init) (hok : BucketOK hashfn h.buckets.length i b'.nodes) :
    Holds hashfn t' (fun x => x ∈ b'.nodes ∨ (Mem t x ∧ x.hash % h.buckets.length ≠ i)) sn id := by
  obtain ⟨h2, t1, hm, hb, hbug, rfl, rfl, ht'⟩ := hc
  have hbug := hbug.trans hwf.bug
  have hw := hwf.chain_cons hh
  -- any head with these buckets and this mask will do: `h2`, and `h2` marked as being resized
  have hhead : ∀ h3 : Head, h3.mask = h.mask → h3.buckets = h.buckets.set i b' →
      WFChain hashfn (h3 :: ps) ∧ h3.buckets.length = h.buckets.length ∧
      ∀ x, MemC (h3 :: ps) x ↔ (x ∈ b'.nodes ∨ (Mem t x ∧ x.hash % h.buckets.length ≠ i)) := by
    intro h3 hm3 hb3
    obtain ⟨hw3, hv⟩ := set_bucket hw hi hm3 hb3 (by rw [hst']; simp) hok
    have hl3 : h3.buckets.length = h.buckets.length := by rw [hb3]; simp
    refine ⟨hw3, hl3, fun x => ?_⟩
    rw [mem_heads hh, memC_cons, memC_cons, hl3]
    constructor
    · rintro ⟨j, hj, hx⟩
      rw [hv j] at hx
      by_cases hji : j = i
      · rw [if_pos hji] at hx; exact Or.inl hx
      · rw [if_neg hji] at hx
        have := memC_bucket hw hj hx
        exact Or.inr ⟨⟨j, hj, hx⟩, by rw [this.2]; exact hji⟩
    · rintro (hx | ⟨⟨j, hj, hx⟩, hne⟩)
      · exact ⟨i, hi, by rw [hv i, if_pos rfl]; exact hx⟩
      · have := memC_bucket hw hj hx
        have hji : j ≠ i := by rw [← this.2]; exact hne
        exact ⟨j, hj, by rw [hv j, if_neg hji]; exact hx⟩
  obtain ⟨hw2, hl2, hmem⟩ := hhead h2 hm hb
  have hnf2 : ∀ j, (h2.bucket j).state ≠ .frozen := by
    intro j
    rw [bucket_of_set hb hi]; split
    · rw [hst']; simp
    · exact hwf.nf h ps hh j
  have hplain : Holds hashfn { t1 with heads := h2 :: ps }
      (fun x => x ∈ b'.nodes ∨ (Mem t x ∧ x.hash % h.buckets.length ≠ i)) t1.statNodes t1.nextId :=
    ⟨⟨hw2, nf_cons hnf2, hbug⟩, hmem, rfl, rfl⟩
  rcases ht' with rfl | ⟨n, g, hn, rfl⟩
  · exact hplain
  · -- the resize, unless one is in progress, pushes a head of uninitialised buckets
    unfold resize
    split
    · exact hplain
    · obtain ⟨hw3, _, hmem3⟩ := hhead { h2 with resizeInProgress := true } hm hb
      obtain ⟨hw4, hm4⟩ := push_ok hw3 (n := n) (by rw [← hl2] at hn; exact hn)
      refine ⟨⟨hw4, nf_cons fun j => by rw [newHead_bucket]; simp, hbug⟩, fun x => ?_, rfl, rfl⟩
      unfold Mem; simp only []
      rw [hm4 x]; exact hmem3 x

theorem mem_bucket_iff {hashfn : Nat → Nat → Nat} {t : Table} {h : Head} {ps : List Head} {i : Nat}
    (hwf : TWF hashfn t) (hh : t.heads = h :: ps) (hi : i < h.buckets.length)
    (hst : (h.bucket i).state = .init) (x : TNode) :
    x ∈ (h.bucket i).nodes ↔ Mem t x ∧ x.hash % h.buckets.length = i := by
  have hw := hwf.chain_cons hh
  have hv : vnodes (h :: ps) i = (h.bucket i).nodes := vnodes_init hi (by rw [hst]; simp)
  rw [mem_heads hh, memC_cons, ← hv]
  constructor
  · intro hx; exact ⟨⟨i, hi, hx⟩, (memC_bucket hw hi hx).2⟩
  · rintro ⟨⟨j, hj, hx⟩, hxi⟩
    rw [(memC_bucket hw hj hx).2] at hxi; subst hxi; exact hx

theorem key_bucket {hashfn : Nat → Nat → Nat} {t : Table} {h : Head} {ps : List Head} {i ns key : Nat} {n : TNode}
    (hwf : TWF hashfn t) (hh : t.heads = h :: ps) (hn : Mem t n) (hk : keyEq ns key n = true)
    (hidx : hashfn ns key % h.buckets.length = i) : n.hash % h.buckets.length = i := by
  have hw := hwf.chain_cons hh
  rw [mem_heads hh] at hn
  obtain ⟨j, hj, hx⟩ := memC_cons.mp hn
  simp only [keyEq, Bool.and_eq_true, beq_iff_eq] at hk
  rw [(memC_bucket hw hj hx).1, hk.1, hk.2, hidx]

theorem getBucket_ok {hashfn : Nat → Nat → Nat} {t : Table} (hwf : TWF hashfn t) (ns key : Nat) :
    ∃ t1 i h1 ps1, getBucket t (hashfn ns key) = (t1, i) ∧ Same hashfn t1 t ∧ t1.heads = h1 :: ps1 ∧
      i < h1.buckets.length ∧ (h1.bucket i).state = .init ∧ hashfn ns key % h1.buckets.length = i ∧
      ∀ n, hit (h1.bucket i).nodes (search (h1.bucket i).nodes ns key) ns key = some n ↔
        Mem t n ∧ keyEq ns key n = true := by
  obtain ⟨h, ps, hh⟩ := twf_heads hwf
  have hw := hwf.chain_cons hh
  have hi : hashfn ns key % h.buckets.length < h.buckets.length := Nat.mod_lt _ hw.headOK.pos
  obtain ⟨h', ps', h1, hs1, hf1, hw1, he1⟩ := initBucket_ok hw hi
  have hnf1 : ∀ j, (h'.bucket j).state ≠ .frozen := fun j hc => hwf.nf h ps hh j (hf1 j hc)
  have hst : (h'.bucket (hashfn ns key % h.buckets.length)).state = .init := by
    cases hst : (h'.bucket (hashfn ns key % h.buckets.length)).state with
    | init => rfl
    | uninit => exact absurd hst hs1
    | frozen => exact absurd hst (hnf1 _)
  have hsame : Same hashfn { t with bug := t.bug || false, heads := h' :: ps' } t :=
    ⟨⟨hw1, nf_cons hnf1, by simp [hwf.bug]⟩, fun x => by rw [mem_heads hh]; exact memC_equiv he1 x, rfl, rfl⟩
  refine ⟨_, _, h', ps', ?_, hsame, rfl, he1.len ▸ hi, hst, by rw [he1.len], fun n => ?_⟩
  · unfold getBucket
    rw [hh]
    simp only [land_mask hw.headOK, h1]
  · rw [hit_some_iff (hw1.2.1 _ (he1.len ▸ hi) (by rw [hst]; simp)).1, mem_bucket_iff hsame.wf rfl (he1.len ▸ hi) hst,
      hsame.mem n]
    exact ⟨fun hc => ⟨hc.1.1, hc.2⟩,
      fun hc => ⟨⟨hc.1, key_bucket hsame.wf rfl ((hsame.mem n).mpr hc.1) hc.2 (by rw [he1.len])⟩, hc.2⟩⟩

@[simp] theorem bumpOverflow_mask (h : Head) (c : Bool) (d : Int) : (bumpOverflow h c d).mask = h.mask := by
  unfold bumpOverflow; split <;> rfl

@[simp] theorem bumpOverflow_buckets (h : Head) (c : Bool) (d : Int) :
    (bumpOverflow h c d).buckets = h.buckets := by
  unfold bumpOverflow; split <;> rfl

theorem insertNode_cases (t : Table) (h : Head) (ps : List Head) (i : Nat) (b : Bucket) (j : Nat) (n : TNode) :
    Finish t h ps i { b with nodes := insertAt b.nodes j n } (t.statNodes + 1) (t.nextId + 1)
      (insertNode t h ps i b j n) := by
  refine ⟨bumpOverflow (h.setBucket i { b with nodes := insertAt b.nodes j n })
      (decide ((insertAt b.nodes j n).length > Gen.mOverflowThreshold) &&
        !decide (t.statNodes + 1 ≥ h.growThreshold)) 1,
    { t with statNodes := t.statNodes + 1, nextId := t.nextId + 1 }, by simp, by simp [Head.setBucket],
    rfl, rfl, rfl, ?_⟩
  unfold insertNode
  simp only []
  by_cases hc : (if (decide ((insertAt b.nodes j n).length > Gen.mOverflowThreshold) &&
        !decide (t.statNodes + 1 ≥ h.growThreshold)) = true then
      decide ((bumpOverflow (h.setBucket i { b with nodes := insertAt b.nodes j n })
        (decide ((insertAt b.nodes j n).length > Gen.mOverflowThreshold) &&
          !decide (t.statNodes + 1 ≥ h.growThreshold)) 1).overflow ≥ (Gen.mOverflowGrowThreshold : Int))
      else decide (t.statNodes + 1 ≥ h.growThreshold)) = true
  · rw [if_pos hc]; exact Or.inr ⟨_, _, Or.inl (Nat.mul_comm _ _), rfl⟩
  · rw [if_neg hc]; exact Or.inl rfl

/-- A shrink happens only to a table with more than `mInitialSize` ≥ 1 buckets, so to half its (even) size. -/
theorem removeNode_cases (t : Table) {h : Head} (hk : HeadOK h) (ps : List Head) (i : Nat) (b : Bucket) (j : Nat) :
    Finish t h ps i { b with nodes := b.nodes.take j ++ b.nodes.drop (j + 1) } (t.statNodes - 1) t.nextId
      (removeNode t h ps i b j) := by
  refine ⟨bumpOverflow (h.setBucket i { b with nodes := b.nodes.take j ++ b.nodes.drop (j + 1) })
      (decide ((b.nodes.take j ++ b.nodes.drop (j + 1)).length ≥ Gen.mOverflowThreshold)) (-1),
    { t with statNodes := t.statNodes - 1 }, by simp, by simp [Head.setBucket], rfl, rfl, rfl, ?_⟩
  unfold removeNode
  simp only []
  split
  · rename_i hc
    refine Or.inr ⟨_, _, Or.inr ?_, rfl⟩
    obtain ⟨k, h1, _⟩ := hk
    have : 1 ≤ Gen.mInitialSize := by decide
    cases k with
    | zero => simp at h1; omega
    | succ k => rw [h1, Nat.pow_succ]; omega
  · exact Or.inl rfl

theorem insertNode_ok {hashfn : Nat → Nat → Nat} {t : Table} {h : Head} {ps : List Head} {i : Nat}
    (hwf : TWF hashfn t) (hh : t.heads = h :: ps) (hi : i < h.buckets.length)
    (hst : (h.bucket i).state = .init) {n : TNode} (hnh : n.hash = hashfn n.ns n.key)
    (hni : n.hash % h.buckets.length = i) (hnew : ∀ y, Mem t y → ¬ keyEq n.ns n.key y = true) :
    Holds hashfn (insertNode t h ps i (h.bucket i) (search (h.bucket i).nodes n.ns n.key) n)
      (fun x => x = n ∨ Mem t x) (t.statNodes + 1) (t.nextId + 1) := by
  have hw := hwf.chain_cons hh
  have hbok := hw.2.1 i hi (by rw [hst]; simp)
  have hb := mem_bucket_iff hwf hh hi hst
  have hins := insertAt_eq (h.bucket i).nodes _ n (search_spec hbok.1 n.ns n.key).1
  have hok' : BucketOK hashfn h.buckets.length i
      (insertAt (h.bucket i).nodes (search (h.bucket i).nodes n.ns n.key) n) := by
    rw [hins]
    refine ⟨sorted_insert hbok.1 n (fun y hy hk => ?_), fun x hx => ?_⟩
    · have := hnew y ((hb y).mp hy).1
      simp [keyEq, hk.1, hk.2] at this
    · rcases mem_insert.mp hx with rfl | hx
      · exact ⟨hnh, hni⟩
      · exact hbok.2 x hx
  refine (finish_ok hwf hh hi (insertNode_cases t h ps i (h.bucket i) _ n) hst hok').congr fun x => ?_
  · dsimp only
    rw [hins, mem_insert, hb x]
    by_cases hx : x.hash % h.buckets.length = i <;> simp [hx]

theorem removeNode_ok {hashfn : Nat → Nat → Nat} {t : Table} {h : Head} {ps : List Head} {i : Nat}
    (hwf : TWF hashfn t) (hh : t.heads = h :: ps) (hi : i < h.buckets.length)
    (hst : (h.bucket i).state = .init) {j : Nat} {n : TNode} (hj : (h.bucket i).nodes[j]? = some n) :
    Holds hashfn (removeNode t h ps i (h.bucket i) j) (fun x => Mem t x ∧ x ≠ n) (t.statNodes - 1) t.nextId := by
  have hw := hwf.chain_cons hh
  have hbok := hw.2.1 i hi (by rw [hst]; simp)
  have hb := mem_bucket_iff hwf hh hi hst
  have hnb : n ∈ (h.bucket i).nodes := List.mem_iff_getElem?.mpr ⟨j, hj⟩
  have hok' : BucketOK hashfn h.buckets.length i
      ((h.bucket i).nodes.take j ++ (h.bucket i).nodes.drop (j + 1)) :=
    ⟨sorted_remove hbok.1 j, fun x hx => hbok.2 x ((mem_remove hbok.1 hj).mp hx).1⟩
  refine (finish_ok hwf hh hi (removeNode_cases t hw.headOK ps i (h.bucket i) j) hst hok').congr fun x => ?_
  · dsimp only
    rw [mem_remove hbok.1 hj, hb x]
    constructor
    · rintro (⟨⟨h1, _⟩, h2⟩ | ⟨h1, h2⟩)
      · exact ⟨h1, h2⟩
      · exact ⟨h1, fun hxn => h2 (hxn ▸ ((hb n).mp hnb).2)⟩
    · rintro ⟨h1, h2⟩
      by_cases hx : x.hash % h.buckets.length = i
      · exact Or.inl ⟨⟨h1, hx⟩, h2⟩
      · exact Or.inr ⟨h1, hx⟩

end GoLevel.CacheT

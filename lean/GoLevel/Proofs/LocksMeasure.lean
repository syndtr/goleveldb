import GoLevel.Proofs.LocksShape
/-! Every fault-free step strictly decreases the measure (any configuration). -/
namespace GoLevel.Locks

@[simp] theorem bgWt_run (w : Option Nat) (ph : BPh) : bgWt (.run w ph) = bphWt ph := rfl
@[simp] theorem bgWt_idle : bgWt .idle = 1 := rfl
@[simp] theorem bgWt_exited : bgWt .exited = 0 := rfl
@[simp] theorem bgWt_parked : bgWt .parked = 1 := rfl
@[simp] theorem bgWt_afterCmd (cfg : Cfg) (s : St) (b : Bool) : bgWt (afterCmd cfg s b) = 1 := by
  rcases afterCmd_cases cfg s b with h | h <;> rw [h] <;> rfl

@[simp] theorem ehWt_noerr : ehWt .noerr = 3 := rfl
@[simp] theorem ehWt_haserr : ehWt .haserr = 3 := rfl
@[simp] theorem ehWt_hasperr : ehWt .hasperr = 3 := rfl
@[simp] theorem ehWt_exited : ehWt .exited = 0 := rfl
@[simp] theorem ehWt_closing : ehWt .closing = 2 := rfl

theorem ehWt_next (m : CompErr.MCfg) (e : Eh) (k : EK) (h : CompErr.recvs m e = true) :
    ehWt (CompErr.next m e k) = 3 ∧ ehWt e = 3 := by
  cases e <;> simp [CompErr.recvs] at h <;> cases k <;> simp [CompErr.next] <;> (repeat' split) <;> simp [ehWt]

theorem ehWt_onClose (m : CompErr.MCfg) (e : Eh) (w : Bool) (h : CompErr.closes m e = true) :
    ehWt (CompErr.onClose m e w) ≤ 2 ∧ ehWt e = 3 := by
  cases e <;> simp [CompErr.closes] at h <;> simp [CompErr.onClose] <;> (repeat' split) <;> simp [ehWt]

theorem bphWt_pos (ph : BPh) : 0 < bphWt ph := by
  cases ph <;> simp [bphWt] <;> (try (rename_i a b; cases a <;> cases b <;> simp))

@[simp] theorem bgWt_clearW (x : Bg) (i : Nat) : bgWt (clearW x i) = bgWt x := by
  unfold clearW; split
  · split <;> rfl
  · rfl

theorem wt_onErr_lt (site : Site) (lg : Bool) : wt (onErr site lg) < ackWt site := by
  cases site <;> cases lg <;> simp [onErr, wt, ackWt]

theorem tot_ackWs_wt (ws : List Pc) (w : Option Nat) (b : Bool) : tot wt (ackWs ws w b) ≤ tot wt ws := by
  unfold ackWs
  split
  · split
    · rename_i i _ b' site lg hw
      split
      · have := tot_set wt ws i _ (onOk site lg) hw
        have : wt (onOk site lg) ≤ wt (.cwAck b' site lg) := by
          cases site <;> cases lg <;> simp [onOk, wt, ackWt]
        omega
      · exact Nat.le_refl _
    · exact Nat.le_refl _
  · exact Nat.le_refl _

/-- a change of `tok` counts for less than any weight -/
theorem measure_lt_of_move {s t : St} {i : Nat} {p : Pc} (hi : s.ws[i]? = some p) (q : Pc)
    (hws : t.ws = s.ws.set i q)
    (h : wt q + bgWt t.mc + bgWt t.tc + ehWt t.eh < wt p + bgWt s.mc + bgWt s.tc + ehWt s.eh) :
    measure t < measure s := by
  unfold measure; rw [hws]
  have := tot_set wt s.ws i p q hi
  split <;> split <;> omega

theorem measure_lt_of_rest {s t : St} (hws : tot wt t.ws ≤ tot wt s.ws)
    (h : bgWt t.mc + bgWt t.tc + ehWt t.eh < bgWt s.mc + bgWt s.tc + ehWt s.eh) : measure t < measure s := by
  unfold measure; split <;> split <;> omega

theorem measure_lt_of_bg {s u : St} {b : Bool} {v : Bg} (hws : tot wt u.ws ≤ tot wt s.ws) (hmc : u.mc = s.mc)
    (htc : u.tc = s.tc) (h : bgWt v + ehWt u.eh < bgWt (s.bg b) + ehWt s.eh) : measure (u.setBg b v) < measure s := by
  refine measure_lt_of_rest (by cases b <;> exact hws) ?_
  cases b
  · show bgWt v + bgWt u.tc + ehWt u.eh < _
    rw [htc]; simp only [St.bg, Bool.false_eq_true, ↓reduceIte] at h; omega
  · show bgWt u.mc + bgWt v + ehWt u.eh < _
    rw [hmc]; simp only [St.bg, ↓reduceIte] at h; omega

theorem step_measure (cfg : Cfg) (s t : St) (h : Step cfg false s t) : measure t < measure s := by
  cases h with
  | ehAcquire _ he ht =>
    unfold measure; rw [ht]; exact Nat.lt_succ_self _
  | ehClose _ he hc =>
    have := ehWt_onClose cfg.m s.eh s.cwl he
    refine measure_lt_of_rest (Nat.le_refl _) ?_
    show bgWt s.mc + bgWt s.tc + ehWt (CompErr.onClose cfg.m s.eh s.cwl) < bgWt s.mc + bgWt s.tc + ehWt s.eh
    omega
  | ehTake _ he =>
    refine measure_lt_of_rest (Nat.le_refl _) ?_
    show bgWt s.mc + bgWt s.tc + ehWt .exited < bgWt s.mc + bgWt s.tc + ehWt s.eh
    rw [he]; simp only [ehWt]; omega
  | bgExitParked _ hb =>
    refine measure_lt_of_rest (Nat.le_refl _) ?_
    show bgWt s.mc + bgWt .exited + ehWt s.eh < bgWt s.mc + bgWt s.tc + ehWt s.eh
    rw [hb]; simp only [bgWt]; omega
  | bgExitIdle _ b hb | bgWorkOk _ b w hb | bgCommitOk _ b w hb | bgLockClk _ b w hb =>
    exact measure_lt_of_bg (Nat.le_refl _) rfl rfl (by rw [hb]; simp only [bgWt, bphWt]; omega)
  | bgSetErrPer _ b w c hb | bgBackoff _ b w c hb =>
    exact measure_lt_of_bg (Nat.le_refl _) rfl rfl
      (by rw [hb]; cases c <;> simp only [bgWt, bphWt, afterSetErr, ↓reduceIte, Bool.false_eq_true] <;> omega)
  | bgSetErr _ b w ok c hb he =>
    have := ehWt_next cfg.m s.eh (if ok then .nil else .transient) he
    refine measure_lt_of_bg (Nat.le_refl _) rfl rfl ?_
    show bgWt (.run w (afterSetErr ok c)) + ehWt (CompErr.next cfg.m s.eh (if ok then .nil else .transient)) < _
    rw [hb, this.1, this.2]
    cases ok <;> cases c <;> simp only [bgWt, bphWt, afterSetErr, ↓reduceIte, Bool.false_eq_true] <;> omega
  | bgSetErrCorrupt _ b w c hb he =>
    have := ehWt_next cfg.m s.eh .corrupt he
    refine measure_lt_of_bg (Nat.le_refl _) rfl rfl ?_
    show bgWt .exited + ehWt (CompErr.next cfg.m s.eh .corrupt) < _
    rw [hb, this.1, this.2]; simp only [bgWt, bphWt]; omega
  | bgAck _ b w hb =>
    refine measure_lt_of_bg (tot_ackWs_wt s.ws w b) rfl rfl ?_
    rw [hb, bgWt_afterCmd]; simp only [bgWt, bphWt]; omega
  | bgExit _ b w ph hb =>
    have := bphWt_pos ph
    exact measure_lt_of_bg (Nat.le_refl _) rfl rfl (by rw [hb]; simp only [bgWt]; omega)
  | selTok _ i p q hi hq | selPerErr _ i p q hi hq | selClosed _ i p q hi hq =>
    obtain ⟨rfl, rfl⟩ | ⟨lg, rfl, rfl⟩ | ⟨rfl, rfl⟩ | ⟨rfl, rfl⟩ := selNext_some hq <;>
      exact measure_lt_of_move hi _ (by rfl) (by simp only [wt]; omega)
  | cwSendGo _ i b site lg hi hb =>
    cases b <;> simp only [St.bg, Bool.false_eq_true, ↓reduceIte] at hb <;>
      exact measure_lt_of_move hi _ (by rfl) (by simp only [St.setBg, Bool.false_eq_true, ↓reduceIte, hb, wt, bgWt, bphWt]; omega)
  | cwSendRO _ i site lg hi hb =>
    have := wt_onErr_lt site lg
    refine measure_lt_of_move hi _ (by rfl) ?_
    show wt (onErr site lg) + bgWt s.mc + bgWt .parked + ehWt s.eh < ackWt site + 8 + bgWt s.mc + bgWt s.tc + ehWt s.eh
    rw [hb]; simp only [bgWt]; omega
  | cwSendErr _ i b site lg hi =>
    have := wt_onErr_lt site lg
    refine measure_lt_of_move hi _ (by rfl) ?_
    show wt (onErr site lg) + bgWt s.mc + bgWt s.tc + ehWt s.eh < ackWt site + 8 + bgWt s.mc + bgWt s.tc + ehWt s.eh
    omega
  | cwAckErr _ i b site lg hi =>
    have := wt_onErr_lt site lg
    cases b <;> refine measure_lt_of_move hi _ (by rfl) ?_
    · show wt (onErr site lg) + bgWt (clearW s.mc i) + bgWt s.tc + ehWt s.eh < ackWt site + bgWt s.mc + bgWt s.tc + ehWt s.eh
      rw [bgWt_clearW]; omega
    · show wt (onErr site lg) + bgWt s.mc + bgWt (clearW s.tc i) + ehWt s.eh < ackWt site + bgWt s.mc + bgWt s.tc + ehWt s.eh
      rw [bgWt_clearW]; omega
  | srSend _ i hi he =>
    have := ehWt_next cfg.m s.eh .readonly he
    exact measure_lt_of_move hi _ (by rfl) (by simp only [wt]; omega)
  | clAcqKept _ i hi he =>
    exact measure_lt_of_move hi _ (by rfl) (by simp only [he, wt, ehWt]; omega)
  | startClose _ i hi | cmLockTr _ i lg hi | srPerErr _ i hi | srClosed _ i hi =>
    split <;> exact measure_lt_of_move hi _ (by rfl) (by simp only [wt]; omega)
  | cmDone _ i lg hi | dcBody _ i lg hi | clBody _ i hi =>
    unfold St.setDone
    split <;> exact measure_lt_of_move hi _ (by rfl) (by simp only [wt]; omega)
  | otxDone _ i lg hi | cmSleepTimer _ i k lg hi | cmRet _ i ok lg hi | clCheckTr _ i hi =>
    exact measure_lt_of_move hi _ (by rfl) (by split <;> simp only [wt] <;> omega)
  | _ =>
    exact measure_lt_of_move ‹_› _ (by rfl) (by simp only [wt, ackWt]; omega)

end GoLevel.Locks

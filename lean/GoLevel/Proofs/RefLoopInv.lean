import GoLevel.Proofs.RefLoopBasic
/-! The environment of the reference loop (what `version.incref/releaseNB`, `session.setVersion` send) as
explicit hypotheses, and the invariant that ties the loop's state to it (C07). -/
namespace GoLevel.RefLoop

/-- The history as the loop's environment produced it.  Version ids are consecutive: version `k` is
`vs[k]` (its tables); `ds[k]` is the delta sent when version `k` was superseded; `rel` = released versions. -/
structure Env where
  vs : List (List Nat)
  ds : List Delta
  rel : List Nat
  deriving Repr

def Env.init : Env := { vs := [], ds := [], rel := [] }
def Env.n (G : Env) : Nat := G.vs.length
def Env.nd (G : Env) : Nat := G.ds.length
def Env.F (G : Env) (k : Nat) : List Nat := G.vs.getD k []
def Env.D (G : Env) (k : Nat) : Delta := G.ds.getD k ⟨[], []⟩

def NodupDelta (d : Delta) : Prop := d.added.Nodup ∧ d.deleted.Nodup

def ExactDelta (G : Env) (k : Nat) (d : Delta) : Prop :=
  (∀ f, f ∈ d.added ↔ f ∈ G.F (k + 1) ∧ f ∉ G.F k) ∧ (∀ f, f ∈ d.deleted ↔ f ∈ G.F k ∧ f ∉ G.F (k + 1))

structure Env.WF (G : Env) : Prop where
  nodup : ∀ k, (G.F k).Nodup
  first : G.F 0 = []
  nd_lt : G.nd < G.n ∨ (G.n = 0 ∧ G.nd = 0)
  delta : ∀ k, k < G.nd → NodupDelta (G.D k) ∧ ExactDelta G k (G.D k)
  rel_lt : ∀ k ∈ G.rel, k < G.nd
  /-- a table that left the version never comes back (file numbers are not reused for installed tables) -/
  mono : ∀ f j k l, j < k → k < l → f ∈ G.F j → f ∉ G.F k → f ∉ G.F l

inductive EnvStep : Env → Msg → Env → Prop
  /-- `version.incref` of a new version: ids are consecutive, `ref v` precedes everything else about `v`;
  the first version of a session is empty -/
  | ref (G : Env) (fs : List Nat) : fs.Nodup → (G.n = 0 → fs = []) →
      (∀ f ∈ fs, ∀ j k, j < k → k < G.n → f ∈ G.F j → f ∈ G.F k) →
      EnvStep G (.ref G.n fs) { G with vs := G.vs ++ [fs] }
  /-- `setVersion`: the delta of the oldest version whose delta is still missing, once its successor exists -/
  | delta (G : Env) (d : Delta) : G.nd + 1 < G.n → NodupDelta d → ExactDelta G G.nd d →
      EnvStep G (.delta G.nd d) { G with ds := G.ds ++ [d] }
  /-- `version.releaseNB`: after `ref k`, after its delta was sent, once -/
  | rel (G : Env) (k : Nat) : k < G.nd → k ∉ G.rel →
      EnvStep G (.rel k (G.F k)) { G with rel := k :: G.rel }
  | expire (G : Env) (v : Nat) : EnvStep G (.expire v) G

@[simp] theorem F_mk_vs (G : Env) (ds : List Delta) (rel : List Nat) (k : Nat) :
    (Env.mk G.vs ds rel).F k = G.F k := rfl
@[simp] theorem n_mk_vs (G : Env) (ds : List Delta) (rel : List Nat) : (Env.mk G.vs ds rel).n = G.n := rfl
@[simp] theorem nd_mk_ds (G : Env) (vs : List (List Nat)) (rel : List Nat) : (Env.mk vs G.ds rel).nd = G.nd := rfl
@[simp] theorem D_mk_ds (G : Env) (vs : List (List Nat)) (rel : List Nat) (k : Nat) :
    (Env.mk vs G.ds rel).D k = G.D k := rfl
@[simp] theorem rel_mk (vs : List (List Nat)) (ds : List Delta) (rel : List Nat) : (Env.mk vs ds rel).rel = rel := rfl

theorem F_append_lt {G : Env} {fs : List Nat} {k : Nat} (h : k < G.n) :
    ({ G with vs := G.vs ++ [fs] } : Env).F k = G.F k := by
  simp only [Env.F, Env.n] at *
  rw [List.getD_eq_getElem?_getD, List.getD_eq_getElem?_getD, List.getElem?_append_left h]

theorem F_append_eq {G : Env} {fs : List Nat} :
    ({ G with vs := G.vs ++ [fs] } : Env).F G.n = fs := by
  simp [Env.F, Env.n, List.getD_eq_getElem?_getD]

theorem F_ge {G : Env} {k : Nat} (h : G.n ≤ k) : G.F k = [] := by
  simp only [Env.F, Env.n] at *
  rw [List.getD_eq_getElem?_getD, List.getElem?_eq_none h]; rfl

theorem F_append (G : Env) (fs : List Nat) (k : Nat) : ({ G with vs := G.vs ++ [fs] } : Env).F k =
    if k < G.n then G.F k else if k = G.n then fs else [] := by
  by_cases h1 : k < G.n
  · simp [h1, F_append_lt h1]
  · by_cases h2 : k = G.n
    · subst h2; simp [F_append_eq]
    · simp only [h1, h2, if_false]
      apply F_ge; simp only [Env.n, List.length_append, List.length_singleton] at *; omega

theorem D_append_lt {G : Env} {d : Delta} {k : Nat} (h : k < G.nd) :
    ({ G with ds := G.ds ++ [d] } : Env).D k = G.D k := by
  simp only [Env.D, Env.nd] at *
  rw [List.getD_eq_getElem?_getD, List.getD_eq_getElem?_getD, List.getElem?_append_left h]

theorem D_append_eq {G : Env} {d : Delta} :
    ({ G with ds := G.ds ++ [d] } : Env).D G.nd = d := by
  simp [Env.D, Env.nd, List.getD_eq_getElem?_getD]

theorem wf_step {G G' : Env} {m : Msg} (h : G.WF) (hs : EnvStep G m G') : G'.WF := by
  cases hs with
  | ref fs hnd hfirst hmono =>
    have hF := F_append G fs
    refine ⟨?_, ?_, ?_, ?_, h.rel_lt, ?_⟩
    · intro k; rw [hF]; split
      · exact h.nodup k
      · split
        · exact hnd
        · exact List.nodup_nil
    · rw [hF]; split
      · exact h.first
      · rename_i h0
        have : G.n = 0 := by omega
        simp [this, hfirst this]
    · left; have := h.nd_lt; simp only [Env.n, Env.nd, List.length_append, List.length_singleton] at *; omega
    · intro k hk
      have hk' : k < G.nd := hk
      have hlt : k + 1 < G.n := by rcases h.nd_lt with h1 | h1 <;> omega
      unfold ExactDelta
      rw [F_append_lt hlt, F_append_lt (by omega : k < G.n)]
      exact h.delta k hk'
    · intro f j k l hjk hkl hj hk
      rw [hF] at hj hk ⊢
      by_cases hl : l < G.n
      · simp only [hl, (by omega : j < G.n), (by omega : k < G.n), if_true] at hj hk ⊢
        exact h.mono f j k l hjk hkl hj hk
      · by_cases hl2 : l = G.n
        · subst hl2
          simp only [Nat.lt_irrefl, if_false, if_true, (by omega : j < G.n), hkl] at hj hk ⊢
          intro hf
          exact hk (hmono f hf j k hjk hkl hj)
        · simp [hl, hl2]
  | delta d hlt hnd hex =>
    refine ⟨h.nodup, h.first, ?_, ?_, ?_, h.mono⟩
    · left; simp [Env.n, Env.nd] at *; omega
    · intro k hk
      simp only [Env.nd, List.length_append, List.length_singleton] at hk
      by_cases hk' : k < G.nd
      · rw [D_append_lt hk']; exact h.delta k hk'
      · have : k = G.nd := by simp only [Env.nd] at *; omega
        subst this
        rw [D_append_eq]; exact ⟨hnd, hex⟩
    · intro k hk
      have := h.rel_lt k hk
      simp [Env.nd] at *; omega
  | rel k hk hnot =>
    refine ⟨h.nodup, h.first, h.nd_lt, h.delta, ?_, h.mono⟩
    intro j hj
    rcases List.mem_cons.mp hj with rfl | hj
    · exact hk
    · exact h.rel_lt j hj
  | expire v => exact h

structure Inv (S : State) (G : Env) : Prop where
  wf : G.WF
  ab : S.abandoned = []
  nx : S.next ≤ G.n
  last : S.last + 1 = G.n ∨ (G.n = 0 ∧ S.last = 0)
  ref : ∀ k, S.ref.lookup k = if S.next ≤ k ∧ k < G.n ∧ k ∉ G.rel then some (G.F k) else none
  rld : ∀ k, S.released.lookup k = if S.next ≤ k ∧ k ∈ G.rel then some (some (G.D k)) else none
  dl : ∀ k, S.deltas.lookup k = if S.next ≤ k ∧ k < G.nd ∧ k ∉ G.rel then some (G.D k) else none
  rfd : S.referenced.Nodup ∧ ∀ k, k ∈ S.referenced ↔ k < S.next ∧ k ∉ G.rel
  /-- the counters: the base version (the oldest version whose delta has not been applied) plus one reference
  per version converted to full references and not yet released -/
  cnt : ∀ f, S.fileRef.count f =
    (if f ∈ G.F (min G.nd S.next) then 1 else 0) + (S.referenced.filter (fun k => decide (f ∈ G.F k))).length

end GoLevel.RefLoop

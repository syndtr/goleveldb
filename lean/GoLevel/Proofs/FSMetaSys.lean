import GoLevel.Model.FSMeta
/-!
# One system call

`sys` asks the oracle what becomes of the call.  Apart from plain evaluation (`fsm_eval`) the proofs see a call in
one of four ways and unfold `sys` nowhere else: a dead process's call does nothing (`sys_dead`); under any oracle a
call works, or returns an error having done nothing or a part (`sys_cases`: the walk along `setMeta`, the read-only
`GetMeta`); in a *calm* world (`Calm`: the process is alive and none of its further calls fails) it is its effect
(`sys_calm`); a call without a partial effect that fails, fails in one way only (`sys_soft`: the table of single
failures).  `openEff` is `OpenFile`'s effect, in whose terms both the walk and the calm layer say what
`writeFileSynced` leaves.
-/
namespace GoLevel.FSMeta

theorem sys_dead {α : Type} (l : Lbl) (eff : FS → Except Err α × FS) (part : FS → FS) {w : W} (h : w.dead = true) :
    sys l eff part w = (.error .io, w) := by simp [sys, h]

theorem sys_cases {α : Type} (l : Lbl) (eff : FS → Except Err α × FS) (part : FS → FS) (w : W) :
    (∃ w', sys l eff part w = ((eff w.fs).1, w') ∧ w'.fs = (eff w.fs).2) ∨
    (∃ w', sys l eff part w = (.error .io, w') ∧ (w'.fs = w.fs ∨ w'.fs = part w.fs)) := by
  unfold sys
  split
  · exact .inr ⟨_, rfl, .inl rfl⟩
  · cases w.o w.k <;> simp [sysF]

theorem sys_fs_id {α : Type} (l : Lbl) (eff : FS → Except Err α × FS) (h : ∀ fs, (eff fs).2 = fs) (w : W) :
    (sys l eff id w).2.fs = w.fs := by
  rcases sys_cases l eff id w with ⟨w', e, f⟩ | ⟨w', e, f⟩ <;> rw [e]
  · exact f.trans (h _)
  · simpa using f

def Calm (w : W) : Prop := w.dead = false ∧ ∀ j, w.k ≤ j → w.o j = .ok

theorem calm_of (fs : FS) : Calm (W.of fs) := ⟨rfl, fun _ _ => rfl⟩

/-- the world after a system call that worked -/
def nxt (l : Lbl) (fs : FS) (w : W) : W := { w with fs := fs, k := w.k + 1, trace := w.trace ++ [l] }

@[simp] theorem nxt_fs (l : Lbl) (fs : FS) (w : W) : (nxt l fs w).fs = fs := rfl

theorem Calm.nxt {w : W} (h : Calm w) (l : Lbl) (fs : FS) : Calm (nxt l fs w) :=
  ⟨h.1, fun j hj => h.2 j (Nat.le_of_succ_le hj)⟩

theorem sys_calm {α : Type} (l : Lbl) (eff : FS → Except Err α × FS) (part : FS → FS) {w : W} (h : Calm w) :
    sys l eff part w = ((eff w.fs).1, nxt l (eff w.fs).2 w) := by
  simp [sys, h.1, h.2 w.k (Nat.le_refl _), sysF, nxt]

theorem sys_soft {α : Type} {f : Fault} (hf : f = .fail ∨ f = .failPartial) (l : Lbl) (eff : FS → Except Err α × FS)
    {w : W} (hd : w.dead = false) (ho : w.o w.k = f) :
    sys l eff id w = (.error .io, nxt l w.fs w) := by
  unfold sys
  rw [if_neg (by simp [hd]), ho]
  rcases hf with rfl | rfl <;> rfl

/-- what `OpenFile(O_CREATE|O_TRUNC)` does when it works -/
def openEff (n : Name) (fs : FS) : Except Err Nat × FS :=
  match fs.vdir.get n with
  | some i => (.ok i, fs.setIno i fun x => { x with vol := .empty, dirty := true })
  | none => (.ok fs.inodes.length,
      { fs with inodes := fs.inodes ++ [⟨.empty, .empty, true⟩], log := fs.log ++ [.link n fs.inodes.length] })

theorem openTrunc_eq (n : Name) : openTrunc n = sys .open_ (openEff n) id := rfl

theorem setIno_setIno (fs : FS) (i : Nat) (f g : Inode → Inode) :
    (fs.setIno i f).setIno i g = fs.setIno i (fun x => g (f x)) := by
  simp only [FS.setIno, FS.ino]
  by_cases hi : i < fs.inodes.length
  · simp [hi, List.getD]
  · simp [List.set_eq_of_length_le (Nat.le_of_not_lt hi)]

end GoLevel.FSMeta

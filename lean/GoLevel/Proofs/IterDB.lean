import GoLevel.Proofs.IterVis
/-!
# `DBIter` over any raw iterator that simulates a cursor refines the cursor over the visible entries

`DBRel` ties the state of the DB iterator (direction, saved key/value, position of the raw iterator in the
raw entries `es`) to the position of the specification cursor over `es.filter (isVisible c es seq)`.
-/
namespace GoLevel

def pairOf (e : Entry) : Bytes × Bytes := (e.ukey, e.val)

theorem visible_eq (c : UCmp) (es : List Entry) (seq : Nat) :
    visible c es seq = (visList c es seq).map pairOf := rfl

/-- where the raw iterator is left when `prev()` has settled on the visible entry at `m`: just below a stretch
`[a, m)` of entries newer than `seq` -/
def BackRaw {σ : Type} (R : σ → Pos → Prop) (es : List Entry) (seq : Nat) (raw : σ) (m : Nat) : Prop :=
  ∃ a, a ≤ m ∧ R raw (Cursor.before a) ∧ ∀ (i : Nat) (e : Entry), a ≤ i → i < m → es[i]? = some e → seq < e.seq

inductive DBPos {σ : Type} (c : UCmp) (R : σ → Pos → Prop) (es : List Entry) (seq : Nat) (d : DBIter σ) : Pos → Prop
  | soi : d.dir = .soi → R d.raw .soi → DBPos c R es seq d .soi
  | eoi {q : Pos} : d.dir = .eoi → R d.raw q → DBPos c R es seq d .eoi
  | forward {j : Nat} {e : Entry} : d.dir = .forward → R d.raw (.at j) → es[j]? = some e → Vis es seq j e →
      d.key = e.ukey → d.value = e.val → DBPos c R es seq d (.at (rk c es seq j))
  | backward {j : Nat} {e : Entry} : d.dir = .backward → es[j]? = some e → Vis es seq j e → d.key = e.ukey →
      d.value = e.val → BackRaw R es seq d.raw j → DBPos c R es seq d (.at (rk c es seq j))

def DBRel {σ : Type} (c : UCmp) (R : σ → Pos → Prop) (es : List Entry) (seq : Nat) (d : DBIter σ) (p : Pos) :
    Prop :=
  d.seq = seq ∧ es.length < d.fuel ∧ DBPos c R es seq d p

section
variable {σ : Type} {o : IterOps σ} {c : UCmp} {es : List Entry} {R : σ → Pos → Prop}

theorem DBRel.rawR {seq : Nat} {d : DBIter σ} {p : Pos} (h : DBRel c R es seq d p) : ∃ q, R d.raw q := by
  obtain ⟨_, _, h⟩ := h
  cases h with
  | soi _ hR => exact ⟨_, hR⟩
  | eoi _ hR => exact ⟨_, hR⟩
  | forward _ hR => exact ⟨_, hR⟩
  | backward _ _ _ _ _ hb => obtain ⟨a, _, hR, _⟩ := hb; exact ⟨_, hR⟩

theorem DBRel.not_released {seq : Nat} {d : DBIter σ} {p : Pos} (h : DBRel c R es seq d p) :
    d.dir ≠ .released := by
  obtain ⟨_, _, h⟩ := h
  cases h <;> simp [*]

section vis
variable (hl : LawfulUCmp c) (hs : SortedEntries c es)
include hl hs

theorem DBRel.out {seq : Nat} {d : DBIter σ} {p : Pos} (h : DBRel c R es seq d p) :
    d.out = (Cursor.get (visList c es seq) p).map pairOf := by
  obtain ⟨_, _, h⟩ := h
  cases h with
  | soi hd => simp [DBIter.out, hd, Dir.valid, Cursor.get]
  | eoi hd => simp [DBIter.out, hd, Dir.valid, Cursor.get]
  | forward hd _ he hv hk hval =>
    have := filter_get_rank (isVisible c es seq) es _ _ he (vis_true hl hs seq _ _ he hv)
    simp [DBIter.out, hd, Dir.valid, Cursor.get, visList, rk, this, pairOf, hk, hval]
  | backward hd he hv hk hval =>
    have := filter_get_rank (isVisible c es seq) es _ _ he (vis_true hl hs seq _ _ he hv)
    simp [DBIter.out, hd, Dir.valid, Cursor.get, visList, rk, this, pairOf, hk, hval]

theorem DBRel.of_backward {seq : Nat} {d : DBIter σ} {j : Nat} {e : Entry} (hseq : d.seq = seq)
    (hf : es.length < d.fuel) (hd : d.dir = .backward) (he : es[j]? = some e) (hv : Vis es seq j e)
    (hkey : d.key = e.ukey) (hval : d.value = e.val) (hb : BackRaw R es seq d.raw j) :
    DBRel c R es seq d (Cursor.before (rk c es seq (j + 1))) := by
  rw [rk_succ hl hs seq j e he hv]
  exact ⟨hseq, hf, .backward hd he hv hkey hval hb⟩

end vis

end
end GoLevel

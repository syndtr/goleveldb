import GoLevel.Proofs.LocksProgress
import GoLevel.Proofs.LocksMeasure
/-! Liveness: all invariants hold in the states `Covered` by C09; fault-free runs are
bounded by the measure and end in states where no call is pending. -/
namespace GoLevel.Locks
open CompErr

/-- `SetReadOnly`'s `closeC` arm is harmless: it releases the token, or it is never executed -/
def SrOk (cfg : Cfg) (s : St) : Prop := cfg.setReadOnlyReleasesOnClose = true ∨ NoSR s

theorem step_srOk (cfg : Cfg) (s t : St) (f : Bool) (h : Step cfg f s t) (hs : SrOk cfg s) : SrOk cfg t :=
  hs.elim Or.inl (fun hn => Or.inr (step_noSR cfg s t f h hn))

theorem rinv_of_idle' (s : St) (n : Nat) (hw : s.ws = List.replicate n .idle) (h1 : s.tok = false)
    (h2 : s.clk = false) (h3 : s.trlk = false) (h4 : s.trOpen = false) (h5 : s.ehTok = false)
    (h6 : s.closeTok = false) (h7 : s.mc = .idle) (h8 : s.tc = .idle) : RInv s := by
  refine ⟨?_, ?_, ?_⟩
  · rw [hw, tot_replicate_idle _ _ rfl, h1, h4, h5, h6]; rfl
  · rw [hw, tot_replicate_idle _ _ rfl, h2, h7, h8]; rfl
  · rw [hw, tot_replicate_idle _ _ rfl, h3]; rfl

/-- the initial states `init`, `initNoSR`, `initNC`: they differ in the parameters `sr` and `corr` only -/
def idleSt (n : Nat) (sr corr : Bool) : St := { ws := List.replicate n .idle, sr := sr, corr := corr }

theorem idle_tot (n : Nat) (a c : Bool) (f : Pc → Nat) (hf : f .idle = 0) : tot f (idleSt n a c).ws = 0 :=
  tot_replicate_idle f n hf

theorem idle_good (n : Nat) (a c : Bool) : Good (idleSt n a c) := by
  refine ⟨(rinv_of_idle' _ n rfl rfl rfl rfl rfl rfl rfl rfl rfl).weak, ?_, ?_, ?_, ?_, ?_, ?_⟩
  · simp [PInvA, idleSt]
  · simp [PInvB, idleSt, b2n]
  · refine ⟨?_, Nat.zero_le _, ?_⟩
    · rw [idle_tot n a c clAllW rfl]; exact Nat.zero_le _
    · rw [idle_tot n a c clPreW rfl]; simp [idleSt, b2n]
  · simp [PInvD, idleSt, b2n]
  · simp [PInvE, idleSt, tot_replicate_idle srW n rfl]
  · intro i b site lg hi
    rw [show (idleSt n a c).ws = List.replicate n .idle from rfl, List.getElem?_replicate] at hi
    split at hi <;> simp at hi

theorem idle_tokE (n : Nat) (a c : Bool) : TokE (idleSt n a c) := by
  unfold TokE; rw [idle_tot n a c tokW rfl]; rfl

/-- everything the inductive step needs: the invariants, `SrOk`, the exact accounting of the token while the DB
is open, and (before 832d000) `compWriteLocking` set by a `SetReadOnly` between its two `select`s -/
def Inv (cfg : Cfg) (s : St) : Prop := Good s ∧ SrOk cfg s ∧ OpenE s ∧ CwlOk cfg s

theorem step_goodE (cfg : Cfg) (h3 : Fixed3 cfg) (hm : cfg.m = .asCoded cfg.closeSel) (hsh : cfg.Shape) (s t : St) (f : Bool)
    (h : Step cfg f s t) : Inv cfg s → Inv cfg t := fun ⟨g, so, oe, cw⟩ =>
  have k := sim h
  ⟨⟨step_rinvW cfg h3 s t f h g.r, k.pinvA hm g.a, k.pinvB hm so hsh cw g.b,
      k.pinvC (clPre_le_clAll s.ws) g.c,
      k.pinvD h3.2.2 g.d, k.pinvE hm g.a oe g.e, step_w1 cfg hm s t f h g.w⟩,
    step_srOk cfg s t f h so, step_openE cfg h3 s t f g.a g.e h oe, k.cwlOk cw⟩

/-- what the theorems of C09 cover: the three leaks of `Commit` / `OpenTransaction` / large-batch `Write`
are closed, `compactionError` is as coded, the hand-over of the token between `SetReadOnly` and `compactionError`
is as coded since 832d000 or as coded before, and either the `SetReadOnly`∥`Close` leak is closed too or no
thread executes `SetReadOnly` -/
def Covered (cfg : Cfg) (s : St) : Prop :=
  Fixed3 cfg ∧ cfg.m = .asCoded cfg.closeSel ∧ cfg.Shape ∧
  ((cfg.setReadOnlyReleasesOnClose = true ∧ (Reachable cfg s ∨ ReachableNC cfg s)) ∨ ReachableNoSR cfg s)

theorem idle_inv (cfg : Cfg) (n : Nat) (a c : Bool) (hs : SrOk cfg (idleSt n a c)) : Inv cfg (idleSt n a c) :=
  ⟨idle_good n a c, hs, fun _ => idle_tokE n a c, fun _ hp => by rw [idle_tot n a c srW rfl] at hp; cases hp⟩

theorem Covered.from_idle {cfg : Cfg} {s : St} (h : Covered cfg s) :
    ∃ n a c, SrOk cfg (idleSt n a c) ∧ Steps cfg (idleSt n a c) s := by
  rcases h.2.2.2 with ⟨h4, ⟨n, hs⟩ | ⟨n, hs⟩⟩ | ⟨n, hs⟩
  · exact ⟨n, true, true, .inl h4, hs⟩
  · exact ⟨n, true, false, .inl h4, hs⟩
  · exact ⟨n, false, true, .inr (initNoSR_noSR n), hs⟩

theorem covered_goodE (cfg : Cfg) (s : St) (h : Covered cfg s) : Good s ∧ OpenE s := by
  obtain ⟨n, a, c, h0, hs⟩ := h.from_idle
  have := steps_inv_of_step (Inv cfg) (step_goodE cfg h.1 h.2.1 h.2.2.1) _ _ hs (idle_inv cfg n a c h0)
  exact ⟨this.1, this.2.2.1⟩

theorem covered_good (cfg : Cfg) (s : St) (h : Covered cfg s) : Good s := (covered_goodE cfg s h).1

theorem covered_steps (cfg : Cfg) (s t : St) (h : Covered cfg s) (hs : Steps cfg s t) : Covered cfg t :=
  have ext {s0 : Nat → St} : (∃ n, Steps cfg (s0 n) s) → ∃ n, Steps cfg (s0 n) t := fun ⟨n, h0⟩ => ⟨n, h0.trans hs⟩
  ⟨h.1, h.2.1, h.2.2.1, h.2.2.2.imp (And.imp_right (Or.imp ext ext)) ext⟩

theorem idle_exactH (n : Nat) (a c : Bool) : ExactH (idleSt n a c) :=
  ⟨idle_tokE n a c, fun h => (by cases h), (by rw [idle_tot n a c srW rfl]; exact Nat.zero_le _), fun h => (by cases h)⟩

/-- **since 832d000**: the accounting of the token is exact in every run — corruption errors, `SetReadOnly` and
`Close` anywhere -/
theorem exact_handsOver (cfg : Cfg) (s : St) (hc : Covered cfg s) (hh : cfg.HandsOver)
    (h4 : cfg.setReadOnlyReleasesOnClose = true) : ExactH s :=
  have ⟨n, a, c, _, hs⟩ := hc.from_idle
  steps_inv_of_step ExactH (fun s t f => step_exactH cfg hc.1 hc.2.1 s t f (.inl ⟨hh, h4⟩)) _ _ hs (idle_exactH n a c)

/-- runs without corruption errors: the accounting of the token is exact throughout -/
theorem exact_noCorr (cfg : Cfg) (h3 : Fixed3 cfg) (hm : cfg.m = .asCoded cfg.closeSel)
    (h4 : cfg.setReadOnlyReleasesOnClose = true) (s : St) (hr : ReachableNC cfg s) : ExactJ s := by
  obtain ⟨n, hs⟩ := hr
  refine steps_inv_of_step ExactJ (fun s t f h inv => step_exactJ cfg h3 hm s t f (Or.inl h4) h inv) _ _ hs ?_
  exact ⟨idle_tokE n true false, ⟨fun h => (by rcases h with h | h <;> cases h),
    (idle_tot n true false srW rfl ▸ Nat.zero_le _)⟩, initNC_noCorr n⟩

/-- … also when no thread executes `SetReadOnly`, whatever the hand-over: then only the `hasperr` loop sets
`compWriteLocking`, together with putting its token in -/
theorem exact_noSR (cfg : Cfg) (h3 : Fixed3 cfg) (hm : cfg.m = .asCoded cfg.closeSel) (s : St) (hr : ReachableNoSR cfg s) :
    TokE s := by
  obtain ⟨n, hs⟩ := hr
  exact (steps_inv_of_step (fun s => NoSR s ∧ ExactH s)
    (fun s t f h ⟨ns, x⟩ => ⟨step_noSR cfg s t f h ns, step_exactH cfg h3 hm s t f (.inr ns) h x⟩) _ _ hs
    ⟨initNoSR_noSR n, idle_exactH n false true⟩).2.1

inductive StepsNFN (cfg : Cfg) : Nat → St → St → Prop
  | refl (s : St) : StepsNFN cfg 0 s s
  | tail {n : Nat} {s t u : St} : StepsNFN cfg n s t → Step cfg false t u → StepsNFN cfg (n + 1) s u

theorem stepsNFN_measure {cfg : Cfg} {n : Nat} {s t : St} (h : StepsNFN cfg n s t) :
    n + measure t ≤ measure s := by
  induction h with
  | refl => omega
  | tail _ h2 ih => have := step_measure cfg _ _ h2; omega

theorem stepsNF_steps {cfg : Cfg} {s t : St} (h : StepsNF cfg s t) : Steps cfg s t := by
  induction h with
  | refl => exact .refl _
  | tail _ h ih => exact .tail ih h

theorem settle (cfg : Cfg) (s : St) : ∃ t, StepsNF cfg s t ∧ ¬ ∃ u, Step cfg false t u := by
  generalize hm : measure s = m
  induction m using Nat.strongRecOn generalizing s with
  | _ m ih =>
    by_cases h : ∃ u, Step cfg false s u
    · obtain ⟨u, hu⟩ := h
      have := step_measure cfg s u hu
      obtain ⟨t, ht, hq⟩ := ih (measure u) (by omega) u rfl
      refine ⟨t, ?_, hq⟩
      clear hq ih
      induction ht with
      | refl => exact .tail (.refl _) hu
      | tail _ h2 ih2 => exact .tail ih2 h2
    · exact ⟨s, .refl _, h⟩

/-- a thread inside `Close` stays inside `Close` until it returns `nil` -/
theorem close_thread_step (cfg : Cfg) (s t : St) (f : Bool) (h : Step cfg f s t) (i' : Nat) (p' : Pc)
    (hi' : s.ws[i']? = some p') (hp' : clAllW p' = 1 ∨ p' = .ret true) :
    ∃ q, t.ws[i']? = some q ∧ (clAllW q = 1 ∨ q = .ret true) := by
  rcases step_at h hi' with e | ⟨_, _, _, e, _⟩ | ⟨q, e, o⟩
  · exact ⟨_, e, hp'⟩
  · subst e; rcases hp' with c | c <;> cases c
  · rcases hp' with c | c
    · exact ⟨q, e, o.2.2.1 c⟩
    · subst c; cases o.1

end GoLevel.Locks

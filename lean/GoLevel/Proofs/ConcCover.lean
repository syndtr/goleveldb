import GoLevel.Proofs.ConcBasic
/-!
# The cover invariant (I3): buffers and tables together answer like the history, at every position
at or above the compaction floor
-/
namespace GoLevel.Conc

/-- private entries not yet in a version, and the write buffer -/
def bufPartL (σ : State) : List Entry := privOut σ.tr ++ memBuf σ
/-- … plus the frozen buffer: everything a read consults besides the tables -/
def bufPart (σ : State) : List Entry := bufPartL σ ++ frozenBuf σ

structure Cover (c : UCmp) (σ : State) : Prop where
  /-- the buffers are an intact top segment of everything written -/
  intact : ∀ h ∈ univ σ, h ∈ bufPart σ ∨ ∀ x ∈ bufPart σ, h.seq < x.seq
  order : ∀ f ∈ frozenBuf σ, ∀ m ∈ bufPartL σ, f.seq < m.seq
  cov : ∀ k s, σ.floor ≤ s → view c (bufPart σ ++ σ.tabs) k s = view c (univ σ) k s
  /-- once the flush is committed the frozen buffer is redundant -/
  cov2 : σ.flushed = true → ∀ k s, σ.floor ≤ s → view c (bufPartL σ ++ σ.tabs) k s = view c (univ σ) k s

theorem cover_init (c : UCmp) : Cover c init := by
  constructor <;> simp [init, univ, privOf, bufPart, bufPartL, privOut, memBuf, frozenBuf, optBuf, getBuf]

theorem privOut_sub (tr : Option TrState) : ∀ e ∈ privOut tr, e ∈ privOf tr := by
  intro e he
  cases tr with
  | none => cases he
  | some t =>
    simp only [privOut] at he
    split at he
    · cases he
    · exact he

theorem Basic.bufPartL_univ {σ : State} (hb : Basic σ) : ∀ e ∈ bufPartL σ, e ∈ univ σ :=
  List.forall_mem_append.2 ⟨fun e he => List.mem_append_right _ (privOut_sub _ e he), hb.buf_univ _⟩

theorem Basic.frozenBuf_univ {σ : State} (hb : Basic σ) : ∀ e ∈ frozenBuf σ, e ∈ univ σ :=
  fun e he => List.mem_append_left _ (hb.optBuf_hist _ e he)

theorem Basic.bufPart_univ {σ : State} (hb : Basic σ) : ∀ e ∈ bufPart σ, e ∈ univ σ :=
  List.forall_mem_append.2 ⟨hb.bufPartL_univ, hb.frozenBuf_univ⟩

theorem Basic.src_univ {σ : State} (hb : Basic σ) : ∀ e ∈ bufPart σ ++ σ.tabs, e ∈ univ σ :=
  List.forall_mem_append.2 ⟨hb.bufPart_univ, hb.tab_univ⟩

theorem Basic.srcL_univ {σ : State} (hb : Basic σ) : ∀ e ∈ bufPartL σ ++ σ.tabs, e ∈ univ σ :=
  List.forall_mem_append.2 ⟨hb.bufPartL_univ, hb.tab_univ⟩

theorem Basic.privOut_nil_of_frozen {σ : State} (hb : Basic σ) (h : σ.frozen ≠ none) : privOut σ.tr = [] := by
  cases ht : σ.tr with
  | none => rfl
  | some t => exact absurd (hb.trExcl t ht).2.2.1 h

theorem Basic.leF_univ {σ : State} (hb : Basic σ) {s : Nat} (hs : s ≤ σ.pub) : leF s (univ σ) = leF s σ.hist :=
  leF_append_above fun e he => Nat.lt_of_le_of_lt hs (hb.privSeq e he)

theorem Cover.intactL {c : UCmp} {σ : State} (hc : Cover c σ) :
    ∀ h ∈ univ σ, h ∈ bufPartL σ ∨ ∀ x ∈ bufPartL σ, h.seq < x.seq := by
  intro h hh
  rcases hc.intact h hh with h1 | h1
  · rcases List.mem_append.1 h1 with h1 | h1
    · exact Or.inl h1
    · exact Or.inr (hc.order h h1)
  · exact Or.inr (fun x hx => h1 x (List.mem_append_left _ hx))

variable {c : UCmp}

/-- at or below `pub` nothing private is visible: the buffer part is the two buffers a reader pins -/
theorem Basic.leF_bufPart {σ : State} (hb : Basic σ) {s : Nat} (hs : s ≤ σ.pub) :
    leF s (bufPart σ) = leF s (memBuf σ ++ frozenBuf σ) := by
  simp only [bufPart, bufPartL, leF_append, List.nil_append,
    leF_above fun e he => Nat.lt_of_le_of_lt hs (hb.privSeq e (privOut_sub _ e he))]

/-- the cover invariant as a reader positioned between `floor` and `pub` meets it -/
theorem Cover.cov_pub {σ : State} (hc : Cover c σ) (hb : Basic σ) {s : Nat} (h1 : σ.floor ≤ s) (h2 : s ≤ σ.pub)
    (k : Bytes) : view c (memBuf σ ++ frozenBuf σ ++ σ.tabs) k s = view c σ.hist k s := by
  rw [← view_eq_of_leF (hb.leF_univ h2), ← hc.cov k s h1]
  exact view_eq_of_leF (by rw [leF_append _ σ.tabs, leF_append _ σ.tabs, hb.leF_bufPart h2])

theorem Cover.intact_pub {σ : State} (hc : Cover c σ) (hb : Basic σ) {s : Nat} (h2 : s ≤ σ.pub) :
    Intact σ.hist (memBuf σ ++ frozenBuf σ) s :=
  intact_of_leF (hb.leF_univ h2).symm (hb.leF_bufPart h2).symm fun h hh _ => hc.intact h hh

theorem cover_write {σ σ' : State} {E : List Entry} (hb : Basic σ) (hb' : Basic σ') (hc : Cover c σ)
    (hU : ∀ e, e ∈ univ σ' ↔ e ∈ univ σ ∨ e ∈ E)
    (hL : ∀ e, e ∈ bufPartL σ' ↔ e ∈ bufPartL σ ∨ e ∈ E)
    (hF : frozenBuf σ' = frozenBuf σ) (hT : σ'.tabs = σ.tabs) (hfl : σ'.floor = σ.floor)
    (hfd : σ'.flushed = σ.flushed)
    (hnew : ∀ e ∈ E, ∀ u ∈ univ σ, u.seq < e.seq) : Cover c σ' := by
  have hB : ∀ e, e ∈ bufPart σ' ↔ e ∈ bufPart σ ∨ e ∈ E := fun e => by
    simp only [bufPart, List.mem_append, hL, hF, or_assoc, or_comm]
  constructor
  · intro h hh
    rcases (hU h).1 hh with hh | hh
    · rcases hc.intact h hh with h1 | h1
      · exact Or.inl ((hB h).2 (Or.inl h1))
      · refine Or.inr (fun x hx => ?_)
        rcases (hB x).1 hx with hx | hx
        · exact h1 x hx
        · exact hnew x hx h hh
    · exact Or.inl ((hB h).2 (Or.inr hh))
  · intro f hf m hm
    rw [hF] at hf
    rcases (hL m).1 hm with hm | hm
    · exact hc.order f hf m hm
    · exact hnew m hm f (hb.frozenBuf_univ f hf)
  · intro k s hs
    rw [hfl] at hs
    refine view_write hb'.uniq hU (fun e => ?_) hb.src_univ hnew (hc.cov k s hs)
    simp only [List.mem_append, hB, hT, or_comm, or_left_comm]
  · intro hf k s hs
    rw [hfl] at hs
    rw [hfd] at hf
    refine view_write hb'.uniq hU (fun e => ?_) hb.srcL_univ hnew (hc.cov2 hf k s hs)
    simp only [List.mem_append, hL, hT, or_comm, or_left_comm]

theorem cover_eq {σ σ' : State} (hc : Cover c σ)
    (hU : univ σ' = univ σ) (hL : bufPartL σ' = bufPartL σ) (hF : frozenBuf σ' = frozenBuf σ)
    (hT : σ'.tabs = σ.tabs) (hfl : σ'.floor = σ.floor) (hfd : σ'.flushed = σ.flushed) : Cover c σ' := by
  constructor
  · simp only [bufPart, hU, hL, hF]; exact hc.intact
  · simp only [hL, hF]; exact hc.order
  · simp only [bufPart, hU, hL, hF, hT, hfl]; exact hc.cov
  · simp only [hU, hL, hT, hfl, hfd]; exact hc.cov2

theorem cover_noBufs {σ : State} (hB : bufPart σ = [])
    (hcov : ∀ k s, σ.floor ≤ s → view c σ.tabs k s = view c (univ σ) k s) : Cover c σ := by
  obtain ⟨hL, hF⟩ := List.append_eq_nil_iff.1 hB
  constructor
  · intro h _; rw [hB]; exact Or.inr nofun
  · intro f hf; rw [hF] at hf; cases hf
  · intro k s hs; rw [hB]; exact hcov k s hs
  · intro _ k s hs; rw [hL]; exact hcov k s hs

end GoLevel.Conc

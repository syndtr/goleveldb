import GoLevel.Model.Table
/-! C13, repairs 2 and 5 of wp64 on arbitrary files: `NewReader` constructs a reader only with both footer handles
inside the file, and a block handle that reaches beyond the end of the file is a corrupted block. -/
namespace GoLevel.C13
open GoLevel

/-- repair 5: the handle reaches beyond the end of the file ⇒ corrupted block, whatever the checksum setting -/
theorem readRawBlock_short (cksum : Bytes → Nat) (file : Bytes) (bh : BH) (verify : Bool)
    (h : file.length < bh.offset + bh.length + Gen.blockTrailerLen) :
    readRawBlock cksum file bh verify = none := by
  unfold readRawBlock
  have h5 : Gen.blockTrailerLen = 5 := rfl
  rw [h5] at h ⊢
  have : ((file.drop bh.offset).take (bh.length + 5)).length < bh.length + 5 := by
    simp only [List.length_take, List.length_drop]; omega
  simp only [this, if_true]

theorem readBlock_short (cksum : Bytes → Nat) (file : Bytes) (bh : BH) (verify : Bool)
    (h : file.length < bh.offset + bh.length + Gen.blockTrailerLen) :
    readBlock cksum file bh verify = none := by
  unfold readBlock
  rw [readRawBlock_short cksum file bh verify h]

theorem footerHandlesX_length (fx : ReaderFix) (file : Bytes) (p : BH × BH)
    (h : Table.footerHandlesX fx file = .ok p) : Gen.footerLen ≤ file.length := by
  unfold Table.footerHandlesX at h
  by_cases hl : file.length < Gen.footerLen
  · simp [hl] at h
  · omega

theorem inFile_bound (bh : BH) (len : Nat) (hl : Gen.footerLen ≤ len) (h : bh.inFile (len - Gen.footerLen) = true) :
    bh.offset + bh.length + Gen.blockTrailerLen ≤ len := by
  have h48 : Gen.footerLen = 48 := rfl
  have h5 : Gen.blockTrailerLen = 5 := rfl
  simp only [BH.inFile, Bool.and_eq_true, decide_eq_true_eq] at h
  omega

/-- `NewReader` (repaired) after the footer: the cases -/
theorem openBody_repaired (stale : Bytes) (cfg : TableCfg) (verify : Bool) (file : Bytes) (m i : BH) :
    ((m.inFile (file.length - Gen.footerLen) && i.inFile (file.length - Gen.footerLen)) = false →
      (Table.openBody .repaired stale cfg verify file m i).res = .error .footer ∧
      (Table.openBody .repaired stale cfg verify file m i).bufs = []) ∧
    ((m.inFile (file.length - Gen.footerLen) && i.inFile (file.length - Gen.footerLen)) = true →
      (∀ n ∈ (Table.openBody .repaired stale cfg verify file m i).bufs,
        n = m.length + Gen.blockTrailerLen ∨ n = i.length + Gen.blockTrailerLen) ∧
      ∀ t, (Table.openBody .repaired stale cfg verify file m i).res = .ok t → t.metaBH = m ∧ t.indexBH = i) := by
  constructor
  · intro h
    simp [Table.openBody, ReaderFix.repaired, h]
  · intro h
    unfold Table.openBody
    simp only [ReaderFix.repaired, h, Bool.not_true, Bool.and_false, Bool.false_eq_true, if_false, if_true, readBlockX]
    cases readBlock cfg.cksum file m true with
    | none =>
      simp only
      cases readBlock cfg.cksum file i true with
      | none => simp
      | some ib => simp
    | some mb =>
      simp only
      generalize metaLoop cfg.filter (mb.restartsOffset + 1) mb.data mb.restartsOffset [] none = r
      obtain ⟨flt, fbh⟩ := r
      simp only
      cases readBlock cfg.cksum file i true with
      | none => simp
      | some ib => simp

end GoLevel.C13

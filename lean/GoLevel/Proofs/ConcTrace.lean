import GoLevel.Proofs.ConcReader
/-!
# From single steps to executions

`StepSum` collects, by one case analysis on the action, everything the properties of C05/C11 need to know about one
step; the facts about executions (`RunSum`, `steps_*`), the publication groups (`GInv`) and the transaction reads (`TrInv`) are
inductions that use nothing else about `Conc.step`.  The last section turns a checked `run` into an execution.
-/
namespace GoLevel.Conc

variable {c : UCmp}

theorem Steps.trans {cfg : Cfg} {σ σ₁ σ₂ : State} (h1 : Steps cfg c σ σ₁)
    (h2 : Steps cfg c σ₁ σ₂) : Steps cfg c σ σ₂ := by
  induction h2 with
  | refl => exact h1
  | tail b _ hs ih => exact Steps.tail b ih hs

theorem Steps.head {cfg : Cfg} {σ σ₁ σ₂ : State} {a : Action} (h1 : Step cfg c σ a σ₁)
    (h2 : Steps cfg c σ₁ σ₂) : Steps cfg c σ σ₂ :=
  (Steps.tail a (Steps.refl σ) h1).trans h2

/-- `Transaction.Get` results are views of history plus private entries at the transaction's position
of that moment -/
def TrInv (c : UCmp) (σ : State) : Prop :=
  ∀ t, σ.tr = some t → ∀ x ∈ t.results,
    t.base ≤ x.2.1 ∧ x.2.1 ≤ t.base + t.priv.length ∧ x.2.2 = view c (σ.hist ++ t.priv) x.1 x.2.1

theorem trinv_init : TrInv c init := by intro t h; simp [init] at h

def BufGrow (σ σ' : State) : Prop := ∀ id, Grow σ.pub (getBuf σ id) (getBuf σ' id)

theorem bufGrow_same {σ σ' : State} (h : σ'.bufs = σ.bufs) : BufGrow σ σ' :=
  fun id => by simp only [getBuf, h]; exact .refl ..

/-- what a reader keeps, over one step or a whole execution: what it has pinned stays, results only accumulate -/
structure RKeep (r r' : Reader) : Prop where
  seqKeep : ∀ s, r.seq? = some s → r'.seq? = some s ∧ r'.live = r.live
  memsKeep : ∀ mf, r.mems? = some mf → r'.mems? = some mf
  verKeep : ∀ v, r.ver? = some v → r'.ver? = some v
  resKeep : ∃ more, r'.results = r.results ++ more

theorem RKeep.refl (r : Reader) : RKeep r r := ⟨fun _ h => ⟨h, rfl⟩, fun _ h => h, fun _ h => h, ⟨[], by simp⟩⟩

theorem RKeep.trans {r r₁ r₂ : Reader} (k1 : RKeep r r₁) (k2 : RKeep r₁ r₂) : RKeep r r₂ := by
  refine ⟨fun s hs => ?_, fun mf hm => k2.memsKeep mf (k1.memsKeep mf hm), fun v hv => k2.verKeep v (k1.verKeep v hv), ?_⟩
  · obtain ⟨a1, a2⟩ := k1.seqKeep s hs
    obtain ⟨b1, b2⟩ := k2.seqKeep s a1
    exact ⟨b1, b2.trans a2⟩
  · obtain ⟨m1, e1⟩ := k1.resKeep
    obtain ⟨m2, e2⟩ := k2.resKeep
    exact ⟨m1 ++ m2, by rw [e2, e1, List.append_assoc]⟩

/-- one step of the system, seen from reader `i`: besides what it keeps, a position it did not have is `db.seq` of the
moment or that of a registered client snapshot -/
structure RChange (σ : State) (r r' : Reader) : Prop extends RKeep r r' where
  seqNew : r.seq? = none → ∀ s, r'.seq? = some s →
    (r'.live = true ∧ s = σ.pub) ∨ (r'.live = false ∧ ∃ id, (Owner.user id, s) ∈ σ.snaps)

theorem RChange.keepSeq {σ : State} {r r' : Reader} (hs : r'.seq? = r.seq?) (hl : r'.live = r.live)
    (hm : ∀ mf, r.mems? = some mf → r'.mems? = some mf) (hv : ∀ v, r.ver? = some v → r'.ver? = some v)
    (hres : ∃ more, r'.results = r.results ++ more) : RChange σ r r' :=
  ⟨⟨fun _ h => ⟨hs.trans h, hl⟩, hm, hv, hres⟩, fun h s h' => (by rw [hs, h] at h'; cases h')⟩

theorem RChange.setSeq {σ : State} {r : Reader} {s : Nat} {lv : Bool} (hr : r.seq? = none)
    (hnew : (lv = true ∧ s = σ.pub) ∨ (lv = false ∧ ∃ id, (Owner.user id, s) ∈ σ.snaps)) :
    RChange σ r { r with seq? := some s, live := lv, reg := true } :=
  ⟨⟨fun _ h => (by rw [hr] at h; cases h), fun _ h => h, fun _ h => h, ⟨[], by simp⟩⟩, fun _ _ h => (by cases h; exact hnew)⟩

theorem snapNew_add {σ : State} (o : Owner) {s : Nat} (hs : s = σ.pub ∨ ∃ id, (Owner.user id, s) ∈ σ.snaps) :
    ∀ p ∈ σ.snaps ++ [(o, s)], p ∈ σ.snaps ∨ p.2 = σ.pub ∨ ∃ id, (Owner.user id, p.2) ∈ σ.snaps := by
  intro p hp
  rcases List.mem_append.1 hp with hp | hp
  · exact Or.inl hp
  · rw [List.mem_singleton.1 hp]; exact Or.inr hs

theorem RChange.rfl' (σ : State) (r : Reader) : RChange σ r r :=
  .keepSeq rfl rfl (fun _ h => h) (fun _ h => h) ⟨[], by simp⟩

/-- what a step may publish: nothing, or one group made of exactly the history above the old `pub` -/
def GrpStep (σ σ' : State) : Prop :=
  (σ'.groups = σ.groups ∧ σ'.pub = σ.pub) ∨ ∃ g, σ'.groups = g :: σ.groups ∧ g.lo = σ.pub ∧ g.hi = σ'.pub ∧
    (∀ e, e ∈ g.es ↔ e ∈ σ'.hist ∧ σ.pub < e.seq) ∧ (∀ e ∈ g.es, e.seq ≤ σ'.pub)

/-- monotone quantities, the readers' and registrations' origin, at most one publication, and the transaction-read
invariant -/
structure StepSum (c : UCmp) (σ σ' : State) : Prop where
  pubLe : σ.pub ≤ σ'.pub
  histGrow : Grow σ.pub σ.hist σ'.hist
  rdOld : ∀ (i : Nat) r, σ.readers[i]? = some r → ∃ r', σ'.readers[i]? = some r' ∧ RChange σ r r'
  rdNew : ∀ (i : Nat) r', σ'.readers[i]? = some r' → σ.readers[i]? = none → r' = {}
  snapNew : ∀ p ∈ σ'.snaps, p ∈ σ.snaps ∨ p.2 = σ.pub ∨ ∃ id, (Owner.user id, p.2) ∈ σ.snaps
  grp : GrpStep σ σ'
  floorLe : σ.floor ≤ σ'.floor
  bufGrow : BufGrow σ σ'
  /-- while one transaction stays open nothing is published -/
  frozenHist : σ.tr ≠ none → σ'.tr ≠ none → σ'.hist = σ.hist ∧ σ'.pub = σ.pub
  trinv : Cover c σ → TrInv c σ → TrInv c σ'

theorem stepSum_quiet {σ σ' : State} (hp : σ'.pub = σ.pub) (hh : σ'.hist = σ.hist)
    (hr : σ'.readers = σ.readers)
    (hs : ∀ p ∈ σ'.snaps, p ∈ σ.snaps ∨ p.2 = σ.pub ∨ ∃ id, (Owner.user id, p.2) ∈ σ.snaps)
    (hg : σ'.groups = σ.groups) (hbuf : σ'.bufs = σ.bufs)
    (hf : σ.floor ≤ σ'.floor) (ht : Cover c σ → TrInv c σ → TrInv c σ') : StepSum c σ σ' :=
  ⟨Nat.le_of_eq hp.symm, hh ▸ .refl ..,
   fun i r h => ⟨r, by rw [hr]; exact h, RChange.rfl' σ r⟩,
   fun i r' h h0 => (by rw [hr, h0] at h; cases h), hs, Or.inl ⟨hg, hp⟩, hf,
   bufGrow_same hbuf, fun _ _ => ⟨hh, hp⟩, ht⟩

theorem stepSum_write {σ σ' : State} (hp : σ.pub ≤ σ'.pub)
    (hh : Grow σ.pub σ.hist σ'.hist)
    (hr : σ'.readers = σ.readers) (hs : σ'.snaps = σ.snaps) (hg : GrpStep σ σ') (hbuf : BufGrow σ σ')
    (hf : σ'.floor = σ.floor) (ht : σ.tr = none ∧ σ'.tr = σ.tr ∨ σ'.tr = none) : StepSum c σ σ' :=
  ⟨hp, hh, fun i r h => ⟨r, by rw [hr]; exact h, RChange.rfl' σ r⟩,
   fun i r' h h0 => (by rw [hr, h0] at h; cases h), fun p hp' => Or.inl (hs ▸ hp'), hg, Nat.le_of_eq hf.symm, hbuf,
   fun h1 h2 => ht.elim (fun h => absurd h.1 h1) (fun h => absurd h h2),
   fun _ _ t h => ht.elim (fun h' => by rw [h'.2, h'.1] at h; cases h) (fun h' => by rw [h'] at h; cases h)⟩

theorem stepSum_reader {σ σ' : State} (hp : σ'.pub = σ.pub) (hh : σ'.hist = σ.hist) (hbuf : σ'.bufs = σ.bufs)
    (hf : σ'.floor = σ.floor) (ht : σ'.tr = σ.tr) (hg : σ'.groups = σ.groups)
    (hrd : ∀ (i : Nat) r, σ.readers[i]? = some r → ∃ r', σ'.readers[i]? = some r' ∧ RChange σ r r')
    (hrn : ∀ (i : Nat) r', σ'.readers[i]? = some r' → σ.readers[i]? = none → r' = {})
    (hs : ∀ p ∈ σ'.snaps, p ∈ σ.snaps ∨ p.2 = σ.pub ∨ ∃ id, (Owner.user id, p.2) ∈ σ.snaps) : StepSum c σ σ' :=
  ⟨Nat.le_of_eq hp.symm, hh ▸ .refl .., hrd, hrn, hs, Or.inl ⟨hg, hp⟩,
   Nat.le_of_eq hf.symm, bufGrow_same hbuf, fun _ _ => ⟨hh, hp⟩, fun _ hT t h => by rw [hh]; exact hT t (ht ▸ h)⟩

theorem stepSum_setReader {σ : State} {i : Nat} {r0 rn : Reader} {S : List (Owner × Nat)}
    (hi : σ.readers[i]? = some r0) (hch : RChange σ r0 rn)
    (hs : ∀ p ∈ S, p ∈ σ.snaps ∨ p.2 = σ.pub ∨ ∃ id, (Owner.user id, p.2) ∈ σ.snaps) :
    StepSum c σ { σ with readers := σ.readers.set i rn, snaps := S } := by
  refine stepSum_reader rfl rfl rfl rfl rfl rfl (fun j r hj => rel_set (RChange.rfl' σ) hi hch hj)
    (fun j r' hj h0 => ?_) hs
  rcases getElem?_set_cases hj with ⟨rfl, _⟩ | ⟨_, hj'⟩
  · rw [hi] at h0; cases h0
  · rw [h0] at hj'; cases hj'

/-- a publication: the new group is the history above the old `pub`; that it lies at or below the new `pub` is `Basic`
after the step (nothing is pending then) -/
theorem grpStep_pub {σ σ' : State} {g : Group} (hb' : Basic σ') (hp : σ'.pending = [])
    (hgr : σ'.groups = g :: σ.groups) (hlo : g.lo = σ.pub) (hhi : g.hi = σ'.pub)
    (hes : ∀ e, e ∈ g.es ↔ e ∈ σ'.hist ∧ σ.pub < e.seq) : GrpStep σ σ' :=
  Or.inr ⟨g, hgr, hlo, hhi, hes, fun e he => hb'.hist_le hp e ((hes e).1 he).1⟩

/-- Each action falls under one of three shapes: it leaves readers and publication alone (`stepSum_quiet`: background
work, client snapshots, and the transaction's private steps, where only `TrInv` needs an argument), it is a write-side
step (`stepSum_write`: what it publishes is exactly the history above the old `pub`), or it concerns the readers
(`stepSum_reader`, `stepSum_setReader`). -/
theorem stepSum {σ σ' : State} {a : Action} (hb : Basic σ) (h : Step Cfg.real c σ a σ') :
    StepSum c σ σ' := by
  have hb' := basic_step hb h
  obtain ⟨h, _⟩ := h
  have same : ∀ p ∈ σ.snaps, p ∈ σ.snaps ∨ p.2 = σ.pub ∨ ∃ id, (Owner.user id, p.2) ∈ σ.snaps :=
    fun p hp => Or.inl hp
  have hist0 : Grow σ.pub σ.hist σ.hist := .refl ..
  cases a with
  | writeInsert es =>
    obtain ⟨g1, g2, rfl⟩ := doWriteInsert_some h
    have hnew : ∀ e ∈ es, σ.pub < e.seq := fun e he => by have := ((consec_spec _ _ g2).1 e he).1; omega
    refine stepSum_write (Nat.le_refl _) ⟨es, rfl, hnew⟩ rfl rfl (Or.inl ⟨rfl, rfl⟩) (fun id => ?_) rfl
      (Or.inl ⟨g1, rfl⟩)
    unfold Grow
    rw [getBuf_wi σ _ es id rfl]
    by_cases hid : id = σ.mem
    · exact ⟨es, by simp [hid], hnew⟩
    · exact ⟨[], by simp [hid], by simp⟩
  | publish =>
    obtain ⟨g1, rfl⟩ := doPublish_some h
    exact stepSum_write (Nat.le_add_right _ _) hist0 rfl rfl (grpStep_pub hb' rfl rfl rfl rfl hb.pend_iff)
      (bufGrow_same rfl) rfl (Or.inl ⟨g1, rfl⟩)
  | seqSkip n =>
    obtain ⟨g1, g2, rfl⟩ := doSeqSkip_some h
    exact stepSum_write (Nat.le_add_right _ _) hist0 rfl rfl
      (grpStep_pub hb' g2 rfl rfl rfl fun e => g2 ▸ hb.pend_iff e) (bufGrow_same rfl) rfl (Or.inl ⟨g1, rfl⟩)
  | rotate =>
    obtain ⟨_, _, _, rfl⟩ := doRotate_some h
    exact stepSum_quiet rfl rfl rfl same rfl rfl (Nat.le_refl _) fun _ => id
  | flushInstall =>
    obtain ⟨f, _, _, rfl⟩ := doFlushInstall_some h
    exact stepSum_quiet rfl rfl rfl same rfl rfl (Nat.le_refl _) fun _ => id
  | flushDrop =>
    obtain ⟨_, _, rfl⟩ := doFlushDrop_some h
    exact stepSum_quiet rfl rfl rfl same rfl rfl (Nat.le_refl _) fun _ => id
  | compStart =>
    obtain ⟨_, rfl⟩ := doCompStart_some h
    exact stepSum_quiet rfl rfl rfl same rfl rfl (le_minSeq σ _ hb.floorPub hb.floorSnap) fun _ => id
  | compCommit nt =>
    obtain ⟨m, _, _, rfl⟩ := doCompCommit_some h
    exact stepSum_quiet rfl rfl rfl same rfl rfl (Nat.le_refl _) fun _ => id
  | snapAcquire =>
    have := doSnapAcquire_some h
    subst this
    exact stepSum_quiet rfl rfl rfl (snapNew_add _ (Or.inl rfl)) rfl rfl (Nat.le_refl _) fun _ => id
  | snapRelease id =>
    have := doSnapRelease_some h
    subst this
    exact stepSum_quiet rfl rfl rfl (fun p hp => Or.inl (List.mem_filter.1 hp).1) rfl rfl (Nat.le_refl _) fun _ h => h
  | rNew =>
    have := doRNew_some h
    subst this
    refine stepSum_reader rfl rfl rfl rfl rfl rfl (fun i r hi => ⟨r, ?_, RChange.rfl' σ r⟩) (fun i r' hi h0 => ?_) same
    · show (σ.readers ++ [({} : Reader)])[i]? = some r
      rw [List.getElem?_append_left (getElem?_lt hi)]; exact hi
    · rcases getElem?_concat_cases (show (σ.readers ++ [({} : Reader)])[i]? = some r' from hi) with hi' | h
      · rw [h0] at hi'; cases hi'
      · exact h
  | rSeq i =>
    obtain ⟨r0, g1, g2, rfl⟩ := doRSeq_some h
    exact stepSum_setReader g1 (.setSeq g2 (Or.inl ⟨rfl, rfl⟩)) (snapNew_add _ (Or.inl rfl))
  | rSeqSnap i id =>
    obtain ⟨r0, s, g1, g2, g3, rfl⟩ := doRSeqSnap_some h
    have hm := mem_of_lookup g2
    exact stepSum_setReader g1 (.setSeq g3 (Or.inr ⟨rfl, id, hm⟩)) (snapNew_add _ (Or.inr ⟨id, hm⟩))
  | rMems i =>
    obtain ⟨r0, g1, g2, g3, g4, rfl⟩ := doRMems_some h
    exact stepSum_setReader g1
      (.keepSeq rfl rfl (fun mf h => by rw [g3] at h; cases h) (fun _ h => h) ⟨[], by simp⟩) same
  | rVer i =>
    obtain ⟨r0, g1, g2, g3, g4, rfl⟩ := doRVer_some h
    exact stepSum_setReader g1
      (.keepSeq rfl rfl (fun _ h => h) (fun v h => by rw [g3] at h; cases h) ⟨[], by simp⟩) same
  | rLookup i k =>
    obtain ⟨r0, s, mf, v, g1, g2, g3, g4, rfl⟩ := doRLookup_some h
    exact stepSum_setReader g1 (.keepSeq rfl rfl (fun _ h => h) (fun _ h => h) ⟨_, rfl⟩) same
  | rRelease i =>
    obtain ⟨r0, g1, g2, g3, g4, rfl⟩ := doRRelease_some h
    exact stepSum_setReader g1 (.keepSeq rfl rfl (fun _ h => h) (fun _ h => h) ⟨[], by simp⟩)
      fun p hp => Or.inl (List.mem_filter.1 hp).1
  | trOpen =>
    obtain ⟨_, _, _, _, rfl⟩ := doTrOpen_some h
    refine stepSum_quiet rfl rfl rfl same rfl rfl (Nat.le_refl _) fun _ _ t ht x hx => ?_
    obtain rfl := Option.some.inj ht
    cases hx
  | trPut e =>
    obtain ⟨t, g1, g2, g3, rfl⟩ := doTrPut_some h
    refine stepSum_quiet rfl rfl rfl same rfl rfl (Nat.le_refl _) fun _ hT t' ht' x hx => ?_
    obtain rfl := Option.some.inj ht'
    obtain ⟨a, b, c'⟩ := hT t g1 x hx
    refine ⟨a, ?_, ?_⟩
    · show x.2.1 ≤ t.base + (t.priv ++ [e]).length
      simp only [List.length_append, List.length_singleton]; omega
    · -- the new entry is above every position read so far
      rw [c']
      show view c (σ.hist ++ t.priv) x.1 x.2.1 = view c (σ.hist ++ (t.priv ++ [e])) x.1 x.2.1
      rw [← List.append_assoc]
      refine (view_eq_of_leF (leF_append_above fun e' he' => ?_)).symm
      rw [List.mem_singleton.1 he']; omega
  | trGet k =>
    obtain ⟨t, g1, g2, rfl⟩ := doTrGet_some h
    refine stepSum_quiet rfl rfl rfl same rfl rfl (Nat.le_refl _) fun hc hT t' ht' x hx => ?_
    obtain rfl := Option.some.inj ht'
    rcases List.mem_append.1 hx with hx | hx
    · exact hT t g1 x hx
    · rw [List.mem_singleton.1 hx]
      refine ⟨Nat.le_add_right _ _, Nat.le_refl _, ?_⟩
      -- the cover invariant at the transaction's position, with `privOut = priv` and `univ = hist ++ priv`
      have hfl : σ.floor ≤ t.base + t.priv.length := by
        have := hb.floorPub; have := (hb.trExcl t g1).2.2.2; omega
      have := hc.cov k _ hfl
      simp only [bufPart, bufPartL, univ, g1, privOut, g2, privOf, Bool.false_eq_true, if_false] at this
      show view c (t.priv ++ (memBuf σ ++ frozenBuf σ ++ σ.tabs)) k (t.base + t.priv.length) = _
      rw [← this]
      simp only [List.append_assoc]
  | trInstall =>
    obtain ⟨t, g1, g2, rfl⟩ := doTrInstall_some h
    refine stepSum_quiet rfl rfl rfl same rfl rfl (Nat.le_refl _) fun _ hT t' ht' x hx => ?_
    obtain rfl := Option.some.inj ht'
    exact hT t g1 x hx
  | trPublish =>
    obtain ⟨t, g1, g2, rfl⟩ := doTrPublish_some h
    obtain ⟨x1, x2, x3, x4⟩ := hb.trExcl t g1
    have hps : ∀ e ∈ t.priv, σ.pub < e.seq := (hb.tr_facts g1).2.2.1
    refine stepSum_write (by show σ.pub ≤ t.base + t.priv.length; omega)
      ⟨t.priv, rfl, hps⟩ rfl rfl (grpStep_pub hb' x1 rfl x4 rfl fun e => ?_) (bufGrow_same rfl) rfl (Or.inr rfl)
    refine ⟨fun he => ⟨List.mem_append_right _ he, hps e he⟩, fun he => ?_⟩
    rcases List.mem_append.1 he.1 with h1 | h1
    · have := hb.hist_le x1 e h1; omega
    · exact h1
  | trDiscard =>
    obtain ⟨t, g1, g2, rfl⟩ := doTrDiscard_some h
    have x1 := (hb.trExcl t g1).1
    exact stepSum_write (Nat.le_max_left _ _) hist0 rfl rfl
      (grpStep_pub hb' x1 rfl rfl rfl fun e => x1 ▸ hb.pend_iff e) (bufGrow_same rfl) rfl (Or.inr rfl)

/-- what an execution keeps: `pub` and the compaction floor only rise, history and buffers only gain entries above the
`pub` of the start, readers keep what they pinned -/
structure RunSum (σ σ' : State) : Prop where
  pubLe : σ.pub ≤ σ'.pub
  floorLe : σ.floor ≤ σ'.floor
  histGrow : Grow σ.pub σ.hist σ'.hist
  bufGrow : BufGrow σ σ'
  rdKeep : ∀ (i : Nat) r, σ.readers[i]? = some r → ∃ r', σ'.readers[i]? = some r' ∧ RKeep r r'

theorem RunSum.trans {σ σ₁ σ₂ : State} (h1 : RunSum σ σ₁) (h2 : RunSum σ₁ σ₂) : RunSum σ σ₂ :=
  ⟨Nat.le_trans h1.pubLe h2.pubLe, Nat.le_trans h1.floorLe h2.floorLe, h1.histGrow.trans h1.pubLe h2.histGrow,
   fun id => (h1.bufGrow id).trans h1.pubLe (h2.bufGrow id), fun i r hi => by
    obtain ⟨r1, a1, k1⟩ := h1.rdKeep i r hi
    obtain ⟨r2, a2, k2⟩ := h2.rdKeep i r1 a1
    exact ⟨r2, a2, k1.trans k2⟩⟩

theorem runSum {σ σ' : State} (hb : Basic σ) (h : Steps Cfg.real c σ σ') : RunSum σ σ' := by
  induction h with
  | refl => exact ⟨Nat.le_refl _, Nat.le_refl _, .refl .., bufGrow_same rfl, fun i r hi => ⟨r, hi, .refl r⟩⟩
  | tail a hs hstep ih =>
    have sm := stepSum (basic_steps hb hs) hstep
    exact ih.trans ⟨sm.pubLe, sm.floorLe, sm.histGrow, sm.bufGrow,
      fun i r hi => (sm.rdOld i r hi).imp fun _ h => ⟨h.1, h.2.toRKeep⟩⟩

theorem steps_view_stable {σ σ' : State} (hb : Basic σ) (h : Steps Cfg.real c σ σ') (k : Bytes) (s : Nat)
    (hs : s ≤ σ.pub) : view c σ'.hist k s = view c σ.hist k s :=
  view_eq_of_leF ((runSum hb h).histGrow.leF hs)

theorem read_lin {σ : State} (h : Reachable Cfg.real c σ) (i : Nat) (r : Reader)
    (hi : σ.readers[i]? = some r) (k : Bytes) (v : Option Bytes) (hkv : (k, v) ∈ r.results) :
    ∃ s, r.seq? = some s ∧ s ≤ σ.pub ∧ v = view c σ.hist k s
      ∧ ∀ σ', Steps Cfg.real c σ σ' → v = view c σ'.hist k s := by
  have hi' := inv_reachable h
  obtain ⟨s, h1, h2⟩ := (hi'.readers i r hi).results (k, v) hkv
  have hle := (hi'.readers i r hi).seqLe s h1
  exact ⟨s, h1, hle, h2, fun σ' hs => by rw [steps_view_stable hi'.basic hs k s hle]; exact h2⟩

theorem StepSum.reader_seq {σ σ' : State} (sm : StepSum c σ σ') {i : Nat} {r' : Reader} {s : Nat}
    (hi : σ'.readers[i]? = some r') (hs : r'.seq? = some s) :
    (∃ r, σ.readers[i]? = some r ∧ r.seq? = some s ∧ r'.live = r.live) ∨ (r'.live = true ∧ s = σ.pub) ∨
    (r'.live = false ∧ ∃ id, (Owner.user id, s) ∈ σ.snaps) := by
  cases h1 : σ.readers[i]? with
  | none => rw [sm.rdNew i r' hi h1] at hs; cases hs
  | some r1 =>
    obtain ⟨r2, h2, ch⟩ := sm.rdOld i r1 h1
    rw [hi] at h2; cases h2
    cases hs1 : r1.seq? with
    | some s1 =>
      obtain ⟨a1, a2⟩ := ch.seqKeep s1 hs1
      rw [hs] at a1; cases a1
      exact Or.inl ⟨r1, rfl, hs1, a2⟩
    | none => exact Or.inr (ch.seqNew hs1 s hs)

theorem steps_reader_new {σ σ' : State} (hb : Basic σ) (h : Steps Cfg.real c σ σ') (i : Nat)
    (hi : σ.readers[i]? = none ∨ ∃ r, σ.readers[i]? = some r ∧ r.seq? = none)
    (r' : Reader) (hi' : σ'.readers[i]? = some r') (s : Nat) (hs : r'.seq? = some s)
    (hl : r'.live = true) : σ.pub ≤ s := by
  induction h generalizing r' s with
  | refl =>
    rcases hi with hi | ⟨r, hi, hn⟩
    · rw [hi] at hi'; cases hi'
    · rw [hi] at hi'; cases hi'; rw [hn] at hs; cases hs
  | tail a hst hstep ih =>
    rcases (stepSum (basic_steps hb hst) hstep).reader_seq hi' hs with ⟨r1, h1, hs1, hl1⟩ | ⟨_, rfl⟩ | ⟨hl', _⟩
    · exact ih r1 h1 s hs1 (hl1 ▸ hl)
    · exact (runSum hb hst).pubLe
    · rw [hl] at hl'; cases hl'

/-- `s` is a position somebody reads at: a registered snapshot, or a reader's sequence number -/
def Pos (σ : State) (s : Nat) : Prop := (∃ p ∈ σ.snaps, p.2 = s) ∨ ∃ r ∈ σ.readers, r.seq? = some s

theorem pos_le {σ : State} (hb : Basic σ) (hR : Readers c σ) {s : Nat} (h : Pos σ s) : s ≤ σ.pub := by
  rcases h with ⟨p, hp, rfl⟩ | ⟨r, hr, hs⟩
  · exact hb.snapsLe p hp
  · obtain ⟨i, hi⟩ := List.getElem?_of_mem hr
    exact (hR i r hi).seqLe s hs

theorem pos_step {σ σ' : State} (sm : StepSum c σ σ') {s : Nat} (h : Pos σ' s) : Pos σ s ∨ s = σ.pub := by
  rcases h with ⟨p, hp, rfl⟩ | ⟨r', hr', hs⟩
  · rcases sm.snapNew p hp with h | h | ⟨id, h⟩
    · exact Or.inl (Or.inl ⟨p, h, rfl⟩)
    · exact Or.inr h
    · exact Or.inl (Or.inl ⟨_, h, rfl⟩)
  · obtain ⟨i, hi⟩ := List.getElem?_of_mem hr'
    rcases sm.reader_seq hi hs with ⟨r, h1, hs1, _⟩ | ⟨_, rfl⟩ | ⟨_, id, hm⟩
    · exact Or.inl (Or.inr ⟨r, List.mem_of_getElem? h1, hs1⟩)
    · exact Or.inr rfl
    · exact Or.inl (Or.inl ⟨_, hm, rfl⟩)

/-- a published group stays what it was: it lies at or below `pub`, holds exactly the history between its bounds, and
every position somebody reads at is below all of it or at/above all of it -/
def GProp (σ : State) (g : Group) : Prop :=
  g.hi ≤ σ.pub ∧ (∀ e ∈ g.es, g.lo < e.seq ∧ e.seq ≤ g.hi ∧ e ∈ σ.hist) ∧
  (∀ e ∈ σ.hist, g.lo < e.seq → e.seq ≤ g.hi → e ∈ g.es) ∧
  (∀ s, Pos σ s → s ≤ g.lo ∨ g.hi ≤ s)

def GInv (σ : State) : Prop := ∀ g ∈ σ.groups, GProp σ g

theorem ginv_init : GInv init := by intro g hg; simp [init] at hg

theorem gprop_step {σ σ' : State} (sm : StepSum c σ σ') (g : Group) (hg : GProp σ g) : GProp σ' g := by
  obtain ⟨g1, g3, g4, g5⟩ := hg
  refine ⟨Nat.le_trans g1 sm.pubLe, ?_, ?_, ?_⟩
  · intro e he
    obtain ⟨a, b, c'⟩ := g3 e he
    exact ⟨a, b, sm.histGrow.sub e c'⟩
  · intro e he hlo hhi
    rcases sm.histGrow.old e he with he | he
    · exact g4 e he hlo hhi
    · omega
  · intro s hs
    rcases pos_step sm hs with h | rfl
    · exact g5 s h
    · exact Or.inr g1

theorem ginv_step {σ σ' : State} (hb : Basic σ) (hR : Readers c σ) (hG : GInv σ) (sm : StepSum c σ σ') :
    GInv σ' := by
  intro g hg
  rcases sm.grp with ⟨hgr, _⟩ | ⟨g0, hgr, hlo, hhi, hes, hle⟩
  · rw [hgr] at hg; exact gprop_step sm g (hG g hg)
  · rw [hgr] at hg
    rcases List.mem_cons.1 hg with rfl | hg
    · refine ⟨by rw [hhi]; exact Nat.le_refl _, ?_, ?_, ?_⟩
      · intro e he
        have := (hes e).1 he
        exact ⟨by rw [hlo]; exact this.2, by rw [hhi]; exact hle e he, this.1⟩
      · intro e he h1 _
        exact (hes e).2 ⟨he, by rw [← hlo]; exact h1⟩
      · -- every position of the moment is at or below the old `pub`, where the new group starts
        intro s hs
        left
        rw [hlo]
        rcases pos_step sm hs with h | rfl
        · exact pos_le hb hR h
        · exact Nat.le_refl _
    · exact gprop_step sm g (hG g hg)

theorem ginv_ordered_reachable {σ : State} (h : Reachable Cfg.real c σ) :
    GInv σ ∧ σ.groups.Pairwise (fun newer older => older.hi ≤ newer.lo) := by
  induction h with
  | refl => exact ⟨ginv_init, List.Pairwise.nil⟩
  | tail a hs hstep ih =>
    -- the prefix is an execution from `init`, so the invariants hold before the step
    have hi := inv_reachable hs
    have sm := stepSum hi.basic hstep
    refine ⟨ginv_step hi.basic hi.readers ih.1 sm, ?_⟩
    rcases sm.grp with ⟨hgr, _⟩ | ⟨g0, hgr, hlo, _⟩
    · rw [hgr]; exact ih.2
    · rw [hgr]; exact List.Pairwise.cons (fun g hg => hlo ▸ (ih.1 g hg).1) ih.2

theorem ginv_reachable {σ : State} (h : Reachable Cfg.real c σ) : GInv σ := (ginv_ordered_reachable h).1

theorem trinv_reachable {σ : State} (h : Reachable Cfg.real c σ) : TrInv c σ := by
  induction h with
  | refl => exact trinv_init
  | tail a hs hstep ih => exact (stepSum (inv_reachable hs).basic hstep).trinv (inv_reachable hs).cover ih

/-- only `compCommit` has a semantic guard -/
theorem guardP_plain (σ : State) (a : Action) (h : a.plain = true) : guardP c σ a := by
  cases a with
  | compCommit _ => cases h
  | _ => trivial

theorem steps_of_run {cfg : Cfg} : ∀ (acts : List Action) (σ σ' : State),
    acts.all Action.plain = true → run cfg c σ acts = some σ' → Steps cfg c σ σ' := by
  intro acts
  induction acts with
  | nil => intro σ σ' _ h; simp only [run] at h; cases h; exact Steps.refl _
  | cons a as ih =>
    intro σ σ' hp h
    simp only [List.all_cons, Bool.and_eq_true] at hp
    simp only [run] at h
    split at h
    · rename_i σ1 h1
      exact Steps.head ⟨h1, guardP_plain σ a hp.1⟩ (ih σ1 σ' hp.2 h)
    · cases h

theorem run_append {cfg : Cfg} (as bs : List Action) (σ : State) :
    run cfg c σ (as ++ bs) = (run cfg c σ as).bind (fun σ₁ => run cfg c σ₁ bs) := by
  induction as generalizing σ with
  | nil => rfl
  | cons a as ih =>
    simp only [List.cons_append, run]
    cases step cfg c σ a with
    | none => rfl
    | some σ₁ => exact ih σ₁

/-- a checked run around one table compaction: the semantic guard of the compaction, in the state the first part
of the run ends in, is all that is left to prove -/
theorem steps_of_run_commit {cfg : Cfg} {σ σ' : State} (as bs : List Action) (nt : List Entry)
    (ha : as.all Action.plain = true) (hb : bs.all Action.plain = true)
    (hg : guardP c ((run cfg c σ as).getD init) (.compCommit nt))
    (h : run cfg c σ (as ++ .compCommit nt :: bs) = some σ') : Steps cfg c σ σ' := by
  rw [run_append] at h
  cases h1 : run cfg c σ as with
  | none => rw [h1] at h; cases h
  | some σ₁ =>
    rw [h1] at h hg
    simp only [Option.bind_some, run] at h
    cases h2 : step cfg c σ₁ (.compCommit nt) with
    | none => rw [h2] at h; cases h
    | some σ₂ =>
      rw [h2] at h
      exact (steps_of_run as σ σ₁ ha h1).trans (Steps.head ⟨h2, hg⟩ (steps_of_run bs σ₂ σ' hb h))

end GoLevel.Conc

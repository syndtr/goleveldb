import GoLevel.Proofs.CachePush
/-! The reader count and the phases of the cache (open, closed, force-closed): clauses `rl`, `cl`, `op`, `fo`; what a
thread's instructions are followed by (`WB`, `WA`). -/
namespace GoLevel.CacheM

theorem count_runlock_closeInstrs (f : Bool) (ns : List Node) : (closeInstrs f ns).count .runlock = 0 :=
  List.count_eq_zero.mpr fun hm => by
    rcases mem_closeInstrs hm with ⟨_, e⟩ | ⟨_, e⟩ | ⟨_, e⟩ <;> cases e

/-- Only `closeLock` changes `closed` and `forced`, and it does so when nobody is inside. -/
theorem exec_closed {sh sh' i push evs} (he : exec sh i = some (sh', push, evs)) :
    (sh'.closed = sh.closed ∧ sh'.forced = sh.forced) ∨
    (∃ f, i = .closeLock f ∧ sh.rlock = 0 ∧ sh.closed = false ∧ sh'.closed = true ∧ sh'.forced = f ∧
      push = closeInstrs f sh.nodes ∧ sh'.nodes = sh.nodes) := by
  cases exec_spec he
  case close f h0 hc => exact .inr ⟨f, rfl, h0, hc, rfl, rfl, rfl, rfl⟩
  all_goals exact .inl ⟨rfl, rfl⟩

/-- `forced` is set by `Close(true)` on an open cache, which was not force-closed, and by nothing else. -/
theorem forced_back {g sh Q sh' i push evs} (h : InvP g sh (i :: Q))
    (he : exec sh i = some (sh', push, evs)) (hf' : sh'.forced = false) : sh.forced = false := by
  rcases exec_closed he with ⟨_, e⟩ | ⟨_, _, _, hc, _⟩
  · exact e ▸ hf'
  · exact (h.op hc).2

theorem exec_rlock {sh sh' i push evs} (he : exec sh i = some (sh', push, evs)) :
    (i = .runlock → sh'.rlock = sh.rlock - 1 ∧ push = []) ∧
    (i ≠ .runlock → sh'.rlock = sh.rlock + push.count .runlock ∧ push.count .runlock ≤ 1 ∧
      (isEnter i = false → isExtz i = false → push.count .runlock = 0)) := by
  cases exec_spec he <;> clear he
  case close f _ _ => simp [count_runlock_closeInstrs]
  all_goals simp [isEnter, isExtz, List.count_append]
  all_goals (rw [List.count_eq_zero.mpr (by simp)] <;> simp)

/-- Clause `rl`: `rlock` counts the pending `RUnlock`s. -/
theorem rl_step {g sh Q sh' i push evs} (h : InvP g sh (i :: Q))
    (he : exec sh i = some (sh', push, evs)) : sh'.rlock = (push ++ Q).count .runlock := by
  have hrl := h.rl
  have hx := exec_rlock he
  by_cases hi : i = .runlock <;> simp_all <;> omega

/-- Clause `cl`: after `Close` no open-only instruction is pending. -/
theorem cl_step {g sh Q sh' i push evs} (h : InvP g sh (i :: Q))
    (he : exec sh i = some (sh', push, evs))
    (hwb : sh.rlock = 0 → ∀ j ∈ i :: Q, openOnly j = false) :
    sh'.closed = true → ∀ j ∈ push ++ Q, openOnly j = false := by
  intro hc' j hj
  rcases exec_closed he with ⟨hc, _⟩ | ⟨f, rfl, h0, _, _, _, rfl, _⟩
  · have hall := h.cl (hc ▸ hc')
    rcases List.mem_append.mp hj with hj | hj
    · exact (exec_pushes he j hj).openOnly (hc ▸ hc') (hall i List.mem_cons_self)
    · exact hall j (List.mem_cons_of_mem _ hj)
  · rcases List.mem_append.mp hj with hj | hj
    · rcases mem_closeInstrs hj with ⟨_, rfl⟩ | ⟨_, rfl⟩ | ⟨_, rfl⟩ <;> rfl
    · exact hwb h0 j (List.mem_cons_of_mem _ hj)

/-- Clause `op`: before `Close` no closed-only instruction is pending, and the cache is not force-closed. -/
theorem op_step {g sh Q sh' i push evs} (h : InvP g sh (i :: Q))
    (he : exec sh i = some (sh', push, evs)) :
    sh'.closed = false → (∀ j ∈ push ++ Q, closedOnly j = false) ∧ sh'.forced = false := by
  intro hc'
  rcases exec_closed he with ⟨hc, hf⟩ | ⟨_, _, _, _, hc, _⟩
  · have hop := h.op (hc ▸ hc')
    refine ⟨fun j hj => ?_, hf ▸ hop.2⟩
    rcases List.mem_append.mp hj with hj | hj
    · exact (exec_pushes he j hj).closedOnly hc'
    · exact hop.1 j (List.mem_cons_of_mem _ hj)
  · rw [hc] at hc'; cases hc'

/-- Clause `fo`: only a forced `Close` leaves forced-only instructions pending. -/
theorem fo_step {g sh Q sh' i push evs} (h : InvP g sh (i :: Q))
    (he : exec sh i = some (sh', push, evs)) :
    sh'.forced = false → ∀ j ∈ push ++ Q, forcedOnly j = false := by
  intro hf' j hj
  rcases List.mem_append.mp hj with hj | hj
  · exact (exec_pushes he j hj).forcedOnly hf'
  · exact h.fo (forced_back h he hf') j (List.mem_cons_of_mem _ hj)

theorem wb_append {p tail : List Instr} (hp : WB p ∨ Instr.runlock ∈ tail) (ht : WB tail) : WB (p ++ tail) := by
  induction p with
  | nil => exact ht
  | cons a p ih =>
    refine And.intro (fun ha => ?_) (ih (hp.imp (·.2) id))
    rcases hp with hp | hp
    · exact List.mem_append_left _ (hp.1 ha)
    · exact List.mem_append_right _ hp

theorem wb_of_noOpen {p : List Instr} (h : ∀ j ∈ p, openOnly j = false) : WB p := by
  induction p with
  | nil => trivial
  | cons a p ih =>
    refine And.intro (fun ha => ?_) (ih fun j hj => h j (List.mem_cons_of_mem _ hj))
    rw [h a List.mem_cons_self] at ha; cases ha

theorem exec_push_wb {sh sh' i push evs} (he : exec sh i = some (sh', push, evs)) (hi : openOnly i = false) :
    WB push := by
  cases hall : push.all (fun j => !openOnly j) with
  | true => exact wb_of_noOpen fun j hj => by simpa using List.all_eq_true.mp hall j hj
  | false =>
    -- an open-only instruction is pushed by another one, or by a step that opens a section (a call's `RLock`,
    -- the zero branch of `unRefExternal` on an open cache) and pushes `[…, runlock]`
    obtain ⟨j, hj, hn⟩ := List.all_eq_false.mp hall
    cases exec_pushes he j hj <;> first | (cases hi; done) | exact absurd rfl hn | skip
    all_goals (cases exec_spec he <;> first | (simp [WB, openOnly]; done) | (simp at hj; done))

theorem wb_step {sh sh' i push evs rest} (hw : WB (i :: rest))
    (he : exec sh i = some (sh', push, evs)) : WB (push ++ rest) := by
  cases hi : openOnly i with
  | true => exact wb_append (.inr (hw.1 hi)) hw.2
  | false => exact wb_append (.inl (exec_push_wb he hi)) hw.2

/-- In a thread, `n.delFuncs = append(n.delFuncs, delFunc)` of `Cache.Delete` is followed by the
`n.unRefInternal` that drops the reference `mBucket.get` took: the node is still there when it runs. -/
def WA : List Instr → Prop
  | [] => True
  | i :: rest => (∀ id d, i = Instr.addDel id d → Instr.unrefInt id ∈ rest) ∧ WA rest

def noAdd : Instr → Bool
  | .addDel _ _ => false
  | _ => true

theorem wa_append {p tail : List Instr} (hp : WA p) (ht : WA tail) : WA (p ++ tail) := by
  induction p with
  | nil => exact ht
  | cons a p ih => exact And.intro (fun id d ha => List.mem_append_left _ (hp.1 id d ha)) (ih hp.2)

theorem wa_of_noAdd {p : List Instr} (h : ∀ j ∈ p, noAdd j = true) : WA p := by
  induction p with
  | nil => trivial
  | cons a p ih =>
    refine And.intro (fun id d ha => ?_) (ih fun j hj => h j (List.mem_cons_of_mem _ hj))
    have := h a List.mem_cons_self
    rw [ha] at this; cases this

theorem exec_push_wa {sh sh' : Shared} {i push evs} (he : exec sh i = some (sh', push, evs)) : WA push := by
  cases hall : push.all noAdd with
  | true => exact wa_of_noAdd (List.all_eq_true.mp hall)
  | false =>
    -- only `mBucket.get` for a `Delete` pushes an `addDel`, and then `[addDel, ban, unrefInt, retBool]`
    obtain ⟨j, hj, hn⟩ := List.all_eq_false.mp hall
    cases exec_pushes he j hj <;> first | exact absurd rfl hn | skip
    cases exec_spec he <;> first | (simp at hj; done) | skip
    exact And.intro (fun id d hx => by cases hx; simp) (wa_of_noAdd (p := [_, _, _]) (by simp [noAdd]))

theorem wa_step {sh sh' : Shared} {i push evs rest} (hw : WA (i :: rest))
    (he : exec sh i = some (sh', push, evs)) : WA (push ++ rest) :=
  wa_append (exec_push_wa he) hw.2

end GoLevel.CacheM

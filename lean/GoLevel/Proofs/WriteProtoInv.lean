import GoLevel.Proofs.WriteProtoStep
/-! The pointwise invariant `PInv` (record shape per program counter, who is `cur`, whose result a merged writer gets,
`closed`/`perErr`) is kept by every step: mostly the rewritten record inherits each clause as it stands. -/
namespace GoLevel.WP

/-- the leader's record once `unlockWrite(_, _, r)` has been entered: `r` is the group's result, and it is
consistent with the journal outcome and the publication -/
def Out (w : Thread) (r : Res) : Prop :=
  w.gres = some r ∧ (r = .ok ∨ r = .err) ∧ (r = .ok → w.jout = some true ∧ w.pub ≠ none) ∧
  (w.jout = some false → r = .err ∧ w.pub = none) ∧ (w.jout = none → w.pub = none)

/-- no group record yet -/
def Blank (w : Thread) : Prop := w.gres = none ∧ w.jout = none ∧ w.pub = none

def Loc (w : Thread) : Prop :=
  match w.pc with
  | .idle | .selecting => w.acc = none ∧ Blank w
  | .waitMerged => w.kind = .writer ∧ w.acc = none ∧ Blank w
  | .waitAck => w.kind = .writer ∧ Blank w
  | .hold => w.kind ≠ .writer ∧ w.acc = none ∧ Blank w
  | .lead (.acking _ r) _ _ => w.kind = .writer ∧ w.acc = none ∧ Out w r
  | .lead .rotate _ _ => w.kind = .writer ∧ w.acc = none ∧ w.gres = none ∧ w.jout = some true ∧ w.pub ≠ none
  | .lead .apply _ _ | .lead .publish _ _ =>
      w.kind = .writer ∧ w.acc = none ∧ w.gres = none ∧ w.jout = some true ∧ w.pub = none
  | .lead _ _ _ => w.kind = .writer ∧ w.acc = none ∧ Blank w
  | .returned r => (w.acc = none → Blank w ∨ Out w r) ∧ (w.acc ≠ none → w.kind = .writer ∧ Blank w)

structure PInv (s : St) : Prop where
  loc : ∀ (i : Nat) (w : Thread), s.ws[i]? = some w → Loc w
  holder_cur : ∀ (j : Nat) (w : Thread), s.ws[j]? = some w → 0 < holds w.pc → s.cur = some j
  wa_cur : ∀ (i : Nat) (w : Thread), s.ws[i]? = some w → w.pc = .waitAck → w.acc = s.cur ∧ w.acc ≠ none
  member : ∀ (i : Nat) (w : Thread) (j : Nat), s.ws[i]? = some w → w.acc = some j →
    ∃ l, s.ws[j]? = some l ∧ ∀ r, w.pc = .returned r → l.gres = some r
  flags : ∀ (i : Nat) (w : Thread), s.ws[i]? = some w → w.pc ≠ .idle →
    (w.kind = .closer → s.closed = true) ∧ (w.kind = .perErrH → s.perErr = true)


theorem holds_of_owed (p : Pc) (h : 0 < owed p) : 0 < holds p := by
  cases p <;> simp_all [owed, holds]

theorem holder_unique (u : St) (c : CInv u) (a b : Nat) (x y : Thread) (ha : u.ws[a]? = some x)
    (hb : u.ws[b]? = some y) (hx : 0 < holds x.pc) (hy : 0 < holds y.pc) : a = b := by
  apply unique_of_tot_le_one holds u.ws _ rfl a b x y ha hb hx hy
  have := c.holders; split at this <;> omega

theorem no_holder (u : St) (c : CInv u) (ht : u.token = false) (a : Nat) (x : Thread)
    (ha : u.ws[a]? = some x) : holds x.pc = 0 :=
  Nat.eq_zero_of_not_pos fun hh => by rw [token_of_holder u c a x ha hh] at ht; cases ht

theorem no_wa (u : St) (c : CInv u) (h : ∀ (a : Nat) (x : Thread), u.ws[a]? = some x → owed x.pc = 0)
    (a : Nat) (x : Thread) (ha : u.ws[a]? = some x) : x.pc ≠ .waitAck := by
  intro hpc
  obtain ⟨b, y, hb, hy⟩ := exists_of_balance c.acks.symm ha (by rw [hpc]; exact Nat.one_pos)
  rw [h b y hb] at hy; cases hy

theorem no_wa_of_token_false (u : St) (c : CInv u) (ht : u.token = false) (a : Nat) (x : Thread)
    (ha : u.ws[a]? = some x) : x.pc ≠ .waitAck := by
  apply no_wa u c _ a x ha
  intro b y hb
  have := no_holder u c ht b y hb
  have := holds_of_owed y.pc
  omega

/-- `Loc w` with the program counter of `w` written out, so that the `match` in `Loc` reduces -/
theorem loc_at {w : Thread} {p : Pc} (hp : w.pc = p) (h : Loc w) : Loc (w.setPc p) := by subst hp; exact h

theorem loc_of {w : Thread} {p : Pc} (hp : w.pc = p) (h : Loc (w.setPc p)) : Loc w := by subst hp; exact h

theorem out_ok {w : Thread} (hg : w.gres = some .ok) (hj : w.jout = some true) (hp : w.pub ≠ none) : Out w .ok :=
  ⟨hg, .inl rfl, fun _ => ⟨hj, hp⟩, fun h => (by rw [hj] at h; cases h), fun h => (by rw [hj] at h; cases h)⟩

theorem out_err {w : Thread} (hg : w.gres = some .err) (h : w.jout = some true ∨ w.pub = none) : Out w .err := by
  refine ⟨hg, .inr rfl, nofun, fun hf => ⟨rfl, ?_⟩, fun hn => ?_⟩ <;> rcases h with h | h
  · rw [h] at hf; cases hf
  · exact h
  · rw [h] at hn; cases hn
  · exact h

theorem loc_cases {w : Thread} (L : Loc w) :
    Blank w ∨ (w.gres = none ∧ w.jout = some true) ∨ ∃ r, Out w r := by
  cases hpc : w.pc with
  | lead ph m o =>
    have L := loc_at hpc L
    cases ph with
    | acking k r => exact .inr (.inr ⟨r, L.2.2⟩)
    | rotate | apply | publish => exact .inr (.inl ⟨L.2.2.1, L.2.2.2.1⟩)
    | _ => exact .inl L.2.2
  | returned r =>
    have L := loc_at hpc L
    by_cases h : w.acc = none
    · exact (L.1 h).elim .inl fun o => .inr (.inr ⟨r, o⟩)
    · exact .inl (L.2 h).2
  | waitMerged | hold => exact .inl (loc_at hpc L).2.2
  | _ => exact .inl (loc_at hpc L).2

theorem out_of_gres {w : Thread} {r : Res} (L : Loc w) (h : w.gres = some r) : Out w r := by
  rcases loc_cases L with b | b | ⟨r', o⟩
  · rw [b.1] at h; cases h
  · rw [b.1] at h; cases h
  · have := o.1; rw [h] at this; cases this; exact o

theorem out_of_jout_false {w : Thread} (L : Loc w) (h : w.jout = some false) : ∃ r, Out w r := by
  rcases loc_cases L with b | b | o
  · rw [b.2.1] at h; cases h
  · rw [b.2] at h; cases h
  · exact o

theorem step_loc (s t : St) (h : Step s t) (h1 : ∀ (i : Nat) (w : Thread), s.ws[i]? = some w → Loc w) :
    ∀ (i : Nat) (w : Thread), t.ws[i]? = some w → Loc w := by
  have ret : ∀ {w : Thread} {r : Res}, w.acc = none → Blank w ∨ Out w r → Loc (w.setPc (.returned r)) :=
    fun ha hb => ⟨fun _ => hb, fun h => absurd ha h⟩
  cases h with
  | call i w hi hp => exact inv_set h1 hi fun L => (loc_at hp L :)
  | retClosed i w hi hp hk hc | retPerErr i w hi hp hk hc =>
    exact inv_set h1 hi fun L => have L := loc_at hp L; ret L.1 (.inl L.2)
  | lock i w _ hi hp hk ht | hAcquire i w hi hp hk ht => exact inv_set h1 hi fun L => ⟨hk, loc_at hp L⟩
  | hRelease i w hi hp hk => exact inv_set h1 hi fun L => have L := loc_at hp L; ret L.2.1 (.inl L.2.2)
  | flushOk j l m o free hj hp | mergeDone j l m o hj hp | apply j l m o hj hp =>
    exact inv_set h1 hj fun L => (loc_at hp L :)
  | flushFail j l m o hj hp | journalFail j l m o hj hp =>
    exact inv_set h1 hj fun L => have L := loc_at hp L; ⟨L.1, L.2.1, out_err rfl (.inr L.2.2.2.2)⟩
  | recvAccept i j w l m g hj hi hp hm hl' hq hk hwm hsz
  | recvOverflow i j w l m hj hi hp hm hl' hq hk hwm hsz =>
    exact inv_set2 h1 hj hi (fun L => (loc_at hp L :)) fun L => ⟨hk, loc_at hq L⟩
  | reply i j w l m o hj hi hp hq =>
    exact inv_set2 h1 hj hi (fun L => (loc_at hp L :)) fun L => have L := loc_at hq L; ⟨L.1, L.2.2⟩
  | journalOk j l m o hj hp =>
    exact inv_set h1 hj fun L => have L := loc_at hp L; ⟨L.1, L.2.1, L.2.2.1, rfl, L.2.2.2.2⟩
  | publish j l m o rot hj hp hrot =>
    cases rot
    · exact inv_set h1 hj fun L => have L := loc_at hp L; ⟨L.1, L.2.1, out_ok rfl L.2.2.2.1 (Option.some_ne_none _)⟩
    · exact inv_set h1 hj fun L => have L := loc_at hp L; ⟨L.1, L.2.1, L.2.2.1, L.2.2.2.1, Option.some_ne_none _⟩
  | rotateOk j l m o hj hp =>
    exact inv_set h1 hj fun L => have L := loc_at hp L; ⟨L.1, L.2.1, out_ok rfl L.2.2.2.1 L.2.2.2.2⟩
  | rotateFail j l m o hj hp =>
    exact inv_set h1 hj fun L => have L := loc_at hp L; ⟨L.1, L.2.1, out_err rfl (.inl L.2.2.2.1)⟩
  | ack i j w l k m o r hj hi hp hq =>
    exact inv_set2 h1 hj hi (fun L => (loc_at hp L :)) fun L => have L := loc_at hq L; ⟨fun _ => .inl L.2, fun _ => L⟩
  | handoff i j w l m r g hj hi hp hq hc =>
    exact inv_set2 h1 hj hi (fun L => have L := loc_at hp L; ret L.2.1 (.inr L.2.2)) fun L => (loc_at hq L :)
  | release j l m r hj hp | releaseLost j l m r hj hp hc hr =>
    exact inv_set h1 hj fun L => have L := loc_at hp L; ret L.2.1 (.inr L.2.2)

theorem lead_holds {l : Thread} {ph : Ph} {m : Nat} {o : Bool} (hp : l.pc = .lead ph m o) : 0 < holds l.pc := by
  rw [hp]; exact Nat.one_pos

theorem not_holder {s : St} (c : CInv s) {j a : Nat} {l x : Thread} (hj : s.ws[j]? = some l) (hl : 0 < holds l.pc)
    (hx : s.ws[a]? = some x) (hne : a ≠ j) : holds x.pc = 0 := by
  cases h : holds x.pc with
  | zero => rfl
  | succ n => exact absurd (holder_unique s c a j x l hx hj (by omega) hl) hne

theorem no_wa_of_holder {s : St} (c : CInv s) {j : Nat} {l : Thread} (hj : s.ws[j]? = some l) (hl : 0 < holds l.pc)
    (ho : owed l.pc = 0) (a : Nat) (x : Thread) (ha : s.ws[a]? = some x) : x.pc ≠ .waitAck := by
  apply no_wa s c _ a x ha
  intro b y hb
  by_cases hbj : b = j
  · subst hbj; rw [hj] at hb; cases hb; exact ho
  · have := not_holder c hj hl hb hbj
    have := holds_of_owed y.pc; omega

/-- the two clauses of `PInv` about `cur`, for one thread -/
def CurOk (cur : Option Nat) (a : Nat) (x : Thread) : Prop :=
  (0 < holds x.pc → cur = some a) ∧ (x.pc = .waitAck → x.acc = cur ∧ x.acc ≠ none)

theorem CurOk.out {x : Thread} {a : Nat} {cur : Option Nat} (h0 : holds x.pc = 0) (hw : x.pc ≠ .waitAck) :
    CurOk cur a x :=
  ⟨fun hh => absurd hh (by rw [h0]; exact Nat.lt_irrefl 0), fun h => absurd h hw⟩

/-- the two clauses go together: when a step changes `cur`, afterwards nobody but the new holder holds the lock
and nobody waits for an ack -/
theorem step_cur (s t : St) (h : Step s t) (c : CInv s) (hcur : ∀ (a : Nat) (x : Thread), s.ws[a]? = some x → CurOk s.cur a x) :
    ∀ (a : Nat) (x : Thread), t.ws[a]? = some x → CurOk t.cur a x := by
  cases h with
  | lock i w g hi hp hk ht | hAcquire i w hi hp hk ht =>
    exact forall_set ⟨fun _ => rfl, fun h => by simp at h⟩ fun a x _ hx =>
      CurOk.out (no_holder s c ht a x hx) (no_wa_of_token_false s c ht a x hx)
  | hRelease i w hi hp hk =>
    have hh : 0 < holds w.pc := by rw [hp]; exact Nat.one_pos
    exact forall_set (CurOk.out rfl (by simp)) fun a x hne hx =>
      CurOk.out (not_holder c hi hh hx hne) (no_wa_of_holder c hi hh (by rw [hp]; rfl) a x hx)
  | release j l m r hj hp =>
    exact forall_set (CurOk.out rfl (by simp)) fun a x hne hx =>
      CurOk.out (not_holder c hj (lead_holds hp) hx hne) (no_wa_of_holder c hj (lead_holds hp) (by rw [hp]; rfl) a x hx)
  | releaseLost j l m r hj hp hc hr => exact absurd c.cfgH (by simp [hc])
  | handoff i j w l m r g hj hi hp hq hc =>
    exact forall_set2 (CurOk.out rfl (by simp)) ⟨fun _ => rfl, fun h => by simp at h⟩ fun a x _ hne hx =>
      CurOk.out (not_holder c hj (lead_holds hp) hx hne) (no_wa_of_holder c hj (lead_holds hp) (by rw [hp]; rfl) a x hx)
  | reply i j w l m o hj hi hp hq =>
    exact inv_set2 hcur hj hi (fun H => ⟨fun _ => H.1 (lead_holds hp), fun h => by simp at h⟩)
      fun _ => ⟨fun hh => absurd hh (Nat.lt_irrefl 0), fun _ => ⟨((hcur j l hj).1 (lead_holds hp)).symm, Option.some_ne_none j⟩⟩
  | publish j l m o rot hj hp hrot =>
    cases rot <;> exact inv_set hcur hj fun H => ⟨fun _ => H.1 (lead_holds hp), fun h => by simp at h⟩
  | _ =>
    first
    | exact inv_set hcur (by assumption) (by
        intro H; exact ⟨fun hh => by first | exact H.1 (lead_holds (by assumption)) | simp [holds] at hh, fun h => by simp at h⟩)
    | exact inv_set2 hcur (by assumption) (by assumption)
        (by intro H; exact ⟨fun _ => H.1 (lead_holds (by assumption)), fun h => by simp at h⟩)
        (by intro _; exact ⟨fun hh => by simp [holds] at hh, fun h => by simp at h⟩)

/-- `PInv.flags` of one thread -/
def FlagsOk (closed perErr : Bool) (w : Thread) : Prop :=
  w.pc ≠ .idle → (w.kind = .closer → closed = true) ∧ (w.kind = .perErrH → perErr = true)

theorem step_flags (s t : St) (h : Step s t) (h5 : ∀ (i : Nat) (w : Thread), s.ws[i]? = some w → FlagsOk s.closed s.perErr w) :
    ∀ (i : Nat) (w : Thread), t.ws[i]? = some w → FlagsOk t.closed t.perErr w := by
  cases h with
  | call i w hi hp =>
    refine forall_set (fun _ => ⟨fun hk => ?_, fun hk => ?_⟩) fun a x _ hx hn => ?_
    · show (s.closed || (w.kind == .closer)) = true; rw [show w.kind = .closer from hk]; simp
    · show (s.perErr || (w.kind == .perErrH)) = true; rw [show w.kind = .perErrH from hk]; simp
    · have := h5 a x hx hn
      exact ⟨fun hk => by simp [this.1 hk], fun hk => by simp [this.2 hk]⟩
  | publish j l m o rot hj hp hrot => cases rot <;> exact inv_set h5 hj fun F _ => F (by simp [hp])
  | _ =>
    first
    | exact inv_set h5 (by assumption) (by intro F _; exact F (by simp [*]))
    | exact inv_set2 h5 (by assumption) (by assumption) (by intro F _; exact F (by simp [*]))
        (by intro F _; exact F (by simp [*]))


/-- `PInv.member` of a thread list -/
def Member (ws : List Thread) : Prop :=
  ∀ (i : Nat) (w : Thread) (j : Nat), ws[i]? = some w → w.acc = some j →
    ∃ l, ws[j]? = some l ∧ ∀ r, w.pc = .returned r → l.gres = some r

/-- `Member` after one record is replaced: the new record answers for itself, and as a leader it has kept
the result it had -/
theorem member_set {ws : List Thread} (h4 : Member ws) {k : Nat} {u v : Thread} (hk : ws[k]? = some u)
    (hv : ∀ b, v.acc = some b → ∃ l, (ws.set k v)[b]? = some l ∧ ∀ r, v.pc = .returned r → l.gres = some r)
    (hg : ∀ r, u.gres = some r → v.gres = some r) : Member (ws.set k v) := by
  intro a x b hx
  revert hx; revert a x
  refine forall_set (hv b) fun a x _ hx hacc => ?_
  obtain ⟨l, hl, hm⟩ := h4 a x b hx hacc
  obtain ⟨l', hl', hr⟩ := rel_set (R := fun l l' => ∀ r, l.gres = some r → l'.gres = some r) (fun _ _ h => h) hk hg hl
  exact ⟨l', hl', fun r h => hr r (hm r h)⟩

theorem member_set_none {ws : List Thread} (h4 : Member ws) {k : Nat} {u v : Thread} (hk : ws[k]? = some u)
    (ha : v.acc = none) (hg : ∀ r, u.gres = some r → v.gres = some r) : Member (ws.set k v) :=
  member_set h4 hk (fun b hb => by rw [ha] at hb; cases hb) hg

theorem member_set2 {ws : List Thread} (h4 : Member ws) {i j : Nat} {w l w' l' : Thread} (hj : ws[j]? = some l)
    (hi : ws[i]? = some w) (hij : i ≠ j) (hal : l'.acc = none) (hgl : ∀ r, l.gres = some r → l'.gres = some r)
    (hv : ∀ b, w'.acc = some b →
      ∃ x, (set2 ws j l' i w')[b]? = some x ∧ ∀ r, w'.pc = .returned r → x.gres = some r)
    (hgw : ∀ r, w.gres = some r → w'.gres = some r) : Member (set2 ws j l' i w') :=
  member_set (member_set_none h4 hj hal hgl) (by rw [List.getElem?_set_ne (Ne.symm hij)]; exact hi) hv hgw

theorem acc_none {w : Thread} (L : Loc w) (h : w.pc ≠ .waitAck) (h' : ∀ r, w.pc ≠ .returned r) : w.acc = none := by
  unfold Loc at L
  split at L
  -- every clause of `Loc` but those of `waitAck` and `returned` has `w.acc = none` as its first or second conjunct
  all_goals first | exact L.1 | exact L.2.1 | exact absurd ‹_› h | exact absurd ‹_› (h' _)

theorem gres_none {w : Thread} (L : Loc w) {ph : Ph} {m : Nat} {o : Bool} (hp : w.pc = .lead ph m o)
    (h : ∀ k r, ph ≠ .acking k r) : w.gres = none := by
  have L := loc_at hp L
  cases ph with
  | acking k r => exact absurd rfl (h k r)
  | rotate | apply | publish => exact L.2.2.1
  | _ => exact L.2.2.1

theorem step_member (s t : St) (h : Step s t) (inv : PInv s) : Member t.ws := by
  obtain ⟨h1, h2, h3, h4, _⟩ := inv
  change Member s.ws at h4
  have an : ∀ {a : Nat} {x : Thread}, s.ws[a]? = some x → x.pc ≠ .waitAck → (∀ r, x.pc ≠ .returned r) →
      x.acc = none := fun hx h h' => acc_none (h1 _ _ hx) h h'
  have unl : ∀ {j : Nat} {l : Thread} {ph : Ph} {m : Nat} {o : Bool}, s.ws[j]? = some l → l.pc = .lead ph m o →
      (∀ k r, ph ≠ .acking k r) → ∀ {g : Option Res} (r : Res), l.gres = some r → g = some r :=
    fun hj hp hph _ r h => by rw [gres_none (h1 _ _ hj) hp hph] at h; cases h
  cases h with
  | flushFail j l m o hj hp | journalFail j l m o hj hp | rotateOk j l m o hj hp
  | rotateFail j l m o hj hp =>
    exact member_set_none h4 hj (loc_at hp (h1 j l hj)).2.1 (unl hj hp (by simp))
  | publish j l m o rot hj hp hrot =>
    cases rot
    · exact member_set_none h4 hj (loc_at hp (h1 j l hj)).2.1 (unl hj hp (by simp))
    · exact member_set_none h4 hj (loc_at hp (h1 j l hj)).2.1 fun _ h => h
  | recvAccept i j w l m g hj hi hp hm hl' hq hk hwm hsz
  | recvOverflow i j w l m hj hi hp hm hl' hq hk hwm hsz | handoff i j w l m r g hj hi hp hq hc =>
    exact member_set2 h4 hj hi (ne_of_pc_ne hi hj (by simp [hp, hq])) (loc_at hp (h1 j l hj)).2.1
      (fun _ h => h) (fun b hb => nomatch hb.symm.trans (an hi (by simp [hq]) (by simp [hq]) :))
      fun _ h => h
  | reply i j w l m o hj hi hp hq =>
    have hij := ne_of_pc_ne hi hj (by simp [hp, hq])
    refine member_set2 h4 hj hi hij (loc_at hp (h1 j l hj)).2.1 (fun _ h => h)
      (fun b hb => ?_) fun _ h => h
    cases hb
    exact ⟨_, get_set2_right hj hij, nofun⟩
  | ack i j w l k m o r hj hi hp hq =>
    have hij := ne_of_pc_ne hi hj (by simp [hp, hq])
    refine member_set2 h4 hj hi hij (loc_at hp (h1 j l hj)).2.1 (fun _ h => h)
      (fun b hb => ?_) fun _ h => h
    -- the writer was merged by the current holder of the lock, which is the acking leader
    have hb : some b = some j := hb.symm.trans (((h3 i w hi hq).1).trans (h2 j l hj (lead_holds hp)))
    cases hb
    refine ⟨_, get_set2_right hj hij, fun r' hr' => ?_⟩
    cases hr'
    exact (loc_at hp (h1 j l hj)).2.2.1
  | _ =>
    refine member_set_none h4 (by assumption) ?_ (by exact fun _ h => h)
    exact (an (by assumption) (by simp [*]) (by simp [*]) :)

theorem step_pinv (s t : St) (h : Step s t) (c : CInv s) (inv : PInv s) : PInv t :=
  have hc := step_cur s t h c fun a x hx => ⟨inv.holder_cur a x hx, inv.wa_cur a x hx⟩
  ⟨step_loc s t h inv.loc, fun j w hj => (hc j w hj).1, fun i w hi => (hc i w hi).2, step_member s t h inv,
   step_flags s t h inv.flags⟩

theorem init_pinv (s : St) (h : Init s) : PInv s := by
  obtain ⟨_, ht, hc, hw⟩ := h
  have hf : ∀ (i : Nat) (w : Thread), s.ws[i]? = some w → w.fresh :=
    fun i w hi => hw w (List.mem_of_getElem? hi)
  refine ⟨fun i w hi => ?_, fun i w hi hh => ?_, fun i w hi hh => ?_, fun i w j hi hh => ?_, fun i w hi hh => ?_⟩ <;>
    have f := hf i w hi
  · exact loc_of f.1 ⟨f.2.1, f.2.2.2.2.1, f.2.2.1, f.2.2.2.1⟩
  · rw [f.1] at hh; exact absurd hh (Nat.lt_irrefl 0)
  · rw [f.1] at hh; cases hh
  · rw [f.2.1] at hh; cases hh
  · exact absurd f.1 hh

end GoLevel.WP

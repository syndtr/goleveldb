import GoLevel.Proofs.TableTop
import GoLevel.Proofs.TableD
/-! C13, repair 1 of wp64 on the shape level: a written table whose metaindex block region holds arbitrary bytes
that do not read as a block still opens (without filter) and answers like the undamaged table; one altered byte
inside that block is such damage. -/
namespace GoLevel.C13
open GoLevel BlockWriter TableWriter TableR

theorem find_no_filter (t : TableR) (hf : t.filter = none) (key : Bytes) (f : Bool) :
    t.find key f = t.find key false := by
  cases f with
  | false => rfl
  | true =>
    unfold TableR.find
    simp only [hf]

/-- `NewReader` on a written file whose metaindex block region holds bytes that do not read as a block: a reader of
the chunks without filter -/
theorem open_damaged_meta (cfg : TableCfg) (hck : Cksum32 cfg.cksum) (cs : List (List KV)) (fb : Option Bytes)
    (M : Bytes) (hM : M.length = (metaB cfg cs fb).length + 5) (hsz : (tableFile cfg cs fb).length < 2 ^ 32) (v : Bool)
    (hbad : readBlock cfg.cksum (tableFileM cfg cs fb M) (metaBHOf cfg cs fb) true = none) :
    ∃ t, Table.open cfg v (tableFileM cfg cs fb M) = some t ∧ Reads cfg cs t ∧
      t.dataEnd = (metaBHOf cfg cs fb).offset ∧ t.filter = none := by
  obtain ⟨hfh, hinM, hinI, ib, hri, LI⟩ := open_facts cfg hck cs fb M hM hsz
  unfold Table.open Table.openE Table.openX
  rw [hfh]
  simp only [Table.openBody, hinM, hinI, ReaderFix.repaired, readBlockX, if_true, hbad, hri, Bool.and_self, Bool.not_true,
    Bool.and_false, Bool.false_eq_true, if_false]
  exact ⟨_, rfl, Reads.ofM hM hsz rfl rfl rfl LI, rfl, rfl⟩

theorem split_at_meta (cfg : TableCfg) (cs : List (List KV)) (fb : Option Bytes) (pre M post : Bytes)
    (hsplit : tableFile cfg cs fb = pre ++ M ++ post) (hpre : pre.length = (metaBHOf cfg cs fb).offset)
    (hMl : M.length = (metaBHOf cfg cs fb).length + 5) (M' : Bytes) :
    pre ++ M' ++ post = tableFileM cfg cs fb M' := by
  rw [tableFile_eqM, tableFileM_split, List.append_assoc pre] at hsplit
  have h1 := List.append_inj hsplit (by rw [hpre]; rfl)
  have h2 := List.append_inj h1.2 (by rw [hMl, withTrailer_length]; rfl)
  rw [tableFileM_split, h1.1, h2.2, List.append_assoc]

theorem set_mid (A Mw B : Bytes) (i : Nat) (b : UInt8) (hlo : A.length ≤ i) (hhi : i < A.length + Mw.length) :
    (A ++ (Mw ++ B)).set i b = A ++ (Mw.set (i - A.length) b ++ B) := by
  rw [List.set_append, if_neg (by omega), List.set_append, if_pos (by omega)]

/-- one altered byte inside the metaindex block of a written file: the block no longer reads -/
theorem meta_byte_unreadable (cfg : TableCfg) (hck : Cksum32 cfg.cksum) (hd : DetectsSingle cfg.cksum)
    (cs : List (List KV)) (fb : Option Bytes) (hsz : (tableFile cfg cs fb).length < 2 ^ 32)
    (i : Nat) (b : UInt8) (hlo : (metaBHOf cfg cs fb).offset ≤ i)
    (hhi : i < (metaBHOf cfg cs fb).offset + (metaBHOf cfg cs fb).length + 5)
    (hne : (tableFile cfg cs fb)[i]? ≠ some b) :
    (tableFile cfg cs fb).set i b =
        tableFileM cfg cs fb ((withTrailer cfg.cksum (metaB cfg cs fb)).set (i - (metaBHOf cfg cs fb).offset) b) ∧
      readBlock cfg.cksum ((tableFile cfg cs fb).set i b) (metaBHOf cfg cs fb) true = none := by
  have hoff : (metaBHOf cfg cs fb).offset = (dataBytes cfg cs ++ filterSection cfg fb).length := rfl
  have hl : (metaBHOf cfg cs fb).length = (metaB cfg cs fb).length := rfl
  have hin : (metaBHOf cfg cs fb).offset + (metaBHOf cfg cs fb).length + 5 ≤ (tableFile cfg cs fb).length := by
    rw [(sizes_of cfg cs fb hsz).length, hoff, hl, List.length_append]; omega
  have hilt : i < (tableFile cfg cs fb).length := by omega
  have hne' : b ≠ (tableFile cfg cs fb)[i]'hilt := fun e => hne (by rw [List.getElem?_eq_getElem hilt, e])
  have e3 := tableFileM_split cfg cs fb (withTrailer cfg.cksum (metaB cfg cs fb))
  rw [← tableFile_eqM] at e3
  constructor
  · conv => lhs; rw [e3]
    rw [set_mid _ _ _ i b (by rw [← hoff]; exact hlo) (by rw [← hoff, withTrailer_length, ← hl]; omega), ← hoff,
      tableFileM_split]
  · have hraw : rawSlice (tableFile cfg cs fb) (metaBHOf cfg cs fb) = withTrailer cfg.cksum (metaB cfg cs fb) := by
      unfold rawSlice
      rw [e3, hoff, List.drop_left, hl]
      exact List.take_left' (withTrailer_length _ _)
    unfold readBlock
    rw [readRawBlock_damage hd _ _ hin (by rw [hraw, hl]; exact withTrailer_cksum_ok hck _) i b hlo hhi hne']

/-- the written table, its footer handles and its reader `t0`, and the reader once the metaindex block region holds
bytes `M` that do not read as a block: no filter, `dataEnd` from the footer, the answers of `t0` -/
theorem damaged_meta_of_write (cfg : TableCfg) (hok : CfgOK cfg) (kvs : List KV)
    (hsorted : StrictSorted cfg.cmp kvs) (hk : TailKeysNonempty kvs)
    (hsz : (Table.write cfg kvs).length < 2 ^ 32) (verify : Bool) :
    ∃ cs fb t0, Table.write cfg kvs = tableFile cfg cs fb ∧ (tableFile cfg cs fb).length < 2 ^ 32 ∧
      (∀ mbh ibh, Table.footerHandles (Table.write cfg kvs) = some (mbh, ibh) →
        mbh = metaBHOf cfg cs fb ∧ ibh = indexBHOf cfg cs fb) ∧
      Table.open cfg verify (Table.write cfg kvs) = some t0 ∧
      ∀ M, M.length = (metaB cfg cs fb).length + 5 →
        readBlock cfg.cksum (tableFileM cfg cs fb M) (metaBHOf cfg cs fb) true = none →
        ∃ t, Table.open cfg verify (tableFileM cfg cs fb M) = some t ∧ t.filter = none ∧
          t.dataEnd = (metaBHOf cfg cs fb).offset ∧
          (∀ key filtered, t.find key filtered = t0.find key false) ∧
          (∀ key, t.get key = t0.get key) ∧
          (∀ start limit, t.entriesInRange start limit = t0.entriesInRange start limit) ∧
          t.entries = t0.entries := by
  obtain ⟨cs, fb, hfile, _, hfb, hsh⟩ := written_chunks cfg kvs hsorted hk
  rw [hfile] at hsz ⊢
  obtain ⟨t0, ho0, hr0, _⟩ := open_reads cfg hok.ck cs fb hfb hsz verify
  refine ⟨cs, fb, t0, rfl, hsz, ?_, ho0, ?_⟩
  · obtain ⟨hfh, _⟩ := open_facts cfg hok.ck cs _ (withTrailer cfg.cksum (metaB cfg cs _)) (withTrailer_length _ _) hsz
    rw [← tableFile_eqM] at hfh
    intro mbh ibh h
    unfold Table.footerHandles at h
    rw [hfh] at h
    cases h
    exact ⟨rfl, rfl⟩
  · intro M hM hbad
    obtain ⟨t, ho, hr, hde, hflt⟩ := open_damaged_meta cfg hok.ck cs fb M hM hsz verify hbad
    have hf : ∀ key f, t.find key f = t0.find key false := fun key f => by
      rw [find_no_filter t hflt, hr.find hok hsh key, hr0.find hok hsh key]
    have hrg : ∀ start limit, t.entriesInRange start limit = t0.entriesInRange start limit := fun start limit => by
      rw [hr.range hok hsh start limit, hr0.range hok hsh start limit]
    refine ⟨t, ho, hflt, hde, hf, fun key => ?_, hrg, ?_⟩
    · unfold TableR.get; rw [hf key false, hr.cmp, hr0.cmp]
    · rw [← entriesInRange_none, ← entriesInRange_none, hrg]

end GoLevel.C13

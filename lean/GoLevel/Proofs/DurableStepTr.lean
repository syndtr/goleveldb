import GoLevel.Proofs.DurableStepJobPost
/-!
The transaction protocol (`OpenTransaction`, `Transaction.Put…`, `Commit`, `Discard`) preserves the invariant.
While no job runs only `TrOK` looks at the open transaction: `OpenTransaction`, `Put` and the commit of nothing replace
it (`Inv.set_tr`), `Discard` also consumes its sequence numbers (a step of the write path's bookkeeping,
`Inv.writer_same`).  The commit itself is a `Job` of kind `tr`, spawned (`Inv.spawn`) once the
transaction's group is issued as pending (`Inv.writer_same` again) (its steps are the generic ones of
`DurableStepJob*.lean`; its last step, `db.setSeq(tr.seq)`, is `inv_done_tr`).
-/
namespace GoLevel.Dur

variable {cfg : Cfg} {s s' : St} {d d' : Disk} {j : Job} {e : MRec} {rot : Bool}

theorem Inv.tr_running {cfg : Cfg} {s : St} {d : Disk} (h : Inv cfg s d) {g : Grp} (hg : s.tr = some g) :
    s.phase = .running :=
  Decidable.byContradiction fun hp => by have := (h.idle_of_not_running hp).2.2.1; rw [hg] at this; cases this

theorem inv_stepTr {cfg : Cfg} {s : St} {d : Disk} (h : Inv cfg s d) {a : Act} {s' : St}
    (hs : stepTr s a = some s') : Inv cfg s' d := by
  cases a with
  | trBegin =>
    simp only [stepTr] at hs
    split at hs
    · rename_i hg
      obtain ⟨hph, hw, hmem, hfz, hjob, _⟩ := hg
      simp only [Option.some.injEq] at hs
      subst hs
      exact h.set_tr hph hjob _ ⟨hw, hmem, hfz, rfl, rfl⟩
    · cases hs
  | trPut recs =>
    simp only [stepTr] at hs
    split at hs
    · rename_i g hg
      split at hs
      · rename_i hjob
        simp only [Option.some.injEq] at hs
        subst hs
        have hph := h.tr_running hg
        exact h.set_tr hph hjob _ ((h.run hph).tr_open (g := g) hg)
      · cases hs
    · cases hs
  | trDiscard =>
    simp only [stepTr] at hs
    split at hs
    · rename_i g hg
      split at hs
      · rename_i hjob
        simp only [Option.some.injEq] at hs
        subst hs
        have hph := h.tr_running hg
        have htr := (h.run hph).tr_open hg
        -- the transaction goes; its sequence numbers are consumed
        exact (h.set_tr hph hjob none trivial).writer_same hph rfl rfl (Nat.le_max_left _ _) (fun _ hx => hx)
          (fun _ hx => hx) (fun _ => Iff.rfl) (by
            show WSeqOK _
            simp only [WSeqOK, htr.1, htr.2.1]
            intro x hx; cases hx)
      · cases hs
    · cases hs
  | trCommit =>
    simp only [stepTr] at hs
    split at hs
    · rename_i g hg
      split at hs
      · rename_i hjob
        have hph := h.tr_running hg
        split at hs
        · -- nothing to commit
          simp only [Option.some.injEq] at hs
          subst hs
          exact h.set_tr hph hjob none trivial
        · rename_i hne
          have hgne : g.recs ≠ [] := by simpa using hne
          simp only [Option.some.injEq] at hs
          subst hs
          have hrun := h.run hph
          have htr := hrun.tr_open hg
          -- the transaction is issued as pending, a step of the write path's bookkeeping (nothing new must survive) …
          have hmust : ∀ x ∈ must { s with tr := none, issued := s.issued ++ [⟨g, .pending⟩] }, x ∈ must s := fun x hx => by
            rw [must_eq] at hx
            simp only [ackedSync_append_of_ne _ _ .pending (by decide)] at hx
            exact hx
          have h1 : Inv cfg { s with tr := none, issued := s.issued ++ [⟨g, .pending⟩] } d :=
            (h.set_tr hph hjob none trivial).writer_same hph rfl rfl (Nat.le_refl _)
              (fun x hx => by simp only [issuedGrps, List.map_append, List.mem_append] at hx ⊢; exact Or.inl hx)
              hmust (fun _ => Iff.rfl)
              (.of_quiet (by show s.w.quiet = true; rw [htr.1]; rfl) (hrun.wseq.mem_of_quiet (by rw [htr.1]; rfl)))
          -- … and its commit is spawned
          have h2 := h1.set_tr hph hjob (some g) htr
          have hfin := Grp.seq_lt_fin hgne
          rw [hg]
          let j0 : Job := { kind := JobKind.tr, outs := [(s.nextFile, [g])],
                            edit := some { sq := some (g.fin - 1), added := [s.nextFile] }, pc := JPc.tCreate 0 }
          refine h2.spawn (j' := j0) hph hjob (Nat.le_succ _) ?_
            (fun o ho => by obtain rfl := List.mem_singleton.1 ho; exact Nat.le_refl _) (Or.inr rfl)
            (JobOK.spawned (j' := j0) h2 (by rw [hph]; decide) _ (s.nextFile + 1) (Nat.le_refl _)
              (fun o ho => by obtain rfl := List.mem_singleton.1 ho; exact ⟨rfl, Nat.lt_succ_self _⟩) rfl
              (Or.inl ⟨rfl, List.cons_ne_nil _ _⟩) rfl ⟨rfl, rfl, rfl⟩
              (Or.inl rfl) (MkJournalOK.of_none rfl) (fun n hn => nomatch hn) (hrun.nojob hjob)
              (by simp [JobKindOK, j0, hph, Holds, hgne, issuedGrps]) ?_)
          · show s.seq ≤ seqHi _
            unfold seqHi
            simp only
            split
            · rw [sqCap_tr rfl rfl]; have := htr.2.2.2.1; omega
            · exact Nat.le_refl _
          · show InputsOK _ d _ _
            unfold InputsOK
            rw [if_neg (fun hx => nomatch hx)]
            exact ⟨rfl, fun hx => absurd rfl hx, rfl⟩
      · cases hs
    · cases hs
  | _ => simp [stepTr] at hs

/-- the job that commits the open transaction `g` -/
theorem Inv.tr_job (h : Inv cfg s d) (hj : s.job = some j) (hk : j.kind = .tr) {g : Grp} (hg : s.tr = some g) :
    ∃ e, JobKindOK.Tr s j g e := by
  obtain ⟨g', e, ht⟩ := (h.jobOK hj).kind.tr hk
  cases hg.symm.trans ht.tr
  exact ⟨e, ht⟩

/-- the state after `Transaction.Discard` with a commit job at its retry point -/
abbrev St.discarded (s : St) (g : Grp) : St :=
  { s with tr := none, job := none, seq := max s.seq (g.fin - 1), hi := max s.hi g.fin, issued := setStatus g .failed s.issued }

theorem trDiscardJob_spec {cfg : Cfg} {s : St} {d : Disk} {s' : St} {d' : Disk}
    (hs : trDiscardJob cfg s d = some (s', d')) :
    ∃ g j, s.tr = some g ∧ s.job = some j ∧ j.kind = .tr ∧ j.pc = .append ∧ s' = s.discarded g ∧
      d' = if (cfg.discardKeepsTablesWhenUncertain && s.manifestFailed) = true then d
           else j.outs.foldl (fun d o => d.apply (.remove .table o.1)) d := by
  unfold trDiscardJob at hs
  split at hs
  · rename_i g j htr hj
    split at hs
    · rename_i hpc
      cases hs
      exact ⟨g, j, htr, hj, hpc.1, hpc.2, rfl, rfl⟩
    · cases hs
  · cases hs

/-- `Discard` after a failed `Commit` (the job is at its retry point): the transaction's table is removed, or — the
    manifest being uncertain — left behind as an obsolete file.  If the record of the commit is in the manifest
    `CURRENT` names (`St.limbo`), the table stays and the record becomes that of an orphan: a later `Open` adopts
    the table, whose sequence numbers are consumed and reported as failed. -/
theorem inv_trDiscardJob_core (h : Inv cfg s d) {g : Grp}
    (hg : s.tr = some g) (hj : s.job = some j) (hk : j.kind = .tr) (hpc : j.pc = .append)
    (hd : d' = d ∨ s.limbo = none ∧ d' = j.outs.foldl (fun d o => d.apply (.remove .table o.1)) d) :
    Inv cfg (s.discarded g) d' := by
  have hok := h.jobOK hj
  have hbc : j.pc.beforeCommit = true := by rw [hpc]; rfl
  have hsett : Settled cfg s d (MirrorL s) := hok.mirror_before hbc
  obtain ⟨e0, ht⟩ := h.tr_job hj hk hg
  -- the transaction's one table is removed, or nothing is
  obtain ⟨T, rfl, hT⟩ : ∃ T, d' = { d with tables := T } ∧
      (T = d.tables ∨ s.limbo = none ∧ T = d.tables.erase (e0.added.headD 0)) := by
    rcases hd with rfl | ⟨hl, rfl⟩
    · exact ⟨_, rfl, .inl rfl⟩
    · rw [ht.outs]; exact ⟨_, rfl, .inr ⟨hl, rfl⟩⟩
  have hph := ht.phase
  have hrun := h.run hph
  have hb := h.bounds_of hph
  obtain ⟨hw, hmem, hfz, hgs, _⟩ := hrun.tr_open hg
  have hmust : ∀ x ∈ must (s.discarded g), x ∈ must s := by
    intro x hx
    rw [must_eq] at hx ⊢
    simp only [hw, List.append_nil] at hx ⊢
    exact (mem_ackedSync_setStatus_failed hx).1
  have hgm : g ∉ must (s.discarded g) := by
    intro hx
    rw [must_eq] at hx
    simp only [hw, List.append_nil] at hx
    exact (mem_ackedSync_setStatus_failed hx).2 rfl
  have hiss : ∀ x ∈ issuedGrps s, x ∈ issuedGrps (s.discarded g) := by
    intro x hx
    simp only [issuedGrps, issuedGrps_setStatus] at hx ⊢
    exact hx
  have hq : s.seq ≤ (s.discarded g).seq := Nat.le_max_left _ _
  have hmg : MustGrows s (s.discarded g) := fun x hx => Or.inl (hmust x hx)
  refine Inv.of_running hph ?_ ?_ ?_ ?_ ?_
  · apply DiskOK.frame h.disk (d' := { d with tables := T }) rfl rfl _ _ h.disk.mnodup hmust hiss
    · rcases hT with rfl | ⟨hl, rfl⟩
      · exact .of_forall fun _ _ _ => rfl
      · exact h.erase_out hj hbc hl (o := (e0.added.headD 0, [g])) (by rw [ht.outs]; exact List.mem_singleton.2 rfl)
    · rcases hT with rfl | ⟨_, rfl⟩
      · exact h.disk.tnodup
      · exact pairwise_erase _ h.disk.tnodup
  · exact h.mm.of_same rfl rfl
  · refine hb.of_same rfl ?_ (Nat.le_refl _) (fun _ => ⟨hph, Nat.le_refl _⟩)
    rw [seqHi_eq (s := s.discarded g) (not_trWindow_of_nojob rfl)]
    unfold seqHi sqCap
    rw [hj]
    simp only [hk, hg, if_true]
    split
    · exact Nat.le_max_right _ _
    · exact Nat.le_max_left _ _
  · obtain ⟨r1, r2, r3, r4, r5, r6, r7, r8, r9, r10⟩ := hrun
    refine ⟨⟨r1.1, trivial⟩, ⟨r2.1.transport (by
        rw [hj]; intro m hm
        simp only [Option.map_some, hpc] at hm
        cases hm) (by intro m hm; cases hm) rfl rfl rfl, r2.2⟩, ?_, r4, r5, ?_, ?_, ?_, fun _ => ?_, ?_⟩
    · exact r3.imp fun jf hjf => hjf.mono hq hjf.1 (fun _ hx => .inl hx) (fun _ hx => .inl hx)
        (fun x hx => .inl (hmust x hx)) id
    · show WSeqOK _
      simp only [WSeqOK, hw, hmem]
      intro x hx; cases hx
    · exact r7.imp rfl rfl fun _ _ h1 _ _ => by rw [hfz] at h1; cases h1
    · refine r8.imp (fun mf1 hmf1 => hmf1.imp (fun v1 hv1 p hp hge => ?_))
      rcases hv1 p hp hge with h1 | h1 | h1
      · exact Or.inl h1
      · exact Or.inr (Or.inl h1)
      · exact Or.inr (Or.inr ⟨h1.1.mono hq hmg, h1.2⟩)
    · exact hsett
    · -- the edit that may be in the manifest is now that of an orphan
      cases hu : s.limbo with
      | none => unfold LimboOK; show Holds' s.limbo _; rw [hu]; trivial
      | some u0 =>
        obtain rfl : T = d.tables := by
          rcases hT with rfl | ⟨hl, _⟩
          · rfl
          · rw [hu] at hl; cases hl
        refine r10.mono rfl rfl rfl rfl rfl (fun _ _ => rfl) (fun _ => trivial) fun u k => Or.inr ?_
        rcases k with k | k
        · rw [hj] at k
          obtain ⟨ke, _⟩ : j.edit = some u ∧ j.pc.retry = true := k
          have hue : e0 = u := by rw [ht.edit] at ke; exact Option.some.inj ke
          rw [hue] at ht
          have hsh := hok.shape_at ke
          have hadd : u.added = [u.added.headD 0] := by
            have := hsh.1
            rw [ht.outs] at this
            exact this
          have hin := hok.inputs_at ke
          unfold InputsOK at hin
          rw [if_neg (by rw [hk]; exact fun hx => nomatch hx)] at hin
          have htab := hok.tables 0 (u.added.headD 0, [g]) (by rw [ht.outs]; rfl)
          unfold OutOK at htab
          rw [hpc] at htab
          have htab := htab rfl
          obtain ⟨tf, htf, rfl⟩ := holds_iff.1 htab
          refine ⟨hin.1, ht.jn, holds_of_some (a := u.added.headD 0) (by rw [hadd]; rfl) ⟨hadd, ?_, ?_⟩⟩
          · exact hok.fresh.1 (u.added.headD 0, [g]) (by rw [ht.outs]; exact List.mem_singleton.2 rfl)
          · refine holds_of_some htf ⟨rfl, rfl, holds_of_some (a := g) rfl ⟨rfl, ht.sq, hgm, ht.recs, ?_, trivial⟩⟩
            show g.fin ≤ max s.seq (g.fin - 1) + 1
            have := Nat.le_max_right s.seq (g.fin - 1)
            omega
        · exact k.mono (Nat.le_refl _) hq hmg (fun _ _ _ _ => rfl) fun _ _ _ => trivial
  · trivial

/-- `Discard` with a commit job at its retry point.  While the storage may be ahead of the session (`St.limbo`) the
    step keeps the invariant because the repaired `Discard` leaves the tables alone (`discardKeepsTablesWhenUncertain`,
    commit 5cf4e90); the old code removes them: `C08.d10_discard_after_failed_commit_loses_table`. -/
theorem inv_trDiscardJob {cfg : Cfg} {s : St} {d : Disk} (h : Inv cfg s d) {s' : St} {d' : Disk}
    (hD10 : s.limbo = none ∨ cfg.discardKeepsTablesWhenUncertain = true)
    (hs : trDiscardJob cfg s d = some (s', d')) : Inv cfg s' d' := by
  obtain ⟨g, j, hg, hj, hk, hpc, rfl, rfl⟩ := trDiscardJob_spec hs
  split
  · exact inv_trDiscardJob_core h hg hj hk hpc (Or.inl rfl)
  · rename_i hkeep
    refine inv_trDiscardJob_core h hg hj hk hpc (Or.inr ⟨hD10.elim id fun h1 => h.limbo_none fun _ => ?_, rfl⟩)
    cases hmf : s.manifestFailed
    · rfl
    · exact absurd (by rw [h1, hmf]; rfl) hkeep

end GoLevel.Dur

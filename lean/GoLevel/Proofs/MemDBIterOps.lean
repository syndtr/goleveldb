import GoLevel.Proofs.MemDBStep
/-! The range tests of `dbIter`, and closed forms of its five moves on a table that satisfies the invariant (C14). -/
namespace GoLevel.MemDB

variable {cmp : Cmp}

/-- "below `slice.Start`" (nobody is, without a start) -/
def ps (cmp : Cmp) (start : Option Bytes) (x : Bytes) : Bool :=
  match start with
  | some s => cmp x s == .lt
  | none => false

/-- "below `slice.Limit`" (everybody is, without a limit) -/
def pl (cmp : Cmp) (limit : Option Bytes) (x : Bytes) : Bool :=
  match limit with
  | some l => cmp x l == .lt
  | none => true

def inR (cmp : Cmp) (start limit : Option Bytes) (x : Bytes) : Bool := !ps cmp start x && pl cmp limit x

section
variable (hc : LawfulCmp cmp)
include hc

theorem ps_down (start : Option Bytes) {x y : Bytes} (hxy : cmp x y = .lt) (h : ps cmp start y = true) :
    ps cmp start x = true := by
  cases start with
  | none => exact h
  | some s => exact below_down hc hxy h

theorem pl_down (limit : Option Bytes) {x y : Bytes} (hxy : cmp x y = .lt) (h : pl cmp limit y = true) :
    pl cmp limit x = true := by
  cases limit with
  | none => rfl
  | some l => exact below_down hc hxy h

theorem ps_initial (start : Option Bytes) {l : List Bytes} (hs : Sorted cmp l) : Initial (ps cmp start) l :=
  .of_pairwise hs fun _ _ => ps_down hc start

theorem pl_initial (limit : Option Bytes) {l : List Bytes} (hs : Sorted cmp l) : Initial (pl cmp limit) l :=
  .of_pairwise hs fun _ _ => pl_down hc limit

theorem slice_eq_left (start limit : Option Bytes) {l : List Bytes} (hs : Sorted cmp l) :
    l.filter (inR cmp start limit) = (l.dropWhile (ps cmp start)).takeWhile (pl cmp limit) :=
  (Initial.slice_eq_filter (ps_initial hc start hs) (pl_initial hc limit hs)).symm

theorem slice_eq_right (start limit : Option Bytes) {l : List Bytes} (hs : Sorted cmp l) :
    l.filter (inR cmp start limit) = (l.takeWhile (pl cmp limit)).dropWhile (ps cmp start) :=
  (Initial.slice_eq_filter' (ps_initial hc start hs) (pl_initial hc limit hs)).symm

end

/-- the range test of `fill` -/
def outOf (cmp : Cmp) (start limit : Option Bytes) (k : Bytes) (cs cl : Bool) : Bool :=
  (match limit with
    | some l => cl && cmp k l != .lt
    | none => false) ||
  (match start with
    | some s => cs && cmp k s == .lt
    | none => false)

theorem outOf_eq (start limit : Option Bytes) (k : Bytes) (cs cl : Bool) :
    outOf cmp start limit k cs cl = (cl && !pl cmp limit k || cs && ps cmp start k) := by
  cases start <;> cases limit <;> simp [outOf, ps, pl, bne]

theorem fill_none {it : Iter} (h : it.node = none) (cs cl : Bool) : it.fill cmp cs cl = it := by
  unfold Iter.fill; rw [h]

theorem fill_some {it : Iter} {k : Bytes} (h : it.node = some k) (cs cl : Bool) :
    it.fill cmp cs cl = if outOf cmp it.start it.limit k cs cl then { it with node := none } else it := by
  unfold Iter.fill outOf; rw [h]; rfl

theorem next_none {db : DB} {it : Iter} (h : it.node = none) :
    it.next cmp db = if it.forward then it else it.first cmp db := by
  unfold Iter.next; rw [h]; cases it.forward <;> rfl

theorem prev_none {db : DB} {it : Iter} (h : it.node = none) :
    it.prev cmp db = if it.forward then it.last cmp db else it := by
  unfold Iter.prev; rw [h]

theorem fill_limit (st lm : Option Bytes) (nd : Node) (fw : Bool) :
    (Iter.mk st lm nd fw).fill cmp false true = Iter.mk st lm (nd.filter (pl cmp lm)) fw := by
  cases nd with
  | none => exact fill_none rfl _ _
  | some k => rw [fill_some rfl, outOf_eq]; cases h : pl cmp lm k <;> simp [Option.filter, h]

theorem fill_start (st lm : Option Bytes) (nd : Node) (fw : Bool) :
    (Iter.mk st lm nd fw).fill cmp true false = Iter.mk st lm (nd.filter (fun x => !ps cmp st x)) fw := by
  cases nd with
  | none => exact fill_none rfl _ _
  | some k => rw [fill_some rfl, outOf_eq]; cases h : ps cmp st k <;> simp [Option.filter, h]

/-- the keys an iterator over `[start, limit)` ranges over -/
def DB.sliceKeys (cmp : Cmp) (db : DB) (start limit : Option Bytes) : List Bytes :=
  db.level0.filter (inR cmp start limit)

theorem mem_sliceKeys {db : DB} {st lm : Option Bytes} {x : Bytes} :
    x ∈ db.sliceKeys cmp st lm ↔ x ∈ db.level0 ∧ inR cmp st lm x = true := by
  simp [DB.sliceKeys, List.mem_filter]

/-- `k ∈ l` is not needed: nothing follows a key that is not there -/
theorem after_gt {l : List Bytes} (hs : Sorted cmp l) (k : Bytes) : ∀ x ∈ after l (some k), cmp k x = .lt := by
  intro x (hx : x ∈ (l.dropWhile (· != k)).drop 1)
  have hk := List.head?_dropWhile_not (· != k) l
  have hsd : Sorted cmp (l.dropWhile (· != k)) := hs.sublist (List.dropWhile_sublist _)
  cases hd : l.dropWhile (· != k) with
  | nil => simp [hd] at hx
  | cons y ys =>
    rw [hd] at hx hk hsd
    obtain rfl : y = k := by simpa using hk
    exact (List.pairwise_cons.1 hsd).1 x (by simpa using hx)

theorem ps_none : ps cmp none = fun _ => false := rfl
theorem pl_none : pl cmp none = fun _ => true := rfl
theorem ps_some (s : Bytes) : ps cmp (some s) = below cmp s := rfl
theorem pl_some (l : Bytes) : pl cmp (some l) = below cmp l := rfl

theorem dropWhile_dropWhile_of_imp {α : Type} {p q : α → Bool} (h : ∀ x, p x = true → q x = true) (l : List α) :
    (l.dropWhile p).dropWhile q = l.dropWhile q := by
  induction l with
  | nil => rfl
  | cons a as ih =>
    by_cases ha : p a = true
    · simp [ha, h a ha, ih]
    · have : p a = false := by simpa using ha
      simp [List.dropWhile_cons, this]

section
variable (hc : LawfulCmp cmp)
include hc

theorem level0_split {db : DB} (h : Inv cmp db) {start limit : Option Bytes} {k : Bytes} {S1 S2 : List Bytes}
    (hS : db.sliceKeys cmp start limit = S1 ++ k :: S2) :
    ∃ A C, db.level0 = (A ++ S1) ++ k :: (S2 ++ C) ∧
      (∀ x ∈ A, ps cmp start x = true) ∧ (∀ x ∈ C, pl cmp limit x = false) := by
  refine ⟨db.level0.takeWhile (ps cmp start), (db.level0.dropWhile (ps cmp start)).dropWhile (pl cmp limit), ?_,
    Initial.mem_takeWhile, ((pl_initial hc limit h.sorted0).sublist (List.dropWhile_sublist _)).mem_dropWhile⟩
  rw [List.append_assoc, ← List.cons_append, ← List.append_assoc S1, ← hS]
  unfold DB.sliceKeys
  rw [slice_eq_left hc start limit h.sorted0, List.takeWhile_append_dropWhile, List.takeWhile_append_dropWhile]

theorem iter_first {db : DB} (h : Inv cmp db) (st lm : Option Bytes) (nd : Node) (fw : Bool) :
    (Iter.mk st lm nd fw).first cmp db = Iter.mk st lm (db.sliceKeys cmp st lm).head? true := by
  unfold DB.sliceKeys
  rw [slice_eq_left hc st lm h.sorted0, List.head?_takeWhile]
  cases st with
  | none => simp [Iter.first, fill_limit, after, ps_none, dropWhile_false]
  | some s => simp [Iter.first, fill_limit, (findGE_noprev hc h s).1, succ, ps_some]

theorem iter_last {db : DB} (h : Inv cmp db) (st lm : Option Bytes) (nd : Node) (fw : Bool) :
    (Iter.mk st lm nd fw).last cmp db = Iter.mk st lm (db.sliceKeys cmp st lm).getLast? false := by
  unfold DB.sliceKeys
  rw [slice_eq_right hc st lm h.sorted0, ((ps_initial hc st h.sorted0).sublist (List.takeWhile_sublist _)).getLast?_dropWhile]
  cases lm with
  | none => simp [Iter.last, fill_start, findLast_eq hc h, pl_none, takeWhile_true]
  | some l => simp [Iter.last, fill_start, findLT_eq hc h l, pred, pl_some]

/-- the key `Seek` searches for: clamped to the start of the range -/
def seekKey (cmp : Cmp) (start : Option Bytes) (key : Bytes) : Bytes :=
  match start with
  | some s => if cmp key s == .lt then s else key
  | none => key

omit hc in
theorem seek_eq {db : DB} (it : Iter) (key : Bytes) : it.seek cmp db key =
    ({ it with forward := true, node := (findGE cmp db (seekKey cmp it.start key) false).node } : Iter).fill cmp
      false true := by
  unfold Iter.seek seekKey; cases it.start <;> rfl

theorem seek_cand {db : DB} (h : Inv cmp db) (st : Option Bytes) (key : Bytes) :
    (findGE cmp db (seekKey cmp st key) false).node =
      ((db.level0.dropWhile (ps cmp st)).dropWhile (below cmp key)).head? := by
  cases st with
  | none => simp only [seekKey, (findGE_noprev hc h key).1, succ, ps_none, dropWhile_false]
  | some s =>
    by_cases hks : cmp key s = .lt
    · simp only [seekKey, hks, beq_self_eq_true, if_true, (findGE_noprev hc h s).1, succ, ps_some]
      rw [dropWhile_all (below cmp key) (db.level0.dropWhile (below cmp s))]
      intro x hx
      have hx' := not_below_of_mem_dropWhile hc h.sorted0 s x hx
      cases hb : below cmp key x with
      | false => rfl
      | true => exact absurd (hc.trans _ _ _ (by simpa [below] using hb) hks) hx'
    · have hks' : (cmp key s == .lt) = false := by simpa using hks
      simp only [seekKey, hks', ps_some]
      rw [dropWhile_dropWhile_of_imp (p := below cmp s) (q := below cmp key)]
      · simp [(findGE_noprev hc h key).1, succ]
      · exact fun x hx => below_iff.2 (hc.ord.lt_of_lt_of_le (below_iff.1 hx) ((hc.ord.not_lt_iff _ _).1 hks))

theorem iter_seek {db : DB} (h : Inv cmp db) (st lm : Option Bytes) (nd : Node) (fw : Bool) (key : Bytes) :
    (Iter.mk st lm nd fw).seek cmp db key =
      Iter.mk st lm ((db.sliceKeys cmp st lm).find? (fun x => !below cmp key x)) true := by
  have hsub := List.dropWhile_sublist (l := db.level0) (ps cmp st)
  have hk := (below_initial hc h.sorted0 key).sublist hsub
  have hl := (pl_initial hc lm h.sorted0).sublist hsub
  -- cutting at the limit and skipping the keys below `key` commute
  unfold DB.sliceKeys
  rw [slice_eq_left hc st lm h.sorted0, ← head?_dropWhile_eq_find?, Initial.slice_eq_filter' hk hl,
    ← Initial.slice_eq_filter hk hl, List.head?_takeWhile, ← seek_cand hc h st key, seek_eq, fill_limit]

theorem iter_next_at {db : DB} (h : Inv cmp db) (st lm : Option Bytes) (fw : Bool) {k : Bytes} {S1 S2 : List Bytes}
    (hS : db.sliceKeys cmp st lm = S1 ++ k :: S2) :
    (Iter.mk st lm (some k) fw).next cmp db = Iter.mk st lm S2.head? true := by
  obtain ⟨A, C, hL', _, hC⟩ := level0_split hc h hS
  have hne := sorted_concat_ne hc (hL' ▸ h.sorted0)
  unfold Iter.next
  simp only [fill_limit]
  rw [hL', after_append hne]
  congr 1
  cases S2 with
  | nil =>
    cases C with
    | nil => rfl
    | cons c cs => simp [Option.filter, hC c (by simp)]
  | cons y ys =>
    have : inR cmp st lm y = true := (mem_sliceKeys.1 (by rw [hS]; simp)).2
    simp [Option.filter, (Bool.and_eq_true_iff.1 this).2]

theorem iter_prev_at {db : DB} (h : Inv cmp db) (st lm : Option Bytes) (fw : Bool) {k : Bytes} {S1 S2 : List Bytes}
    (hS : db.sliceKeys cmp st lm = S1 ++ k :: S2) :
    (Iter.mk st lm (some k) fw).prev cmp db = Iter.mk st lm S1.getLast? false := by
  obtain ⟨A, C, hL', hA, _⟩ := level0_split hc h hS
  unfold Iter.prev
  simp only [fill_start, findLT_eq hc h k, pred]
  rw [hL', (split_below hc (hL' ▸ h.sorted0)).1]
  congr 1
  rw [List.getLast?_append]
  cases hl : S1.getLast? with
  | none =>
    cases ha : A.getLast? with
    | none => rfl
    | some a => simp [Option.filter, hA a (List.mem_of_getLast? ha)]
  | some z =>
    have : inR cmp st lm z = true := (mem_sliceKeys.1 (by rw [hS]; simp [List.mem_of_getLast? hl])).2
    simp [Option.filter, (Bool.and_eq_true_iff.1 this).1]

end

end GoLevel.MemDB

import GoLevel.Proofs.WriteProtoInv
/-! Progress: a leader can always move, a waiting writer has a live leader. -/
namespace GoLevel.WP

theorem pendReply_le_holds (p : Pc) : pendReply p ≤ holds p := by
  cases p with
  | lead ph m o => cases ph <;> cases o <;> simp [pendReply, holds]
  | _ => simp [pendReply, holds]

theorem exists_wm (s : St) (c : CInv s) (j : Nat) (l : Thread) (hj : s.ws[j]? = some l)
    (hp : 0 < pendReply l.pc) : ∃ (i : Nat) (w : Thread), s.ws[i]? = some w ∧ w.pc = .waitMerged :=
  have ⟨i, w, hi, hw⟩ := exists_of_balance c.replies hj hp
  ⟨i, w, hi, by cases hpc : w.pc <;> first | rfl | (rw [hpc] at hw; cases hw)⟩

theorem exists_wa (s : St) (c : CInv s) (j : Nat) (l : Thread) (hj : s.ws[j]? = some l)
    (hp : 0 < owed l.pc) : ∃ (i : Nat) (w : Thread), s.ws[i]? = some w ∧ w.pc = .waitAck :=
  have ⟨i, w, hi, hw⟩ := exists_of_balance c.acks hj hp
  ⟨i, w, hi, by cases hpc : w.pc <;> first | rfl | (rw [hpc] at hw; cases hw)⟩

/-- a thread inside `writeLocked`/`unlockWrite` is never blocked (storage calls return) -/
theorem lead_can_step (s : St) (c : CInv s) (j : Nat) (l : Thread) (ph : Ph) (m : Nat) (o : Bool)
    (hj : s.ws[j]? = some l) (hp : l.pc = .lead ph m o) : ∃ t, Step s t := by
  cases ph with
  | flush => exact ⟨_, Step.flushOk s j l m o 0 hj hp⟩
  | merging => exact ⟨_, Step.mergeDone s j l m o hj hp⟩
  | replying =>
    obtain ⟨i, w, hi, hw⟩ := exists_wm s c j l hj (by simp [hp, pendReply])
    exact ⟨_, Step.reply s i j w l m o hj hi hp hw⟩
  | journal => exact ⟨_, Step.journalOk s j l m o hj hp⟩
  | apply => exact ⟨_, Step.apply s j l m o hj hp⟩
  | publish => exact ⟨_, Step.publish s j l m o _ hj hp rfl⟩
  | rotate => exact ⟨_, Step.rotateOk s j l m o hj hp⟩
  | acking k r =>
    cases k with
    | succ k =>
      obtain ⟨i, w, hi, hw⟩ := exists_wa s c j l hj (by simp [hp, owed])
      exact ⟨_, Step.ack s i j w l k m o r hj hi hp hw⟩
    | zero =>
      cases o with
      | false => exact ⟨_, Step.release s j l m r hj hp⟩
      | true =>
        obtain ⟨i, w, hi, hw⟩ := exists_wm s c j l hj (by simp [hp, pendReply])
        exact ⟨_, Step.handoff s i j w l m r none hj hi hp hw (Or.inl c.cfgH)⟩

theorem waitAck_has_leader (s : St) (c : CInv s) (inv : PInv s) (i : Nat) (w : Thread)
    (hi : s.ws[i]? = some w) (hp : w.pc = .waitAck) :
    ∃ (j : Nat) (l : Thread), s.ws[j]? = some l ∧ w.acc = some j ∧ s.cur = some j ∧ 0 < owed l.pc := by
  obtain ⟨j, l, hj, hl⟩ := exists_of_balance c.acks.symm hi (by rw [hp]; exact Nat.one_pos)
  have hc := inv.holder_cur j l hj (holds_of_owed _ hl)
  have := (inv.wa_cur i w hi hp).1
  exact ⟨j, l, hj, by rw [this, hc], hc, hl⟩

theorem waitMerged_has_leader (s : St) (c : CInv s) (i : Nat) (w : Thread)
    (hi : s.ws[i]? = some w) (hp : w.pc = .waitMerged) :
    ∃ (j : Nat) (l : Thread), s.ws[j]? = some l ∧ 0 < pendReply l.pc ∧ 0 < holds l.pc := by
  have ⟨j, l, hj, hl⟩ := exists_of_balance c.replies.symm hi (by rw [hp]; exact Nat.one_pos)
  exact ⟨j, l, hj, hl, Nat.lt_of_lt_of_le hl (pendReply_le_holds _)⟩

theorem tot_le_tot (f g : Pc → Nat) (h : ∀ p, f p ≤ g p) (ws : List Thread) : tot f ws ≤ tot g ws :=
  sum_map_le fun x _ => h x.pc

theorem waitMerged_le_one (s : St) (c : CInv s) : tot isWM s.ws ≤ 1 := by
  have := tot_le_tot pendReply holds pendReply_le_holds s.ws
  have h1 := c.holders
  have h2 := c.replies
  split at h1 <;> omega

/-- deadlock freedom -/
theorem no_stuck (s : St) (c : CInv s) (inv : PInv s) (i : Nat) (w : Thread) (hi : s.ws[i]? = some w)
    (hk : w.kind = .writer) (hw : ∀ r, w.pc ≠ .returned r) : ∃ t, Step s t := by
  cases hpc : w.pc with
  | returned r => exact absurd hpc (hw r)
  | idle => exact ⟨_, Step.call s i w hi hpc⟩
  | lead ph m o => exact lead_can_step s c i w ph m o hi hpc
  | hold => exact absurd hk (loc_at hpc (inv.loc i w hi)).1
  | waitAck =>
    obtain ⟨j, l, hj, _, _, hl⟩ := waitAck_has_leader s c inv i w hi hpc
    cases hlp : l.pc with
    | lead ph m o => exact lead_can_step s c j l ph m o hj hlp
    | _ => simp [hlp, owed] at hl
  | waitMerged =>
    obtain ⟨j, l, hj, hl, _⟩ := waitMerged_has_leader s c i w hi hpc
    cases hlp : l.pc with
    | lead ph m o => exact lead_can_step s c j l ph m o hj hlp
    | _ => simp [hlp, pendReply] at hl
  | selecting =>
    cases ht : s.token with
    | false => exact ⟨_, Step.lock s i w none hi hpc hk ht⟩
    | true =>
      have h1 := c.holders; rw [ht] at h1; simp at h1
      obtain ⟨j, l, hj, hl⟩ := exists_of_tot_pos holds s.ws (by omega)
      cases hlp : l.pc with
      | lead ph m o => exact lead_can_step s c j l ph m o hj hlp
      | hold =>
        have hf := inv.flags j l hj (by simp [hlp])
        cases hlk : l.kind with
        | writer => exact absurd hlk (loc_at hlp (inv.loc j l hj)).1
        | transient => exact ⟨_, Step.hRelease s j l hj hlp (Or.inl hlk)⟩
        | closer =>
          exact ⟨_, Step.retClosed s i w hi hpc (by simp [hk]) (hf.1 hlk)⟩
        | perErrH => exact ⟨_, Step.retPerErr s i w hi hpc (Or.inl hk) (hf.2 hlk)⟩
      | _ => simp [hlp, holds] at hl

end GoLevel.WP

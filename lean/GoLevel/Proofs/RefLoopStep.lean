import GoLevel.Proofs.RefLoopInv
import GoLevel.Proofs.RefLoopFStep
/-! The basic environment (C07) as an instance of the full one: every id installed, the loop's view of a version =
its tables, the delta of version `k` filed in slot `k + 1`.  `Inv`, `Hist`, `Safe` are `InvF`, `HistC`, `SafeF` of
the embedded history, so `step_inv` goes as `step_invF`, with `handle_refF` for `ref` (here a `ref` may come while a
delta is pending). -/
namespace GoLevel.RefLoop

/-- Table `f` has been accounted for: it belongs to a version whose tables were added to the counters (the
versions already passed by `next`, and the base version). -/
def Acc (S : State) (G : Env) (f : Nat) : Prop := ∃ k, (k < S.next ∨ k = min G.nd S.next) ∧ f ∈ G.F k

/-- The removal history `R` lists exactly the accounted tables whose counter is zero, once each. -/
def Hist (S : State) (G : Env) (R : List Nat) : Prop :=
  ∀ f, ((Acc S G f ∧ S.fileRef.count f = 0) → R.count f = 1) ∧
       (¬ (Acc S G f ∧ S.fileRef.count f = 0) → R.count f = 0)

/-- Nothing that a referenced-and-unreleased version needs is in `rm`. -/
def Safe (G : Env) (rm : List Nat) : Prop := ∀ r ∈ rm, ∀ k, k < G.n → k ∉ G.rel → r ∉ G.F k

theorem Env.WF.net {G : Env} (wf : G.WF) {b : Nat} (hb : b < G.nd) : NetExact (G.F b) (G.D b) (G.F (b + 1)) := by
  obtain ⟨⟨hna, hnd⟩, hadd, hdel⟩ := wf.delta b hb
  refine netExact_of_mem hna hnd (fun r hr => ((hdel r).mp hr).1) (fun f => ?_)
    (fun f hf => Or.inl ((hadd f).mp hf).2)
  rw [hadd f, hdel f]
  by_cases h1 : f ∈ G.F b <;> by_cases h2 : f ∈ G.F (b + 1) <;> simp [h1, h2]

/-- `ds'` = the deltas filed in the slots.  `InvF` reads only those below `dn`, so any extension of `G.ds` does:
the delta a later `delta` message will bring can be in its slot before it is sent. -/
def Env.emb (G : Env) (ds' : List Delta) : EnvF :=
  { vs := (List.range G.n).map fun k => .inst (G.F k) (G.F k) (ds'.getD (k - 1) ⟨[], []⟩),
    dn := G.nd, rel := G.rel, closing := false }

theorem emb_slot (G : Env) (ds' : List Delta) (k : Nat) : (G.emb ds').slot k =
    if k < G.n then .inst (G.F k) (G.F k) (ds'.getD (k - 1) ⟨[], []⟩) else .failed := by
  unfold EnvF.slot Env.emb
  simp only [List.getElem?_map]
  by_cases h : k < G.n
  · rw [List.getElem?_range h]; simp [h]
  · rw [List.getElem?_eq_none (by simpa using h)]; simp [h]

theorem emb_rel (G : Env) (ds' : List Delta) : (G.emb ds').rel = G.rel := rfl
theorem emb_dn (G : Env) (ds' : List Delta) : (G.emb ds').dn = G.nd := rfl
theorem emb_N (G : Env) (ds' : List Delta) : (G.emb ds').N = G.n := by simp [EnvF.N, Env.emb]
theorem emb_inst (G : Env) (ds' : List Delta) (k : Nat) : (G.emb ds').inst k ↔ k < G.n := by
  unfold EnvF.inst; rw [emb_slot]; split <;> simp_all [Slot.isInst]
theorem emb_T (G : Env) (ds' : List Delta) (k : Nat) : (G.emb ds').T k = G.F k := by
  unfold EnvF.T; rw [emb_slot]; split
  · rfl
  · rw [F_ge (by omega)]; rfl
theorem emb_L (G : Env) (ds' : List Delta) (k : Nat) : (G.emb ds').L k = G.F k := by
  unfold EnvF.L; rw [emb_slot]; split
  · rfl
  · rw [F_ge (by omega)]; rfl
theorem emb_up (G : Env) (ds' : List Delta) (k : Nat) : (G.emb ds').up k = k := by
  by_cases h : k < G.n
  · exact EnvF.up_inst ((emb_inst G ds' k).mpr h)
  · exact EnvF.up_of_ge (by rw [emb_N]; omega)
theorem emb_cb (G : Env) (ds' : List Delta) (nx : Nat) : (G.emb ds').cb nx = min G.nd nx := emb_up ..
attribute [local simp] emb_rel emb_dn emb_N emb_inst emb_T emb_L emb_up emb_cb

theorem emb_din (G : Env) (ds' : List Delta) {k : Nat} (h : k + 1 < G.n) :
    (G.emb ds').din (k + 1) = ds'.getD k ⟨[], []⟩ := by
  unfold EnvF.din; rw [emb_slot, if_pos h]; rfl

def Ext (G : Env) (ds' : List Delta) : Prop := ∀ k, k < G.nd → ds'.getD k ⟨[], []⟩ = G.D k

theorem Env.WF.lt_n {G : Env} (wf : G.WF) {k : Nat} (h : k < G.nd) : k + 1 < G.n := by
  rcases wf.nd_lt with h1 | h1 <;> omega

theorem wf_emb {G : Env} (wf : G.WF) {ds' : List Delta} (hx : Ext G ds') :
    (G.emb ds').WF ∧ NoReuse (G.emb ds') := by
  refine ⟨⟨fun k => by rw [emb_T]; exact wf.nodup k, fun k => by rw [emb_L]; exact wf.nodup k,
    fun k f => by rw [emb_L, emb_T]; exact id, fun h => ⟨by simpa using h, by rw [emb_T]; exact wf.first⟩, ?_,
    fun b hb _ => ?_, fun k hk => ?_, fun b _ _ f => by rw [emb_T, emb_L]; exact fun h1 h2 => absurd h1 h2,
    fun h => by cases h⟩, ⟨fun f j l m h1 h2 _ => by simp only [emb_T]; exact wf.mono f j l m h1 h2,
    fun f j k _ _ => by simp only [emb_T, emb_L]; exact fun _ h => h⟩⟩
  · rcases wf.nd_lt with h | h
    · exact Or.inr ((emb_inst ..).mpr h)
    · exact Or.inl ⟨by simpa using h.1, h.2⟩
  · have hb : b < G.nd := hb
    rw [emb_up, emb_L, emb_L, emb_din _ _ (wf.lt_n hb), hx b hb]; exact wf.net hb
  · have := wf.rel_lt k hk
    exact ⟨(emb_inst ..).mpr (by have := wf.lt_n this; omega), Or.inl this⟩

/-- The invariant of the basic environment is the full one on the embedded history (plus `last`, which only
the basic one records). -/
theorem inv_emb {S : State} {G : Env} {ds' : List Delta} (hx : Ext G ds') :
    Inv S G ↔ G.WF ∧ (S.last + 1 = G.n ∨ (G.n = 0 ∧ S.last = 0)) ∧ InvF S (G.emb ds') := by
  by_cases wf : ¬ G.WF
  · exact ⟨fun h => absurd h.wf wf, fun h => absurd h.1 wf⟩
  have wf := Classical.not_not.mp wf
  have hdin : ∀ k, k < G.nd → (G.emb ds').din ((G.emb ds').up (k + 1)) = G.D k := fun k hk => by
    rw [emb_up, emb_din _ _ (wf.lt_n hk), hx k hk]
  -- what `released` and `deltas` hold, in the terms of either invariant
  have hrld : ∀ k, (if S.next ≤ k ∧ k ∈ G.rel then
      some (if k < G.nd then some ((G.emb ds').din ((G.emb ds').up (k + 1))) else none) else none) =
      if S.next ≤ k ∧ k ∈ G.rel then some (some (G.D k)) else none := fun k => by
    by_cases hk : S.next ≤ k ∧ k ∈ G.rel
    · have := wf.rel_lt k hk.2
      rw [if_pos hk, if_pos hk, if_pos this, hdin k this]
    · rw [if_neg hk, if_neg hk]
  have hdl : ∀ k, (if S.next ≤ k ∧ k < G.nd ∧ (G.emb ds').inst k ∧ k ∉ G.rel then
      some ((G.emb ds').din ((G.emb ds').up (k + 1))) else none) =
      if S.next ≤ k ∧ k < G.nd ∧ k ∉ G.rel then some (G.D k) else none := fun k => by
    by_cases hk : S.next ≤ k ∧ k < G.nd ∧ k ∉ G.rel
    · rw [if_pos hk, if_pos ⟨hk.1, hk.2.1, (emb_inst ..).mpr (by have := wf.lt_n hk.2.1; omega), hk.2.2⟩,
        hdin k hk.2.1]
    · rw [if_neg hk, if_neg (fun h => hk ⟨h.1, h.2.1, h.2.2.2⟩)]
  have hrfd : S.next ≤ G.n → ∀ k, (k < S.next ∧ (G.emb ds').inst k ∧ k ∉ G.rel) ↔ (k < S.next ∧ k ∉ G.rel) :=
    fun hnx k => by rw [emb_inst]; exact ⟨fun h => ⟨h.1, h.2.2⟩, fun h => ⟨h.1, by omega, h.2⟩⟩
  constructor
  · intro hI
    refine ⟨wf, hI.last, (wf_emb wf hx).1, by simpa using hI.nx, ⟨by rw [hI.ab]; exact List.nodup_nil, fun k => ?_⟩,
      fun k => ?_, fun k => (hI.rld k).trans (hrld k).symm, fun k => (hI.dl k).trans (hdl k).symm,
      ⟨hI.rfd.1, fun k => (hI.rfd.2 k).trans (hrfd hI.nx k).symm⟩, fun f => ?_⟩
    · rw [hI.ab]; simp
    · simp only [emb_inst, emb_T]; exact hI.ref k
    · simp only [emb_L, emb_T, emb_cb]; exact hI.cnt f
  · rintro ⟨_, hlast, hF⟩
    have hnx : S.next ≤ G.n := by simpa using hF.nx
    refine ⟨wf, ?_, hnx, hlast, fun k => ?_, fun k => (hF.rld k).trans (hrld k), fun k => (hF.dl k).trans (hdl k),
      ⟨hF.rfd.1, fun k => (hF.rfd.2 k).trans (hrfd hnx k)⟩, fun f => ?_⟩
    · apply List.eq_nil_iff_forall_not_mem.mpr; intro k hk
      have := (hF.ab.2 k).mp hk; simp at this; omega
    · have := hF.ref k; simp only [emb_inst, emb_T] at this; exact this
    · have := hF.cnt f; simp only [emb_L, emb_T, emb_cb] at this; exact this

theorem inv_init : Inv State.init Env.init := by
  refine (inv_emb (ds' := []) (fun _ _ => rfl)).mpr ⟨⟨?_, rfl, Or.inr ⟨rfl, rfl⟩, ?_, ?_, ?_⟩, Or.inr ⟨rfl, rfl⟩, invF_init⟩
  · intro k; simp [Env.F, Env.init]
  · intro k hk; simp [Env.nd, Env.init] at hk
  · intro k hk; simp [Env.init] at hk
  · intro f j k l _ _ hj; simp [Env.F, Env.init] at hj

theorem acc_emb (S : State) (G : Env) (ds' : List Delta) (f : Nat) : AccF S (G.emb ds') f ↔ Acc S G f := by
  unfold AccF Acc
  simp only [emb_T, emb_L, emb_cb]
  constructor
  · rintro (⟨k, h1, h2⟩ | h)
    · exact ⟨k, Or.inl h1, h2⟩
    · exact ⟨_, Or.inr rfl, h⟩
  · rintro ⟨k, h1 | h1, h2⟩
    · exact Or.inl ⟨k, h1, h2⟩
    · exact Or.inr (h1 ▸ h2)

theorem hist_emb {S : State} {G : Env} {ds' : List Delta} {R : List Nat} (wf : G.WF) (hx : Ext G ds') :
    HistC S (G.emb ds') R ↔ Hist S G R := by
  have : HistF S (G.emb ds') R ↔ Hist S G R := by unfold HistF Hist; simp only [acc_emb]
  exact ⟨fun h => this.mp (h rfl (wf_emb wf hx).2), fun h _ _ => this.mpr h⟩

theorem hist_init : Hist State.init Env.init [] :=
  (hist_emb (ds' := []) inv_init.wf (fun _ _ => rfl)).mp fun _ _ => hist_initF

theorem gl_emb {G : Env} (wf : G.WF) {ds' : List Delta} (hx : Ext G ds') (nx : Nat) : GL (G.emb ds') nx :=
  (wf_emb wf hx).2.gl nx

theorem safe_emb {G : Env} {ds' : List Delta} {nx : Nat} {rm : List Nat} (h : SafeF (G.emb ds') nx rm) : Safe G rm :=
  fun r hr k hk hrel => by have := h r hr k ((emb_inst ..).mpr hk) (Or.inl hrel); rwa [emb_T] at this

theorem emb_push (G : Env) (ds' : List Delta) (fs : List Nat) :
    ({ G with vs := G.vs ++ [fs] } : Env).emb ds' = (G.emb ds').push (.inst fs fs (ds'.getD (G.n - 1) ⟨[], []⟩)) := by
  have hn : ({ G with vs := G.vs ++ [fs] } : Env).n = G.n + 1 := by simp [Env.n]
  unfold Env.emb EnvF.push
  simp only [hn, List.range_succ, List.map_append, List.map_cons, List.map_nil, F_append_eq, EnvF.mk.injEq, and_true,
    List.append_cancel_right_eq]
  exact ⟨List.map_congr_left fun k hk => by rw [F_append_lt (List.mem_range.mp hk)], rfl⟩

theorem emb_delta (G : Env) (ds' : List Delta) (d : Delta) :
    ({ G with ds := G.ds ++ [d] } : Env).emb ds' = { G.emb ds' with dn := G.nd + 1 } := by
  simp [Env.emb, Env.nd, Env.n, Env.F]

/-- One message of a well-behaved environment: no panic, the invariant is kept, only safe removals, exact
removal history. -/
theorem step_inv {S : State} {G G' : Env} {m : Msg} {R : List Nat} (hI : Inv S G) (hH : Hist S G R)
    (hs : EnvStep G m G') :
    ∃ S' rm, step S m = some (S', rm) ∧ Inv S' G' ∧ Safe G' rm ∧ Hist S' G' (R ++ rm) := by
  have wf := hI.wf
  have wf' := wf_step wf hs
  -- the slots hold the deltas of `G'`: the one this message brings (if it is a `delta`) is filed already
  have hx : Ext G G'.ds := by
    cases hs with
    | delta d _ _ _ => exact fun k hk => (D_append_lt hk)
    | _ => exact fun _ _ => rfl
  have hx' : Ext G' G'.ds := fun _ _ => rfl
  obtain ⟨_, hlast, hF⟩ := (inv_emb hx).mp hI
  have hC := (hist_emb wf hx).mpr hH
  have hG := gl_emb wf hx S.next
  have hh : ∃ S1 rm1, handle S m = some (S1, rm1) ∧ InvF S1 (G'.emb G'.ds) ∧
      SafeF (G'.emb G'.ds) S.next rm1 ∧ HistC S1 (G'.emb G'.ds) (R ++ rm1) := by
    cases hs with
    | ref fs hnd hfirst _ =>
      rw [emb_push]
      have := handle_refF (din := G.ds.getD (G.n - 1) ⟨[], []⟩) hF hC rfl hnd hnd (fun _ h => h)
        (by simpa using hfirst)
      rwa [emb_N] at this
    | delta d hlt hnd hex =>
      have hd : (G.emb (G.ds ++ [d])).din (G.nd + 1) = d := by
        rw [emb_din _ _ hlt]; exact D_append_eq (G := G)
      have := handle_invF hF hG hC (EnvStepF.delta (G.emb (G.ds ++ [d])) rfl (by simpa using hlt)
        (by simp only [emb_up, emb_L]; show NetExact _ ((G.emb (G.ds ++ [d])).din (G.nd + 1)) _
            rw [hd]; have := wf'.net (b := G.nd) (by simp [Env.nd]); rwa [D_append_eq] at this)
        (by simp only [emb_T, emb_L]; exact fun f h1 h2 => absurd h1 h2))
      simp only [emb_up] at this
      rw [emb_dn, hd] at this
      rw [emb_delta]; exact this
    | rel k hk hnot =>
      have := handle_invF hF hG hC (EnvStepF.rel (G.emb G.ds) k ((emb_inst ..).mpr (by have := wf.lt_n hk; omega)) hk hnot)
      rwa [emb_T] at this
    | expire v => exact handle_invF hF hG hC (EnvStepF.expire _ v)
  obtain ⟨S1, rm1, hh⟩ := hh
  have hl1 := (handle_frame hh.1).2
  obtain ⟨S', rm, e, hF', _, _, sf, hC', hl⟩ := step_of_handleF hh (gl_emb wf' hx' S.next)
  have hlast' : S'.last + 1 = G'.n ∨ (G'.n = 0 ∧ S'.last = 0) := by
    rw [hl, hl1]
    cases hs with
    | ref fs _ _ _ =>
      left
      show (if G.n > S.last then G.n else S.last) + 1 = (G.vs ++ [fs]).length
      rw [List.length_append, List.length_singleton]
      show _ = G.n + 1
      split <;> omega
    | _ => exact hlast
  exact ⟨S', rm, e, (inv_emb hx').mpr ⟨wf', hlast', hF'⟩, safe_emb sf, (hist_emb wf' hx').mp hC'⟩

/-- At quiescence — every delta arrived, every version but the current one released, every message
processed — the loop has reached the current version and the counters cover exactly its tables. -/
theorem quiescent_fileRef {G : Env} {S : State} (hI : Inv S G) (hs : Settled S)
    (hn : 0 < G.n) (hnd : G.nd + 1 = G.n) (hrel : ∀ k, k + 1 < G.n → k ∈ G.rel) :
    G.n - 1 ≤ S.next ∧ ∀ f, f ∈ S.fileRef ↔ f ∈ G.F (G.n - 1) := by
  obtain ⟨_, _, hF⟩ := (inv_emb (ds' := G.ds) (fun _ _ => rfl)).mp hI
  have := quiescentF hF hs (by simpa using hn) (by simp only [emb_N, emb_up, emb_dn]; omega)
    (fun k hk _ => hrel k (by simp only [emb_dn] at hk; omega))
  simp only [emb_dn, emb_L, emb_T, show G.nd = G.n - 1 by omega] at this
  exact ⟨this.1, fun f => ⟨this.2.2 f, this.2.1 f⟩⟩

end GoLevel.RefLoop

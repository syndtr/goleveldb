import GoLevel.Model.Cache
import GoLevel.Proofs.Order
/-! Lemmas for the cache model (C17): node list operations, the eviction loop, pending instructions. -/
namespace GoLevel.CacheM

theorem flatten_set {α : Type} (ts : List (List α)) (t : Nat) (old : List α) (h : ts[t]? = some old) :
    ∃ A B, ts.flatten = A ++ (old ++ B) ∧ ∀ new, (ts.set t new).flatten = A ++ (new ++ B) := by
  induction ts generalizing t with
  | nil => simp at h
  | cons a ts ih =>
    cases t with
    | zero => simp at h; subst h; exact ⟨[], ts.flatten, by simp, fun new => by simp⟩
    | succ t =>
      simp at h
      obtain ⟨A, B, h1, h2⟩ := ih t h
      exact ⟨a ++ A, B, by simp [h1], fun new => by simp [h2]⟩

theorem perm_swap {α : Type} (x y A B : List α) : (x ++ (A ++ (y ++ B))).Perm (y ++ (A ++ (x ++ B))) :=
  (List.perm_append_comm_assoc x A _).trans
    (((List.perm_append_comm_assoc x y B).append_left A).trans (List.perm_append_comm_assoc A y _))

theorem flatten_set_perm' {α : Type} (ts : List (List α)) (t : Nat) (old new : List α)
    (h : ts[t]? = some old) : (old ++ (ts.set t new).flatten).Perm (new ++ ts.flatten) := by
  obtain ⟨A, B, h1, h2⟩ := flatten_set ts t old h
  rw [h1, h2]; exact perm_swap old new A B

theorem flatten_set_perm {α : Type} (ts : List (List α)) (t : Nat) (i : α) (rest push : List α)
    (h : ts[t]? = some (i :: rest)) :
    (i :: (ts.set t (push ++ rest)).flatten).Perm (push ++ ts.flatten) := by
  obtain ⟨A, B, h1, h2⟩ := flatten_set ts t _ h
  rw [h1, h2]
  simpa using perm_swap [i] push A (rest ++ B)

theorem mem_of_getElem?_flatten {α : Type} (ts : List (List α)) (t : Nat) (l : List α) (x : α)
    (h : ts[t]? = some l) (hx : x ∈ l) : x ∈ ts.flatten := by
  rw [List.mem_flatten]
  exact ⟨l, List.mem_of_getElem? h, hx⟩

theorem findId_some {ns : List Node} {id : Nat} {n : Node} (h : findId ns id = some n) :
    n ∈ ns ∧ n.id = id := by
  unfold findId at h
  have h1 := List.mem_of_find?_eq_some h
  have h2 := List.find?_some h
  simp at h2
  exact ⟨h1, h2⟩

theorem findId_none {ns : List Node} {id : Nat} (h : findId ns id = none) : ∀ n ∈ ns, n.id ≠ id := by
  unfold findId at h
  intro n hn
  have := List.find?_eq_none.mp h n hn
  simpa using this

theorem findId_eq_none {ns : List Node} {id : Nat} (h : ∀ n ∈ ns, n.id ≠ id) : findId ns id = none :=
  List.find?_eq_none.mpr fun n hn => by simpa using h n hn

theorem findKey_some {ns : List Node} {k : Key} {n : Node} (h : findKey ns k = some n) :
    n ∈ ns ∧ n.key = k := by
  unfold findKey at h
  have h1 := List.mem_of_find?_eq_some h
  have h2 := List.find?_some h
  simp at h2
  exact ⟨h1, h2⟩

theorem findKey_none {ns : List Node} {k : Key} (h : findKey ns k = none) : ∀ n ∈ ns, n.key ≠ k := by
  unfold findKey at h
  intro n hn
  have := List.find?_eq_none.mp h n hn
  simpa using this

theorem findId_of_mem {ns : List Node} (hnd : (ns.map (·.id)).Nodup) {n : Node} (hn : n ∈ ns) :
    findId ns n.id = some n := by
  cases h : findId ns n.id with
  | none => exact absurd rfl (findId_none h n hn)
  | some m => rw [eq_of_nodup_map (·.id) hnd (findId_some h).1 hn (findId_some h).2]

theorem findId_upd {ns : List Node} {j : Nat} {f : Node → Node} (hf : ∀ n, (f n).id = n.id) (id : Nat) :
    findId (upd ns j f) id = (findId ns id).map fun n => if n.id = j then f n else n := by
  unfold findId upd
  rw [List.find?_map]
  congr 2
  funext n
  simp only [Function.comp]; split <;> simp [hf]

theorem findId_upd_ne {ns : List Node} {id j : Nat} {f : Node → Node} (hf : ∀ n, (f n).id = n.id) (hne : id ≠ j) :
    findId (upd ns j f) id = findId ns id := by
  rw [findId_upd hf]
  cases h : findId ns id with
  | none => rfl
  | some n => simp [(findId_some h).2, hne]

theorem findId_upd_self {ns : List Node} {j : Nat} {f : Node → Node} {n0 : Node} (hf : ∀ n, (f n).id = n.id)
    (h : findId ns j = some n0) : findId (upd ns j f) j = some (f n0) := by
  simp [findId_upd hf, h, (findId_some h).2]

theorem findId_eraseId_ne {ns : List Node} {e id : Nat} (hne : id ≠ e) : findId (eraseId ns e) id = findId ns id := by
  unfold findId eraseId
  rw [List.find?_filter]
  congr 1
  funext a
  by_cases h : a.id = id <;> simp [h, hne]

theorem mem_upd {ns : List Node} {id : Nat} {f : Node → Node} {m : Node} :
    m ∈ upd ns id f ↔ ∃ n ∈ ns, m = if n.id = id then f n else n := by
  unfold upd; simp [List.mem_map, eq_comm]

theorem upd_map {β : Type} (φ : Node → β) {ns : List Node} {id : Nat} {f : Node → Node} (hf : ∀ n, φ (f n) = φ n) :
    (upd ns id f).map φ = ns.map φ := by
  unfold upd; rw [List.map_map]
  exact List.map_congr_left fun n _ => by simp only [Function.comp]; split <;> simp [hf]

theorem upd_map_id {ns : List Node} {id : Nat} {f : Node → Node} (hf : ∀ n, (f n).id = n.id) :
    (upd ns id f).map (·.id) = ns.map (·.id) := upd_map _ hf

theorem upd_map_key {ns : List Node} {id : Nat} {f : Node → Node} (hf : ∀ n, (f n).key = n.key) :
    (upd ns id f).map (·.key) = ns.map (·.key) := upd_map _ hf

theorem upd_length {ns : List Node} {id : Nat} {f : Node → Node} : (upd ns id f).length = ns.length := by
  unfold upd; simp

theorem mem_eraseId {ns : List Node} {id : Nat} {m : Node} : m ∈ eraseId ns id ↔ m ∈ ns ∧ m.id ≠ id := by
  unfold eraseId; simp [List.mem_filter]

theorem mem_clearLru {ns : List Node} {ev : List Nat} {m : Node} :
    m ∈ clearLru ns ev ↔ ∃ n ∈ ns, m = if n.id ∈ ev then { n with lru := .none } else n := by
  unfold clearLru; simp [List.mem_map, eq_comm]

theorem clearLru_map {β : Type} (φ : Node → β) {ns : List Node} {ev : List Nat}
    (hφ : ∀ n : Node, φ { n with lru := .none } = φ n) : (clearLru ns ev).map φ = ns.map φ := by
  unfold clearLru; rw [List.map_map]
  exact List.map_congr_left fun n _ => by simp only [Function.comp]; split <;> simp [hφ]

theorem clearLru_map_id {ns : List Node} {ev : List Nat} : (clearLru ns ev).map (·.id) = ns.map (·.id) :=
  clearLru_map _ fun _ => rfl

theorem clearLru_map_key {ns : List Node} {ev : List Nat} : (clearLru ns ev).map (·.key) = ns.map (·.key) :=
  clearLru_map _ fun _ => rfl

theorem findId_congr {α : Type} (g : Node → α) {ns ns' : List Node}
    (h : ns'.map (fun n => (n.id, g n)) = ns.map (fun n => (n.id, g n))) (id : Nat) :
    (findId ns' id).map g = (findId ns id).map g := by
  have key : ∀ l : List Node, (findId l id).map g =
      ((l.map fun n => (n.id, g n)).find? (·.1 == id)).map (·.2) := fun l => by
    rw [List.find?_map, Option.map_map]; rfl
  rw [key, key, h]

theorem sizeOf_congr {ns ns' : List Node}
    (h : ns'.map (fun n => (n.id, n.size)) = ns.map (fun n => (n.id, n.size))) (id : Nat) :
    sizeOf ns' id = sizeOf ns id := by
  have := findId_congr (·.size) h id
  unfold sizeOf
  cases h1 : findId ns' id <;> cases h2 : findId ns id <;> simp_all

theorem sizeOf_mem {ns : List Node} (hnd : (ns.map (·.id)).Nodup) {n : Node} (hn : n ∈ ns) :
    sizeOf ns n.id = n.size := by
  unfold sizeOf; rw [findId_of_mem hnd hn]

/-! The eviction loop, through its result `r`, as `Exec.promoteAdmit` / `Exec.setcap` name it. -/

theorem evictTail_split {ns : List Node} {cap : Nat} {l : List Nat} {used : Nat} {r : List Nat × Nat × List Nat × Bool}
    (hr : evictTail ns cap l used = r) : r.2.2.1 ++ r.1 = l := by
  subst hr
  induction l generalizing used with
  | nil => simp [evictTail]
  | cons id rest ih =>
    unfold evictTail
    split
    · simp [ih]
    · simp

theorem evicted_mem {ns : List Node} {cap : Nat} {l : List Nat} {used e : Nat} {r : List Nat × Nat × List Nat × Bool}
    (hr : evictTail ns cap l used = r) (he : e ∈ r.2.2.1) : e ∈ l := by
  rw [← evictTail_split hr]; exact List.mem_append_left _ he

theorem evictTail_used {ns : List Node} {cap : Nat} {l : List Nat} {used : Nat} {r : List Nat × Nat × List Nat × Bool}
    (hr : evictTail ns cap l used = r) (h : used = (l.map (sizeOf ns)).sum) :
    r.2.1 = (r.1.map (sizeOf ns)).sum ∧ r.2.1 ≤ cap ∧ r.2.2.2 = false := by
  subst hr
  induction l generalizing used with
  | nil => simp [evictTail] at *; omega
  | cons id rest ih =>
    unfold evictTail
    split
    · have := ih (used := used - sizeOf ns id) (by simp at h; omega)
      simpa using this
    · simp at *; omega

end GoLevel.CacheM

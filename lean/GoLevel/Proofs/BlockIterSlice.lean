import GoLevel.Proofs.BlockIterDeg
import GoLevel.Proofs.TableRange
/-!
# `newBlockIter` with a `util.Range`: the sliced iterator refines the cursor over the slice

`sliceBlock` / `sliceIndex` (`Model/Table.lean`) are the pairs a data-block iterator (`inclLimit = false`) / the
index iterator (`inclLimit = true`) is meant to keep.  `newBlockIter` finds the bounds with `Seek` (+ `Next`);
this file shows the fields it sets describe exactly that slice (`Mid`), whatever the restart interval, and that
the iterator then answers every call sequence like the cursor over it.
-/
namespace GoLevel.C13
open GoLevel GoLevel.TableR

variable {b : BlockR} {kvs : List KV} {off : Nat → Nat} {R : Nat} {rs : Nat → Nat}
variable {cmp : Bytes → Bytes → Ordering}

theorem IsSlice.of_drop_take (kvs : List KV) {lo hi : Nat} (h1 : lo ≤ hi) (h2 : hi ≤ kvs.length) :
    IsSlice kvs ((kvs.drop lo).take (hi - lo)) lo hi where
  len := by rw [List.length_take, List.length_drop]; omega
  get := fun i hi' => by
    rw [List.getElem?_take, if_pos hi', List.getElem?_drop]
    exact getElem?_kv (by omega)

theorem Mid.new (L : Layout b kvs off R rs) : Mid kvs off R rs (BIter.new b) 0 kvs.length 0 R :=
  (rel_new L).mid (SliceCfg.whole L)

theorem Mid.finish (L : Layout b kvs off R rs) {it : BIter} {lo hi q0 q1 : Nat}
    (M : Mid kvs off R rs it lo hi q0 q1) : Rel kvs off rs lo hi q0 q1 it.finishSlice .soi := by
  rw [finishSlice_eq (by
    rw [M.cfg.offsetStart, M.cfg.limit]
    exact L.off_le (Nat.le_trans M.slice.q0lo M.slice.lohi) M.slice.hin)]
  exact ⟨M.cfg.dropCache.congr rfl rfl rfl rfl rfl, by show it.dropCache.err = none; simpa using M.err,
    rfl, M.dc⟩

/-- `Seek` while the slice still runs to the end of the block, as `newBlockIter` calls it -/
theorem Mid.seek (L : Layout b kvs off R rs) (hc : LawfulCmp cmp) (hsorted : StrictSorted cmp kvs)
    {it : BIter} {lo q0 q1 : Nat} (M : Mid kvs off R rs it lo kvs.length q0 q1) (key : Bytes) :
    Lands kvs off rs lo kvs.length q0 q1 (BIter.seek cmp b key it)
      (if (kvs.drop lo).findIdx (geK cmp key) < kvs.length - lo then .at ((kvs.drop lo).findIdx (geK cmp key))
       else .eoi) := by
  have X := IsSlice.of_drop_take kvs M.slice.lohi M.slice.hin
  rw [← List.length_drop, List.take_length] at X
  have h := seek_ready L hc hsorted X key M
  rwa [Cursor.seek_eq, ← List.findIdx_eq_getD_findIdx?, IndexedIter.atOr, X.len] at h

/-- the `slice.Start` block: the first key not below `s` exists -/
theorem applyStart_found (L : Layout b kvs off R rs) (hc : LawfulCmp cmp) (hsorted : StrictSorted cmp kvs)
    (s : Bytes) (hlt : kvs.findIdx (geK cmp s) < kvs.length) :
    ∃ q0, Mid kvs off R rs ((BIter.new b).applyStart cmp b s) (kvs.findIdx (geK cmp s))
      kvs.length q0 R := by
  have h := (Mid.new L).seek (cmp := cmp) L hc hsorted s
  simp only [List.drop_zero, Nat.sub_zero, if_pos hlt] at h
  have f := h.fwd_at
  have M := h.rel.mid (SliceCfg.whole L)
  have hok : (BIter.seek cmp b s (BIter.new b)).1 = true := h.ok
  rw [Nat.zero_add] at f
  generalize hlo : kvs.findIdx (geK cmp s) = lo at *
  obtain ⟨q0, hq, hrq, hq0R, hq0lo, hq0nx⟩ := restartIndex_spec L f.rhi (Nat.le_refl R) (by omega : lo ≤ kvs.length) f.rc
  rw [← f.prevOffset, ← L.rlen] at hq
  have hseek : BIter.seek cmp b s (BIter.new b) = (true, (BIter.seek cmp b s (BIter.new b)).2) :=
    Prod.ext hok rfl
  refine ⟨q0, ?_⟩
  unfold BIter.applyStart
  rw [hseek]
  simp only
  rw [hq]
  simp only
  exact
    { M with
      cfg := ⟨rfl, M.cfg.riLimit, L.roff q0 hq0R, f.prevOffset, M.cfg.limit⟩
      slice :=
        { lohi := by omega
          hin := Nat.le_refl _
          q01 := hq0R
          q1R := Nat.le_refl _
          q0lo := hq0lo
          q0max := fun q h1 h2 => by
            have := hq0nx (by omega)
            have := L.rs_le (p := q0 + 1) (q := q) (by omega) h2
            omega
          q1hi := L.rs_le_len (by omega) } }

/-- `Start` beyond every key: the slice starts behind the last restart point, the limit is not applied -/
theorem newBlockIter_missing (L : Layout b kvs off R rs) (hc : LawfulCmp cmp) (hsorted : StrictSorted cmp kvs)
    (s : Bytes) (hlt : ¬ kvs.findIdx (geK cmp s) < kvs.length) (limit : Option Bytes) (incl : Bool) :
    Deg b (newBlockIter cmp b (some ⟨some s, limit⟩) incl) .soi := by
  have h := (Mid.new L).seek (cmp := cmp) L hc hsorted s
  simp only [List.drop_zero, Nat.sub_zero, if_neg hlt] at h
  have M := h.rel.mid (SliceCfg.whole L)
  have hst : (BIter.new b).applyStart cmp b s = { (BIter.seek cmp b s (BIter.new b)).2 with
      riStart := b.restartsLen, offsetStart := b.restartsOffset, offsetRealStart := b.restartsOffset } := by
    unfold BIter.applyStart
    rw [show BIter.seek cmp b s (BIter.new b) = (false, (BIter.seek cmp b s (BIter.new b)).2) from Prod.ext h.ok rfl]
  have hnb : newBlockIter cmp b (some ⟨some s, limit⟩) incl = ((BIter.new b).applyStart cmp b s).finishSlice := by
    unfold newBlockIter
    cases limit with
    | none => rfl
    | some l => simp only [BIter.applyLimit, hst, Nat.lt_irrefl, if_false]
  rw [hnb, hst]
  exact deg_finish rfl (by show (BIter.seek cmp b s (BIter.new b)).2.riLimit = _; rw [M.cfg.riLimit, L.rlen])
    rfl rfl (by show (BIter.seek cmp b s (BIter.new b)).2.offsetLimit = _; rw [M.cfg.limit, L.offN]) M.err

/-- cutting the slice in front of the entry the iterator has landed on:
`bi.offsetLimit = bi.prevOffset; bi.riLimit = bi.restartIndex + 1` -/
theorem Lands.setLimit {r : Bool × BIter} {lo hi q0 q1 i : Nat} (h : Lands kvs off rs lo hi q0 q1 r (.at i))
    (S : SliceCfg kvs R rs lo hi q0 q1) :
    Mid kvs off R rs { r.2 with offsetLimit := r.2.prevOffset, riLimit := r.2.restartIndex + 1 } lo (lo + i) q0
      (r.2.restartIndex + 1) :=
  have f := h.fwd_at
  have M := h.rel.mid S
  { M with
    cfg := ⟨M.cfg.riStart, rfl, M.cfg.offsetStart, M.cfg.real, f.prevOffset⟩
    slice :=
      { lohi := Nat.le_add_right lo i
        hin := Nat.le_trans (Nat.le_of_lt h.rel.pos.1) S.hin
        q01 := Nat.lt_succ_of_le f.rlo
        q1R := Nat.le_trans f.rhi S.q1R
        q0lo := S.q0lo
        q0max := S.q0max
        q1hi := by simpa using f.rc } }

def loOf (cmp : Bytes → Bytes → Ordering) (start : Option Bytes) (kvs : List KV) : Nat :=
  match start with
  | none => 0
  | some s => kvs.findIdx (geK cmp s)

def hiOf (cmp : Bytes → Bytes → Ordering) (limit : Option Bytes) (incl : Bool) (kvs : List KV) (lo : Nat) : Nat :=
  match limit with
  | none => kvs.length
  | some l =>
    if incl then min (lo + (kvs.drop lo).findIdx (geK cmp l) + 1) kvs.length
    else lo + (kvs.drop lo).findIdx (geK cmp l)

/-- the `slice.Limit` block -/
theorem applyLimit_mid (L : Layout b kvs off R rs) (hc : LawfulCmp cmp) (hsorted : StrictSorted cmp kvs)
    {it : BIter} {lo q0 : Nat} (M : Mid kvs off R rs it lo kvs.length q0 R) (l : Bytes) (incl : Bool) :
    ∃ q1, Mid kvs off R rs (it.applyLimit cmp b l incl) lo (hiOf cmp (some l) incl kvs lo) q0 q1 := by
  have hlen : (kvs.drop lo).length = kvs.length - lo := List.length_drop
  have htle := List.findIdx_le_length (p := geK cmp l) (xs := kvs.drop lo)
  have hlohi := M.slice.lohi
  have h := M.seek (cmp := cmp) L hc hsorted l
  simp only [hiOf]
  generalize (kvs.drop lo).findIdx (geK cmp l) = t at *
  have hri : it.riStart < b.restartsLen := by
    rw [M.cfg.riStart, L.rlen]; exact M.slice.q01
  unfold BIter.applyLimit
  rw [if_pos hri]
  generalize BIter.seek cmp b l it = r at h ⊢
  obtain ⟨ok, it2⟩ := r
  by_cases hlt : t < kvs.length - lo
  · rw [if_pos hlt] at h
    cases (h.ok : ok = true)
    cases incl with
    | false =>
      simp only [Bool.not_false, Bool.false_eq_true, if_false, if_true]
      exact ⟨_, h.setLimit M.slice⟩
    | true =>
      -- `bi.Next()`
      simp only [Bool.not_true, Bool.false_eq_true, if_false]
      have hnext := rel_next L M.slice _ hlen h.rel
      simp only [Cursor.next, hlen] at hnext
      generalize BIter.next b it2 = r at hnext ⊢
      obtain ⟨ok, it3⟩ := r
      by_cases hnx : t + 1 < kvs.length - lo
      · rw [if_pos hnx] at hnext
        cases (hnext.ok : ok = true)
        rw [if_pos trivial, show min (lo + t + 1) kvs.length = lo + (t + 1) by omega]
        exact ⟨_, hnext.setLimit M.slice⟩
      · rw [if_neg hnx] at hnext
        cases (hnext.ok : ok = false)
        rw [if_pos trivial, show min (lo + t + 1) kvs.length = kvs.length by omega]
        exact ⟨R, hnext.rel.mid M.slice⟩
  · rw [if_neg hlt] at h
    cases (h.ok : ok = false)
    rw [show (if incl then min (lo + t + 1) kvs.length else lo + t) = kvs.length by split <;> omega]
    exact ⟨R, h.rel.mid M.slice⟩

/-- what a `blockIter` sliced with `(start, limit)` is meant to keep (data block: `inclLimit = false`; index
block: `inclLimit = true`) -/
def sliceOf (cmp : Bytes → Bytes → Ordering) (sl : BRange) (incl : Bool) (kvs : List KV) : List KV :=
  if incl then sliceIndex cmp sl.start sl.limit kvs else sliceBlock cmp sl.start sl.limit kvs

theorem sliceOf_eq (sl : BRange) (incl : Bool) (kvs : List KV) :
    sliceOf cmp sl incl kvs =
      (kvs.drop (loOf cmp sl.start kvs)).take
        (hiOf cmp sl.limit incl kvs (loOf cmp sl.start kvs) - loOf cmp sl.start kvs) := by
  obtain ⟨start, limit⟩ := sl
  have hs : kvs.dropWhile (belowStart cmp start) = kvs.drop (loOf cmp start kvs) := by
    cases start with
    | none => exact dropWhile_false kvs
    | some s => exact List.dropWhile_eq_drop_findIdx_not
  simp only [sliceOf, sliceBlock_eq, sliceIndex_eq, hs]
  generalize loOf cmp start kvs = lo
  have hlen : (kvs.drop lo).length = kvs.length - lo := List.length_drop
  cases limit with
  | none =>
    rw [show hiOf cmp none incl kvs lo - lo = (kvs.drop lo).length from hlen.symm, List.take_length]
    cases incl <;> simp [belowLimit, takeWhile_true, dropWhile_true]
  | some l =>
    have htw : (kvs.drop lo).takeWhile (belowLimit cmp (some l)) =
        (kvs.drop lo).take ((kvs.drop lo).findIdx (geK cmp l)) := List.takeWhile_eq_take_findIdx_not
    have hdw : (kvs.drop lo).dropWhile (belowLimit cmp (some l)) =
        (kvs.drop lo).drop ((kvs.drop lo).findIdx (geK cmp l)) := List.dropWhile_eq_drop_findIdx_not
    rw [htw, hdw, ← List.take_add]
    cases incl with
    | false => simp only [hiOf, Bool.false_eq_true, if_false, Nat.add_sub_cancel_left]
    | true =>
      simp only [hiOf, if_true]
      exact List.take_eq_take_iff.2 (by omega)

theorem Mid.run (L : Layout b kvs off R rs) (hc : LawfulCmp cmp) (hsorted : StrictSorted cmp kvs)
    {it : BIter} {lo q0 : Nat} (M : Mid kvs off R rs it lo kvs.length q0 R) (limit : Option Bytes) (incl : Bool)
    (cs : List (Call Bytes)) :
    BIter.run cmp b (match limit with
        | none => it
        | some l => it.applyLimit cmp b l incl).finishSlice cs =
      ((Cursor.run ((kvs.drop lo).take (hiOf cmp limit incl kvs lo - lo)) (geK cmp) .soi cs).map
        fun o => (o.isSome, o)) ∧
    (BIter.exec cmp b (match limit with
        | none => it
        | some l => it.applyLimit cmp b l incl).finishSlice cs).err = none := by
  cases limit with
  | none => exact rel_run L hc hsorted M.slice (IsSlice.of_drop_take kvs M.slice.lohi M.slice.hin) cs (M.finish L)
  | some l =>
    obtain ⟨q1, M2⟩ := applyLimit_mid (cmp := cmp) L hc hsorted M l incl
    exact rel_run L hc hsorted M2.slice (IsSlice.of_drop_take kvs M2.slice.lohi M2.slice.hin) cs (M2.finish L)

theorem run_slice (L : Layout b kvs off R rs) (hc : LawfulCmp cmp) (hsorted : StrictSorted cmp kvs)
    (sl : BRange) (incl : Bool) (cs : List (Call Bytes)) :
    BIter.run cmp b (newBlockIter cmp b (some sl) incl) cs =
      ((Cursor.run (sliceOf cmp sl incl kvs) (geK cmp) .soi cs).map fun o => (o.isSome, o)) ∧
    (BIter.exec cmp b (newBlockIter cmp b (some sl) incl) cs).err = none := by
  obtain ⟨start, limit⟩ := sl
  rw [sliceOf_eq]
  cases start with
  | none => exact (Mid.new L).run L hc hsorted limit incl cs
  | some s =>
    by_cases hlt : kvs.findIdx (geK cmp s) < kvs.length
    · obtain ⟨q0, M⟩ := applyStart_found (cmp := cmp) L hc hsorted s hlt
      exact M.run L hc hsorted limit incl cs
    · have hlo : loOf cmp (some s) kvs = kvs.length := by
        have := List.findIdx_le_length (p := geK cmp s) (xs := kvs)
        simp only [loOf]; omega
      rw [hlo, List.drop_length, List.take_nil]
      exact deg_run cs (newBlockIter_missing L hc hsorted s hlt limit incl)

end GoLevel.C13

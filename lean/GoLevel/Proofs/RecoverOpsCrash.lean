import GoLevel.Proofs.RecoverOpsOpen
/-!
Every crash image of phases 1 and 2 of `Recover` (`recoverTable`): `CURRENT` leads to the old, unreadable situation
or to the manifest `Recover` wrote with its one record complete (`MGood`), so an `Open` that succeeds is complete.
-/
namespace GoLevel.Dur
open GoLevel

/-- the manifest `CURRENT` names on `r0` — if there is one — does not pass `session.recover` (lost, truncated,
    garbled: the situation `Recover` is for) -/
def OldUnreadable (dcfg : Cfg) (r0 : RDisk) : Prop :=
  ∀ c mf, r0.disk.current = some c → lookup r0.disk.manifests c = some mf → (replayM dcfg mf.all).view? = none

/-- where `CURRENT` can lead on a crash image of `recoverTable`: to the manifest `m` that `Recover` wrote, its one
    record complete, or to a manifest that does not pass `session.recover` -/
def MGood (dcfg : Cfg) (m : Nat) (snap : MRec) (d : Disk) : Prop :=
  ∀ mf, curManifest d = some mf → (d.current = some m ∧ mf.all = [snap]) ∨ (replayM dcfg mf.all).view? = none

theorem rebuild_empty (cfg : RCfg) {r0 : RDisk} (ht : r0.disk.tables = []) (hj : r0.disk.journals = []) :
    (rebuild (scanIn cfg r0)).entries = [] ∧ (rebuild (scanIn cfg r0)).seq = 0 := by
  simp [rebuild, scanIn, tableNums, journalNums, ht, hj, Files.nums, sortNums, Rebuilt.entries, maxSeqOf, replayJ]

variable {dcfg : Cfg} {cfg : RCfg} {r0 r r' : RDisk}

/-- **an `Open` that succeeds on such a storage is complete**, and — unless there is no table and no journal
    at all — it has run on the manifest `Recover` wrote -/
theorem open_of_mgood (dcfg : Cfg) {cfg : RCfg} {r0 r : RDisk} (hT : TSame cfg r0 r)
    (hG : MGood dcfg (manifestNum r0) (recoverRec (manifestNum r0) (tablePhase cfg r0).2) r.disk)
    {rs : RState} (hopen : recoverR dcfg r.disk = .ok rs) :
    rs.entries = (rebuild (scanIn cfg r0)).entries ∧ rs.seq = (rebuild (scanIn cfg r0)).seq ∧
    ((r0.disk.tables ≠ [] ∨ r0.disk.journals ≠ []) →
      r.disk.current = some (manifestNum r0) ∧
      ∃ mf, lookup r.disk.manifests (manifestNum r0) = some mf ∧
        mf.all = [recoverRec (manifestNum r0) (tablePhase cfg r0).2] ∧
        rs.mv.live = (tablePhase cfg r0).2.added) := by
  cases hcm : curManifest r.disk with
  | none =>
    -- no manifest to read: `Open` refuses unless the storage is empty
    rw [recoverR_no_manifest dcfg hcm] at hopen
    by_cases ha : refusesNoEntry dcfg r.disk = true
    · rw [if_pos ha] at hopen; cases hopen
    · rw [if_neg ha] at hopen
      have hrs : rs = freshRState := by cases hopen; rfl
      have ha' : r.disk.tables = [] ∧ r.disk.journals = [] := refusesNoEntry_false ha
      have ht0 : r0.disk.tables = [] := by
        have := hT.nums
        rw [ha'.1] at this
        have h2 : r0.disk.tables.map (·.1) = [] := this.symm
        exact List.map_eq_nil_iff.1 h2
      have hj0 : r0.disk.journals = [] := by rw [← hT.journals]; exact ha'.2
      obtain ⟨e1, e2⟩ := rebuild_empty cfg ht0 hj0
      subst hrs
      exact ⟨by rw [e1]; rfl, by rw [e2]; rfl, fun h => (h.elim (· ht0) (· hj0)).elim⟩
  | some mf =>
    rcases hG mf hcm with ⟨hcur, hall⟩ | hv
    · have hm : lookup r.disk.manifests (manifestNum r0) = some mf := by rw [curManifest, hcur] at hcm; exact hcm
      obtain ⟨rs', h1, h2, h3, h4⟩ := open_on_recover_manifest dcfg hT hcur hm hall
      rw [h1] at hopen
      have : rs' = rs := by cases hopen; rfl
      subst this
      exact ⟨h2, h3, fun _ => ⟨hcur, mf, hm, hall, by rw [h4]⟩⟩
    · rw [recoverR_unreadable dcfg hcm hv] at hopen; cases hopen

theorem rcrash_manifest_lookup (ch : RCrash) (r : RDisk) (c : Nat) :
    lookup (rcrash ch r).disk.manifests c =
      (lookup r.disk.manifests c).map (crashManifest (ch.base.cutM c) (ch.base.tornM c)) := by
  show lookup (r.disk.manifests.map fun p => (p.1, crashManifest (ch.base.cutM p.1) (ch.base.tornM p.1) p.2)) c = _
  exact lookup_map_snd r.disk.manifests (fun n f => crashManifest (ch.base.cutM n) (ch.base.tornM n) f) c

theorem rcrash_current (ch : RCrash) (r : RDisk) : (rcrash ch r).disk.current = r.disk.current := rfl

theorem view_nil (dcfg : Cfg) : (replayM dcfg []).view? = none := by simp [replayM, MAcc.view?]

theorem view_torn (dcfg : Cfg) (hc : dcfg.failedRecordLeavesNoTrace = true) (r : MRec) :
    (replayM dcfg [{ r with torn := true }]).view? = none := by
  simp [replayM, MAcc.step, hc, MAcc.view?]

theorem crashManifest_one (k : Nat) (torn : Bool) (snap : MRec) :
    (crashManifest k torn ⟨[], [snap]⟩).all = [] ∨ (crashManifest k torn ⟨[], [snap]⟩).all = [snap] ∨
    (crashManifest k torn ⟨[], [snap]⟩).all = [{ snap with torn := true }] := by
  cases k with
  | zero => cases torn <;> simp [crashManifest, crashLog, LogFile.all]
  | succ k => cases torn <;> simp [crashManifest, crashLog, LogFile.all]

theorem rcrash_manifest_same (hd : r0.durable) (ch : RCrash) {c : Nat}
    (h : lookup r.disk.manifests c = lookup r0.disk.manifests c) :
    lookup (rcrash ch r).disk.manifests c = lookup r0.disk.manifests c := by
  rw [rcrash_manifest_lookup, h]
  cases h' : lookup r0.disk.manifests c with
  | none => rfl
  | some mf =>
    simp only [Option.map_some]
    rw [crashManifest_durable _ _ _ (hd.1 _ (lookup_some_mem h'))]

theorem MGood.of_msame (hd : r0.durable) (hold : OldUnreadable dcfg r0)
    (hM : MSame r0 r) (ch : RCrash) (m : Nat) (snap : MRec) : MGood dcfg m snap (rcrash ch r).disk := by
  intro mf hcm
  obtain ⟨c, hc, hm⟩ := curManifest_some hcm
  rw [rcrash_current, hM.1] at hc
  rw [rcrash_manifest_same hd ch (by rw [hM.2])] at hm
  exact Or.inr (hold c mf hc hm)

/-- `r'` is `r`, whose manifests `Recover` has not touched yet, with manifest `m` in one of the three states
    `newManifest` takes it through -/
theorem MGood.of_new (hc : dcfg.failedRecordLeavesNoTrace = true) (hd : r0.durable) (hold : OldUnreadable dcfg r0)
    (hM : MSame r0 r) {m : Nat} {snap : MRec} (ch : RCrash) {f : LogFile MRec}
    (hf : f = {} ∨ f = ⟨[], [snap]⟩ ∨ f = ⟨[snap], []⟩)
    (hcur : r'.disk.current = r.disk.current ∨ r'.disk.current = some m)
    (hl : ∀ c, lookup r'.disk.manifests c = if c = m then some f else lookup r.disk.manifests c) :
    MGood dcfg m snap (rcrash ch r').disk := by
  intro mf hcm
  obtain ⟨c, hcc, hm⟩ := curManifest_some hcm
  by_cases hcm' : c = m
  · subst hcm'
    rw [rcrash_manifest_lookup, hl, if_pos rfl, Option.map_some, Option.some.injEq] at hm
    subst hm
    rcases hf with rfl | rfl | rfl
    · right
      rw [crashManifest_durable _ _ _ rfl]
      exact view_nil dcfg
    · rcases crashManifest_one (ch.base.cutM c) (ch.base.tornM c) snap with e | e | e
      · right; rw [e]; exact view_nil dcfg
      · exact Or.inl ⟨hcc, e⟩
      · right; rw [e]; exact view_torn dcfg hc snap
    · left
      rw [crashManifest_durable _ _ _ rfl]
      exact ⟨hcc, rfl⟩
  · -- `CURRENT` still names the old manifest
    rw [rcrash_manifest_same hd ch (by rw [hl, if_neg hcm', hM.2])] at hm
    rw [rcrash_current] at hcc
    refine Or.inr (hold c mf ?_ hm)
    rw [← hM.1, ← hcc]
    exact (hcur.resolve_right fun h => hcm' (Option.some.inj (hcc.symm.trans h))).symm

theorem manifestOps_quiet (cfg : RCfg) (m : Nat) (a : TAcc) : ∀ op ∈ manifestOps cfg m a, op.quiet = true :=
  List.all_eq_true.1 (by unfold manifestOps; split <;> rfl)

/-- a prefix of `recoverTable`'s operations ends in phase 2 (at its start, if it ends in phase 1), which begins on a
    storage that a `Recover` reads as it read `r0` and whose manifests are untouched -/
theorem recoverTable_split (hd : r0.durable) (h : Reach (recoverTableOps cfg r0) r0 r') :
    ∃ r, (TSame cfg r0 r ∧ MSame r0 r) ∧ Reach (manifestOps cfg (manifestNum r0) (tablePhase cfg r0).2) r r' := by
  rcases reach_append_iff.1 h with h | h
  · exact ⟨r', tableLoop_reach cfg r0 _ _ _ _ (TSame.refl cfg hd) ⟨rfl, rfl⟩ h, reach_refl _ _⟩
  · exact ⟨_, tableLoop_reach cfg r0 _ _ _ _ (TSame.refl cfg hd) ⟨rfl, rfl⟩ (reach_all _ r0), h⟩

theorem recoverTable_reach_tsame (hd : r0.durable) (h : Reach (recoverTableOps cfg r0) r0 r') : TSame cfg r0 r' := by
  obtain ⟨r, ⟨hT, _⟩, h⟩ := recoverTable_split hd h
  exact reach_preserve (I := TSame cfg r0) (fun op hop r h => h.quiet (manifestOps_quiet _ _ _ op hop)) hT h

/-- between two operations of `newManifest` (`Create`, the record, `Sync`, `SetMeta`): manifest `m` is new, empty or
    with the one record, the other manifests are as they were; `CURRENT` is the old one or names `m` -/
theorem newManifest_reach {m : Nat} {x : MRec}
    (h : Reach [.base (.create .manifest m), .base (.writeM m x), .base (.sync .manifest m), .base (.setMeta m)]
      r r') :
    r' = r ∨ ∃ f, (f = {} ∨ f = ⟨[], [x]⟩ ∨ f = ⟨[x], []⟩) ∧
      (r'.disk.current = r.disk.current ∨ r'.disk.current = some m) ∧
      ∀ c, lookup r'.disk.manifests c = if c = m then some f else lookup r.disk.manifests c := by
  have e1 : ∀ c, lookup (r.disk.manifests.set m {}) c = if c = m then some {} else lookup r.disk.manifests c :=
    fun c => lookup_set _ _ _ _
  have e2 : ∀ c, lookup ((r.disk.manifests.set m {}).modify m (·.append x)) c =
      if c = m then some ⟨[], [x]⟩ else lookup r.disk.manifests c :=
    fun c => by rw [lookup_modify, e1]; split <;> rfl
  have e3 : ∀ c, lookup (((r.disk.manifests.set m {}).modify m (·.append x)).modify m (·.sync)) c =
      if c = m then some ⟨[x], []⟩ else lookup r.disk.manifests c :=
    fun c => by rw [lookup_modify, e2]; split <;> rfl
  simp only [reach_cons_iff, reach_nil_iff] at h
  rcases h with rfl | rfl | rfl | rfl | rfl
  · exact Or.inl rfl
  · exact Or.inr ⟨_, Or.inl rfl, Or.inl rfl, e1⟩
  · exact Or.inr ⟨_, Or.inr (Or.inl rfl), Or.inl rfl, e2⟩
  · exact Or.inr ⟨_, Or.inr (Or.inr rfl), Or.inl rfl, e3⟩
  · exact Or.inr ⟨_, Or.inr (Or.inr rfl), Or.inr rfl, e3⟩

/-- **phase 2**: every crash image of `newManifest` (the code since 170f82e) -/
theorem manifest_reach (hc : dcfg.failedRecordLeavesNoTrace = true)
    (hcfg : cfg.createsEmptyManifestFirst = false) (hd : r0.durable)
    (hold : OldUnreadable dcfg r0) (hM : MSame r0 r) (m : Nat) (a : TAcc)
    (h : Reach (manifestOps cfg m a) r r') (ch : RCrash) :
    MGood dcfg m (recoverRec m a) (rcrash ch r').disk := by
  unfold manifestOps at h
  rw [hcfg] at h
  rcases newManifest_reach h with rfl | ⟨f, hf, hcur, hl⟩
  · exact MGood.of_msame hd hold hM ch m _
  · exact MGood.of_new hc hd hold hM ch hf hcur hl

/-- **phases 1 and 2**: every crash image of `recoverTable` -/
theorem recoverTable_reach {dcfg : Cfg} (hc : dcfg.failedRecordLeavesNoTrace = true) {cfg : RCfg}
    (hcfg : cfg.createsEmptyManifestFirst = false) {r0 r' : RDisk} (hd : r0.durable)
    (hold : OldUnreadable dcfg r0) (h : Reach (recoverTableOps cfg r0) r0 r') (ch : RCrash) :
    TSame cfg r0 (rcrash ch r') ∧
    MGood dcfg (manifestNum r0) (recoverRec (manifestNum r0) (tablePhase cfg r0).2) (rcrash ch r').disk := by
  obtain ⟨r, ⟨_, hM⟩, h2⟩ := recoverTable_split hd h
  exact ⟨(recoverTable_reach_tsame hd h).crash hd ch, manifest_reach hc hcfg hd hold hM _ _ h2 ch⟩

theorem recoverTable_done {cfg : RCfg} (hcfg : cfg.createsEmptyManifestFirst = false) {r0 : RDisk}
    (hd : r0.durable) :
    let r2 := r0.applyAll (recoverTableOps cfg r0)
    TSame cfg r0 r2 ∧ r2.disk.current = some (manifestNum r0) ∧
    ∃ mf, lookup r2.disk.manifests (manifestNum r0) = some mf ∧
      mf.all = [recoverRec (manifestNum r0) (tablePhase cfg r0).2] := by
  intro r2
  refine ⟨recoverTable_reach_tsame hd (reach_all _ r0), ?_⟩
  have e : r2 = (r0.applyAll (tablePhase cfg r0).1).applyAll
      (manifestOps cfg (manifestNum r0) (tablePhase cfg r0).2) := by
    show r0.applyAll (recoverTableOps cfg r0) = _
    unfold recoverTableOps
    exact applyAll_append _ _ _
  rw [e]
  unfold manifestOps
  rw [hcfg]
  simp only [Bool.false_eq_true, if_false]
  generalize r0.applyAll (tablePhase cfg r0).1 = r1
  refine ⟨rfl, ⟨[recoverRec (manifestNum r0) (tablePhase cfg r0).2], []⟩, ?_, rfl⟩
  show lookup (((r1.disk.manifests.set _ {}).modify _ (·.append _)).modify _ (·.sync)) _ = _
  rw [lookup_modify, if_pos rfl, lookup_modify, if_pos rfl, lookup_set, if_pos rfl]
  rfl

end GoLevel.Dur

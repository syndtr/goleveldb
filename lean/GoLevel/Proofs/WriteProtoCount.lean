import GoLevel.Model.WriteProto
import GoLevel.Proofs.ListSum
import GoLevel.Proofs.Order
/-! Sums over the thread list, what holds of every thread after a step has rewritten one record (`List.set`) or the
two ends of a rendezvous (`set2`), and the counting invariant `CInv`. -/
namespace GoLevel.WP

theorem tot_cons (f : Pc → Nat) (x : Thread) (xs : List Thread) : tot f (x :: xs) = f x.pc + tot f xs := by
  simp [tot]

theorem tot_set (f : Pc → Nat) (ws : List Thread) (i : Nat) (old new : Thread) (h : ws[i]? = some old) :
    tot f (ws.set i new) + f old.pc = tot f ws + f new.pc := sum_map_set (fun t : Thread => f t.pc) h new

theorem ne_of_pc_ne {ws : List Thread} {i j : Nat} {w l : Thread} (hi : ws[i]? = some w) (hj : ws[j]? = some l)
    (h : w.pc ≠ l.pc) : i ≠ j := by
  intro e; subst e; rw [hi] at hj; cases hj; exact h rfl

theorem get_set_ne (ws : List Thread) (i j : Nat) (a wi wj : Thread) (hi : ws[i]? = some wi)
    (hj : ws[j]? = some wj) (hne : wi.pc ≠ wj.pc) : (ws.set j a)[i]? = some wi := by
  rw [List.getElem?_set_ne (Ne.symm (ne_of_pc_ne hi hj hne))]; exact hi

theorem tot_set2 (f : Pc → Nat) (ws : List Thread) (i j : Nat) (wi wj ni nj : Thread) (hi : ws[i]? = some wi)
    (hj : ws[j]? = some wj) (hne : wi.pc ≠ wj.pc) :
    tot f (set2 ws j nj i ni) + f wi.pc + f wj.pc = tot f ws + f ni.pc + f nj.pc := by
  have a := tot_set f ws j wj nj hj
  have b := tot_set f (ws.set j nj) i wi ni (get_set_ne ws i j nj wi wj hi hj hne)
  unfold set2
  omega

theorem le_tot_of_mem (f : Pc → Nat) (ws : List Thread) (i : Nat) (w : Thread) (h : ws[i]? = some w) :
    f w.pc ≤ tot f ws := le_sum_map (fun t : Thread => f t.pc) h

theorem exists_of_tot_pos (f : Pc → Nat) (ws : List Thread) (h : 0 < tot f ws) :
    ∃ (i : Nat) (w : Thread), ws[i]? = some w ∧ 0 < f w.pc := exists_of_sum_map_pos (fun t : Thread => f t.pc) h

theorem exists_of_balance {f g : Pc → Nat} {ws : List Thread} (h : tot f ws = tot g ws) {j : Nat} {l : Thread}
    (hj : ws[j]? = some l) (hp : 0 < g l.pc) : ∃ (i : Nat) (w : Thread), ws[i]? = some w ∧ 0 < f w.pc := by
  have := le_tot_of_mem g ws j l hj
  exact exists_of_tot_pos f ws (by omega)

theorem tot_idle (f : Pc → Nat) (ws : List Thread) (h : ∀ w ∈ ws, w.pc = .idle) : tot f ws = f .idle * ws.length := by
  rw [tot, List.map_congr_left fun w hw => congrArg f (h w hw), List.map_const', List.sum_replicate_nat, Nat.mul_comm]

theorem unique_of_tot_le_one (f : Pc → Nat) (ws : List Thread) (h : tot f ws ≤ 1) (hz : f .idle = 0) (i j : Nat)
    (a b : Thread) (hi : ws[i]? = some a) (hj : ws[j]? = some b) (ha : 0 < f a.pc) (hb : 0 < f b.pc) : i = j := by
  false_or_by_contra
  rename_i hij
  -- put an idle thread (weight `0`) in both places and compare the sums
  have h1 := tot_set f ws i a {} hi
  have h2 := tot_set f (ws.set i {}) j b {} (by rw [List.getElem?_set_ne hij]; exact hj)
  have : f ({} : Thread).pc = 0 := hz
  omega

theorem forall_set {P : Nat → Thread → Prop} {ws : List Thread} {k : Nat} {v : Thread}
    (hv : P k v) (ho : ∀ (a : Nat) (x : Thread), a ≠ k → ws[a]? = some x → P a x) :
    ∀ (a : Nat) (x : Thread), (ws.set k v)[a]? = some x → P a x := by
  intro a x h
  rcases getElem?_set_cases h with ⟨rfl, rfl⟩ | ⟨hne, h'⟩
  · exact hv
  · exact ho a x (Ne.symm hne) h'

theorem forall_set2 {P : Nat → Thread → Prop} {ws : List Thread} {i j : Nat} {l' w' : Thread}
    (hl : P j l') (hw : P i w') (ho : ∀ (a : Nat) (x : Thread), a ≠ i → a ≠ j → ws[a]? = some x → P a x) :
    ∀ (a : Nat) (x : Thread), (set2 ws j l' i w')[a]? = some x → P a x :=
  forall_set hw fun a x hai hx =>
    forall_set (P := fun a x => a ≠ i → P a x) (fun _ => hl) (fun a x haj hx hai => ho a x hai haj hx) a x hx hai

theorem get_set2_left {ws : List Thread} {i j : Nat} {w l' w' : Thread} (hi : ws[i]? = some w) :
    (set2 ws j l' i w')[i]? = some w' := by
  unfold set2
  rw [List.getElem?_set_self]
  rw [List.length_set]; exact (List.getElem?_eq_some_iff.mp hi).1

theorem get_set2_right {ws : List Thread} {i j : Nat} {l l' w' : Thread} (hj : ws[j]? = some l) (hij : i ≠ j) :
    (set2 ws j l' i w')[j]? = some l' := by
  unfold set2
  rw [List.getElem?_set_ne hij, List.getElem?_set_self (List.getElem?_eq_some_iff.mp hj).1]

theorem inv_set {P : Nat → Thread → Prop} {ws : List Thread} (inv : ∀ (a : Nat) (x : Thread), ws[a]? = some x → P a x)
    {k : Nat} {old v : Thread} (hk : ws[k]? = some old) (hv : P k old → P k v) :
    ∀ (a : Nat) (x : Thread), (ws.set k v)[a]? = some x → P a x :=
  forall_set (hv (inv k old hk)) fun a x _ hx => inv a x hx

theorem inv_set2 {P : Nat → Thread → Prop} {ws : List Thread} (inv : ∀ (a : Nat) (x : Thread), ws[a]? = some x → P a x)
    {i j : Nat} {w l w' l' : Thread} (hj : ws[j]? = some l) (hi : ws[i]? = some w) (hl : P j l → P j l')
    (hw : P i w → P i w') : ∀ (a : Nat) (x : Thread), (set2 ws j l' i w')[a]? = some x → P a x :=
  forall_set2 (hl (inv j l hj)) (hw (inv i w hi)) fun a x _ _ hx => inv a x hx

theorem rel_set2 {R : Thread → Thread → Prop} (hr : ∀ x, R x x) {ws : List Thread} {j k : Nat} {l w l' w' : Thread}
    (hj : ws[j]? = some l) (hk : ws[k]? = some w) (hl : R l l') (hw : R w w') {i : Nat} {x : Thread}
    (hi : ws[i]? = some x) : ∃ x', (set2 ws j l' k w')[i]? = some x' ∧ R x x' := by
  obtain ⟨y, hy, ky⟩ := rel_set hr hj hl hi
  by_cases e : k = i
  · subst e
    refine ⟨w', get_set2_left hk, ?_⟩
    rw [hk] at hi; cases hi; exact hw
  · exact ⟨y, by unfold set2; rw [List.getElem?_set_ne e]; exact hy, ky⟩

theorem moved {ws : List Thread} {k j : Nat} {v l l' : Thread} (hj : ws[j]? = some l)
    (hj' : (ws.set k v)[j]? = some l') (hne : l'.pc ≠ l.pc) : k = j ∧ l' = v := by
  rcases getElem?_set_cases hj' with h | ⟨_, h⟩
  · exact h
  · rw [hj] at h; cases h; exact absurd rfl hne

theorem moved2 {ws : List Thread} {i k j : Nat} {v u l l' : Thread} (hj : ws[j]? = some l)
    (hj' : (set2 ws k v i u)[j]? = some l') (hne : l'.pc ≠ l.pc) : (i = j ∧ l' = u) ∨ (k = j ∧ l' = v) := by
  rcases getElem?_set_cases hj' with h | ⟨_, h⟩
  · exact .inl h
  · exact .inr (moved hj h hne)

@[simp] theorem setPc_pc (w : Thread) (p : Pc) : (w.setPc p).pc = p := rfl
@[simp] theorem asLeader_pc (w : Thread) : w.asLeader.pc = .lead .flush 0 false := rfl
@[simp] theorem unlock_pc (l : Thread) (m : Nat) (o : Bool) (r : Res) :
    (l.unlock m o r).pc = .lead (.acking m r) m o := rfl
@[simp] theorem grouped_pc (l : Thread) (seq m : Nat) (o : Bool) : (l.grouped seq m o).pc = .lead .journal m o := rfl

theorem accept_frame (c : Cfg) (l : Thread) (i : Nat) (w : Thread) (st : List Rec) :
    let l' := l.accept c i w st
    l'.acc = l.acc ∧ l'.kind = l.kind ∧ l'.gres = l.gres ∧ l'.jout = l.jout ∧ l'.pub = l.pub ∧ l'.recs = l.recs ∧
      l'.sync = l.sync ∧ l'.put = l.put ∧ l'.size = l.size ∧ l'.merge = l.merge :=
  ⟨rfl, rfl, rfl, rfl, rfl, rfl, rfl, rfl, rfl, rfl⟩

@[simp] theorem accept_pc (c : Cfg) (l : Thread) (i : Nat) (w : Thread) (st : List Rec) :
    (l.accept c i w st).pc = l.pc := rfl

theorem Steps.keeps {P : St → Prop} (hs : ∀ s t, Step s t → P s → P t) {s t : St} (h : Steps s t) (h0 : P s) : P t := by
  induction h with
  | refl => exact h0
  | tail _ h ih => exact hs _ _ h ih

theorem Reachable.keeps {P : St → Prop} (h0 : ∀ s, Init s → P s) (hs : ∀ s t, Step s t → P s → P t) {s : St}
    (h : Reachable s) : P s :=
  have ⟨s0, hi, hr⟩ := h
  hr.keeps hs (h0 s0 hi)

structure CInv (s : St) : Prop where
  holders : tot holds s.ws = (if s.token then 1 else 0)
  acks : tot isWA s.ws = tot owed s.ws
  replies : tot isWM s.ws = tot pendReply s.ws
  /-- `unlockWrite` answers the overflowed writer whatever the result (constant along a run) -/
  cfgH : s.cfg.handoffOnErr = true

end GoLevel.WP

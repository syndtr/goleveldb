import GoLevel.Proofs.IterErrBasic
import GoLevel.Proofs.Cursor
/-!
# The strict `EIndexed` over failing blocks is a `FailSim` (C02 / C08)

Twin: the error-free `IndexedIter` over the same blocks (`EIndexed.proj`).  While `Error()` is nil the data
iterator is healthy and every method did what the error-free one does; a data iterator that fails sets
`i.err` in the same call (`dataErr`, strict).
-/
namespace GoLevel
namespace EIndexed

/-- a block without its failure plan: the child of the error-free twin -/
def toIdx (ch : EIdxChild) : IdxChild := ⟨ch.sep, ch.es⟩

def proj (x : EIndexed) : IndexedIter := ⟨x.children.map toIdx, x.ipos, x.data.map (·.inner)⟩

def Healthy (x : EIndexed) : Prop := x.err = none ∧ x.strict = true ∧ ∀ a, x.data = some a → a.err = none

theorem proj_indexOk (x : EIndexed) : (proj x).indexOk = x.indexOk := by
  simp [proj, IndexedIter.indexOk, indexOk, Cursor.get_map]

theorem proj_setData (x : EIndexed) : proj x.setData = (proj x).setData := by
  simp only [proj, setData, IndexedIter.setData, Cursor.get_map, Option.map_map]
  congr 1

theorem proj_clearData (x : EIndexed) : proj x.clearData = (proj x).clearData := rfl

theorem healthy_setData (x : EIndexed) (h : Healthy x) : Healthy x.setData := by
  refine ⟨h.1, h.2.1, ?_⟩
  intro a ha
  simp only [setData] at ha
  cases hg : Cursor.get x.children x.ipos with
  | none => rw [hg] at ha; cases ha
  | some ch => rw [hg] at ha; cases ha; rfl

theorem healthy_clearData (x : EIndexed) (h : Healthy x) : Healthy x.clearData :=
  ⟨h.1, h.2.1, fun a ha => by cases ha⟩

theorem healthy_ipos (x : EIndexed) (p : Pos) (h : Healthy x) : Healthy { x with ipos := p } := h

theorem proj_ipos (x : EIndexed) (p : Pos) : proj { x with ipos := p } = { proj x with ipos := p } := rfl

/-- what every piece `k` of a method does on a healthy state, against its error-free twin `k'`: the result is
healthy and is the twin's, or `i.err` is set and there is nothing under the cursor (`indexedIterator.Valid()` does
not consult `i.err`, but `dataErr` is only asked after a data movement that returned `false`) -/
def Couple (c : UCmp) (k : EIndexed → EIndexed) (k' : IndexedIter → IndexedIter) : Prop :=
  ∀ y : EIndexed, Healthy y →
    (Healthy (k y) ∧ proj (k y) = k' (proj y)) ∨ ((k y).err ≠ none ∧ cur c (k y) = none)

theorem Couple.id (c : UCmp) : Couple c (fun y => y) (fun z => z) := fun _ h => .inl ⟨h, rfl⟩

theorem Couple.clearData (c : UCmp) : Couple c EIndexed.clearData IndexedIter.clearData :=
  fun y h => .inl ⟨healthy_clearData y h, rfl⟩

/-- with a data iterator: move it with `cl`; on `false` consult `dataErr`, stop on an error it keeps, else clear
the data iterator and go on with `k`.  Without one: `kn`. -/
def onData (c : UCmp) (cl : Call IKey) (k kn : EIndexed → EIndexed) (x : EIndexed) : EIndexed :=
  match x.data with
  | some a =>
    let a' := (dops c).toIterOps.step cl a
    if (dops c).ok a' then { x with data := some a' }
    else if (dataErr { x with data := some a' }).2 then (dataErr { x with data := some a' }).1
    else k (dataErr { x with data := some a' }).1.clearData
  | none => kn x

def onData' (c : UCmp) (cl : Call IKey) (k' kn' : IndexedIter → IndexedIter) (z : IndexedIter) : IndexedIter :=
  match z.data with
  | some a =>
    let a' := (ArrIter.ops c).step cl a
    if (ArrIter.ops c).ok a' then { z with data := some a' } else k' z.clearData
  | none => kn' z

/-- `index.First()` … `index.Prev()`; `index.Seek(k)` compares the separator keys -/
def moveIndex (c : UCmp) (cl : Call IKey) (x : EIndexed) : EIndexed :=
  { x with ipos := Cursor.step x.children (fun k ch => icmp c ch.sep k != .lt) cl x.ipos }

def moveIndex' (c : UCmp) (cl : Call IKey) (z : IndexedIter) : IndexedIter :=
  { z with ipos := Cursor.step z.children (fun k ch => icmp c ch.sep k != .lt) cl z.ipos }

theorem proj_moveIndex (c : UCmp) (cl : Call IKey) (x : EIndexed) :
    proj (moveIndex c cl x) = moveIndex' c cl (proj x) := by
  simp only [moveIndex', proj, Cursor.step_map]; rfl

/-- move the index with `cl`; stop with `stop` if it is off either end, else `body` on the fresh data iterator -/
def onIndex (c : UCmp) (cl : Call IKey) (stop body : EIndexed → EIndexed) (x : EIndexed) : EIndexed :=
  if !(moveIndex c cl x).indexOk then stop (moveIndex c cl x) else body (moveIndex c cl x).setData

def onIndex' (c : UCmp) (cl : Call IKey) (stop' body' : IndexedIter → IndexedIter) (z : IndexedIter) : IndexedIter :=
  if !(moveIndex' c cl z).indexOk then stop' (moveIndex' c cl z) else body' (moveIndex' c cl z).setData

theorem dataErr_none {X : EIndexed} (h : X.data.bind (·.err) = none) : dataErr X = (X, false) := by
  simp [dataErr, h]

theorem dataErr_strict {X : EIndexed} {e : Err} (hs : X.strict = true) (h : X.data.bind (·.err) = some e) :
    dataErr X = ({ X with err := some e, errf := X.errf ++ [e] }, true) := by
  simp [dataErr, h, hs]

theorem onData_couple (c : UCmp) (cl : Call IKey) {k kn : EIndexed → EIndexed} {k' kn' : IndexedIter → IndexedIter}
    (hk : Couple c k k') (hkn : Couple c kn kn') : Couple c (onData c cl k kn) (onData' c cl k' kn') := by
  intro x hH
  unfold onData onData'
  cases hd : x.data with
  | none =>
    rw [show (proj x).data = none by simp [proj, hd]]
    exact hkn x hH
  | some a =>
    rw [show (proj x).data = some a.inner by simp [proj, hd]]
    simp only
    have hfs := FailChild.failSim (ArrIter.ops c)
    have hmv := hfs.move_cases cl a (hH.2.2 a hd)
    generalize (dops c).toIterOps.step cl a = a' at hmv ⊢
    rcases hmv with ⟨hea, h2, hok⟩ | ⟨⟨e, hea⟩, hnok⟩
    · rw [dataErr_none (X := { x with data := some a' }) (by simpa using hea), ← hok, ← h2]
      have hH' : Healthy { x with data := some a' } := ⟨hH.1, hH.2.1, fun a0 ha0 => by cases ha0; exact hea⟩
      cases (dops c).ok a' with
      | true => exact .inl ⟨hH', rfl⟩
      | false => exact hk _ (healthy_clearData _ hH')
    · -- a strict iterator keeps the error of a data iterator that failed
      rw [hnok, dataErr_strict (X := { x with data := some a' }) hH.2.1 (by simpa using hea)]
      exact .inr ⟨by simp, by simpa [cur] using hfs.masked a' e hea⟩

theorem onIndex_couple (c : UCmp) (cl : Call IKey) {stop body : EIndexed → EIndexed}
    {stop' body' : IndexedIter → IndexedIter} (hstop : Couple c stop stop') (hbody : Couple c body body') :
    Couple c (onIndex c cl stop body) (onIndex' c cl stop' body') := by
  intro x hH
  unfold onIndex onIndex'
  rw [← proj_moveIndex, proj_indexOk, ← proj_setData]
  cases (moveIndex c cl x).indexOk with
  | false => exact hstop _ hH
  | true => exact hbody _ (healthy_setData _ hH)

theorem nextF_succ (c : UCmp) (n : Nat) : nextF c (n + 1) =
    onData c .next (onIndex c .next (fun y => y) (nextF c n)) (onIndex c .next (fun y => y) (nextF c n)) := rfl

theorem nextF_succ' (c : UCmp) (n : Nat) : IndexedIter.nextF c (n + 1) =
    onData' c .next (onIndex' c .next (fun z => z) (IndexedIter.nextF c n))
      (onIndex' c .next (fun z => z) (IndexedIter.nextF c n)) := rfl

theorem nextF_couple (c : UCmp) (n : Nat) : Couple c (nextF c n) (IndexedIter.nextF c n) := by
  induction n with
  | zero => exact Couple.id c
  | succ n ih =>
    rw [nextF_succ, nextF_succ']
    have adv := onIndex_couple c .next (Couple.id c) ih
    exact onData_couple c .next adv adv

/-- `Prev`: move the data iterator back; when it is exhausted, move the index back and (the inner `onData … .last`,
also the tail of `Last`) `if !i.data.Last() { if i.dataErr() { return false }; i.clearData(); return i.Prev() };
return true` -/
theorem prevF_succ (c : UCmp) (n : Nat) : prevF c (n + 1) =
    onData c .prev (onIndex c .prev (fun y => y) (onData c .last (prevF c n) (fun y => y)))
      (onIndex c .prev (fun y => y) (onData c .last (prevF c n) (fun y => y))) := rfl

theorem prevF_succ' (c : UCmp) (n : Nat) : IndexedIter.prevF c (n + 1) =
    onData' c .prev (onIndex' c .prev (fun z => z) (onData' c .last (IndexedIter.prevF c n) (fun z => z)))
      (onIndex' c .prev (fun z => z) (onData' c .last (IndexedIter.prevF c n) (fun z => z))) := rfl

theorem prevF_couple (c : UCmp) (n : Nat) : Couple c (prevF c n) (IndexedIter.prevF c n) := by
  induction n with
  | zero => exact Couple.id c
  | succ n ih =>
    rw [prevF_succ, prevF_succ']
    have ret := onIndex_couple c .prev (Couple.id c) (onData_couple c .last ih (Couple.id c))
    exact onData_couple c .prev ret ret

theorem proj_fuel (x : EIndexed) : (proj x).fuel = x.fuel := by
  simp [proj, IndexedIter.fuel, fuel]

theorem step_couple (c : UCmp) (cl : Call IKey) :
    Couple c ((ops c).toIterOps.step cl) ((IndexedIter.ops c).step cl) := by
  intro x hx
  have hg : ∀ k : EIndexed → EIndexed, guard x k = k x := fun k => by simp [guard, hx.1]
  cases cl with
  | next =>
    rw [show (ops c).toIterOps.step .next x = nextF c x.fuel x from hg _, ← proj_fuel]
    exact nextF_couple c _ x hx
  | prev =>
    rw [show (ops c).toIterOps.step .prev x = prevF c x.fuel x from hg _, ← proj_fuel]
    exact prevF_couple c _ x hx
  | first =>
    rw [show (ops c).toIterOps.step .first x = onIndex c .first EIndexed.clearData (nextF c x.fuel) x by
        show first c x = _; unfold first; rw [hg]; rfl, ← proj_fuel]
    exact onIndex_couple c .first (Couple.clearData c) (nextF_couple c _) x hx
  | last =>
    rw [show (ops c).toIterOps.step .last x =
        onIndex c .last EIndexed.clearData (onData c .last (prevF c x.fuel) (fun y => y)) x by
        show last c x = _; unfold last; rw [hg]; rfl, ← proj_fuel]
    exact onIndex_couple c .last (Couple.clearData c) (onData_couple c .last (prevF_couple c _) (Couple.id c)) x hx
  | seek k =>
    rw [show (ops c).toIterOps.step (.seek k) x =
        onIndex c (.seek k) EIndexed.clearData (onData c (.seek k) (nextF c x.fuel) (fun y => y)) x by
        show seek c k x = _; unfold seek; rw [hg]; rfl, ← proj_fuel]
    exact onIndex_couple c (.seek k) (Couple.clearData c)
      (onData_couple c (.seek k) (nextF_couple c _) (Couple.id c)) x hx

theorem cur_healthy (c : UCmp) (x : EIndexed) (hx : Healthy x) : cur c x = IndexedIter.cur (proj x) := by
  simp only [cur, IndexedIter.cur, proj]
  cases hd : x.data with
  | none => rfl
  | some a =>
    have := hx.2.2 a hd
    simp [FailChild.ops, this, ArrIter.ops]

theorem step_failed (c : UCmp) (cl : Call IKey) (x : EIndexed) (e : Err) (h : x.err = some e) :
    (ops c).toIterOps.step cl x = x := by
  cases cl <;> simp [IterOps.step, ops, first, last, seek, next, prev, guard, h]

theorem failSim (c : UCmp) :
    FailSim (ops c) (IndexedIter.ops c) proj Healthy (fun x e => x.err = some e ∧ cur c x = none) where
  herr := fun _ h => h.1
  hcur := fun x h => cur_healthy c x h
  hstep := fun x cl hx he => (step_couple c cl x hx).resolve_right fun h => h.1 he
  hfail := fun x cl e hx he => ⟨he, ((step_couple c cl x hx).resolve_left fun h =>
    nomatch h.1.1.symm.trans he).2⟩
  ferr := fun _ _ h => h.1
  masked := fun _ _ h => h.2
  sticky := fun x e cl h => by rw [step_failed c cl x e h.1]; exact h

end EIndexed
end GoLevel

import GoLevel.Proofs.IterSim
/-!
# Positions in sorted lists, for the merged-iterator simulation (`Proofs/IterMerged.lean`)

`Cursor.bseek` is the backward analogue of `Cursor.seek`: the position just before the first element passing a
"strictly beyond" test.  `Foremost` says where `seek`/`bseek` leave a child of the merged iterator.
-/
namespace GoLevel

def gtKey (c : UCmp) (k : IKey) (e : Entry) : Bool := icmp c e.key k == .gt

def Mono (c : UCmp) (S : List Entry) (t : Entry → Bool) : Prop :=
  ∀ a b, a ∈ S → b ∈ S → t a = true → icmp c a.key b.key = .lt → t b = true

/-- where `seek` (`bseek` when `r`) by an upward closed test `t` leaves a child: on the first (last) entry where
`t` is `!r`, on none when there is none -/
def Foremost (c : UCmp) (r : Bool) (t : Entry → Bool) (L : List Entry) (p : Pos) : Prop :=
  (∀ cx, Cursor.get L p = some cx → t cx = !r) ∧
  ∀ y ∈ L, t y = !r → ∃ cx, Cursor.get L p = some cx ∧ icmp c y.key cx.key ≠ (if r then .gt else .lt)

section sorted
variable {c : UCmp} (hl : LawfulUCmp c)
include hl

theorem geKey_eq_gtKey {k : IKey} {y : Entry} (h : y.key ≠ k) : geKey c k y = gtKey c k y := by
  have : icmp c y.key k ≠ .eq := fun h' => h ((icmp_eq_iff hl _ _).1 h')
  unfold geKey gtKey
  cases h' : icmp c y.key k <;> simp_all

theorem mono_geKey (S : List Entry) (k : IKey) : Mono c S (geKey c k) := by
  intro a b _ _ ha hab
  simp only [geKey, bne_iff_ne, ne_eq] at ha ⊢
  intro hb
  exact ha (icmp_trans hl _ _ _ hab hb)

theorem mono_gtKey (S : List Entry) (k : IKey) : Mono c S (gtKey c k) := by
  intro a b _ _ ha hab
  simp only [gtKey, beq_iff_eq] at ha ⊢
  rw [icmp_gt_iff hl] at ha ⊢
  exact icmp_trans hl _ _ _ ha hab

theorem SortedEntries.le_of_le {L : List Entry} (hs : SortedEntries c L) {i j : Nat} {a b : Entry}
    (hi : L[i]? = some a) (hj : L[j]? = some b) (hij : i ≤ j) : icmp c a.key b.key ≠ .gt := by
  rcases Nat.lt_or_eq_of_le hij with h | rfl
  · exact StrictOrd.le_of_lt (hs.lt_of_lt hi hj h)
  · rw [hi] at hj; cases hj; exact (icmp_ord hl).le_refl _

omit hl in
theorem Mono.lt_of_false_true {L : List Entry} {t : Entry → Bool} (hm : Mono c L t) (hs : SortedEntries c L)
    {i k : Nat} {y z : Entry} (hi : L[i]? = some y) (hk : L[k]? = some z) (hy : t y = false)
    (hz : t z = true) : i < k := by
  apply Nat.lt_of_not_le
  intro hki
  rcases Nat.lt_or_eq_of_le hki with h | rfl
  · have := hm z y (List.mem_of_getElem? hk) (List.mem_of_getElem? hi) hz (hs.lt_of_lt hk hi h)
    rw [this] at hy; cases hy
  · rw [hk] at hi; cases hi; rw [hz] at hy; cases hy

theorem findIdx_ge_self {L : List Entry} (hs : SortedEntries c L) {j : Nat} {e : Entry} (hj : L[j]? = some e) :
    L.findIdx? (geKey c e.key) = some j := by
  rw [Cursor.findIdx?_some_iff]
  refine ⟨e, hj, by simp [geKey, (icmp_ord hl).refl], fun i y hi hy => ?_⟩
  simp [geKey, hs.lt_of_lt hy hj hi]

theorem findIdx_gt_self {L : List Entry} (hs : SortedEntries c L) {j : Nat} {e : Entry} (hj : L[j]? = some e) :
    L.findIdx? (gtKey c e.key) = if j + 1 < L.length then some (j + 1) else none := by
  have hle : ∀ i y, i < j + 1 → L[i]? = some y → gtKey c e.key y = false :=
    fun i y hi hy => beq_eq_false_iff_ne.2 (hs.le_of_le hl hy hj (by omega))
  split
  · rename_i h
    rw [Cursor.findIdx?_some_iff]
    exact ⟨L[j + 1], List.getElem?_eq_getElem h,
      beq_iff_eq.2 ((icmp_gt_iff hl _ _).2 (hs.lt_of_lt hj (List.getElem?_eq_getElem h) (by omega))), hle⟩
  · rename_i h
    rw [List.findIdx?_eq_none_iff]
    intro y hy
    obtain ⟨i, hi⟩ := List.mem_iff_getElem?.1 hy
    exact hle i y (by have := getElem?_lt hi; omega) hi

theorem next_eq_seek {L : List Entry} (hs : SortedEntries c L) {j : Nat} {e : Entry} (hj : L[j]? = some e) :
    Cursor.next L (.at j) = Cursor.seek L (gtKey c e.key) := by
  unfold Cursor.seek
  rw [findIdx_gt_self hl hs hj]
  simp only [Cursor.next]
  split <;> rfl

theorem prev_eq_bseek {L : List Entry} (hs : SortedEntries c L) {j : Nat} {e : Entry} (hj : L[j]? = some e) :
    Cursor.prev L (.at j) = Cursor.bseek L (geKey c e.key) := by
  unfold Cursor.bseek
  rw [findIdx_ge_self hl hs hj]
  cases j <;> simp [Cursor.prev]

theorem seek_self {L : List Entry} (hs : SortedEntries c L) {j : Nat} {e : Entry} (hj : L[j]? = some e) :
    Cursor.seek L (geKey c e.key) = .at j := by
  unfold Cursor.seek
  rw [findIdx_ge_self hl hs hj]

theorem bseek_self {L : List Entry} (hs : SortedEntries c L) {j : Nat} {e : Entry} (hj : L[j]? = some e) :
    Cursor.bseek L (gtKey c e.key) = .at j := by
  unfold Cursor.bseek
  rw [findIdx_gt_self hl hs hj]
  have hlt := getElem?_lt hj
  by_cases h : j + 1 < L.length
  · rw [if_pos h]
  · rw [if_neg h]
    have hne : L ≠ [] := fun h0 => by subst h0; simp at hlt
    have : L.length - 1 = j := by omega
    simp [Cursor.last, hne, this]

theorem seek_foremost {L : List Entry} (hs : SortedEntries c L) (ge : Entry → Bool) :
    Foremost c false ge L (Cursor.seek L ge) := by
  refine ⟨fun cx h => List.find?_some (Cursor.get_seek L ge ▸ h), fun y hy (hgy : ge y = true) => ?_⟩
  obtain ⟨i, hi⟩ := List.mem_iff_getElem?.1 hy
  unfold Cursor.seek
  cases hf : L.findIdx? ge with
  | none => rw [List.findIdx?_eq_none_iff.1 hf y hy] at hgy; cases hgy
  | some j =>
    obtain ⟨e, he, _, hb⟩ := Cursor.findIdx?_some_iff.1 hf
    have hji : j ≤ i := Nat.le_of_not_lt fun hij => by rw [hb i y hij hi] at hgy; cases hgy
    exact ⟨e, he, ((icmp_ord hl).not_lt_iff _ _).2 (hs.le_of_le hl he hi hji)⟩

theorem bseek_foremost {L : List Entry} {gt : Entry → Bool} (hs : SortedEntries c L) (hm : Mono c L gt) :
    Foremost c true gt L (Cursor.bseek L gt) := by
  have hle : ∀ {i j : Nat} {y cx : Entry}, L[i]? = some y → L[j]? = some cx → i ≤ j →
      icmp c y.key cx.key ≠ (if true then .gt else .lt) :=
    fun hi hj hij => hs.le_of_le hl hi hj hij
  unfold Cursor.bseek
  cases hf : L.findIdx? gt with
  | none =>
    refine ⟨fun cx h => List.findIdx?_eq_none_iff.1 hf cx (Cursor.get_mem h), fun y hy _ => ?_⟩
    obtain ⟨i, hi⟩ := List.mem_iff_getElem?.1 hy
    have hlt := getElem?_lt hi
    have hcx := List.getElem?_eq_getElem (show L.length - 1 < L.length by omega)
    exact ⟨_, by rw [Cursor.get_last, List.getLast?_eq_getElem?]; exact hcx, hle hi hcx (by omega)⟩
  | some k =>
    obtain ⟨z, hz, hgz, hb⟩ := Cursor.findIdx?_some_iff.1 hf
    have hik : ∀ {i y}, L[i]? = some y → gt y = false → i < k := fun hi hgy =>
      hm.lt_of_false_true hs hi hz hgy hgz
    cases k with
    | zero =>
      refine ⟨fun cx h => (by cases h), fun y hy hgy => ?_⟩
      obtain ⟨i, hi⟩ := List.mem_iff_getElem?.1 hy
      exact absurd (hik hi hgy) (Nat.not_lt_zero i)
    | succ j =>
      refine ⟨fun cx h => hb j cx (by omega) h, fun y hy hgy => ?_⟩
      obtain ⟨i, hi⟩ := List.mem_iff_getElem?.1 hy
      have hcx := List.getElem?_eq_getElem (show j < L.length by have := getElem?_lt hz; omega)
      exact ⟨_, hcx, hle hi hcx (Nat.le_of_lt_succ (hik hi hgy))⟩

end sorted

theorem MergedIter.argBest_mem (lt : Nat → Nat → Bool) :
    ∀ (ys : List Nat) (b : Nat), MergedIter.argBest lt b ys ∈ b :: ys := by
  intro ys
  induction ys with
  | nil => intro b; simp [MergedIter.argBest]
  | cons y ys ih =>
    intro b
    simp only [MergedIter.argBest]
    rcases List.mem_cons.1 (ih (if lt y b then y else b)) with h | h
    · rw [h]; split <;> simp
    · simp [h]

theorem MergedIter.argBest_spec (lt : Nat → Nat → Bool) (S : Nat → Prop)
    (htrans : ∀ a b d, lt a b = true → lt b d = true → lt a d = true)
    (htot : ∀ a b, S a → S b → a ≠ b → lt a b = true ∨ lt b a = true) :
    ∀ (ys : List Nat) (b : Nat), (∀ z ∈ b :: ys, S z) →
      ∀ z ∈ b :: ys, z ≠ MergedIter.argBest lt b ys → lt (MergedIter.argBest lt b ys) z = true := by
  intro ys
  induction ys with
  | nil =>
    intro b _
    simp [MergedIter.argBest]
  | cons y ys ih =>
    intro b hS
    -- the running best `b'` after `y` is one of `b`, `y` and before the other
    have hb' : ∃ b', MergedIter.argBest lt b (y :: ys) = MergedIter.argBest lt b' ys ∧ (b' = b ∨ b' = y) ∧
        (b ≠ b' → lt b' b = true) ∧ (y ≠ b' → lt b' y = true) := by
      simp only [MergedIter.argBest]
      by_cases hyb : lt y b = true
      · exact ⟨y, by rw [if_pos hyb], .inr rfl, fun _ => hyb, fun h => absurd rfl h⟩
      · exact ⟨b, by rw [if_neg hyb], .inl rfl, fun h => absurd rfl h, fun hyb' =>
          (htot b y (hS b (by simp)) (hS y (by simp)) (Ne.symm hyb')).resolve_right hyb⟩
    obtain ⟨b', heq, hb', hltb, hlty⟩ := hb'
    rw [heq]
    have hbest := ih b' (by
      intro z hz
      rcases List.mem_cons.1 hz with rfl | h
      · rcases hb' with rfl | rfl <;> exact hS _ (by simp)
      · exact hS z (by simp [h]))
    generalize MergedIter.argBest lt b' ys = r at hbest
    -- what is after `b'` is after the final best `r`
    have hle : ∀ z, (z ≠ b' → lt b' z = true) → z ≠ r → lt r z = true := by
      intro z hz hne
      by_cases hr : b' = r
      · rw [← hr] at hne ⊢; exact hz hne
      · have h1 := hbest b' (by simp) hr
        by_cases hzb : z = b'
        · rw [hzb]; exact h1
        · exact htrans _ _ _ h1 (hz hzb)
    intro z hz hne
    rcases List.mem_cons.1 hz with rfl | hz
    · exact hle _ hltb hne
    · rcases List.mem_cons.1 hz with rfl | hz
      · exact hle _ hlty hne
      · exact hbest z (by simp [hz]) hne

end GoLevel

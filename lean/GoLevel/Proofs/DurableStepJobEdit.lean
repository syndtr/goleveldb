import GoLevel.Proofs.DurableStepJobFrame
/-!
Steps of a job: the obligations of the edit (`EditOK`) follow from the phase facts at the moment of the commit, for every
kind of job and relative to any view the session mirrors (`BaseView`, `Inv.editOK_base`), and the view the commit produces
is good (`BaseView.commitView`) — also while the storage is one edit ahead of the session (`St.limbo`), by the job's own
edit or by a discarded transaction's (`Inv.commit_view'`).
-/
namespace GoLevel.Dur

variable {cfg : Cfg} {s s' : St} {d d' : Disk} {j : Job} {e : MRec} {rot : Bool} {mf : LogFile MRec} {v0 : MView}

/-- a view the session mirrors, with everything the derivation of `EditOK` for the job `j` wants of it; it is the last
    view of the manifest `mf` that `CURRENT` names (oldest admissible view `v0`), or — while the storage is ahead of the
    session by the edit of a discarded transaction — that view without the transaction's table -/
structure BaseView (cfg : Cfg) (s : St) (d : Disk) (j : Job) (mf : LogFile MRec) (v0 v : MView) : Prop where
  parts : DiskOK.Parts cfg d (must s) (issuedGrps s) mf v0
  mono : v0.jn ≤ v.jn
  mir : Mirror s v
  ok : ViewOK d (must s) (issuedGrps s) v
  sq : v.sq ≤ s.seq
  nf : v.nf ≤ s.nextFile
  jn : s.phase = .running → v.jn ≤ s.jcur
  fresh : ∀ o ∈ j.outs, v.nf ≤ o.1
  freshJ : ∀ n, j.mkJournal = some n → v.nf ≤ n

theorem Inv.baseView (h : Inv cfg s d) (hj : s.job = some j)
    (hbc : j.pc.beforeCommit = true) (hl : s.limbo = none) : ∃ mf v0 v, BaseView cfg s d j mf v0 v := by
  obtain ⟨mf, v0, v, hparts, hv, hvl, hvok, hmono⟩ := h.disk.last
  have hbv := (h.bounds (h.not_crashed hj)).all mf hparts.cur _ (Nat.le_refl _) v hvl
  rw [seqHi_eq (not_trWindow_of_bc hj hbc hl)] at hbv
  have hok := h.jobOK hj
  exact ⟨mf, v0, v, hparts, hmono, (MirrorL.of_none hl).1 ((hok.mirror_before hbc).view hv), hvok, hbv.1, hbv.2.1,
    hbv.2.2, hok.outs_above hbc (Or.inr hl) mf hparts.cur _ (Nat.le_refl _) v hvl,
    (holds_some (holds_some (hok.fresh.2 hbc) hparts.cur _ (Nat.le_refl _)) hvl).2⟩

/-- groups among the records of a journal the base view replays have what `EditOK.outs` asks of output tables -/
theorem BaseView.file_outs {v : MView} (hb : BaseView cfg s d j mf v0 v) {p : Nat × LogFile Grp}
    (hp : p ∈ d.journals) (hge : v.jn ≤ p.1) {l : List Grp} (hl : ∀ g ∈ l, g ∈ p.2.all) :
    ∀ g ∈ l, g ∈ issuedGrps s ∧ g.recs ≠ [] ∧ (∀ x ∈ liveGrps d v, Disj g x) ∧ ∀ x ∈ l, Disj g x := by
  intro g hg
  have hpr := mem_relJournals.2 ⟨hp, hge⟩
  have hasc := hb.parts.jasc p (mem_relJournals.2 ⟨hp, Nat.le_trans hb.mono hge⟩)
  exact ⟨(hb.ok.jseq p hpr g (hl g hg)).2, hasc.recs_ne (hl g hg), fun x hx => (hb.ok.tj x hx p hpr g (hl g hg)).symm,
    fun x hx => hasc.disj (hl g hg) (hl x hx)⟩

theorem JobOK.edit_nums (h : JobOK cfg s d j)
    (he : j.edit = some e) :
    (j.kind = .compaction → e.jn = none ∧ e.sq = none) ∧
    (j.kind ≠ .compaction → e.deleted = []) := by
  have x := h.inputs_at he
  unfold InputsOK at x
  refine ⟨?_, ?_⟩
  · intro hk; rw [if_pos hk] at x; exact ⟨x.1, x.2.1⟩
  · intro hk; rw [if_neg hk] at x; exact x.1

/-- `EditOK` for an edit that deletes nothing, in terms of the numbers `jn`, `sq` the edit gives the view and of the
    groups `og` of its output tables: the shape of the edit is that of `JobOK`, the caller shows where the groups come
    from -/
theorem JobOK.editOK_adds (hok : JobOK cfg s d j)
    (he : j.edit = some e) (hk : j.kind ≠ .compaction) {v : MView} (hfresh : ∀ o ∈ j.outs, v.nf ≤ o.1)
    (jn : Nat) (hjn : e.jn.getD v.jn = jn) (sq : Nat) (hsq : e.sq.getD v.sq = sq) {og : List Grp}
    (hog : outsGrps j = og)
    (skip : ∀ p ∈ d.journals, v.jn ≤ p.1 → p.1 < jn → ∀ g ∈ p.2.all, g ∈ must s → g ∈ og)
    (outs : ∀ g ∈ og, g.fin ≤ sq + 1 ∧ g ∈ issuedGrps s ∧ g.recs ≠ [] ∧ (∀ h ∈ liveGrps d v, Disj g h) ∧
      ∀ h ∈ og, Disj g h)
    (keep : ∀ p ∈ d.journals, jn ≤ p.1 → ∀ g ∈ p.2.all, (sq ≤ g.seq ∨ g ∉ must s) ∧ ∀ h ∈ og, Disj h g)
    (mono : v.jn ≤ jn ∧ v.sq ≤ sq ∧ sq ≤ sqCap s j ∧ (s.phase = .running → jn ≤ s.jcur) ∧ jn < s.nextFile) :
    EditOK s d j e v := by
  subst hjn hsq hog
  refine ⟨hok.shape_at he, ?_, skip, outs, keep, mono, fun o ho => ⟨hfresh o ho, hok.fresh.1 o ho⟩⟩
  rw [(hok.edit_nums he).2 hk]
  simp

theorem Inv.editOK_flush (h : Inv cfg s d) (hj : s.job = some j)
    (hk : j.kind = .flush) (he : j.edit = some e) (hbc : j.pc.beforeCommit = true)
    {v : MView} (hbase : BaseView cfg s d j mf v0 v) : EditOK s d j e v := by
  have hok := h.jobOK hj
  obtain ⟨fz, jf, hfl⟩ := hok.kind.flush hk
  obtain ⟨houts, hejn, hesq, hfzne⟩ := hfl.edit_at he
  have hrun := h.run hfl.phase
  have hnc : NoCommitYet s := .of_job hj hbc
  obtain ⟨f1, f2, f3, f4, f5, f6⟩ := hrun.frozen.get hfl.frozen hfl.jfrozen
  obtain ⟨⟨pf, hpf, hpfn⟩, hlv⟩ := f6 hnc.flushPending
  obtain ⟨m1, m2, m3⟩ := hbase.mir
  obtain ⟨hvjn, hvsq⟩ : v.jn ≤ jf ∧ v.sq ≤ s.frozenSeq := by rw [m2, m3]; exact hlv
  have hog : outsGrps j = fz := by simp [outsGrps, houts]
  refine hok.editOK_adds he (by rw [hk]; decide) hbase.fresh s.jcur (by rw [hejn]; rfl) s.frozenSeq
    (by rw [hesq]; rfl) hog ?_ ?_ ?_ ?_
  · intro p hp hge hlt g hg hgm
    have r1 := holds_some hrun.rel hbase.parts.cur
    rcases holds_some r1 hbase.parts.hv0 p hp (Nat.le_trans hbase.mono hge) with h3 | h3 | h3
    · omega
    · rw [hfl.jfrozen] at h3
      cases h3
      exact (f5 p hp rfl).2.1 g hg hgm
    · exact absurd hgm (h3.1 g hg).1
  · exact fun g hg => ⟨f3 g hg, hbase.file_outs hpf (by rw [hpfn]; exact hvjn) (f5 pf hpf hpfn).1 g hg⟩
  · intro p hp hge g hg
    rcases hrun.jmax.2 p hp with hle | hemp
    · have hpe : p.1 = s.jcur := Nat.le_antisymm hle hge
      have := f4 p hp hpe g hg
      refine ⟨Or.inl (Nat.le_of_lt this), fun x hx => Or.inr (Or.inl ?_)⟩
      have := f3 x hx
      omega
    · rw [hemp] at hg; cases hg
  · rw [sqCap_of_ne_tr (by rw [hk]; decide)]
    have hjl : s.jcur < s.nextFile := hrun.jmax.1
    exact ⟨hbase.jn hfl.phase, hvsq, f2, fun _ => Nat.le_refl _, hjl⟩

theorem outsGrps_mdb {r : Recov} (h : j.outs = [] ∧ r.mdb = [] ∨ j.outs = [(j.outs.head?.map (·.1) |>.getD 0, r.mdb)]) :
    outsGrps j = r.mdb := by
  rcases h with ⟨h1, h2⟩ | h1
  · simp [outsGrps, h1, h2]
  · unfold outsGrps; rw [h1]; simp

/-- the journals still to come are sorted: the next one has the least number -/
theorem RecOK.todo_head_le {r : Recov} (hrec : RecOK cfg s d r) {n : Nat} (hn : r.todo.head? = some n) :
    ∀ x ∈ r.todo, n ≤ x := by
  have hs := hrec.todoSorted
  cases ht : r.todo with
  | nil => rw [ht] at hn; cases hn
  | cons y ys =>
    rw [ht] at hn hs
    cases hn
    intro x hx
    rcases List.mem_cons.1 hx with rfl | hx'
    · exact Nat.le_refl _
    · exact Nat.le_of_lt ((List.pairwise_cons.1 hs).1 x hx')

/-- during a recovery a view the session mirrors has the journal number of the last view, so what `RecOK` says of the
    journals that one replays holds of it -/
theorem RecOK.of_mirror {r : Recov} (hrec : RecOK cfg s d r) (hnc : NoCommitYet s) {v : MView} (hm : Mirror s v) :
    (∀ p ∈ d.journals, v.jn ≤ p.1 → p.1 ∈ r.todo ∨ some p.1 = r.ofd ∨ p.2.all = []) ∧
    ∀ o, r.ofd = some o → v.jn ≤ o := by
  obtain ⟨_, vl, _, _, hvl, hml, hvo⟩ := (hrec.view hnc).get
  rw [hm.2.1, ← hml.2.1]
  exact ⟨(holds_some hrec.rel hvl).1, hvo⟩

/-- the recovery memdb before the commit of its flush: its groups are records of the journal replayed last, which holds
    nothing else that must survive; the journals still to come continue it -/
theorem RecOK.mdb_facts {r : Recov} (hrec : RecOK cfg s d r) (hnc : NoCommitYet s) {v : MView}
    (hbase : BaseView cfg s d j mf v0 v) :
    (∀ g ∈ r.mdb, g.fin ≤ s.seq ∧ (g ∈ issuedGrps s ∧ g.recs ≠ [] ∧ (∀ x ∈ liveGrps d v, Disj g x) ∧
      ∀ x ∈ r.mdb, Disj g x) ∧ ∀ q ∈ d.journals, q.1 ∈ r.todo → ∀ g' ∈ q.2.all, g.fin ≤ g'.seq) ∧
    ∀ p ∈ d.journals, some p.1 = r.ofd → ∀ g ∈ p.2.all, g ∈ must s → g ∈ r.mdb := by
  have hmdb := hrec.mdb
  unfold MdbOK at hmdb
  cases ho : r.ofd with
  | none =>
    rw [ho] at hmdb
    simp only at hmdb
    rw [hmdb]
    exact ⟨fun g hg => (by cases hg), fun p _ hp => (by cases hp)⟩
  | some o =>
    rw [ho] at hmdb
    obtain ⟨m1, m2, m3⟩ := hmdb
    refine ⟨fun g hg => ?_, fun p hp hpn g hg hgm => ?_⟩
    · rcases (m3 hnc).1 with ⟨pf, hpf, hpfn⟩ | hemp
      · have hge : v.jn ≤ pf.1 := by rw [hpfn]; exact (hrec.of_mirror hnc hbase.mir).2 o ho
        have hsub := (m1 pf hpf hpfn).1
        have hge0 := Nat.le_trans hbase.mono hge
        refine ⟨m2 g hg, hbase.file_outs hpf hge hsub g hg, fun q hq hqt g' hg' => ?_⟩
        have hlt : pf.1 < q.1 := by rw [hpfn]; exact hrec.ofdLt o ho q.1 hqt
        exact hbase.parts.jord pf (mem_relJournals.2 ⟨hpf, hge0⟩) q (mem_relJournals.2 ⟨hq, by omega⟩) hlt g (hsub g hg)
          g' hg'
      · rw [hemp] at hg; cases hg
    · exact ((m1 p hp (Option.some.inj hpn)).2 g hg).resolve_right (fun x => x hgm)

/-- `EditOK` for a commit of the recovery: the edit turns the recovery memdb into a table and names the journal `n` to go
    on with.  The commit inside the journal loop and the last one differ only in where `n` comes from: the head of `todo`,
    or the journal `newMem` is about to make. -/
theorem JobOK.editOK_recov (hok : JobOK cfg s d j) (hj : s.job = some j) (he : j.edit = some e)
    (hbc : j.pc.beforeCommit = true) (hph : s.phase = .recovering) {r : Recov} (hrec : RecOK cfg s d r)
    (houts : j.outs = [] ∧ r.mdb = [] ∨ j.outs = [(j.outs.head?.map (·.1) |>.getD 0, r.mdb)])
    {n : Nat} (hjn : e.jn = some n) (hsq : e.sq = some s.seq)
    (hofd : ∀ o, r.ofd = some o → o < n) (hmin : ∀ x ∈ r.todo, n ≤ x) (hhi : n < s.nextFile)
    {v : MView} (hbase : BaseView cfg s d j mf v0 v) (hlo : v.jn ≤ n) : EditOK s d j e v := by
  have hk : j.kind = .recovMid ∨ j.kind = .recovFinal := by
    rcases hok.kind.cases with ⟨hr, _⟩ | ⟨_, hk, _⟩
    · rw [hph] at hr; cases hr
    · exact hk
  have hnc : NoCommitYet s := .of_job hj hbc
  have hrel := (hrec.of_mirror hnc hbase.mir).1
  have hog := outsGrps_mdb houts
  obtain ⟨hmf, hmdb⟩ := hrec.mdb_facts hnc hbase
  refine hok.editOK_adds he (by rcases hk with hk | hk <;> rw [hk] <;> decide) hbase.fresh
    n (by rw [hjn]; rfl) s.seq (by rw [hsq]; rfl) hog ?_ ?_ ?_ ?_
  · intro p hp hge hlt g hg
    rcases hrel p hp hge with h3 | h3 | h3
    · have := hmin p.1 h3; omega
    · exact hmdb p hp h3 g hg
    · rw [h3] at hg; cases hg
  · exact fun g hg => ⟨Nat.le_succ_of_le (hmf g hg).1, (hmf g hg).2.1⟩
  · intro p hp hge g hg
    rcases hrel p hp (Nat.le_trans hlo hge) with h3 | h3 | h3
    · exact ⟨hrec.todoSeq p hp h3 g hg, fun x hx => Or.inr (Or.inl ((hmf x hx).2.2 p hp h3 g hg))⟩
    · have := hofd p.1 h3.symm; omega
    · rw [h3] at hg; cases hg
  · rw [sqCap_of_ne_tr (by rcases hk with hk | hk <;> rw [hk] <;> decide)]
    exact ⟨hlo, hbase.sq, Nat.le_refl _, (fun hr => by rw [hph] at hr; cases hr), hhi⟩

theorem Inv.editOK_recovMid (h : Inv cfg s d) (hj : s.job = some j)
    (hk : j.kind = .recovMid) (he : j.edit = some e) (hbc : j.pc.beforeCommit = true)
    {v : MView} (hbase : BaseView cfg s d j mf v0 v) : EditOK s d j e v := by
  have hok := h.jobOK hj
  obtain ⟨r, o, n, e', hm⟩ := hok.kind.recovMid hk
  have he' := hm.edit
  rw [he] at he'; cases he'
  have hrec : RecOK cfg s d r := holds_some (h.recov hm.phase) hm.recov
  have hnc : NoCommitYet s := .of_job hj hbc
  have hnt : n ∈ r.todo := List.mem_of_mem_head? hm.todo
  exact hok.editOK_recov hj he hbc hm.phase hrec hm.outs hm.jn hm.sq (fun o' ho' => hrec.ofdLt o' ho' n hnt)
    (hrec.todo_head_le hm.todo) (hrec.nums.2.2 n hnt) hbase
    (Nat.le_trans ((hrec.of_mirror hnc hbase.mir).2 o hm.ofd) (Nat.le_of_lt (hrec.ofdLt o hm.ofd n hnt)))

theorem Inv.editOK_recovFinal (h : Inv cfg s d) (hj : s.job = some j)
    (hk : j.kind = .recovFinal) (he : j.edit = some e) (hbc : j.pc.beforeCommit = true)
    {v : MView} (hbase : BaseView cfg s d j mf v0 v) : EditOK s d j e v := by
  have hok := h.jobOK hj
  obtain ⟨r, n, e', hf⟩ := hok.kind.recovFinal hk
  have he' := hf.edit
  rw [he] at he'; cases he'
  have hrec : RecOK cfg s d r := holds_some (h.recov hf.phase) hf.recov
  have hmkj := hok.mkj
  unfold MkJournalOK at hmkj
  rw [hf.mkJournal] at hmkj
  refine hok.editOK_recov hj he hbc hf.phase hrec hf.outs hf.jn hf.sq
    (fun o ho => hf.rmLt o (by rw [hf.rmJournals, ho]; exact List.mem_singleton.2 rfl))
    (fun x hx => by rw [hf.todo] at hx; cases hx) hmkj.1 hbase ?_
  have := hbase.freshJ n hf.mkJournal
  have := hbase.ok.jnf
  omega

theorem Inv.editOK_compaction (h : Inv cfg s d) (hj : s.job = some j)
    (hk : j.kind = .compaction) (he : j.edit = some e) (hbc : j.pc.beforeCommit = true)
    {v : MView} (hbase : BaseView cfg s d j mf v0 v) : EditOK s d j e v := by
  have hok := h.jobOK hj
  have hvok := hbase.ok
  have hin := hok.inputs_at he
  unfold InputsOK at hin
  rw [if_pos hk] at hin
  obtain ⟨hejn, hesq, hdel, hdlt, hpre⟩ := hin
  obtain ⟨hdlive, hog⟩ := hpre hbc
  obtain ⟨hvlive, _, _⟩ := hbase.mir
  have hjn0 : e.jn.getD v.jn = v.jn := by rw [hejn]; rfl
  have hsq0 : e.sq.getD v.sq = v.sq := by rw [hesq]; rfl
  have hsub : ∀ g ∈ outsGrps j, g ∈ liveGrps d v := by
    intro g hg
    rw [hog] at hg
    obtain ⟨t, ht, hgt⟩ := List.mem_flatMap.1 hg
    exact List.mem_flatMap.2 ⟨t, by rw [hvlive]; exact hdlive t ht, hgt⟩
  constructor
  · exact hok.shape_at he
  · exact ⟨fun t ht => by rw [hvlive]; exact hdlive t ht, fun g hg => by rw [hog]; exact hg⟩
  · rw [hjn0]
    intro p _ hge hlt
    omega
  · rw [hsq0]
    intro g hg
    obtain ⟨a, b, c⟩ := hvok.tseq g (hsub g hg)
    exact ⟨a, b, c, fun x hx => hvok.tdisj g (hsub g hg) x hx, fun x hx => hvok.tdisj g (hsub g hg) x (hsub x hx)⟩
  · rw [hjn0, hsq0]
    intro p hp hge g hg
    have hpr : p ∈ relJournals d v.jn := mem_relJournals.2 ⟨hp, hge⟩
    exact ⟨(hvok.jseq p hpr g hg).1, fun x hx => hvok.tj x (hsub x hx) p hpr g hg⟩
  · rw [hjn0, hsq0, sqCap_of_ne_tr (by rw [hk]; decide)]
    have := hvok.jnf
    exact ⟨Nat.le_refl _, Nat.le_refl _, hbase.sq, hbase.jn, by have := hbase.nf; omega⟩
  · exact fun o ho => ⟨hbase.fresh o ho, hok.fresh.1 o ho⟩

theorem Inv.editOK_tr (h : Inv cfg s d) (hj : s.job = some j)
    (hk : j.kind = .tr) (he : j.edit = some e) {v : MView} (hbase : BaseView cfg s d j mf v0 v) :
    EditOK s d j e v := by
  have hok := h.jobOK hj
  obtain ⟨g, e', ht⟩ := hok.kind.tr hk
  have he' := ht.edit
  rw [he] at he'; cases he'
  have hrun := h.run ht.phase
  have hvok := hbase.ok
  obtain ⟨hw, hmem, hfz, hgs, _⟩ := hrun.tr_open ht.tr
  have hfin := Grp.seq_lt_fin ht.recs
  have hog : outsGrps j = [g] := by simp [outsGrps, ht.outs]
  have hsq := hbase.sq
  -- every journal the base view would replay holds at most records of failed writes, below the transaction
  have hstale : ∀ p ∈ d.journals, v.jn ≤ p.1 → ∀ x ∈ p.2.all, x ∉ must s ∧ x.fin ≤ s.seq + 1 := by
    intro p hp hge x hx
    have r1 := holds_some hrun.rel hbase.parts.cur
    rcases holds_some r1 hbase.parts.hv0 p hp (Nat.le_trans hbase.mono hge) with h3 | h3 | h3
    · have hl := hrun.jcur
      obtain ⟨jf, hjf, hall⟩ := holds_iff.1 hl
      have : lookup d.journals p.1 = some p.2 := lookup_of_mem (sorted_nodup h.disk.jsorted) (by cases p; exact hp)
      rw [h3, hjf] at this
      cases this
      rw [hmem, hw] at hall
      refine ⟨fun hxm => ?_, ?_⟩
      · have := hall.2.1 x hx hxm
        simp [inflight] at this
      · rcases hall.2.2.1 x hx with h4 | h4
        · simp [inflight] at h4
        · exact h4
    · rw [hrun.frozen.jfrozen_none hfz] at h3; cases h3
    · exact h3.1 x hx
  refine hok.editOK_adds he (by rw [hk]; decide) hbase.fresh v.jn (by rw [ht.jn]; rfl) (g.fin - 1)
    (by rw [ht.sq]; rfl) hog ?_ ?_ ?_ ?_
  · intro p _ hge hlt
    omega
  · intro x hx
    simp only [List.mem_singleton] at hx
    subst hx
    refine ⟨by omega, ht.issued, ht.recs, fun y hy => ?_, fun y hy => ?_⟩
    · have := (hvok.tseq y hy).1
      exact Or.inr (Or.inr (by omega))
    · simp only [List.mem_singleton] at hy
      exact Or.inl hy.symm
  · intro p hp hge x hx
    obtain ⟨a, b⟩ := hstale p hp hge x hx
    refine ⟨Or.inr a, fun y hy => ?_⟩
    simp only [List.mem_singleton] at hy
    subst hy
    exact Or.inr (Or.inr (by omega))
  · rw [sqCap_tr hk ht.tr]
    have := hvok.jnf
    have := hbase.nf
    exact ⟨Nat.le_refl _, by omega, Nat.le_refl _, hbase.jn, by omega⟩

theorem JobOK.outs_on_disk (h : JobOK cfg s d j)
    (hbc : j.pc.beforeCommit = true) (htd : j.pc.tablesDone = true) :
    ∀ o ∈ j.outs, lookup d.tables o.1 = some ⟨o.2, true, false⟩ := by
  intro o ho
  obtain ⟨i, hi⟩ := List.getElem?_of_mem ho
  have := h.tables i o hi
  rw [OutOK_of_tablesDone htd] at this
  obtain ⟨tf, e1, e2⟩ := holds_iff.1 (this hbc)
  rw [e1, e2]

theorem JobOK.kind_running (h : JobOK cfg s d j) (hr : s.phase = .running) :
    j.kind = .flush ∨ j.kind = .compaction ∨ j.kind = .tr := by
  rcases h.kind.cases with ⟨_, _, hk⟩ | ⟨hp, _⟩
  · exact hk
  · rw [hr] at hp; cases hp

theorem Inv.mirror_nolimbo (h : Inv cfg s d) (hj : s.job = some j)
    (hbc : j.pc.beforeCommit = true) (hl : s.limbo = none) : Holds (lastView cfg d) (Mirror s) := by
  obtain ⟨_, _, v, _, hv, _⟩ := h.disk.last
  exact holds_of_some hv ((MirrorL.of_none hl).1 (((h.jobOK hj).mirror_before hbc).view hv))

/-- **the obligations of a job's edit hold relative to a view the session mirrors**, whatever the kind of the job -/
theorem Inv.editOK_base (h : Inv cfg s d) (hj : s.job = some j)
    (he : j.edit = some e) (hbc : j.pc.beforeCommit = true)
    {v : MView} (hbase : BaseView cfg s d j mf v0 v) : EditOK s d j e v := by
  cases hk : j.kind
  · exact h.editOK_flush hj hk he hbc hbase
  · exact h.editOK_recovMid hj hk he hbc hbase
  · exact h.editOK_recovFinal hj hk he hbc hbase
  · exact h.editOK_compaction hj hk he hbc hbase
  · exact h.editOK_tr hj hk he hbase

theorem Inv.todo_ge_edit (h : Inv cfg s d) (hj : s.job = some j)
    (he : j.edit = some e) {r : Recov} (hr : s.recov = some r) (hph : s.phase = .recovering) (x : Nat) :
    ∀ n ∈ r.todo, e.jn.getD x ≤ n := by
  have hkind := (h.jobOK hj).kind
  have hrec : RecOK cfg s d r := holds_some (h.recov hph) hr
  rcases hkind.cases with ⟨hp, _⟩ | ⟨_, hk | hk, _⟩
  · rw [hph] at hp; cases hp
  · obtain ⟨r', o, _, e', hm⟩ := hkind.recovMid hk
    have hr' := hm.recov
    have he' := hm.edit
    rw [hr] at hr'; cases hr'
    rw [he] at he'; cases he'
    rw [hm.jn]
    exact hrec.todo_head_le hm.todo
  · obtain ⟨r', _, _, hf⟩ := hkind.recovFinal hk
    have hr' := hf.recov
    rw [hr] at hr'; cases hr'
    rw [hf.todo]
    exact fun n hn => (by cases hn)

theorem views_refl {cfg : Cfg} {d d' : Disk} {v : MView} (h' : lastView cfg d' = some v) (h : lastView cfg d = some v) :
    Holds (lastView cfg d') fun v' => Holds (lastView cfg d) fun v => v'.jn ≤ v.jn ∧ v'.sq ≤ v.sq :=
  holds_of_some h' (holds_of_some h ⟨Nat.le_refl _, Nat.le_refl _⟩)

theorem applyEdit_orphan {live : List Nat} {u : MRec} {t : Nat} (hd : u.deleted = []) (ha : u.added = [t])
    (hlt : ∀ x ∈ live, x < t) : applyEdit live u = live ++ [t] := by
  unfold applyEdit
  rw [hd, ha]
  congr 1
  rw [List.filter_eq_self]
  intro x hx
  have := hlt x hx
  simp
  omega

/-- the last view of the manifest without the table of a discarded transaction is good as well: the view the
    session holds -/
theorem ViewOK.drop_orphan {vl : MView} {u : MRec}
    (hvl : ViewOK d (must s) (issuedGrps s) vl) (hm : MirrorE s u vl) (hf : LimboFacts s d u) (ho : OrphanOK s d u) :
    ViewOK d (must s) (issuedGrps s) ⟨s.live, s.stJn, s.stSq, vl.nf⟩ ∧ vl.jn = s.stJn ∧ s.stSq ≤ s.seq ∧
      Holds' s.job fun j => u.added ≠ j.outs.map (·.1) := by
  obtain ⟨m1, m2, m3⟩ := hm
  obtain ⟨_, _, _, f4, f5, f6, _, _⟩ := hf
  obtain ⟨o1, o2, o3⟩ := ho
  obtain ⟨t, ht, hadd, _, o4⟩ := holds_iff.1 o3
  obtain ⟨tf, htf, _, _, o5⟩ := holds_iff.1 o4
  obtain ⟨g, _, hgrps, hgsq, hgm, _, hgfin, o6⟩ := holds_iff.1 o5
  have hjn : vl.jn = s.stJn := by rw [m2, o2]; rfl
  have hsq : s.stSq ≤ vl.sq := by rw [m3]; exact f5
  have hseq : s.stSq ≤ s.seq := by
    rw [hgsq] at f5
    simp only [Option.getD_some] at f5
    omega
  -- the transaction's table lies below the outputs of the job
  have hne : Holds' s.job fun j => u.added ≠ j.outs.map (·.1) := by
    refine Holds'.imp (o := s.job) o6 fun j hlt hx => ?_
    have hmem : t ∈ j.outs.map (·.1) := by rw [← hx, hadd]; exact List.mem_singleton.2 rfl
    obtain ⟨o', ho', hto⟩ := List.mem_map.1 hmem
    have := hlt o' ho'
    omega
  have hlive : vl.live = s.live ++ [t] := by
    rw [m1]
    exact applyEdit_orphan o1 hadd (fun x hx => (f6 x hx).1 t (by rw [hadd]; exact List.mem_singleton.2 rfl))
  have hsubL : ∀ x ∈ s.live, x ∈ vl.live := fun x hx => by rw [hlive]; exact List.mem_append_left _ hx
  have hsubG : ∀ x ∈ liveGrps d ⟨s.live, s.stJn, s.stSq, vl.nf⟩, x ∈ liveGrps d vl := by
    intro x hx
    obtain ⟨t', ht', hxt⟩ := List.mem_flatMap.1 hx
    exact List.mem_flatMap.2 ⟨t', hsubL t' ht', hxt⟩
  have hrel : relJournals d s.stJn = relJournals d vl.jn := by rw [hjn]
  refine ⟨⟨fun t' ht' => hvl.tables t' (hsubL t' ht'), fun x hx => ?_, fun x hx y hy => hvl.tdisj x (hsubG x hx) y (hsubG y hy),
    fun p hp x hx => ?_, fun x hx p hp y hy => hvl.tj x (hsubG x hx) p (by rw [← hrel]; exact hp) y hy,
    fun x hx => ?_, by show s.stJn < vl.nf; rw [← hjn]; exact hvl.jnf⟩, hjn, hseq, hne⟩
  · obtain ⟨_, b, c⟩ := hvl.tseq x (hsubG x hx)
    obtain ⟨t', ht', hxt⟩ := List.mem_flatMap.1 hx
    exact ⟨(f6 t' ht').2 x hxt, b, c⟩
  · have hp' : p ∈ relJournals d vl.jn := by rw [← hrel]; exact hp
    obtain ⟨a, b⟩ := hvl.jseq p hp' x hx
    refine ⟨a.imp (fun h1 => ?_) id, b⟩
    show s.stSq ≤ x.seq
    omega
  · rcases hvl.cover x hx with h1 | h1
    · left
      obtain ⟨t', ht', hxt⟩ := List.mem_flatMap.1 h1
      rw [hlive] at ht'
      rcases List.mem_append.1 ht' with h2 | h2
      · exact List.mem_flatMap.2 ⟨t', h2, hxt⟩
      · simp only [List.mem_singleton] at h2
        subst h2
        unfold tableGrpsOf at hxt
        rw [htf] at hxt
        simp only [Option.map_some, Option.getD_some, hgrps, List.mem_singleton] at hxt
        subst hxt
        exact absurd hx hgm
    · right
      rw [hrel]
      exact h1

theorem ViewOK.live_clause {M I : List Grp} {v : MView}
    (hvok : ViewOK d M I v) (m1 : v.live = s.live) (m3 : v.sq = s.stSq) (hadd : e.added = j.outs.map (·.1))
    (hfr : ∀ o ∈ j.outs, v.nf ≤ o.1) :
    ∀ t ∈ s.live, (∀ a ∈ e.added, t < a) ∧ ∀ g ∈ tableGrpsOf d t, g.fin ≤ s.stSq + 1 := by
  intro t ht
  rw [← m1] at ht
  refine ⟨fun a ha => ?_, fun g hg => ?_⟩
  · rw [hadd] at ha
    obtain ⟨o, ho, rfl⟩ := List.mem_map.1 ha
    have h1 := (hvok.tables t ht).1
    have h2 := hfr o ho
    omega
  · have := (hvok.tseq g (List.mem_flatMap.2 ⟨t, ht, hg⟩)).1
    omega

/-- what is known of the view the session holds once the edit `e` of its job is installed, relative to the manifest `CURRENT`
    names (`mf`, with its oldest admissible view `v0`) -/
structure CommitView (cfg : Cfg) (s : St) (d : Disk) (j : Job) (e : MRec) (mf : LogFile MRec) (v0 : MView) : Prop where
  parts : DiskOK.Parts cfg d (must s) (issuedGrps s) mf v0
  view : ViewOK d (must s) (issuedGrps s) ⟨applyEdit s.live e, e.jn.getD s.stJn, e.sq.getD s.stSq, s.nextFile⟩
  jn0 : v0.jn ≤ e.jn.getD s.stJn
  jn : s.stJn ≤ e.jn.getD s.stJn
  sqLe : e.sq.getD s.stSq ≤ sqCap s j
  jcur : s.phase = .running → e.jn.getD s.stJn ≤ s.jcur
  sq : s.stSq ≤ e.sq.getD s.stSq
  live : ∀ t ∈ s.live, (∀ a ∈ e.added, t < a) ∧ ∀ g ∈ tableGrpsOf d t, g.fin ≤ s.stSq + 1

theorem BaseView.commitView {v : MView} (hb : BaseView cfg s d j mf v0 v) (hed : EditOK s d j e v)
    (houts : ∀ o ∈ j.outs, lookup d.tables o.1 = some ⟨o.2, true, false⟩) : CommitView cfg s d j e mf v0 := by
  obtain ⟨m1, m2, m3⟩ := hb.mir
  have hext := hb.ok.extend hed (fun g hg => hg) (fun g hg => hg) houts s.nextFile hb.nf
    (fun o ho => (hed.fresh o ho).2) hed.mono.2.2.2.2
  have hlc := hb.ok.live_clause (s := s) (e := e) (j := j) m1 m3 hed.shape.1 (fun o ho => (hed.fresh o ho).1)
  have hm := hed.mono
  rw [m1, m2, m3] at hext
  have hmono := hb.mono
  rw [m2, m3] at hm
  rw [m2] at hmono
  exact ⟨hb.parts, hext, Nat.le_trans hmono hm.1, hm.1, hm.2.2.1, hm.2.2.2.1, hm.2.1, hlc⟩

/-- **the view the commit of the job's edit produces is good** — also while the storage is one edit ahead of the
    session: if that edit is the job's own (its commit is being retried) the view is the last view of the manifest;
    if it is a discarded transaction's, the session's view is that last view without the transaction's table -/
theorem Inv.commit_view' (h : Inv cfg s d) (hj : s.job = some j)
    (he : j.edit = some e) (hbc : j.pc.beforeCommit = true)
    (hpc : j.pc.tablesDone = true) : ∃ mf v0, CommitView cfg s d j e mf v0 := by
  have hok := h.jobOK hj
  cases hu : s.limbo with
  | none =>
    obtain ⟨mf, v0, v, hb⟩ := h.baseView hj hbc hu
    exact ⟨mf, v0, hb.commitView (h.editOK_base hj he hbc hb) (hok.outs_on_disk hbc hpc)⟩
  | some u =>
    have hph : s.phase = .running := Decidable.byContradiction fun hp => by
      have := h.limbo_none_of_not_running hp
      rw [hu] at this; cases this
    have hrun := h.run hph
    have hb := h.bounds_of hph
    have hlf := hrun.limbo.get hu
    obtain ⟨mf, v0, vl, hparts, hlv, hvl, hvok, hmono⟩ := h.disk.last
    have hbv := hb.all mf hparts.cur _ (Nat.le_refl _) vl hvl
    obtain ⟨m1, m2, m3⟩ : MirrorE s u vl := (MirrorL.of_some hu).1 ((hok.mirror_before hbc).view hlv)
    rcases hlf.owner with hown | horph
    · -- the job retries the commit of the edit the storage already shows
      rw [hj] at hown
      obtain ⟨hue, _⟩ : j.edit = some u ∧ j.pc.retry = true := hown
      rw [he] at hue
      cases hue
      have hsq := seqHi_ahead hj hu
      refine ⟨mf, v0, hparts, ?_, by rw [← m2]; exact hmono, hlf.jnLe, by rw [← m3, ← hsq]; exact hbv.1,
        fun hr => by rw [← m2]; exact hbv.2.2 hr, hlf.sqLe, hlf.live⟩
      have : vl = ⟨applyEdit s.live e, e.jn.getD s.stJn, e.sq.getD s.stSq, vl.nf⟩ := by
        cases vl; simp only at m1 m2 m3; simp [m1, m2, m3]
      rw [this] at hvok
      refine hvok.with_nf (fun t ht => ?_) ?_
      · have := (hvok.tables t ht).1
        exact Nat.lt_of_lt_of_le this hbv.2.1
      · exact Nat.lt_of_lt_of_le hvok.jnf hbv.2.1
    · -- a discarded transaction's edit: the session's view is the last view without its table
      obtain ⟨hvs, hjn, hseq, hne⟩ := hvok.drop_orphan ⟨m1, m2, m3⟩ hlf horph
      rw [hj] at hne
      rw [hjn] at hmono
      have hf := holds_some (holds_some (hok.fresh.2 hbc) hparts.cur _ (Nat.le_refl _)) hvl
      have hbase : BaseView cfg s d j mf v0 ⟨s.live, s.stJn, s.stSq, vl.nf⟩ :=
        ⟨hparts, hmono, ⟨rfl, rfl, rfl⟩, hvs, hseq, hbv.2.1,
          fun hr => by show s.stJn ≤ s.jcur; rw [← hjn]; exact hbv.2.2 hr,
          -- else the ghost edit were the job's
          fun o ho => (hf.1 o ho).resolve_right fun h0 => hne (hok.shape_at (h0.2.2.1.symm.trans hu)).1, hf.2⟩
      exact ⟨mf, v0, hbase.commitView (h.editOK_base hj he hbc hbase) (hok.outs_on_disk hbc hpc)⟩

end GoLevel.Dur

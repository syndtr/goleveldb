import GoLevel.Model.RecoverOps
import GoLevel.Proofs.DurableRead
import GoLevel.Proofs.DurableDisk
/-!
`Recover` at the level of storage operations: prefixes of operation lists, the table loop as a pure
function, and the invariant of phases 1 and 2 — whatever prefix of `recoverTable`'s operations has been made,
a `Recover` started afterwards reads exactly what the first one read (`TSame`).
-/
namespace GoLevel.Dur
open GoLevel

def Reach (ops : List ROp) (r r' : RDisk) : Prop := ∃ k, r' = r.applyAll (ops.take k)

theorem applyAll_append (r : RDisk) (a b : List ROp) : r.applyAll (a ++ b) = (r.applyAll a).applyAll b := by
  simp [RDisk.applyAll, List.foldl_append]

theorem applyAll_nil (r : RDisk) : r.applyAll [] = r := rfl

theorem applyAll_cons (r : RDisk) (o : ROp) (os : List ROp) : r.applyAll (o :: os) = (r.apply o).applyAll os := rfl

theorem reach_refl (ops : List ROp) (r : RDisk) : Reach ops r r := ⟨0, by simp [applyAll_nil]⟩

theorem reach_all (ops : List ROp) (r : RDisk) : Reach ops r (r.applyAll ops) :=
  ⟨ops.length, by rw [List.take_of_length_le (Nat.le_refl _)]⟩

theorem reach_nil_iff {r r' : RDisk} : Reach [] r r' ↔ r' = r :=
  ⟨fun ⟨k, h⟩ => by simpa [applyAll_nil] using h, fun h => h ▸ reach_refl [] r⟩

theorem reach_cons_iff {o : ROp} {os : List ROp} {r r' : RDisk} :
    Reach (o :: os) r r' ↔ r' = r ∨ Reach os (r.apply o) r' := by
  constructor
  · rintro ⟨k, rfl⟩
    cases k with
    | zero => exact Or.inl rfl
    | succ k => exact Or.inr ⟨k, rfl⟩
  · rintro (rfl | ⟨k, rfl⟩)
    · exact ⟨0, rfl⟩
    · exact ⟨k + 1, rfl⟩

theorem reach_append_iff {A B : List ROp} {r r' : RDisk} :
    Reach (A ++ B) r r' ↔ Reach A r r' ∨ Reach B (r.applyAll A) r' := by
  induction A generalizing r with
  | nil => exact ⟨Or.inr, fun h => h.elim (fun h => reach_nil_iff.1 h ▸ reach_refl B r) id⟩
  | cons o A ih => rw [List.cons_append, reach_cons_iff, reach_cons_iff, ih, or_assoc]; rfl

theorem reach_append_left {A B : List ROp} {r r' : RDisk} (h : Reach A r r') : Reach (A ++ B) r r' :=
  reach_append_iff.2 (Or.inl h)

theorem reach_append_right {A B : List ROp} {r r' : RDisk} (h : Reach B (r.applyAll A) r') : Reach (A ++ B) r r' :=
  reach_append_iff.2 (Or.inr h)

theorem reach_preserve {I : RDisk → Prop} {ops : List ROp} (hstep : ∀ op ∈ ops, ∀ r, I r → I (r.apply op))
    {r r' : RDisk} (h0 : I r) (h : Reach ops r r') : I r' := by
  induction ops generalizing r with
  | nil => rw [reach_nil_iff.1 h]; exact h0
  | cons o os ih =>
    rcases reach_cons_iff.1 h with rfl | h'
    · exact h0
    · exact ih (fun op hop => hstep op (List.mem_cons_of_mem _ hop)) (hstep o List.mem_cons_self r h0) h'

theorem maxSeqOf_foldl (es : List Entry) (a : Nat) :
    es.foldl (fun m e => max m e.seq) a = max a (maxSeqOf es) := by
  unfold maxSeqOf
  induction es generalizing a with
  | nil => simp
  | cons e es ih =>
    simp only [List.foldl_cons]
    rw [ih (max a e.seq), ih (max 0 e.seq)]
    omega

theorem maxSeqOf_nil : maxSeqOf [] = 0 := rfl

theorem maxSeqOf_append (a b : List Entry) : maxSeqOf (a ++ b) = max (maxSeqOf a) (maxSeqOf b) := by
  show (a ++ b).foldl _ 0 = _
  rw [List.foldl_append, maxSeqOf_foldl]
  rfl

theorem maxSeqOf_cons (e : Entry) (es : List Entry) : maxSeqOf (e :: es) = max e.seq (maxSeqOf es) := by
  show es.foldl _ (max 0 e.seq) = _
  rw [maxSeqOf_foldl, Nat.zero_max]

theorem maxSeqOf_le_iff {es : List Entry} {b : Nat} : maxSeqOf es ≤ b ↔ ∀ e ∈ es, e.seq ≤ b := by
  induction es with
  | nil => simp [maxSeqOf_nil]
  | cons y ys ih => rw [maxSeqOf_cons, Nat.max_le, ih, List.forall_mem_cons]

theorem maxSeqOf_ge (es : List Entry) : ∀ e ∈ es, e.seq ≤ maxSeqOf es := maxSeqOf_le_iff.1 (Nat.le_refl _)

/-- is table `n` recorded (`rec.addTable`) -/
def kept (cfg : RCfg) (r : RDisk) (n : Nat) : Bool := !(slotEnts cfg r n).isEmpty

theorem tableOne_acc (cfg : RCfg) (r : RDisk) (a : TAcc) (n : Nat) :
    (tableOne cfg r a n).2.added = a.added ++ (if kept cfg r n then [n] else []) ∧
    (tableOne cfg r a n).2.maxSeq = max a.maxSeq (maxSeqOf (slotEnts cfg r n)) := by
  unfold tableOne kept slotEnts
  cases hl : lookup r.disk.tables n with
  | none => simp [maxSeqOf_nil]
  | some t =>
    simp only
    by_cases hs : (cfg.strict && scanDamaged r n t) = true
    · simp [hs, maxSeqOf_nil]
    · have hs' : (cfg.strict && scanDamaged r n t) = false := Bool.eq_false_iff.2 hs
      by_cases he : ((scanGood t).flatMap Grp.ents).isEmpty = true
      · have : (scanGood t).flatMap Grp.ents = [] := List.isEmpty_iff.1 he
        simp [hs', this, maxSeqOf_nil]
      · have he' : ((scanGood t).flatMap Grp.ents).isEmpty = false := Bool.eq_false_iff.2 he
        simp only [hs', he', Bool.false_or, Bool.false_eq_true, if_false, Bool.not_false, if_true]
        by_cases hd : scanDamaged r n t = true <;> simp [hd]

theorem tableLoop_acc (cfg : RCfg) (r : RDisk) (ns : List Nat) (a : TAcc) :
    (tableLoop cfg r a ns).2.added = a.added ++ ns.filter (kept cfg r) ∧
    (tableLoop cfg r a ns).2.maxSeq = max a.maxSeq (maxSeqOf (ns.flatMap (slotEnts cfg r))) := by
  induction ns generalizing a with
  | nil => simp [tableLoop, maxSeqOf_nil]
  | cons n ns ih =>
    obtain ⟨i1, i2⟩ := ih (tableOne cfg r a n).2
    obtain ⟨o1, o2⟩ := tableOne_acc cfg r a n
    simp only [tableLoop, i1, i2, o1, o2, List.filter_cons, List.flatMap_cons, maxSeqOf_append]
    refine ⟨?_, by omega⟩
    by_cases hk : kept cfg r n = true <;> simp [hk]

theorem scanIn_table_ents (cfg : RCfg) (r : RDisk) :
    (scanIn cfg r).tables.flatMap (·.2) = (tableNums r).flatMap (slotEnts cfg r) := by
  simp only [scanIn, List.flatMap_map]

theorem tablePhase_acc (cfg : RCfg) (r : RDisk) :
    (tablePhase cfg r).2.added = (tableNums r).filter (kept cfg r) ∧
    (tablePhase cfg r).2.maxSeq = maxSeqOf ((scanIn cfg r).tables.flatMap (·.2)) := by
  obtain ⟨h1, h2⟩ := tableLoop_acc cfg r (tableNums r) {}
  unfold tablePhase
  rw [h1, h2, scanIn_table_ents]
  simp

/-- the tables `recoverTable` records are those it read something from -/
theorem mem_added_iff {cfg : RCfg} {r : RDisk} {n : Nat} :
    n ∈ (tablePhase cfg r).2.added ↔ n ∈ tableNums r ∧ slotEnts cfg r n ≠ [] := by
  rw [(tablePhase_acc cfg r).1, List.mem_filter]
  simp [kept]

theorem slotEnts_eq_of {cfg : RCfg} {r r' : RDisk} {n : Nat} (hl : lookup r'.disk.tables n = lookup r.disk.tables n)
    (hd : r'.dmg.contains n = r.dmg.contains n) : slotEnts cfg r' n = slotEnts cfg r n := by
  unfold slotEnts scanDamaged
  rw [hl, hd]

/-- `r` offers a `Recover` the same tables and journals as `r0`, and all its tables are durable -/
structure TSame (cfg : RCfg) (r0 r : RDisk) : Prop where
  nums : r.disk.tables.nums = r0.disk.tables.nums
  slot : ∀ n, slotEnts cfg r n = slotEnts cfg r0 n
  journals : r.disk.journals = r0.disk.journals
  tsynced : ∀ p ∈ r.disk.tables, p.2.synced = true
  dmgsub : ∀ n ∈ r.dmg, n ∈ r0.dmg

def MSame (r0 r : RDisk) : Prop := r.disk.current = r0.disk.current ∧ r.disk.manifests = r0.disk.manifests

theorem TSame.refl (cfg : RCfg) {r0 : RDisk} (h : r0.durable) : TSame cfg r0 r0 :=
  ⟨rfl, fun _ => rfl, rfl, h.2.2, fun _ h => h⟩

theorem TSame.of_eq {cfg : RCfg} {r0 r r' : RDisk} (h : TSame cfg r0 r) (ht : r'.disk.tables = r.disk.tables)
    (hj : r'.disk.journals = r.disk.journals) (hd : r'.dmg = r.dmg) : TSame cfg r0 r' := by
  refine ⟨by rw [ht]; exact h.nums, fun n => ?_, by rw [hj]; exact h.journals, by rw [ht]; exact h.tsynced,
    by rw [hd]; exact h.dmgsub⟩
  rw [← h.slot n]
  exact slotEnts_eq_of (by rw [ht]) (by rw [hd])

/-- a manifest operation, `SetMeta`, … : anything that leaves tables and journals alone -/
def ROp.quiet : ROp → Bool
  | .base (.create .manifest _) => true
  | .base (.writeM _ _) => true
  | .base (.sync .manifest _) => true
  | .base (.remove .manifest _) => true
  | .base (.setMeta _) => true
  | .base (.close _ _) => true
  | _ => false

theorem quiet_apply {op : ROp} (h : op.quiet = true) (r : RDisk) :
    (r.apply op).disk.tables = r.disk.tables ∧ (r.apply op).disk.journals = r.disk.journals ∧
    (r.apply op).dmg = r.dmg := by
  -- kind by kind: the operation leaves the three components alone by definition, or it is not quiet
  cases op with
  | base o =>
    cases o <;> first
      | exact ⟨rfl, rfl, rfl⟩
      | (rename_i k _; cases k <;> first | exact ⟨rfl, rfl, rfl⟩ | cases h)
      | cases h
  | _ => cases h

theorem TSame.quiet {cfg : RCfg} {r0 r : RDisk} (h : TSame cfg r0 r) {op : ROp} (hq : op.quiet = true) :
    TSame cfg r0 (r.apply op) := by
  obtain ⟨a, b, c⟩ := quiet_apply hq r
  exact h.of_eq a b c

theorem slotEnts_ne_nil {cfg : RCfg} {r : RDisk} {n : Nat} (h : slotEnts cfg r n ≠ []) :
    ∃ t, lookup r.disk.tables n = some t ∧ t.bad = false ∧ t.grps.flatMap Grp.ents = slotEnts cfg r n := by
  unfold slotEnts at h ⊢
  cases hl : lookup r.disk.tables n with
  | none => rw [hl] at h; exact absurd rfl h
  | some t =>
    rw [hl] at h
    simp only at h ⊢
    by_cases hs : (cfg.strict && scanDamaged r n t) = true
    · rw [if_pos hs] at h; exact absurd rfl h
    · rw [if_neg hs] at h ⊢
      cases hb : t.bad with
      | false => exact ⟨t, rfl, hb, by simp [scanGood, hb]⟩
      | true => simp [scanGood, hb] at h

/-- the rebuild of table `n` (`buildTable` + `Rename`), complete -/
theorem rebuild_block (r : RDisk) (k n : Nat) (good : List Grp) :
    r.applyAll [.createTemp k, .writeTemp k good, .syncTemp k, .renameTemp k n] =
      { disk := { r.disk with tables := r.disk.tables.set n ⟨good, true, false⟩ }
        temps := (((r.temps.set k {}).modify k fun t => { t with grps := good }).modify k
                    fun t => { t with synced := true }).erase k
        dmg := r.dmg.filter (· ≠ n) } := by
  simp only [RDisk.applyAll, List.foldl_cons, List.foldl_nil, RDisk.apply, lookup_modify, lookup_set, if_true,
    Option.map_some]

theorem reach_rebuild_block {r r' : RDisk} {k n : Nat} {good : List Grp}
    (h : Reach [.createTemp k, .writeTemp k good, .syncTemp k, .renameTemp k n] r r') :
    (r'.disk = r.disk ∧ r'.dmg = r.dmg) ∨
    r' = r.applyAll [.createTemp k, .writeTemp k good, .syncTemp k, .renameTemp k n] := by
  simp only [reach_cons_iff, reach_nil_iff] at h
  rcases h with rfl | rfl | rfl | rfl | rfl
  iterate 4 exact Or.inl ⟨rfl, rfl⟩
  exact Or.inr rfl

/-- replacing a damaged table by its readable part does not change what a `Recover` reads -/
theorem TSame.rebuild {cfg : RCfg} {r0 r : RDisk} (h : TSame cfg r0 r) {n : Nat} {t0 : TableFile}
    (hl : lookup r0.disk.tables n = some t0) (hs : (cfg.strict && scanDamaged r0 n t0) = false) (k : Nat) :
    TSame cfg r0 (r.applyAll [.createTemp k, .writeTemp k (scanGood t0), .syncTemp k, .renameTemp k n]) := by
  rw [rebuild_block]
  have hn : n ∈ r.disk.tables.nums := by
    rw [h.nums]; exact lookup_isSome_iff.1 (by rw [hl]; rfl)
  refine ⟨?_, fun n' => ?_, h.journals, ?_, fun x hx => h.dmgsub x (List.mem_filter.1 hx).1⟩
  · show (r.disk.tables.set n _).nums = _
    rw [set_nums_of_mem _ hn]; exact h.nums
  · by_cases hn' : n' = n
    · subst hn'
      have h0 : slotEnts cfg r0 n' = (scanGood t0).flatMap Grp.ents := by
        simp only [slotEnts, hl, hs]; rfl
      rw [h0]
      simp only [slotEnts, lookup_set, if_true, scanDamaged, scanGood]
      simp
    · rw [← h.slot n']
      refine slotEnts_eq_of (by rw [lookup_set, if_neg hn']) ?_
      rw [Bool.eq_iff_iff]
      simp only [List.contains_iff_mem, List.mem_filter, decide_eq_true_eq]
      exact ⟨fun x => x.1, fun x => ⟨x, hn'⟩⟩
  · intro p hp
    rcases mem_set_imp hp with rfl | hp
    · rfl
    · exact h.tsynced p hp

theorem tableOne_ops (cfg : RCfg) (r : RDisk) (a : TAcc) (n : Nat) :
    (tableOne cfg r a n).1 = [] ∨ ∃ t, lookup r.disk.tables n = some t ∧ (cfg.strict && scanDamaged r n t) = false ∧
      (tableOne cfg r a n).1 =
        [.createTemp a.tmp, .writeTemp a.tmp (scanGood t), .syncTemp a.tmp, .renameTemp a.tmp n] := by
  unfold tableOne
  cases hl : lookup r.disk.tables n with
  | none => exact Or.inl rfl
  | some t =>
    simp only
    split
    · exact Or.inl rfl
    · rename_i hc
      split
      · exact Or.inr ⟨t, rfl, by cases h : (cfg.strict && scanDamaged r n t) <;> simp_all, rfl⟩
      · exact Or.inl rfl

/-- **phase 1**: after any prefix of the table loop's operations, a `Recover` reads what the first one read, and
    `CURRENT` and the manifests have not been touched -/
theorem tableLoop_reach (cfg : RCfg) (r0 : RDisk) (ns : List Nat) (a : TAcc) (r r' : RDisk)
    (hT : TSame cfg r0 r) (hM : MSame r0 r) (h : Reach (tableLoop cfg r0 a ns).1 r r') :
    TSame cfg r0 r' ∧ MSame r0 r' := by
  induction ns generalizing a r with
  | nil => rw [reach_nil_iff.1 h]; exact ⟨hT, hM⟩
  | cons n ns ih =>
    simp only [tableLoop] at h
    have hone : ∀ r'', Reach (tableOne cfg r0 a n).1 r r'' → TSame cfg r0 r'' ∧ MSame r0 r'' := by
      intro r'' hr
      rcases tableOne_ops cfg r0 a n with e | ⟨t0, hl, hs, e⟩ <;> rw [e] at hr
      · rw [reach_nil_iff.1 hr]; exact ⟨hT, hM⟩
      · rcases reach_rebuild_block hr with ⟨e1, e2⟩ | rfl
        · exact ⟨hT.of_eq (by rw [e1]) (by rw [e1]) e2, by unfold MSame; rw [e1]; exact hM⟩
        · exact ⟨hT.rebuild hl hs _, by rw [rebuild_block]; exact hM⟩
    rcases reach_append_iff.1 h with h1 | h2
    · exact hone _ h1
    · obtain ⟨t1, m1⟩ := hone _ (reach_all _ r)
      exact ih _ _ t1 m1 h2

end GoLevel.Dur

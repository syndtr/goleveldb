import GoLevel.Proofs.IterLevel
import GoLevel.Proofs.IterStack
import GoLevel.Proofs.LSMLookup
import GoLevel.Proofs.LSMCompact
/-!
# The iterator stack over the sources of the LSM model (`dbGet`'s sources)

`Source`: what `DB.newIterator` merges before range restriction (array-like buffers and tables; sorted levels, one
indexed iterator each).  `dbSources` lists them in iterator order for the sources `dbGet` searches.
-/
namespace GoLevel

inductive Source
  | arr (L : List Entry)
  | level (tables : List (List Entry))

namespace Source

def list : Source → List Entry
  | .arr L => L
  | .level ts => ts.flatten

def OK (c : UCmp) : Source → Prop
  | .arr L => SortedEntries c L
  | .level ts => LevelOK c ts

/-- the child iterator `newRawIterator` creates for the source (`memDB.NewIterator(slice)`,
`tOps.newIterator(t, slice)`, `NewIndexedIterator(tables.newIndexIterator(slice))`) -/
def node (c : UCmp) (start limit : Option IKey) : Source → Node
  | .arr L => .arr (ArrIter.new c L start limit)
  | .level ts => .idx (levelIter c ts start limit)

def spec (c : UCmp) (start limit : Option IKey) : Source → NodeSpec
  | .arr L => .arr (sliceOf c L start limit)
  | .level ts => .idx (levelIter c ts start limit).children

theorem spec_fresh (c : UCmp) (start limit : Option IKey) (s : Source) :
    (s.spec c start limit).fresh = s.node c start limit := by
  cases s <;> rfl

theorem spec_list {c : UCmp} (hl : LawfulUCmp c) (start limit : Option IKey) (s : Source) (hok : s.OK c) :
    (s.spec c start limit).list = sliceOf c s.list start limit := by
  cases s with
  | arr L => rfl
  | level ts => exact levelIter_flat hl hok start limit

theorem spec_ok {c : UCmp} (hl : LawfulUCmp c) (start limit : Option IKey) (s : Source) (hok : s.OK c) :
    (s.spec c start limit).OK c := by
  cases s with
  | arr L => trivial
  | level ts => exact levelIter_idxOK hl hok start limit

theorem list_sorted {c : UCmp} (s : Source) (hok : s.OK c) : SortedEntries c s.list := by
  cases s with
  | arr L => exact hok
  | level ts => exact hok.sorted

end Source

/-- the sorted union of entries with pairwise distinct keys (insertion sort, `insertSorted` of the LSM model) -/
def sortedUnion (c : UCmp) (es : List Entry) : List Entry :=
  es.foldl (fun acc e => insertSorted c e acc) []

theorem sortedUnion_perm (c : UCmp) (es : List Entry) : (sortedUnion c es).Perm es := by
  have := foldl_insert_perm (c := c) es []
  rwa [List.append_nil] at this

/-- the children of `newRawIterator` before range restriction: aux memdb, aux tables, write buffer, frozen
buffer, every level-0 table, one sorted level per non-empty deeper level (`version.getIterators`) -/
def dbSources (auxm : Option (List Entry)) (aux : Level) (mem : List Entry) (frozen : Option (List Entry))
    (v : Version) : List Source :=
  auxm.toList.map .arr ++ (aux.map (fun t => .arr t.entries) ++ (.arr mem :: (frozen.toList.map .arr ++
    ((v.levels.headD []).map (fun t => .arr t.entries) ++
      ((v.levels.drop 1).filter (fun l => !l.isEmpty)).map (fun l => .level (l.map (·.entries)))))))

theorem flatMap_arr_entries (l : Level) :
    (l.map (fun t => Source.arr t.entries)).flatMap (·.list) = Level.entries l := by
  simp [Level.entries, List.flatMap_map, Source.list]

theorem flatMap_levels (ls : List Level) :
    ((ls.filter (fun l => !l.isEmpty)).map (fun l => Source.level (l.map (·.entries)))).flatMap (·.list)
      = ls.flatMap Level.entries := by
  induction ls with
  | nil => rfl
  | cons l ls ih =>
    cases l with
    | nil => simpa [Level.entries] using ih
    | cons t ts =>
      simp only [List.filter_cons, List.isEmpty_cons, Bool.not_false, if_true, List.map_cons,
        List.flatMap_cons, ih]
      simp [Source.list, Level.entries, List.flatMap_def]

theorem version_entries_split (v : Version) :
    v.entries = Level.entries (v.levels.headD []) ++ (v.levels.drop 1).flatMap Level.entries := by
  cases h : v.levels with
  | nil => simp [Version.entries, h, Level.entries]
  | cons l ls => simp [Version.entries, h]

theorem dbSources_flat (auxm : Option (List Entry)) (aux : Level) (mem : List Entry)
    (frozen : Option (List Entry)) (v : Version) :
    (dbSources auxm aux mem frozen v).flatMap (·.list)
      = auxm.getD [] ++ (Level.entries aux ++ (mem ++ (frozen.getD [] ++ v.entries))) := by
  simp only [dbSources, List.flatMap_append, List.flatMap_cons, flatMap_arr_entries, flatMap_levels,
    version_entries_split]
  congr 1
  · cases auxm <;> simp [Source.list]
  · congr 2
    cases frozen <;> simp [Source.list]

theorem dbSources_perm (auxm : Option (List Entry)) (aux : Level) (mem : List Entry)
    (frozen : Option (List Entry)) (v : Version) :
    ((dbSources auxm aux mem frozen v).flatMap (·.list)).Perm (dbEntries auxm aux mem frozen v) := by
  rw [dbSources_flat, dbEntries]
  apply List.Perm.append_left
  have h1 : (Level.entries aux ++ (mem ++ (frozen.getD [] ++ v.entries))).Perm
      ((mem ++ frozen.getD []) ++ (Level.entries aux ++ v.entries)) := by
    rw [← List.append_assoc mem, ← List.append_assoc (Level.entries aux), ← List.append_assoc (mem ++ _)]
    exact List.Perm.append_right _ List.perm_append_comm
  rw [List.append_assoc] at h1
  exact h1

theorem dbSources_mem (auxm : Option (List Entry)) (aux : Level) (mem : List Entry)
    (frozen : Option (List Entry)) (v : Version) (e : Entry) :
    e ∈ (dbSources auxm aux mem frozen v).flatMap (·.list) ↔ e ∈ dbEntries auxm aux mem frozen v :=
  (dbSources_perm auxm aux mem frozen v).mem_iff

section
variable {c : UCmp} (hl : LawfulUCmp c)
include hl

omit hl in
theorem Version.wfB_tables {v : Version} (h : v.wfB c = true) (l : Level) (hlm : l ∈ v.levels) (t : Table)
    (ht : t ∈ l) : t.wfB c = true := by
  simp only [Version.wfB, Bool.and_eq_true, List.all_eq_true] at h
  exact h.1.1 l hlm t ht

omit hl in
theorem Version.wfB_disjoint {v : Version} (h : v.wfB c = true) (l : Level) (hlm : l ∈ v.levels.drop 1) :
    levelDisjointB c l = true := by
  simp only [Version.wfB, Bool.and_eq_true, List.all_eq_true] at h
  exact h.1.2 l hlm

theorem dbSources_ok (auxm : Option (List Entry)) (aux : Level) (mem : List Entry)
    (frozen : Option (List Entry)) (v : Version)
    (hA : SortedEntries c (auxm.getD [])) (hM : SortedEntries c mem) (hF : SortedEntries c (frozen.getD []))
    (haux : ∀ t ∈ aux, t.wfB c = true) (hwf : v.wfB c = true) :
    ∀ s ∈ dbSources auxm aux mem frozen v, s.OK c := by
  intro s hs
  simp only [dbSources, List.mem_append, List.mem_cons, List.mem_map] at hs
  rcases hs with ⟨L, hL, rfl⟩ | ⟨t, ht, rfl⟩ | rfl | ⟨L, hL, rfl⟩ | ⟨t, ht, rfl⟩ | ⟨l, hlm, rfl⟩
  · cases auxm with
    | none => simp at hL
    | some A => simp at hL; subst hL; exact hA
  · exact Table.wf_sorted hl (haux t ht)
  · exact hM
  · cases frozen with
    | none => simp at hL
    | some F => simp at hL; subst hL; exact hF
  · have hl0 : v.levels.headD [] ∈ v.levels := by
      cases hv : v.levels with
      | nil => rw [hv] at ht; simp at ht
      | cons l ls => simp
    exact Table.wf_sorted hl (Version.wfB_tables hwf _ hl0 t ht)
  · obtain ⟨hld, _⟩ := List.mem_filter.1 hlm
    have hlv : l ∈ v.levels := List.mem_of_mem_drop hld
    have hts : ∀ t ∈ l, t.wfB c = true := fun t ht => Version.wfB_tables hwf l hlv t ht
    refine ⟨?_, ?_⟩
    · intro es hes
      obtain ⟨t, ht, rfl⟩ := List.mem_map.1 hes
      exact Table.wf_ne_nil (hts t ht)
    · have := Level.entries_sorted hl l hts (Version.wfB_disjoint hwf l hld)
      simpa [Level.entries, List.flatMap_def] using this

theorem mergeOK_sortedUnion (srcs : List Source) (hok : ∀ s ∈ srcs, s.OK c)
    (hd : (srcs.flatMap (·.list)).Pairwise (fun a b => a.key ≠ b.key)) :
    MergeOK c (srcs.map (·.list)) (sortedUnion c (srcs.flatMap (·.list))) := by
  refine .of_perm hl (foldl_insert_sorted hl _ [] List.Pairwise.nil (by simpa using hd)) ?_ fun L hL => ?_
  · rw [← List.flatMap_def]; exact sortedUnion_perm c _
  · obtain ⟨s, hs, rfl⟩ := List.mem_map.1 hL
    exact s.list_sorted (hok s hs)

end
end GoLevel

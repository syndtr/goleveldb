import GoLevel.Model.Seek
import GoLevel.Proofs.LSMWf
/-!
# Every table a lookup consults — in particular the one it charges — is a table of the version, at the level named
-/
namespace GoLevel.Seek
open GoLevel

theorem levelVisit_mem (c : UCmp) (tables : Level) (k : Bytes) (s : Nat) (t : Table)
    (h : levelVisit c tables k s = some t) : t ∈ tables := by
  unfold levelVisit at h
  cases hs : searchMax c tables (probe k s) with
  | none => rw [hs] at h; cases h
  | some t' =>
    rw [hs] at h
    simp only at h
    split at h
    · cases h; exact List.mem_of_find?_eq_some hs
    · cases h

theorem deeperVisits_mem (c : UCmp) (all : List Level) (k : Bytes) (s : Nat) (l : Nat) (t : Table) (lvl : Nat)
    (h : (l, t) ∈ deeperVisits c lvl (all.drop lvl) k s) : t ∈ all[l]?.getD [] := by
  induction hn : all.length - lvl generalizing lvl with
  | zero =>
    rw [List.drop_eq_nil_of_le (Nat.le_of_sub_eq_zero hn), deeperVisits] at h
    cases h
  | succ _ ih =>
    have hlt := Nat.lt_of_sub_eq_succ hn
    rw [List.drop_eq_getElem_cons hlt, deeperVisits] at h
    -- a member is this level's visit or a visit of a deeper level
    have : (levelVisit c all[lvl] k s = some t ∧ l = lvl) ∨
        (l, t) ∈ deeperVisits c (lvl + 1) (all.drop (lvl + 1)) k s := by
      split at h
      next hv =>
        split at h
        · cases List.mem_singleton.1 h
          exact .inl ⟨hv, rfl⟩
        · rcases List.mem_cons.1 h with h | h
          · cases h
            exact .inl ⟨hv, rfl⟩
          · exact .inr h
      · exact .inr h
    rcases this with ⟨hv, rfl⟩ | h
    · rw [List.getElem?_eq_getElem hlt]
      exact levelVisit_mem c _ k s t hv
    · exact ih (lvl + 1) h (by rw [Nat.sub_add_eq, hn]; rfl)

theorem visits_mem (c : UCmp) (aux : Level) (v : Version) (k : Bytes) (s : Nat) (l : Nat) (t : Table)
    (h : (l, t) ∈ visits c aux v k s) : t ∈ v.lvl l := by
  unfold visits at h
  split at h
  · cases h
  split at h
  · cases h
  next l0 rest hlv =>
    rcases List.mem_append.1 h with h | h
    · obtain ⟨t', ht', he⟩ := List.mem_map.1 h
      cases he
      have : v.lvl 0 = l0 := by simp [Version.lvl, hlv]
      rw [this]
      exact (List.mem_filter.1 ht').1
    · split at h
      · cases h
      · exact deeperVisits_mem c v.levels k s l t 1 (by rw [hlv]; exact h)

/-! ## the lookup probes exactly the tables the walk visits, so a lookup that consults nothing finds nothing -/

theorem l0Get_eq_visits (c : UCmp) (tables : Level) (k : Bytes) (s : Nat) :
    l0Get c tables k s = (l0Visits c tables k).foldl (fun best t => pickLater best (tableProbe c t k s)) none := by
  unfold l0Get l0Visits
  rw [List.foldl_filter]
  rfl

theorem levelGet_eq_bind (c : UCmp) (tables : Level) (k : Bytes) (s : Nat) :
    levelGet c tables k s = (levelVisit c tables k s).bind (tableProbe c · k s) := by
  unfold levelGet levelVisit
  cases searchMax c tables (probe k s) with
  | none => rfl
  | some t => dsimp only; split <;> rfl

theorem deeperGet_miss_of_no_visits (c : UCmp) (ls : List Level) (k : Bytes) (s : Nat) :
    ∀ lvl, deeperVisits c lvl ls k s = [] → deeperGet c ls k s = .miss := by
  induction ls with
  | nil => intro _ _; rfl
  | cons l tl ih =>
    intro lvl h
    unfold deeperVisits at h
    unfold deeperGet
    rw [levelGet_eq_bind]
    cases hv : levelVisit c l k s with
    | some t =>
      rw [hv] at h
      simp only at h
      cases hp : tableProbe c t k s <;> rw [hp] at h <;> simp at h
    | none =>
      rw [hv] at h
      exact ih (lvl + 1) h

end GoLevel.Seek

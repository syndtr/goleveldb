import GoLevel.Proofs.DurableStepFault
/-!
The creation of the DB in front of the machine (`Dur.bigStep`): while `session.create` runs the storage holds at
most manifest 1 and no `CURRENT`, every crash image of it is "no DB" for the next `Open`
(`Cfg.manifestsAloneAreNoDB`, the repair of D12); when `SetMeta` has taken effect the storage is that of
`Dur.created`, where the invariant of the machine holds.
-/
namespace GoLevel.Dur

def CDisk (pc : CPc) (d : Disk) : Prop :=
  d.current = none ∧ d.journals = [] ∧ d.tables = [] ∧
  match pc with
  | .idle => d.manifests = [] ∨ ∃ f, d.manifests = [(1, f)]
  | .made => d.manifests = [(1, ⟨[], []⟩)]
  | .written => d.manifests = [(1, ⟨[], [snap0]⟩)]
  | .synced => d.manifests = [(1, ⟨[snap0], []⟩)]

theorem CDisk.toIdle {pc : CPc} {d : Disk} (h : CDisk pc d) : CDisk .idle d := by
  obtain ⟨h1, h2, h3, h4⟩ := h
  refine ⟨h1, h2, h3, ?_⟩
  cases pc <;> simp only at h4
  · exact h4
  all_goals exact Or.inr ⟨_, h4⟩

theorem CDisk.crash {pc : CPc} {d : Disk} (h : CDisk pc d) (ch : CrashChoice) : CDisk .idle (crashWith ch d) := by
  obtain ⟨h1, h2, h3, h4⟩ := h.toIdle
  refine ⟨h1, by simp [crashWith, h2], by simp [crashWith, h3], ?_⟩
  show (d.manifests.map _) = [] ∨ ∃ f, (d.manifests.map _) = [(1, f)]
  rcases h4 with h4 | ⟨f, h4⟩ <;> rw [h4]
  · exact Or.inl rfl
  · exact Or.inr ⟨_, rfl⟩

/-- every crash image of a storage on which the DB is being created is "no DB" -/
theorem CDisk.open_fresh {cfg : Cfg} (hc : cfg.manifestsAloneAreNoDB = true) {pc : CPc} {d : Disk} (h : CDisk pc d) :
    recoverR cfg d = .ok freshRState := by
  rw [recoverR_no_manifest cfg (by rw [curManifest, h.1]; rfl), if_neg]
  simp [refusesNoEntry, h.1, h.2.1, h.2.2.1, hc]

/-- the cleanup of a failed `newManifest(nil, nil)`: manifest 1 is gone (or was never made) -/
theorem CDisk.undo {pc : CPc} {d : Disk} (h : CDisk pc d) : CDisk .idle (d.apply (.remove .manifest 1)) := by
  obtain ⟨h1, h2, h3, h4⟩ := h.toIdle
  refine ⟨h1, h2, h3, Or.inl ?_⟩
  show d.manifests.erase 1 = []
  rcases h4 with h4 | ⟨f, h4⟩ <;> rw [h4] <;> rfl

theorem inv_created (cfg : Cfg) : Inv cfg created.1 created.2 :=
  of_decide_eq_true rfl

/-- `SetMeta` took effect and `Open` returned its error: the process is gone -/
theorem inv_created_crashed (cfg : Cfg) : Inv cfg { phase := .crashed } created.2 :=
  inv_exit (inv_created cfg)

/-- the invariant of the machine with the creation in front; nothing has been issued while the DB is created -/
def BigInv (cfg : Cfg) : Big → Prop
  | .creating pc d => CDisk pc d
  | .db s d => InvL cfg s d

/-- an operation of `session.create` that leads from `pc` to `pc'` when it takes effect: it succeeds, or the cleanup
    removes manifest 1 (made or not) -/
theorem bigInv_cop {cfg : Cfg} {pc pc' : CPc} {d : Disk} (h : CDisk pc d) {op : Op} (hop : CDisk pc' (d.apply op))
    {o : Outcome} {b : Big}
    (hs : (if o.failed = true then some (Big.creating .idle ((d.exec op o).apply (.remove .manifest 1)))
      else some (Big.creating pc' (d.exec op o))) = some b) : BigInv cfg b := by
  cases o <;> cases hs
  · exact hop
  · exact h.undo
  · exact hop.undo

theorem bigInv_cstep {cfg : Cfg} {pc : CPc} {d : Disk} (h : CDisk pc d) {o : Outcome} {gm : Bool}
    (hok : pc = .synced → o = .failEffect →
      (cfg.cleanupChecksCurrent && (if gm then cfg.cleanupKeepsWhenGetMetaFails else true)) = true)
    {b : Big} (hs : bigStep cfg (.creating pc d) (.c o gm) = some b) : BigInv cfg b := by
  have ⟨h1, h2, h3, h4⟩ := h
  cases pc with
  | idle =>
    simp only [bigStep, h1] at hs
    split at hs
    · exact bigInv_cop h (pc' := .made) (op := .create .manifest 1) ⟨h1, h2, h3, by
        show d.manifests.set 1 {} = _; rcases h4 with h4 | ⟨f, h4⟩ <;> rw [h4] <;> rfl⟩ hs
    · cases hs
  | made =>
    exact bigInv_cop h (pc' := .written) (op := .writeM 1 snap0)
      ⟨h1, h2, h3, by show d.manifests.modify 1 (·.append snap0) = _; rw [h4]; rfl⟩ hs
  | written =>
    exact bigInv_cop h (pc' := .synced) (op := .sync .manifest 1)
      ⟨h1, h2, h3, by show d.manifests.modify 1 (·.sync) = _; rw [h4]; rfl⟩ hs
  | synced =>
    have hsm : d.apply (.setMeta 1) = created.2 := by
      obtain ⟨c, m, j, t⟩ := d
      simp only at h1 h2 h3 h4
      subst h1 h2 h3 h4
      rfl
    simp only [bigStep] at hs
    cases o with
    | ok =>
      cases hs
      rw [show d.exec (.setMeta 1) .ok = _ from hsm]
      exact ⟨inv_created cfg, Or.inl rfl⟩
    | failNoEffect =>
      simp only [Outcome.failed, Disk.exec, if_true, reduceCtorEq, if_false] at hs
      repeat' split at hs
      all_goals (cases hs; first | exact h.toIdle | exact h.undo)
    | failEffect =>
      have hk := hok rfl rfl
      simp only [Outcome.failed, Disk.exec, if_true, decide_true] at hs
      rw [if_pos hk] at hs
      cases hs
      rw [hsm]
      exact ⟨inv_created_crashed cfg, Or.inl rfl⟩

theorem bigInv_init0 (cfg : Cfg) : BigInv cfg init0 := ⟨rfl, rfl, rfl, Or.inl rfl⟩

/-- the invariant along a run of the machine with the creation in front: `P` are the admitted faults of the DB's
    actions (`hstep`: they preserve the invariant of the machine), `Q` those of the creation -/
theorem bigInv_run {cfg : Cfg} {P : St × Disk → Act → Bool} {Q : CPc → Outcome → Bool → Bool}
    (hstep : ∀ s d a s' d', InvL cfg s d → P (s, d) a = true → step cfg s d a = some (s', d') → InvL cfg s' d')
    (hQ : ∀ pc o gm, Q pc o gm = true → pc = .synced → o = .failEffect →
      (cfg.cleanupChecksCurrent && (if gm then cfg.cleanupKeepsWhenGetMetaFails else true)) = true)
    {b b' : Big} (h : BigInv cfg b) (xs : List BAct)
    (hal : bigAllowed cfg P Q b xs = true) (hr : bigRun cfg b xs = some b') : BigInv cfg b' := by
  induction xs generalizing b with
  | nil => simp only [bigRun, Option.some.injEq] at hr; subst hr; exact h
  | cons x xs ih =>
    simp only [bigRun] at hr
    unfold bigAllowed at hal
    rw [Bool.and_eq_true] at hal
    obtain ⟨hx, hrest⟩ := hal
    cases hs : bigStep cfg b x with
    | none => rw [hs] at hr; cases hr
    | some b1 =>
      rw [hs] at hr hrest
      simp only at hr hrest
      refine ih ?_ hrest hr
      cases b with
      | creating pc d =>
        cases x with
        | c o gm => exact bigInv_cstep h (hQ pc o gm hx) hs
        | ccrash ch =>
          simp only [bigStep, Option.some.injEq] at hs
          subst hs
          exact CDisk.crash h ch
        | a act => simp [bigStep] at hs
      | db s d =>
        cases x with
        | a act =>
          simp only [bigStep, Option.map_eq_some_iff] at hs
          obtain ⟨sd, hsd, rfl⟩ := hs
          exact hstep s d act sd.1 sd.2 h hx hsd
        | c o gm => simp [bigStep] at hs
        | ccrash ch => simp [bigStep] at hs

/-- file numbers are not repeated (a crash choice is keyed by them) -/
theorem BigInv.nodup {cfg : Cfg} {b : Big} (h : BigInv cfg b) :
    b.disk.manifests.Pairwise (fun p q => p.1 ≠ q.1) ∧ b.disk.journals.Pairwise (fun p q => p.1 ≠ q.1) := by
  cases b with
  | creating pc d =>
    obtain ⟨_, h2, _, h4⟩ := (h : CDisk pc d).toIdle
    refine ⟨?_, by show d.journals.Pairwise _; rw [h2]; exact List.Pairwise.nil⟩
    show d.manifests.Pairwise _
    rcases h4 with h4 | ⟨f, h4⟩ <;> rw [h4]
    · exact List.Pairwise.nil
    · exact List.pairwise_singleton _ _
  | db s d => exact ⟨(h : InvL cfg s d).1.disk.mnodup, sorted_nodup (h : InvL cfg s d).1.disk.jsorted⟩

theorem bigAllowed_true (cfg : Cfg) (b : Big) (xs : List BAct) :
    bigAllowed cfg (fun _ _ => true) (fun _ _ _ => true) b xs = true := by
  induction xs generalizing b with
  | nil => rfl
  | cons x xs ih =>
    unfold bigAllowed
    rw [Bool.and_eq_true]
    refine ⟨by split <;> rfl, ?_⟩
    cases bigStep cfg b x with
    | none => rfl
    | some b' => exact ih b'

/-- every crash image of every state of the machine with the creation in front opens: as "no DB" while the DB is
    being created, with everything that must survive afterwards -/
theorem BigInv.open_ok {cfg : Cfg} (hn : cfg.failedRecordLeavesNoTrace = true) (hc : cfg.manifestsAloneAreNoDB = true)
    {b : Big} (h : BigInv cfg b) (ch : CrashChoice) :
    ∃ r, recoverR cfg (crashWith ch b.disk) = .ok r ∧ GoodOpen (must b.st) (issuedGrps b.st) r := by
  cases b with
  | creating pc d =>
    refine ⟨freshRState, (CDisk.crash h ch).open_fresh hc, ?_⟩
    constructor <;> intro g hg <;> cases hg
  | db s d => exact ((h : InvL cfg s d).1.disk.crash hn ch).open_ok

end GoLevel.Dur

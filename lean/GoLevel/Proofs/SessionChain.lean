import GoLevel.Proofs.SessionEdit
import GoLevel.Proofs.RefLoopFStep
/-! The message sequence of `session.setVersion` run through the reference loop (C07). -/
namespace GoLevel.Session
open GoLevel GoLevel.RefLoop

structure LoopOK (S : State) (G : EnvF) (R : List Nat) : Prop where
  inv : InvF S G
  gl : GL G S.next
  hist : HistC S G R

theorem loop_step {S : State} {G G' : EnvF} {m : Msg} {R : List Nat} (h : LoopOK S G R)
    (hs : EnvStepF S.next G m G') :
    ∃ S' rm, step S m = some (S', rm) ∧ LoopOK S' G' (R ++ rm) ∧ S.next ≤ S'.next ∧ SafeF G' S'.next rm := by
  obtain ⟨S', rm, h1, h2, h3, h4, h5, h6⟩ := step_invF h.inv h.gl h.hist hs
  exact ⟨S', rm, h1, ⟨h2, h4, h6⟩, h3, h5⟩

theorem single_chain {S : State} {G G' : EnvF} {m : Msg} {R : List Nat} (h : LoopOK S G R)
    (hs : EnvStepF S.next G m G') :
    ∃ S' rm, run S [m] = some (S', rm) ∧ LoopOK S' G' (R ++ rm) ∧ S.next ≤ S'.next ∧ SafeF G' S'.next rm := by
  obtain ⟨S1, rm1, e1, ok1, le1, sf1⟩ := loop_step h hs
  exact ⟨S1, rm1, (run_cons e1 rfl).trans (by rw [List.append_nil]), ok1, le1, sf1⟩

/-- the environment after `setVersion` installed a version (before the old one is released) -/
def envInstalled (G : EnvF) (s : Slot) : EnvF :=
  { vs := G.vs ++ [s], dn := G.N, rel := G.rel, closing := false }

theorem cb_installed {G : EnvF} (hdn : G.dn < G.N) (s : Slot) {nx nx' : Nat} (h : nx ≤ nx') :
    (G.push s).cb nx ≤ (envInstalled G s).cb nx' :=
  EnvF.up_mono (G.push s) (show min G.dn nx ≤ min G.N nx' by omega)

/-- `v.incref()` + the send on `deltaCh`. -/
theorem install_chain {S : State} {G : EnvF} {R : List Nat} (h : LoopOK S G R) (hc : G.closing = false)
    (hN : 0 < G.N) (hcur : G.N ≤ G.up (G.dn + 1)) {fs L : List Nat} {din : Delta}
    (hnd : fs.Nodup) (hnl : L.Nodup) (hsub : ∀ f ∈ L, f ∈ fs)
    (hmono : ∀ f ∈ fs, ∀ j l, j < l → G.inst l → G.alive S.next j → f ∈ G.T j → f ∈ G.T l)
    (hleft : ∀ f ∈ fs, ∀ j, G.alive S.next j → f ∈ G.T j → f ∈ L)
    (hex : NetExact (G.L G.dn) din L) (hkeep : ∀ f, f ∈ G.T G.dn → f ∉ G.L G.dn → f ∈ L) :
    ∃ S' rm, run S [.ref G.N fs, .delta G.dn din] = some (S', rm) ∧
      LoopOK S' (envInstalled G (.inst fs L din)) (R ++ rm) ∧ S.next ≤ S'.next ∧
      SafeF (envInstalled G (.inst fs L din)) S'.next rm := by
  have hdn := h.inv.wf.dn_lt hN
  have hs1 : EnvStepF S.next G (.ref G.N fs) (G.push (.inst fs L din)) :=
    EnvStepF.ref G fs L din hc hnd hnl hsub (fun h0 => by omega) (fun _ => hcur) hmono hleft
  obtain ⟨S1, rm1, e1, ok1, le1, sf1⟩ := single_chain h hs1
  have hup : (G.push (.inst fs L din)).up (G.dn + 1) = G.N := by
    rw [EnvF.push_up (by omega)]
    have : ¬ G.up (G.dn + 1) < G.N := by omega
    simp [this, Slot.isInst]
  have hdin : (G.push (.inst fs L din)).din G.N = din := EnvF.push_din_eq
  have hs2 := EnvStepF.delta (nx := S1.next) (G.push (.inst fs L din)) hc
    (by rw [EnvF.push_dn, hup, EnvF.push_N]; omega)
    (by rw [EnvF.push_dn, hup, hdin, EnvF.push_L_lt hdn, EnvF.push_L_eq]; exact hex)
    (by rw [EnvF.push_dn, hup, EnvF.push_L_lt hdn, EnvF.push_T_lt hdn, EnvF.push_L_eq]; exact hkeep)
  rw [EnvF.push_dn, hup, hdin] at hs2
  have heq : ({ G.push (.inst fs L din) with dn := G.N } : EnvF) = envInstalled G (.inst fs L din) := by
    simp [EnvF.push, envInstalled, hc]
  rw [heq] at hs2
  obtain ⟨S2, rm2, e2, ok2, le2, sf2⟩ := single_chain ok1 hs2
  refine ⟨S2, rm1 ++ rm2, run_append e1 e2, ?_, by omega, ?_⟩
  · rw [← List.append_assoc]; exact ok2
  · refine safeF_append ?_ sf2
    exact safeF_shrink sf1 rfl (fun _ hk => hk) (fun _ => hc) (cb_installed hdn _ le2)

theorem loopOK_init : LoopOK State.init EnvF.init [] :=
  ⟨invF_init, ⟨fun _ _ l _ _ _ hl => absurd hl (EnvF.init_not_inst l), fun _ _ k _ hk => absurd hk (EnvF.init_not_inst k)⟩,
    fun _ _ => hist_initF⟩

/-- `newSession`'s reference task for the empty version 0 is a step of the full environment -/
theorem envStepF_first : EnvStepF State.init.next EnvF.init (.ref EnvF.init.N []) (EnvF.init.push (.inst [] [] ⟨[], []⟩)) :=
  EnvStepF.ref EnvF.init [] [] ⟨[], []⟩ rfl List.nodup_nil List.nodup_nil (fun _ h => h) (fun _ => rfl)
    (fun h => by simp [EnvF.init, EnvF.N] at h) (fun f hf => by cases hf) (fun f hf => by cases hf)

end GoLevel.Session

import GoLevel.Proofs.BlockIterLayout
/-!
# The cursor model (`Block.step`, `scan`, `scanSeek`, `seekCursor`) over a `Layout`

`Block.step` on `data[o:]` is `block.entry(o)` followed by the key-buffer update, so everything the cursor model
does on a well-formed block follows from the same `Layout` the `blockIter` proofs use: the cursor that has just
read entry `j` is `curAt b kvs off j`, a step from it gives `curAt … (j + 1)`.  The table reader uses a block through
`Layout.entries`, `Layout.seekCursor`, `Layout.step_first` and `Layout.step_succ` only.
-/
namespace GoLevel.C13
open GoLevel

variable {b : BlockR} {kvs : List KV} {off : Nat → Nat} {R : Nat} {rs : Nat → Nat}
variable {cmp : Bytes → Bytes → Ordering}

/-- the cursor after entry `j` has been read (`none` behind the last entry) -/
def curAt (b : BlockR) (kvs : List KV) (off : Nat → Nat) (j : Nat) : Option Cursor :=
  kvs[j]?.map fun e => ⟨e.1, e.2, b.data.drop (off (j + 1)), b.restartsOffset - off (j + 1)⟩

theorem curAt_kv (j : Nat) : (curAt b kvs off j).map (fun c => (c.key, c.value)) = kvs[j]? := by
  unfold curAt; cases kvs[j]? <;> rfl

theorem curAt_of_getElem? {j : Nat} {k v : Bytes} (h : kvs[j]? = some (k, v)) :
    curAt b kvs off j = some ⟨k, v, b.data.drop (off (j + 1)), b.restartsOffset - off (j + 1)⟩ := by
  rw [curAt, h]; rfl

theorem curAt_of_lt {j : Nat} (h : j < kvs.length) : curAt b kvs off j =
    some ⟨kAt kvs j, vAt kvs j, b.data.drop (off (j + 1)), b.restartsOffset - off (j + 1)⟩ :=
  curAt_of_getElem? (getElem?_kv h)

theorem curAt_of_ge {j : Nat} (h : kvs.length ≤ j) : curAt b kvs off j = none := by
  rw [curAt, List.getElem?_eq_none h]; rfl

/-- `Block.step` in terms of `block.entry` at an absolute offset -/
theorem step_of_entryAt {o sh n : Nat} {ks v : Bytes} (h : b.entryAt o = .ok sh ks v n) (prev : Bytes)
    (hsh : ¬ (sh > prev.length)) :
    Block.step (b.data.drop o) (b.restartsOffset - o) prev =
      some (some ⟨prev.take sh ++ ks, v, b.data.drop (o + n), b.restartsOffset - (o + n)⟩) := by
  unfold BlockR.entryAt at h
  unfold Block.step
  split at h
  · split at h <;> cases h
  · rw [if_neg (by omega)]
    split at h
    · cases h
    · rename_i he
      cases h
      rw [he]
      simp only [if_neg hsh, List.drop_drop, Nat.sub_sub]

namespace Layout

/-- one `Next` of the cursor model from the start of entry `j` -/
theorem step (L : Layout b kvs off R rs) {j : Nat} (hj : j ≤ kvs.length) {prev : Bytes}
    (hp : KeyOK kvs R rs j prev) :
    Block.step (b.data.drop (off j)) (b.restartsOffset - off j) prev = some (curAt b kvs off j) := by
  rcases Nat.lt_or_ge j kvs.length with hlt | hge
  · obtain ⟨sh, he, hsh, hkey⟩ := L.decode hlt hp
    rw [step_of_entryAt he prev hsh, hkey, L.off_succ hlt, curAt_of_lt hlt]
  · rw [Nat.le_antisymm hj hge, L.offN, curAt_of_ge (Nat.le_refl _)]
    simp [Block.step]

theorem step_first (L : Layout b kvs off R rs) (prev : Bytes) :
    Block.step b.data b.restartsOffset prev = some (curAt b kvs off 0) := by
  have h := L.step (Nat.zero_le _) (L.keyOK_zero prev)
  rwa [L.off0] at h

theorem step_succ (L : Layout b kvs off R rs) {j : Nat} (hj : j < kvs.length) :
    Block.step (b.data.drop (off (j + 1))) (b.restartsOffset - off (j + 1)) (kAt kvs j) =
      some (curAt b kvs off (j + 1)) :=
  L.step hj (Or.inr ⟨Nat.succ_pos j, rfl⟩)

/-- C13(a) over a layout: a forward pass from the start of entry `j` collects the rest of the block; one unit of fuel
per entry left and one to see the end -/
theorem scan (L : Layout b kvs off R rs) : ∀ (fuel j : Nat) {prev : Bytes}, j ≤ kvs.length → kvs.length - j < fuel →
    KeyOK kvs R rs j prev →
    Block.scan fuel (b.data.drop (off j)) (b.restartsOffset - off j) prev = some (kvs.drop j) := by
  intro fuel
  induction fuel with
  | zero => intro j prev _ hf; omega
  | succ fuel ih =>
    intro j prev hj hf hp
    rw [Block.scan, L.step hj hp]
    rcases Nat.lt_or_ge j kvs.length with hlt | hge
    · rw [curAt_of_lt hlt]
      simp only
      rw [ih (j + 1) (prev := kAt kvs j) hlt (by omega) (Or.inr ⟨Nat.succ_pos j, rfl⟩), drop_kv hlt]
    · rw [curAt_of_ge hge, List.drop_eq_nil_of_le hge]

theorem entries (L : Layout b kvs off R rs) : b.entries = some kvs := by
  have h := L.scan _ 0 (Nat.zero_le _) (L.fuel_ok (Nat.le_refl _)) (L.keyOK_zero [])
  rwa [L.off0] at h

/-- the linear part of `Seek`: entered at the start of entry `j` with every earlier key below the target, the scan
stops on the first entry of the block that is not below it -/
theorem scanSeek (L : Layout b kvs off R rs) (key : Bytes) : ∀ (fuel j : Nat) {prev : Bytes}, j ≤ kvs.length →
    kvs.length - j < fuel → KeyOK kvs R rs j prev → (∀ x, x < j → cmp (kAt kvs x) key = .lt) →
    Block.scanSeek cmp key fuel (b.data.drop (off j)) (b.restartsOffset - off j) prev =
      some (curAt b kvs off (kvs.findIdx (geK cmp key))) := by
  intro fuel
  induction fuel with
  | zero => intro j prev _ hf; omega
  | succ fuel ih =>
    intro j prev hj hf hp hbelow
    rw [Block.scanSeek, L.step hj hp]
    by_cases hc : j < kvs.length ∧ cmp (kAt kvs j) key = .lt
    · rw [curAt_of_lt hc.1]
      simp only [hc.2, ne_eq, not_true_eq_false, if_false]
      exact ih (j + 1) (prev := kAt kvs j) hc.1 (by omega) (Or.inr ⟨Nat.succ_pos j, rfl⟩) fun x hx => by
        rcases Nat.lt_succ_iff_lt_or_eq.1 hx with h | rfl
        · exact hbelow x h
        · exact hc.2
    · rw [findIdx_geK hj hbelow fun hlt hlt' => hc ⟨hlt, hlt'⟩]
      rcases Nat.lt_or_ge j kvs.length with hlt | hge
      · rw [curAt_of_lt hlt]
        exact if_pos fun h => hc ⟨hlt, h⟩
      · rw [curAt_of_ge hge]

/-- `block.seek(cmp, 0, restartsLen, key)` is the unsliced case of `seekR` -/
theorem seekRestart_of_seekR {key : Bytes} {q o : Nat} (h : b.seekR cmp 0 b.restartsLen key = some (q, o))
    (hq : q < b.restartsLen) : b.seekRestart cmp key = some (q, o) := by
  unfold BlockR.seekR at h
  unfold BlockR.seekRestart
  simp only [Nat.sub_zero, Nat.zero_add, Nat.add_zero, Nat.not_lt_zero, if_false] at h
  split at h
  · cases h
  · rename_i s hs
    rw [hs]
    simp only [Option.some.injEq, Prod.mk.injEq] at h
    obtain ⟨rfl, rfl⟩ := h
    rw [if_neg (by omega)]

/-- C13(b) over a layout, with the position: binary search over the restart points, then the scan -/
theorem seekCursor (L : Layout b kvs off R rs) (hc : LawfulCmp cmp) (hs : StrictSorted cmp kvs) (key : Bytes) :
    b.seekCursor cmp key = some (curAt b kvs off (kvs.findIdx (geK cmp key))) := by
  obtain ⟨q, hq, _, hqR, hbelow⟩ := seekR_spec L hc hs L.rpos (Nat.le_refl R) key
  have hjl := L.rs_le_len hqR
  have hoff := L.off_add_le hjl (Nat.le_refl _)
  rw [L.offN] at hoff
  unfold BlockR.seekCursor
  rw [seekRestart_of_seekR (L.rlen ▸ hq) (L.rlen ▸ hqR)]
  simp only [if_neg (show ¬ off (rs q) > b.restartsOffset by omega)]
  exact L.scanSeek key _ (rs q) hjl (by omega) (Or.inl ⟨q, hqR, rfl⟩) fun x hx =>
    hbelow (Nat.pos_of_ne_zero fun h => by rw [h, L.rs0] at hx; omega) x hx

end Layout
end GoLevel.C13

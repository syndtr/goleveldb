import GoLevel.Proofs.WriteProtoMembers
/-! The group invariant `GInv` in every reachable state, what it says of a leader's record, and the run of `unlockWrite`. -/
namespace GoLevel.WP

structure GInv (s : St) : Prop where
  gloc : ∀ (i : Nat) (w : Thread), s.ws[i]? = some w → GLoc s.cfg w
  tie : Tie s
  nd : Nd s
  rm : RM s
  am : AM s
  seq : ∀ (j : Nat) (l : Thread), s.ws[j]? = some l → SeqOk s.seq l

theorem init_ginv (s : St) (h : Init s) : GInv s := by
  have f : ∀ {i : Nat} {w : Thread}, s.ws[i]? = some w → w.fresh := fun hi => h.2.2.2 _ (List.mem_of_getElem? hi)
  refine ⟨fun i w hi => ?_, fun j l e hj he => ?_, fun j l hj => ?_, fun i w j l hi hp => ?_, fun j l _ i w hi ha => ?_,
    fun j l hj => ⟨fun hp => ?_, fun p hp => ?_⟩⟩
  · obtain ⟨h1, _, _, _, _, h6, h7, h8, _⟩ := f hi
    simp only [GLoc, h1, Unled]
    exact ⟨h7, h8, h6⟩
  · rw [(f hj).2.2.2.2.2.2.2.1] at he; cases he
  · rw [(f hj).2.2.2.2.2.2.2.1]; exact List.nodup_nil
  · rw [(f hi).1] at hp; cases hp
  · rw [(f hi).2.1] at ha; cases ha
  · rw [(f hj).1] at hp; cases hp
  · rw [(f hj).2.2.2.1] at hp; cases hp

theorem step_ginv (s t : St) (h : Step s t) (c : CInv s) (p : PInv s) (g : GInv s) : GInv t :=
  ⟨step_gloc s t h p.loc g.gloc, step_tie s t h c p.loc g.tie, step_nd s t h p.loc g.tie g.nd, step_rm s t h c g.rm,
   step_am s t h g.rm g.am, step_seq s t h c p.loc g.seq⟩

theorem reachable_inv (s : St) (h : Reachable s) : CInv s ∧ PInv s ∧ GInv s :=
  h.keeps (P := fun s => CInv s ∧ PInv s ∧ GInv s) (fun s h => ⟨init_cinv s h, init_pinv s h, init_ginv s h⟩)
    fun s t h i => ⟨step_cinv s t h i.1, step_pinv s t h i.1 i.2.1, step_ginv s t h i.1 i.2.1 i.2.2⟩

theorem reachable_cinv (s : St) (h : Reachable s) : CInv s := (reachable_inv s h).1

theorem reachable_pinv (s : St) (h : Reachable s) : PInv s := (reachable_inv s h).2.1

theorem reachable_ginv (s : St) (h : Reachable s) : GInv s := (reachable_inv s h).2.2

/-- `Tie` without the leader's phase, as `C10.group_sync` and `C10.group_records_exact` state it -/
theorem GInv.members_are {s : St} (g : GInv s) {j : Nat} {l : Thread} (hj : s.ws[j]? = some l) (e : Mem)
    (he : e ∈ l.members) : ∃ w, s.ws[e.idx]? = some w ∧ memOf e.idx w = e ∧ w.kind = .writer ∧
      (w.acc = some j ∨ w.pc = .waitMerged) :=
  have ⟨w, hw, hm, hk, hr⟩ := g.tie j l e hj he
  ⟨w, hw, hm, hk, hr.imp_right (·.1)⟩

/-- once `writeJournal` has been called, the group record is complete -/
theorem shape_of_jout (c : Cfg) (w : Thread) (hL : Loc w) (hG : GLoc c w) (hj : w.jout ≠ none) :
    Shape c w ∧ w.gn = w.flat.length ∧ w.jrecs = w.flat ∧ w.jsync = some w.gsync ∧
      (w.pub ≠ none → w.arecs = w.flat) := by
  cases hpc : w.pc with
  | lead ph m o =>
    cases ph <;> simp only [GLoc, Loc, hpc, Blank, Out, Post, Unled] at hG hL <;> grind
  | _ => simp only [GLoc, Loc, hpc, Blank, Out, Post, Unled] at hG hL <;> grind

theorem gloc_cases (c : Cfg) (w : Thread) (hG : GLoc c w) : Shape c w ∨ Unled w ∨ FlushShape w := by
  cases hpc : w.pc with
  | lead ph m o =>
    cases ph <;> simp only [GLoc, hpc] at hG
    case flush => exact .inr (.inr hG)
    case acking => exact hG.elim (fun h => .inr (.inl h.1)) (fun h => .inl h.1)
    all_goals exact .inl hG.1
  | returned r =>
    simp only [GLoc, hpc] at hG
    exact hG.elim (fun h => .inr (.inl h.1)) (fun h => .inl h.1)
  | _ => simp only [GLoc, hpc] at hG; exact .inr (.inl hG)

theorem shape_of_members (c : Cfg) (w : Thread) (hG : GLoc c w) (hm : w.members ≠ []) : Shape c w := by
  rcases gloc_cases c w hG with h | h | h
  · exact h
  · exact absurd h.2.1 hm
  · exact absurd h.1 hm

theorem shape_of_batches (c : Cfg) (w : Thread) (hG : GLoc c w) (hb : w.batches ≠ []) : Shape c w := by
  rcases gloc_cases c w hG with h | h | h
  · exact h
  · exact absurd h.1 hb
  · exact absurd h.2.1 hb

theorem cb_of_gloc (c : Cfg) (w : Thread) (hG : GLoc c w) (hc : c.appendOur = true) : w.cb = w.recs := by
  rcases gloc_cases c w hG with h | h | h
  · exact h.2.2.2.2.2.2.1 hc
  · exact h.2.2
  · exact h.2.2.1

theorem members_of_acking (c : Cfg) (w : Thread) (hG : GLoc c w) (k m : Nat) (r : Res) (o : Bool)
    (hp : w.pc = .lead (.acking k r) m o) : w.members.length = m := by
  simp only [GLoc, hp, Unled] at hG
  rcases hG with h | h
  · rw [h.1.2.1, h.2.2]; rfl
  · exact h.2.1

/-- the run of `unlockWrite(o, m, r)`, whatever `r`: `k` acks, then release or hand-off (`C10.overflow_answered`) -/
theorem unlock_run (k : Nat) : ∀ (s : St), CInv s → ∀ (j : Nat) (l : Thread) (r : Res) (m : Nat) (o : Bool),
    s.ws[j]? = some l → l.pc = .lead (.acking k r) m o →
    ∃ t, Steps s t ∧ (∃ l', t.ws[j]? = some l' ∧ l'.pc = .returned r) ∧
      (∀ (i : Nat) (w : Thread), s.ws[i]? = some w → w.pc = .waitAck → t.ws[i]? = some (w.setPc (.returned r))) ∧
      (o = false → t.token = false) ∧
      (o = true → ∃ (i : Nat) (w : Thread), s.ws[i]? = some w ∧ w.pc = .waitMerged ∧
          t.ws[i]? = some w.asLeader ∧ t.cur = some i ∧ t.token = true) := by
  induction k with
  | zero =>
    intro s c j l r m o hj hp
    have nowa := no_wa_of_holder c hj (lead_holds hp) (by rw [hp]; rfl)
    have hjl := (List.getElem?_eq_some_iff.mp hj).1
    cases o with
    | false =>
      refine ⟨_, Steps.single (Step.release s j l m r hj hp), ?_, ?_, ?_, ?_⟩
      · exact ⟨l.setPc (.returned r), List.getElem?_set_self hjl, rfl⟩
      · intro i w hi hw; exact absurd hw (nowa i w hi)
      · intro _; rfl
      · intro h; cases h
    | true =>
      obtain ⟨i, w, hi, hw⟩ := exists_wm s c j l hj (by simp [hp, pendReply])
      have hij := ne_of_pc_ne hi hj (by simp [hp, hw])
      have htok := token_of_holder s c j l hj (by simp [hp, holds])
      refine ⟨_, Steps.single (Step.handoff s i j w l m r none hj hi hp hw (Or.inl c.cfgH)), ?_, ?_, ?_, ?_⟩
      · exact ⟨l.setPc (.returned r), get_set2_right hj hij, rfl⟩
      · intro a x ha hx; exact absurd hx (nowa a x ha)
      · intro h; cases h
      · intro _
        exact ⟨i, w, hi, hw, get_set2_left hi, rfl, htok⟩
  | succ k ih =>
    intro s c j l r m o hj hp
    obtain ⟨i, w, hi, hw⟩ := exists_wa s c j l hj (by simp [hp, owed])
    have hij := ne_of_pc_ne hi hj (by simp [hp, hw])
    have hstep := Step.ack s i j w l k m o r hj hi hp hw
    have hj1 : (set2 s.ws j (l.setPc (.lead (.acking k r) m o)) i (w.setPc (.returned r)))[j]? =
        some (l.setPc (.lead (.acking k r) m o)) := get_set2_right hj hij
    obtain ⟨t, hst, hlt, hwa, hof, hot⟩ := ih _ (step_cinv _ _ hstep c) j _ r m o hj1 rfl
    refine ⟨t, Steps.trans (Steps.single hstep) hst, hlt, ?_, hof, ?_⟩
    · intro a x ha hx
      by_cases hai : a = i
      · subst hai; rw [hi] at ha; cases ha
        exact result_once _ t hst a _ r (get_set2_left hi) rfl
      · have haj := ne_of_pc_ne ha hj (by simp [hp, hx])
        refine hwa a x ?_ hx
        unfold set2
        rw [List.getElem?_set_ne (Ne.symm hai), List.getElem?_set_ne (Ne.symm haj)]; exact ha
    · intro ho
      obtain ⟨a, x, ha, hx, h3, h4, h5⟩ := hot ho
      exact ⟨a, x, forall_set2 (P := fun a x => x.pc = .waitMerged → s.ws[a]? = some x) (fun h => by simp at h)
        (fun h => by simp at h) (fun a x _ _ hx _ => hx) a x ha hx, hx, h3, h4, h5⟩

/-- has its result, or waits on `writeMergedC` -/
def parked : Pc → Bool
  | .returned _ => true | .waitMerged => true | _ => false

theorem stuck_of_parked (t : St) (h : ∀ w ∈ t.ws, parked w.pc = true) : ¬ ∃ u, Step t u := by
  rintro ⟨u, hs⟩
  -- every step has an actor that is neither: the leader of a rendezvous, or the one thread that moves
  cases hs with
  | recvAccept i j w l m g hj hi hp | reply i j w l m o hj hi hp | recvOverflow i j w l m hj hi hp
  | ack i j w l k m o r hj hi hp | handoff i j w l m r g hj hi hp =>
    have := h l (List.mem_of_getElem? hj); simp [hp, parked] at this
  | _ => have := h _ (List.mem_of_getElem? ‹_›); simp [*, parked] at this

end GoLevel.WP

import GoLevel.Proofs.RefLoopFPass
/-! `processTasks` and one whole message over the full history; quiescence (C07). -/
namespace GoLevel.RefLoop

theorem convert_invF {G : EnvF} (fuel : Nat) {S : State} {R : List Nat} (hI : InvF S G) (hH : HistC S G R) :
    ∃ S', convertLoop fuel S = some (S', []) ∧ InvF S' G ∧ S.next ≤ S'.next ∧ HistC S' G R ∧ S'.last = S.last := by
  induction fuel generalizing S R with
  | zero => exact ⟨S, rfl, hI, Nat.le_refl _, hH, rfl⟩
  | succ fuel ih =>
    have stop : ∃ S', some (S, ([] : List Nat)) = some (S', []) ∧ InvF S' G ∧ S.next ≤ S'.next ∧ HistC S' G R ∧
        S'.last = S.last := ⟨S, rfl, hI, Nat.le_refl _, hH, rfl⟩
    rw [convertLoop_succ]
    by_cases hab : S.next ∈ S.abandoned
    · simp only [hab, if_true]
      obtain ⟨h1, h2⟩ := skip_abandonedF hI hH hab
      obtain ⟨S', h3, h4, h5, h6, h7⟩ := ih h1 h2
      exact ⟨S', h3, h4, by have : S.next + 1 ≤ S'.next := h5; omega, h6, h7⟩
    · simp only [hab, if_false]
      by_cases hrel : S.next ∈ G.rel
      · have : (S.released.lookup S.next).isSome = true := by rw [hI.rld]; simp [hrel]
        simp only [this, if_true]; exact stop
      · have hnone : (S.released.lookup S.next).isSome = false := by rw [hI.rld]; simp [hrel]
        simp only [hnone, Bool.false_eq_true, if_false]
        by_cases hi : G.inst S.next
        · have hlook : S.ref.lookup S.next = some (G.T S.next) := by rw [hI.ref]; simp [hi, hrel]
          simp only [hlook]
          by_cases hkeep : S.last - S.next < Gen.maxCachedNumber ∧ S.next ∉ S.old
          · simp only [hkeep, and_self, if_true, not_false_eq_true]; exact stop
          · simp only [hkeep, if_false]
            obtain ⟨m2, h1, h2, h4⟩ := convert_oneF hI hH hi hrel
            simp only [h1]
            obtain ⟨S', h5, h6, h7, h8, h9⟩ := ih (S := convState S m2) h2 h4
            simp only [h5]
            exact ⟨S', rfl, h6, by have : S.next + 1 ≤ S'.next := h7; omega, h8, h9⟩
        · have hlook : S.ref.lookup S.next = none := by rw [hI.ref]; simp [hi]
          simp only [hlook]; exact stop

theorem release_invF {G : EnvF} (fuel : Nat) {S : State} {R : List Nat} (hI : InvF S G) (hG : GL G S.next)
    (hH : HistC S G R) :
    ∃ S' rm, releaseLoop fuel S = some (S', rm) ∧ InvF S' G ∧ S.next ≤ S'.next ∧ SafeF G S'.next rm ∧
      HistC S' G (R ++ rm) ∧ S'.last = S.last := by
  induction fuel generalizing S R with
  | zero => exact ⟨S, [], rfl, hI, Nat.le_refl _, safeF_nil _ _, by rw [List.append_nil]; exact hH, rfl⟩
  | succ fuel ih =>
    rw [releaseLoop_succ]
    by_cases hab : S.next ∈ S.abandoned
    · simp only [hab, if_true]
      obtain ⟨h1, h2⟩ := skip_abandonedF hI hH hab
      obtain ⟨S', rm, h3, h4, h5, h6, h7, h8⟩ := ih h1 (gl_next hG (Nat.le_succ _)) h2
      exact ⟨S', rm, h3, h4, by have : S.next + 1 ≤ S'.next := h5; omega, h6, h7, h8⟩
    · simp only [hab, if_false]
      by_cases hrel : S.next ∈ G.rel
      · obtain ⟨od, m, rm, h1, h2, h3, h4, h5⟩ := release_oneF hI hG hH hrel
        simp only [h1, h2]
        obtain ⟨S', rm', h6, h7, h8, h9, h10, h11⟩ := ih (S := relState S m) h3 (gl_next hG (Nat.le_succ _)) h5
        simp only [h6]
        have h8' : S.next + 1 ≤ S'.next := h8
        exact ⟨S', rm ++ rm', rfl, h7, by omega, safeF_append (safeF_mono h8' h4) h9, by
          rw [← List.append_assoc]; exact h10, h11⟩
      · have hlook : S.released.lookup S.next = none := by rw [hI.rld]; simp [hrel]
        simp only [hlook]
        exact ⟨S, [], rfl, hI, Nat.le_refl _, safeF_nil _ _, by rw [List.append_nil]; exact hH, rfl⟩

theorem processTasks_invF {G : EnvF} {S : State} {R : List Nat} (hI : InvF S G) (hG : GL G S.next)
    (hH : HistC S G R) :
    ∃ S' rm, processTasks S = some (S', rm) ∧ InvF S' G ∧ S.next ≤ S'.next ∧ SafeF G S'.next rm ∧
      HistC S' G (R ++ rm) ∧ S'.last = S.last := by
  obtain ⟨S1, h1, h2, h3, h3', hl1⟩ := convert_invF (S.abandoned.length + S.ref.length + 1) hI hH
  obtain ⟨S2, rm2, h4, h5, h6, h7, h8, hl2⟩ :=
    release_invF (S1.abandoned.length + S1.released.length + 1) h2 (gl_next hG h3) h3'
  exact ⟨S2, rm2, by simp [processTasks, h1, h4], h5, by omega, h7, h8, hl2.trans hl1⟩

/-- `ref` of the next id, whether or not deltas of older versions are still pending. -/
theorem handle_refF {S : State} {G : EnvF} {R : List Nat} (hI : InvF S G)
    (hH : HistC S G R) {fs L : List Nat} {din : Delta} (hc : G.closing = false) (hnd : fs.Nodup) (hnl : L.Nodup)
    (hsub : ∀ f ∈ L, f ∈ fs) (hfirst : G.N = 0 → fs = []) :
    ∃ S1 rm, handle S (.ref G.N fs) = some (S1, rm) ∧ InvF S1 (G.push (.inst fs L din)) ∧
      SafeF (G.push (.inst fs L din)) S.next rm ∧ HistC S1 (G.push (.inst fs L din)) (R ++ rm) := by
  have hw := wf_push (s := .inst fs L din) hI.wf hc hnd hnl hsub (fun h0 => ⟨rfl, hfirst h0⟩)
  have hL0 : G.N = 0 → L = [] := fun h => by
    have := hfirst h; subst this
    cases L with
    | nil => rfl
    | cons a _ => exact absurd (hsub a List.mem_cons_self) (by simp)
  obtain ⟨hlook, hI'⟩ := inv_refF hI hw hL0
  refine ⟨{ S with ref := (G.N, fs) :: S.ref, last := if G.N > S.last then G.N else S.last }, [],
    by simp [handle, hlook], hI' _, safeF_nil _ _, ?_⟩
  rw [List.append_nil]
  exact histC_pushF hI hL0 hc rfl rfl hH

theorem handle_invF {S : State} {G G' : EnvF} {m : Msg} {R : List Nat} (hI : InvF S G) (hG : GL G S.next)
    (hH : HistC S G R) (hs : EnvStepF S.next G m G') :
    ∃ S1 rm, handle S m = some (S1, rm) ∧ InvF S1 G' ∧ SafeF G' S.next rm ∧ HistC S1 G' (R ++ rm) := by
  have hw := wf_stepF hI.wf hs
  cases hs with
  | expire v =>
    have hI' : InvF { S with old := v :: S.old } G :=
      ⟨hI.wf, hI.nx, hI.ab, hI.ref, hI.rld, hI.dl, hI.rfd, hI.cnt⟩
    exact ⟨_, [], rfl, hI', safeF_nil _ _, by rw [List.append_nil]; exact hH⟩
  | ref fs L din hc hnd hnl hsub hfirst _ _ _ => exact handle_refF hI hH hc hnd hnl hsub hfirst
  | abandon hc hN =>
    obtain ⟨hna, hI'⟩ := inv_abandonF hI hw
    refine ⟨_, [], by simp [handle, hI.nx, hna], hI', safeF_nil _ _, ?_⟩
    rw [List.append_nil]
    exact histC_pushF hI (fun _ => rfl) hc rfl rfl hH
  | delta hc hlt hex hkeep =>
    by_cases hle : S.next ≤ G.dn
    · obtain ⟨S1, h1, h2, h3⟩ := handle_delta_cachedF hI hH hc hlt hw hle
      exact ⟨S1, [], h1, h2, safeF_nil _ _, by simpa using h3⟩
    · exact handle_delta_appliedF hI hG hH hc hlt hex hw (by omega)
  | rel k hik hk hnot => exact handle_relF hI hG hH hik hnot (Or.inl hk)
  | relClose hc hnot => exact handle_relF hI hG hH (hI.wf.dn_inst (hI.wf.cls hc).1) hnot (Or.inr ⟨hc, rfl⟩)
  | refClose hc hN hup =>
    -- the `ref` of an empty version, then the flag: no clause but `WF` reads it, and it only lessens `needs`
    obtain ⟨S1, rm, h1, h2, h3, _⟩ := handle_refF (din := ⟨[], []⟩) hI hH hc List.nodup_nil
      List.nodup_nil (fun _ h => h) (fun _ => rfl)
    exact ⟨S1, rm, h1, invF_flag h2 hw,
      fun r hr k hik hn => h3 r hr k hik (hn.imp id fun h => by cases h.1), fun hc' => by cases hc'⟩

theorem step_of_handleF {S S1 : State} {G' : EnvF} {m : Msg} {R rm1 : List Nat}
    (h : handle S m = some (S1, rm1) ∧ InvF S1 G' ∧ SafeF G' S.next rm1 ∧ HistC S1 G' (R ++ rm1))
    (hG : GL G' S.next) :
    ∃ S' rm, step S m = some (S', rm) ∧ InvF S' G' ∧ S.next ≤ S'.next ∧ GL G' S'.next ∧ SafeF G' S'.next rm ∧
      HistC S' G' (R ++ rm) ∧ S'.last = S1.last := by
  obtain ⟨h1, h2, h3, h3'⟩ := h
  have hnx := (handle_frame h1).1
  obtain ⟨S2, rm2, h4, h5, hle, h6, h6', hl⟩ := processTasks_invF h2 (by rw [hnx]; exact hG) h3'
  rw [hnx] at hle
  exact ⟨S2, rm1 ++ rm2, by simp [step, h1, h4], h5, hle, gl_next hG hle,
    safeF_append (safeF_mono hle h3) h6, by rw [← List.append_assoc]; exact h6', hl⟩

/-- One message of the full environment: no panic, the invariant is kept, only safe removals, exact removal
history (until `session.close`, while no file number is used twice). -/
theorem step_invF {S : State} {G G' : EnvF} {m : Msg} {R : List Nat} (hI : InvF S G) (hG : GL G S.next)
    (hH : HistC S G R) (hs : EnvStepF S.next G m G') :
    ∃ S' rm, step S m = some (S', rm) ∧ InvF S' G' ∧ S.next ≤ S'.next ∧ GL G' S'.next ∧ SafeF G' S'.next rm ∧
      HistC S' G' (R ++ rm) := by
  obtain ⟨S1, rm1, h⟩ := handle_invF hI hG hH hs
  obtain ⟨S', rm, h1, h2, h3, h4, h5, h6, _⟩ := step_of_handleF h (gl_stepF hI.wf hG hs)
  exact ⟨S', rm, h1, h2, h3, h4, h5, h6⟩

/-- Quiescence: no delta pending, every installed version below the current one (`dn`) released, every
message processed.  Then `next` has reached the current version and the counters cover the loop's view of it
and nothing outside its tables. -/
theorem quiescentF {S : State} {G : EnvF} (hI : InvF S G) (hs : Settled S)
    (hN : 0 < G.N) (hcur : G.N ≤ G.up (G.dn + 1)) (hrel : ∀ k, k < G.dn → G.inst k → k ∈ G.rel) :
    G.dn ≤ S.next ∧ (∀ f, f ∈ G.L G.dn → f ∈ S.fileRef) ∧ (∀ f, f ∈ S.fileRef → f ∈ G.T G.dn) := by
  have hdn := hI.wf.dn_lt hN
  have hdi := hI.wf.dn_inst hN
  have hge : G.dn ≤ S.next := by
    rcases Nat.lt_or_ge S.next G.dn with h | h
    · exfalso
      by_cases hi : G.inst S.next
      · have := hI.rld S.next
        rw [hs.1] at this
        simp [hrel _ h hi] at this
      · exact hs.2 ((hI.ab.2 _).mpr ⟨Nat.le_refl _, by omega, hi⟩)
    · exact h
  have hcb := cb_of_dn_le hdi hge
  refine ⟨hge, fun f hf => Classical.byContradiction fun hn => ?_,
    fun f hf => Classical.byContradiction fun hn => ?_⟩
  · exact ((count_zero_iffF hI f).mp (List.count_eq_zero.mpr hn)).1 (hcb ▸ hf)
  · -- otherwise nothing counts `f`: not the base view, and the only converted version still unreleased is `dn`
    refine List.count_eq_zero.mp ((count_zero_iffF hI f).mpr
      ⟨fun hb => hn (hI.wf.sub _ f (hcb ▸ hb)), fun k hk hfk => ?_⟩) hf
    obtain ⟨_, hik, hkr⟩ := (hI.rfd.2 k).mp hk
    have hkd : G.dn ≤ k := Nat.le_of_not_lt fun h => hkr (hrel k h hik)
    have hle : k ≤ G.dn := Nat.le_of_not_lt fun h => by
      have := EnvF.up_le_of_inst (k := G.dn + 1) h hik
      have := EnvF.inst_lt hik
      omega
    exact hn (Nat.le_antisymm hle hkd ▸ hfk)

end GoLevel.RefLoop

import GoLevel.Proofs.DurableManifestOps
/-!
Shared tools for the step proofs: the pieces of the invariant that look at a few fields only, each with the lemmas through
which the step modules read it, build it and carry it over.  In this order:
* `issuedGrps` and `must` under a change of statuses; `sqCap`, `seqHi` and the window of a transaction;
* the admissible views: what `ViewBounds` and `DiskOK` say of each and how both carry over; `ManifestMono` under `Sync`,
  a crash, one more record;
* the last view and `Settled`; the clauses of `RunOK` about the ghost edit, the frozen buffer and the writer, read by name;
* the classes of pcs, and what the clauses of `JobOK` that go by the pc say on each class;
* `Inv` taken apart and put together; the clauses of `JobOK` about the edit, the journal `newMem` makes and the output tables;
* `JobKindOK` kind by kind, as structures with named fields.
-/
namespace GoLevel.Dur

variable {cfg : Cfg} {s s' : St} {d d' : Disk} {j : Job} {e : MRec} {rot : Bool}

/-- a good configuration: the repaired code, in the code's order -/
structure Cfg.Good (cfg : Cfg) : Prop where
  noTrace : cfg.failedRecordLeavesNoTrace = true
  carry : cfg.rotationCarriesNums = true
  esbjr : cfg.editSyncedBeforeJournalRemoval = true
  msbsm : cfg.manifestSyncedBeforeSetMeta = true

/-! ## `issuedGrps` and `must` -/

/-- a map over the issues that changes only `status` keeps the groups -/
theorem map_grp_of_status {f : Issue → Issue} (hf : ∀ i, (f i).grp = i.grp) (l : List Issue) :
    (l.map f).map (·.grp) = l.map (·.grp) := by
  rw [List.map_map]
  exact List.map_congr_left fun i _ => hf i

theorem issuedGrps_setStatus (g : Grp) (st : Status) (l : List Issue) :
    (setStatus g st l).map (·.grp) = l.map (·.grp) :=
  map_grp_of_status (fun i => by show (if _ then _ else _ : Issue).grp = _; split <;> rfl) l

theorem issuedGrps_downgrade (l : List Issue) : (downgrade l).map (·.grp) = l.map (·.grp) :=
  map_grp_of_status (fun i => by show (if _ then _ else _ : Issue).grp = _; split <;> rfl) l

/-- the acknowledged-with-sync part of `must` -/
def ackedSync (l : List Issue) : List Grp :=
  (l.filter fun i => i.status = .acked ∧ i.grp.sync = true).map (·.grp)

theorem must_eq (s : St) : must s = ackedSync s.issued ++
    (match s.w with
     | .synced g | .applied g | .published g => if g.sync then [g] else []
     | _ => []) := rfl

theorem ackedSync_append_of_ne (l : List Issue) (g : Grp) (st : Status) (h : st ≠ .acked) :
    ackedSync (l ++ [⟨g, st⟩]) = ackedSync l := by
  simp [ackedSync, List.filter_append, h]

/-- a group acknowledged with `Sync` after the statuses were changed by `f`: the issue it comes from -/
theorem mem_ackedSync_map {f : Issue → Issue} {x : Grp} {l : List Issue} (h : x ∈ ackedSync (l.map f)) :
    ∃ i ∈ l, (f i).status = .acked ∧ (f i).grp.sync = true ∧ (f i).grp = x := by
  simp only [ackedSync, List.mem_map, List.mem_filter, decide_eq_true_eq] at h
  obtain ⟨_, ⟨⟨i, hi, rfl⟩, hst, hsy⟩, rfl⟩ := h
  exact ⟨i, hi, hst, hsy, rfl⟩

theorem mem_ackedSync_of {i : Issue} {l : List Issue} (hi : i ∈ l) (hst : i.status = .acked)
    (hsy : i.grp.sync = true) : i.grp ∈ ackedSync l := by
  simp only [ackedSync, List.mem_map, List.mem_filter, decide_eq_true_eq]
  exact ⟨i, ⟨hi, hst, hsy⟩, rfl⟩

theorem mem_ackedSync_setStatus {g x : Grp} {l : List Issue} (h : x ∈ ackedSync (setStatus g .acked l)) :
    x ∈ ackedSync l ∨ (x = g ∧ g.sync = true) := by
  obtain ⟨i, hi, hst, hsy, rfl⟩ := mem_ackedSync_map h
  by_cases hg : i.grp = g
  · simp only [hg, if_true] at hsy ⊢
    exact Or.inr (by simpa using hsy)
  · simp only [hg, if_false] at hst hsy ⊢
    exact Or.inl (mem_ackedSync_of hi hst hsy)

theorem mem_ackedSync_downgrade {x : Grp} {l : List Issue} (h : x ∈ ackedSync (downgrade l)) : x ∈ ackedSync l := by
  obtain ⟨i, hi, hst, hsy, rfl⟩ := mem_ackedSync_map h
  by_cases hc : i.status = .acked ∧ i.grp.sync = false
  · simp only [hc, and_self, if_true] at hst
    cases hst
  · simp only [hc, if_false] at hst hsy ⊢
    exact mem_ackedSync_of hi hst hsy

/-! ## `sqCap` and `seqHi` -/

theorem sqCap_of_ne_tr (hk : j.kind ≠ .tr) : sqCap s j = s.seq := if_neg hk

theorem sqCap_tr {g : Grp} (hk : j.kind = .tr) (ht : s.tr = some g) : sqCap s j = g.fin - 1 := by
  unfold sqCap; rw [if_pos hk, ht]

theorem seqHi_eq {s : St} (h : ¬ TrWindow s) : seqHi s = s.seq := by
  unfold seqHi
  unfold TrWindow at h
  cases hj : s.job with
  | none => rfl
  | some j =>
    rw [hj] at h
    simp only [Holds] at h
    simp only
    split
    · rename_i hb
      unfold sqCap
      rw [if_neg (fun hk => h ⟨hk, hb⟩)]
    · rfl

theorem not_trWindow_of_nojob {s : St} (h : s.job = none) : ¬ TrWindow s := by
  unfold TrWindow; rw [h]; exact id

theorem not_trWindow_of_kind (hj : s.job = some j) (hk : j.kind ≠ .tr) : ¬ TrWindow s := by
  unfold TrWindow; rw [hj]; exact fun h => hk h.1

theorem not_trWindow_of_bc {s : St} {j : Job} (hj : s.job = some j) (hb : j.pc.beforeCommit = true)
    (hl : s.limbo = none) : ¬ TrWindow s := by
  unfold TrWindow; rw [hj]
  intro h
  rcases h.2 with h2 | h2
  · rw [hb] at h2; cases h2
  · rw [hl] at h2; cases h2

theorem seqHi_le_of_not_window (h : ¬ TrWindow s) (h' : ¬ TrWindow s') (hq : s.seq ≤ s'.seq) :
    seqHi s ≤ seqHi s' := by
  rw [seqHi_eq h, seqHi_eq h']; exact hq

theorem seqHi_post (hj : s.job = some j) (hb : j.pc.beforeCommit = false) :
    seqHi s = sqCap s j := by
  unfold seqHi; rw [hj]; simp only [hb, true_or, if_true]

/-- while the storage is ahead of the session by an edit the cap is the job's, as behind the commit -/
theorem seqHi_ahead {u : MRec} (hj : s.job = some j) (hl : s.limbo = some u) : seqHi s = sqCap s j := by
  unfold seqHi; rw [hj]; simp only [hl, Option.isSome_some, or_true, if_true]

/-! ## the views of the admissible range: what `ViewBounds` and `DiskOK` say of each, and how both carry over -/

theorem ViewBounds.all {cfg : Cfg} {s : St} {d : Disk} (h : ViewBounds cfg s d) :
    AllViews cfg d fun v => v.sq ≤ seqHi s ∧ v.nf ≤ s.nextFile ∧ (s.phase = .running → v.jn ≤ s.jcur) := by
  intro mf hc k hk v hv
  have h1 := holds_some h hc k hk
  exact holds_some (P := fun v => v.sq ≤ seqHi s ∧ v.nf ≤ s.nextFile ∧ (s.phase = .running → v.jn ≤ s.jcur)) h1 hv

theorem DiskOK.allViews {cfg : Cfg} {d : Disk} {must issued : List Grp} (h : DiskOK cfg d must issued) :
    AllViews cfg d fun v => ViewOK d must issued v := by
  intro mf hc k hk v hv
  obtain ⟨mf', v0, hp⟩ := h.parts
  have : mf' = mf := by
    have := hp.cur; rw [hc] at this; exact (Option.some.inj this).symm
  subst this
  obtain ⟨v', hv', hok, _⟩ := hp.views k hk
  rw [hv] at hv'
  cases hv'
  exact hok

/-- more groups must survive, provided every admissible view already covers the new ones -/
theorem DiskOK.mono_cover {must must' issued issued' : List Grp}
    (h : DiskOK cfg d must issued)
    (hm : ∀ g ∈ must', g ∈ must ∨
      AllViews cfg d fun v => (g ∈ liveGrps d v ∨ ∃ p ∈ relJournals d v.jn, g ∈ p.2.synced) ∧
        ∀ p ∈ relJournals d v.jn, g ∈ p.2.all → v.sq ≤ g.seq)
    (hi : ∀ g ∈ issued, g ∈ issued') : DiskOK cfg d must' issued' :=
  h.map_views fun mf hmf k hk v hv hok => hok.of_journals (fun _ _ => rfl) (fun q hq _ hx => .inl ⟨q, hq, hx⟩)
    (fun x hx => (hm x hx).imp id fun a p hp hxp => (a mf hmf k hk v hv).2 p hp hxp) hi
    (fun x hx => (hm x hx).elim (hok.cover x) fun a => (a mf hmf k hk v hv).1)

theorem ViewBounds.of_same (h : ViewBounds cfg s d)
    (hc : curManifest d' = curManifest d) (hseq : seqHi s ≤ seqHi s') (hnf : s.nextFile ≤ s'.nextFile)
    (hj : s'.phase = .running → s.phase = .running ∧ s.jcur ≤ s'.jcur) : ViewBounds cfg s' d' := by
  unfold ViewBounds at h ⊢
  rw [hc]
  refine h.imp (fun mf hmf k hk => (hmf k hk).imp ?_)
  rintro v ⟨a, b, c⟩
  refine ⟨Nat.le_trans a hseq, Nat.le_trans b hnf, fun hr => ?_⟩
  obtain ⟨h1, h2⟩ := hj hr
  exact Nat.le_trans (c h1) h2

theorem ViewBounds.single {cfg : Cfg} {s : St} {d : Disk} {mf : LogFile MRec} {v : MView}
    (hc : curManifest d = some mf) (hu : mf.unsynced = []) (hv : viewAt cfg mf 0 = some v)
    (h : v.sq ≤ seqHi s ∧ v.nf ≤ s.nextFile ∧ (s.phase = .running → v.jn ≤ s.jcur)) : ViewBounds cfg s d := by
  unfold ViewBounds
  rw [hc]
  simp only [Holds]
  intro k hk
  have : k = 0 := by simpa [hu] using hk
  subst this
  rw [hv]
  exact h

theorem ViewBounds.sync {m : Nat} (h : ViewBounds cfg s d) (hc : d.current = some m)
    (hs : seqHi s ≤ seqHi s' ∧ s'.nextFile = s.nextFile ∧ s'.phase = s.phase ∧ s'.jcur = s.jcur) :
    ViewBounds cfg s' { d with manifests := d.manifests.modify m (·.sync) } := by
  unfold ViewBounds at h
  obtain ⟨mf, hcm, hall⟩ := holds_iff.1 h
  obtain ⟨v, hv, hb⟩ := holds_iff.1 (hall _ (Nat.le_refl _))
  obtain ⟨e1, e2, e3, e4⟩ := hs
  refine .single (mf := mf.sync) (by rw [curManifest_modify hc, hcm]; rfl) rfl (by rw [viewAt_sync]; exact hv) ?_
  rw [e2, e3, e4]
  exact ⟨Nat.le_trans hb.1 e1, hb.2⟩

theorem ViewBounds.append {cfg : Cfg} {s s' : St} {d : Disk} {m : Nat} (h : ViewBounds cfg s d) (hc : d.current = some m)
    (r : MRec) (hs : seqHi s ≤ seqHi s' ∧ s'.nextFile = s.nextFile ∧ s'.phase = s.phase ∧ s'.jcur = s.jcur)
    (hnew : ∀ mf, curManifest d = some mf → Holds (((replayM cfg mf.all).step cfg r).view?) fun v =>
      v.sq ≤ seqHi s' ∧ v.nf ≤ s.nextFile ∧ (s.phase = .running → v.jn ≤ s.jcur)) :
    ViewBounds cfg s' { d with manifests := d.manifests.modify m (·.append r) } := by
  unfold ViewBounds at h ⊢
  rw [curManifest_modify hc]
  obtain ⟨e1, e2, e3, e4⟩ := hs
  cases hcm : curManifest d with
  | none => rw [hcm] at h; exact h
  | some mf =>
    rw [hcm] at h
    simp only [Option.map_some, Holds] at h ⊢
    intro k hk
    rw [LogFile.append_unsynced_length] at hk
    rw [e2, e3, e4]
    by_cases hk' : k ≤ mf.unsynced.length
    · rw [viewAt_append_le cfg mf r hk']
      have hh : Holds (viewAt cfg mf k) fun v =>
          v.sq ≤ seqHi s ∧ v.nf ≤ s.nextFile ∧ (s.phase = .running → v.jn ≤ s.jcur) := h k hk'
      exact hh.imp (fun v hv => ⟨Nat.le_trans hv.1 e1, hv.2⟩)
    · have : k = mf.unsynced.length + 1 := by omega
      subst this
      rw [viewAt_append_last]
      exact hnew mf hcm

/-! ## `ManifestMono` -/

theorem ManifestMono.of_same (h : ManifestMono cfg d)
    (hcm : curManifest d' = curManifest d) (hc : d'.current = d.current) : ManifestMono cfg d' := by
  unfold ManifestMono at h ⊢
  rw [hcm, hc]
  exact h

/-- a manifest with a single admissible view -/
theorem ManifestMono.single {cfg : Cfg} {d : Disk} {mf : LogFile MRec} {m : Nat} {v : MView}
    (hcm : curManifest d = some mf) (hc : d.current = some m) (hu : mf.unsynced = [])
    (hv : viewAt cfg mf 0 = some v) (hlt : m < v.nf) : ManifestMono cfg d := by
  unfold ManifestMono
  rw [hcm, hc]
  simp only [Holds]
  intro k hk
  have : k = 0 := by simpa [hu] using hk
  subst this
  rw [hv]
  refine ⟨hlt, fun i hi => ?_⟩
  have : i = 0 := by omega
  subst this
  rw [hv]
  exact ⟨Nat.le_refl _, Nat.le_refl _⟩

theorem ManifestMono.get (h : ManifestMono cfg d) {mf : LogFile MRec} {m : Nat}
    (hcm : curManifest d = some mf) (hc : d.current = some m) {k : Nat} (hk : k ≤ mf.unsynced.length)
    {v : MView} (hv : viewAt cfg mf k = some v) :
    m < v.nf ∧ ∀ i ≤ k, ∀ u, viewAt cfg mf i = some u → u.sq ≤ v.sq ∧ u.nf ≤ v.nf := by
  unfold ManifestMono at h
  have h0 := holds_some h hcm
  have h1 := holds_some h0 hc k hk
  have h2 := holds_some h1 hv
  refine ⟨h2.1, fun i hi u hu => ?_⟩
  have h3 := h2.2 i hi
  rw [hu] at h3
  exact h3

theorem ManifestMono.crash (hn : cfg.failedRecordLeavesNoTrace = true)
    (h : ManifestMono cfg d) (hd : ∃ must issued, DiskOK cfg d must issued) (ch : CrashChoice) :
    ManifestMono cfg (crashWith ch d) := by
  obtain ⟨must, issued, hd⟩ := hd
  obtain ⟨mf, v0, hp⟩ := hd.parts
  obtain ⟨m, mf', hcc, hcur, hu, hview⟩ := curManifest_crash hn ch hp.cur
  obtain ⟨v, hv, _, _⟩ := hp.views (min (ch.cutM m) mf.unsynced.length) (Nat.min_le_right _ _)
  exact .single hcur hcc hu (by rw [hview, hv]) (h.get hp.cur hcc (Nat.min_le_right _ _) hv).1

theorem ManifestMono.sync {m : Nat} (h : ManifestMono cfg d) (hc : d.current = some m)
    (hd : ∃ must issued, DiskOK cfg d must issued) :
    ManifestMono cfg { d with manifests := d.manifests.modify m (·.sync) } := by
  obtain ⟨must, issued, hd⟩ := hd
  obtain ⟨mf, v0, hp⟩ := hd.parts
  obtain ⟨v, hv, _, _⟩ := hp.views mf.unsynced.length (Nat.le_refl _)
  apply ManifestMono.single (mf := mf.sync) (m := m) (v := v)
  · rw [curManifest_modify hc, hp.cur]; rfl
  · exact hc
  · rfl
  · rw [viewAt_sync]; exact hv
  · exact (h.get hp.cur hc (Nat.le_refl _) hv).1

/-- one more record: the new last view dominates the old last one -/
theorem ManifestMono.append {cfg : Cfg} {d : Disk} {m : Nat} (h : ManifestMono cfg d) (hc : d.current = some m)
    (r : MRec)
    (hnew : ∀ mf, curManifest d = some mf → Holds (viewAt cfg mf mf.unsynced.length) fun vl =>
      Holds (((replayM cfg mf.all).step cfg r).view?) fun v' => m < v'.nf ∧ vl.sq ≤ v'.sq ∧ vl.nf ≤ v'.nf) :
    ManifestMono cfg { d with manifests := d.manifests.modify m (·.append r) } := by
  unfold ManifestMono
  rw [curManifest_modify hc, hc]
  cases hcm : curManifest d with
  | none => unfold ManifestMono at h; rw [hcm] at h; exact h
  | some mf =>
    -- the prefixes of the old file keep their views (`viewAt_append_le`); the one new view dominates the old last view
    -- (`hnew`), which dominates the others
    have hex : ∀ k ≤ mf.unsynced.length, ∃ v, viewAt cfg mf k = some v := fun k hk => by
      unfold ManifestMono at h
      have h0 := holds_some h hcm
      have h1 := holds_some h0 hc k hk
      obtain ⟨v, hv, _⟩ := holds_iff.1 h1
      exact ⟨v, hv⟩
    obtain ⟨vl, hvl, hn⟩ := holds_iff.1 (hnew mf hcm)
    obtain ⟨v', hv', hlt, hsq, hnf⟩ := holds_iff.1 hn
    simp only [Option.map_some, Holds]
    intro k hk
    rw [LogFile.append_unsynced_length] at hk
    by_cases hk' : k ≤ mf.unsynced.length
    · obtain ⟨v, hv⟩ := hex k hk'
      refine holds_of_some (by rw [viewAt_append_le cfg mf r hk']; exact hv) ⟨(h.get hcm hc hk' hv).1, fun i hi => ?_⟩
      obtain ⟨u, hu⟩ := hex i (Nat.le_trans hi hk')
      exact holds_of_some (by rw [viewAt_append_le cfg mf r (Nat.le_trans hi hk')]; exact hu)
        ((h.get hcm hc hk' hv).2 i hi u hu)
    · have : k = mf.unsynced.length + 1 := by omega
      subst this
      refine holds_of_some (by rw [viewAt_append_last]; exact hv') ⟨hlt, fun i hi => ?_⟩
      by_cases hi' : i ≤ mf.unsynced.length
      · obtain ⟨u, hu⟩ := hex i hi'
        have := (h.get hcm hc (Nat.le_refl _) hvl).2 i hi' u hu
        exact holds_of_some (by rw [viewAt_append_le cfg mf r hi']; exact hu)
          ⟨Nat.le_trans this.1 hsq, Nat.le_trans this.2 hnf⟩
      · have : i = mf.unsynced.length + 1 := by omega
        subst this
        exact holds_of_some (by rw [viewAt_append_last]; exact hv') ⟨Nat.le_refl _, Nat.le_refl _⟩

/-! ## the last view and what is settled about it -/

theorem lastView_eq {mf : LogFile MRec} (hc : curManifest d = some mf) :
    lastView cfg d = viewAt cfg mf mf.unsynced.length := by
  unfold lastView; rw [hc]; rfl

theorem lastView_congr (h : curManifest d' = curManifest d) :
    lastView cfg d' = lastView cfg d := by
  unfold lastView; rw [h]

theorem DiskOK.last {must issued : List Grp} (hd : DiskOK cfg d must issued) :
    ∃ mf v0 v, DiskOK.Parts cfg d must issued mf v0 ∧ lastView cfg d = some v ∧
      viewAt cfg mf mf.unsynced.length = some v ∧ ViewOK d must issued v ∧ v0.jn ≤ v.jn := by
  obtain ⟨mf, v0, hparts⟩ := hd.parts
  obtain ⟨v, hv, hok, hmono⟩ := hparts.views mf.unsynced.length (Nat.le_refl _)
  exact ⟨mf, v0, v, hparts, by rw [lastView_eq hparts.cur]; exact hv, hv, hok, hmono⟩

theorem Settled.intro {P : MView → Prop} {mf : LogFile MRec} {v : MView} (hc : curManifest d = some mf)
    (hu : s.manifestOpen = true → s.limbo = none → mf.unsynced = []) (hv : lastView cfg d = some v) (hp : P v) :
    Settled cfg s d P :=
  holds_of_some hc ⟨hu, holds_of_some hv hp⟩

theorem Settled.get {P : MView → Prop} (h : Settled cfg s d P) :
    ∃ mf v, curManifest d = some mf ∧ (s.manifestOpen = true → s.limbo = none → mf.unsynced = []) ∧
      lastView cfg d = some v ∧ P v := by
  obtain ⟨mf, hc, hu, hl⟩ := holds_iff.1 h
  obtain ⟨v, hv, hp⟩ := holds_iff.1 hl
  exact ⟨mf, v, hc, hu, hv, hp⟩

theorem Settled.view {P : MView → Prop} (h : Settled cfg s d P) {v : MView}
    (hv : lastView cfg d = some v) : P v := by
  obtain ⟨_, v', _, _, hv', hp⟩ := h.get
  rw [hv] at hv'; cases hv'
  exact hp

/-- `Settled` looks at the storage through the manifest `CURRENT` names only -/
theorem Settled.congr {P : MView → Prop} (h : Settled cfg s d P)
    (hcm : curManifest d' = curManifest d) (ho : s'.manifestOpen = s.manifestOpen := by rfl)
    (hl : s'.limbo = s.limbo := by rfl) : Settled cfg s' d' P := by
  unfold Settled at h ⊢
  rw [hcm, lastView_congr hcm, ho, hl]
  exact h

theorem Settled.imp {P Q : MView → Prop} (h : Settled cfg s d P) (f : ∀ v, lastView cfg d = some v → P v → Q v)
    (ho : s'.manifestOpen = s.manifestOpen := by rfl) (hl : s'.limbo = s.limbo := by rfl) : Settled cfg s' d Q := by
  obtain ⟨mf, v, hc, hu, hv, hp⟩ := h.get
  exact .intro hc (ho ▸ hl ▸ hu) hv (f v hv hp)

/-! ## the clauses of `RunOK` about the ghost edit, the frozen buffer and the file numbers -/

theorem LimboOK.get (h : LimboOK s d) {u : MRec} (hu : s.limbo = some u) : LimboFacts s d u := by
  unfold LimboOK at h
  rw [hu] at h
  exact h

theorem LimboFacts.failed {u : MRec} (h : LimboFacts s d u) : s.manifestFailed = true := h.1

theorem LimboFacts.jnLe {u : MRec} (h : LimboFacts s d u) : s.stJn ≤ u.jn.getD s.stJn := h.2.2.2.1

theorem LimboFacts.sqLe {u : MRec} (h : LimboFacts s d u) : s.stSq ≤ u.sq.getD s.stSq := h.2.2.2.2.1

/-- the session's tables lie below what the edit adds, their groups below the session's sequence number -/
theorem LimboFacts.live {u : MRec} (h : LimboFacts s d u) :
    ∀ t ∈ s.live, (∀ a ∈ u.added, t < a) ∧ ∀ g ∈ tableGrpsOf d t, g.fin ≤ s.stSq + 1 := h.2.2.2.2.2.1

theorem LimboFacts.job {u : MRec} (h : LimboFacts s d u) :
    Holds' s.job fun j => j.edit = none ∨ j.pc.beforeCommit = true := h.2.2.2.2.2.2.1

/-- whose edit it is: the retrying job's, or a discarded transaction's -/
theorem LimboFacts.owner {u : MRec} (h : LimboFacts s d u) :
    (Holds s.job fun j => j.edit = some u ∧ j.pc.retry = true) ∨ OrphanOK s d u := h.2.2.2.2.2.2.2

theorem FrozenOK.get (h : FrozenOK cfg s d) {fz : List Grp} {jf : Nat} (hfz : s.frozen = some fz)
    (hjf : s.jfrozen = some jf) : FrozenFacts cfg s d fz jf := by
  unfold FrozenOK at h
  rw [hfz, hjf] at h
  exact h

theorem FrozenOK.jfrozen_none (h : FrozenOK cfg s d) (hfz : s.frozen = none) : s.jfrozen = none :=
  (frozenOK_iff.1 h).elim (·.2) fun ⟨_, _, h1, _⟩ => by rw [hfz] at h1; cases h1

/-- `FrozenOK` carries over when the frozen buffer and its journal number stay and the facts about them do -/
theorem FrozenOK.imp (h : FrozenOK cfg s d) (e1 : s'.frozen = s.frozen) (e2 : s'.jfrozen = s.jfrozen)
    (f : ∀ fz jf, s.frozen = some fz → s.jfrozen = some jf → FrozenFacts cfg s d fz jf → FrozenFacts cfg s' d' fz jf) :
    FrozenOK cfg s' d' := by
  rcases frozenOK_iff.1 h with ⟨h1, h2⟩ | ⟨fz, jf, h1, h2, hf⟩
  · exact frozenOK_iff.2 (.inl ⟨e1.trans h1, e2.trans h2⟩)
  · exact frozenOK_iff.2 (.inr ⟨fz, jf, e1.trans h1, e2.trans h2, f fz jf h1 h2 hf⟩)

/-- `RunOK.nums` under a raised next-file number -/
theorem nums_le {n n' : Nat} (h : ∀ p ∈ d.journals, p.1 < n ∨ p.1 = n ∧ p.2.all = []) (hn : n ≤ n') :
    ∀ p ∈ d.journals, p.1 < n' ∨ p.1 = n' ∧ p.2.all = [] := by
  intro p hp
  rcases h p hp with x | x
  · exact Or.inl (by omega)
  · rcases Nat.lt_or_ge n n' with y | y
    · exact Or.inl (by omega)
    · exact Or.inr ⟨by omega, x.2⟩

/-! ## outcomes, and the writer between two groups -/

theorem Outcome.eq_ok_of_not_failed {o : Outcome} (h : ¬ o.failed = true) : o = .ok := by
  cases o <;> first | rfl | exact absurd rfl h

theorem WPc.inflight_of_quiet {w : WPc} (h : w.quiet = true) : inflight w = [] := by
  cases w <;> first | rfl | cases h

theorem WSeqOK.mem_of_quiet (h : WSeqOK s) (hq : s.w.quiet = true) : ∀ x ∈ s.mem, x.fin ≤ s.seq + 1 := by
  unfold WSeqOK at h
  cases hw : s.w <;> rw [hw] at h hq <;> first | exact h | cases hq

theorem WSeqOK.of_quiet (hq : s.w.quiet = true) (h : ∀ x ∈ s.mem, x.fin ≤ s.seq + 1) : WSeqOK s := by
  unfold WSeqOK
  cases hw : s.w <;> rw [hw] at hq <;> first | exact h | cases hq

/-! ## the classes of pcs -/

theorem JPc.not_bc_of_post {pc : JPc} (h : pc.post = true) : pc.beforeCommit = false := by
  cases pc <;> first | rfl | cases h

theorem JPc.not_post_of_bc {pc : JPc} (h : pc.beforeCommit = true) : pc.post = false :=
  Bool.eq_false_iff.2 fun hp => by rw [JPc.not_bc_of_post hp] at h; cases h

theorem JPc.tablesDone_of_post {pc : JPc} (h : pc.post = true) : pc.tablesDone = true := by
  cases pc <;> first | rfl | cases h

theorem JPc.not_retry_of_post {pc : JPc} (h : pc.post = true) : pc.retry = false := by
  cases pc <;> first | rfl | cases h

theorem JPc.not_uninstalled_of_post {pc : JPc} (h : pc.post = true) : pc.uninstalled = false := by
  cases pc <;> first | rfl | cases h

theorem JPc.late_of_not_bc {pc : JPc} (h : pc.beforeCommit = false) : pc ≠ .mkJournal ∧ pc.tablesDone = true := by
  cases pc <;> first | (cases h; done) | exact ⟨nofun, rfl⟩

theorem JPc.late_of_post {pc : JPc} (h : pc.post = true) : pc ≠ .mkJournal ∧ pc.tablesDone = true :=
  JPc.late_of_not_bc (JPc.not_bc_of_post h)

/-- behind the tables and behind `newMem` a pc is in neither of the two earlier stretches -/
theorem JPc.not_early_of_late {pc : JPc} (h : pc ≠ .mkJournal ∧ pc.tablesDone = true) :
    ¬ (pc = .mkJournal ∨ pc.tablesDone = false) :=
  fun hx => hx.elim h.1 fun hx => by rw [h.2] at hx; cases hx

theorem JPc.retry_of_late {pc : JPc} (h1 : pc ≠ .mkJournal) (h2 : pc.tablesDone = true)
    (h3 : pc.beforeCommit = true) : pc.retry = true := by
  cases pc <;> first | rfl | exact absurd rfl h1 | (cases h3; done) | (cases h2; done)

theorem JPc.bc_of_retry {pc : JPc} (h : pc.retry = true) : pc.beforeCommit = true := by
  cases pc <;> first | rfl | cases h

theorem JPc.late_of_retry {pc : JPc} (h : pc.retry = true) : pc ≠ .mkJournal ∧ pc.tablesDone = true := by
  cases pc <;> first | (cases h; done) | exact ⟨(by intro x; cases x), rfl⟩

/-- before the removals there is nothing to say about them -/
theorem RemovalsOK_of_not_post {s : St} {d : Disk} {j : Job} {v : MView} (h : j.pc.post = false) :
    RemovalsOK s d j v := by
  unfold RemovalsOK
  split <;> first | trivial | (rename_i e; rw [e] at h; cases h)

/-- behind the commit the manifest clause is the same at every pc -/
theorem JobManifest_post {pc : JPc} (h : pc.post = true) :
    JobManifest cfg s d e pc =
      (s.manifestOpen = true ∧ Settled cfg s d (MirrorL s) ∧ ∀ x, e.jn = some x → s.stJn = x) := by
  cases pc <;> first | rfl | cases h

theorem OutOK_of_tablesDone {pc : JPc} {i : Nat} {o : Nat × List Grp} (h : pc.tablesDone = true) :
    OutOK d pc i o = (pc.beforeCommit = true → Holds (lookup d.tables o.1) fun tf => tf = ⟨o.2, true, false⟩) := by
  cases pc <;> first | rfl | cases h

theorem PcIdxOK_of_tablesDone (h : j.pc.tablesDone = true) : PcIdxOK j := by
  unfold PcIdxOK
  split <;> first | trivial | (rename_i e; rw [e] at h; cases h)

/-- the pcs whose manifest clause is "settled, mirrored" and whose edit is still to come -/
def JPc.early : JPc → Bool
  | .tCreate _ | .tWrite _ | .tSync _ | .mkJournal | .append => true
  | _ => false

theorem JobManifest_early {pc : JPc} (h : pc.early = true) :
    JobManifest cfg s d e pc = Settled cfg s d (MirrorL s) := by
  cases pc <;> first | rfl | cases h

theorem early_beforeCommit {pc : JPc} (h : pc.early = true) : pc.beforeCommit = true := by
  cases pc <;> first | rfl | cases h

theorem early_not_rm {v : MView} (h : j.pc.early = true) : RemovalsOK s d j v :=
  RemovalsOK_of_not_post (JPc.not_post_of_bc (early_beforeCommit h))

/-! ## the invariant, taken apart and put together -/

theorem Inv.jobOK (h : Inv cfg s d) (hj : s.job = some j) :
    JobOK cfg s d j := by
  have := h.job
  rw [hj] at this
  exact this

theorem Inv.bounds_of (h : Inv cfg s d) {p : Phase} (hph : s.phase = p) (hp : p ≠ .crashed := by decide) :
    ViewBounds cfg s d :=
  h.bounds (by rw [hph]; exact hp)

theorem Inv.recOK (h : Inv cfg s d) (hph : s.phase = .recovering) :
    ∃ r, s.recov = some r ∧ RecOK cfg s d r :=
  holds_iff.1 (h.recov hph)

/-- outside the running phase the write path is at rest: no group in flight, no frozen buffer, no transaction, no ghost edit -/
theorem Inv.idle_of_not_running (h : Inv cfg s d) (hp : s.phase ≠ .running) :
    s.w = .idle ∧ s.frozen = none ∧ s.tr = none ∧ s.limbo = none := by
  rcases hph : s.phase with _ | _ | _
  · exact (h.crashed hph).2
  · obtain ⟨r, _, hr⟩ := h.recOK hph
    exact hr.idle
  · exact absurd hph hp

theorem Inv.limbo_none_of_not_running (h : Inv cfg s d) (hp : s.phase ≠ .running) :
    s.limbo = none := (h.idle_of_not_running hp).2.2.2

/-- the ghost edit exists only in the running phase, and only while `manifestFailed` is set -/
theorem Inv.limbo_none (h : Inv cfg s d)
    (hmf : s.phase = .running → s.manifestFailed = false) : s.limbo = none := by
  by_cases hp : s.phase = .running
  · cases hu : s.limbo with
    | none => rfl
    | some u =>
      have := ((h.run hp).limbo.get hu).failed
      rw [hmf hp] at this; cases this
  · exact h.limbo_none_of_not_running hp

theorem Inv.of_running (hph : s.phase = .running)
    (hd : DiskOK cfg d (must s) (issuedGrps s)) (hmm : ManifestMono cfg d) (hb : ViewBounds cfg s d)
    (hrun : RunOK cfg s d) (hjob : Holds' s.job (JobOK cfg s d)) : Inv cfg s d :=
  ⟨hd, hmm, fun _ => hb, fun _ => hrun, fun hc => (by rw [hph] at hc; cases hc),
    fun hc => (by rw [hph] at hc; cases hc), hjob⟩

theorem Inv.of_recovering (hph : s.phase = .recovering)
    (hd : DiskOK cfg d (must s) (issuedGrps s)) (hmm : ManifestMono cfg d) (hb : ViewBounds cfg s d)
    (hrec : Holds s.recov (RecOK cfg s d)) (hjob : Holds' s.job (JobOK cfg s d)) : Inv cfg s d :=
  ⟨hd, hmm, fun _ => hb, fun hc => (by rw [hph] at hc; cases hc), fun _ => hrec,
    fun hc => (by rw [hph] at hc; cases hc), hjob⟩

/-! ## the clauses of `JobOK`: those about the edit when the edit is known, `MkJournalOK` before and behind `newMem`,
the output tables before the commit -/

/-- the manifest clause of a job that has an edit, without the case split on the edit -/
theorem JobOK.manifest_at (h : JobOK cfg s d j) (he : j.edit = some e) : JobManifest cfg s d e j.pc := by
  have := h.manifest
  unfold JobManifestOK at this
  rw [he] at this
  exact this

theorem JobOK.shape_at (h : JobOK cfg s d j) (he : j.edit = some e) :
    e.added = j.outs.map (·.1) ∧ e.torn = false ∧ e.snapshot = false := by
  have := h.shape
  rw [he] at this
  exact this

theorem JobOK.inputs_at (h : JobOK cfg s d j) (he : j.edit = some e) : InputsOK s d j e := by
  have := h.inputs
  rw [he] at this
  exact this

theorem JobManifestOK.of_some (he : j.edit = some e) (h : JobManifest cfg s d e j.pc) : JobManifestOK cfg s d j := by
  unfold JobManifestOK
  rw [he]
  exact h

theorem MkJournalOK.of_none (h : j.mkJournal = none) : MkJournalOK s d j := by
  unfold MkJournalOK
  rw [h]
  trivial

/-- up to `newMem` the journal the final commit of a recovery will make has a number above every journal there is -/
theorem MkJournalOK.early {n : Nat} (h : MkJournalOK s d j) (hn : j.mkJournal = some n)
    (hpc : j.pc = .mkJournal ∨ j.pc.tablesDone = false) : n < s.nextFile ∧ ∀ p ∈ d.journals, p.1 < n := by
  unfold MkJournalOK at h
  rw [hn] at h
  simp only at h
  rw [if_pos hpc] at h
  exact h

/-- behind `newMem` the journal it made for the final commit of a recovery is the current one and the highest, and every
    journal beside it is older -/
theorem MkJournalOK.late_iff {n : Nat} (hn : j.mkJournal = some n) (hlate : j.pc ≠ .mkJournal ∧ j.pc.tablesDone = true) :
    MkJournalOK s d j ↔ n < s.nextFile ∧ s.jcur = n ∧ (∃ p ∈ d.journals, p.1 = n) ∧
      ∀ p ∈ d.journals, p.1 < n ∨ p.1 = n ∧ p.2.all = [] := by
  unfold MkJournalOK
  rw [hn]
  simp only
  rw [if_neg (JPc.not_early_of_late hlate)]

/-- before its commit a job's output tables lie above everything an admissible view knows — unless the storage is ahead
    of the session by this very edit (a retry with the ghost edit set) -/
theorem JobOK.outs_above (hok : JobOK cfg s d j) (hbc : j.pc.beforeCommit = true)
    (hx : j.pc.retry = false ∨ s.limbo = none) : AllViews cfg d fun v => ∀ o ∈ j.outs, v.nf ≤ o.1 :=
  fun _ hc k hk _ hv o ho => ((holds_some (holds_some (hok.fresh.2 hbc) hc k hk) hv).1 o ho).resolve_right fun h =>
    hx.elim (fun e => by rw [e] at h; cases h.1) (fun e => by rw [e] at h; cases h.2.1)

/-- … so none of them is live in any admissible view -/
theorem Inv.outs_not_live (h : Inv cfg s d) (hj : s.job = some j) (hbc : j.pc.beforeCommit = true)
    (hx : j.pc.retry = false ∨ s.limbo = none) : AllViews cfg d fun v => ∀ o ∈ j.outs, o.1 ∉ v.live :=
  fun mf hc k hk v hv o ho hl =>
    Nat.lt_irrefl _ (Nat.lt_of_lt_of_le ((h.disk.allViews mf hc k hk v hv).tables o.1 hl).1
      ((h.jobOK hj).outs_above hbc hx mf hc k hk v hv o ho))

/-- before its commit a job's output tables are live in no admissible view: removing one changes no table a view reads -/
theorem Inv.erase_out (h : Inv cfg s d) (hj : s.job = some j) (hbc : j.pc.beforeCommit = true) (hl : s.limbo = none)
    {o : Nat × List Grp} (ho : o ∈ j.outs) :
    AllViews cfg d fun v => ∀ t ∈ v.live, lookup (d.tables.erase o.1) t = lookup d.tables t :=
  fun mf hc k hk v hv t ht => by
    rw [lookup_erase, if_neg]
    intro e
    exact h.outs_not_live hj hbc (.inr hl) mf hc k hk v hv o ho (e ▸ ht)

/-- the process is down — crash, exit, an `Open` that gives up: of the session only what it issued is left, and it owes
    what it acknowledged with `Sync` -/
theorem Inv.of_crashed (hph : s.phase = .crashed)
    (hidle : s.job = none ∧ s.w = .idle ∧ s.frozen = none ∧ s.tr = none ∧ s.limbo = none)
    (hd : DiskOK cfg d (ackedSync s.issued) (issuedGrps s)) (hmm : ManifestMono cfg d) : Inv cfg s d := by
  refine ⟨hd.mono (fun x hx => ?_) fun _ hx => hx, hmm, fun hc => absurd hph hc, fun hc => (by rw [hph] at hc; cases hc),
    fun hc => (by rw [hph] at hc; cases hc), fun _ => hidle, by rw [hidle.1]; trivial⟩
  rw [must_eq, hidle.2.1, List.append_nil] at hx
  exact hx

/-! ## what ties a job to its thread: `JobKindOK` kind by kind, with the thread's data (`fz jf`, `r o n`, `g`) and the
edit `e` as parameters -/

/-- a flush of the frozen buffer `fz`, whose journal is `jf` -/
structure JobKindOK.Flush (s : St) (j : Job) (fz : List Grp) (jf : Nat) : Prop where
  phase : s.phase = .running
  mkJournal : j.mkJournal = none
  frozen : s.frozen = some fz
  jfrozen : s.jfrozen = some jf
  rmJournals : j.rmJournals = [jf]
  edit : (∃ e, j.edit = some e ∧ j.outs = [(e.added.headD 0, fz)] ∧ e.jn = some s.jcur ∧ e.sq = some s.frozenSeq ∧
      fz ≠ []) ∨ j.edit = none ∧ fz = [] ∧ j.outs = []

/-- a commit inside the journal loop of a recovery: journal `o` has been replayed, `n` comes next -/
structure JobKindOK.RecovMid (s : St) (j : Job) (r : Recov) (o n : Nat) (e : MRec) : Prop where
  phase : s.phase = .recovering
  mkJournal : j.mkJournal = none
  recov : s.recov = some r
  ofd : r.ofd = some o
  rmJournals : j.rmJournals = [o]
  outs : j.outs = [] ∧ r.mdb = [] ∨ j.outs = [(j.outs.head?.map (·.1) |>.getD 0, r.mdb)]
  todo : r.todo.head? = some n
  edit : j.edit = some e
  jn : e.jn = some n
  sq : e.sq = some s.seq

/-- the last commit of a recovery, with the journal `n` that `newMem` makes -/
structure JobKindOK.RecovFinal (s : St) (j : Job) (r : Recov) (n : Nat) (e : MRec) : Prop where
  phase : s.phase = .recovering
  recov : s.recov = some r
  todo : r.todo = []
  rmJournals : j.rmJournals = r.ofd.toList
  rmLt : ∀ o ∈ j.rmJournals, o < n
  outs : j.outs = [] ∧ r.mdb = [] ∨ j.outs = [(j.outs.head?.map (·.1) |>.getD 0, r.mdb)]
  mkJournal : j.mkJournal = some n
  edit : j.edit = some e
  jn : e.jn = some n
  sq : e.sq = some s.seq

structure JobKindOK.Compaction (s : St) (j : Job) : Prop where
  phase : s.phase = .running
  mkJournal : j.mkJournal = none
  rmJournals : j.rmJournals = []
  edit : ∃ e, j.edit = some e

/-- the commit of the open transaction `g` -/
structure JobKindOK.Tr (s : St) (j : Job) (g : Grp) (e : MRec) : Prop where
  phase : s.phase = .running
  mkJournal : j.mkJournal = none
  rmJournals : j.rmJournals = []
  rmTables : j.rmTables = []
  tr : s.tr = some g
  edit : j.edit = some e
  jn : e.jn = none
  sq : e.sq = some (g.fin - 1)
  outs : j.outs = [(e.added.headD 0, [g])]
  recs : g.recs ≠ []
  issued : g ∈ issuedGrps s

theorem JobKindOK.flush (h : JobKindOK s j) (hk : j.kind = .flush) : ∃ fz jf, JobKindOK.Flush s j fz jf := by
  unfold JobKindOK at h
  rw [hk] at h
  obtain ⟨hph, h⟩ := h
  split at h
  · next fz jf e hfz hjf he =>
    exact ⟨fz, jf, hph, h.2.2.2.2.1, hfz, hjf, h.2.2.2.1, Or.inl ⟨e, he, h.1, h.2.1, h.2.2.1, h.2.2.2.2.2⟩⟩
  · next fz jf hfz hjf he => exact ⟨fz, jf, hph, h.2.2.2, hfz, hjf, h.2.2.1, Or.inr ⟨he, h.1, h.2.1⟩⟩
  · exact h.elim

theorem JobKindOK.Flush.edit_at {fz : List Grp} {jf : Nat} (h : JobKindOK.Flush s j fz jf) (he : j.edit = some e) :
    j.outs = [(e.added.headD 0, fz)] ∧ e.jn = some s.jcur ∧ e.sq = some s.frozenSeq ∧ fz ≠ [] := by
  rcases h.edit with ⟨e', he', x⟩ | ⟨he', _⟩
  · rw [he] at he'; cases he'; exact x
  · rw [he] at he'; cases he'

theorem JobKindOK.recovMid (h : JobKindOK s j) (hk : j.kind = .recovMid) : ∃ r o n e, JobKindOK.RecovMid s j r o n e := by
  unfold JobKindOK at h
  rw [hk] at h
  obtain ⟨hph, hmk, h⟩ := h
  obtain ⟨r, hr, h⟩ := holds_iff.1 h
  obtain ⟨o, ho, hrm, houts, h⟩ := holds_iff.1 h
  obtain ⟨n, hn, h⟩ := holds_iff.1 h
  obtain ⟨e, he, h⟩ := holds_iff.1 h
  exact ⟨r, o, n, e, hph, hmk, hr, ho, hrm, houts, hn, he, h.1, h.2⟩

theorem JobKindOK.recovFinal (h : JobKindOK s j) (hk : j.kind = .recovFinal) : ∃ r n e, JobKindOK.RecovFinal s j r n e := by
  unfold JobKindOK at h
  rw [hk] at h
  obtain ⟨hph, h⟩ := h
  obtain ⟨r, hr, htodo, ⟨hrm, hlt⟩, houts, h⟩ := holds_iff.1 h
  obtain ⟨n, hn, h⟩ := holds_iff.1 h
  obtain ⟨e, he, h⟩ := holds_iff.1 h
  refine ⟨r, n, e, hph, hr, htodo, hrm, fun o ho => ?_, houts, hn, he, h.1, h.2⟩
  have := hlt o ho
  rw [hn] at this
  exact this

theorem JobKindOK.compaction (h : JobKindOK s j) (hk : j.kind = .compaction) : JobKindOK.Compaction s j := by
  unfold JobKindOK at h
  rw [hk] at h
  exact ⟨h.1, h.2.1, h.2.2.1, Option.isSome_iff_exists.1 h.2.2.2⟩

theorem JobKindOK.tr (h : JobKindOK s j) (hk : j.kind = .tr) : ∃ g e, JobKindOK.Tr s j g e := by
  unfold JobKindOK at h
  rw [hk] at h
  obtain ⟨hph, hmk, hrj, hrt, h⟩ := h
  obtain ⟨g, hg, h⟩ := holds_iff.1 h
  obtain ⟨e, he, h1, h2, h3, h4, h5⟩ := holds_iff.1 h
  exact ⟨g, e, hph, hmk, hrj, hrt, hg, he, h1, h2, h3, h4, h5⟩

/-- a job of the running DB makes no journal; one of a recovery has an edit -/
theorem JobKindOK.cases (h : JobKindOK s j) :
    s.phase = .running ∧ j.mkJournal = none ∧ (j.kind = .flush ∨ j.kind = .compaction ∨ j.kind = .tr) ∨
    s.phase = .recovering ∧ (j.kind = .recovMid ∨ j.kind = .recovFinal) ∧ ∃ e, j.edit = some e := by
  cases hk : j.kind
  · obtain ⟨_, _, hf⟩ := h.flush hk
    exact Or.inl ⟨hf.phase, hf.mkJournal, Or.inl rfl⟩
  · obtain ⟨_, _, _, e, hm⟩ := h.recovMid hk
    exact Or.inr ⟨hm.phase, Or.inl rfl, e, hm.edit⟩
  · obtain ⟨_, _, e, hf⟩ := h.recovFinal hk
    exact Or.inr ⟨hf.phase, Or.inr rfl, e, hf.edit⟩
  · exact Or.inl ⟨(h.compaction hk).phase, (h.compaction hk).mkJournal, Or.inr (Or.inl rfl)⟩
  · obtain ⟨_, _, ht⟩ := h.tr hk
    exact Or.inl ⟨ht.phase, ht.mkJournal, Or.inr (Or.inr rfl)⟩

theorem JobKindOK.not_tr (h : JobKindOK s j) (htr : s.tr = none) : j.kind ≠ .tr := fun hk => by
  obtain ⟨_, _, ht⟩ := h.tr hk
  cases htr.symm.trans ht.tr

/-- only the job that drops an empty frozen buffer has no edit -/
theorem JobKindOK.of_noedit (h : JobKindOK s j) (he : j.edit = none) :
    j.kind = .flush ∧ s.phase = .running ∧ j.outs = [] ∧
      ∃ jf, s.frozen = some [] ∧ s.jfrozen = some jf ∧ j.rmJournals = [jf] := by
  rcases h.cases with ⟨_, _, hk | hk | hk⟩ | ⟨_, _, e, he'⟩
  · obtain ⟨fz, jf, hf⟩ := h.flush hk
    rcases hf.edit with ⟨e, he', _⟩ | ⟨_, hfz0, houts⟩
    · rw [he] at he'; cases he'
    · subst hfz0; exact ⟨hk, hf.phase, houts, jf, hf.frozen, hf.jfrozen, hf.rmJournals⟩
  · obtain ⟨e, he'⟩ := (h.compaction hk).edit
    rw [he] at he'; cases he'
  · obtain ⟨_, e, ht⟩ := h.tr hk
    have he' := ht.edit
    rw [he] at he'; cases he'
  · rw [he] at he'; cases he'

theorem JobKindOK.rmJournals_nil (h : JobKindOK s j) (hk : j.kind = .compaction ∨ j.kind = .tr) :
    j.rmJournals = [] := by
  rcases hk with hk | hk
  · exact (h.compaction hk).rmJournals
  · obtain ⟨_, _, ht⟩ := h.tr hk
    exact ht.rmJournals

/-- only the last commit of a recovery makes a journal: the one its edit names -/
theorem JobKindOK.of_mkJournal (h : JobKindOK s j) {n : Nat} (hn : j.mkJournal = some n) :
    j.kind = .recovFinal ∧ s.phase = .recovering ∧ ∃ e, j.edit = some e ∧ e.jn = some n := by
  rcases h.cases with ⟨_, hmk, _⟩ | ⟨_, hk | hk, _⟩
  · rw [hmk] at hn; cases hn
  · obtain ⟨_, _, _, _, hm⟩ := h.recovMid hk
    rw [hm.mkJournal] at hn; cases hn
  · obtain ⟨_, n', e, hf⟩ := h.recovFinal hk
    have hn' := hf.mkJournal
    rw [hn] at hn'; cases hn'
    exact ⟨hk, hf.phase, e, hf.edit, hf.jn⟩

end GoLevel.Dur

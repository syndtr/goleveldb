import GoLevel.Proofs.FSMeta
import GoLevel.Proofs.FSMetaSys
/-!
# `setMeta_shape`: from a clean directory `setMeta b` ends in one of the five forms of `Shape`

Whatever the oracle does (any system call failing, the process dying before or in the middle of any of them).
The proof follows the code: one system call works or returns an error having done nothing or a part (`sys_cases`;
`sys_ino` for a call that only rewrites one inode) — the calls of a process that died are of the second kind, so the
walk never asks whether the process is alive; `writeFileSynced` leaves the file untouched, half filled
(`filling`) or complete (`writeFileSynced_cases`; `fillRest_cases` follows the inode through `Write`, `Sync` and
`Close`); `setMeta` is `Stat`, `ReadFile`, the backup, and `setMetaTail` = the new file, `rename`, `syncDir`.
-/
namespace GoLevel.FSMeta

/-- `Write`, `Sync`, `Close` of `writeFileSynced`: all three are issued whatever the earlier ones returned -/
def fillRest (i : Nat) (c : Content) (w : W) : Except Err Unit × W :=
  let x1 := write i c w
  let x2 := fsync i x1.2
  let x3 := close i x2.2
  (firstErr x1.1 (firstErr x2.1 x3.1), x3.2)

theorem writeFileSynced_eq (n : Name) (c : Content) (w : W) :
    writeFileSynced true n c w =
      match openTrunc n w with
      | (.error e, w) => (.error e, w)
      | (.ok i, w) => fillRest i c w := rfl

/-- one call that does nothing but rewrite inode `i` (to `y1` when it works, to `y2` when it does a part): the inode
    afterwards; and the call worked if it returned nil -/
theorem sys_ino {α : Type} {l : Lbl} {eff : FS → Except Err α × FS} {part : FS → FS} {T : FS} {i : Nat}
    {y y1 y2 : Inode} {w : W} (hfs : w.fs = T.setIno i fun _ => y)
    (he : (eff w.fs).2 = T.setIno i fun _ => y1) (hp : part w.fs = T.setIno i fun _ => y2) :
    ∃ y' ∈ [y, y1, y2], (sys l eff part w).2.fs = T.setIno i (fun _ => y') ∧
      (∀ a, (sys l eff part w).1 = .ok a → y' = y1) := by
  rcases sys_cases l eff part w with ⟨w', e, f⟩ | ⟨w', e, f | f⟩ <;> rw [e]
  · exact ⟨y1, by simp, f.trans he, fun _ _ => rfl⟩
  · exact ⟨y, by simp, f.trans hfs, fun a h => by cases h⟩
  · exact ⟨y2, by simp, f.trans hp, fun a h => by cases h⟩

theorem fillRest_cases (i : Nat) (c d : Content) (T : FS) {w : W}
    (hfs : w.fs = T.setIno i fun _ => ⟨d, .empty, true⟩) :
    ∃ y ∈ filling d c, (fillRest i c w).2.fs = T.setIno i (fun _ => y) ∧
      ((fillRest i c w).1 = .ok () → y = ⟨c, c, false⟩) := by
  -- the inode after `Write`, after `Sync`, after `Close`
  have h1 : ∃ y' ∈ [_, ⟨d, c, true⟩, ⟨d, cutOf c, true⟩], (write i c w).2.fs = T.setIno i (fun _ => y') ∧
      ∀ a, (write i c w).1 = .ok a → y' = _ := sys_ino hfs (by rw [hfs, setIno_setIno]) (by rw [hfs, setIno_setIno])
  obtain ⟨y1, m1, f1, o1⟩ := h1
  have h2 : ∃ y' ∈ [_, ⟨y1.vol, y1.vol, false⟩, y1], (fsync i (write i c w).2).2.fs = T.setIno i (fun _ => y') ∧
      ∀ a, (fsync i (write i c w).2).1 = .ok a → y' = _ := sys_ino f1 (by rw [f1, setIno_setIno]) f1
  obtain ⟨y2, m2, f2, o2⟩ := h2
  have h3 : ∃ y' ∈ [_, y2, y2], (close i (fsync i (write i c w).2).2).2.fs = T.setIno i (fun _ => y') ∧
      ∀ a, (close i (fsync i (write i c w).2).2).1 = .ok a → y' = _ := sys_ino f2 f2 f2
  obtain ⟨y3, m3, f3, _⟩ := h3
  have e3 : y3 = y2 := by simpa using m3
  subst e3
  refine ⟨y3, ?_, f3, fun hok => ?_⟩
  · simp only [List.mem_cons, List.not_mem_nil, or_false] at m1 m2
    rcases m1 with rfl | rfl | rfl <;> rcases m2 with rfl | rfl | rfl <;> simp [filling]
  · simp only [fillRest] at hok
    cases e1 : (write i c w).1 with
    | error e => simp [firstErr, e1] at hok
    | ok a =>
      cases e2 : (fsync i (write i c w).2).1 with
      | error e => simp [firstErr, e1, e2] at hok
      | ok b => rw [o2 b e2, o1 a e1]

def ShapeW (p : CleanP) (x : Except Err Unit × W) : Prop := Shape p x.1 x.2.fs

theorem writeFileSynced_cases (n : Name) (c d : Content) (i : Nat) (T : FS) {w : W}
    (hopen : openEff n w.fs = (.ok i, T.setIno i fun _ => ⟨d, .empty, true⟩)) :
    ((writeFileSynced true n c w).1 = .error .io ∧ (writeFileSynced true n c w).2.fs = w.fs) ∨
    ∃ y ∈ filling d c, (writeFileSynced true n c w).2.fs = T.setIno i (fun _ => y) ∧
      ((writeFileSynced true n c w).1 = .ok () → y = ⟨c, c, false⟩) := by
  rw [writeFileSynced_eq, openTrunc_eq]
  rcases sys_cases .open_ (openEff n) id w with ⟨w1, e1, f1⟩ | ⟨w1, e1, f1⟩
  · rw [e1, hopen]
    rw [hopen] at f1
    exact .inr (fillRest_cases i c d T f1)
  · rw [e1]
    exact .inl ⟨rfl, by simpa using f1⟩

theorem setMetaTail_shape (p : CleanP) {w : W} (hfs : w.fs = ⟨[p.cur, p.bakDone], p.dir, p.bakLink⟩) :
    ShapeW p (setMetaTail {} (m p.b) w) := by
  unfold setMetaTail ShapeW
  have hopen : openEff (.pend p.b) w.fs =
      (.ok 2, (⟨[p.cur, p.bakDone, default], p.dir, p.bakLink ++ [.link (.pend p.b) 2]⟩ : FS).setIno 2
        fun _ => ⟨.empty, .empty, true⟩) := by
    rw [hfs]
    cases hb : p.bak <;> simp [openEff, FS.vdir, CleanP.bakLink, CleanP.dir, hb, Dir.apply, Dir.set, Dir.get, getL, delL, FS.setIno]
  have hc := writeFileSynced_cases (.pend p.b) (.gen (m p.b)) .empty 2 _ hopen
  simp only [m_num]
  generalize writeFileSynced true (.pend p.b) (.gen (m p.b)) w = x at hc ⊢
  obtain ⟨r, w1⟩ := x
  rcases hc with ⟨e, f⟩ | ⟨y, hy, f, hr⟩
  · simp only at e f
    subst e
    rw [f, hfs]
    exact .bak _ (by simp) _
  · have f' : w1.fs = ⟨[p.cur, p.bakDone, y], p.dir, p.bakLink ++ [.link (.pend p.b) 2]⟩ := by
      simpa [FS.setIno] using f
    cases r with
    | error e => simp only; rw [f']; exact .new _ (by simp) y hy
    | ok _ =>
      obtain rfl : y = p.newDone := hr rfl
      have hg : w1.fs.vdir.get (.pend p.b) = some 2 := by
        rw [f']; cases hb : p.bak <;> simp [FS.vdir, CleanP.bakLink, CleanP.dir, hb, Dir.apply, Dir.set, Dir.get, getL]
      simp only [rename]
      rcases sys_cases .rename _ id w1 with ⟨w2, e2, f2⟩ | ⟨w2, e2, f2⟩
      · rw [e2, hg]
        rw [hg] at f2
        simp only [FS.op, f', List.append_assoc, List.cons_append, List.nil_append] at f2
        simp only [if_true, syncDir]
        rcases sys_cases .syncDir _ id w2 with ⟨w3, e3, f3⟩ | ⟨w3, e3, f3⟩
        · rw [e3]
          have : w3.fs = ⟨[p.cur, p.bakDone, p.newDone], { ents := [(.cur, 2), (.bak, 1)], files := p.files }, []⟩ := by
            rw [f3, f2]
            cases hb : p.bak <;>
              simp [FS.vdir, CleanP.bakLink, CleanP.dir, hb, Dir.apply, Dir.set, Dir.del, delL]
          rw [this]
          exact .fin _
        · rw [e3]
          have : w3.fs = w2.fs := by simpa using f3
          rw [this, f2]
          exact .ren _ (by simp)
      · rw [e2]
        simp only
        have : w2.fs = w1.fs := by simpa using f2
        rw [this, f']
        exact .new _ (by simp) _ hy

theorem setMeta_shape (p : CleanP) (hp : p.Ok) (o : Nat → Fault) :
    ShapeW p (setMeta {} (m p.b) (W.of p.fs o)) := by
  have hcur : p.fs.vdir.get .cur = some 0 := by
    cases hb : p.bak <;> simp [CleanP.fs, FS.vdir, CleanP.dir, hb, Dir.get, getL]
  have hread : p.fs.read .cur = some (.ptr (m p.a) p.canonA) := by
    rw [FS.read, hcur]; rfl
  have hopen : ∃ x d, openEff .bak p.fs =
      (.ok 1, (⟨[p.cur, x], p.dir, p.bakLink⟩ : FS).setIno 1 fun _ => ⟨d, .empty, true⟩) := by
    cases hb : p.bak with
    | none => exact ⟨default, .empty, by simp [openEff, CleanP.fs, FS.vdir, CleanP.dir, CleanP.bakLink, hb, Dir.get, getL, FS.setIno]⟩
    | some x0 => exact ⟨x0, x0.dur, by simp [openEff, CleanP.fs, FS.vdir, CleanP.dir, CleanP.bakLink, hb, Dir.get, getL, FS.setIno, FS.ino]⟩
  unfold ShapeW setMeta
  simp only [stat]
  rcases sys_cases .stat _ id (W.of p.fs o) with ⟨w1, e1, f1⟩ | ⟨w1, e1, f1⟩
  · rw [e1]
    simp only [W.of, hcur, Option.isSome_some, if_true] at f1 ⊢
    simp only [readFile]
    rcases sys_cases .read _ id w1 with ⟨w2, e2, f2⟩ | ⟨w2, e2, f2⟩
    · rw [e2]
      simp only [f1, hread] at f2 ⊢
      have hsc : ¬ Content.ptr (m p.a) p.canonA = Content.gen (m p.b) := by simp [Content.gen, hp.ne]
      simp only [hsc, decide_false, Bool.and_false, Bool.false_eq_true, if_false]
      obtain ⟨x, d, hopen⟩ := hopen
      rw [← f2] at hopen
      have hc := writeFileSynced_cases .bak (.ptr (m p.a) p.canonA) d 1 _ hopen
      generalize writeFileSynced true .bak (.ptr (m p.a) p.canonA) w2 = r at hc ⊢
      obtain ⟨r, w3⟩ := r
      rcases hc with ⟨e, f⟩ | ⟨y, hy, f, hr⟩
      · simp only at e f
        subst e
        rw [f, f2]
        exact .pre _ (by simp)
      · cases r with
        | error e => simp only; rw [show w3.fs = ⟨[p.cur, y], p.dir, p.bakLink⟩ by simpa [FS.setIno] using f]; exact .bak _ (by simp) y
        | ok _ => exact setMetaTail_shape p (by simpa [FS.setIno, CleanP.bakDone, hr rfl] using f)
    · rw [e2]
      have : w2.fs = p.fs := by simpa [f1] using f2
      simp only
      rw [this]
      exact .pre _ (by simp)
  · rw [e1]
    have : w1.fs = p.fs := by simpa [W.of] using f1
    simp only
    rw [this]
    exact .pre _ (by simp)

/-- case split on the fate of the `k`-th system call, then run on to the next one -/
macro "ostep " o:ident k:num " with " h:ident : tactic =>
  `(tactic| all_goals (try (generalize $o $k = f; cases f <;>
     simp [sysF, FS.vdir, Dir.get, Dir.del, getL, FS.read, FS.ino, Content.gen, FS.setIno, firstErr, FS.op,
       Dir.apply, Dir.set, delL, cutOf, $h:ident])))

end GoLevel.FSMeta

import GoLevel.Model.Iter
import GoLevel.Proofs.Cursor
import GoLevel.Proofs.LSMOrder
/-!
# Simulation framework for the iterator proofs (C02)

`Sim o c xs R`: every state of an iterator with operations `o` that `R` relates to a cursor position over `xs`
answers and moves like the cursor.  `ArrIter` is the cursor itself; the other iterators are shown to be `Sim`s.
-/
namespace GoLevel

theorem _root_.List.Pairwise.of_getElem? {α : Type} {R : α → α → Prop} {xs : List α} (h : xs.Pairwise R) {i j : Nat}
    {a b : α} (hij : i < j) (ha : xs[i]? = some a) (hb : xs[j]? = some b) : R a b := by
  obtain ⟨hi, rfl⟩ := List.getElem?_eq_some_iff.1 ha
  obtain ⟨hj, rfl⟩ := List.getElem?_eq_some_iff.1 hb
  exact List.pairwise_iff_getElem.1 h i j hi hj hij

structure Sim {σ : Type} (o : IterOps σ) (c : UCmp) (xs : List Entry) (R : σ → Pos → Prop) : Prop where
  wf    : ∀ s p, R s p → Cursor.wf xs p
  first : ∀ s p, R s p → R (o.first s) (Cursor.first xs)
  last  : ∀ s p, R s p → R (o.last s) (Cursor.last xs)
  seek  : ∀ s p k, R s p → R (o.seek k s) (Cursor.seek xs (geKey c k))
  next  : ∀ s p, R s p → R (o.next s) (Cursor.next xs p)
  prev  : ∀ s p, R s p → R (o.prev s) (Cursor.prev xs p)
  cur   : ∀ s p, R s p → o.cur s = Cursor.get xs p

namespace Sim
variable {σ : Type} {o : IterOps σ} {c : UCmp} {xs : List Entry} {R : σ → Pos → Prop}

theorem of_step (wf : ∀ s p, R s p → Cursor.wf xs p)
    (step : ∀ cl s p, R s p → R (o.step cl s) (Cursor.step xs (geKey c) cl p))
    (cur : ∀ s p, R s p → o.cur s = Cursor.get xs p) : Sim o c xs R :=
  ⟨wf, step .first, step .last, fun s p k => step (.seek k) s p, step .next, step .prev, cur⟩

theorem step (h : Sim o c xs R) (cl : Call IKey) (s : σ) (p : Pos) (hR : R s p) :
    R (o.step cl s) (Cursor.step xs (geKey c) cl p) := by
  cases cl with
  | first => exact h.first s p hR
  | last => exact h.last s p hR
  | seek k => exact h.seek s p k hR
  | next => exact h.next s p hR
  | prev => exact h.prev s p hR

theorem run (h : Sim o c xs R) (cs : List (Call IKey)) (s : σ) (p : Pos) (hR : R s p) :
    o.run s cs = Cursor.run xs (geKey c) p cs := by
  induction cs generalizing s p with
  | nil => rfl
  | cons cl cs ih =>
    have h1 := h.step cl s p hR
    simp only [IterOps.run, Cursor.run]
    rw [h.cur _ _ h1, ih _ _ h1]

theorem ok_eq (h : Sim o c xs R) (s : σ) (p : Pos) (hR : R s p) :
    o.ok s = (Cursor.get xs p).isSome := by
  simp only [IterOps.ok, h.cur s p hR]

theorem ok_at (h : Sim o c xs R) {s : σ} {j : Nat} (hR : R s (.at j)) : o.ok s = true := by
  rw [h.ok_eq _ _ hR]; simp [Cursor.get, show j < xs.length from h.wf _ _ hR]

end Sim

def ArrIter.Rel (xs : List Entry) (a : ArrIter) (p : Pos) : Prop :=
  a.xs = xs ∧ a.pos = p ∧ Cursor.wf xs p

theorem ArrIter.sim (c : UCmp) (xs : List Entry) : Sim (ArrIter.ops c) c xs (ArrIter.Rel xs) where
  wf := fun _ _ h => h.2.2
  first := fun a _ h => ⟨h.1, by simp [ArrIter.ops, h.1], Cursor.wf_first xs⟩
  last := fun a _ h => ⟨h.1, by simp [ArrIter.ops, h.1], Cursor.wf_last xs⟩
  seek := fun a _ k h => ⟨h.1, by simp [ArrIter.ops, h.1], Cursor.wf_seek xs _⟩
  next := fun a p h => ⟨h.1, by simp [ArrIter.ops, h.1, h.2.1], Cursor.wf_next xs p⟩
  prev := fun a p h => ⟨h.1, by simp [ArrIter.ops, h.1, h.2.1], Cursor.wf_prev xs p h.2.2⟩
  cur := fun a p h => by simp [ArrIter.ops, h.1, h.2.1]

theorem ArrIter.rel_new (c : UCmp) (es : List Entry) (start limit : Option IKey) :
    ArrIter.Rel (sliceOf c es start limit) (ArrIter.new c es start limit) .soi :=
  ⟨rfl, rfl, trivial⟩

/-- `ESorted` of `Proofs/LSMOrder`, whose lemmas apply -/
abbrev SortedEntries (c : UCmp) (es : List Entry) : Prop := es.Pairwise (fun a b => ecmp c a b = .lt)

theorem SortedEntries.lt_of_lt {c : UCmp} {L : List Entry} (hs : SortedEntries c L) {i j : Nat} {a b : Entry}
    (hi : L[i]? = some a) (hj : L[j]? = some b) (hij : i < j) : icmp c a.key b.key = .lt :=
  hs.of_getElem? hij hi hj

theorem geKey_of_le {c : UCmp} (hl : LawfulUCmp c) (k m : IKey) (e : Entry) (h1 : icmp c m k ≠ .lt)
    (h2 : icmp c m e.key ≠ .gt) : geKey c k e = true := by
  have h3 : icmp c k m ≠ .gt := ((icmp_ord hl).not_lt_iff m k).1 h1
  have h4 : icmp c e.key k ≠ .lt := ((icmp_ord hl).not_lt_iff e.key k).2 ((icmp_ord hl).le_trans h3 h2)
  simpa [geKey] using h4

end GoLevel

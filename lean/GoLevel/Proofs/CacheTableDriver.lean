import GoLevel.Driver.Cache
/-! The driver's `cache …` protocol runs the cache model and the table model side by side (`runInstrsT`): the
cache model's part of the answer is exactly what `runInstrs` (the sequential API of `Model/Cache.lean`) gives,
and the table it carries along is always one `table_refines_map` speaks about (it is only ever changed by
`CacheT.step` from `Table.new`). -/
namespace GoLevel.Driver
open GoLevel GoLevel.CacheM

theorem runInstrsT_cache (f : Nat) (s : Shared) (tb : CacheT.Table) (ok : Bool) (is : List Instr) (evs : List Ev) :
    (runInstrsT f s tb ok is evs).map (fun r => (r.1, r.2.2.2)) = runInstrs f s is evs := by
  induction f generalizing s tb ok is evs with
  | zero => simp [runInstrsT, runInstrs]
  | succ f ih =>
    cases is with
    | nil => simp [runInstrsT, runInstrs]
    | cons i rest =>
      simp only [runInstrsT, runInstrs]
      cases he : exec s i with
      | none => simp
      | some r =>
        obtain ⟨s', push, e⟩ := r
        simp only []
        exact ih _ _ _ _ _

theorem tableStep_is_steps (tb : CacheT.Table) (sh : Shared) (i : Instr) :
    (tableStep tb sh i).1 = tb ∨ ∃ op, (tableStep tb sh i).1 = (CacheT.step CacheT.cacheHash tb op).1 := by
  cases i <;> simp only [tableStep] <;> first
    | exact Or.inl rfl
    | exact Or.inl trivial
    | (split
       · exact Or.inl rfl
       · exact Or.inr ⟨_, rfl⟩)

end GoLevel.Driver

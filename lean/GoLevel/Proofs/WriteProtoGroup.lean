import GoLevel.Proofs.WriteProtoCount
/-! What a write group carries, as pure list functions of the leader's call data and the accepted
`writeMerge` messages (`Thread.members`), and the thread-local invariant `GLoc` that ties the locals of
`writeLocked` (`batches`, `ourBatch`, `sync`, `mergeLimit`, `batch.internalLen`) to them. -/
namespace GoLevel.WP

/-- the `writeMerge` message writer `i` (thread record `w`) sends -/
def memOf (i : Nat) (w : Thread) : Mem :=
  { idx := i, sync := w.sync, put := w.put, recs := w.recs, size := w.size }

/-- records of the merged `Put`/`Delete` calls, in the order they were accepted -/
def putRecs (ms : List Mem) : List Rec := ms.flatMap (fun e => if e.put then e.recs else [])

/-- records of the merged `Write` calls -/
def batchRecs (ms : List Mem) : List Rec := ms.flatMap (fun e => if e.put then [] else e.recs)

/-- `batches[1:]`: a merged batch is appended, the pooled batch is appended when the first `Put` is merged
(`seen`: `ourBatch != nil` already) -/
def objsOf : Bool → List Mem → List Obj
  | _, [] => []
  | seen, e :: ms =>
    if e.put then (if seen then objsOf true ms else .our :: objsOf true ms)
    else .other e.idx e.recs :: objsOf seen ms

def sizes (ms : List Mem) : Nat := (ms.map (·.size)).sum
def putSizes (ms : List Mem) : Nat := (ms.map (fun e => if e.put then e.size else 0)).sum
def anySync (ms : List Mem) : Bool := ms.any (·.sync)
def anyPut (ms : List Mem) : Bool := ms.any (·.put)

/-- contents of the pooled batch of a leader: its own record if it is a `Put`, then the merged `Put`s -/
def pooled (put : Bool) (recs : List Rec) (ms : List Mem) : List Rec :=
  (if put then recs else []) ++ putRecs ms

/-- what a group journals and applies, in order -/
def expect (put : Bool) (recs : List Rec) (ms : List Mem) : List Rec :=
  flatOf put recs (pooled put recs ms) (.own :: objsOf put ms)

theorem putRecs_snoc (ms : List Mem) (e : Mem) :
    putRecs (ms ++ [e]) = putRecs ms ++ (if e.put then e.recs else []) := by
  simp [putRecs]

theorem sizes_snoc (ms : List Mem) (e : Mem) : sizes (ms ++ [e]) = sizes ms + e.size := by
  simp [sizes]

theorem putSizes_snoc (ms : List Mem) (e : Mem) :
    putSizes (ms ++ [e]) = putSizes ms + (if e.put then e.size else 0) := by
  simp [putSizes]

theorem anySync_snoc (ms : List Mem) (e : Mem) : anySync (ms ++ [e]) = (anySync ms || e.sync) := by
  simp [anySync]

theorem anyPut_snoc (ms : List Mem) (e : Mem) : anyPut (ms ++ [e]) = (anyPut ms || e.put) := by
  simp [anyPut]

theorem objsOf_snoc (seen : Bool) (ms : List Mem) (e : Mem) :
    objsOf seen (ms ++ [e]) = objsOf seen ms ++
      (if e.put then (if seen || anyPut ms then [] else [.our]) else [.other e.idx e.recs]) := by
  induction ms generalizing seen with
  | nil => cases seen <;> simp [objsOf, anyPut]
  | cons x xs ih =>
    simp only [List.cons_append, objsOf]
    by_cases hx : x.put = true
    · simp only [hx, if_true]
      cases seen <;> simp [ih, anyPut, hx]
    · have hx' : x.put = false := by simpa using hx
      have ha : anyPut (x :: xs) = anyPut xs := by simp [anyPut, hx']
      simp only [hx', Bool.false_eq_true, if_false, List.cons_append, ha, ih]

theorem putRecs_nil_of_anyPut (ms : List Mem) (h : anyPut ms = false) : putRecs ms = [] :=
  List.flatMap_eq_nil_iff.mpr fun e he => if_neg (List.any_eq_false.mp h e he)

/-- the locals of `writeLocked` in and after the merge loop, in terms of the accepted messages -/
def Shape (c : Cfg) (w : Thread) : Prop :=
  w.batches = .own :: objsOf w.put w.members ∧
  w.our = (w.put || anyPut w.members) ∧
  (c.poolReset = true → c.appendOur = true → w.pb = pooled w.put w.recs w.members) ∧
  (c.syncAll = true → w.gsync = (w.sync || anySync w.members)) ∧
  w.glimit + sizes w.members = mergeLimitOf w.size w.gfree ∧
  (c.appendOur = true → w.bsize = w.size + (if w.put then putSizes w.members else 0)) ∧
  (c.appendOur = true → w.cb = w.recs) ∧
  (w.merge = false → w.members = [])

/-- before `db.flush` returns -/
def FlushShape (w : Thread) : Prop :=
  w.members = [] ∧ w.batches = [] ∧ w.cb = w.recs ∧ w.pb = (if w.put then w.recs else []) ∧ w.our = w.put ∧
  w.gsync = w.sync ∧ w.bsize = w.size

/-- not (yet) in `writeLocked` past `db.flush` -/
def Unled (w : Thread) : Prop := w.batches = [] ∧ w.members = [] ∧ w.cb = w.recs

/-- the ghost record of the group once the merge loop is left -/
def Post (w : Thread) : Prop :=
  w.gn = w.flat.length ∧ (w.jout ≠ none → w.jrecs = w.flat ∧ w.jsync = some w.gsync) ∧
  (w.pub ≠ none → w.arecs = w.flat)

def GLoc (c : Cfg) (w : Thread) : Prop :=
  match w.pc with
  | .idle | .selecting | .waitMerged | .waitAck | .hold => Unled w
  | .lead .flush _ _ => FlushShape w
  | .lead .merging m _ => Shape c w ∧ w.members.length = m
  | .lead .replying m _ => Shape c w ∧ w.members.length = m + 1
  | .lead .journal m _ => Shape c w ∧ w.members.length = m ∧ w.gn = w.flat.length
  | .lead .apply m _ =>
      Shape c w ∧ w.members.length = m ∧ w.gn = w.flat.length ∧ w.jrecs = w.flat ∧ w.jsync = some w.gsync
  | .lead .publish m _ | .lead .rotate m _ =>
      Shape c w ∧ w.members.length = m ∧ w.gn = w.flat.length ∧ w.jrecs = w.flat ∧ w.jsync = some w.gsync ∧
      w.arecs = w.flat
  | .lead (.acking _ _) m _ => (Unled w ∧ w.jout = none ∧ m = 0) ∨ (Shape c w ∧ w.members.length = m ∧ Post w)
  | .returned _ => (Unled w ∧ w.jout = none) ∨ (Shape c w ∧ Post w)

theorem accept_shape (c : Cfg) (l : Thread) (i : Nat) (w : Thread) (st : List Rec) (h : Shape c l)
    (hcb : w.cb = w.recs) (hsz : w.size ≤ l.glimit) (hmg : l.merge = true) :
    Shape c (l.accept c i w st) := by
  obtain ⟨h1, h2, h3, h4, h5, h6, h7, _⟩ := h
  refine ⟨?_, ?_, ?_, ?_, ?_, ?_, ?_, ?_⟩ <;> dsimp only [Thread.accept]
  · rw [objsOf_snoc, ← List.cons_append, ← h1]
    unfold Thread.acceptBatches
    by_cases hp : w.put = true
    · simp only [hp, if_true]
      rw [h2]
      cases l.put <;> cases anyPut l.members <;> simp
    · simp [hp, hcb]
  · rw [anyPut_snoc, h2]; simp [Bool.or_assoc]
  · intro hr ha
    have h3' := h3 hr ha
    unfold Thread.acceptPb pooled
    rw [putRecs_snoc]
    by_cases hp : w.put = true
    · simp only [hp, if_true, ha, hr, Bool.true_or]
      by_cases ho : l.our = true
      · simp only [ho, if_true, h3', pooled, List.append_assoc]
      · simp only [ho]
        rw [h2] at ho
        simp only [Bool.or_eq_true, not_or, Bool.not_eq_true] at ho
        simp [ho.1, putRecs_nil_of_anyPut _ ho.2]
    · simp [hp, h3', pooled]
  · intro hs
    rw [anySync_snoc, h4 hs, hs]; simp [Bool.or_assoc]
  · rw [sizes_snoc, ← h5]; dsimp only; omega
  · intro ha
    unfold Thread.acceptBsize
    rw [putSizes_snoc, h6 ha, ha]
    by_cases hl : l.put = true <;> by_cases hp : w.put = true <;> simp [hp, hl] <;> omega
  · intro ha
    unfold Thread.acceptCb
    simp [ha, h7 ha]
  · intro hf
    have : l.merge = false := hf
    rw [hmg] at this; cases this

theorem flatOf_cons (put : Bool) (cb pb : List Rec) (o : Obj) (os : List Obj) :
    flatOf put cb pb (o :: os) = contentOf put cb pb o ++ flatOf put cb pb os := by
  simp [flatOf]

theorem all_recs_perm (ms : List Mem) : (ms.flatMap (·.recs)).Perm (putRecs ms ++ batchRecs ms) := by
  induction ms with
  | nil => exact .refl _
  | cons x xs ih =>
    simp only [List.flatMap_cons, putRecs, batchRecs] at ih ⊢
    by_cases hx : x.put = true
    · simp only [hx, if_true, List.nil_append, List.append_assoc]
      exact ih.append_left _
    · have hx' : x.put = false := by simpa using hx
      simp only [hx', Bool.false_eq_true, if_false, List.nil_append]
      exact (ih.append_left _).trans (List.perm_append_comm_assoc _ _ _)


theorem sublist_flatMap {α β : Type} (f : α → List β) {l : List α} {e : α} (he : e ∈ l) : (f e).Sublist (l.flatMap f) := by
  rw [List.flatMap_def]; exact List.sublist_flatten_of_mem (List.mem_map_of_mem he)

/-- `batches[1:]` flattened: the merged batches in arrival order, the pooled batch `P` standing among them where the
first `Put` arrived, if one did and `ourBatch` was not there before (`seen`) -/
theorem flat_objs_split (put : Bool) (cb P : List Rec) (seen : Bool) (ms : List Mem) :
    ∃ a b, batchRecs ms = a ++ b ∧
      flatOf put cb P (objsOf seen ms) = a ++ (if !seen && anyPut ms then P else []) ++ b := by
  induction ms generalizing seen with
  | nil => exact ⟨[], [], rfl, by simp [objsOf, flatOf, anyPut]⟩
  | cons x xs ih =>
    by_cases hx : x.put = true
    · obtain ⟨a, b, e, h⟩ := ih true
      refine ⟨[], a ++ b, by simp [batchRecs, hx, ← e], ?_⟩
      cases seen <;> simp [objsOf, hx, flatOf_cons, contentOf, anyPut, h]
    · obtain ⟨a, b, e, h⟩ := ih seen
      refine ⟨x.recs ++ a, b, by simp [batchRecs, hx, ← e], ?_⟩
      simp [objsOf, hx, flatOf_cons, contentOf, anyPut, h]

/-- what a group journals: the leader's records, then the merged batches in arrival order with all merged `Put`s
together somewhere among them -/
theorem expect_split (put : Bool) (recs : List Rec) (ms : List Mem) :
    ∃ a b, batchRecs ms = a ++ b ∧ expect put recs ms = recs ++ (a ++ putRecs ms ++ b) := by
  obtain ⟨a, b, e, h⟩ := flat_objs_split put recs (pooled put recs ms) put ms
  unfold expect
  rw [flatOf_cons, h]
  cases put with
  | true => exact ⟨[], a ++ b, e, by simp [contentOf, pooled]⟩
  | false =>
    refine ⟨a, b, e, ?_⟩
    cases ha : anyPut ms <;> simp [contentOf, pooled, putRecs_nil_of_anyPut ms, ha]

theorem expect_perm (put : Bool) (recs : List Rec) (ms : List Mem) :
    (expect put recs ms).Perm (recs ++ ms.flatMap (·.recs)) := by
  obtain ⟨a, b, e, h⟩ := expect_split put recs ms
  rw [h]
  refine List.Perm.append_left _ (.trans ?_ (all_recs_perm ms).symm)
  rw [e, List.append_assoc]
  exact List.perm_append_comm_assoc _ _ _

theorem expect_length (put : Bool) (recs : List Rec) (ms : List Mem) :
    (expect put recs ms).length = recs.length + (ms.map (·.recs.length)).sum := by
  rw [(expect_perm put recs ms).length_eq]
  simp [List.length_flatMap]

theorem expect_prefix (put : Bool) (recs : List Rec) (ms : List Mem) : recs <+: expect put recs ms := by
  obtain ⟨a, b, _, h⟩ := expect_split put recs ms
  exact ⟨_, h.symm⟩

theorem expect_member_sublist (put : Bool) (recs : List Rec) (ms : List Mem) (e : Mem) (he : e ∈ ms) :
    e.recs.Sublist (expect put recs ms) := by
  obtain ⟨a, b, eb, h⟩ := expect_split put recs ms
  rw [h]
  refine .trans ?_ (List.sublist_append_right _ _)
  cases hp : e.put with
  | true =>
    have := sublist_flatMap (fun e : Mem => if e.put then e.recs else []) he
    rw [hp] at this
    exact this.trans ((List.sublist_append_right _ _).trans (List.sublist_append_left _ _))
  | false =>
    have := sublist_flatMap (fun e : Mem => if e.put then [] else e.recs) he
    rw [hp] at this
    exact (eb ▸ this : e.recs.Sublist (a ++ b)).trans
      (List.Sublist.append (List.sublist_append_left _ _) (List.Sublist.refl b))

theorem flat_expect (c : Cfg) (w : Thread) (h : Shape c w) (hr : c.poolReset = true) (ha : c.appendOur = true) :
    w.flat = expect w.put w.recs w.members := by
  obtain ⟨h1, _, h3, _, _, _, h7, _⟩ := h
  unfold Thread.flat expect
  rw [h1, h3 hr ha, h7 ha]

end GoLevel.WP

import GoLevel.Proofs.ConcView
/-!
# Step inversion lemmas and the basic invariants: `Basic` is DESIGN.md's I1 (where entries come from, what is above
`pub`) and I2 (the compaction floor is at or below `pub` and every registration); I3 is `Cover`
-/
namespace GoLevel.Conc

theorem of_ite_some {α : Type _} {p : Prop} [Decidable p] {a b : α} (h : (if p then some a else none) = some b) :
    p ∧ b = a := by
  split at h
  · exact ⟨‹p›, (Option.some.inj h).symm⟩
  · cases h

theorem doWriteInsert_some {σ σ' : State} {es : List Entry} (h : doWriteInsert σ es = some σ') :
    σ.tr = none ∧ consec (σ.pub + σ.pending.length) es = true ∧
    σ' = { σ with hist := σ.hist ++ es, bufs := (σ.mem, memBuf σ ++ es) :: σ.bufs, pending := σ.pending ++ es } :=
  have ⟨g, e⟩ := of_ite_some h; ⟨g.1, g.2, e⟩

theorem doPublish_some {σ σ' : State} (h : doPublish σ = some σ') :
    σ.tr = none ∧
    σ' = { σ with pub := σ.pub + σ.pending.length, pending := [],
                  groups := ⟨σ.pub, σ.pub + σ.pending.length, σ.pending⟩ :: σ.groups } := of_ite_some h

theorem doSeqSkip_some {σ σ' : State} {n : Nat} (h : doSeqSkip σ n = some σ') :
    σ.tr = none ∧ σ.pending = [] ∧
    σ' = { σ with pub := σ.pub + n, groups := ⟨σ.pub, σ.pub + n, []⟩ :: σ.groups } :=
  have ⟨g, e⟩ := of_ite_some h; ⟨g.1, g.2, e⟩

theorem doRotate_some {σ σ' : State} (h : doRotate σ = some σ') :
    σ.tr = none ∧ σ.pending = [] ∧ σ.frozen = none ∧
    σ' = { σ with frozen := some σ.mem, mem := σ.nextId, nextId := σ.nextId + 1, flushed := false } :=
  have ⟨g, e⟩ := of_ite_some h; ⟨g.1, g.2.1, g.2.2, e⟩

theorem doFlushInstall_some {σ σ' : State} (h : doFlushInstall σ = some σ') :
    ∃ f, σ.frozen = some f ∧ σ.flushed = false ∧
    σ' = { σ with tabs := σ.tabs ++ getBuf σ f, flushed := true } := by
  unfold doFlushInstall at h; split at h
  · rename_i f hf; exact ⟨f, hf, of_ite_some h⟩
  · cases h

theorem doFlushDrop_some {cfg : Cfg} {σ σ' : State} (h : doFlushDrop cfg σ = some σ') :
    σ.frozen ≠ none ∧ (σ.flushed = true ∨ cfg.dropEarly = true) ∧
    σ' = { σ with frozen := none, flushed := false } :=
  have ⟨g, e⟩ := of_ite_some h; ⟨g.1, g.2, e⟩

theorem doCompStart_some {σ σ' : State} (h : doCompStart σ = some σ') :
    σ.comp = none ∧ σ' = { σ with comp := some (minSeq σ), floor := minSeq σ } := of_ite_some h

theorem doCompCommit_some {σ σ' : State} {nt : List Entry} (h : doCompCommit σ nt = some σ') :
    ∃ m, σ.comp = some m ∧ (∀ e ∈ nt, e ∈ σ.tabs) ∧ σ' = { σ with tabs := nt, comp := none } := by
  unfold doCompCommit at h; split at h
  · rename_i m hm
    obtain ⟨g, e⟩ := of_ite_some h
    exact ⟨m, hm, fun x hx => of_decide_eq_true (List.all_eq_true.1 g x hx), e⟩
  · cases h

theorem doSnapAcquire_some {σ σ' : State} (h : doSnapAcquire σ = some σ') :
    σ' = { σ with snaps := σ.snaps ++ [(.user σ.nextId, σ.pub)], nextId := σ.nextId + 1 } :=
  (Option.some.inj h).symm

theorem doSnapRelease_some {σ σ' : State} {id : Nat} (h : doSnapRelease σ id = some σ') :
    σ' = { σ with snaps := σ.snaps.filter (fun p => decide (p.1 ≠ .user id)) } :=
  (Option.some.inj h).symm

theorem doRNew_some {σ σ' : State} (h : doRNew σ = some σ') :
    σ' = { σ with readers := σ.readers ++ [{}] } := (Option.some.inj h).symm

theorem doRSeq_some {σ σ' : State} {i : Nat} (h : doRSeq σ i = some σ') :
    ∃ r, σ.readers[i]? = some r ∧ r.seq? = none ∧
    σ' = { σ with readers := σ.readers.set i { r with seq? := some σ.pub, live := true, reg := true },
                  snaps := σ.snaps ++ [(.reader i, σ.pub)] } := by
  unfold doRSeq at h; split at h
  · rename_i r hr; exact ⟨r, hr, of_ite_some h⟩
  · cases h

theorem doRSeqSnap_some {σ σ' : State} {i id : Nat} (h : doRSeqSnap σ i id = some σ') :
    ∃ r s, σ.readers[i]? = some r ∧ σ.snaps.lookup (.user id) = some s ∧ r.seq? = none ∧
    σ' = { σ with readers := σ.readers.set i { r with seq? := some s, live := false, reg := true },
                  snaps := σ.snaps ++ [(.reader i, s)] } := by
  unfold doRSeqSnap at h; split at h
  · rename_i r s hr hs; exact ⟨r, s, hr, hs, of_ite_some h⟩
  · cases h

theorem doRMems_some {cfg : Cfg} {σ σ' : State} {i : Nat} (h : doRMems cfg σ i = some σ') :
    ∃ r, σ.readers[i]? = some r ∧ r.seq? ≠ none ∧ r.mems? = none ∧ (r.ver? = none ∨ cfg.verFirst = true) ∧
    σ' = setReader σ i { r with mems? := some (σ.mem, σ.frozen) } := by
  unfold doRMems at h; split at h
  · rename_i r hr
    obtain ⟨g, e⟩ := of_ite_some h
    exact ⟨r, hr, g.1, g.2.1, g.2.2, e⟩
  · cases h

theorem doRVer_some {cfg : Cfg} {σ σ' : State} {i : Nat} (h : doRVer cfg σ i = some σ') :
    ∃ r, σ.readers[i]? = some r ∧ r.seq? ≠ none ∧ r.ver? = none ∧ (r.mems? ≠ none ∨ cfg.verFirst = true) ∧
    σ' = setReader σ i { r with ver? := some σ.tabs } := by
  unfold doRVer at h; split at h
  · rename_i r hr
    obtain ⟨g, e⟩ := of_ite_some h
    exact ⟨r, hr, g.1, g.2.1, g.2.2, e⟩
  · cases h

theorem doRLookup_some {c : UCmp} {σ σ' : State} {i : Nat} {k : Bytes} (h : doRLookup c σ i k = some σ') :
    ∃ r s mf v, σ.readers[i]? = some r ∧ r.seq? = some s ∧ r.mems? = some mf ∧ r.ver? = some v ∧
    σ' = setReader σ i { r with results := r.results ++ [(k, view c (readSrc σ mf v) k s)] } := by
  unfold doRLookup at h; split at h
  · rename_i r hr
    split at h
    · rename_i s mf v hs hm hv; exact ⟨r, s, mf, v, hr, hs, hm, hv, (Option.some.inj h).symm⟩
    · cases h
  · cases h

theorem doRRelease_some {σ σ' : State} {i : Nat} (h : doRRelease σ i = some σ') :
    ∃ r, σ.readers[i]? = some r ∧ r.reg = true ∧ r.mems? ≠ none ∧ r.ver? ≠ none ∧
    σ' = { σ with readers := σ.readers.set i { r with reg := false },
                  snaps := σ.snaps.filter (fun p => decide (p.1 ≠ .reader i)) } := by
  unfold doRRelease at h; split at h
  · rename_i r hr
    obtain ⟨g, e⟩ := of_ite_some h
    exact ⟨r, hr, g.1, g.2.1, g.2.2, e⟩
  · cases h

theorem doTrOpen_some {cfg : Cfg} {σ σ' : State} (h : doTrOpen cfg σ = some σ') :
    σ.tr = none ∧ σ.pending = [] ∧ memBuf σ = [] ∧ (σ.frozen = none ∨ cfg.trOverFrozen = true) ∧
    σ' = { σ with tr := some ⟨σ.pub, [], false, []⟩ } :=
  have ⟨g, e⟩ := of_ite_some h; ⟨g.1, g.2.1, g.2.2.1, g.2.2.2, e⟩

theorem doTrPut_some {σ σ' : State} {e : Entry} (h : doTrPut σ e = some σ') :
    ∃ t, σ.tr = some t ∧ t.installed = false ∧ e.seq = t.base + t.priv.length + 1 ∧
    σ' = { σ with tr := some { t with priv := t.priv ++ [e] } } := by
  unfold doTrPut at h; split at h
  · rename_i t ht
    obtain ⟨g, e⟩ := of_ite_some h
    exact ⟨t, ht, g.1, g.2, e⟩
  · cases h

theorem doTrGet_some {c : UCmp} {σ σ' : State} {k : Bytes} (h : doTrGet c σ k = some σ') :
    ∃ t, σ.tr = some t ∧ t.installed = false ∧
    σ' = { σ with tr := some { t with results := t.results ++
      [(k, t.base + t.priv.length,
        view c (t.priv ++ (memBuf σ ++ frozenBuf σ ++ σ.tabs)) k (t.base + t.priv.length))] } } := by
  unfold doTrGet at h; split at h
  · rename_i t ht; exact ⟨t, ht, of_ite_some h⟩
  · cases h

theorem doTrInstall_some {σ σ' : State} (h : doTrInstall σ = some σ') :
    ∃ t, σ.tr = some t ∧ t.installed = false ∧
    σ' = { σ with tabs := σ.tabs ++ t.priv, tr := some { t with installed := true } } := by
  unfold doTrInstall at h; split at h
  · rename_i t ht; exact ⟨t, ht, of_ite_some h⟩
  · cases h

theorem doTrPublish_some {σ σ' : State} (h : doTrPublish σ = some σ') :
    ∃ t, σ.tr = some t ∧ t.installed = true ∧
    σ' = { σ with hist := σ.hist ++ t.priv, pub := t.base + t.priv.length, tr := none,
                  groups := ⟨t.base, t.base + t.priv.length, t.priv⟩ :: σ.groups } := by
  unfold doTrPublish at h; split at h
  · rename_i t ht; exact ⟨t, ht, of_ite_some h⟩
  · cases h

theorem doTrDiscard_some {σ σ' : State} (h : doTrDiscard Cfg.real σ = some σ') :
    ∃ t, σ.tr = some t ∧ t.installed = false ∧
      σ' = { σ with tr := none, pub := max σ.pub (t.base + t.priv.length),
                    groups := ⟨σ.pub, max σ.pub (t.base + t.priv.length), []⟩ :: σ.groups } := by
  unfold doTrDiscard at h; split at h
  · rename_i t ht; exact ⟨t, ht, of_ite_some h⟩
  · cases h

theorem uniq_append {U E : List Entry} (hU : Uniq U) (hE : Uniq E)
    (h : ∀ u ∈ U, ∀ e ∈ E, u.seq < e.seq) : Uniq (U ++ E) := by
  intro a ha b hb hab
  rcases List.mem_append.1 ha with ha | ha <;> rcases List.mem_append.1 hb with hb | hb
  · exact hU a ha b hb hab
  · have := h a ha b hb; omega
  · have := h b hb a ha; omega
  · exact hE a ha b hb hab

theorem consec_spec : ∀ (b : Nat) (es : List Entry), consec b es = true →
    (∀ e ∈ es, b < e.seq ∧ e.seq ≤ b + es.length) ∧ Uniq es := by
  intro b es
  induction es generalizing b with
  | nil => intro _; exact ⟨by simp, by intro a ha; cases ha⟩
  | cons x xs ih =>
    intro h
    simp only [consec, Bool.and_eq_true, beq_iff_eq] at h
    obtain ⟨h1, h2⟩ := ih (b + 1) h.2
    constructor
    · intro e he
      rw [List.length_cons]
      rcases List.mem_cons.1 he with rfl | he
      · omega
      · have := h1 e he; omega
    · exact uniq_append (U := [x])
        (fun a ha b hb _ => (List.mem_singleton.1 ha).trans (List.mem_singleton.1 hb).symm) h2
        fun u hu e he => by rw [List.mem_singleton.1 hu]; have := (h1 e he).1; omega

/-- `l.foldl min a` is `(a :: l).min?` by definition -/
theorem foldl_min_spec (l : List Nat) (a : Nat) : l.foldl min a ∈ a :: l ∧ ∀ x ∈ a :: l, l.foldl min a ≤ x :=
  List.min?_eq_some_iff.1 List.min?_cons'

theorem foldl_min_mem (l : List Nat) : ∀ a, l.foldl min a = a ∨ l.foldl min a ∈ l :=
  fun a => List.mem_cons.1 (foldl_min_spec l a).1

theorem minSeq_le_pub (σ : State) : minSeq σ ≤ σ.pub := (foldl_min_spec _ _).2 _ List.mem_cons_self

theorem minSeq_le_snap (σ : State) (p : Owner × Nat) (hp : p ∈ σ.snaps) : minSeq σ ≤ p.2 :=
  (foldl_min_spec _ _).2 _ (List.mem_cons_of_mem _ (List.mem_map.2 ⟨p, hp, rfl⟩))

theorem le_minSeq (σ : State) (b : Nat) (h1 : b ≤ σ.pub) (h2 : ∀ p ∈ σ.snaps, b ≤ p.2) : b ≤ minSeq σ := by
  show b ≤ (σ.snaps.map (·.2)).foldl min σ.pub
  rcases foldl_min_mem (σ.snaps.map (·.2)) σ.pub with h | h
  · rw [h]; exact h1
  · obtain ⟨p, hp, hq⟩ := List.mem_map.1 h
    rw [← hq]; exact h2 p hp

def privIn : Option TrState → List Entry
  | some t => if t.installed then t.priv else []
  | none => []

/-- Unique, bounded sequence numbers (`uniq`, `bound`); buffers and tables hold history or installed transaction
entries (`bufSub`, `tabSub`); ids from `nextId` on are unused (`fresh`, `memLt`); what an open transaction excludes
(`trExcl`); above `pub` is the pending group or the transaction (`pendSeq`, `histPub`, `privSeq`); registrations
between floor and `pub` (`snapsLe`, `floorSnap`, `floorPub`, `compLe`); flush bookkeeping (`flushedFrozen`, `frozenLt`). -/
structure Basic (σ : State) : Prop where
  uniq : Uniq (univ σ)
  bound : ∀ e ∈ univ σ, e.seq ≤ σ.pub + σ.pending.length + (privOf σ.tr).length
  bufSub : ∀ id, ∀ e ∈ getBuf σ id, e ∈ σ.hist
  tabSub : ∀ e ∈ σ.tabs, e ∈ σ.hist ∨ e ∈ privIn σ.tr
  fresh : ∀ id, σ.nextId ≤ id → getBuf σ id = []
  memLt : σ.mem < σ.nextId
  trExcl : ∀ t, σ.tr = some t → σ.pending = [] ∧ memBuf σ = [] ∧ σ.frozen = none ∧ t.base = σ.pub
  pendSeq : ∀ e ∈ σ.pending, σ.pub < e.seq ∧ e ∈ σ.hist
  privSeq : ∀ e ∈ privOf σ.tr, σ.pub < e.seq
  histPub : ∀ e ∈ σ.hist, σ.pub < e.seq → e ∈ σ.pending
  snapsLe : ∀ p ∈ σ.snaps, p.2 ≤ σ.pub
  floorSnap : ∀ p ∈ σ.snaps, σ.floor ≤ p.2
  floorPub : σ.floor ≤ σ.pub
  compLe : ∀ m, σ.comp = some m → m ≤ σ.floor
  flushedFrozen : σ.flushed = true → σ.frozen ≠ none
  frozenLt : ∀ f, σ.frozen = some f → f < σ.mem

theorem basic_init : Basic init := by
  constructor <;> simp [init, univ, privOf, Uniq, getBuf, privIn]

/-- the registrations matter to `Basic` only in lying between floor and `pub` -/
theorem Basic.snaps_of {σ : State} (hb : Basic σ) {S : List (Owner × Nat)}
    (h : ∀ p ∈ S, p ∈ σ.snaps ∨ (σ.floor ≤ p.2 ∧ p.2 ≤ σ.pub)) : Basic { σ with snaps := S } :=
  { hb with
    snapsLe := fun p hp => (h p hp).elim (hb.snapsLe p) (·.2)
    floorSnap := fun p hp => (h p hp).elim (hb.floorSnap p) (·.1) }

theorem Basic.snaps_add {σ : State} (hb : Basic σ) (o : Owner) {s : Nat} (h1 : σ.floor ≤ s) (h2 : s ≤ σ.pub) :
    Basic { σ with snaps := σ.snaps ++ [(o, s)] } :=
  hb.snaps_of fun p hp => (List.mem_append.1 hp).imp_right fun hp => by
    rw [List.mem_singleton.1 hp]; exact ⟨h1, h2⟩

theorem Basic.snaps_filter {σ : State} (hb : Basic σ) (f : Owner × Nat → Bool) :
    Basic { σ with snaps := σ.snaps.filter f } :=
  hb.snaps_of fun _ hp => Or.inl (List.mem_filter.1 hp).1

theorem Basic.frozenNe {σ : State} (hb : Basic σ) : σ.frozen ≠ some σ.mem := by
  intro h; have := hb.frozenLt _ h; omega

theorem privIn_sub (tr : Option TrState) : ∀ e ∈ privIn tr, e ∈ privOf tr := by
  intro e he
  cases tr with
  | none => cases he
  | some t =>
    simp only [privIn] at he
    split at he
    · exact he
    · cases he

theorem Basic.tab_univ {σ : State} (hb : Basic σ) : ∀ e ∈ σ.tabs, e ∈ univ σ := by
  intro e he
  rcases hb.tabSub e he with h | h
  · exact List.mem_append_left _ h
  · exact List.mem_append_right _ (privIn_sub _ e h)

/-- an installed entry of the open transaction is above `pub` -/
theorem Basic.tab_hist_le {σ : State} (hb : Basic σ) : ∀ e ∈ σ.tabs, e.seq ≤ σ.pub → e ∈ σ.hist :=
  fun e he hle => (hb.tabSub e he).resolve_right fun h =>
    Nat.not_lt.2 hle (hb.privSeq e (privIn_sub _ e h))

theorem Basic.buf_univ {σ : State} (hb : Basic σ) (id : Nat) : ∀ e ∈ getBuf σ id, e ∈ univ σ :=
  fun e he => List.mem_append_left _ (hb.bufSub id e he)

theorem Basic.optBuf_hist {σ : State} (hb : Basic σ) (f : Option Nat) : ∀ e ∈ optBuf σ f, e ∈ σ.hist := by
  intro e he
  cases f with
  | none => cases he
  | some f => exact hb.bufSub f e he

theorem Basic.tr_facts {σ : State} (hb : Basic σ) {t : TrState} (ht : σ.tr = some t) :
    Uniq (σ.hist ++ t.priv) ∧ (∀ e ∈ σ.hist ++ t.priv, e.seq ≤ σ.pub + t.priv.length) ∧
    (∀ e ∈ t.priv, σ.pub < e.seq) ∧ (∀ e ∈ σ.tabs, e ∈ σ.hist ∨ (t.installed = true ∧ e ∈ t.priv)) := by
  have h1 := hb.uniq; have h2 := hb.bound; have h3 := hb.privSeq; have h4 := hb.tabSub
  simp only [univ, ht, privOf, privIn, (hb.trExcl t ht).1, List.length_nil, Nat.add_zero] at h1 h2 h3 h4
  refine ⟨h1, h2, h3, fun e he => (h4 e he).imp_right fun h => ?_⟩
  split at h
  · exact ⟨‹_›, h⟩
  · cases h

theorem Basic.tabs_hist {σ : State} (hb : Basic σ) {t : TrState} (ht : σ.tr = some t) (hi : t.installed = false) :
    ∀ e ∈ σ.tabs, e ∈ σ.hist :=
  fun e he => ((hb.tr_facts ht).2.2.2 e he).resolve_right fun h => by rw [hi] at h; cases h.1

theorem Basic.pend_iff {σ : State} (hb : Basic σ) (e : Entry) : e ∈ σ.pending ↔ e ∈ σ.hist ∧ σ.pub < e.seq :=
  ⟨fun he => ⟨(hb.pendSeq e he).2, (hb.pendSeq e he).1⟩, fun he => hb.histPub e he.1 he.2⟩

theorem Basic.hist_le {σ : State} (hb : Basic σ) (hp : σ.pending = []) : ∀ e ∈ σ.hist, e.seq ≤ σ.pub := by
  intro e he
  refine Nat.le_of_not_lt (fun h => ?_)
  have := hb.histPub e he h
  rw [hp] at this; cases this

/-! ## what several cases of `ConcReader.step_inv` share in preserving the basic invariants -/

theorem getBuf_wi (σ σ' : State) (es : List Entry) (id : Nat)
    (h : σ'.bufs = (σ.mem, getBuf σ σ.mem ++ es) :: σ.bufs) :
    getBuf σ' id = if id = σ.mem then getBuf σ id ++ es else getBuf σ id := by
  simp only [getBuf, h, List.lookup_cons]
  by_cases hid : id = σ.mem
  · simp [hid]
  · simp [hid, show (id == σ.mem) = false by simp [hid]]

theorem basic_setReader {σ : State} {i : Nat} {r : Reader} (hb : Basic σ) : Basic (setReader σ i r) :=
  { hb with }

theorem basic_trKeep {σ : State} {t t' : TrState} {tabs : List Entry} (hb : Basic σ) (g1 : σ.tr = some t)
    (hp : t'.priv = t.priv) (hbase : t'.base = t.base)
    (htabs : ∀ e ∈ tabs, e ∈ σ.hist ∨ (t'.installed = true ∧ e ∈ t.priv)) :
    Basic { σ with tabs := tabs, tr := some t' } := by
  obtain ⟨x1, x2, x3, x4⟩ := hb.trExcl t g1
  obtain ⟨huniq, hbound, hps, _⟩ := hb.tr_facts g1
  exact { hb with
    uniq := by show Uniq (σ.hist ++ t'.priv); rw [hp]; exact huniq
    bound := by
      show ∀ e ∈ σ.hist ++ t'.priv, e.seq ≤ σ.pub + σ.pending.length + t'.priv.length
      rw [hp, x1]; exact hbound
    tabSub := fun e he => (htabs e he).imp_right fun h => by
      show e ∈ if t'.installed then t'.priv else []
      rw [h.1, hp]; exact h.2
    trExcl := fun t'' ht'' => by obtain rfl := Option.some.inj ht''; exact ⟨x1, x2, x3, hbase.trans x4⟩
    privSeq := by show ∀ e ∈ t'.priv, σ.pub < e.seq; rw [hp]; exact hps }

theorem Basic.noTr_facts {σ : State} (hb : Basic σ) (h : σ.tr = none) :
    Uniq σ.hist ∧ (∀ e ∈ σ.hist, e.seq ≤ σ.pub + σ.pending.length) ∧ ∀ e ∈ σ.tabs, e ∈ σ.hist := by
  have h1 := hb.uniq; have h2 := hb.bound; have h4 := hb.tabSub
  simp only [univ, h, privOf, privIn, List.append_nil, List.length_nil, Nat.add_zero] at h1 h2 h4
  exact ⟨h1, h2, fun e he => (h4 e he).resolve_right List.not_mem_nil⟩

/-- `pub` moves up to `p`, over numbers that only entries now in the history carry -/
theorem basic_pubUp {σ : State} {hist pe : List Entry} {p : Nat} {tr' : Option TrState} {gs : List Group}
    (hb : Basic σ) (hpe : pe = []) (htr : tr' = none) (hle : σ.pub ≤ p) (hsub : ∀ e ∈ σ.hist, e ∈ hist)
    (huniq : Uniq hist) (hbound : ∀ e ∈ hist, e.seq ≤ p) (htabs : ∀ e ∈ σ.tabs, e ∈ hist) :
    Basic { σ with hist := hist, pub := p, pending := pe, tr := tr', groups := gs } := by
  subst hpe htr
  exact { hb with
    uniq := by show Uniq (hist ++ []); rw [List.append_nil]; exact huniq
    bound := fun e he => by
      rw [show univ _ = hist ++ [] from rfl, List.append_nil] at he
      exact hbound e he
    bufSub := fun id e he => hsub e (hb.bufSub id e he)
    tabSub := fun e he => Or.inl (htabs e he)
    trExcl := nofun
    pendSeq := nofun
    privSeq := nofun
    histPub := fun e he hlt => absurd (hbound e he) (Nat.not_le.2 hlt)
    snapsLe := fun q hq => Nat.le_trans (hb.snapsLe q hq) hle
    floorPub := Nat.le_trans hb.floorPub hle }

end GoLevel.Conc

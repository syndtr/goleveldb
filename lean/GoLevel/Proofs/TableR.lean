import GoLevel.Proofs.TableW
import GoLevel.Proofs.BlockIterBuild
import GoLevel.Proofs.BlockCursor
/-! Reader side of C13: what `NewReader` / `find` / iteration compute on a file of the written shape. -/
namespace GoLevel.C13
open GoLevel BlockWriter TableWriter

/-- the checksum function yields 32-bit values (it is a masked CRC-32) -/
def Cksum32 (cksum : Bytes → Nat) : Prop := ∀ bs, cksum bs < 2 ^ 32

theorem withTrailer_length (cksum : Bytes → Nat) (p : Bytes) : (withTrailer cksum p).length = p.length + 5 := by
  simp [withTrailer, le32, leN_length]

theorem withTrailer_cksum_ok {cksum : Bytes → Nat} (hck : Cksum32 cksum) (P : Bytes) :
    rd32 ((withTrailer cksum P).drop (P.length + 1)) = cksum ((withTrailer cksum P).take (P.length + 1)) := by
  have hd1 : (withTrailer cksum P).drop (P.length + 1) = le32 (cksum (P ++ [blockTypeByte])) ++ [] := by
    simp only [withTrailer, List.append_nil]
    rw [List.drop_left' (by simp)]
  have ht1 : (withTrailer cksum P).take (P.length + 1) = P ++ [blockTypeByte] := by
    simp only [withTrailer]
    rw [List.take_left' (by simp)]
  rw [hd1, ht1, rd32_le32_append _ _ (hck _)]

theorem readRawBlock_at {cksum : Bytes → Nat} (hck : Cksum32 cksum) (A P B : Bytes) (verify : Bool) :
    readRawBlock cksum (A ++ (withTrailer cksum P ++ B)) ⟨A.length, P.length⟩ verify = some P := by
  unfold readRawBlock
  have hlen := withTrailer_length cksum P
  have h5 : Gen.blockTrailerLen = 5 := rfl
  simp only [h5, List.drop_left]
  rw [List.take_left' hlen]
  simp only [hlen, Nat.lt_irrefl, if_false]
  have hd0 : (withTrailer cksum P).drop P.length = blockTypeByte :: le32 (cksum (P ++ [blockTypeByte])) := by
    simp only [withTrailer, List.append_assoc]
    rw [List.drop_left]; rfl
  rw [withTrailer_cksum_ok hck, hd0]
  simp
  simp only [withTrailer, List.append_assoc]
  rw [List.take_left' rfl]

theorem BH.decode_encode (h : BH) (rest : Bytes) (ho : h.offset < 2 ^ 64) (hl : h.length < 2 ^ 64) :
    BH.decode (h.encode ++ rest) = some (h, h.encode.length) := by
  unfold BH.decode BH.encode
  rw [List.append_assoc, readUvarint_uvarint_append _ _ ho]
  simp only [List.drop_left]
  rw [readUvarint_uvarint_append _ _ hl]
  simp

theorem BH.decode_encode' (h : BH) (ho : h.offset < 2 ^ 64) (hl : h.length < 2 ^ 64) :
    BH.decode h.encode = some (h, h.encode.length) := by
  have := BH.decode_encode h [] ho hl
  rwa [List.append_nil] at this

theorem uvarint_length_le5 (x : Nat) (h : x < 2 ^ 32) : (uvarint x).length ≤ 5 :=
  uvarint_length_le 5 x (Nat.lt_of_lt_of_le h (by decide)) (by decide)

theorem BH.encode_length_le (h : BH) (ho : h.offset < 2 ^ 32) (hl : h.length < 2 ^ 32) : h.encode.length ≤ 10 := by
  have := uvarint_length_le5 _ ho
  have := uvarint_length_le5 _ hl
  simp [BH.encode]; omega

theorem footer_length (m i : BH) (hm : m.encode.length ≤ 10) (hi : i.encode.length ≤ 10) :
    (footer m i).length = 48 := by
  have h8 : Gen.tableMagic.length = 8 := rfl
  have h48 : Gen.footerLen = 48 := rfl
  simp only [footer, List.length_append, List.length_replicate, h8, h48]
  omega

theorem encEntry_length_ge (sh : Nat) (k v : Bytes) : k.length - sh + v.length ≤ (encEntry sh k v).length := by
  simp [encEntry]; omega

/-- keys and values are no longer than the entries that hold them: a key shares at most the previous key, which
the entries before it hold -/
theorem smallKV_of_enc (ri : Nat) (l : List KV) : ∀ n prev,
    prev.length + (encFrom ri n prev l).length < 2 ^ 64 → SmallKV l := by
  induction l with
  | nil => intro n prev _ kv hkv; simp at hkv
  | cons a t ih =>
    intro n prev h kv hkv
    obtain ⟨k, v⟩ := a
    have hsh : nSharedAt ri n prev k ≤ prev.length := by
      unfold nSharedAt; split
      · omega
      · exact (spl_spec _ _).1
    simp only [encFrom, List.length_append] at h
    have := encEntry_length_ge (nSharedAt ri n prev k) k v
    rcases List.mem_cons.mp hkv with rfl | hm
    · exact ⟨by simp only; omega, by simp only; omega⟩
    · exact ih (n + 1) k (by omega) kv hm

theorem smallKV_of_build (ri : Nat) (kvs : List KV) (h : (Block.build ri kvs).length < 2 ^ 32) : SmallKV kvs := by
  have := build_length ri kvs
  exact smallKV_of_enc ri kvs 0 [] (by simp only [enc] at this; simp only [List.length_nil]; omega)

/-- the metaindex block of the file written from the chunks `cs` with filter block `fb` -/
def metaB (cfg : TableCfg) (cs : List (List KV)) (fb : Option Bytes) : Bytes :=
  Block.build cfg.restartInterval (metaKVs cfg (dataBytes cfg cs).length fb)

/-- its index block (restart interval 1, as `Writer` sets it) -/
def ixB (cfg : TableCfg) (cs : List (List KV)) : Bytes := Block.build 1 (ixE cfg 0 cs [])

/-- the two handles its footer holds: where `Close` put the metaindex block and the index block -/
def metaBHOf (cfg : TableCfg) (cs : List (List KV)) (fb : Option Bytes) : BH :=
  ⟨(dataBytes cfg cs ++ filterSection cfg fb).length, (metaB cfg cs fb).length⟩

def indexBHOf (cfg : TableCfg) (cs : List (List KV)) (fb : Option Bytes) : BH :=
  ⟨(dataBytes cfg cs ++ filterSection cfg fb ++ withTrailer cfg.cksum (metaB cfg cs fb)).length, (ixB cfg cs).length⟩

theorem tableFile_eq (cfg : TableCfg) (cs : List (List KV)) (fb : Option Bytes) :
    tableFile cfg cs fb = dataBytes cfg cs ++ filterSection cfg fb ++ withTrailer cfg.cksum (metaB cfg cs fb) ++
      withTrailer cfg.cksum (ixB cfg cs) ++ footer (metaBHOf cfg cs fb) (indexBHOf cfg cs fb) := rfl

/-- size facts that follow from `file.length < 2^32` -/
structure Sizes (cfg : TableCfg) (cs : List (List KV)) (fb : Option Bytes) : Prop where
  mOff : (metaBHOf cfg cs fb).offset < 2 ^ 32
  mLen : (metaBHOf cfg cs fb).length < 2 ^ 32
  iOff : (indexBHOf cfg cs fb).offset < 2 ^ 32
  iLen : (indexBHOf cfg cs fb).length < 2 ^ 32
  foot : (footer (metaBHOf cfg cs fb) (indexBHOf cfg cs fb)).length = 48

theorem sizes_of (cfg : TableCfg) (cs : List (List KV)) (fb : Option Bytes)
    (h : (tableFile cfg cs fb).length < 2 ^ 32) : Sizes cfg cs fb := by
  have hl : (tableFile cfg cs fb).length = (dataBytes cfg cs).length + (filterSection cfg fb).length +
      ((metaB cfg cs fb).length + 5) + ((ixB cfg cs).length + 5) +
      (footer (metaBHOf cfg cs fb) (indexBHOf cfg cs fb)).length := by
    rw [tableFile_eq]
    simp only [List.length_append, withTrailer_length]
  -- offsets and lengths of the two handles are sums of parts of the file length
  obtain ⟨h1, h2, h3, h4⟩ : (metaBHOf cfg cs fb).offset < 2 ^ 32 ∧ (metaBHOf cfg cs fb).length < 2 ^ 32 ∧
      (indexBHOf cfg cs fb).offset < 2 ^ 32 ∧ (indexBHOf cfg cs fb).length < 2 ^ 32 := by
    simp only [metaBHOf, indexBHOf, List.length_append, withTrailer_length]; omega
  exact ⟨h1, h2, h3, h4, footer_length _ _ (BH.encode_length_le _ h1 h2) (BH.encode_length_le _ h3 h4)⟩

theorem Sizes.length {cfg : TableCfg} {cs : List (List KV)} {fb : Option Bytes} (S : Sizes cfg cs fb) :
    (tableFile cfg cs fb).length = (dataBytes cfg cs).length + (filterSection cfg fb).length +
      ((metaB cfg cs fb).length + 5) + ((ixB cfg cs).length + 5) + 48 := by
  rw [tableFile_eq]
  simp only [List.length_append, withTrailer_length, S.foot]

theorem isPrefixOf'_append (a b : Bytes) : isPrefixOf' a (a ++ b) = true := by
  induction a with
  | nil => cases b <;> rfl
  | cons x t ih => simp [isPrefixOf', ih]

/-- a block written by `Block.build` and read back from its place in a file: a block with the layout of `kvs` -/
theorem readBlock_at {cksum : Bytes → Nat} (hck : Cksum32 cksum) (A B : Bytes) (ri : Nat) (kvs : List KV)
    (verify : Bool) (hsz : (Block.build ri kvs).length < 2 ^ 32) :
    ∃ b, readBlock cksum (A ++ (withTrailer cksum (Block.build ri kvs) ++ B)) ⟨A.length, (Block.build ri kvs).length⟩
        verify = some b ∧ Layout b kvs (offB ri kvs) (restartsOf ri kvs).length (rsB ri kvs) := by
  refine ⟨_, ?_, layout_build ri kvs (smallKV_of_build ri kvs hsz) hsz⟩
  unfold readBlock
  rw [readRawBlock_at hck]
  exact read_build ri kvs hsz

theorem fb_cases {cfg : TableCfg} {fb : Option Bytes} (hfb : fb.isSome = cfg.filter.isSome) :
    (cfg.filter = none ∧ fb = none) ∨ ∃ pol b, cfg.filter = some pol ∧ fb = some b := by
  cases hf : cfg.filter <;> cases fb <;> simp_all

/-- the metaindex loop of `NewReader` on a block holding the one entry `Close` writes (none without a filter) -/
theorem metaLoop_written (cfg : TableCfg) (dl : Nat) (fb : Option Bytes) (hfb : fb.isSome = cfg.filter.isSome)
    (hdl : dl < 2 ^ 64) (hbl : ∀ b, fb = some b → b.length < 2 ^ 64)
    {b : BlockR} {off : Nat → Nat} {R : Nat} {rs : Nat → Nat} (L : Layout b (metaKVs cfg dl fb) off R rs) :
    metaLoop cfg.filter (b.restartsOffset + 1) b.data b.restartsOffset [] none
      = (cfg.filter, fb.map fun b => ⟨dl, b.length⟩) := by
  rw [metaLoop, L.step_first]
  rcases fb_cases hfb with ⟨hf, rfl⟩ | ⟨pol, fbb, hf, rfl⟩
  · rw [curAt_of_ge (by simp [metaKVs, hf])]
    simp [hf]
  · rw [curAt_of_getElem? (k := filterMetaKey pol) (v := BH.encode ⟨dl, fbb.length⟩) (by simp [metaKVs, hf])]
    simp only [hf, filterMetaKey, isPrefixOf'_append, if_true, List.drop_left]
    rw [BH.decode_encode' ⟨dl, fbb.length⟩ hdl (hbl fbb rfl)]
    simp

/-- the written file with the raw bytes `M` in the place of the metaindex block (payload ‖ type ‖ checksum) -/
def tableFileM (cfg : TableCfg) (cs : List (List KV)) (fb : Option Bytes) (M : Bytes) : Bytes :=
  dataBytes cfg cs ++ filterSection cfg fb ++ M ++ withTrailer cfg.cksum (ixB cfg cs) ++
    footer (metaBHOf cfg cs fb) (indexBHOf cfg cs fb)

theorem tableFile_eqM (cfg : TableCfg) (cs : List (List KV)) (fb : Option Bytes) :
    tableFile cfg cs fb = tableFileM cfg cs fb (withTrailer cfg.cksum (metaB cfg cs fb)) := rfl

theorem tableFileM_split (cfg : TableCfg) (cs : List (List KV)) (fb : Option Bytes) (M : Bytes) :
    tableFileM cfg cs fb M = (dataBytes cfg cs ++ filterSection cfg fb) ++
      (M ++ (withTrailer cfg.cksum (ixB cfg cs) ++ footer (metaBHOf cfg cs fb) (indexBHOf cfg cs fb))) := by
  simp only [tableFileM, List.append_assoc]

theorem tableFileM_length (cfg : TableCfg) (cs : List (List KV)) (fb : Option Bytes) (M : Bytes)
    (hM : M.length = (metaB cfg cs fb).length + 5) :
    (tableFileM cfg cs fb M).length = (tableFile cfg cs fb).length := by
  rw [tableFile_eqM]
  simp only [tableFileM, List.length_append, withTrailer_length, hM]

theorem decodeGo_true (src : Bytes) :
    BH.decodeGo true src = match BH.decode src with
      | some (bh, n) => .ok bh n
      | none => .bad := by
  unfold BH.decodeGo BH.decode
  cases readUvarint src with
  | none => simp
  | some p =>
    obtain ⟨off, n⟩ := p
    simp only
    cases readUvarint (src.drop n) with
    | none => simp
    | some q => rfl

theorem BH.inFile_of_le (bh : BH) (p : Nat) (h : bh.offset + bh.length ≤ p) : bh.inFile p = true := by
  simp only [BH.inFile, Bool.and_eq_true, decide_eq_true_eq]; omega

theorem footerHandlesX_footer (X : Bytes) (m i : BH) (hmo : m.offset < 2 ^ 32) (hml : m.length < 2 ^ 32)
    (hio : i.offset < 2 ^ 32) (hil : i.length < 2 ^ 32) :
    Table.footerHandlesX .repaired (X ++ footer m i) = .ok (m, i) := by
  have h48 : Gen.footerLen = 48 := rfl
  have h8 : Gen.tableMagic.length = 8 := rfl
  have hm10 := BH.encode_length_le _ hmo hml
  have hi10 := BH.encode_length_le _ hio hil
  have hfl := footer_length m i hm10 hi10
  have hfoot : (X ++ footer m i).drop ((X ++ footer m i).length - 48) = footer m i := by
    rw [List.length_append, hfl, Nat.add_sub_cancel, List.drop_left]
  have hmagic : (footer m i).drop (48 - 8) = Gen.tableMagic := by
    simp only [footer, h48, h8]
    rw [List.drop_left' (by simp; omega)]
  have hdm : BH.decode (footer m i) = some (m, m.encode.length) := by
    simp only [footer, List.append_assoc]
    exact BH.decode_encode _ _ (by omega) (by omega)
  have hdi : BH.decode ((footer m i).drop m.encode.length) = some (i, i.encode.length) := by
    simp only [footer, List.append_assoc, List.drop_left]
    exact BH.decode_encode _ _ (by omega) (by omega)
  have hge : ¬ ((X ++ footer m i).length < 48) := by rw [List.length_append, hfl]; omega
  unfold Table.footerHandlesX
  simp only [h48, h8, hge, if_false, hfoot, hmagic, ne_eq, not_true_eq_false, ReaderFix.repaired, decodeGo_true, hdm, hdi]

/-- the footer part and the index read of `NewReader` on a written file whose metaindex block region holds `M` -/
theorem open_facts (cfg : TableCfg) (hck : Cksum32 cfg.cksum) (cs : List (List KV)) (fb : Option Bytes) (M : Bytes)
    (hM : M.length = (metaB cfg cs fb).length + 5) (hsz : (tableFile cfg cs fb).length < 2 ^ 32) :
    Table.footerHandlesX .repaired (tableFileM cfg cs fb M) = .ok (metaBHOf cfg cs fb, indexBHOf cfg cs fb) ∧
    (metaBHOf cfg cs fb).inFile ((tableFileM cfg cs fb M).length - Gen.footerLen) = true ∧
    (indexBHOf cfg cs fb).inFile ((tableFileM cfg cs fb M).length - Gen.footerLen) = true ∧
    ∃ ib, readBlock cfg.cksum (tableFileM cfg cs fb M) (indexBHOf cfg cs fb) true = some ib ∧
      Layout ib (ixE cfg 0 cs []) (offB 1 (ixE cfg 0 cs [])) (restartsOf 1 (ixE cfg 0 cs [])).length
        (rsB 1 (ixE cfg 0 cs [])) := by
  have S := sizes_of cfg cs fb hsz
  have h48 : Gen.footerLen = 48 := rfl
  have hlen : (tableFileM cfg cs fb M).length = (dataBytes cfg cs ++ filterSection cfg fb ++
      M ++ withTrailer cfg.cksum (ixB cfg cs)).length + 48 := by
    simp only [tableFileM]
    rw [List.length_append, S.foot]
  -- both blocks end in front of the footer
  have hin : (metaBHOf cfg cs fb).offset + (metaBHOf cfg cs fb).length ≤ (tableFileM cfg cs fb M).length - Gen.footerLen ∧
      (indexBHOf cfg cs fb).offset + (indexBHOf cfg cs fb).length ≤ (tableFileM cfg cs fb M).length - Gen.footerLen := by
    simp only [h48, hlen, metaBHOf, indexBHOf, List.length_append, withTrailer_length, hM]; omega
  refine ⟨footerHandlesX_footer _ _ _ S.mOff S.mLen S.iOff S.iLen, BH.inFile_of_le _ _ hin.1, BH.inFile_of_le _ _ hin.2, ?_⟩
  · have e : tableFileM cfg cs fb M = (dataBytes cfg cs ++ filterSection cfg fb ++ M) ++
          (withTrailer cfg.cksum (ixB cfg cs) ++ footer (metaBHOf cfg cs fb) (indexBHOf cfg cs fb)) := by
      simp only [tableFileM, List.append_assoc]
    have hA : (indexBHOf cfg cs fb) = ⟨(dataBytes cfg cs ++ filterSection cfg fb ++ M).length, (ixB cfg cs).length⟩ := by
      simp only [indexBHOf, List.length_append, withTrailer_length, hM]
    rw [e, hA]
    exact readBlock_at hck (dataBytes cfg cs ++ filterSection cfg fb ++ M) _ _ _ true S.iLen

/-- `t` reads the data blocks and the index block written for the chunks `cs`: what `find`, `OffsetOf` and the
iterators need to know about an open reader -/
structure Reads (cfg : TableCfg) (cs : List (List KV)) (t : TableR) : Prop where
  cmp : t.cmp = cfg.cmp
  cksum : t.cksum = cfg.cksum
  file : ∃ post, t.file = dataBytes cfg cs ++ post
  fsz : t.file.length < 2 ^ 32
  index : Layout t.index (ixE cfg 0 cs []) (offB 1 (ixE cfg 0 cs [])) (restartsOf 1 (ixE cfg 0 cs [])).length
    (rsB 1 (ixE cfg 0 cs []))

/-- a reader of the written file, whatever bytes `M` stand in the place of the metaindex block -/
theorem Reads.ofM {cfg : TableCfg} {cs : List (List KV)} {fb : Option Bytes} {M : Bytes} {t : TableR}
    (hM : M.length = (metaB cfg cs fb).length + 5) (hsz : (tableFile cfg cs fb).length < 2 ^ 32)
    (hcmp : t.cmp = cfg.cmp) (hcks : t.cksum = cfg.cksum) (hfile : t.file = tableFileM cfg cs fb M)
    (hidx : Layout t.index (ixE cfg 0 cs []) (offB 1 (ixE cfg 0 cs [])) (restartsOf 1 (ixE cfg 0 cs [])).length
      (rsB 1 (ixE cfg 0 cs []))) : Reads cfg cs t :=
  ⟨hcmp, hcks, ⟨_, by rw [hfile, tableFileM_split, List.append_assoc]⟩,
    by rw [hfile, tableFileM_length cfg cs fb M hM]; exact hsz, hidx⟩

/-- what `NewReader` makes of a written file: a reader of its chunks, with the filter block if there is one -/
theorem open_reads (cfg : TableCfg) (hck : Cksum32 cfg.cksum) (cs : List (List KV)) (fb : Option Bytes)
    (hfb : fb.isSome = cfg.filter.isSome) (hsz : (tableFile cfg cs fb).length < 2 ^ 32) (v : Bool) :
    ∃ t, Table.open cfg v (tableFile cfg cs fb) = some t ∧ Reads cfg cs t ∧
      t.dataEnd = (dataBytes cfg cs).length ∧
      t.filter = (match cfg.filter, fb with
        | some pol, some b =>
          (readFilterBlock cfg.cksum (tableFile cfg cs fb) ⟨(dataBytes cfg cs).length, b.length⟩).map fun r => (pol, r)
        | _, _ => none) := by
  have S := sizes_of cfg cs fb hsz
  obtain ⟨hfh, hinM, hinI, ib, hri, LI⟩ := open_facts cfg hck cs fb (withTrailer cfg.cksum (metaB cfg cs fb))
    (withTrailer_length _ _) hsz
  rw [← tableFile_eqM] at hfh hinM hinI hri
  have hdl : (dataBytes cfg cs).length < 2 ^ 64 := by
    have := S.mOff; simp only [metaBHOf, List.length_append] at this; omega
  have hbl : ∀ b, fb = some b → b.length < 2 ^ 64 := by
    intro b hb
    have := S.mOff
    simp only [metaBHOf, List.length_append, hb, filterSection, withTrailer_length] at this
    omega
  obtain ⟨mb, hrm, LM⟩ : ∃ mb, readBlock cfg.cksum (tableFile cfg cs fb) (metaBHOf cfg cs fb) true = some mb ∧ _ := by
    rw [tableFile_eqM, tableFileM_split]
    exact readBlock_at hck (dataBytes cfg cs ++ filterSection cfg fb) _ _ _ true S.mLen
  have hml := metaLoop_written cfg (dataBytes cfg cs).length fb hfb hdl hbl LM
  unfold Table.open Table.openE Table.openX
  rw [hfh]
  simp only [Table.openBody, hinM, hinI, ReaderFix.repaired, readBlockX, if_true, hrm, hri, Bool.and_self, Bool.not_true,
    Bool.and_false, Bool.false_eq_true, if_false, hml]
  rcases fb_cases hfb with ⟨hf, rfl⟩ | ⟨pol, b, hf, rfl⟩
  · rw [hf]
    refine ⟨_, rfl, Reads.ofM (withTrailer_length _ _) hsz rfl rfl (tableFile_eqM ..) LI, ?_, rfl⟩
    simp [metaBHOf, filterSection]
  · rw [hf]
    refine ⟨_, rfl, Reads.ofM (withTrailer_length _ _) hsz rfl rfl (tableFile_eqM ..) LI, rfl, ?_⟩
    simp only [Option.map_some, Option.getD_some]
    cases readFilterBlock cfg.cksum (tableFile cfg cs (some b)) ⟨(dataBytes cfg cs).length, b.length⟩ <;> rfl

theorem dataBytes_cons (cfg : TableCfg) (c : List KV) (rest : List (List KV)) :
    dataBytes cfg (c :: rest) = blockBytes cfg c ++ dataBytes cfg rest := by
  simp [dataBytes]

theorem dataBytes_append (cfg : TableCfg) (a b : List (List KV)) :
    dataBytes cfg (a ++ b) = dataBytes cfg a ++ dataBytes cfg b := by
  simp [dataBytes]

section
variable {cfg : TableCfg} {cs : List (List KV)} {t : TableR} (hr : Reads cfg cs t)
include hr

theorem Reads.dataBytes_lt : (dataBytes cfg cs).length < 2 ^ 32 := by
  obtain ⟨post, hpost⟩ := hr.file
  have := hr.fsz
  rw [hpost, List.length_append] at this; omega

theorem Reads.chunk_lt (csL : List (List KV)) (c : List KV) (rest : List (List KV))
    (hsplit : cs = csL ++ c :: rest) :
    (dataBytes cfg csL).length < 2 ^ 32 ∧ (Block.build cfg.restartInterval c).length < 2 ^ 32 := by
  have := hr.dataBytes_lt
  rw [hsplit, dataBytes_append, dataBytes_cons] at this
  simp only [List.length_append, blockBytes, withTrailer_length] at this
  omega

theorem Reads.decode_chunk (csL : List (List KV)) (c : List KV) (rest : List (List KV))
    (hsplit : cs = csL ++ c :: rest) :
    BH.decode (BH.encode ⟨(dataBytes cfg csL).length, (Block.build cfg.restartInterval c).length⟩) =
      some (⟨(dataBytes cfg csL).length, (Block.build cfg.restartInterval c).length⟩,
        (BH.encode ⟨(dataBytes cfg csL).length, (Block.build cfg.restartInterval c).length⟩).length) :=
  have h := hr.chunk_lt csL c rest hsplit
  BH.decode_encode' _ (Nat.lt_trans h.1 (by decide)) (Nat.lt_trans h.2 (by decide))

/-- the data block an index entry names reads as a block with the layout of its chunk -/
theorem Reads.dataBlock_chunk (hck : Cksum32 cfg.cksum) (csL : List (List KV)) {c : List KV} (rest : List (List KV))
    (hsplit : cs = csL ++ c :: rest) :
    ∃ b, t.dataBlock ⟨(dataBytes cfg csL).length, (Block.build cfg.restartInterval c).length⟩ = some b ∧
      Layout b c (offB cfg.restartInterval c) (restartsOf cfg.restartInterval c).length (rsB cfg.restartInterval c) := by
  obtain ⟨post, hpost⟩ := hr.file
  unfold TableR.dataBlock
  rw [hr.cksum, hpost, hsplit, dataBytes_append, dataBytes_cons, List.append_assoc, List.append_assoc]
  exact readBlock_at hck _ _ _ c t.verify (hr.chunk_lt csL c rest hsplit).2

theorem Reads.blocksOf_ixE (hck : Cksum32 cfg.cksum) (tl : List KV) :
    ∀ (mid csL csR : List (List KV)), cs = csL ++ (mid ++ csR) →
      t.blocksOf (ixE cfg (dataBytes cfg csL).length mid tl) = some mid := by
  intro mid
  induction mid with
  | nil => intro _ _ _; rfl
  | cons c rest ih =>
    intro csL csR hsplit
    simp only [ixE, TableR.blocksOf]
    rw [hr.decode_chunk csL c (rest ++ csR) hsplit]
    simp only
    obtain ⟨b, hb, L⟩ := hr.dataBlock_chunk hck csL (rest ++ csR) hsplit
    rw [hb]
    simp only
    rw [L.entries]
    have := ih (csL ++ [c]) csR (by rw [hsplit]; simp)
    rw [dataBytes_snoc, List.length_append] at this
    rw [this]

theorem Reads.entries (hck : Cksum32 cfg.cksum) : t.entries = some cs.flatten := by
  unfold TableR.entries
  rw [hr.index.entries]
  simp only
  have := hr.blocksOf_ixE hck [] cs [] [] (by simp)
  rw [show (dataBytes cfg []).length = 0 from rfl] at this
  rw [this]
  rfl

end

end GoLevel.C13

import GoLevel.Proofs.CacheTableOps
/-! Hash table of the cache (C17): every step and run of the table model refines a finite map keyed by
(ns,key); the background initialisation (`initBuckets`) is invisible. -/
namespace GoLevel.CacheT

/-- The specification: a finite map, as a list of nodes with pairwise different keys. -/
structure Spec where
  m : List TNode
  nextId : Nat

def Spec.new : Spec := { m := [], nextId := 0 }

def specStep (hashfn : Nat → Nat → Nat) (s : Spec) : TOp → Spec × TRes
  | .get ns key getOnly =>
    match s.m.find? (keyEq ns key) with
    | some n => (s, .get (.found n))
    | none =>
      if getOnly then (s, .get .absent)
      else
        ({ m := { ns := ns, key := key, hash := hashfn ns key, id := s.nextId } :: s.m, nextId := s.nextId + 1 },
          .get (.created { ns := ns, key := key, hash := hashfn ns key, id := s.nextId }))
  | .delete ns key refZero =>
    match s.m.find? (keyEq ns key) with
    | some n => if refZero then ({ s with m := s.m.erase n }, .deleted true) else (s, .deleted false)
    | none => (s, .deleted false)
  | .bgInit _ _ => (s, .unit)
  | .bgDone _ => (s, .unit)

def specRun (hashfn : Nat → Nat → Nat) : Spec → List TOp → Spec × List TRes
  | s, [] => (s, [])
  | s, op :: ops =>
    let r := specStep hashfn s op
    let rs := specRun hashfn r.1 ops
    (rs.1, r.2 :: rs.2)

structure Refines (hashfn : Nat → Nat → Nat) (t : Table) (s : Spec) : Prop where
  wf : TWF hashfn t
  mem : ∀ x, x ∈ s.m ↔ Mem t x
  nodup : s.m.Nodup
  nodes : t.statNodes = s.m.length
  nid : t.nextId = s.nextId

/-- There is at most one node per key in the table: `getBucket` and `mNodes.search` find every node that has the key. -/
theorem mem_unique {hashfn : Nat → Nat → Nat} {t : Table} (hwf : TWF hashfn t) {ns key : Nat} {a b : TNode}
    (ha : Mem t a) (hb : Mem t b) (hka : keyEq ns key a = true) (hkb : keyEq ns key b = true) : a = b := by
  obtain ⟨_, _, _, _, _, _, _, _, _, _, hhit⟩ := getBucket_ok hwf ns key
  exact Option.some.inj (((hhit a).mpr ⟨ha, hka⟩).symm.trans ((hhit b).mpr ⟨hb, hkb⟩))

theorem refines_same {hashfn : Nat → Nat → Nat} {t t' : Table} {s : Spec} (hr : Refines hashfn t s)
    (h : Same hashfn t' t) : Refines hashfn t' s :=
  ⟨h.wf, fun x => (hr.mem x).trans (h.mem x).symm, hr.nodup, by rw [h.nodes]; exact hr.nodes,
    by rw [h.nid]; exact hr.nid⟩

/-- `Cache.Get`/`Delete`/`Evict`'s table access: the first attempt of the loop succeeds. -/
theorem getLoop_ok {hashfn : Nat → Nat → Nat} {t : Table} (hwf : TWF hashfn t) (ns key : Nat) (getOnly : Bool) :
    (∀ n, Mem t n → keyEq ns key n = true →
      (getLoop hashfn ns key getOnly 2 t).2 = .found n ∧ Same hashfn (getLoop hashfn ns key getOnly 2 t).1 t) ∧
    ((∀ n, Mem t n → ¬ keyEq ns key n = true) →
      (getOnly = true →
        (getLoop hashfn ns key getOnly 2 t).2 = .absent ∧ Same hashfn (getLoop hashfn ns key getOnly 2 t).1 t) ∧
      (getOnly = false →
        (getLoop hashfn ns key getOnly 2 t).2 =
          .created { ns := ns, key := key, hash := hashfn ns key, id := t.nextId } ∧
        Holds hashfn (getLoop hashfn ns key getOnly 2 t).1
          (fun x => x = { ns := ns, key := key, hash := hashfn ns key, id := t.nextId } ∨ Mem t x)
          (t.statNodes + 1) (t.nextId + 1))) := by
  obtain ⟨t1, i, h1, ps1, hgb, g2, g6, hi, hst, hidx, hhit⟩ := getBucket_ok hwf ns key
  constructor
  · intro n hn hk
    simp only [getLoop, hgb, bucketGet, g6, hst, (hhit n).mpr ⟨hn, hk⟩]
    exact ⟨trivial, g2⟩
  · intro hnone
    have hmiss := Option.eq_none_iff_forall_ne_some.mpr fun n hc =>
      hnone n ((hhit n).mp hc).1 ((hhit n).mp hc).2
    constructor
    · intro hg
      simp only [getLoop, hgb, bucketGet, g6, hst, hmiss, hg, if_true]
      exact ⟨trivial, g2⟩
    · intro hg
      have := insertNode_ok (n := { ns := ns, key := key, hash := hashfn ns key, id := t.nextId })
        g2.wf g6 hi hst rfl hidx fun n hn => hnone n ((g2.mem n).mp hn)
      rw [g2.nid, g2.nodes] at this
      simp only [getLoop, hgb, bucketGet, g6, hst, hmiss, hg, g2.nid]
      exact ⟨by simp, this.congr fun x => by rw [g2.mem x]⟩

theorem deleteLoop_ok {hashfn : Nat → Nat → Nat} {t : Table} (hwf : TWF hashfn t) (ns key : Nat) :
    (∀ n, Mem t n → keyEq ns key n = true →
      ((deleteLoop hashfn ns key false 2 t).2 = false ∧ Same hashfn (deleteLoop hashfn ns key false 2 t).1 t) ∧
      (deleteLoop hashfn ns key true 2 t).2 = true ∧
      Holds hashfn (deleteLoop hashfn ns key true 2 t).1 (fun x => Mem t x ∧ x ≠ n) (t.statNodes - 1) t.nextId) ∧
    ((∀ n, Mem t n → ¬ keyEq ns key n = true) → ∀ refZero,
      (deleteLoop hashfn ns key refZero 2 t).2 = false ∧ Same hashfn (deleteLoop hashfn ns key refZero 2 t).1 t) := by
  obtain ⟨t1, i, h1, ps1, hgb, g2, g6, hi, hst, hidx, hhit⟩ := getBucket_ok hwf ns key
  constructor
  · intro n hn hk
    have hh := (hhit n).mpr ⟨hn, hk⟩
    refine ⟨?_, ?_⟩
    · simp only [deleteLoop, hgb, bucketDelete, g6, hst, hh, Bool.false_eq_true, if_false]
      exact ⟨trivial, g2⟩
    · have := removeNode_ok g2.wf g6 hi hst (hit_iff.mp hh).1
      rw [g2.nid, g2.nodes] at this
      simp only [deleteLoop, hgb, bucketDelete, g6, hst, hh, if_true]
      exact ⟨trivial, this.congr fun x => by rw [g2.mem x]⟩
  · intro hnone refZero
    have hmiss := Option.eq_none_iff_forall_ne_some.mpr fun n hc =>
      hnone n ((hhit n).mp hc).1 ((hhit n).mp hc).2
    simp only [deleteLoop, hgb, bucketDelete, g6, hst, hmiss]
    exact ⟨trivial, g2⟩

theorem splice_at {hashfn : Nat → Nat → Nat} : ∀ (k : Nat) (hs : List Head), WFChain hashfn hs → hs.drop k ≠ [] →
    WFChain hashfn (hs.drop k) ∧ ∀ suf', WFChain hashfn suf' → Equiv suf' (hs.drop k) →
      WFChain hashfn (hs.take k ++ suf') ∧ Equiv (hs.take k ++ suf') hs := by
  intro k
  induction k with
  | zero => intro hs hw _; exact ⟨hw, fun _ hw' he => ⟨hw', he⟩⟩
  | succ k ih =>
    intro hs hw hne
    cases hs with
    | nil => simp at hne
    | cons a ps =>
      cases ps with
      | nil => simp at hne
      | cons p rest =>
        obtain ⟨hd, hsp⟩ := ih (p :: rest) hw.tail hne
        refine ⟨hd, fun suf' hw' he => ?_⟩
        obtain ⟨h1, h2⟩ := hsp suf' hw' he
        exact ⟨wf_congr_tail hw h2 h1, equiv_cons h2⟩

theorem bucket_mem {h : Head} {i : Nat} (hi : i < h.buckets.length) : h.bucket i ∈ h.buckets := by
  unfold Head.bucket
  rw [List.getD_eq_getElem?_getD, List.getElem?_eq_getElem hi]
  exact List.getElem_mem hi

/-- Cutting the chain behind a head whose buckets are all initialised: that head alone is seen like the chain it
starts, and the rest follows by `splice_at`. -/
theorem truncate_ok {hashfn : Nat → Nat → Nat} {k : Nat} {hs : List Head} {h : Head} (hw : WFChain hashfn hs)
    (hk : hs[k]? = some h) (hall : ∀ b ∈ h.buckets, b.state ≠ .uninit) :
    WFChain hashfn (hs.take (k + 1)) ∧ Equiv (hs.take (k + 1)) hs := by
  have hlt := getElem?_lt hk
  have hd : hs.drop k = h :: hs.drop (k + 1) := by
    rw [List.drop_eq_getElem_cons hlt]; congr 1
    exact Option.some.inj ((List.getElem?_eq_getElem hlt).symm.trans hk)
  obtain ⟨hwd, hsp⟩ := splice_at k hs hw (by rw [hd]; simp)
  rw [hd] at hwd hsp
  have h1 : WFChain hashfn [h] ∧ Equiv [h] (h :: hs.drop (k + 1)) := by
    refine ⟨⟨hwd.1, hwd.2.1, fun i hi => hall _ (bucket_mem hi)⟩, fun j => ?_, rfl⟩
    unfold vnodes
    split
    · rfl
    · rw [if_pos (hall _ (bucket_mem (by omega))), if_pos (hall _ (bucket_mem (by omega)))]
  have := hsp [h] h1.1 h1.2
  rwa [show hs.take k ++ [h] = hs.take (k + 1) by rw [List.take_add_one, hk]; rfl] at this

/-- The goroutine `initBuckets` (one bucket, or its final store) changes nothing that is visible. -/
theorem bg_ok {hashfn : Nat → Nat → Nat} {t : Table} (hwf : TWF hashfn t) :
    (∀ k i, Same hashfn (step hashfn t (.bgInit k i)).1 t) ∧ (∀ k, Same hashfn (step hashfn t (.bgDone k)).1 t) := by
  have hsame : Same hashfn t t := ⟨hwf, fun _ => Iff.rfl, rfl, rfl⟩
  obtain ⟨a, rest, hh⟩ := twf_heads hwf
  constructor
  · intro k i
    simp only [step]
    cases hd : t.heads.drop k with
    | nil => exact hsame
    | cons h ps =>
      simp only []
      by_cases hi : i < h.buckets.length
      · rw [if_pos hi]
        obtain ⟨hwd, hsp⟩ := splice_at k _ hwf.chain (by rw [hd]; simp)
        rw [hd] at hwd hsp
        obtain ⟨h', ps', h1, _, hf1, hw1, he1⟩ := initBucket_ok hwd hi
        rw [h1]
        obtain ⟨hw2, he2⟩ := hsp _ hw1 he1
        refine ⟨⟨hw2, ?_, by simp [hwf.bug]⟩, fun x => memC_equiv he2 x, rfl, rfl⟩
        -- the current head is the old one, or (`k = 0`) the old one with bucket `i` initialised
        cases k with
        | zero =>
          simp only [List.drop_zero] at hd
          exact nf_cons fun j hc => hwf.nf h ps hd j (hf1 j hc)
        | succ k =>
          simp only [hh, List.take_succ_cons, List.cons_append]
          exact nf_cons (hwf.nf a rest hh)
      · rw [if_neg hi]; exact hsame
  · intro k
    simp only [step]
    cases hk : t.heads[k]? with
    | none => exact hsame
    | some h =>
      simp only []
      by_cases hall : (h.buckets.all fun b => b.state != .uninit) = true
      · rw [if_pos hall]
        have hall' : ∀ b ∈ h.buckets, b.state ≠ .uninit := by
          intro b hb
          have := List.all_eq_true.mp hall b hb
          simpa using this
        obtain ⟨hw2, he2⟩ := truncate_ok hwf.chain hk hall'
        refine ⟨⟨hw2, ?_, hwf.bug⟩, fun x => memC_equiv he2 x, rfl, rfl⟩
        simp only [hh, List.take_succ_cons]
        exact nf_cons (hwf.nf a rest hh)
      · rw [if_neg hall]; exact hsame

theorem bg_res (hashfn : Nat → Nat → Nat) (t : Table) :
    (∀ k i, (step hashfn t (.bgInit k i)).2 = .unit) ∧ (∀ k, (step hashfn t (.bgDone k)).2 = .unit) := by
  constructor
  · intro k i
    simp only [step]
    split
    · rfl
    · split <;> rfl
  · intro k
    simp only [step]
    split
    · rfl
    · split <;> rfl

theorem step_refines {hashfn : Nat → Nat → Nat} {t : Table} {s : Spec} (hr : Refines hashfn t s) (op : TOp) :
    (step hashfn t op).2 = (specStep hashfn s op).2 ∧
    Refines hashfn (step hashfn t op).1 (specStep hashfn s op).1 := by
  have hmiss : ∀ {ns key : Nat}, s.m.find? (keyEq ns key) = none → ∀ n, Mem t n → ¬ keyEq ns key n = true :=
    fun hf n hn => List.find?_eq_none.mp hf n ((hr.mem n).mpr hn)
  cases op with
  | bgInit k i => exact ⟨(bg_res hashfn t).1 k i, refines_same hr ((bg_ok hr.wf).1 k i)⟩
  | bgDone k => exact ⟨(bg_res hashfn t).2 k, refines_same hr ((bg_ok hr.wf).2 k)⟩
  | get ns key getOnly =>
    have hg := getLoop_ok hr.wf ns key getOnly
    simp only [step, specStep]
    cases hf : s.m.find? (keyEq ns key) with
    | some n =>
      have hn := List.mem_of_find?_eq_some hf
      have hk := List.find?_some hf
      obtain ⟨r1, r2⟩ := hg.1 n ((hr.mem n).mp hn) hk
      simp only [r1]
      exact ⟨trivial, refines_same hr r2⟩
    | none =>
      have hnone := hmiss hf
      cases getOnly with
      | true =>
        obtain ⟨r1, r2⟩ := (hg.2 hnone).1 rfl
        simp only [r1, if_true]
        exact ⟨trivial, refines_same hr r2⟩
      | false =>
        obtain ⟨r1, r2⟩ := (hg.2 hnone).2 rfl
        simp only [r1, Bool.false_eq_true, if_false, hr.nid]
        refine ⟨trivial, r2.wf, fun x => ?_, ?_, ?_, ?_⟩
        · rw [r2.mem x, ← hr.nid, List.mem_cons, hr.mem x]
        · refine List.nodup_cons.mpr ⟨fun hm => ?_, hr.nodup⟩
          have := hnone _ ((hr.mem _).mp hm)
          simp [keyEq] at this
        · rw [r2.nodes, hr.nodes]; simp
        · rw [r2.nid, hr.nid]
  | delete ns key refZero =>
    have hd := deleteLoop_ok hr.wf ns key
    simp only [step, specStep]
    cases hf : s.m.find? (keyEq ns key) with
    | some n =>
      have hn := List.mem_of_find?_eq_some hf
      have hk := List.find?_some hf
      obtain ⟨⟨r0, r0'⟩, r1, r2⟩ := hd.1 n ((hr.mem n).mp hn) hk
      cases refZero with
      | false =>
        simp only [r0, Bool.false_eq_true, if_false]
        exact ⟨trivial, refines_same hr r0'⟩
      | true =>
        simp only [r1, if_true]
        refine ⟨trivial, r2.wf, fun x => ?_, hr.nodup.erase n, ?_, by rw [r2.nid, hr.nid]⟩
        · rw [r2.mem x, List.Nodup.mem_erase_iff hr.nodup, hr.mem x]
          exact ⟨fun h => ⟨h.2, h.1⟩, fun h => ⟨h.2, h.1⟩⟩
        · simp only []
          rw [r2.nodes, hr.nodes, List.length_erase_of_mem hn]
          have : 0 < s.m.length := List.length_pos_of_mem hn
          omega
    | none =>
      have hnone := hmiss hf
      obtain ⟨r1, r2⟩ := hd.2 hnone refZero
      simp only [r1]
      exact ⟨trivial, refines_same hr r2⟩

theorem run_refines {hashfn : Nat → Nat → Nat} : ∀ (ops : List TOp) {t : Table} {s : Spec}, Refines hashfn t s →
    (run hashfn t ops).2 = (specRun hashfn s ops).2 ∧
    Refines hashfn (run hashfn t ops).1 (specRun hashfn s ops).1 := by
  intro ops
  induction ops with
  | nil => intro t s hr; exact ⟨rfl, hr⟩
  | cons op ops ih =>
    intro t s hr
    obtain ⟨h1, h2⟩ := step_refines hr op
    obtain ⟨h3, h4⟩ := ih h2
    simp only [run, specRun]
    exact ⟨by rw [h1, h3], h4⟩

theorem mInitialSize_pow : Gen.mInitialSize = 2 ^ 4 := by decide

theorem refines_new (hashfn : Nat → Nat → Nat) : Refines hashfn Table.new Spec.new := by
  have hb : ∀ i, i < Gen.mInitialSize →
      ({ buckets := List.replicate Gen.mInitialSize { nodes := [], state := BState.init },
         mask := Gen.mInitialSize - 1, resizeInProgress := false, overflow := 0,
         growThreshold := (Gen.mInitialSize : Int) * Gen.mOverflowThreshold, shrinkThreshold := 0 } : Head).bucket i =
        { nodes := [], state := .init } := by
    intro i hi
    simp only [Head.bucket, List.getD_eq_getElem?_getD, List.getElem?_replicate]
    rw [if_pos hi]; rfl
  have hmem : ∀ x, ¬ Mem Table.new x := by
    intro x hx
    unfold Mem Table.new at hx
    simp only [] at hx
    obtain ⟨i, hi, hxi⟩ := memC_cons.mp hx
    simp only [List.length_replicate] at hi
    unfold vnodes at hxi
    simp only [List.length_replicate] at hxi
    rw [if_neg (by omega), hb i hi] at hxi
    simp at hxi
  refine ⟨⟨?_, ?_, rfl⟩, fun x => ⟨fun h => by simp [Spec.new] at h, fun h => absurd h (hmem x)⟩,
    by simp [Spec.new], by simp [Table.new, Spec.new], rfl⟩
  · unfold Table.new
    simp only []
    refine ⟨⟨4, by simp [mInitialSize_pow], by simp [mInitialSize_pow]⟩, fun i hi _ => ?_, fun i hi => ?_⟩
    · simp only [List.length_replicate] at hi
      rw [hb i hi]
      exact ⟨List.Pairwise.nil, fun x hx => by cases hx⟩
    · simp only [List.length_replicate] at hi
      rw [hb i hi]; simp
  · intro h ps heq i
    unfold Table.new at heq
    simp only [List.cons.injEq] at heq
    rw [← heq.1]
    simp only [Head.bucket, List.getD_eq_getElem?_getD, List.getElem?_replicate]
    split <;> simp

/-! ## `Nodes()` is the number of nodes physically in the buckets; every node is in exactly one bucket -/

def contents : List Head → List TNode
  | [] => []
  | h :: ps => (List.range h.buckets.length).flatMap (vnodes (h :: ps))

theorem contents_nodup {hashfn : Nat → Nat → Nat} {h : Head} {ps : List Head} (hw : WFChain hashfn (h :: ps)) :
    (contents (h :: ps)).Nodup := by
  refine List.pairwise_flatMap.mpr ⟨fun i hi => ?_, ?_⟩
  · exact sorted_nodup (vnodes_ok hw (List.mem_range.mp hi)).1
  · refine List.Pairwise.imp_of_mem (fun {a b} ha hb hab x hxa y hxb hxy => ?_) List.pairwise_lt_range
    have h1 := memC_bucket hw (List.mem_range.mp ha) hxa
    have h2 := memC_bucket hw (List.mem_range.mp hb) (hxy ▸ hxb)
    omega

theorem mem_contents {h : Head} {ps : List Head} {x : TNode} : x ∈ contents (h :: ps) ↔ MemC (h :: ps) x := by
  unfold contents
  rw [List.mem_flatMap, memC_cons]
  constructor
  · rintro ⟨i, hi, hx⟩; exact ⟨i, List.mem_range.mp hi, hx⟩
  · rintro ⟨i, hi, hx⟩; exact ⟨i, List.mem_range.mpr hi, hx⟩

theorem contents_perm {hashfn : Nat → Nat → Nat} {t : Table} {s : Spec} (hr : Refines hashfn t s) :
    (contents t.heads).Perm s.m ∧ t.Nodes = (contents t.heads).length := by
  obtain ⟨h, ps, hh⟩ := twf_heads hr.wf
  have hw := hr.wf.chain
  rw [hh] at hw ⊢
  have hp : (contents (h :: ps)).Perm s.m := by
    rw [List.perm_ext_iff_of_nodup (contents_nodup hw) hr.nodup]
    intro x
    rw [mem_contents, hr.mem x, mem_heads hh]
  exact ⟨hp, by unfold Table.Nodes; rw [hr.nodes, hp.length_eq]⟩

end GoLevel.CacheT

import GoLevel.Proofs.MemArrFind
import GoLevel.Proofs.MemArrLoops
/-! `New`, `Reset`, `Get`, `Find`, `Contains` over the arrays simulate the ideal operations (C14). -/
namespace GoLevel.MemArr
open GoLevel.Gen (nKV nKey nVal nHeight nNext tMaxHeight)
open GoLevel.MemDB (Node LawfulCmp)

variable {cmp : Cmp}

/-- `prevNode` is scratch space: any contents of the right length will do -/
theorem Rep.setPrev {a : DB} {d : MemDB.DB} {ix : Bytes → Nat} (r : Rep cmp a d ix) (pn : List Nat)
    (hpn : pn.length = a.prevNode.length) : Rep cmp { a with prevNode := pn } d ix where
  inv := r.inv
  mh := r.mh
  n := r.n
  kvSize := r.kvSize
  used := r.used
  pn := by show pn.length = _; rw [hpn, r.pn]
  fuel := r.fuel
  top := r.top
  chain := r.chain
  node := fun k hk => by
    have h := r.node k hk
    exact ⟨h.lo, h.hi, h.off, h.klen, h.vlen, h.height⟩
  sep := r.sep

theorem rep_empty (a : DB) (ix : Bytes → Nat) (hkv : a.kvData = #[]) (hsz : a.nodeData.size = nNext + tMaxHeight)
    (hz : ∀ h, h < tMaxHeight → a.nodeData[nNext + h]? = some 0) (hpn : a.prevNode.length = tMaxHeight)
    (hmh : a.maxHeight = 1) (hn : a.n = 0) (hs : a.kvSize = 0) : Rep cmp a MemDB.DB.empty ix where
  inv := MemDB.inv_empty cmp
  mh := by simp [hmh, MemDB.DB.empty]
  n := by simp [hn, MemDB.DB.empty]
  kvSize := by simp [hs, MemDB.DB.empty]
  used := by simp [hkv, MemDB.DB.empty]
  pn := hpn
  fuel := by simp [MemDB.DB.empty, hsz]
  top := fun h _ h2 => hz h h2
  chain := by
    intro h hh
    have : h = 0 := by simp [MemDB.DB.empty] at hh; omega
    subst this
    simp only [MemDB.DB.empty, List.getElem_cons_zero, Chain]
    simpa using hz 0 tMaxHeight_pos
  node := by intro k hk; simp [MemDB.DB.empty, MemDB.DB.level0] at hk
  sep := by intro k hk; simp [MemDB.DB.empty, MemDB.DB.level0] at hk

theorem rep_new (ix : Bytes → Nat) : Rep cmp DB.new MemDB.DB.empty ix := by
  apply rep_empty
  · rfl
  · simp [DB.new, nNext_eq]
  · intro h hh
    simp only [DB.new, Array.getElem?_setIfInBounds, Array.getElem?_replicate]
    have h1 := nNext_eq
    have h2 := nHeight_eq
    have : ¬ nHeight = nNext + h := by omega
    have h3 : nNext + h < 4 + tMaxHeight := by omega
    simp [this, h3]
  · simp [DB.new]
  · rfl
  · rfl
  · rfl

theorem reset_sim {a : DB} {d : MemDB.DB} {ix : Bytes → Nat} (r : Rep cmp a d ix) :
    ∃ a', reset a = some a' ∧ Rep cmp a' (MemDB.reset d) ix ∧ a'.gen = a.gen + 1 := by
  have hsz : nNext + tMaxHeight ≤ a.nodeData.size := by have := r.fuel; omega
  have e4 := nNext_eq
  have e0 := nKV_eq
  have e1 := nKey_eq
  have e2 := nVal_eq
  have e3 := nHeight_eq
  have hs0 : (a.nodeData.extract 0 (nNext + tMaxHeight)).size = nNext + tMaxHeight := by
    simp [Array.size_extract]; omega
  obtain ⟨n1, w1, s1, _⟩ := wr_some (a := a.nodeData.extract 0 (nNext + tMaxHeight)) (i := nKV) 0 (by omega)
  obtain ⟨n2, w2, s2, _⟩ := wr_some (a := n1) (i := nKey) 0 (by omega)
  obtain ⟨n3, w3, s3, _⟩ := wr_some (a := n2) (i := nVal) 0 (by omega)
  obtain ⟨n4, w4, s4, _⟩ := wr_some (a := n3) (i := nHeight) tMaxHeight (by omega)
  obtain ⟨nd', pn', hl, z1, z2, z3⟩ := resetLoop_spec tMaxHeight n4 a.prevNode 0 (by omega) (by rw [r.pn]; omega)
  refine ⟨{ kvData := #[], nodeData := nd', prevNode := pn', maxHeight := 1, n := 0, kvSize := 0,
            gen := a.gen + 1 }, ?_, ?_, rfl⟩
  · unfold reset
    have : ¬ a.nodeData.size < nNext + tMaxHeight := by omega
    simp only [this, if_false, w1, w2, w3, w4, hl, Option.bind_some, Option.bind_eq_bind]
  · show Rep cmp _ MemDB.DB.empty ix
    apply rep_empty
    · rfl
    · show nd'.size = _; omega
    · intro h hh
      show nd'[nNext + h]? = some 0
      rw [z3]
      have : nNext + 0 ≤ nNext + h ∧ nNext + h < nNext + 0 + tMaxHeight := by omega
      rw [if_pos this]
    · show pn'.length = _; rw [z2, r.pn]
    · rfl
    · rfl
    · rfl

section
variable {a : DB} {d : MemDB.DB} {ix : Bytes → Nat}

theorem findGE_node_mem (hc : LawfulCmp cmp) (r : Rep cmp a d ix) (key : Bytes) {k : Bytes}
    (h : (MemDB.findGE cmp d key false).node = some k) : k ∈ d.level0 :=
  MemDB.succ_mem ((MemDB.findGE_noprev hc r.inv key).1 ▸ h)

theorem contains_sim (r : Rep cmp a d ix) (key : Bytes) :
    contains cmp a key = some (MemDB.contains cmp d key) := by
  obtain ⟨pn', h1, _⟩ := findGE_sim r key false
  simp [contains, h1, MemDB.contains]

theorem get_sim (hc : LawfulCmp cmp) (r : Rep cmp a d ix) (key : Bytes) :
    get cmp a key = some (MemDB.get cmp d key) := by
  obtain ⟨pn', h1, _⟩ := findGE_sim r key false
  obtain ⟨hn, he⟩ := MemDB.findGE_noprev hc r.inv key
  simp only [get, h1, Option.bind_some, Option.bind_eq_bind, MemDB.get]
  by_cases hk : key ∈ d.level0
  · have hex : (MemDB.findGE cmp d key false).exact = true := by rw [he]; simpa using hk
    rw [hex, hn, MemDB.succ_of_mem hc r.inv.sorted0 hk]
    simp [(r.node key hk).nodeVal]
  · have hex : (MemDB.findGE cmp d key false).exact = false := by rw [he]; simpa using hk
    rw [hex]
    simp

theorem find_sim (hc : LawfulCmp cmp) (r : Rep cmp a d ix) (key : Bytes) :
    find cmp a key = some (MemDB.find cmp d key) := by
  obtain ⟨pn', h1, _⟩ := findGE_sim r key false
  simp only [find, h1, Option.bind_some, Option.bind_eq_bind, MemDB.find]
  cases hn : (MemDB.findGE cmp d key false).node with
  | none => simp
  | some k =>
    have hk := findGE_node_mem hc r key hn
    have hnode := r.node k hk
    have hne : (ix k != 0) = true := by simpa using r.ix_ne_zero hk
    simp [hne, hnode.nodeKey, hnode.nodeVal]

end

end GoLevel.MemArr

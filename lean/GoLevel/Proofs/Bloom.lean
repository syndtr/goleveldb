import GoLevel.Model.Bloom
import GoLevel.Proofs.Bytes
/-!
# Proofs about the Bloom filter model, for `Props/C16.lean`

The generator's probe loop sets what the reader's probe loop tests, for an arbitrary initial destination; the
`uint32` arithmetic of `Generate`; the reader recomputes the same `nBits` from the filter length.
-/
namespace GoLevel

/-- `LawfulFilter` restricted to key sets of at most `n` keys.  Needed for the Bloom policy because
    `Generate` computes `uint32(len * bitsPerKey)`: for some lengths Go panics (see `bloomGenPanics`), so the
    unrestricted contract cannot hold for every `bitsPerKey` (`bloom_unbounded_fails`). -/
def LawfulFilterBounded (f : FilterPolicy) (n : Nat) : Prop :=
  ∀ (keys : List Bytes) (k : Bytes), keys.length ≤ n → k ∈ keys → f.contains (f.generate keys) k = true

theorem LawfulFilter.bounded {f : FilterPolicy} (h : LawfulFilter f) (n : Nat) : LawfulFilterBounded f n :=
  fun keys k _ hk => h keys k hk

theorem bitMask_toNat (i : Nat) : (bitMask i).toNat = 2 ^ (i % 8) := by
  have h : i % 8 < 8 := Nat.mod_lt _ (by decide)
  unfold bitMask
  generalize i % 8 = s at h
  match s, h with
  | 0, _ | 1, _ | 2, _ | 3, _ | 4, _ | 5, _ | 6, _ | 7, _ => rfl
  | n + 8, h => omega

theorem testBit_eq (a : Array UInt8) (i : Nat) :
    testBit a i = (a.getD (i / 8) 0).toNat.testBit (i % 8) := by
  rw [testBit, Bool.eq_iff_iff, bne_iff_ne, Ne, ← UInt8.toNat_inj, UInt8.toNat_and, bitMask_toNat]
  rw [UInt8.toNat_zero, and_two_pow_eq_zero, Bool.not_eq_false]

theorem size_setBit (a : Array UInt8) (i : Nat) : (setBit a i).size = a.size := by
  simp [setBit]

theorem testBit_setBit (a : Array UInt8) (i j : Nat) :
    testBit (setBit a i) j = (testBit a j || (decide (i = j) && decide (i / 8 < a.size))) := by
  simp only [testBit_eq, Array.getD_eq_getD_getElem?, setBit, Array.getElem?_modify]
  by_cases h : i / 8 = j / 8
  · rw [if_pos h, ← h]
    by_cases hi : i / 8 < a.size
    · have : decide (i % 8 = j % 8) = decide (i = j) := decide_eq_decide.mpr
        ⟨fun e => by rw [← Nat.div_add_mod i 8, ← Nat.div_add_mod j 8, h, e], fun e => e ▸ rfl⟩
      simp [hi, Nat.testBit_or, bitMask_toNat, Nat.testBit_two_pow, this]
    · simp [hi]
  · have : i ≠ j := fun e => h (by rw [e])
    simp [h, this]

/-- `a'` has the size of `a` and every bit that is set in `a`: what the generator's loops preserve -/
def BitsLE (a a' : Array UInt8) : Prop :=
  a'.size = a.size ∧ ∀ j, testBit a j = true → testBit a' j = true

theorem BitsLE.trans {a b d : Array UInt8} (h1 : BitsLE a b) (h2 : BitsLE b d) : BitsLE a d :=
  ⟨h2.1.trans h1.1, fun j h => h2.2 j (h1.2 j h)⟩

theorem bitsLE_probeSet (nBits delta : UInt32) (c : Nat) (kh : UInt32) (a : Array UInt8) :
    BitsLE a (probeSet nBits delta c kh a) := by
  induction c generalizing kh a with
  | zero => exact ⟨rfl, fun _ h => h⟩
  | succ c ih =>
    exact .trans ⟨size_setBit a _, fun j h => by rw [testBit_setBit, h, Bool.true_or]⟩ (ih _ _)

theorem bitsLE_bloomFill (k : Nat) (nBits : UInt32) (hs : List UInt32) (dest : Array UInt8) :
    BitsLE dest (bloomFill k nBits hs dest) := by
  induction hs generalizing dest with
  | nil => exact ⟨rfl, fun _ h => h⟩
  | cons x t ih => exact .trans (bitsLE_probeSet _ _ _ _ _) (ih _)

theorem probeTest_probeSet (nBits delta : UInt32) (c : Nat) (kh : UInt32) (a : Array UInt8)
    (hpos : 0 < nBits.toNat) (hsz : nBits.toNat ≤ a.size * 8) :
    probeTest nBits delta (probeSet nBits delta c kh a) c kh = true := by
  induction c generalizing kh a with
  | zero => rfl
  | succ c ih =>
    have hp : (kh % nBits).toNat / 8 < a.size := by
      have : (kh % nBits).toNat < nBits.toNat := by
        rw [UInt32.toNat_mod]; exact Nat.mod_lt _ hpos
      omega
    simp only [probeSet, probeTest, Bool.and_eq_true]
    constructor
    · exact (bitsLE_probeSet _ _ _ _ _).2 _
        (by rw [testBit_setBit, decide_eq_true rfl, decide_eq_true hp, Bool.and_self, Bool.or_true])
    · exact ih _ _ (by rw [size_setBit]; exact hsz)

theorem probeTest_mono (nBits delta : UInt32) (a a' : Array UInt8) (c : Nat) (kh : UInt32)
    (hm : ∀ j, testBit a j = true → testBit a' j = true)
    (h : probeTest nBits delta a c kh = true) : probeTest nBits delta a' c kh = true := by
  induction c generalizing kh with
  | zero => rfl
  | succ c ih =>
    simp only [probeTest, Bool.and_eq_true] at h ⊢
    exact ⟨hm _ h.1, ih _ h.2⟩

/-- whatever the destination held before (Go: zeros), every added hash passes the probe test afterwards -/
theorem bloomFill_probe (k : Nat) (nBits : UInt32) (hs : List UInt32) (dest : Array UInt8)
    (hpos : 0 < nBits.toNat) (hsz : nBits.toNat ≤ dest.size * 8) (kh : UInt32) (hkh : kh ∈ hs) :
    probeTest nBits (Gen.bloomDeltaGenerate kh) (bloomFill k nBits hs dest) k kh = true := by
  induction hs generalizing dest with
  | nil => cases hkh
  | cons x t ih =>
    simp only [bloomFill, List.foldl_cons] at ih ⊢
    rcases List.mem_cons.mp hkh with rfl | hm
    · refine probeTest_mono _ _ _ _ _ _ (fun j hj => ?_) (probeTest_probeSet nBits _ k kh dest hpos hsz)
      exact (bitsLE_bloomFill k nBits t _).2 j hj
    · exact ih _ (by rw [(bitsLE_probeSet _ _ _ _ _).1]; exact hsz) hm

theorem bloomNBytes_toNat (bpk nKeys : Nat) :
    (bloomNBytes bpk nKeys).toNat = (max ((nKeys * bpk) % 2 ^ 32) 64 + 7) % 2 ^ 32 / 8 := by
  have ite_lt_eq_max (m k : Nat) : (if m < k then k else m) = max m k := by
    split
    · next h => exact (Nat.max_eq_right (Nat.le_of_lt h)).symm
    · next h => exact (Nat.max_eq_left (Nat.le_of_not_lt h)).symm
  simp only [bloomNBytes, Nat.toUInt32_eq, UInt32.lt_iff_toNat_lt, UInt32.toNat_div, UInt32.toNat_add,
    apply_ite UInt32.toNat, UInt32.toNat_ofNat', ← ite_lt_eq_max]
  rfl

theorem bloomNBytes_mul_lt (bpk nKeys : Nat) : (bloomNBytes bpk nKeys).toNat * 8 < 2 ^ 32 := by
  rw [bloomNBytes, UInt32.toNat_div]
  exact Nat.lt_of_le_of_lt (Nat.div_mul_le_self _ 8) (UInt32.toNat_lt _)

/-- the two rotations in `Contains` and `Generate` are the same function (both printed from the Go AST) -/
theorem bloomDelta_eq : Gen.bloomDeltaContains = Gen.bloomDeltaGenerate := rfl

theorem testBit_push (a : Array UInt8) (b : UInt8) (j : Nat) (h : testBit a j = true) :
    testBit (a.push b) j = true := by
  rw [testBit_eq, Array.getD_eq_getD_getElem?] at h ⊢
  rw [Array.getElem?_push, if_neg]
  · exact h
  · intro e
    rw [e, Array.getElem?_eq_none (Nat.le_refl _)] at h
    simp at h

theorem bloomContains_push (A : Array UInt8) (kb : UInt8) (key : Bytes) (h1 : 1 ≤ A.size)
    (hk : kb.toNat ≤ 30) :
    bloomContains (A.push kb).toList key = probeTest (A.size * 8).toUInt32
      (Gen.bloomDeltaContains (bloomHash key)) (A.push kb) kb.toNat (bloomHash key) := by
  have hnot : ¬ kb > 30 := by rw [gt_iff_lt, UInt8.lt_iff_toNat_lt]; exact Nat.not_lt.2 hk
  simp only [bloomContains, Array.toArray_toList, Array.size_push, Nat.add_sub_cancel,
    Array.getD_eq_getD_getElem?, Array.getElem?_push_size, Option.getD_some]
  rw [if_neg (by omega), if_neg hnot]

theorem bloomContains_fill (k : Nat) (hk : k ≤ 30) (nb : UInt32) (h1 : 1 ≤ nb.toNat)
    (hlt : nb.toNat * 8 < 2 ^ 32) (hs : List UInt32) (dest : Array UInt8) (hd : dest.size = nb.toNat)
    (key : Bytes) (hmem : bloomHash key ∈ hs) :
    bloomContains ((bloomFill k (nb * 8) hs dest).push k.toUInt8).toList key = true := by
  have hkn : k.toUInt8.toNat = k := toNat_toUInt8_of_lt (Nat.lt_of_le_of_lt hk (by decide))
  have hbits : (nb.toNat * 8).toUInt32 = nb * 8 := by
    rw [Nat.toUInt32_eq, UInt32.ofNat_mul, UInt32.ofNat_toNat]; rfl
  have hnbits : (nb * 8).toNat = dest.size * 8 := by
    rw [UInt32.toNat_mul, hd]; exact Nat.mod_eq_of_lt hlt
  rw [bloomContains_push _ _ _ (by rw [(bitsLE_bloomFill _ _ _ _).1, hd]; exact h1) (by omega),
    (bitsLE_bloomFill _ _ _ _).1, hd,
    hbits, hkn, bloomDelta_eq]
  have hpos : 0 < (nb * 8).toNat := by rw [hnbits, hd]; exact Nat.mul_pos h1 (by decide)
  exact probeTest_mono _ _ _ _ _ _ (fun j hj => testBit_push _ _ j hj)
    (bloomFill_probe _ _ _ _ hpos (Nat.le_of_eq hnbits) _ hmem)

theorem bloomPolicy_contains_generate (bpk : Nat) (keys : List Bytes) (k : Bytes) :
    (bloomPolicy bpk).contains ((bloomPolicy bpk).generate keys) k
      = bloomContains (bloomGenerate bpk keys) k := rfl

/-- in the model (which has no panic) such a filter is the single byte `k`, and the reader rejects it -/
theorem bloom_panic_model (bpk : Nat) (keys : List Bytes) (key : Bytes)
    (hp : bloomGenPanics bpk keys.length = true) :
    bloomContains (bloomGenerate bpk keys) key = false := by
  unfold bloomGenPanics at hp
  rw [beq_iff_eq] at hp
  unfold bloomGenerate bloomContains
  simp only [List.length_map, Array.toArray_toList, Array.size_push,
    (bitsLE_bloomFill _ _ _ _).1, Array.size_replicate, hp]
  rfl

end GoLevel

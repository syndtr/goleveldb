import GoLevel.Proofs.MergeHeapBasic
/-!
# `container/heap` (model `GoHeap`): the heap invariant

For a strict weak order, `down` and `up` repair a heap with one bad link by moving a `Hole`; hence `heap.Init`
establishes the invariant, `heap.Push` preserves it, and `heap.Pop` returns a minimum and leaves a heap.
-/
namespace GoLevel.GoHeap

variable {less : Nat → Nat → Bool} {S : Nat → Prop}

theorem HeapFrom.congr {h h' : List Nat} {n i0 : Nat} (he : ∀ k, k < n → h'.getD k 0 = h.getD k 0)
    (hh : HeapFrom less h n i0) : HeapFrom less h' n i0 := by
  intro k hk0 hkn hp
  unfold LinkOK
  rw [he k hkn, he _ (Nat.lt_trans (parent_lt hk0) hkn)]
  exact hh k hk0 hkn hp

theorem child_min (hs : SWO less S) {h : List Nat} {i n : Nat} (hS : ∀ x ∈ h, S x) (hn : n ≤ h.length)
    (h1 : 2 * i + 1 < n) :
    ∀ k, 0 < k → k < n → (k - 1) / 2 = i → less (h.getD k 0) (h.getD (child less h i n) 0) = false := by
  intro k hk0 hkn hpk
  have hS1 : S (h.getD (2 * i + 1) 0) := hS _ (getD_mem (Nat.lt_of_lt_of_le h1 hn))
  rcases child_cases less h i n with ⟨e, hr⟩ | ⟨e, h2, hr⟩ <;> rw [e]
  · rcases eq_child hk0 hpk with rfl | rfl
    · exact hs.irrefl _ hS1
    · exact hr hkn
  · have hS2 := hS _ (getD_mem (Nat.lt_of_lt_of_le h2 hn))
    rcases eq_child hk0 hpk with rfl | rfl
    · exact hs.asymm hS2 hS1 hr
    · exact hs.irrefl _ hS2

/-- node `x` cut out of the tree: every link of the prefix `n` with parent `≥ i0` that does not touch `x` is
in order, and the children of `x` are not below `x`'s parent.  Loop invariant of `down` (together with the
link above `x`) and of `up` (together with the links below `x`); a swap of `x` with a neighbour moves the
hole there. -/
structure Hole (less : Nat → Nat → Bool) (h : List Nat) (n i0 x : Nat) : Prop where
  other : ∀ k, 0 < k → k < n → i0 ≤ (k - 1) / 2 → k ≠ x → (k - 1) / 2 ≠ x → LinkOK less h k
  grand : ∀ k, 0 < k → k < n → (k - 1) / 2 = x → 0 < x → i0 ≤ (x - 1) / 2 →
    less (h.getD k 0) (h.getD ((x - 1) / 2) 0) = false

theorem Hole.heap {h : List Nat} {n i0 x : Nat} (hinv : Hole less h n i0 x)
    (hup : 0 < x → i0 ≤ (x - 1) / 2 → LinkOK less h x)
    (hdn : ∀ k, 0 < k → k < n → (k - 1) / 2 = x → LinkOK less h k) : HeapFrom less h n i0 := by
  intro k hk0 hkn hp
  by_cases hkx : k = x
  · rw [hkx] at hk0 hp ⊢; exact hup hk0 hp
  · by_cases hpx : (k - 1) / 2 = x
    · exact hdn k hk0 hkn hpx
    · exact hinv.other k hk0 hkn hp hkx hpx

theorem Hole.heap_leaf {h : List Nat} {n i0 x : Nat} (hinv : Hole less h n i0 x)
    (hup : 0 < x → i0 ≤ (x - 1) / 2 → LinkOK less h x) (hn : n ≤ 2 * x + 1) : HeapFrom less h n i0 :=
  hinv.heap hup (fun k hk0 hkn hpk => by rcases eq_child hk0 hpk with rfl | rfl <;> omega)

theorem downF_heap (hs : SWO less S) {n i0 : Nat} (fuel : Nat) (h : List Nat) (i : Nat) (hn : n ≤ h.length)
    (hS : ∀ x ∈ h, S x) (hf : n ≤ i + fuel) (hi0 : i0 ≤ i) (hinv : Hole less h n i0 i)
    (hup : 0 < i → i0 ≤ (i - 1) / 2 → LinkOK less h i) : HeapFrom less (downF less fuel h i n) n i0 := by
  induction fuel generalizing h i with
  | zero => exact hinv.heap_leaf hup (by omega)
  | succ fuel ih =>
    rw [downF_succ]
    by_cases h1 : 2 * i + 1 ≥ n
    · rw [if_pos h1]; exact hinv.heap_leaf hup h1
    · rw [if_neg h1]
      obtain ⟨hic, hcn, hci⟩ := child_bounds less h (Nat.lt_of_not_le h1)
      have hmin := child_min hs hS hn (Nat.lt_of_not_le h1)
      generalize child less h i n = c at *
      have hcl : c < h.length := Nat.lt_of_lt_of_le hcn hn
      have hi : i < h.length := Nat.lt_trans hic hcl
      have hSk := fun k (hk : k < h.length) => hS _ (getD_mem hk)
      cases hlt : lessAt less h c i with
      | false =>
        rw [if_pos (by rfl)]
        refine hinv.heap hup (fun k hk0 hkn hpk => ?_)
        unfold LinkOK; rw [hpk]
        exact hs.negtrans _ _ _ (hSk k (Nat.lt_of_lt_of_le hkn hn)) (hSk c hcl) (hSk i hi) (hmin k hk0 hkn hpk) hlt
      | true =>
        -- swap `i` with its least child `c`: the hole moves to `c`, the link above `c` is in order
        rw [if_neg (by simp)]
        refine ih _ c (by rw [swap_length]; exact hn) (fun x hx => hS x ((swap_perm hi hcl).mem_iff.1 hx)) (by omega)
          (Nat.le_trans hi0 (Nat.le_of_lt hic)) ⟨?_, ?_⟩ (fun _ _ => ?_)
        · intro k hk0 hkn hp hkc hpc
          unfold LinkOK
          by_cases hki : k = i
          · rw [hki] at hk0 hp hpc ⊢
            rw [swap_getD_left hi, swap_getD_other (Nat.ne_of_lt (parent_lt hk0)) hpc]
            exact hinv.grand c (Nat.zero_lt_of_lt hic) hcn hci hk0 hp
          · rw [swap_getD_other hki hkc]
            by_cases hpi : (k - 1) / 2 = i
            · rw [hpi, swap_getD_left hi]; exact hmin k hk0 hkn hpi
            · rw [swap_getD_other hpi hpc]; exact hinv.other k hk0 hkn hp hki hpi
        · intro k hk0 hkn hpk _ _
          have hck : c < k := hpk ▸ parent_lt hk0
          have hki : k ≠ i := Nat.ne_of_gt (Nat.lt_trans hic hck)
          rw [hci, swap_getD_left hi, swap_getD_other hki (Nat.ne_of_gt hck)]
          have := hinv.other k hk0 hkn (hpk ▸ Nat.le_trans hi0 (Nat.le_of_lt hic)) hki (hpk ▸ Nat.ne_of_gt hic)
          rwa [LinkOK, hpk] at this
        · unfold LinkOK
          rw [hci, swap_getD_left hi, swap_getD_right hcl]
          exact hs.asymm (hSk c hcl) (hSk i hi) hlt

theorem down_heap (hs : SWO less S) {h : List Nat} {n i : Nat} (hn : n ≤ h.length) (hS : ∀ x ∈ h, S x)
    (hh : HeapFrom less h n (i + 1)) : HeapFrom less (down less h i n) n i := by
  have hpar : 0 < i → ¬ i ≤ (i - 1) / 2 := fun h0 => Nat.not_le_of_gt (parent_lt h0)
  refine downF_heap hs n h i hn hS (Nat.le_add_left _ _) (Nat.le_refl _) ⟨?_, ?_⟩
    (fun h0 hle => absurd hle (hpar h0))
  · intro k hk0 hkn hp _ hpi
    exact hh k hk0 hkn (Nat.lt_of_le_of_ne hp (Ne.symm hpi))
  · intro _ _ _ _ h0 hle
    exact absurd hle (hpar h0)

theorem upF_heap (hs : SWO less S) {n : Nat} (fuel : Nat) (h : List Nat) (j : Nat) (hn : n ≤ h.length)
    (hS : ∀ x ∈ h, S x) (hf : j < fuel) (hjn : j < n) (hinv : Hole less h n 0 j)
    (hdn : ∀ k, 0 < k → k < n → (k - 1) / 2 = j → LinkOK less h k) : HeapFrom less (upF less fuel h j) n 0 := by
  induction fuel generalizing h j with
  | zero => omega
  | succ fuel ih =>
    rw [upF_succ]
    by_cases hij : (j - 1) / 2 = j
    · rw [if_pos (by simp [hij])]
      exact hinv.heap (fun hj0 _ => absurd hij (Nat.ne_of_lt (parent_lt hj0))) hdn
    · cases hlt : lessAt less h j ((j - 1) / 2) with
      | false =>
        rw [if_pos (by simp)]
        exact hinv.heap (fun _ _ => hlt) hdn
      | true =>
        -- swap `j` with its parent `i`: the hole moves to `i`, the links below `i` are in order
        rw [if_neg (by simp [hij])]
        have hj0 : 0 < j := Nat.pos_of_ne_zero (fun e => hij (by rw [e]))
        have hij := parent_lt hj0
        generalize hi : (j - 1) / 2 = i at *
        have hjl : j < h.length := Nat.lt_of_lt_of_le hjn hn
        have hil : i < h.length := Nat.lt_trans hij hjl
        have hSk := fun k (hk : k < h.length) => hS _ (getD_mem hk)
        have hkid : ∀ k, 0 < k → (k - 1) / 2 = i → k ≠ i :=
          fun k hk0 hpk => Nat.ne_of_gt (hpk ▸ parent_lt hk0)
        have hsib : ∀ k, 0 < k → k < n → (k - 1) / 2 = i → k ≠ j →
            less (h.getD k 0) (h.getD i 0) = false := by
          intro k hk0 hkn hpk hkj
          have := hinv.other k hk0 hkn (Nat.zero_le _) hkj (hpk ▸ Nat.ne_of_lt hij)
          rwa [LinkOK, hpk] at this
        refine ih _ _ (by rw [swap_length]; exact hn) (fun x hx => hS x ((swap_perm hil hjl).mem_iff.1 hx))
          (Nat.lt_of_lt_of_le hij (Nat.le_of_lt_succ hf)) (Nat.lt_trans hij hjn) ⟨?_, ?_⟩ ?_
        · intro k hk0 hkn _ hki hpi
          have hkj : k ≠ j := fun e => hpi (e ▸ hi)
          unfold LinkOK
          rw [swap_getD_other hki hkj]
          by_cases hpj : (k - 1) / 2 = j
          · rw [hpj, swap_getD_right hjl, ← hi]
            exact hinv.grand k hk0 hkn hpj hj0 (Nat.zero_le _)
          · rw [swap_getD_other hpi hpj]; exact hinv.other k hk0 hkn (Nat.zero_le _) hkj hpj
        · intro k hk0 hkn hpk hi0 _
          have hgi : (i - 1) / 2 < i := parent_lt hi0
          have hgj := Nat.ne_of_lt (Nat.lt_trans hgi hij)
          have hoki : LinkOK less h i :=
            hinv.other i hi0 (Nat.lt_trans hij hjn) (Nat.zero_le _) (Nat.ne_of_lt hij) hgj
          rw [swap_getD_other (k := (i - 1) / 2) (Nat.ne_of_lt hgi) hgj]
          by_cases hkj : k = j
          · rw [hkj, swap_getD_right hjl]; exact hoki
          · rw [swap_getD_other (hkid k hk0 hpk) hkj]
            exact hs.negtrans _ _ _ (hSk k (Nat.lt_of_lt_of_le hkn hn)) (hSk i hil) (hSk _ (Nat.lt_trans hgi hil))
              (hsib k hk0 hkn hpk hkj) hoki
        · intro k hk0 hkn hpk
          unfold LinkOK
          rw [hpk, swap_getD_left hil]
          by_cases hkj : k = j
          · rw [hkj, swap_getD_right hjl]; exact hs.asymm (hSk j hjl) (hSk i hil) hlt
          · rw [swap_getD_other (hkid k hk0 hpk) hkj]
            cases hx : less (h.getD k 0) (h.getD j 0) with
            | false => rfl
            | true =>
              have := hs.trans _ _ _ (hSk k (Nat.lt_of_lt_of_le hkn hn)) (hSk j hjl) (hSk i hil) hx hlt
              rw [hsib k hk0 hkn hpk hkj] at this; cases this

theorem heap_root_min (hs : SWO less S) {h : List Nat} {n : Nat} (hn : n ≤ h.length) (hS : ∀ x ∈ h, S x)
    (hh : HeapFrom less h n 0) : ∀ k, k < n → less (h.getD k 0) (h.getD 0 0) = false := by
  have hSk : ∀ k, k < n → S (h.getD k 0) := fun k hk => hS _ (getD_mem (Nat.lt_of_lt_of_le hk hn))
  intro k
  induction k using Nat.strongRecOn with
  | _ k ih =>
    intro hk
    by_cases hk0 : k = 0
    · rw [hk0] at hk ⊢; exact hs.irrefl _ (hSk 0 hk)
    · have hpk := parent_lt (Nat.pos_of_ne_zero hk0)
      have hpn := Nat.lt_trans hpk hk
      exact hs.negtrans _ _ _ (hSk k hk) (hSk _ hpn) (hSk 0 (Nat.zero_lt_of_lt hk))
        (hh k (Nat.pos_of_ne_zero hk0) hk (Nat.zero_le _)) (ih _ hpk hpn)

theorem initLoop_heap (hs : SWO less S) (k : Nat) (h : List Nat) (hk : k ≤ h.length / 2) (hS : ∀ x ∈ h, S x)
    (hh : HeapFrom less h h.length k) : HeapFrom less (initLoop less h.length k h) h.length 0 := by
  induction k generalizing h with
  | zero => exact hh
  | succ k ih =>
    simp only [initLoop]
    have hlen : (down less h k h.length).length = h.length := downF_length less _ _ _ _
    have hp : (down less h k h.length).Perm h := (downF_perm less _ _ _ _ (Nat.le_refl _)).1
    have h1 := down_heap hs (Nat.le_refl _) hS hh
    have := ih (down less h k h.length) (by rw [hlen]; omega) (fun x hx => hS x (hp.mem_iff.1 hx)) (by rw [hlen]; exact h1)
    rw [hlen] at this
    exact this

theorem init_isHeap (hs : SWO less S) {h : List Nat} (hS : ∀ x ∈ h, S x) : IsHeap less (init less h) := by
  unfold IsHeap init
  rw [initLoop_length]
  apply initLoop_heap hs _ h (Nat.le_refl _) hS
  intro j hj0 hjn hp
  omega

/-- the appended leaf is the hole -/
theorem push_isHeap (hs : SWO less S) {h : List Nat} {x : Nat} (hS : ∀ y ∈ h ++ [x], S y) (hh : IsHeap less h) :
    IsHeap less (push less h x) := by
  have hlen : (h ++ [x]).length = h.length + 1 := List.length_append
  have hleaf : ∀ k, 0 < k → k < (h ++ [x]).length → (k - 1) / 2 ≠ h.length := by
    intro k hk0 hkn e
    have := parent_lt hk0
    omega
  unfold IsHeap push up
  rw [upF_length]
  refine upF_heap hs _ _ _ (Nat.le_refl _) hS (Nat.lt_succ_self _) (by omega) ⟨?_, ?_⟩
    (fun k hk0 hkn hpk => absurd hpk (hleaf k hk0 hkn))
  · intro k hk0 hkn _ hkne _
    exact HeapFrom.congr (h' := h ++ [x])
      (fun j hj => by
        rw [List.getD_eq_getElem?_getD, List.getElem?_append_left hj, ← List.getD_eq_getElem?_getD]) hh
      k hk0 (by omega) (Nat.zero_le _)
  · intro k hk0 hkn hpk
    exact absurd hpk (hleaf k hk0 hkn)

theorem eq_take_append_last {l : List Nat} {n : Nat} (hl : l.length = n + 1) :
    l = l.take n ++ [l.getD n 0] := by
  have hn : n < l.length := by omega
  rw [List.getD_eq_getElem?_getD, List.getElem?_eq_getElem hn, Option.getD_some,
    ← List.take_succ_eq_append_getElem hn, List.take_of_length_le (by omega)]

theorem pop_spec (hs : SWO less S) {h : List Nat} (hS : ∀ x ∈ h, S x) (hh : IsHeap less h) (hne : h ≠ []) :
    ∃ rest, pop less h = some (h.getD 0 0, rest) ∧ (h.getD 0 0 :: rest).Perm h ∧ IsHeap less rest ∧
      ∀ y ∈ h, less y (h.getD 0 0) = false := by
  have hlen : 0 < h.length := List.length_pos_iff.2 hne
  have hn : h.length - 1 < h.length := by omega
  generalize hnn : h.length - 1 = n at hn
  have hnl : n ≤ (swap h 0 n).length := by rw [swap_length]; exact Nat.le_of_lt hn
  -- `d` is the slice after `down`; its last element is the old root
  generalize hd : down less (swap h 0 n) 0 n = d
  have hl2 : d.length = n + 1 := by rw [← hd]; unfold down; rw [downF_length, swap_length]; omega
  have hlast : d.getD n 0 = h.getD 0 0 := by
    rw [← hd]; unfold down
    rw [(downF_perm less n _ _ _ hnl).2 n (Nat.le_refl _), swap_getD_right hn]
  refine ⟨d.take n, ?_, ?_, ?_, ?_⟩
  · unfold pop
    have : h.isEmpty = false := List.isEmpty_eq_false_iff.2 hne
    simp only [this, Bool.false_eq_true, if_false, hnn, hd, hlast]
  · have hp : d.Perm h := hd ▸ (downF_perm less n _ _ _ hnl).1.trans (swap_perm hlen hn)
    have : (d.getD n 0 :: d.take n).Perm (d.take n ++ [d.getD n 0]) :=
      List.perm_append_comm (l₁ := [d.getD n 0])
    rw [← eq_take_append_last hl2, hlast] at this
    exact this.trans hp
  · have h2 : HeapFrom less d n 0 := by
      rw [← hd]
      refine down_heap hs hnl (fun x hx => hS x ((swap_perm hlen hn).mem_iff.1 hx)) (fun j hj0 hjn hp => ?_)
      unfold LinkOK
      rw [swap_getD_other (Nat.ne_of_gt hj0) (Nat.ne_of_lt hjn),
        swap_getD_other (Nat.ne_of_gt hp) (Nat.ne_of_lt (Nat.lt_trans (parent_lt hj0) hjn))]
      exact hh j hj0 (Nat.lt_trans hjn hn) (Nat.zero_le _)
    unfold IsHeap
    rw [List.length_take, hl2, Nat.min_eq_left (Nat.le_succ n)]
    exact h2.congr (fun k hk => by
      rw [List.getD_eq_getElem?_getD, List.getElem?_take_of_lt hk, ← List.getD_eq_getElem?_getD])
  · intro y hy
    obtain ⟨k, hk, rfl⟩ := List.mem_iff_getElem.1 hy
    have := heap_root_min hs (Nat.le_refl _) hS hh k hk
    rwa [List.getD_eq_getElem?_getD, List.getElem?_eq_getElem hk] at this

theorem pop_nil (less : Nat → Nat → Bool) : pop less [] = none := rfl

end GoLevel.GoHeap

import GoLevel.Proofs.LSMOrder
/-!
# Every search of `Model/LSM.lean` computes `newest` of the source it searches
-/
namespace GoLevel

def probeList (c : UCmp) (es : List Entry) (k : Bytes) (s : Nat) : Option Entry :=
  match seekEntry c es (probe k s) with
  | some e => if c.cmp k e.ukey = .eq then some e else none
  | none => none

theorem tableProbe_eq (c : UCmp) (t : Table) (k : Bytes) (s : Nat) :
    tableProbe c t k s = probeList c t.entries k s := rfl

def hitOf : Option Entry → Hit
  | some e => e.hit
  | none => .miss

theorem Entry.hit_ne_miss (e : Entry) : e.hit ≠ .miss := by
  unfold Entry.hit; split <;> simp

theorem hitOf_eq_miss_iff (o : Option Entry) : hitOf o = .miss ↔ o = none := by
  cases o with
  | none => simp [hitOf]
  | some e => simp [hitOf, Entry.hit_ne_miss]

theorem hitOf_toOption (c : UCmp) (es : List Entry) (k : Bytes) (s : Nat) :
    (hitOf (newest c es k s)).toOption = view c es k s := by
  unfold view hitOf
  cases newest c es k s <;> rfl

theorem hitOf_or (a b : Option Entry) :
    hitOf (a.or b) = match a with | some e => e.hit | none => hitOf b := by
  cases a <;> rfl

theorem Level.entries_cons (t : Table) (ts : Level) :
    Level.entries (t :: ts) = t.entries ++ Level.entries ts := rfl

theorem probeList_cons (c : UCmp) (x : Entry) (xs : List Entry) (k : Bytes) (s : Nat) :
    probeList c (x :: xs) k s =
      if icmp c x.key (probe k s) != .lt then (if c.cmp k x.ukey = .eq then some x else none)
      else probeList c xs k s := by
  unfold probeList seekEntry
  rw [List.find?_cons]
  cases icmp c x.key (probe k s) != .lt <;> rfl

theorem probeList_append (c : UCmp) (A B : List Entry) (k : Bytes) (s : Nat) :
    probeList c (A ++ B) k s =
      if (seekEntry c A (probe k s)).isSome then probeList c A k s else probeList c B k s := by
  unfold probeList seekEntry
  rw [List.find?_append]
  cases List.find? (fun e => icmp c e.key (probe k s) != .lt) A <;> rfl

theorem levelGet_cons (c : UCmp) (t : Table) (ts : Level) (k : Bytes) (s : Nat) :
    levelGet c (t :: ts) k s =
      if icmp c t.imax (probe k s) != .lt then
        (if c.cmp k t.imin.ukey != .lt then tableProbe c t k s else none)
      else levelGet c ts k s := by
  unfold levelGet searchMax
  rw [List.find?_cons]
  cases icmp c t.imax (probe k s) != .lt <;> rfl

section lookup
variable {c : UCmp} (hl : LawfulUCmp c)
include hl

/-- on a sorted list both sides are the first entry of `k` at or below `s`: the seek skips what lies
before the probe, and an entry at or after it either is that entry or has a larger user key -/
theorem probeList_eq_newest (es : List Entry) (hs : ESorted c es) (hk : KindsOK es) (k : Bytes) (s : Nat) :
    probeList c es k s = newest c es k s := by
  rw [newest_sorted_eq_find hl es hs]
  induction es with
  | nil => rfl
  | cons x xs ih =>
    have hkx : x.kind ≤ Gen.keyTypeVal := hk x (by simp)
    rw [probeList_cons]
    by_cases hp : (icmp c x.key (probe k s) != .lt) = true
    · rw [if_pos hp]
      rcases (not_lt_probe_iff hl x hkx k s).1 hp with hgt | hm
      · have hnone : ∀ e ∈ x :: xs, ¬ Matches c k s e := by
          intro e he hm
          have h1 := ESorted.head_ule hl hs e he
          rw [((matches_iff hl k s e).1 hm).1] at h1
          exact hl.ord.irrefl _ (hl.ord.lt_of_lt_of_le hgt h1)
        rw [show c.cmp k x.ukey = .lt from hgt, if_neg nofun]
        exact (List.find?_eq_none.2 fun e he h => hnone e he (of_decide_eq_true h)).symm
      · rw [if_pos ((hl.ord.eq_iff _ _).2 hm.1.symm), List.find?_cons,
          decide_eq_true ((matches_iff hl k s x).2 hm)]
    · have hlt : icmp c x.key (probe k s) = .lt := by simpa using hp
      have hnx : ¬ Matches c k s x := by
        intro hm
        obtain ⟨h1, h2⟩ := (matches_iff hl k s x).1 hm
        rcases (lt_probe_iff hl x hkx k s).1 hlt with h | ⟨_, h⟩
        · rw [h1] at h; exact hl.ord.irrefl _ h
        · omega
      rw [if_neg hp, List.find?_cons, decide_eq_false hnx]
      exact ih (List.pairwise_cons.1 hs).2 (fun e he => hk e (List.mem_cons_of_mem _ he))

/-- `db.memGet` is the probe `version.get` uses on a table, the user keys compared the other way round -/
theorem memGet_eq_probeList (mem : List Entry) (k : Bytes) (s : Nat) :
    memGet c mem k s = hitOf (probeList c mem k s) := by
  unfold memGet probeList
  cases seekEntry c mem (probe k s) with
  | none => rfl
  | some e =>
    simp only [hl.ord.eq_iff, eq_comm (a := k)]
    split <;> rfl

theorem memGet_eq (mem : List Entry) (hs : ESorted c mem) (hk : KindsOK mem) (k : Bytes) (s : Nat) :
    memGet c mem k s = hitOf (newest c mem k s) := by
  rw [memGet_eq_probeList hl, probeList_eq_newest hl mem hs hk]

omit hl in
theorem Table.wfB_parts {t : Table} (h : t.wfB c = true) :
    sortedB c t.entries = true ∧
    (∃ f rest l, t.entries = f :: rest ∧ t.entries.getLast? = some l ∧ f.key = t.imin ∧ l.key = t.imax) ∧
    KindsOK t.entries := by
  simp only [Table.wfB, Bool.and_eq_true, List.all_eq_true, decide_eq_true_eq] at h
  obtain ⟨⟨h1, h2⟩, h3⟩ := h
  refine ⟨h1, ?_, h3⟩
  cases hte : t.entries with
  | nil => simp [hte] at h2
  | cons f rest =>
    rw [hte] at h2
    cases hla : (f :: rest).getLast? with
    | none => simp [hla] at h2
    | some l =>
      simp only [hla, List.head?_cons, Bool.and_eq_true, decide_eq_true_eq] at h2
      exact ⟨f, rest, l, rfl, rfl, h2.1, h2.2⟩

theorem Table.wf_sorted {t : Table} (h : t.wfB c = true) : ESorted c t.entries :=
  (sortedB_iff hl _).1 (Table.wfB_parts h).1

omit hl in
theorem Table.wf_kinds {t : Table} (h : t.wfB c = true) : KindsOK t.entries := (Table.wfB_parts h).2.2

omit hl in
theorem Table.wf_imin_mem {t : Table} (h : t.wfB c = true) : ∃ f ∈ t.entries, f.key = t.imin := by
  obtain ⟨f, rest, l, hte, -, hfk, -⟩ := (Table.wfB_parts h).2.1
  exact ⟨f, by simp [hte], hfk⟩

omit hl in
theorem Table.wf_ne_nil {t : Table} (h : t.wfB c = true) : t.entries ≠ [] := by
  obtain ⟨f, hf, -⟩ := Table.wf_imin_mem h
  exact List.ne_nil_of_mem hf

theorem Table.wf_bounds {t : Table} (h : t.wfB c = true) :
    ∀ e ∈ t.entries, c.le t.imin.ukey e.ukey ∧ c.le e.ukey t.imax.ukey := by
  obtain ⟨f, rest, l, hte, hla, hfk, hlk⟩ := (Table.wfB_parts h).2.1
  have hs := Table.wf_sorted hl h
  intro e he
  refine ⟨?_, hlk ▸ ESorted.ule_getLast hl hs hla e he⟩
  rw [hte] at hs he
  exact hfk ▸ ESorted.head_ule hl hs e he

theorem Table.wf_imin_le_imax {t : Table} (h : t.wfB c = true) : c.le t.imin.ukey t.imax.ukey := by
  obtain ⟨f, hf, -⟩ := Table.wf_imin_mem h
  have := Table.wf_bounds hl h f hf
  exact hl.ord.le_trans this.1 this.2

theorem Table.wf_imax {t : Table} (h : t.wfB c = true) :
    (∃ l ∈ t.entries, l.key = t.imax) ∧ ∀ e ∈ t.entries, icmp c e.key t.imax ≠ .gt := by
  obtain ⟨f, rest, l, -, hla, -, hlk⟩ := (Table.wfB_parts h).2.1
  refine ⟨⟨l, List.mem_of_getLast? hla, hlk⟩, fun e he => hlk ▸ ?_⟩
  exact (rel_getLast_or_eq (Table.wf_sorted hl h) hla e he).elim StrictOrd.le_of_lt
    fun h => h ▸ (icmp_ord hl).le_refl _

/-- the pre-filter `t.overlaps(icmp, ukey, ukey)` never hides a table that holds the key -/
theorem Table.overlapsKey_of_mem {t : Table} (h : t.wfB c = true) {e : Entry} (he : e ∈ t.entries) :
    t.overlapsKey c e.ukey = true := by
  have := Table.wf_bounds hl h e he
  simp only [Table.overlapsKey, Bool.and_eq_true]
  exact ⟨bne_iff_ne.2 this.2, (hl.ord.bne_lt_iff _ _).2 this.1⟩

theorem Table.seek_isSome {t : Table} (h : t.wfB c = true) (p : IKey) :
    (seekEntry c t.entries p).isSome = (icmp c t.imax p != .lt) := by
  obtain ⟨⟨la, hla, hlk⟩, hle⟩ := Table.wf_imax hl h
  rw [Bool.eq_iff_iff, seekEntry, List.find?_isSome]
  constructor
  · rintro ⟨e, he, hep⟩
    simp only [bne_iff_ne, ne_eq] at hep ⊢
    exact fun hlt => hep ((icmp_ord hl).lt_of_le_of_lt (hle e he) hlt)
  · exact fun hp => ⟨la, hla, hlk ▸ hp⟩

/-- a test that every table holding `k` passes may guard the probe without changing its result:
the `overlaps` pre-filter of level 0, the `imin` test of the deeper levels -/
theorem tableProbe_guard {t : Table} {k : Bytes} {b : Bool}
    (hb : ∀ e ∈ t.entries, e.ukey = k → b = true) (s : Nat) :
    (if b then tableProbe c t k s else none) = tableProbe c t k s := by
  cases b with
  | true => rfl
  | false =>
    unfold tableProbe
    cases hf : seekEntry c t.entries (probe k s) with
    | none => rfl
    | some e =>
      have hne : c.cmp k e.ukey ≠ .eq := fun h =>
        Bool.noConfusion (hb e (List.mem_of_find?_eq_some hf) ((hl.ord.eq_iff _ _).1 h).symm)
      simp only [if_neg hne]; rfl

/-- one table of level 0 / aux as `walkOverlapping` + `get` treat it -/
theorem l0_table {t : Table} (h : t.wfB c = true) (k : Bytes) (s : Nat) :
    (if t.overlapsKey c k then tableProbe c t k s else none) = newest c t.entries k s := by
  rw [tableProbe_guard hl (fun e he hk => hk ▸ Table.overlapsKey_of_mem hl h he), tableProbe_eq,
    probeList_eq_newest hl _ (Table.wf_sorted hl h) (Table.wf_kinds h)]

/-- the `fseq >= zseq` rule -/
def pickLater (best r : Option Entry) : Option Entry :=
  match r with
  | some e =>
    match best with
    | some b => if e.seq ≥ b.seq then some e else best
    | none => some e
  | none => best

omit hl in
theorem l0Get_eq_foldl (tables : Level) (k : Bytes) (s : Nat) :
    l0Get c tables k s =
      tables.foldl (fun best t => pickLater best (if t.overlapsKey c k then tableProbe c t k s else none)) none := by
  unfold l0Get
  congr 1
  funext best t
  cases t.overlapsKey c k with
  | false => cases best <;> rfl
  | true => cases tableProbe c t k s <;> cases best <;> rfl

omit hl in
theorem pickLater_eq_pickNewer (a b : Option Entry)
    (h : ∀ x y, a = some x → b = some y → (x.seq = y.seq → x = y)) : pickLater a b = pickNewer a b := by
  cases a with
  | none => cases b <;> rfl
  | some x =>
    cases b with
    | none => rfl
    | some y =>
      show (if y.seq ≥ x.seq then some y else some x) = if y.key.num > x.key.num then some y else some x
      rcases Nat.lt_trichotomy x.seq y.seq with hlt | heq | hgt
      · rw [if_pos (Nat.le_of_lt hlt), if_pos (Entry.num_lt_of_seq_lt hlt)]
      · cases h x y rfl rfl heq
        rw [ite_self, ite_self]
      · have := Entry.num_lt_of_seq_lt hgt
        rw [if_neg (by omega), if_neg (by omega)]

theorem l0_foldl (E : List Entry) (hu : UniqSeq E) (k : Bytes) (s : Nat) (tables : Level)
    (hwf : ∀ t ∈ tables, t.wfB c = true) (hsub : ∀ e ∈ Level.entries tables, e ∈ E)
    (best : Option Entry) (hbest : ∀ b, best = some b → b ∈ E ∧ Matches c k s b) :
    tables.foldl (fun best t => pickLater best (if t.overlapsKey c k then tableProbe c t k s else none)) best
      = pickNewer best (newest c (Level.entries tables) k s) := by
  induction tables generalizing best with
  | nil => exact (pickNewer_none_right best).symm
  | cons t ts ih =>
    rw [Level.entries_cons] at hsub
    have hsubt : ∀ e ∈ t.entries, e ∈ E := fun e he => hsub e (List.mem_append_left _ he)
    -- `best` and the table's hit are entries of `k` in `E`: equal sequence numbers make them equal
    have hpl : pickLater best (newest c t.entries k s) = pickNewer best (newest c t.entries k s) := by
      apply pickLater_eq_pickNewer
      intro x y hx hy hseq
      obtain ⟨hxE, hxm⟩ := hbest x hx
      exact hu x hxE y (hsubt y (newest_mem hy))
        (((matches_iff hl k s x).1 hxm).1.trans ((matches_iff hl k s y).1 (newest_matches hy)).1.symm) hseq
    rw [List.foldl_cons, l0_table hl (hwf t (by simp)), hpl, Level.entries_cons, newest_append,
      ← pickNewer_assoc]
    apply ih (fun t' ht' => hwf t' (List.mem_cons_of_mem _ ht')) (fun e he => hsub e (List.mem_append_right _ he))
    intro b hb
    rcases pickNewer_some hb with ⟨h1, _⟩ | ⟨h1, _⟩
    · exact hbest b h1
    · exact ⟨hsubt b (newest_mem h1), newest_matches h1⟩

theorem l0Get_eq (tables : Level) (hwf : ∀ t ∈ tables, t.wfB c = true)
    (hu : UniqSeq (Level.entries tables)) (k : Bytes) (s : Nat) :
    l0Get c tables k s = newest c (Level.entries tables) k s := by
  rw [l0Get_eq_foldl, l0_foldl hl _ hu k s tables hwf (fun _ h => h) none (by simp)]
  rfl

def tlt (c : UCmp) (a b : Table) : Prop := c.lt a.imax.ukey b.imin.ukey

namespace Pick
def Sep (c : UCmp) (a b : List Entry) : Prop := ∀ x ∈ a, ∀ y ∈ b, c.lt x.ukey y.ukey
end Pick

/-- the bounds of a well-formed table are user keys of its entries and enclose them all -/
theorem tlt_iff_entries {a b : Table} (ha : a.wfB c = true) (hb : b.wfB c = true) :
    tlt c a b ↔ Pick.Sep c a.entries b.entries := by
  constructor
  · exact fun h x hx y hy => hl.ord.lt_of_lt_of_le
      (hl.ord.lt_of_le_of_lt (Table.wf_bounds hl ha x hx).2 h) (Table.wf_bounds hl hb y hy).1
  · intro h
    obtain ⟨⟨la, hla, hlk⟩, -⟩ := Table.wf_imax hl ha
    obtain ⟨f, hf, hfk⟩ := Table.wf_imin_mem hb
    unfold tlt
    rw [← hlk, ← hfk]
    exact h la hla f hf

theorem levelDisjoint_pairwise (l : Level) (hwf : ∀ t ∈ l, c.le t.imin.ukey t.imax.ukey) :
    levelDisjointB c l = true ↔ l.Pairwise (tlt c) := by
  induction l with
  | nil => simp [levelDisjointB]
  | cons a rest ih =>
    cases rest with
    | nil => simp [levelDisjointB]
    | cons b rest =>
      have ih' := ih (fun t ht => hwf t (List.mem_cons_of_mem _ ht))
      simp only [levelDisjointB, Bool.and_eq_true, decide_eq_true_eq, ih']
      refine (and_congr_left fun hbr => ⟨fun hab x hx => ?_, fun h => h b (by simp)⟩).trans
        List.pairwise_cons.symm
      rcases List.mem_cons.1 hx with rfl | hx
      · exact hab
      · exact hl.trans _ _ _ hab (hl.ord.lt_of_le_of_lt (hwf b (by simp)) ((List.pairwise_cons.1 hbr).1 x hx))

theorem Level.entries_sorted (l : Level) (hwf : ∀ t ∈ l, t.wfB c = true) (hd : levelDisjointB c l = true) :
    ESorted c (Level.entries l) := by
  have hp := (levelDisjoint_pairwise hl l (fun t ht => Table.wf_imin_le_imax hl (hwf t ht))).1 hd
  exact List.pairwise_flatMap.2 ⟨fun t ht => Table.wf_sorted hl (hwf t ht),
    hp.imp_of_mem fun {t t'} ht ht' h3 a ha b hb =>
      (ecmp_lt_iff hl a b).2 (.inl ((tlt_iff_entries hl (hwf t ht) (hwf t' ht')).1 h3 a ha b hb))⟩

omit hl in
theorem Level.entries_kinds (l : Level) (hwf : ∀ t ∈ l, t.wfB c = true) : KindsOK (Level.entries l) := by
  intro e he
  obtain ⟨t, ht, het⟩ := List.mem_flatMap.1 he
  exact Table.wf_kinds (hwf t ht) e het

/-- `searchMax` + the `imin` test + the table seek = one seek over the whole level -/
theorem levelGet_eq_probeList (l : Level) (hwf : ∀ t ∈ l, t.wfB c = true) (k : Bytes) (s : Nat) :
    levelGet c l k s = probeList c (Level.entries l) k s := by
  induction l with
  | nil => rfl
  | cons t ts ih =>
    have hwt := hwf t (by simp)
    rw [levelGet_cons, ih (fun t' ht' => hwf t' (List.mem_cons_of_mem _ ht')), Level.entries_cons,
      probeList_append, Table.seek_isSome hl hwt,
      tableProbe_guard hl (fun e he hk => (hl.ord.bne_lt_iff _ _).2 (hk ▸ (Table.wf_bounds hl hwt e he).1)),
      tableProbe_eq]

theorem levelGet_eq (l : Level) (hwf : ∀ t ∈ l, t.wfB c = true) (hd : levelDisjointB c l = true)
    (k : Bytes) (s : Nat) : levelGet c l k s = newest c (Level.entries l) k s := by
  rw [levelGet_eq_probeList hl l hwf,
    probeList_eq_newest hl _ (Level.entries_sorted hl l hwf hd) (Level.entries_kinds l hwf)]

omit hl in
theorem deeperGet_eq_findSome (ls : List Level) (k : Bytes) (s : Nat) :
    deeperGet c ls k s = hitOf (ls.findSome? (fun l => levelGet c l k s)) := by
  induction ls with
  | nil => rfl
  | cons l ls ih =>
    simp only [deeperGet, List.findSome?_cons]
    cases levelGet c l k s with
    | none => exact ih
    | some e => rfl

def Version.entries (v : Version) : List Entry := v.levels.flatMap Level.entries

omit hl in
theorem Version.wfB_parts {v : Version} (h : v.wfB c = true) :
    (∀ l ∈ v.levels, ∀ t ∈ l, t.wfB c = true) ∧ (∀ l ∈ v.levels.drop 1, levelDisjointB c l = true) ∧
    levelsOrderedB c v.levels = true := by
  simp only [Version.wfB, Bool.and_eq_true, List.all_eq_true] at h
  exact ⟨h.1.1, h.1.2, h.2⟩

theorem levelsOrdered_pairwise (ls : List Level) :
    levelsOrderedB c ls = true ↔ (ls.map Level.entries).Pairwise NewerThan := by
  induction ls with
  | nil => simp [levelsOrderedB]
  | cons l ls ih =>
    simp only [levelsOrderedB, Bool.and_eq_true, List.all_eq_true, ih, List.map_cons, List.pairwise_cons,
      List.mem_map, forall_exists_index, and_imp, forall_apply_eq_imp_iff₂, newerThanB_iff hl]

theorem findSome_levelGet_eq (ls : List Level) (hwf : ∀ l ∈ ls, ∀ t ∈ l, t.wfB c = true)
    (hd : ∀ l ∈ ls, levelDisjointB c l = true) (k : Bytes) (s : Nat) :
    ls.findSome? (fun l => levelGet c l k s) = (ls.map Level.entries).findSome? (fun S => newest c S k s) := by
  induction ls with
  | nil => rfl
  | cons l ls ih =>
    rw [List.map_cons, List.findSome?_cons, List.findSome?_cons,
      levelGet_eq hl l (hwf l (by simp)) (hd l (by simp)),
      ih (fun l' hl' => hwf l' (List.mem_cons_of_mem _ hl')) (fun l' hl' => hd l' (List.mem_cons_of_mem _ hl'))]

/-- `version.get` without auxiliary tables, as an `Option Entry` -/
theorem version_levels_eq (v : Version) (hwf : v.wfB c = true)
    (hu0 : UniqSeq (Level.entries (v.levels.headD []))) (k : Bytes) (s : Nat) :
    (match v.levels with
      | [] => none
      | l0 :: rest => (l0Get c l0 k s).or (rest.findSome? (fun l => levelGet c l k s)))
      = newest c v.entries k s := by
  obtain ⟨h1, h2, h3⟩ := Version.wfB_parts hwf
  have hp := (levelsOrdered_pairwise hl v.levels).1 h3
  have : v.entries = (v.levels.map Level.entries).flatten := List.flatMap_def ..
  rw [this, newest_flatten_of_newer hl _ hp]
  cases hv : v.levels with
  | nil => rfl
  | cons l0 rest =>
    rw [hv] at h1 h2 hu0
    simp only [List.drop_succ_cons, List.drop_zero] at h2
    simp only [List.headD_cons] at hu0
    show (l0Get c l0 k s).or _ = _
    rw [List.map_cons, List.findSome?_cons, l0Get_eq hl l0 (h1 l0 (by simp)) hu0,
      findSome_levelGet_eq hl rest (fun l hl' => h1 l (List.mem_cons_of_mem _ hl')) h2]
    cases newest c (Level.entries l0) k s <;> rfl

/-- **`version.get`** returns the newest entry among the auxiliary tables and the version -/
theorem versionGet_eq (aux : Level) (v : Version) (hauxwf : ∀ t ∈ aux, t.wfB c = true)
    (hauxu : UniqSeq (Level.entries aux)) (hwf : v.wfB c = true)
    (hu0 : UniqSeq (Level.entries (v.levels.headD [])))
    (hord : NewerThan (Level.entries aux) v.entries) (k : Bytes) (s : Nat) :
    versionGet c aux v k s = hitOf (newest c (Level.entries aux ++ v.entries) k s) := by
  rw [newest_append_of_newer hl _ _ hord, ← version_levels_eq hl v hwf hu0, ← l0Get_eq hl aux hauxwf hauxu,
    hitOf_or]
  unfold versionGet
  cases l0Get c aux k s with
  | some e => rfl
  | none =>
    cases v.levels with
    | nil => rfl
    | cons l0 rest =>
      simp only [hitOf_or, deeperGet_eq_findSome]
      rfl

end lookup

/-- everything `DB.get` searches, in search order -/
def dbEntries (auxm : Option (List Entry)) (aux : Level) (mem : List Entry) (frozen : Option (List Entry))
    (v : Version) : List Entry :=
  auxm.getD [] ++ (mem ++ (frozen.getD [] ++ (Level.entries aux ++ v.entries)))

/-- the "try this buffer, else go on" step of `DB.get` -/
def Hit.orElse (h next : Hit) : Hit :=
  match h with
  | .miss => next
  | h => h

def optMemGet (c : UCmp) (m : Option (List Entry)) (k : Bytes) (s : Nat) : Hit :=
  match m with
  | some es => memGet c es k s
  | none => .miss

theorem dbGet_eq_orElse (c : UCmp) (auxm : Option (List Entry)) (aux : Level) (mem : List Entry)
    (frozen : Option (List Entry)) (v : Version) (k : Bytes) (s : Nat) :
    dbGet c auxm aux mem frozen v k s =
      (optMemGet c auxm k s).orElse ((memGet c mem k s).orElse ((optMemGet c frozen k s).orElse
        (versionGet c aux v k s))) := by
  unfold dbGet
  cases auxm <;> cases frozen <;> rfl

theorem orElse_hitOf (o : Option Entry) (next : Hit) :
    (hitOf o).orElse next = match o with | some e => e.hit | none => next := by
  cases o with
  | none => rfl
  | some e =>
    simp only [hitOf]
    have := e.hit_ne_miss
    cases h : e.hit <;> simp_all [Hit.orElse]

theorem optMemGet_eq {c : UCmp} (hl : LawfulUCmp c) (m : Option (List Entry)) (hs : ESorted c (m.getD [])) (hk : KindsOK (m.getD []))
    (k : Bytes) (s : Nat) : optMemGet c m k s = hitOf (newest c (m.getD []) k s) := by
  cases m with
  | none => rfl
  | some es => exact memGet_eq hl es hs hk k s

end GoLevel

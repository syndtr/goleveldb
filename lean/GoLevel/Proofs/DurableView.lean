import GoLevel.Proofs.DurableInv
import GoLevel.Proofs.LSMOrder
/-!
From groups to entries: the entries of pairwise disjoint, well-formed groups carry unique internal keys, so a
reader's view depends only on the *set* of groups recovered.
-/
namespace GoLevel.Dur
open GoLevel

/-- a well-formed group: every record is a put or a delete -/
def Grp.wf (g : Grp) : Prop := ∀ r ∈ g.recs, r.kind ≤ Gen.keyTypeVal

theorem keyTypeVal_lt : Gen.keyTypeVal < 256 := by decide

theorem mem_entriesFrom {seq i : Nat} {rs : List Batch.Rec} {e : Entry} :
    e ∈ Batch.entriesFrom seq i rs ↔ ∃ k r, rs[k]? = some r ∧ e = Batch.entryOf seq (i + k) r := by
  induction rs generalizing i with
  | nil => simp [Batch.entriesFrom]
  | cons x xs ih =>
    simp only [Batch.entriesFrom, List.mem_cons, ih]
    constructor
    · rintro (rfl | ⟨k, r, hk, rfl⟩)
      · exact ⟨0, x, rfl, rfl⟩
      · exact ⟨k + 1, r, by simpa using hk, by rw [show i + 1 + k = i + (k + 1) by omega]⟩
    · rintro ⟨k, r, hk, rfl⟩
      cases k with
      | zero => simp at hk; subst hk; exact Or.inl rfl
      | succ k => exact Or.inr ⟨k, r, by simpa using hk, by rw [show i + 1 + k = i + (k + 1) by omega]⟩

theorem mem_ents {g : Grp} {e : Entry} :
    e ∈ g.ents ↔ ∃ k r, g.recs[k]? = some r ∧ e = Batch.entryOf g.seq k r := by
  unfold Grp.ents Batch.entries
  rw [mem_entriesFrom]
  simp

theorem entryOf_seq {seq i : Nat} {r : Batch.Rec} (h : r.kind ≤ Gen.keyTypeVal) :
    (Batch.entryOf seq i r).seq = seq + i ∧ (Batch.entryOf seq i r).key.num / 256 = seq + i := by
  have := keyTypeVal_lt
  simp only [Batch.entryOf, Entry.seq, IKey.seq, mkIKey]
  omega

theorem ents_seq_range {g : Grp} (hw : g.wf) {e : Entry} (he : e ∈ g.ents) :
    g.seq ≤ e.key.num / 256 ∧ e.key.num / 256 < g.fin ∧ e.seq = e.key.num / 256 := by
  obtain ⟨k, r, hk, rfl⟩ := mem_ents.1 he
  have hr : r ∈ g.recs := List.mem_of_getElem? hk
  obtain ⟨h1, h2⟩ := entryOf_seq (seq := g.seq) (i := k) (hw r hr)
  have hlt : k < g.recs.length := (List.getElem?_eq_some_iff.1 hk).1
  refine ⟨by omega, by unfold Grp.fin Grp.n; omega, by rw [h1, h2]⟩

theorem uniqNum_of_disj {gs : List Grp} (hw : ∀ g ∈ gs, g.wf) (hd : ∀ g ∈ gs, ∀ h ∈ gs, Disj g h) :
    UniqNum (gs.flatMap Grp.ents) := by
  intro a ha b hb _ hn
  obtain ⟨g, hg, hag⟩ := List.mem_flatMap.1 ha
  obtain ⟨h, hh, hbh⟩ := List.mem_flatMap.1 hb
  obtain ⟨a1, a2, _⟩ := ents_seq_range (hw g hg) hag
  obtain ⟨b1, b2, _⟩ := ents_seq_range (hw h hh) hbh
  have hgh : g = h := by
    rcases hd g hg h hh with e | e | e
    · exact e
    · rw [hn] at a2; omega
    · rw [hn] at a1; omega
  subst hgh
  obtain ⟨k, r, hk, rfl⟩ := mem_ents.1 hag
  obtain ⟨k', r', hk', rfl⟩ := mem_ents.1 hbh
  have hr : r ∈ g.recs := List.mem_of_getElem? hk
  have hr' : r' ∈ g.recs := List.mem_of_getElem? hk'
  have e1 := (entryOf_seq (seq := g.seq) (i := k) (hw g hg r hr)).2
  have e2 := (entryOf_seq (seq := g.seq) (i := k') (hw g hg r' hr')).2
  rw [hn] at e1
  have : k = k' := by omega
  subst this
  rw [hk] at hk'
  cases hk'
  rfl

theorem view_groups_congr {c : UCmp} (hl : LawfulUCmp c) {gs sel : List Grp} (hw : ∀ g ∈ gs, g.wf)
    (hd : ∀ g ∈ gs, ∀ h ∈ gs, Disj g h) (hm : ∀ g, g ∈ sel ↔ g ∈ gs) (k : Bytes) (s : Nat) :
    view c (gs.flatMap Grp.ents) k s = view c (sel.flatMap Grp.ents) k s := by
  apply view_congr hl (uniqNum_of_disj hw hd)
  intro e
  simp only [List.mem_flatMap]
  constructor
  · rintro ⟨g, hg, he⟩; exact ⟨g, (hm g).2 hg, he⟩
  · rintro ⟨g, hg, he⟩; exact ⟨g, (hm g).1 hg, he⟩

end GoLevel.Dur

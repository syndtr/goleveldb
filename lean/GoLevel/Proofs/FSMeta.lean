import GoLevel.Model.FSMeta
import GoLevel.Proofs.FSMetaAttr
/-!
# `setMeta` from a clean directory: the states it can end in (`Shape`)

A *clean* directory (`CleanP`): `CURRENT` holds a pointer to manifest `a` (canonical bytes or not), synced, its
directory entry durable; no pending files; `CURRENT.bak` absent or present with anything in it; the files of
manifests `a` and `b` exist durably; no directory operation is waiting for a `syncDir`.  The inode numbers (0 for
`CURRENT`, 1 for `CURRENT.bak`) are an artefact of the model.

`Shape` lists the five forms of the file system `setMeta b` can end in; `Proofs/FSMetaShape.lean` shows that there
are no others, `FSMetaLive.lean` and `FSMetaImage.lean` say what `GetMeta` answers on them and on their crash images.
-/
namespace GoLevel.FSMeta

/-- manifest number `n` -/
def m (n : Nat) : FD := ⟨.manifest, n⟩

@[simp] theorem m_inj {a b : Nat} : m a = m b ↔ a = b := by simp [m]
@[simp] theorem m_num (a : Nat) : (m a).num = a := rfl
@[simp] theorem m_ty (a : Nat) : (m a).ty = .manifest := rfl

structure CleanP where
  a : Nat
  b : Nat
  /-- `CURRENT` holds the bytes `fsGenName` would produce -/
  canonA : Bool
  /-- `CURRENT.bak`: anything, synced or not -/
  bak : Option Inode
  files : FD → Bool

structure CleanP.Ok (p : CleanP) : Prop where
  ne : p.a ≠ p.b
  fa : p.files (m p.a) = true
  fb : p.files (m p.b) = true

def CleanP.cur (p : CleanP) : Inode := ⟨.ptr (m p.a) p.canonA, .ptr (m p.a) p.canonA, false⟩

def CleanP.dir (p : CleanP) : Dir :=
  { ents := (.cur, 0) :: (p.bak.map fun _ => (Name.bak, 1)).toList, files := p.files }

def CleanP.fs (p : CleanP) : FS := { inodes := p.cur :: p.bak.toList, ddir := p.dir }

/-- the directory operation that creates `CURRENT.bak` when it did not exist -/
def CleanP.bakLink (p : CleanP) : List DirOp := if p.bak.isSome then [] else [.link .bak 1]

/-- the states a freshly truncated file that is being filled with `c` and synced can be in; `d` = its durable
    content before -/
def filling (d c : Content) : List Inode :=
  [⟨d, .empty, true⟩, ⟨d, c, true⟩, ⟨d, cutOf c, true⟩, ⟨c, c, false⟩, ⟨cutOf c, cutOf c, false⟩, ⟨.empty, .empty, false⟩]

/-- the written backup -/
def CleanP.bakDone (p : CleanP) : Inode := ⟨.ptr (m p.a) p.canonA, .ptr (m p.a) p.canonA, false⟩
def CleanP.newDone (p : CleanP) : Inode := ⟨.gen (m p.b), .gen (m p.b), false⟩

/-- where `setMeta b` from the clean directory `p` can end, dead or alive: `r` is its result, nil in the last form
    only (every call of a process that died returns an error) -/
inductive Shape (p : CleanP) : Except Err Unit → FS → Prop
  /-- nothing has happened -/
  | pre (r) (h : r ≠ .ok ()) : Shape p r p.fs
  /-- in or after the writing of `CURRENT.bak`, before `CURRENT.<b>` is created -/
  | bak (r) (h : r ≠ .ok ()) (x : Inode) : Shape p r ⟨[p.cur, x], p.dir, p.bakLink⟩
  /-- `CURRENT.<b>` created, being filled -/
  | new (r) (h : r ≠ .ok ()) (y : Inode) (hy : y ∈ filling .empty (.gen (m p.b))) :
      Shape p r ⟨[p.cur, p.bakDone, y], p.dir, p.bakLink ++ [.link (.pend p.b) 2]⟩
  /-- renamed, the directory not yet synced -/
  | ren (r) (h : r ≠ .ok ()) :
      Shape p r ⟨[p.cur, p.bakDone, p.newDone], p.dir,
        p.bakLink ++ [.link (.pend p.b) 2, .rename (.pend p.b) .cur 2]⟩
  /-- everything done and durable -/
  | fin (r) : Shape p r ⟨[p.cur, p.bakDone, p.newDone], { ents := [(.cur, 2), (.bak, 1)], files := p.files }, []⟩

@[fsm_eval] theorem parse_ptr (fd : FD) (c : Bool) : (Content.ptr fd c).parse = some fd := rfl
@[fsm_eval] theorem parse_junk (t : Nat) : (Content.junk t).parse = none := rfl
@[fsm_eval] theorem parse_empty : Content.empty.parse = none := rfl
@[fsm_eval] theorem parse_cut (c : Content) : (Content.cut c).parse = none := rfl

/- `simp [*, fsm_eval]` runs `setMeta` / `GetMeta` on an explicit file system.  `Content.parse` is left folded so that
   a content known only by `v.parse = none` can stand in for every unreadable one. -/
attribute [fsm_eval] ask after getMeta W.of readDir sys sysF FS.pending FS.vdir pendNums sortDesc insDesc tryCurrents
  tryCurrent readFile statFile FS.read Dir.get getL FS.ino Content.gen choose repair removeAll remove
  setMeta setMetaTail writeFileSynced stat openTrunc write fsync close rename syncDir rmFile firstErr FS.setIno FS.op
  Dir.apply Dir.set Dir.del delL cutOf CleanP.fs CleanP.cur CleanP.dir CleanP.bakLink CleanP.bakDone CleanP.newDone

/-- `GetMeta`'s answer does not depend on the read-only flag: the flag is consulted by `repair` alone, which
    changes the world and not the answer -/
theorem getMeta_fst_ro (cfg : Cfg) (ro : Bool) (w : W) : (getMeta cfg ro w).1 = (getMeta cfg true w).1 := by
  unfold getMeta
  repeat' split
  all_goals rfl

end GoLevel.FSMeta

import GoLevel.Proofs.DurableStepJobEdit
/-!
Steps of a job around the commit: `flushManifest` (`append` without rotation, `sync`) and `newManifest` (`append` with
rotation, `rotWrite`, `rotSync`, `rotSetMeta`, `rotRemove`).  Two frames: `Inv.newManifest_step` while `CURRENT` still names the
old manifest, `Inv.commit_step` for the commit itself.  What the job knows at `sync`, and what a `SetMeta` leaves on the storage
whatever it reports (`AtSync`, `SetMetaEffect`), is proved once and used by the step that succeeds and by the one that fails.
-/
namespace GoLevel.Dur

variable {cfg : Cfg} {s s' : St} {d d' : Disk} {j : Job} {e : MRec} {rot : Bool}

theorem stepJob_append_normal (hg : cfg.Good) {m : Nat}
    (hpc : j.pc = .append) (he : j.edit = some e) (hopen : s.manifestOpen = true) (hm : s.manifestFd = some m)
    (hmf : s.manifestFailed = false) :
    stepJob cfg s d j false .ok =
      some ({ s with job := some { j with pc := .sync } },
            { d with manifests := d.manifests.modify m (·.append { e with nf := s.nextFile }) }) := by
  simp [stepJob, hpc, he, hopen, hm, hmf, hg.esbjr, Disk.exec, Disk.apply, Outcome.failed]

theorem stepJob_append_rotate
    (hpc : j.pc = .append) (he : j.edit = some e)
    (hrot : rot = true ∨ s.manifestOpen = false ∨ s.manifestFailed = true) :
    stepJob cfg s d j rot .ok =
      some ({ s with job := some { j with pc := .rotWrite s.nextFile }, nextFile := s.nextFile + 1 },
            { d with manifests := d.manifests.set s.nextFile {} }) := by
  have : (rot = true ∨ ¬ s.manifestOpen = true ∨ s.manifestFailed = true) := by
    rcases hrot with h | h | h
    · exact Or.inl h
    · exact Or.inr (Or.inl (by rw [h]; simp))
    · exact Or.inr (Or.inr h)
  simp only [stepJob, hpc, he, if_pos this, Disk.exec, Disk.apply, Outcome.failed, Bool.false_eq_true, if_false]

theorem stepJob_rotWrite (hg : cfg.Good) {m : Nat}
    (hpc : j.pc = .rotWrite m) (he : j.edit = some e) :
    stepJob cfg s d j rot .ok =
      some ({ s with job := some { j with pc := .rotSync m } },
            { d with manifests := d.manifests.modify m (·.append (snapshotRec cfg s e)) }) := by
  simp [stepJob, hpc, he, hg.msbsm, Disk.exec, Disk.apply, Outcome.failed]

theorem stepJob_rotSync (hg : cfg.Good) {m : Nat}
    (hpc : j.pc = .rotSync m) :
    stepJob cfg s d j rot .ok =
      some ({ s with job := some { j with pc := .rotSetMeta m } },
            { d with manifests := d.manifests.modify m (·.sync) }) := by
  simp [stepJob, hpc, hg.msbsm, Disk.exec, Disk.apply, Outcome.failed]

theorem stepJob_rotSetMeta (hg : cfg.Good) {m : Nat}
    (hpc : j.pc = .rotSetMeta m) :
    stepJob cfg s d j rot .ok =
      some ({ s with job := some { j with pc := .rotRemove m }, limbo := none }, { d with current := some m }) := by
  simp [stepJob, hpc, hg.msbsm, Disk.exec, Disk.apply, Outcome.failed]

theorem stepJob_rotRemove {m : Nat}
    (hpc : j.pc = .rotRemove m) :
    stepJob cfg s d j rot .ok =
      some ({ s with manifestFd := some m, manifestOpen := true, manifestFailed := false, limbo := none,
                     job := some { j with pc := .install } },
            match s.manifestFd with
            | some old => { d with manifests := d.manifests.erase old }
            | none => d) := by
  cases h : s.manifestFd <;> simp [stepJob, hpc, h, Disk.exec, Disk.apply]

theorem stepJob_sync {m : Nat}
    (hpc : j.pc = .sync) (hm : s.manifestFd = some m) :
    stepJob cfg s d j rot .ok =
      some ({ s with job := some { j with pc := .install } },
            { d with manifests := d.manifests.modify m (·.sync) }) := by
  simp [stepJob, hpc, hm, Disk.exec, Disk.apply, Outcome.failed]

/-- the job after `install`: a recovery's last commit also collects what `checkAndCleanFiles` removes -/
def installJob (s : St) (d : Disk) (j : Job) (e : MRec) : Job :=
  if j.kind = .recovFinal then
    { j with pc := .rmJ (j.rmJournals ++ d.journals.nums.filter (· < s.jcur)),
             rmTables := d.tables.nums.filter fun t => !((applyEdit s.live e).contains t) }
  else { j with pc := .rmJ j.rmJournals }

theorem stepJob_install
    (hpc : j.pc = .install) (he : j.edit = some e) :
    stepJob cfg s d j rot .ok =
      some ({ s with live := applyEdit s.live e, stJn := e.jn.getD s.stJn, stSq := e.sq.getD s.stSq,
                     job := some (installJob s d j e) }, d) := by
  unfold installJob
  cases hk : j.kind <;> simp [stepJob, hpc, he, hk, install] <;> rfl

theorem stepJob_mkJournal {n : Nat}
    (hpc : j.pc = .mkJournal) (hn : j.mkJournal = some n) (he : j.edit.isSome = true) :
    stepJob cfg s d j rot .ok =
      some ({ s with jcur := n, job := some { j with pc := .append } },
            { d with journals := d.journals.set n {} }) := by
  simp [stepJob, hpc, hn, he, Disk.exec, Disk.apply, Outcome.failed]

theorem stepJob_rmJ_cons {n : Nat} {rest : List Nat}
    (hpc : j.pc = .rmJ (n :: rest)) :
    stepJob cfg s d j rot .ok =
      some ({ s with job := some { j with pc := .rmJ rest } }, { d with journals := d.journals.erase n }) := by
  simp [stepJob, hpc, Disk.exec, Disk.apply]

theorem stepJob_rmJ_nil (hpc : j.pc = .rmJ []) :
    stepJob cfg s d j rot .ok = some ({ s with job := some { j with pc := .rmT j.rmTables } }, d) := by
  simp [stepJob, hpc]

theorem stepJob_rmT_cons {n : Nat} {rest : List Nat}
    (hpc : j.pc = .rmT (n :: rest)) :
    stepJob cfg s d j rot .ok =
      some ({ s with job := some { j with pc := .rmT rest } }, { d with tables := d.tables.erase n }) := by
  simp [stepJob, hpc, Disk.exec, Disk.apply]

theorem stepJob_rmT_nil (hpc : j.pc = .rmT []) :
    stepJob cfg s d j rot .ok =
      some ({ s with job := some { j with pc :=
        if j.kind = .recovFinal then JPc.rmM (d.manifests.nums.filter fun m => m < s.manifestFd.getD 0)
        else JPc.done } }, d) := by
  cases hk : j.kind <;> simp [stepJob, hpc, hk]

theorem stepJob_rmM_cons {n : Nat} {rest : List Nat}
    (hpc : j.pc = .rmM (n :: rest)) :
    stepJob cfg s d j rot .ok =
      some ({ s with job := some { j with pc := .rmM rest } }, { d with manifests := d.manifests.erase n }) := by
  simp [stepJob, hpc, Disk.exec, Disk.apply]

theorem stepJob_rmM_nil (hpc : j.pc = .rmM []) :
    stepJob cfg s d j rot .ok = some ({ s with job := some { j with pc := .done } }, d) := by
  simp [stepJob, hpc]

theorem stepJob_done (hpc : j.pc = .done) :
    stepJob cfg s d j rot .ok = some (finishJob s j, d) := by
  simp [stepJob, hpc]

theorem Inv.mfd (h : Inv cfg s d) (hj : s.job = some j) : MfdOK s d :=
  (h.job_phase hj).elim (·.mfd.1) fun ⟨_, _, hr⟩ => hr.mfd

theorem Inv.limbo_none_of_post (h : Inv cfg s d) (hj : s.job = some j)
    (he : j.edit = some e) (hbc : j.pc.beforeCommit = false) : s.limbo = none := by
  by_cases hp : s.phase = .running
  · cases hu : s.limbo with
    | none => rfl
    | some u =>
      have := ((h.run hp).limbo.get hu).job
      rw [hj] at this
      rcases (this : j.edit = none ∨ j.pc.beforeCommit = true) with h1 | h1
      · rw [he] at h1; cases h1
      · rw [hbc] at h1; cases h1
  · exact h.limbo_none_of_not_running hp

theorem LimboOK.of_none (h : s.limbo = none) : LimboOK s d := by
  unfold LimboOK; rw [h]; trivial

theorem MfdOK.fd (h : MfdOK s d) (hj : s.job = some j) (hpc : ∀ m, j.pc ≠ .rotRemove m)
    (hl : s.limbo = none) : s.manifestFd = d.current := by
  unfold MfdOK at h
  rw [hj] at h
  simp only [Option.map_some] at h
  split at h
  · rename_i m hm; exact absurd (Option.some.inj hm) (hpc m)
  · rcases h with h | h
    · exact h
    · rw [hl] at h; exact absurd h.1 (by simp)

theorem MfdOK.of_fd (hj : s.job = some j) (hpc : ∀ m, j.pc ≠ .rotRemove m)
    (h : s.manifestFd = d.current) : MfdOK s d := by
  unfold MfdOK
  rw [hj]
  simp only [Option.map_some]
  split
  · rename_i m hm; exact absurd (Option.some.inj hm) (hpc m)
  · exact Or.inl h

theorem Inv.cur_lt (h : Inv cfg s d) (hj : s.job = some j) :
    Holds d.current (· < s.nextFile) :=
  (h.job_phase hj).elim (·.nums.2) fun ⟨_, _, hr⟩ => hr.nums.2.1

theorem added_grps_eq {outs : List (Nat × List Grp)}
    (h : ∀ o ∈ outs, lookup d.tables o.1 = some ⟨o.2, true, false⟩) :
    (outs.map (·.1)).flatMap (tableGrpsOf d) = outs.flatMap (·.2) := by
  induction outs with
  | nil => rfl
  | cons o os ih =>
    simp only [List.map_cons, List.flatMap_cons]
    rw [ih (fun o' ho' => h o' (List.mem_cons_of_mem _ ho'))]
    congr 1
    unfold tableGrpsOf
    rw [h o List.mem_cons_self]
    rfl

/-- the inputs of a table compaction, said of the edit alone: the form `JobManifest .sync` keeps them in for the retry after a
    failing `Sync` (every other edit carries a sequence number) … -/
theorem InputsOK.stored (hin : InputsOK s d j e) (hbc : j.pc.beforeCommit = true) (hadd : e.added = j.outs.map (·.1))
    (hod : ∀ o ∈ j.outs, lookup d.tables o.1 = some ⟨o.2, true, false⟩) :
    e.jn = none → e.sq = none → (∀ t ∈ e.deleted, t ∈ s.live) ∧
      e.added.flatMap (tableGrpsOf d) = e.deleted.flatMap (tableGrpsOf d) := by
  intro _ hsq
  unfold InputsOK at hin
  split at hin
  · obtain ⟨f1, f2⟩ := hin.2.2.2.2 hbc
    exact ⟨f1, by rw [← f2, hadd]; exact added_grps_eq hod⟩
  · rw [hsq] at hin
    exact absurd hin.2.2 (by simp)

/-- … and back, for the job at `append` again -/
theorem InputsOK.of_stored (hin : InputsOK s d j e) (hadd : e.added = j.outs.map (·.1))
    (hod : ∀ o ∈ j.outs, lookup d.tables o.1 = some ⟨o.2, true, false⟩)
    (hst : e.jn = none → e.sq = none → (∀ t ∈ e.deleted, t ∈ s.live) ∧
      e.added.flatMap (tableGrpsOf d) = e.deleted.flatMap (tableGrpsOf d)) :
    InputsOK s d { j with pc := .append } e := by
  unfold InputsOK at hin ⊢
  split
  · rename_i hkc
    rw [if_pos (hkc : j.kind = .compaction)] at hin
    obtain ⟨a, b, c, dlt, _⟩ := hin
    obtain ⟨f1, f2⟩ := hst a b
    exact ⟨a, b, c, dlt, fun _ => ⟨f1, by show outsGrps j = _; rw [← f2, hadd, added_grps_eq hod]; rfl⟩⟩
  · rename_i hkc
    rw [if_neg (hkc : ¬ j.kind = .compaction)] at hin
    exact hin

theorem St.limbo_none_eq (s : St) (hl : s.limbo = none) : ({ s with limbo := none } : St) = s := by
  cases s; cases hl; rfl

theorem Mirror.edit {v : MView} (h : Mirror s v) (e : MRec) (nf : Nat) :
    MirrorE s e ⟨applyEdit v.live e, e.jn.getD v.jn, e.sq.getD v.sq, nf⟩ :=
  ⟨congrArg (applyEdit · e) h.1, congrArg (e.jn.getD ·) h.2.1, congrArg (e.sq.getD ·) h.2.2⟩

/-- the argument `RunOK.job_step` wants about the frozen buffer, for a step that ends behind the commit: a
    flush job has committed (nothing to show), a compaction does not touch the journal and sequence numbers, a
    transaction has no frozen buffer beside it -/
theorem RunOK.hnc_post {j j' : Job} (hrun : RunOK cfg s d) (hok : JobOK cfg s d j)
    (hj : s.job = some j) (hr : s.phase = .running) (hk' : j'.kind = j.kind) (hpost : j'.pc.uninstalled = false)
    {a' b' : Nat} (hv : j.kind = .compaction → a' = s.stJn ∧ b' = s.stSq) :
    s.frozen ≠ none → (j'.kind = .flush → j'.pc.uninstalled = true) → FlushPending s ∧ a' = s.stJn ∧ b' = s.stSq := by
  intro hfz hfp
  rcases hok.kind_running hr with hk | hk | hk
  · have := hfp (hk'.trans hk)
    rw [hpost] at this; cases this
  · refine ⟨?_, hv hk⟩
    unfold FlushPending
    rw [hj]
    intro hf
    rw [hk] at hf; cases hf
  · -- an open transaction: nothing is frozen
    exfalso
    obtain ⟨g, _, ht⟩ := hok.kind.tr hk
    exact hfz (hrun.tr_open ht.tr).2.2.1

/-- A step of the commit itself — from `append`, `sync`, `rotSetMeta`, `rotRemove`, `install` on to `sync`, `rotRemove`,
    `install`, the first removal: the edit is in the manifest `CURRENT` names (or gets there).  Journals and tables stay,
    the session may adopt a manifest (`m'`, `o'`) or install the edit (`l'`, `a'`, `b'`), no ghost edit is left.  What
    varies: the manifest clauses of the storage (`hdisk`, `hmm`, `hb`, `hv0`), the last view — unchanged, or (coming from
    before the commit) the session's view with the edit —, the manifest clause of the new pc and its removals. -/
theorem Inv.commit_step (h : Inv cfg s d) (hj : s.job = some j) (he : j.edit = some e) (j' : Job)
    (hj' : j'.kind = j.kind ∧ j'.outs = j.outs ∧ j'.mkJournal = j.mkJournal ∧ j'.edit = j.edit ∧
      j'.rmJournals = j.rmJournals)
    (hone : j'.rmTables = [] ∨ j'.kind = .recovFinal ∨ j'.kind = .compaction)
    (hrmT : j.kind = .compaction ∨ j.kind = .tr → j'.rmTables = j.rmTables)
    (hbc' : j'.pc.beforeCommit = false) (l' : List Nat) (a' b' : Nat)
    (hun : j'.pc.uninstalled = true → j.pc.uninstalled = true ∧ a' = s.stJn ∧ b' = s.stSq)
    (hv : j.kind = .compaction → a' = s.stJn ∧ b' = s.stSq)
    (m' : Option Nat) (o' : Bool) (ho' : s.manifestOpen = true → o' = true) (lb : Option MRec) (hlb : lb = none)
    (hjr : d'.journals = d.journals) (htb : d'.tables = d.tables)
    (hdisk : DiskOK cfg d' (must s) (issuedGrps s)) (hmm : ManifestMono cfg d')
    (hb : ViewBounds cfg { s.upd j' s.nextFile l' a' b' m' o' with limbo := lb } d')
    (hmfd : MfdOK { s.upd j' s.nextFile l' a' b' m' o' with limbo := lb } d')
    (hcur : Holds d'.current (· < s.nextFile))
    (hv0 : Holds (curManifest d') fun mf' => Holds (viewAt cfg mf' 0) fun v0' =>
      Holds (curManifest d) fun mf => Holds (viewAt cfg mf 0) fun v0 => v0.jn ≤ v0'.jn)
    (hlast : j.pc.beforeCommit = false ∧ lastView cfg d' = lastView cfg d ∨
      j.pc.retry = true ∧ Holds (lastView cfg d') (MirrorE s e))
    (hman : JobManifest cfg { s.upd j' s.nextFile l' a' b' m' o' with limbo := lb } d' e j'.pc)
    (hrm : ∀ v, lastView cfg d' = some v → RemovalsOK { s.upd j' s.nextFile l' a' b' m' o' with limbo := lb } d' j' v) :
    Inv cfg { s.upd j' s.nextFile l' a' b' m' o' with limbo := lb } d' := by
  have hok := h.jobOK hj
  subst hlb
  have hph := h.not_crashed hj
  have hnbc : j'.pc.beforeCommit = true → False := fun hx => by rw [hbc'] at hx; cases hx
  have hlate : j.pc ≠ .mkJournal ∧ j.pc.tablesDone = true :=
    hlast.elim (fun k => JPc.late_of_not_bc k.1) fun k => JPc.late_of_retry k.1
  have hshape := hok.shape_at he
  -- the outputs are live in the new last view
  have hlv : Holds (lastView cfg d') fun v' =>
      ∀ o ∈ j.outs, o.1 ∈ v'.live ∧ lookup d.tables o.1 = some ⟨o.2, true, false⟩ := by
    rcases hlast with ⟨hb0, hl⟩ | ⟨hb1, hl⟩
    · rw [hl]; exact hok.committed hb0
    · refine hl.imp (fun v hv o ho => ⟨?_, hok.outs_on_disk (JPc.bc_of_retry hb1) hlate.2 o ho⟩)
      rw [hv.1]
      refine mem_applyEdit.2 (Or.inr ?_)
      rw [hshape.1]
      exact List.mem_map.2 ⟨o, ho, rfl⟩
  refine ⟨hdisk, hmm, fun _ => hb, fun hr => ?_, fun hr => ?_, fun hc => absurd hc hph, ?_⟩
  · have hr : s.phase = .running := hr
    have hrun := h.run hr
    refine hrun.job_step j' s.nextFile l' a' b' m' o' none (Nat.le_refl _) hjr ⟨hmfd, ho' hrun.mfd.2⟩ hcur
      ?_ hv0 (LimboOK.of_none rfl)
    cases hpu : j'.pc.uninstalled with
    | false =>
      exact hrun.hnc_post hok hj hr hj'.1 hpu hv
    | true =>
      exact fun _ _ => ⟨by unfold FlushPending; rw [hj]; exact fun _ => (hun hpu).1, (hun hpu).2⟩
  · have hr : s.phase = .recovering := hr
    obtain ⟨r, hrs, hrr⟩ := h.recOK hr
    refine holds_of_some (o := s.recov) hrs ?_
    have hl : s.limbo = none := h.limbo_none_of_not_running (by rw [hr]; decide)
    have es := St.limbo_none_eq (s.upd j' s.nextFile l' a' b' m' o') hl
    rw [es] at hmfd ⊢
    refine hrr.job_step j' s.nextFile l' a' b' m' o' (Nat.le_refl _) hjr hmfd hcur
      (fun hx => (hnbc hx).elim) ?_
    rcases hlast with ⟨_, hl'⟩ | ⟨hb1, hl'⟩
    · rw [hl']
      obtain ⟨_, _, v, _, hlv0, _⟩ := h.disk.last
      exact holds_of_some hlv0 (holds_of_some hlv0 ⟨Nat.le_refl _, (holds_some hrr.rel hlv0).2⟩)
    · have hb1 := JPc.bc_of_retry hb1
      refine hl'.imp fun v' hv' => (h.mirror_nolimbo hj hb1 hl).imp fun v hv => ?_
      obtain ⟨_, _, hcv⟩ := h.commit_view' hj he hb1 hlate.2
      rw [hv'.2.1, hv.2.1]
      exact ⟨hcv.jn, h.todo_ge_edit hj he hrs hr _⟩
  · show JobOK cfg _ d' j'
    exact hok.late_next hlate j' hj' (JPc.late_of_not_bc hbc') s.nextFile l' a' b' m' o' none
      (fun hx => (hnbc hx).elim) (Nat.le_refl _) hjr hone (JobManifestOK.of_some (hj'.2.2.2.1.trans he) hman)
      (by obtain ⟨v, hv, _⟩ := holds_iff.1 hlv; exact holds_of_some hv (hrm v hv))
      (fun hn => by rw [he] at hn; cases hn) hrmT (fun _ => by rw [htb]; exact hlv)

theorem JobOK.edit_some (h : JobOK cfg s d j) (hp : j.pc.post = false) :
    ∃ e, j.edit = some e := by
  cases he : j.edit with
  | some e => exact ⟨e, rfl⟩
  | none => have := h.noedit he; rw [hp] at this; cases this

theorem inv_job_append_normal (hg : cfg.Good) (h : Inv cfg s d)
    (hj : s.job = some j) (hpc : j.pc = .append) (hopen : s.manifestOpen = true) (hmfl : s.manifestFailed = false)
    (hs : stepJob cfg s d j false .ok = some (s', d')) : Inv cfg s' d' := by
  have hok := h.jobOK hj
  have hnr : ∀ m, j.pc ≠ .rotRemove m := by rw [hpc]; intro m hm; cases hm
  have hl : s.limbo = none := h.limbo_none (fun _ => hmfl)
  have hfd := (h.mfd hj).fd hj hnr hl
  obtain ⟨e, he⟩ := hok.edit_some (by rw [hpc]; rfl)
  have hbc : j.pc.beforeCommit = true := by rw [hpc]; rfl
  have htd : j.pc.tablesDone = true := by rw [hpc]; rfl
  obtain ⟨mf, v0, hcv⟩ := h.commit_view' hj he hbc htd
  have hparts := hcv.parts
  obtain ⟨v, hvl, _, _⟩ := hparts.views mf.unsynced.length (Nat.le_refl _)
  have hlv : lastView cfg d = some v := by rw [lastView_eq hparts.cur]; exact hvl
  -- without a ghost edit the last view is the session's: `hcv` speaks of it
  have hmir : Mirror s v := by
    have := h.mirror_nolimbo hj hbc hl
    rw [hlv] at this
    exact this
  have ⟨m1, m2, m3⟩ := hmir
  have hsh := hok.shape_at he
  have hcur := hparts.cur
  -- the manifest the session holds is the one `CURRENT` names
  obtain ⟨m, hc, _⟩ := curManifest_some hcur
  rw [stepJob_append_normal hg hpc he hopen (hfd.trans hc) hmfl] at hs
  simp only [Option.some.injEq, Prod.mk.injEq] at hs
  obtain ⟨rfl, rfl⟩ := hs
  -- the view the appended record produces
  have hstep : ((replayM cfg mf.all).step cfg { e with nf := s.nextFile }).view? =
      some ⟨applyEdit v.live e, e.jn.getD v.jn, e.sq.getD v.sq, s.nextFile⟩ := by
    have hvl' := hvl
    rw [viewAt_all] at hvl'
    exact view_step hvl' _ hsh.2.1
  have hdisk : DiskOK cfg { d with manifests := d.manifests.modify m (·.append { e with nf := s.nextFile }) } (must s)
      (issuedGrps s) := by
    exact h.disk.manifest_append hparts hc _ ⟨_, hstep, by rw [m1, m2, m3]; exact hcv.view, by rw [m2]; exact hcv.jn0⟩
  have hb := h.bounds (h.not_crashed hj)
  have hmm : ManifestMono cfg { d with manifests := d.manifests.modify m (·.append { e with nf := s.nextFile }) } := by
    apply h.mm.append hc
    intro mf1 hc1
    rw [hcur] at hc1; cases hc1
    rw [hvl, hstep]
    simp only [Holds]
    have hcl := h.cur_lt hj
    rw [hc] at hcl
    exact ⟨hcl, by rw [m3]; exact hcv.sq, (hb.all mf hcur _ (Nat.le_refl _) v hvl).2.1⟩
  have hun : mf.unsynced = [] := by
    obtain ⟨mf', _, hc', hu', _⟩ := (hok.mirror_before hbc).get
    rw [hcur] at hc'; cases hc'
    exact hu' hopen hl
  let e' : MRec := { e with nf := s.nextFile }
  let j' : Job := { j with pc := .sync }
  have hlv' : lastView cfg { d with manifests := d.manifests.modify m (·.append e') } =
      some ⟨applyEdit v.live e, e.jn.getD v.jn, e.sq.getD v.sq, s.nextFile⟩ := by
    unfold lastView
    rw [curManifest_modify hc, hcur]
    simp only [Option.map_some, Option.bind_some]
    rw [LogFile.append_unsynced_length, viewAt_append_last]
    exact hstep
  refine h.commit_step hj he j' ⟨rfl, rfl, rfl, rfl, rfl⟩ hok.one.2 (fun _ => rfl) rfl s.live s.stJn s.stSq
    (fun _ => ⟨by rw [hpc]; rfl, rfl, rfl⟩) (fun _ => ⟨rfl, rfl⟩) s.manifestFd s.manifestOpen id s.limbo hl
    rfl rfl (hdisk := hdisk) (hmm := hmm) (hb := ?_)
    (hmfd := MfdOK.of_fd (j := j') rfl (by intro x hx; cases hx) hfd) (hcur := h.cur_lt hj) (hv0 := ?_)
    (hlast := Or.inr ⟨by rw [hpc]; rfl, by rw [hlv']; exact hmir.edit e _⟩)
    (hman := ?_) (hrm := fun _ _ => RemovalsOK_of_not_post (j := j') rfl)
  · apply ViewBounds.append (s' := { s with job := some j' }) hb hc e'
      ⟨h.seqHi_step hj rfl rfl rfl rfl (fun hb' => nomatch hb'), rfl, rfl, rfl⟩
    intro mf1 hc1
    rw [hcur] at hc1; cases hc1
    rw [hstep, seqHi_post (s := { s with job := some j' }) (j := j') rfl rfl]
    rw [m2, m3]
    exact ⟨hcv.sqLe, Nat.le_refl _, hcv.jcur⟩
  · rw [curManifest_modify hc, hcur]
    simp only [Option.map_some, Holds]
    rw [viewAt_append_le cfg mf e' (Nat.zero_le _), hparts.hv0]
    simp only [Nat.le_refl]
  · simp only [JobManifest]
    refine ⟨hopen, ?_, ?_, ?_⟩
    · rw [curManifest_modify hc, hcur]
      simp only [Option.map_some, Holds]
      refine ⟨by
        simp only [LogFile.append, hun, List.nil_append, List.head?_cons]
        exact ⟨trivial, Nat.le_refl _⟩, ?_⟩
      rw [viewAt_append_le cfg mf e' (Nat.zero_le _)]
      have : viewAt cfg mf 0 = some v := by
        have := hvl; rw [hun] at this; exact this
      rw [this]
      refine ⟨hmir, fun a ha => ?_⟩
      rw [hsh.1] at ha
      obtain ⟨o, ho, rfl⟩ := List.mem_map.1 ha
      exact hok.outs_above hbc (.inr hl) mf hcur _ (Nat.le_refl _) v hvl o ho
    · show s.stSq ≤ e.sq.getD s.stSq
      exact hcv.sq
    · exact InputsOK.stored (hok.inputs_at he) hbc hsh.1 (hok.outs_on_disk hbc htd)

/-- the manifest at `sync`: the record of the edit `e` is its unsynced tail -/
structure AtSync (cfg : Cfg) (s : St) (d : Disk) (e : MRec) (m : Nat) (mf : LogFile MRec) (v0 v : MView) (nf : Nat) :
    Prop where
  parts : DiskOK.Parts cfg d (must s) (issuedGrps s) mf v0
  current : d.current = some m
  fd : s.manifestFd = some m
  limbo : s.limbo = none
  isOpen : s.manifestOpen = true
  lastView : lastView cfg d = some v
  viewLast : viewAt cfg mf mf.unsynced.length = some v
  unsynced : mf.unsynced = [{ e with nf := nf }]
  mirror : Mirror s v0
  fresh : ∀ a ∈ e.added, v0.nf ≤ a
  view_eq : v = ⟨applyEdit v0.live e, e.jn.getD v0.jn, e.sq.getD v0.sq, nf⟩
  jn0 : v0.jn ≤ v.jn
  sq : s.stSq ≤ e.sq.getD s.stSq
  inputs : e.jn = none → e.sq = none → (∀ t ∈ e.deleted, t ∈ s.live) ∧
    e.added.flatMap (tableGrpsOf d) = e.deleted.flatMap (tableGrpsOf d)

/-- at `sync` the record of the edit is the unsynced tail of the manifest `CURRENT` names: its synced part gives the view
    the session mirrors, the whole file that view after the edit -/
theorem Inv.at_sync (h : Inv cfg s d) (hj : s.job = some j) (hpc : j.pc = .sync) (he : j.edit = some e) :
    ∃ m mf v0 v nf, AtSync cfg s d e m mf v0 v nf := by
  have hok := h.jobOK hj
  have hnr : ∀ m, j.pc ≠ .rotRemove m := by rw [hpc]; intro m hm; cases hm
  have hl : s.limbo = none := h.limbo_none_of_post hj he (by rw [hpc]; rfl)
  have hfd := (h.mfd hj).fd hj hnr hl
  obtain ⟨mf, v0, v, hparts, hlv, hvl, hvok, hmono⟩ := h.disk.last
  have hcur := hparts.cur
  obtain ⟨m, hc, _⟩ := curManifest_some hcur
  have hman := hok.manifest_at he
  simp only [hpc, JobManifest] at hman
  obtain ⟨hopen, hman, hsqle, hinp⟩ := hman
  obtain ⟨hun, hmir0⟩ := holds_some hman hcur
  rw [hparts.hv0] at hmir0
  obtain ⟨hmir0, hfr0⟩ : Mirror s v0 ∧ ∀ a ∈ e.added, v0.nf ≤ a := hmir0
  obtain ⟨r0, _, hun, _⟩ := holds_iff.1 hun
  have htorn := (hok.shape_at he).2.1
  refine ⟨m, mf, v0, v, r0.nf, hparts, hc, by rw [hfd, hc], hl, hopen, hlv, hvl, hun, hmir0, hfr0, ?_, hmono, hsqle,
    hinp⟩
  have h0 := hparts.hv0
  unfold viewAt at h0 hvl
  simp only [List.take_zero, List.append_nil] at h0
  rw [hun] at hvl
  simp only [List.length_singleton, List.take_succ_cons, List.take_zero] at hvl
  rw [replayM_snoc, view_step h0 { e with nf := r0.nf } htorn] at hvl
  exact (Option.some.inj hvl).symm

theorem inv_job_sync (h : Inv cfg s d)
    (hj : s.job = some j) (hpc : j.pc = .sync)
    (hs : stepJob cfg s d j rot .ok = some (s', d')) : Inv cfg s' d' := by
  have hok := h.jobOK hj
  obtain ⟨e, he⟩ := hok.edit_some (by rw [hpc]; rfl)
  obtain ⟨m, mf, v0, v, nf0, hsy⟩ := h.at_sync hj hpc he
  have hcur := hsy.parts.cur
  rw [stepJob_sync hpc hsy.fd] at hs
  simp only [Option.some.injEq, Prod.mk.injEq] at hs
  obtain ⟨rfl, rfl⟩ := hs
  let j' : Job := { j with pc := .install }
  -- the synced manifest has one admissible view, the last one of the old file
  have hcs : curManifest { d with manifests := d.manifests.modify m (·.sync) } = some mf.sync := by
    rw [curManifest_modify hsy.current, hcur]; rfl
  have hlv' : lastView cfg { d with manifests := d.manifests.modify m (·.sync) } = some v := by
    rw [lastView_eq hcs]
    show viewAt cfg mf.sync 0 = _
    rw [viewAt_sync]
    exact hsy.viewLast
  refine h.commit_step hj he j' ⟨rfl, rfl, rfl, rfl, rfl⟩ hok.one.2
    (fun _ => rfl) rfl s.live s.stJn s.stSq (fun hx => by cases hx) (fun _ => ⟨rfl, rfl⟩)
    s.manifestFd s.manifestOpen id s.limbo hsy.limbo rfl rfl
    (hdisk := h.disk.manifest_sync hsy.current) (hmm := h.mm.sync hsy.current ⟨_, _, h.disk⟩)
    (hb := ViewBounds.sync (s' := { s with job := some j' }) (h.bounds (h.not_crashed hj)) hsy.current
      ⟨h.seqHi_step hj rfl rfl rfl rfl (fun hb' => nomatch hb'), rfl, rfl, rfl⟩)
    (hmfd := MfdOK.of_fd (j := j') rfl (by intro x hx; cases hx)
      (by show s.manifestFd = d.current; rw [hsy.fd, hsy.current]))
    (hcur := h.cur_lt hj) (hv0 := ?_) (hlast := Or.inl ⟨by rw [hpc]; rfl, hlv'.trans hsy.lastView.symm⟩) (hman := ?_)
    (hrm := fun _ _ => RemovalsOK_of_not_post (j := j') rfl)
  · rw [hcs]
    simp only [Holds]
    rw [viewAt_sync, hsy.viewLast]
    simp only [hcur, hsy.parts.hv0]
    exact hsy.jn0
  · simp only [JobManifest]
    refine ⟨hsy.isOpen, .intro hcs (fun _ _ => rfl) hlv' ?_⟩
    rw [hsy.view_eq]
    exact hsy.mirror.edit e _

theorem snapshot_view' (cfg : Cfg) (hg : cfg.Good) (s : St) (e : MRec) (x : Nat) :
    viewAt cfg ⟨[{ snapshotRec cfg s e with nf := x }], []⟩ 0 =
      some ⟨applyEdit s.live e, e.jn.getD s.stJn, e.sq.getD s.stSq, x⟩ := by
  simp [viewAt, replayM, MAcc.step, snapshotRec, hg.carry, MAcc.view?, applyEdit]

theorem snapshot_view (cfg : Cfg) (hg : cfg.Good) (s : St) (e : MRec) :
    viewAt cfg ⟨[snapshotRec cfg s e], []⟩ 0 =
      some ⟨applyEdit s.live e, e.jn.getD s.stJn, e.sq.getD s.stSq, s.nextFile⟩ :=
  snapshot_view' cfg hg s e s.nextFile

theorem LimboOK.job_pc (h : LimboOK s d) (hj : s.job = some j) (j' : Job) (nf' : Nat)
    (he : j'.edit = j.edit) (ho : j'.outs = j.outs) (hret : j.pc.retry = true → j'.pc.retry = true)
    (hbc : j'.edit = none ∨ j'.pc.beforeCommit = true) (et : d'.tables = d.tables) (hnf : s.nextFile ≤ nf') :
    LimboOK { s with job := some j', nextFile := nf' } d' :=
  h.mono rfl rfl rfl rfl rfl (fun t _ => tableGrpsOf_congr et t) (fun _ => hbc) fun u k =>
    k.imp (fun k => by rw [hj] at k; exact ⟨by rw [he]; exact k.1, hret k.2⟩)
      fun k => k.mono hnf (Nat.le_refl _) (fun _ hg => Or.inl hg) (fun _ _ _ _ => by rw [et])
        (fun t _ m7 => by rw [hj] at m7; show ∀ o ∈ j'.outs, t < o.1; rw [ho]; exact m7)

theorem upd_eq (s : St) (j' : Job) (nf' : Nat) :
    ({ s with job := some j', nextFile := nf' } : St) =
      s.upd j' nf' s.live s.stJn s.stSq s.manifestFd s.manifestOpen := rfl

theorem JobOK.settled_early (h : JobOK cfg s d j)
    (he : j.edit = some e) (hpc : j.pc.early = true) : Settled cfg s d (MirrorL s) := by
  have := h.manifest_at he
  rwa [JobManifest_early hpc] at this

/-- a step inside `newManifest` before `SetMeta` takes effect (and the way back to `append` when it fails): only manifests
    other than the one `CURRENT` names change, the pc stays among those of the retry of a commit.  What varies is the
    manifest clause of the new pc. -/
theorem Inv.newManifest_step (h : Inv cfg s d) (hj : s.job = some j) (he : j.edit = some e)
    (hret : j.pc.retry = true) (ms : Files (LogFile MRec))
    (hms : ∀ m, d.current = some m → lookup ms m = lookup d.manifests m)
    (hnd : ms.Pairwise (fun p q => p.1 ≠ q.1)) (pc' : JPc) (hret' : pc'.retry = true) (nf' : Nat)
    (hnf : s.nextFile ≤ nf')
    (hman : JobManifest cfg (s.upd { j with pc := pc' } nf' s.live s.stJn s.stSq s.manifestFd s.manifestOpen)
      { d with manifests := ms } e pc') :
    Inv cfg { s with job := some { j with pc := pc' }, nextFile := nf' } { d with manifests := ms } := by
  have hok := h.jobOK hj
  have hbc := JPc.bc_of_retry hret
  have hbc' := JPc.bc_of_retry hret'
  let j' : Job := { j with pc := pc' }
  have hcm : curManifest { d with manifests := ms } = curManifest d := curManifest_other hms
  have hph := h.not_crashed hj
  have hpf := phase_frame (d' := { d with manifests := ms }) h hj pc' nf' hnf rfl rfl hcm
    (by intro m hm; rw [hm] at hret'; cases hret') (by intro m hm; rw [hm] at hret; cases hret) (fun _ => hbc)
    (fun _ hb => by rw [JPc.uninstalled_of_bc hbc] at hb; cases hb)
    (fun hp => (h.run hp).limbo.job_pc hj j' _ rfl rfl (fun _ => hret') (Or.inr hbc') rfl hnf)
  refine ⟨h.disk.frame (d' := { d with manifests := ms }) hcm rfl (.of_forall fun _ _ _ => rfl) h.disk.tnodup hnd
      (fun _ hx => hx) (fun _ hx => hx), h.mm.of_same hcm rfl,
    fun _ => (h.bounds hph).of_same hcm (h.seqHi_step hj rfl rfl rfl rfl (fun _ => hbc)) hnf
      (fun hr => ⟨hr, Nat.le_refl _⟩), hpf.1, hpf.2, fun hc => absurd hc hph, ?_⟩
  show JobOK cfg _ _ j'
  rw [upd_eq]
  apply JobOK.late_next (d' := { d with manifests := ms }) hok (JPc.late_of_retry hret) j' ⟨rfl, rfl, rfl, rfl, rfl⟩
    (JPc.late_of_retry hret') nf' s.live s.stJn s.stSq s.manifestFd s.manifestOpen s.limbo
    (fun _ => ⟨hbc, rfl, rfl, rfl, hcm⟩) hnf rfl hok.one.2
  · refine JobManifestOK.of_some he ?_
    show JobManifest cfg _ _ e pc'
    exact hman
  · rw [lastView_congr hcm]
    exact hok.removals.imp (fun v _ => RemovalsOK_of_not_post (j := j') (JPc.not_post_of_bc hbc'))
  · intro hn; rw [he] at hn; cases hn
  · exact fun _ => rfl
  · intro hb'
    have : pc'.beforeCommit = false := hb'
    rw [hbc'] at this; cases this

theorem inv_job_append_rotate (h : Inv cfg s d)
    (hj : s.job = some j) (hpc : j.pc = .append)
    (hrot : rot = true ∨ s.manifestOpen = false ∨ s.manifestFailed = true)
    (hs : stepJob cfg s d j rot .ok = some (s', d')) : Inv cfg s' d' := by
  have hok := h.jobOK hj
  obtain ⟨e, he⟩ := hok.edit_some (by rw [hpc]; rfl)
  rw [stepJob_append_rotate hpc he hrot] at hs
  simp only [Option.some.injEq, Prod.mk.injEq] at hs
  obtain ⟨rfl, rfl⟩ := hs
  have hcl := h.cur_lt hj
  have hne : ∀ m, d.current = some m → m ≠ s.nextFile := by
    intro m hm; rw [hm] at hcl; exact Nat.ne_of_lt hcl
  have hms : ∀ m, d.current = some m → lookup (d.manifests.set s.nextFile {}) m = lookup d.manifests m := by
    intro m hm; rw [lookup_set, if_neg (hne m hm)]
  refine h.newManifest_step hj he (by rw [hpc]; rfl) _ hms (nodup_set h.disk.mnodup _ _) (.rotWrite s.nextFile) rfl
    (s.nextFile + 1) (Nat.le_succ _) ?_
  simp only [JobManifest]
  refine ⟨(hok.settled_early he (by rw [hpc]; rfl)).congr (curManifest_other hms), ⟨fun hc => hne _ hc.symm rfl, hcl⟩,
    Nat.lt_succ_self _, ?_⟩
  show lookup (d.manifests.set s.nextFile {}) s.nextFile = _
  rw [lookup_set, if_pos rfl]

theorem inv_job_rotWrite (hg : cfg.Good) (h : Inv cfg s d)
    (hj : s.job = some j) {m : Nat} (hpc : j.pc = .rotWrite m)
    (hs : stepJob cfg s d j rot .ok = some (s', d')) : Inv cfg s' d' := by
  have hok := h.jobOK hj
  obtain ⟨e, he⟩ := hok.edit_some (by rw [hpc]; rfl)
  rw [stepJob_rotWrite hg hpc he] at hs
  simp only [Option.some.injEq, Prod.mk.injEq] at hs
  obtain ⟨rfl, rfl⟩ := hs
  have hman := hok.manifest_at he
  simp only [hpc, JobManifest] at hman
  obtain ⟨hsett, ⟨hmc, hcm'⟩, hmlt, hlk⟩ := hman
  -- the numbers the snapshot record fixes: every table of the new view and its journal lie below `nextFile`
  have hnums : (∀ t ∈ applyEdit s.live e, t < s.nextFile) ∧ e.jn.getD s.stJn < s.nextFile := by
    obtain ⟨mf, v0, hcv⟩ := h.commit_view' hj he (by rw [hpc]; rfl) (by rw [hpc]; rfl)
    exact ⟨fun t ht => (hcv.view.tables t ht).1, hcv.view.jnf⟩
  have hms : ∀ c, d.current = some c →
      lookup (d.manifests.modify m (·.append (snapshotRec cfg s e))) c = lookup d.manifests c := by
    intro c hc
    rw [lookup_modify, if_neg (fun ec => hmc (by rw [hc, ec]))]
  refine h.newManifest_step hj he (by rw [hpc]; rfl) _ hms (pairwise_keys_modify (R := (· ≠ ·)) _ _ h.disk.mnodup)
    (.rotSync m) rfl s.nextFile (Nat.le_refl _) ?_
  simp only [JobManifest]
  refine ⟨hsett.congr (curManifest_other hms), ⟨hmc, hcm'⟩, hmlt, ?_⟩
  show Holds (lookup (d.manifests.modify m _) m) _
  rw [lookup_modify, if_pos rfl, hlk]
  simp only [Option.map_some, Holds, LogFile.append, List.nil_append, List.head?_cons]
  exact ⟨rfl, hmlt, Nat.le_refl _, hnums⟩

theorem inv_job_rotSync (hg : cfg.Good) (h : Inv cfg s d)
    (hj : s.job = some j) {m : Nat} (hpc : j.pc = .rotSync m)
    (hs : stepJob cfg s d j rot .ok = some (s', d')) : Inv cfg s' d' := by
  have hok := h.jobOK hj
  obtain ⟨e, he⟩ := hok.edit_some (by rw [hpc]; rfl)
  rw [stepJob_rotSync hg hpc] at hs
  simp only [Option.some.injEq, Prod.mk.injEq] at hs
  obtain ⟨rfl, rfl⟩ := hs
  have hman := hok.manifest_at he
  simp only [hpc, JobManifest] at hman
  obtain ⟨hsett, ⟨hmc, hcm'⟩, hmlt, hlk⟩ := hman
  obtain ⟨mf1, hlk, hr1⟩ := holds_iff.1 hlk
  obtain ⟨r1, hr1h, hmf1, hr1a, hr1b, hr1c⟩ := holds_iff.1 hr1
  have hms : ∀ c, d.current = some c → lookup (d.manifests.modify m (·.sync)) c = lookup d.manifests c := by
    intro c hc
    rw [lookup_modify, if_neg (fun ec => hmc (by rw [hc, ec]))]
  refine h.newManifest_step hj he (by rw [hpc]; rfl) _ hms (pairwise_keys_modify (R := (· ≠ ·)) _ _ h.disk.mnodup)
    (.rotSetMeta m) rfl s.nextFile (Nat.le_refl _) ?_
  simp only [JobManifest]
  refine ⟨hsett.congr (curManifest_other hms), ⟨hmc, hcm'⟩, hmlt, ?_⟩
  show Holds (lookup (d.manifests.modify m _) m) _
  rw [lookup_modify, if_pos rfl, hlk]
  subst hmf1
  simp only [Option.map_some, Holds, LogFile.sync, LogFile.all, List.nil_append, List.head?_cons]
  exact ⟨rfl, hr1a, hr1b, hr1c⟩

/-- the storage once `CURRENT` names the new manifest `m`, which holds the snapshot record (with next-file number `x`) of the
    session's view after the edit `e` -/
structure SetMetaEffect (cfg : Cfg) (s : St) (d : Disk) (j : Job) (e : MRec) (m x : Nat) (mf : LogFile MRec) (v0 : MView) :
    Prop where
  cv : CommitView cfg s d j e mf v0
  lt : m < s.nextFile
  fdLt : Holds s.manifestFd (· < m)
  nfLe : x ≤ s.nextFile
  cur' : curManifest { d with current := some m } = some ⟨[{ snapshotRec cfg s e with nf := x }], []⟩
  view : viewAt cfg ⟨[{ snapshotRec cfg s e with nf := x }], []⟩ 0 =
    some ⟨applyEdit s.live e, e.jn.getD s.stJn, e.sq.getD s.stSq, x⟩
  disk : DiskOK cfg { d with current := some m } (must s) (issuedGrps s)
  mono : ManifestMono cfg { d with current := some m }

/-- `SetMeta` has made the new manifest `m` current — whatever it then reports.  The manifest holds the snapshot record of
    the session's view after the edit: the storage clauses of the invariant, and what is known of that view. -/
theorem Inv.setMeta_effect (hg : cfg.Good) (h : Inv cfg s d) (hj : s.job = some j) {m : Nat}
    (hpc : j.pc = .rotSetMeta m) (he : j.edit = some e) : ∃ x mf v0, SetMetaEffect cfg s d j e m x mf v0 := by
  have hok := h.jobOK hj
  have hman := hok.manifest_at he
  simp only [hpc, JobManifest] at hman
  obtain ⟨hsett, ⟨hmc, hcm'⟩, hmlt, hlk⟩ := hman
  obtain ⟨mf1, hlk, hr1⟩ := holds_iff.1 hlk
  obtain ⟨r1, _, hmf1, hr1a, hr1b, hr1c, hr1d⟩ := holds_iff.1 hr1
  subst hmf1
  generalize hx : r1.nf = x at *
  have hbc : j.pc.beforeCommit = true := by rw [hpc]; rfl
  obtain ⟨mf, v0, hcv⟩ := h.commit_view' hj he hbc (by rw [hpc]; rfl)
  -- the snapshot's view is the session's view after the edit
  have hsv := snapshot_view' cfg hg s e x
  have hcur1 : curManifest { d with current := some m } = some ⟨[{ snapshotRec cfg s e with nf := x }], []⟩ := by
    show (some m).bind (lookup d.manifests) = _
    simp [hlk]
  -- the session's descriptor is the old manifest, or one older still
  have hfd : Holds s.manifestFd (· < m) := by
    obtain ⟨c, hc, _⟩ := curManifest_some hcv.parts.cur
    have hcm : c < m := holds_some (P := (· < m)) hcm' hc
    have hm := h.mfd hj
    unfold MfdOK at hm
    rw [hj] at hm
    simp only [Option.map_some, hpc] at hm
    rcases hm with k | ⟨_, k⟩
    · rw [k, hc]; exact hcm
    · exact k.imp fun o ho => Nat.lt_trans (holds_some (P := (o < ·)) ho hc) hcm
  refine ⟨x, mf, v0, hcv, hmlt, hfd, hr1b, hcur1, hsv, ?_, ?_⟩
  · exact h.disk.set_meta hcv.parts hlk rfl hsv (hcv.view.with_nf hr1c hr1d) hcv.jn0
  · exact ManifestMono.single (d := { d with current := some m }) (m := m) hcur1 rfl rfl hsv hr1a

theorem inv_job_rotSetMeta (hg : cfg.Good) (h : Inv cfg s d)
    (hj : s.job = some j) {m : Nat} (hpc : j.pc = .rotSetMeta m)
    (hs : stepJob cfg s d j rot .ok = some (s', d')) : Inv cfg s' d' := by
  have hok := h.jobOK hj
  obtain ⟨e, he⟩ := hok.edit_some (by rw [hpc]; rfl)
  rw [stepJob_rotSetMeta hg hpc] at hs
  simp only [Option.some.injEq, Prod.mk.injEq] at hs
  obtain ⟨rfl, rfl⟩ := hs
  obtain ⟨x, mf, v0, hse⟩ := h.setMeta_effect hg hj hpc he
  have hcur := hse.cv.parts.cur
  let j' : Job := { j with pc := .rotRemove m }
  let d1 : Disk := { d with current := some m }
  -- the new manifest has one admissible view: the session's with the edit
  have hlv1 : lastView cfg d1 = some ⟨applyEdit s.live e, e.jn.getD s.stJn, e.sq.getD s.stSq, x⟩ := by
    unfold lastView
    rw [hse.cur']
    simp only [Option.bind_some, List.length_nil]
    exact hse.view
  refine h.commit_step (d' := d1) hj he j' ⟨rfl, rfl, rfl, rfl, rfl⟩
    hok.one.2 (fun _ => rfl) rfl s.live s.stJn s.stSq (fun hx => by cases hx) (fun _ => ⟨rfl, rfl⟩)
    s.manifestFd s.manifestOpen id none rfl rfl rfl (hdisk := hse.disk) (hmm := hse.mono)
    (hb := ViewBounds.single hse.cur' rfl hse.view ⟨Nat.le_trans hse.cv.sqLe (Nat.le_of_eq
      (seqHi_post (s := { s with job := some j', limbo := none }) (j := j') rfl rfl).symm), hse.nfLe, hse.cv.jcur⟩)
    (hmfd := by unfold MfdOK; simp only [St.upd, Option.map_some]; rfl) (hcur := hse.lt) (hv0 := ?_)
    (hlast := Or.inr ⟨by rw [hpc]; rfl, by rw [hlv1]; exact ⟨rfl, rfl, rfl⟩⟩) (hman := ?_)
    (hrm := fun _ _ => RemovalsOK_of_not_post (j := j') rfl)
  · rw [hse.cur']
    simp only [Holds, hse.view, hcur, hse.cv.parts.hv0]
    exact hse.cv.jn0
  · simp only [JobManifest]
    refine ⟨rfl, ?_, ?_⟩
    · exact fun hfd => Nat.lt_irrefl m (holds_some (P := (· < m)) hse.fdLt hfd)
    · rw [hse.cur']
      simp only [Holds, true_and]
      rw [hlv1]
      exact ⟨rfl, rfl, rfl⟩

theorem inv_rotRemove_core (h : Inv cfg s d)
    (hj : s.job = some j) {m : Nat} (hpc : j.pc = .rotRemove m) (ms : Files (LogFile MRec))
    (hms : ∀ c, d.current = some c → lookup ms c = lookup d.manifests c)
    (hnd : ms.Pairwise (fun p q => p.1 ≠ q.1)) :
    Inv cfg { s with manifestFd := some m, manifestOpen := true, manifestFailed := false, limbo := none,
                     job := some { j with pc := .install } } { d with manifests := ms } := by
  have hok := h.jobOK hj
  obtain ⟨e, he⟩ := hok.edit_some (by rw [hpc]; rfl)
  have hl : s.limbo = none := h.limbo_none_of_post hj he (by rw [hpc]; rfl)
  have hman := hok.manifest_at he
  simp only [hpc, JobManifest] at hman
  obtain ⟨hc, hfdne, hman⟩ := hman
  have hcm : curManifest { d with manifests := ms } = curManifest d := curManifest_other hms
  have hlv : lastView cfg { d with manifests := ms } = lastView cfg d := lastView_congr hcm
  obtain ⟨mf, v0, hparts⟩ := h.disk.parts
  refine (h.commit_step (d' := { d with manifests := ms }) hj he { j with pc := .install }
    ⟨rfl, rfl, rfl, rfl, rfl⟩ hok.one.2 (fun _ => rfl) rfl s.live s.stJn s.stSq (fun hx => by cases hx)
    (fun _ => ⟨rfl, rfl⟩) (some m) true (fun _ => rfl) none rfl rfl rfl
    (hdisk := h.disk.frame (d' := { d with manifests := ms }) hcm rfl (.of_forall fun _ _ _ => rfl) h.disk.tnodup hnd
      (fun _ hx => hx) (fun _ hx => hx))
    (hmm := h.mm.of_same hcm rfl)
    (hb := (h.bounds (h.not_crashed hj)).of_same hcm (h.seqHi_step hj rfl rfl rfl rfl (fun hb' => nomatch hb') hl.symm)
      (Nat.le_refl _) (fun hr => ⟨hr, Nat.le_refl _⟩))
    (hmfd := by unfold MfdOK; simp only [St.upd, Option.map_some]; exact Or.inl hc.symm)
    (hcur := h.cur_lt hj) (hv0 := ?_) (hlast := Or.inl ⟨by rw [hpc]; rfl, hlv⟩) (hman := ?_)
    (hrm := fun _ _ => RemovalsOK_of_not_post (j := { j with pc := .install }) rfl)).set_manifestFailed false
  · rw [hcm]
    exact holds_of_some hparts.cur (holds_of_some hparts.hv0 (holds_of_some hparts.cur
      (holds_of_some hparts.hv0 (Nat.le_refl _))))
  · simp only [JobManifest]
    refine ⟨rfl, ?_⟩
    unfold Settled
    rw [hcm, hlv]
    exact hman.imp (fun mf1 hmf1 => ⟨fun _ _ => hmf1.1, hmf1.2⟩)

theorem inv_job_rotRemove (h : Inv cfg s d)
    (hj : s.job = some j) {m : Nat} (hpc : j.pc = .rotRemove m)
    (hs : stepJob cfg s d j rot .ok = some (s', d')) : Inv cfg s' d' := by
  have hok := h.jobOK hj
  obtain ⟨e, he⟩ := hok.edit_some (by rw [hpc]; rfl)
  have hman := hok.manifest_at he
  simp only [hpc, JobManifest] at hman
  obtain ⟨hc, hfdne, _⟩ := hman
  rw [stepJob_rotRemove hpc] at hs
  simp only [Option.some.injEq, Prod.mk.injEq] at hs
  obtain ⟨rfl, rfl⟩ := hs
  cases hf : s.manifestFd with
  | none => exact inv_rotRemove_core h hj hpc d.manifests (fun _ _ => rfl) h.disk.mnodup
  | some old =>
    refine inv_rotRemove_core h hj hpc (d.manifests.erase old) ?_ (pairwise_erase _ h.disk.mnodup)
    intro c hcc
    rw [hc] at hcc; cases hcc
    rw [lookup_erase, if_neg (fun ec => hfdne (by rw [hf, ec]))]

theorem Inv.rmJournals_lt (h : Inv cfg s d) (hj : s.job = some j)
    (he : j.edit = some e) (x0 : Nat) : ∀ n ∈ j.rmJournals, n < e.jn.getD x0 := by
  have hkind := (h.jobOK hj).kind
  intro n hn
  cases hk : j.kind
  · obtain ⟨fz, jf, hfl⟩ := hkind.flush hk
    obtain ⟨f1, _⟩ := (h.run hfl.phase).frozen.get hfl.frozen hfl.jfrozen
    rw [hfl.rmJournals] at hn
    simp only [List.mem_singleton] at hn
    subst hn
    rw [(hfl.edit_at he).2.1]; exact f1
  · obtain ⟨r, o, x, e', hm⟩ := hkind.recovMid hk
    have hx := hm.todo
    have he' := hm.edit
    rw [he] at he'; cases he'
    obtain ⟨r', hr', hrec⟩ := h.recOK hm.phase
    rw [hm.recov] at hr'; cases hr'
    rw [hm.rmJournals] at hn
    simp only [List.mem_singleton] at hn
    subst hn
    rw [hm.jn]
    exact hrec.ofdLt n hm.ofd x (List.mem_of_mem_head? hx)
  · obtain ⟨_, x, e', hf⟩ := hkind.recovFinal hk
    have he' := hf.edit
    rw [he] at he'; cases he'
    rw [hf.jn]; exact hf.rmLt n hn
  · rw [hkind.rmJournals_nil (Or.inl hk)] at hn; cases hn
  · rw [hkind.rmJournals_nil (Or.inr hk)] at hn; cases hn

end GoLevel.Dur

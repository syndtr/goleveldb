import GoLevel.Proofs.RecoverOpsLoop
import GoLevel.Proofs.DurableStepR3
/-!
The journal loop by induction over the journal files, phase 3 as a whole, and the main theorem of the `RecoverOps*`
modules, used by `Props/C19.lean`: `recover_reach_atomic`.
-/
namespace GoLevel.Dur
open GoLevel GoLevel.Conc

/-- the journal loop from any iteration — `hand`: the replayed journal whose memdb is in hand, none before the first
    journal — to the end of `openDB` -/
theorem loop_reach {cfg : RCfg} {r0 : RDisk} (m : Nat) (Jrem : Files (LogFile Grp)) {seq nf : Nat}
    (hand : Option (Nat × LogFile Grp)) {P : List Grp} {r r' : RDisk}
    (hJ : JInv cfg r0 nf P (hand.toList ++ Jrem) r)
    (hs : (hand.toList ++ Jrem).Pairwise (fun p q => p.1 < q.1))
    (hp : ∀ p ∈ hand.toList ++ Jrem, p.2.unsynced = [] ∧ lookup r0.disk.journals p.1 = some p.2 ∧ p.1 < nf)
    (hsplit : (scanIn cfg r0).journals.flatMap (·.2) = P ++ (hand.toList ++ Jrem).flatMap (·.2.all))
    (hasc : AscFrom seq (Jrem.flatMap (·.2.all)))
    (hr0 : ∀ n ∈ r0.disk.tables.nums, n < nf)
    (hr : Reach
      ((journalLoop m r0.disk ⟨seq, nf, hand.map (·.1), (hand.map (·.2.all)).getD []⟩ (Jrem.map (·.1))).1 ++
        (tailOps m (journalLoop m r0.disk ⟨seq, nf, hand.map (·.1), (hand.map (·.2.all)).getD []⟩
            (Jrem.map (·.1))).2 ++
          janitorOps m r0 (tablePhase cfg r0).2)) r r')
    (ch : RCrash) : Atomic cfg r0 (rcrash ch r') := by
  induction Jrem generalizing seq nf hand P r with
  | nil =>
    simp only [List.map_nil, journalLoop, List.nil_append, List.append_nil] at hr hJ hsplit hp
    exact tail_reach hand hJ (fun q hq => ⟨(hp q hq).1, (hp q hq).2.2⟩) hr0 hsplit hr ch
  | cons q Jrem ih =>
    obtain ⟨j, fj⟩ := q
    have hlj : lookup r0.disk.journals j = some fj := (hp (j, fj) (by simp)).2.1
    simp only [List.flatMap_cons] at hasc
    obtain ⟨rp1, rp2⟩ := replayJ_prefix fj.all (Jrem.flatMap (·.2.all)) hasc
    simp only [List.map_cons, journalLoop, journalRecs_one hlj, rp1, List.append_assoc] at hr
    cases hand with
    | none =>
      exact ih (some (j, fj)) hJ hs hp hsplit rp2 hr0 hr
    | some q =>
      obtain ⟨o, fo⟩ := q
      simp only [Option.toList, List.cons_append, List.nil_append, List.flatMap_cons, Option.map_some,
        Option.getD_some, midOps, List.append_assoc] at hJ hs hp hsplit hr
      have hm : JMid cfg r0 P fo.all (fj.all ++ Jrem.flatMap (·.2.all)) ((o, fo) :: (j, fj) :: Jrem) :=
        ⟨hs, fun p h => (hp p h).1, by rw [hsplit, List.append_assoc], by simp⟩
      refine flush_cont hJ hr0 hm ch hr fun rf hf hr => mid_cont hf hm ch rfl rfl hr fun r4 h4 hr => ?_
      have hnf : nf ≤ nfAfterFlush nf fo.all := by unfold nfAfterFlush; split <;> omega
      refine ih (some (j, fj)) h4 (List.pairwise_cons.1 hs).2 (fun p hp' => ?_) ?_ rp2
        (fun n hn => Nat.lt_of_lt_of_le (hr0 n hn) hnf) hr
      · obtain ⟨a, b, c⟩ := hp p (List.mem_cons_of_mem _ hp')
        exact ⟨a, b, Nat.lt_of_lt_of_le c hnf⟩
      · rw [hsplit]; simp

/-- the number `newManifest` allocates lies above every file number on the storage -/
theorem lt_manifestNum_of_mem {r : RDisk} {n : Nat} (h : n ∈ allNums r) : n < manifestNum r := by
  unfold manifestNum
  rw [List.isEmpty_eq_false_iff.2 (List.ne_nil_of_mem h)]
  have := maxNum_ge _ _ h
  simp only [Bool.false_eq_true, if_false]
  omega

theorem lt_manifestNum {r : RDisk} {n : Nat} (h : n ∈ r.disk.tables.nums) : n < manifestNum r :=
  lt_manifestNum_of_mem (List.mem_append_left _ (List.mem_append_left _ (List.mem_append_left _ h)))

/-- **phase 3**: every crash image of every prefix of `openDB`'s operations -/
theorem open_reach {cfg : RCfg} {r0 r2 r' : RDisk} (hd : r0.durable)
    (hjs : r0.disk.journals.Pairwise (fun p q => p.1 < q.1))
    (hasc : AscFrom (maxSeqOf ((scanIn cfg r0).tables.flatMap (·.2))) ((scanIn cfg r0).journals.flatMap (·.2)))
    (hdm : ∀ n ∈ r0.dmg, n ∈ r0.disk.tables.nums)
    (hT : TSame cfg r0 r2)
    (hr : Reach (openOps r0 (manifestNum r0) (tablePhase cfg r0).2) r2 r') (ch : RCrash) :
    Atomic cfg r0 (rcrash ch r') := by
  have hnf : manifestNum r0 + 1 ≤ openNf (manifestNum r0) r0.disk := by unfold openNf; simp only; omega
  have hr0 : ∀ n ∈ r0.disk.tables.nums, n < openNf (manifestNum r0) r0.disk :=
    fun n hn => by have := lt_manifestNum hn; omega
  have hJ0 : JInv cfg r0 (openNf (manifestNum r0) r0.disk) [] r0.disk.journals r2 := by
    refine ⟨hT.journals, hT.tsynced, fun p hp => ?_, fun n hn => hr0 n (hdm n (hT.dmgsub n hn)), fun e => ?_,
      fun n _ => hT.slot n⟩
    · have : p.1 ∈ r0.disk.tables.nums := by rw [← hT.nums]; exact List.mem_map.2 ⟨p, hp, rfl⟩
      exact hr0 _ this
    · simp only [hT.slot, List.flatMap_nil, List.not_mem_nil, or_false]
      exact mem_scan_tables.symm
  have hnums := journalNums_sorted hjs
  rw [scan_journals_sorted cfg hjs, ← (tablePhase_acc cfg r0).2] at hasc
  unfold openOps at hr
  simp only [hnums, List.append_assoc] at hr
  refine loop_reach (manifestNum r0) r0.disk.journals none (P := []) hJ0 hjs (fun p hp => ?_)
    (scan_journals_sorted cfg hjs) hasc hr0 hr ch
  refine ⟨hd.2.1 p hp, lookup_of_mem (sorted_nodup hjs) (by cases p; exact hp), ?_⟩
  have := lt_manifestNum_of_mem (r := r0) (List.mem_append_left _ (List.mem_append_left _
    (List.mem_append_right _ (List.mem_map.2 ⟨p, hp, rfl⟩))))
  omega

theorem TSame.atomic {cfg : RCfg} {r0 r : RDisk} (h : TSame cfg r0 r) : Atomic cfg r0 r := by
  refine ⟨[], [], (scanIn cfg r0).journals.flatMap (·.2), ?_⟩
  rw [h.scanIn_eq]
  exact ⟨by simp, fun e => by simp, by simp⟩

/-- **every crash image of every prefix of `Recover`'s operations** offers a second `Recover` an input that is
    `MidIn` relative to the first one's -/
theorem recover_reach_atomic {cfg : RCfg} {r0 : RDisk} (hd : r0.durable)
    (hjs : r0.disk.journals.Pairwise (fun p q => p.1 < q.1))
    (hasc : AscFrom (maxSeqOf ((scanIn cfg r0).tables.flatMap (·.2))) ((scanIn cfg r0).journals.flatMap (·.2)))
    (hdm : ∀ n ∈ r0.dmg, n ∈ r0.disk.tables.nums) (k : Nat) (ch : RCrash) :
    Atomic cfg r0 (crashAt cfg r0 k ch) := by
  unfold crashAt
  have hr : Reach (recoverOps cfg r0) r0 (r0.applyAll ((recoverOps cfg r0).take k)) := ⟨k, rfl⟩
  unfold recoverOps at hr
  simp only at hr
  rcases reach_append_iff.1 hr with h1 | h2
  · exact ((recoverTable_reach_tsame hd h1).crash hd ch).atomic
  · exact open_reach hd hjs hasc hdm (recoverTable_reach_tsame hd (reach_all _ r0)) h2 ch

theorem crashAt_recoverTable {cfg : RCfg} {r0 : RDisk} {k : Nat} (hk : k ≤ (recoverTableOps cfg r0).length)
    (ch : RCrash) : ∃ r', Reach (recoverTableOps cfg r0) r0 r' ∧ crashAt cfg r0 k ch = rcrash ch r' := by
  refine ⟨r0.applyAll ((recoverTableOps cfg r0).take k), ⟨k, rfl⟩, ?_⟩
  unfold crashAt recoverOps
  simp only
  rw [List.take_append_of_le_length hk]

/-- with the tables and journals listed in number order, no damage marks consulted and `StrictRecovery` off,
    `scanIn` is the `rebuildInOf` of `Model/Durable.lean` -/
theorem scanIn_eq_rebuildInOf {cfg : RCfg} (hs : cfg.strict = false) {r : RDisk}
    (ht : r.disk.tables.Pairwise (fun p q => p.1 < q.1)) (hj : r.disk.journals.Pairwise (fun p q => p.1 < q.1)) :
    scanIn cfg r = rebuildInOf r.disk := by
  unfold scanIn rebuildInOf tableNums journalNums Files.nums
  rw [sortNums_sorted (by rw [List.pairwise_map]; exact ht), sortNums_sorted (by rw [List.pairwise_map]; exact hj)]
  simp only [List.map_map]
  congr 1
  · apply List.map_congr_left
    intro p hp
    have hl : lookup r.disk.tables p.1 = some p.2 := lookup_of_mem (sorted_nodup ht) (by cases p; exact hp)
    simp only [Function.comp, slotEnts, hl, hs, Bool.false_and, Bool.false_eq_true, if_false, scanGood]
    cases p.2.bad <;> simp
  · apply List.map_congr_left
    intro p hp
    have hl : lookup r.disk.journals p.1 = some p.2 := lookup_of_mem (sorted_nodup hj) (by cases p; exact hp)
    simp [Function.comp, hl]

end GoLevel.Dur

import GoLevel.Proofs.JournalEncode
/-! The writer machine refines `encode`. -/
namespace GoLevel.Journal

open Sizes

/-- everything in the buffer is final: the stream so far is `out ++ buf[written:]` -/
structure Final (w : Writer) (done : List Bytes) : Prop where
  bad : w.bad = false
  wj : w.written ≤ w.j
  jb : w.j ≤ blockSize
  enc : ∀ rest, encodeFrom 0 (done ++ rest) = w.out ++ w.buf.drop w.written ++ encodeFrom w.j rest

/-- a chunk with payload `c` is pending at offset `i`; `p` is the payload of the record so far -/
structure Pend (w : Writer) (done : List Bytes) (p : Bytes) : Prop where
  bad : w.bad = false
  ex : ∃ B hdr c, w.buf = B ++ hdr ++ c ∧ B.length = w.i ∧ hdr.length = headerSize ∧ w.written ≤ w.i ∧
        w.i + headerSize + c.length ≤ blockSize ∧ (w.first = false → w.i = 0) ∧
        ∀ q rest, encodeFrom 0 (done ++ (p ++ q) :: rest) =
          w.out ++ B.drop w.written ++ (chunksAt w.i w.first (c ++ q)).1 ++
            encodeFrom (chunksAt w.i w.first (c ++ q)).2 rest

theorem fillHeader_decomp (w : Writer) (last : Bool) (B hdr c : Bytes) (hbuf : w.buf = B ++ hdr ++ c)
    (hB : B.length = w.i) (hh : hdr.length = headerSize) (hfit : w.i + headerSize + c.length ≤ blockSize) :
    w.fillHeader last = { w with buf := B ++ chunkHeader (chunkType w.first last) c ++ c } := by
  have hj : w.j = w.i + headerSize + c.length := by simp [Writer.j, hbuf, hB, hh]; omega
  unfold Writer.fillHeader
  rw [if_neg (by omega)]
  have e1 : w.buf.take w.i = B := by rw [hbuf, List.append_assoc, List.take_left' hB]
  have e2 : w.buf.drop (w.i + headerSize) = c := by
    rw [hbuf]; apply List.drop_left'; simp [hB, hh]
  simp only [e1, e2]

theorem fillHeader_flags (w : Writer) (l : Bool) :
    (w.fillHeader l).cur = w.cur ∧ (w.fillHeader l).closed = w.closed ∧ (w.fillHeader l).out = w.out := by
  unfold Writer.fillHeader; split <;> simp

theorem Pend.fillHeader_true {w : Writer} {done p} (h : Pend w done p) : Final (w.fillHeader true) (done ++ [p]) := by
  obtain ⟨hbad, B, hdr, c, hbuf, hB, hh, hw, hfit, h0, henc⟩ := h
  rw [fillHeader_decomp w true B hdr c hbuf hB hh hfit]
  refine ⟨hbad, ?_, ?_, ?_⟩
  · simp [Writer.j, chunkHeader_length, hB]; omega
  · simp [Writer.j, chunkHeader_length, hB]; omega
  · intro rest
    have := henc [] rest
    simp only [List.append_nil] at this
    rw [chunksAt_last _ _ _ hfit h0] at this
    simp only [List.append_assoc, List.cons_append, List.nil_append]
    rw [this]
    simp only [Writer.j, List.length_append, chunkHeader_length, hB]
    rw [List.drop_append_of_le_length (by omega)]
    simp [chunk, List.append_assoc, Nat.add_assoc]

structure Rel (w : Writer) (s : RecState) : Prop where
  closed : w.closed = s.closed
  cur : w.cur = s.cur.isSome
  pending : w.pending = s.cur.isSome
  closedCur : s.closed = true → s.cur = none
  pend : ∀ p, s.cur = some p → Pend w s.done p
  fin : s.cur = none → Final w s.done ∧ w.written = w.j

/-- the two shapes of related states: a record is open with a chunk pending, or everything is final -/
theorem Rel.ofPend {w : Writer} {done p} (hP : Pend w done p) (h1 : w.closed = false) (h2 : w.cur = true)
    (h3 : w.pending = true) : Rel w ⟨done, some p, false⟩ :=
  ⟨h1, h2, h3, nofun, fun _ hq => Option.some.inj hq ▸ hP, nofun⟩

theorem Rel.ofFinal {w : Writer} {done cl} (hF : Final w done) (hwj : w.written = w.j) (h1 : w.closed = cl)
    (h2 : w.cur = false) (h3 : w.pending = false) : Rel w ⟨done, none, cl⟩ :=
  ⟨h1, h2, h3, fun _ => rfl, nofun, fun _ => ⟨hF, hwj⟩⟩

theorem Rel.writeStep {w : Writer} {done p} (p' : Bytes) (h : Rel w ⟨done, some p, false⟩) (hp' : p' ≠ []) :
    w.roll.j < blockSize ∧
    Rel { w.roll with buf := w.roll.buf ++ p'.take (min (blockSize - w.roll.j) p'.length) }
      ⟨done, some (p ++ p'.take (min (blockSize - w.roll.j) p'.length)), false⟩ := by
  obtain ⟨hbad, B, hdr, c, hbuf, hB, hh, hw, hfit, h0, henc⟩ := h.pend p rfl
  have hlt := headerSize_lt_blockSize
  have hpl : 0 < p'.length := List.length_pos_iff.mpr hp'
  have hj : w.j = w.i + headerSize + c.length := by simp [Writer.j, hbuf, hB, hh]; omega
  unfold Writer.roll
  by_cases hfull : w.j = blockSize
  · rw [if_pos hfull, fillHeader_decomp w false B hdr c hbuf hB hh hfit]
    simp only [Writer.writeBlock, Writer.j, List.length_replicate]
    refine ⟨by omega, .ofPend ⟨hbad, [], List.replicate headerSize 0, _, rfl, rfl, by simp, Nat.le_refl _, ?_, by simp, ?_⟩
      h.closed h.cur h.pending⟩
    · simp only [List.length_take]; omega
    · intro q rest
      have hne : p'.take (min (blockSize - headerSize) p'.length) ++ q ≠ [] := by
        intro hnil
        have := congrArg List.length hnil
        simp only [List.length_append, List.length_take, List.length_nil] at this
        omega
      have := henc (p'.take (min (blockSize - headerSize) p'.length) ++ q) rest
      rw [chunksAt_split _ _ _ _ (by omega) hne h0] at this
      simp only [List.append_assoc] at this ⊢
      rw [this]
      simp only [List.drop_nil, List.nil_append]
      rw [List.drop_append_of_le_length (by omega)]
      simp [chunk, List.append_assoc]
  · rw [if_neg hfull]
    refine ⟨by omega, .ofPend ⟨hbad, B, hdr, c ++ p'.take (min (blockSize - w.j) p'.length), by simp [hbuf], hB, hh, hw, ?_,
      h0, ?_⟩ h.closed h.cur h.pending⟩
    · simp only [List.length_append, List.length_take]; omega
    · intro q rest
      have := henc (p'.take (min (blockSize - w.j) p'.length) ++ q) rest
      simpa [List.append_assoc] using this

theorem Rel.writeLoop {w : Writer} {done p} (p' : Bytes) (h : Rel w ⟨done, some p, false⟩) :
    Rel (w.writeLoop p') ⟨done, some (p ++ p'), false⟩ := by
  fun_induction Writer.writeLoop w p' generalizing p with
  | case1 w p' hp =>
    have : p' = [] := List.eq_nil_of_length_eq_zero hp
    subst this; simpa using h
  | case2 w p' hp hj =>
    have := (h.writeStep p' fun e => hp (by simp [e])).1
    omega
  | case3 w p' hp hj ih =>
    simpa [List.append_assoc] using ih (h.writeStep p' fun e => hp (by simp [e])).2

/-- `Writer.Next` after the optional `fillHeader(true)` -/
def nextCore (w : Writer) : Writer :=
  let w1 := { w with i := w.j }
  let w2 :=
    if w.j + headerSize > blockSize then
      ({ w1 with buf := w1.buf ++ List.replicate (blockSize - w.j) 0 }).writeBlock
    else { w1 with buf := w1.buf ++ List.replicate headerSize 0 }
  { w2 with first := true, pending := true, cur := true }

theorem Final.to_nextCore {w : Writer} {done} (h : Final w done) (hc : w.closed = false) :
    Rel (nextCore w) ⟨done, some [], false⟩ := by
  obtain ⟨hbad, hwj, hjb, henc⟩ := h
  have hlt := headerSize_lt_blockSize
  unfold Writer.j at hwj hjb henc
  unfold nextCore Writer.writeBlock Writer.j
  by_cases hov : w.buf.length + headerSize > blockSize
  · simp only [if_pos hov]
    refine .ofPend ⟨hbad, [], List.replicate headerSize 0, [], by simp, rfl, by simp, Nat.le_refl _, by simp; omega,
      by simp, ?_⟩ hc rfl rfl
    intro q rest
    simp only [List.nil_append]
    rw [henc (q :: rest), encodeFrom_cons, pad, if_pos hov, List.drop_append_of_le_length hwj]
    simp [List.append_assoc]
  · simp only [if_neg hov]
    refine .ofPend ⟨hbad, w.buf, List.replicate headerSize 0, [], by simp, rfl, by simp, hwj, by simp; omega,
      by simp, ?_⟩ hc rfl rfl
    intro q rest
    simp only [List.nil_append]
    rw [henc (q :: rest), encodeFrom_cons, pad, if_neg hov]
    simp [List.append_assoc]

/-- `writePending` after the optional `fillHeader(true)` -/
def flushCore (w : Writer) : Writer :=
  { w with pending := false, out := w.out ++ w.buf.drop w.written, written := w.j }

theorem Final.to_flushCore {w : Writer} {done} (h : Final w done) :
    Final (flushCore w) done ∧ (flushCore w).written = (flushCore w).j := by
  obtain ⟨hbad, hwj, hjb, henc⟩ := h
  unfold Writer.j at hwj hjb henc
  refine ⟨⟨hbad, by simp [flushCore, Writer.j], by simpa [flushCore, Writer.j] using hjb, ?_⟩, rfl⟩
  intro rest
  simp [flushCore, Writer.j, henc rest]

/-- the record in progress (if any) is finished by `fillHeader(true)`: common to `Next`, `Flush`, `Close` -/
def finish (w : Writer) : Writer :=
  if w.pending then ({ w with cur := false }).fillHeader true else { w with cur := false }

theorem finish_flags (w : Writer) : (finish w).cur = false ∧ (finish w).closed = w.closed := by
  have hf := fillHeader_flags { w with cur := false } true
  unfold finish; split
  · exact ⟨hf.1, hf.2.1⟩
  · exact ⟨rfl, rfl⟩

theorem Rel.finish {w s} (h : Rel w s) : Final (finish w) s.all ∧ (finish w).closed = w.closed := by
  refine ⟨?_, (finish_flags w).2⟩
  unfold Journal.finish RecState.all
  cases hc : s.cur with
  | none =>
    have hp : w.pending = false := by rw [h.pending, hc]; rfl
    rw [if_neg (by simp [hp]), Option.toList_none, List.append_nil]
    -- `Final` and `Pend` do not mention `cur`: the same facts hold of `{ w with cur := false }`
    have hF := (h.fin hc).1
    exact ⟨hF.bad, hF.wj, hF.jb, hF.enc⟩
  | some p =>
    have hp : w.pending = true := by rw [h.pending, hc]; rfl
    rw [if_pos hp]
    have hP := h.pend p hc
    exact Pend.fillHeader_true (w := { w with cur := false }) ⟨hP.bad, hP.ex⟩

theorem next_eq (w : Writer) (h : w.closed = false) : w.next = nextCore (finish w) := by
  unfold Writer.next nextCore finish
  simp only [h, Bool.false_eq_true, if_false]

theorem flush_eq (w : Writer) (h : w.closed = false) : w.flush = flushCore (finish w) := by
  unfold Writer.flush Writer.writePending finish
  simp only [h, Bool.false_eq_true, if_false]
  by_cases hp : w.pending = true
  · simp only [hp, if_true]; rfl
  · simp only [hp, Bool.false_eq_true, if_false]
    cases w; simp_all [flushCore]

theorem Rel.step {w s} (h : Rel w s) (op : Op) : Rel (w.step op) (s.step op) := by
  obtain ⟨done, cur, cl⟩ := s
  cases cl with
  | true =>
    have hc : cur = none := h.closedCur rfl
    have hwc : w.closed = true := h.closed
    have hwcur : w.cur = false := by rw [h.cur, hc]; rfl
    have hw : w.step op = w := by
      cases op <;> simp only [Writer.step, Writer.next, Writer.write, Writer.flush, Writer.close,
        Writer.writePending, hwc, hwcur, if_true, Bool.not_false, Bool.true_or] <;> (cases w; simp_all)
    rw [hw]; exact h
  | false =>
    have hwc : w.closed = false := h.closed
    obtain ⟨hF, hFc⟩ := h.finish
    have hFcur := (finish_flags w).1
    have hFl := hF.to_flushCore
    cases op with
    | next =>
      rw [show w.step .next = nextCore (Journal.finish w) from next_eq w hwc]
      exact hF.to_nextCore (hFc.trans hwc)
    | flush =>
      rw [show w.step .flush = _ from flush_eq w hwc]
      exact .ofFinal hFl.1 hFl.2 (hFc.trans hwc) hFcur rfl
    | close =>
      rw [show w.step .close = { w.flush with closed := true } from rfl, flush_eq w hwc]
      exact .ofFinal ⟨hFl.1.bad, hFl.1.wj, hFl.1.jb, hFl.1.enc⟩ hFl.2 rfl hFcur rfl
    | write p' =>
      cases cur with
      | none =>
        have hw : w.step (.write p') = w := by simp [Writer.step, Writer.write, h.cur]
        rw [hw]; exact h
      | some p =>
        have hw : w.step (.write p') = w.writeLoop p' := by simp [Writer.step, Writer.write, h.cur, hwc]
        rw [hw]
        exact h.writeLoop p'

theorem Rel.init : Rel {} {} :=
  .ofFinal ⟨rfl, Nat.le_refl _, Nat.zero_le _, fun rest => by simp [Writer.j]⟩ rfl rfl rfl rfl

theorem Rel.run {w s} (h : Rel w s) (ops : List Op) : Rel (w.run ops) (ops.foldl RecState.step s) := by
  induction ops generalizing w s with
  | nil => exact h
  | cons op ops ih => exact ih (h.step op)

theorem Rel.out {w s} (h : Rel w s) :
    w.bad = false ∧ w.out <+: encode s.all ∧ (s.cur = none → w.out = encode s.all) := by
  unfold encode RecState.all
  cases hc : s.cur with
  | none =>
    obtain ⟨⟨hb, _, _, henc⟩, hwj⟩ := h.fin hc
    have := henc []
    simp only [List.append_nil, encodeFrom] at this
    have hd : w.buf.drop w.written = [] := by rw [hwj]; simp [Writer.j]
    rw [hd, List.append_nil] at this
    simp only [Option.toList_none, List.append_nil]
    exact ⟨hb, by rw [this]; exact List.prefix_refl _, fun _ => this.symm⟩
  | some p =>
    obtain ⟨hb, B, hdr, c, _, _, _, _, _, _, henc⟩ := h.pend p hc
    have := henc [] []
    simp only [List.append_nil] at this
    simp only [Option.toList_some]
    refine ⟨hb, ?_, fun hx => by simp at hx⟩
    rw [this]
    simp only [List.append_assoc]
    exact List.prefix_append _ _

theorem roll_out_prefix (w : Writer) : w.out <+: w.roll.out := by
  simp only [Writer.roll]; split
  · simp only [Writer.writeBlock, Writer.fillHeader]; split <;> simp
  · exact List.prefix_refl _

theorem writeLoop_out_prefix (w : Writer) (p : Bytes) : w.out <+: (w.writeLoop p).out := by
  fun_induction Writer.writeLoop w p with
  | case1 w p hp => exact List.prefix_refl _
  | case2 w p hp hj => exact roll_out_prefix w
  | case3 w p hp hj ih => exact (roll_out_prefix w).trans ih

theorem writePending_out_prefix (w : Writer) : w.out <+: w.writePending.out := by
  have hf := (fillHeader_flags w true).2.2
  unfold Writer.writePending
  split
  · exact List.prefix_refl _
  · split <;> simp [hf]

theorem step_out_prefix (w : Writer) (op : Op) : w.out <+: (w.step op).out := by
  cases op with
  | next =>
    have hf := (fillHeader_flags { w with cur := false } true).2.2
    simp only [Writer.step, Writer.next, Writer.writeBlock]
    repeat' split
    all_goals simp [hf]
  | write p =>
    simp only [Writer.step, Writer.write]; split
    · exact List.prefix_refl _
    · exact writeLoop_out_prefix w p
  | flush => exact writePending_out_prefix { w with cur := false }
  | close => exact writePending_out_prefix { w with cur := false }

theorem run_out_prefix (w : Writer) (ops : List Op) : w.out <+: (w.run ops).out := by
  induction ops generalizing w with
  | nil => exact List.prefix_refl _
  | cons op ops ih => exact (step_out_prefix w op).trans (ih _)

end GoLevel.Journal

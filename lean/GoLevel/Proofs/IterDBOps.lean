import GoLevel.Proofs.IterDBPrev
/-!
# The five calls of `DBIter` preserve the simulation relation `DBRel`

Each call moves the raw iterator and scans from where it lands: forwards `landOn_spec` (the cursor position is
`atOr _ (rk j)` for the landing index `j`), backwards `prevScan_before` (`before (rk a)`).
-/
namespace GoLevel

section
variable {σ : Type} {o : IterOps σ} {c : UCmp} {es : List Entry} {R : σ → Pos → Prop}
variable (hsim : Sim o c es R) (hl : LawfulUCmp c) (hs : SortedEntries c es)
  (hk : ∀ e ∈ es, e.kind ≤ Gen.keyTypeVal)
include hsim hl hs hk

omit hsim hl hs hk in
theorem NI_start (seq : Nat) (key : Bytes) : NI c es seq 0 .soi key := fun _ _ _ _ _ =>
  ⟨fun _ => .inl rfl, fun _ _ _ hi' => absurd hi' (Nat.not_lt_zero _)⟩

theorem first_rel {seq : Nat} {d : DBIter σ} {p : Pos} (h : DBRel c R es seq d p) :
    DBRel c R es seq (DBIter.first o c d) (Cursor.first (visList c es seq)) := by
  obtain ⟨q, hq⟩ := h.rawR
  have hnr := h.not_released
  obtain ⟨rfl, hfuel, _⟩ := h
  have := landOn_spec hsim d.fuel 0 0 { d with dir := .soi } _ (nextLoop_spec hsim hl hs hk d.fuel) (Nat.le_of_lt hfuel)
    hfuel (Cursor.first_eq es ▸ hsim.first _ _ hq) (Nat.le_refl _) Passed.nil (NI_start d.seq d.key)
  rwa [rk_zero, ← Cursor.first_eq, ← DBIter.first_eq d hnr] at this

theorem last_rel {seq : Nat} {d : DBIter σ} {p : Pos} (h : DBRel c R es seq d p) :
    DBRel c R es seq (DBIter.last o c d) (Cursor.last (visList c es seq)) := by
  obtain ⟨q, hq⟩ := h.rawR
  have hnr := h.not_released
  obtain ⟨rfl, hfuel, _⟩ := h
  rw [DBIter.last_eq d hnr, Cursor.last_eq, ← rk_of_ge d.seq es.length (Nat.le_refl _)]
  exact prevScan_before hsim hl hs hk { d with raw := o.last d.raw } hfuel (Cursor.last_eq es ▸ hsim.last _ _ hq)

omit hsim hs hk in
theorem geKey_probe_true (e : Entry) (k : Bytes) (s : Nat) (hkind : e.kind ≤ Gen.keyTypeVal)
    (h : geKey c (probe k s) e = true) : c.cmp e.ukey k ≠ .lt := fun hlt => by
  simp [geKey, (icmp_probe_lt hl e.key k s hkind).2 (.inl hlt)] at h

omit hsim hk in
theorem geKey_mono (p : IKey) (i i' : Nat) (e e' : Entry) (hii : i ≤ i') (he : es[i]? = some e)
    (he' : es[i']? = some e') (h : geKey c p e = true) : geKey c p e' = true := by
  rcases Nat.lt_or_ge i i' with hlt | hge
  · exact geKey_of_le hl p e.key e' (by simpa [geKey] using h) (StrictOrd.le_of_lt (hs.lt_of_lt he he' hlt))
  · obtain rfl : i = i' := Nat.le_antisymm hii hge
    rw [he] at he'; cases he'; exact h

omit hsim hl hs hk in
theorem isVisible_seq (c : UCmp) (es : List Entry) (seq : Nat) (e : Entry) (h : isVisible c es seq e = true) :
    e.seq ≤ seq := by
  simp only [isVisible, Bool.and_eq_true, decide_eq_true_eq] at h
  exact h.1.1

omit hsim hs hk in
/-- an entry before the landing point of the raw seek that a reader at `s` can see is below the sought user key -/
theorem below_probe (e : Entry) (k : Bytes) (s : Nat) (hkind : e.kind ≤ Gen.keyTypeVal)
    (hge : geKey c (probe k s) e = false) (hseq : e.seq ≤ s) : c.cmp e.ukey k = .lt :=
  ((icmp_probe_lt hl e.key k s hkind).1 (by simpa [geKey] using hge)).resolve_right
    fun h => Nat.not_le_of_gt h.2 hseq

theorem seek_rel {seq : Nat} {d : DBIter σ} {p : Pos} (k : Bytes) (h : DBRel c R es seq d p) :
    DBRel c R es seq (DBIter.seek o c k d) (Cursor.seek (visList c es seq) (geUser c k ∘ pairOf)) := by
  obtain ⟨q, hq⟩ := h.rawR
  have hnr := h.not_released
  obtain ⟨rfl, hfuel, _⟩ := h
  -- the raw seek lands on the first entry `j0` not below the probe
  have hRs := hsim.seek _ _ (probe k d.seq) hq
  rw [Cursor.seek_eq] at hRs
  generalize hj0 : (es.findIdx? (geKey c (probe k d.seq))).getD es.length = j0 at hRs
  have hlow : ∀ (i : Nat) (e : Entry), i < j0 → es[i]? = some e → geKey c (probe k d.seq) e = false :=
    fun i e hi he => Cursor.findIdx?_getD_before (hj0 ▸ hi) he
  have hhigh : ∀ (i : Nat) (e : Entry), j0 ≤ i → es[i]? = some e → c.cmp e.ukey k ≠ .lt := fun i e hi he => by
    obtain ⟨e0, he0⟩ : ∃ e0, es[j0]? = some e0 := ⟨_, List.getElem?_eq_getElem (Nat.lt_of_le_of_lt hi (getElem?_lt he))⟩
    exact geKey_probe_true hl e k d.seq (hk e (List.mem_of_getElem? he))
      (geKey_mono hl hs (probe k d.seq) j0 i e0 e hi he0 he (Cursor.findIdx?_getD_at (hj0 ▸ he0)))
  have hNI : NI c es d.seq j0 .soi d.key := by
    intro i e hi he hce
    refine ⟨fun _ => .inl rfl, fun _ i' e' hi' he' hu => ?_⟩
    exact Nat.lt_of_not_le fun hle => hhigh i e hi he
      (hu ▸ below_probe hl e' k d.seq (hk e' (List.mem_of_getElem? he')) (hlow i' e' hi' he') hle)
  rw [DBIter.seek_eq k d hnr, show visList c es d.seq = es.filter (isVisible c es d.seq) from rfl,
    Cursor.seek_filter _ _ es j0
      (fun i e hi he hv => by
        simp [geUser, pairOf, below_probe hl e k d.seq (hk e (List.mem_of_getElem? he)) (hlow i e hi he)
          (isVisible_seq c es d.seq e hv)])
      (fun i e hi he _ => by simpa [geUser, pairOf] using hhigh i e hi he)]
  exact landOn_spec hsim d.fuel j0 j0 { d with dir := .soi } _ (nextLoop_spec hsim hl hs hk d.fuel)
    (Nat.le_add_right_of_le (Nat.le_of_lt hfuel)) hfuel hRs (Nat.le_refl _) Passed.nil hNI

theorem next_rel {seq : Nat} {d : DBIter σ} {p : Pos} (h : DBRel c R es seq d p) :
    DBRel c R es seq (DBIter.next o c d) (Cursor.next (visList c es seq) p) := by
  have h0 := h
  obtain ⟨rfl, hfuel, hm⟩ := h
  cases hm with
  | eoi hd =>
    have : DBIter.next o c d = d := by simp [DBIter.next, hd]
    rwa [this]
  | soi hd hR =>
    have := landOn_spec hsim d.fuel 0 0 d _ (nextLoop_spec hsim hl hs hk d.fuel) (Nat.le_of_lt hfuel) hfuel
      (Cursor.first_eq es ▸ show R _ (Cursor.first es) from hsim.next _ _ hR) (Nat.le_refl _) Passed.nil (hd ▸ NI_start d.seq d.key)
    rwa [rk_zero, ← Cursor.first_eq, ← DBIter.next_eq d (.inl hd)] at this
  | @forward j e hd hR he hv hkey =>
    rw [next_at_rk hl hs d.seq j e he hv, DBIter.next_eq d (.inr hd)]
    exact landOn_spec hsim d.fuel (j + 1) (j + 1) d _ (nextLoop_spec hsim hl hs hk d.fuel) (by omega) hfuel
      (hsim.next _ _ hR) (Nat.le_refl _) Passed.nil
      (by rw [hkey]; exact NI_after hl hs d.seq j e d.dir he hv.1 (by simp [hd]))
  | @backward j e hd he hv hkey _ hb =>
    obtain ⟨a, haj, hR, hgap⟩ := hb
    -- the first raw `Next` lands on the first of the newer entries before `j`, or on `j`
    have hRa := hsim.next _ _ hR
    rw [Cursor.next_before, IndexedIter.atOr_lt (Nat.lt_of_le_of_lt haj (getElem?_lt he))] at hRa
    rw [next_at_rk hl hs d.seq j e he hv, DBIter.next_backward_eq d hd (hsim.ok_at hRa)]
    refine landOn_spec hsim d.fuel (a + 1) (j + 1) { d with raw := o.next d.raw } _ (nextLoop_spec hsim hl hs hk d.fuel)
      (by omega) hfuel (hsim.next _ _ hRa) (Nat.succ_le_succ haj) (fun i e' h1 h2 he' hc' => ?_)
      (by rw [hkey]; exact NI_after hl hs d.seq j e d.dir he hv.1 (by simp [hd]))
    rcases Nat.lt_or_ge i j with hlt | hge
    · exact absurd hc' (Nat.not_le_of_gt (hgap i e' (Nat.le_of_succ_le h1) hlt he'))
    · -- the current entry: a value with the saved key
      obtain rfl : i = j := Nat.le_antisymm (Nat.le_of_lt_succ h2) hge
      rw [he] at he'; cases he'
      exact ⟨hv.2.1, by simp [hd, hkey, hl.refl]⟩

theorem prev_rel {seq : Nat} {d : DBIter σ} {p : Pos} (h : DBRel c R es seq d p) :
    DBRel c R es seq (DBIter.prev o c d) (Cursor.prev (visList c es seq) p) := by
  have h0 := h
  obtain ⟨rfl, hfuel, hm⟩ := h
  cases hm with
  | soi hd =>
    have : DBIter.prev o c d = d := by simp [DBIter.prev, hd]
    rwa [this]
  | eoi hd =>
    have : DBIter.prev o c d = DBIter.last o c d := by simp [DBIter.prev, hd]
    rw [this]
    exact last_rel hsim hl hs hk h0
  | @forward j e hd hR he hv hkey =>
    rw [prev_forward_eq d hd]
    exact backLoop_spec hsim hl hs hk j e d.fuel j d (Nat.lt_trans (getElem?_lt he) hfuel) hfuel hR (Nat.le_refl _)
      he hv hkey rfl
  | @backward j e hd _ _ _ _ hb =>
    have : DBIter.prev o c d = DBIter.prevScan o c d := by simp [DBIter.prev, hd]
    rw [this]
    show DBRel c R es d.seq _ (Cursor.before (rk c es d.seq j))
    obtain ⟨a, haj, hR, hgap⟩ := hb
    rw [rk_newer hl hs d.seq a j haj hgap]
    exact prevScan_before hsim hl hs hk d hfuel hR

theorem step_rel {seq : Nat} {d : DBIter σ} {p : Pos} (cl : Call Bytes) (h : DBRel c R es seq d p) :
    DBRel c R es seq (DBIter.step o c cl d)
      (Cursor.step (visList c es seq) (fun k => geUser c k ∘ pairOf) cl p) := by
  cases cl with
  | first => exact first_rel hsim hl hs hk h
  | last => exact last_rel hsim hl hs hk h
  | seek k => exact seek_rel hsim hl hs hk k h
  | next => exact next_rel hsim hl hs hk h
  | prev => exact prev_rel hsim hl hs hk h

/-- **every finite sequence of calls**: what the DB iterator shows after each call is what the
specification cursor over the visible pairs shows -/
theorem run_rel {seq : Nat} (cs : List (Call Bytes)) {d : DBIter σ} {p : Pos} (h : DBRel c R es seq d p) :
    DBIter.run o c d cs = Cursor.run (visible c es seq) (geUser c) p cs := by
  rw [visible_eq, Cursor.run_map]
  induction cs generalizing d p with
  | nil => rfl
  | cons cl cs ih =>
    have h1 := step_rel hsim hl hs hk cl h
    simp only [DBIter.run, Cursor.run, List.map_cons]
    rw [DBRel.out hl hs h1, ih h1]

/-- a fresh `DBIter` over a raw iterator standing before the first entry of `es`: the shape in which C02 is
stated for every raw iterator (array, merged, heap-based) -/
theorem run_new {raw : σ} (hR : R raw .soi) (seq fuel : Nat) (hfuel : es.length < fuel) (cs : List (Call Bytes)) :
    DBIter.run o c (DBIter.new raw seq fuel) cs = Cursor.run (visible c es seq) (geUser c) .soi cs :=
  run_rel hsim hl hs hk cs ⟨rfl, hfuel, .soi rfl hR⟩

end
end GoLevel

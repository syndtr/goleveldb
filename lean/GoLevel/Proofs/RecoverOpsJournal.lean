import GoLevel.Proofs.RecoverOpsKey
import GoLevel.Proofs.RecoverOpsCrash
/-!
The storage between two operations of `recoverJournal` during `openDB` (`JInv`): what a second `Recover` reads from
the tables when a slot is filled, crashes or is emptied.
-/
namespace GoLevel.Dur
open GoLevel GoLevel.Conc

theorem mem_scan_tables {cfg : RCfg} {r : RDisk} {e : Entry} :
    e ∈ (scanIn cfg r).tables.flatMap (·.2) ↔ ∃ n, e ∈ slotEnts cfg r n := by
  rw [scanIn_table_ents, List.mem_flatMap]
  constructor
  · rintro ⟨n, _, h⟩; exact ⟨n, h⟩
  · rintro ⟨n, h⟩
    obtain ⟨t, hl, _⟩ := slotEnts_ne_nil (List.ne_nil_of_mem h)
    exact ⟨n, mem_sortNums.2 (lookup_isSome_iff.1 (by rw [hl]; rfl)), h⟩

theorem journalNums_sorted {d : Disk} (hs : d.journals.Pairwise (fun p q => p.1 < q.1)) :
    journalNums d = d.journals.map (·.1) := by
  unfold journalNums Files.nums
  apply sortNums_sorted
  rw [List.pairwise_map]; exact hs

theorem scan_journals_sorted (cfg : RCfg) {r : RDisk} (hs : r.disk.journals.Pairwise (fun p q => p.1 < q.1)) :
    (scanIn cfg r).journals.flatMap (·.2) = r.disk.journals.flatMap (·.2.all) := by
  rw [scanIn_journal_stream, journalNums_sorted hs]
  exact journalRecs_eq hs r.disk.journals (fun p hp => hp)

variable {cfg : RCfg} {r0 r r' : RDisk} {nf t : Nat} {P Q R G : List Grp} {Jcur : Files (LogFile Grp)}

/-- `P`: the groups flushed so far; `Jcur`: the journal files still there; `nf`: the next file number -/
structure JInv (cfg : RCfg) (r0 : RDisk) (nf : Nat) (P : List Grp) (Jcur : Files (LogFile Grp)) (r : RDisk) :
    Prop where
  journals : r.disk.journals = Jcur
  tsynced : ∀ p ∈ r.disk.tables, p.2.synced = true
  tbound : ∀ p ∈ r.disk.tables, p.1 < nf
  dbound : ∀ n ∈ r.dmg, n < nf
  tabs : ∀ e, (∃ n, e ∈ slotEnts cfg r n) ↔
    e ∈ (scanIn cfg r0).tables.flatMap (·.2) ∨ e ∈ P.flatMap Grp.ents
  orig : ∀ n, n ∈ r0.disk.tables.nums → slotEnts cfg r n = slotEnts cfg r0 n

theorem JInv.set_journals {J : Files (LogFile Grp)} (h : JInv cfg r0 nf P Jcur r)
    (ht : r'.disk.tables = r.disk.tables) (hd : r'.dmg = r.dmg) (hj : r'.disk.journals = J) :
    JInv cfg r0 nf P J r' := by
  have hs : ∀ n, slotEnts cfg r' n = slotEnts cfg r n := fun n => slotEnts_eq_of (by rw [ht]) (by rw [hd])
  refine ⟨hj, by rw [ht]; exact h.tsynced, by rw [ht]; exact h.tbound,
    by rw [hd]; exact h.dbound, fun e => ?_, fun n hn => by rw [hs]; exact h.orig n hn⟩
  rw [← h.tabs e]
  simp only [hs]

theorem JInv.of_eq (h : JInv cfg r0 nf P Jcur r) (ht : r'.disk.tables = r.disk.tables)
    (hj : r'.disk.journals = r.disk.journals) (hd : r'.dmg = r.dmg) : JInv cfg r0 nf P Jcur r' :=
  h.set_journals ht hd (hj.trans h.journals)

theorem JInv.mono {cfg : RCfg} {r0 r : RDisk} {nf nf' : Nat} {P : List Grp} {Jcur : Files (LogFile Grp)}
    (h : JInv cfg r0 nf P Jcur r) (hn : nf ≤ nf') : JInv cfg r0 nf' P Jcur r :=
  ⟨h.journals, h.tsynced, fun p hp => Nat.lt_of_lt_of_le (h.tbound p hp) hn,
   fun n hn' => Nat.lt_of_lt_of_le (h.dbound n hn') hn, h.tabs, h.orig⟩

theorem JInv.crash (h : JInv cfg r0 nf P Jcur r) (hdur : ∀ p ∈ Jcur, p.2.unsynced = []) (ch : RCrash) :
    JInv cfg r0 nf P Jcur (rcrash ch r) :=
  h.of_eq (rcrash_tables ch r h.tsynced) (rcrash_journals ch r (by rw [h.journals]; exact hdur)) rfl

/-- what is read from the tables when slot `t`, from which nothing was read, now yields the groups `G` -/
theorem slot_tabs {T : List Entry}
    (h : ∀ e, (∃ n, e ∈ slotEnts cfg r n) ↔ e ∈ T ∨ e ∈ P.flatMap Grp.ents)
    (hfresh : slotEnts cfg r t = [])
    (ho : ∀ n, n ≠ t → slotEnts cfg r' n = slotEnts cfg r n) (ht : slotEnts cfg r' t = G.flatMap Grp.ents)
    (e : Entry) : (∃ n, e ∈ slotEnts cfg r' n) ↔ e ∈ T ∨ e ∈ (P ++ G).flatMap Grp.ents := by
  rw [List.flatMap_append, List.mem_append, ← or_assoc, ← h e]
  constructor
  · rintro ⟨n, hn⟩
    by_cases hnt : n = t
    · subst hnt; rw [ht] at hn; exact Or.inr hn
    · exact Or.inl ⟨n, by rw [← ho n hnt]; exact hn⟩
  · rintro (⟨n, hn⟩ | hn)
    · have hnt : n ≠ t := by rintro rfl; rw [hfresh] at hn; cases hn
      exact ⟨n, by rw [ho n hnt]; exact hn⟩
    · exact ⟨t, by rw [ht]; exact hn⟩

/-- `r'` is `r` with the fresh table `t`, durable: what can be read of it counts as flushed -/
theorem JInv.fill {x : TableFile} (h : JInv cfg r0 t P Jcur r) (hr0 : ∀ n ∈ r0.disk.tables.nums, n < t)
    (hx : x.synced = true) (ht : r'.disk.tables = r.disk.tables.set t x)
    (hj : r'.disk.journals = r.disk.journals) (hd : r'.dmg = r.dmg) :
    JInv cfg r0 (t + 1) (P ++ scanGood x) Jcur r' := by
  have hslot : ∀ n, slotEnts cfg r' n = if n = t then (scanGood x).flatMap Grp.ents else slotEnts cfg r n := by
    intro n
    by_cases hn : n = t
    · subst hn
      have hnd : n ∉ r.dmg := fun hc => by have := h.dbound n hc; omega
      simp only [slotEnts, ht, lookup_set, if_true, scanDamaged, scanGood, hd]
      cases x.bad <;> simp [hnd]
    · rw [if_neg hn]
      exact slotEnts_eq_of (by rw [ht, lookup_set, if_neg hn]) (by rw [hd])
  refine ⟨hj.trans h.journals, fun p hp => ?_, fun p hp => ?_, fun n hn => Nat.lt_succ_of_lt (h.dbound n (hd ▸ hn)),
    fun e => ?_, fun n hn => ?_⟩
  · rcases mem_set_imp (ht ▸ hp) with rfl | hp
    · exact hx
    · exact h.tsynced p hp
  · rcases mem_set_imp (ht ▸ hp) with rfl | hp
    · exact Nat.lt_succ_self t
    · exact Nat.lt_succ_of_lt (h.tbound p hp)
  · exact slot_tabs (t := t) h.tabs
      (by simp [slotEnts, lookup_none_iff.2 fun p hp => Nat.ne_of_lt (h.tbound p hp)])
      (fun n hn => by rw [hslot, if_neg hn]) (by rw [hslot, if_pos rfl]) e
  · have hnt : n ≠ t := Nat.ne_of_lt (hr0 n hn)
    rw [hslot, if_neg hnt]; exact h.orig n hn

theorem JInv.flush (h : JInv cfg r0 t P Jcur r) (hr0 : ∀ n ∈ r0.disk.tables.nums, n < t) :
    JInv cfg r0 (t + 1) (P ++ G) Jcur
    (r.applyAll [.base (.create .table t), .base (.writeT t G), .base (.sync .table t)]) := by
  have hfr : ∀ p ∈ r.disk.tables, p.1 ≠ t := fun p hp => Nat.ne_of_lt (h.tbound p hp)
  refine h.fill hr0 (x := ⟨G, true, false⟩) rfl ?_ rfl rfl
  show ((r.disk.tables.set t {}).modify t fun x => { x with grps := G }).modify t
    (fun x => { x with synced := true }) = _
  rw [set_modify_fresh hfr, set_modify_fresh hfr]

/-- a crash keeps the durable tables and makes the fresh one durable: intact, or unreadable -/
theorem rcrash_tables_set {x : TableFile} (ch : RCrash) (h : JInv cfg r0 t P Jcur r)
    (ht : r'.disk.tables = r.disk.tables.set t x) :
    (rcrash ch r').disk.tables = r.disk.tables.set t (crashTable (ch.base.keepT t) x) := by
  have hfr : ∀ p ∈ r.disk.tables, p.1 ≠ t := fun p hp => Nat.ne_of_lt (h.tbound p hp)
  show (r'.disk.tables.map fun p => (p.1, crashTable (ch.base.keepT p.1) p.2)) = _
  rw [ht, set_of_fresh _ hfr, set_of_fresh _ hfr, List.map_append,
    map_snd_id _ (fun n t => crashTable (ch.base.keepT n) t) fun p hp => crashTable_synced _ _ (h.tsynced p hp)]
  rfl

end GoLevel.Dur

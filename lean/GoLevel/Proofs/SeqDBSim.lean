import GoLevel.Proofs.SeqDBInv
/-!
# Sequential DB — the simulation between the DB model and the plain-map specification

Ghost data: `hist`, every entry ever written (newest first), and `floor`, the largest `minSeq` any committed
compaction has used: compactions only remove what no reader at `s ≥ minSeq` can see (C03), and writes extend
`hist` only with larger sequence numbers.  `Sim` hides the ghosts.
-/
namespace GoLevel.SeqDB

structure SimW (c : UCmp) (st : State) (sp : Spec) (hist : List Entry) (floor : Nat) : Prop where
  floor_le : floor ≤ st.seq
  floor_snaps : ∀ p ∈ st.snaps, floor ≤ p.2
  hist_le : ∀ e ∈ hist, e.seq ≤ st.seq
  /-- what is still stored shows every admissible reader what the full history shows -/
  cur_hist : ∀ k s, floor ≤ s → view c (curE st) k s = view c hist k s
  hist_map : ∀ k s, st.seq ≤ s → view c hist k s = sp.map.get k
  next : sp.nextSnap = st.nextSnap
  snaps_some : ∀ id s, alGet st.snaps id = some s →
    ∃ m, alGet sp.snaps id = some m ∧ ∀ k, view c hist k s = m.get k
  snaps_none : ∀ id, alGet st.snaps id = none → alGet sp.snaps id = none

def Sim (c : UCmp) (st : State) (sp : Spec) : Prop := ∃ hist floor, SimW c st sp hist floor

theorem sim_init (c : UCmp) : Sim c init Spec.init :=
  ⟨[], 0, Nat.le_refl _, fun _ hp => (nomatch hp), fun _ he => (nomatch he), fun _ _ _ => rfl, fun _ _ _ => rfl, rfl,
    fun _ _ h => (nomatch h), fun _ _ => rfl⟩

section sim
variable {c : UCmp} (hl : LawfulUCmp c)
include hl


theorem simW_write1 {st : State} {sp : Spec} {hist : List Entry} {floor : Nat} (hi : Inv c st)
    (h : SimW c st sp hist floor) (r : Rec) :
    SimW c (write1 c st r) { sp with map := sp.map.apply r } (recEntry (st.seq + 1) r :: hist) floor := by
  have hlt1 := hi.lt_recEntry r
  have hlt2 : ∀ x ∈ hist, x.seq < (recEntry (st.seq + 1) r).seq := fun x hx => by
    rw [recEntry_seq]; exact Nat.lt_succ_of_le (h.hist_le x hx)
  refine ⟨Nat.le_succ_of_le h.floor_le, h.floor_snaps, List.forall_mem_cons.2
    ⟨Nat.le_of_eq (recEntry_seq _ _), fun x hx => Nat.le_succ_of_le (h.hist_le x hx)⟩, ?_, ?_, h.next, ?_,
    h.snaps_none⟩
  · intro k s hs
    have e1 : view c (curE (write1 c st r)) k s = view c (recEntry (st.seq + 1) r :: curE st) k s :=
      view_congr hl (inv_write1 hl hi r).uniq.uniqNum (fun x => by rw [mem_curE_write1, List.mem_cons]) k s
    rw [e1, view_cons_of_newer hl _ _ hlt1, view_cons_of_newer hl _ _ hlt2, h.cur_hist k s hs]
  · intro k s hs
    have hs' : st.seq + 1 ≤ s := hs
    rw [view_cons_of_newer hl _ _ hlt2, recEntry_ukey, recEntry_seq, recEntry_hit]
    show _ = (sp.map.apply r).get k
    rw [Map.get_apply]
    by_cases hk : r.2.1 = k
    · rw [if_pos ⟨hk, hs'⟩, if_pos hk]
    · rw [if_neg (fun hh => hk hh.1), if_neg hk]
      exact h.hist_map k s (Nat.le_of_succ_le hs')
  · intro id sq h1
    obtain ⟨m, h2, hv⟩ := h.snaps_some id sq h1
    refine ⟨m, h2, fun k => ?_⟩
    have hsq : sq ≤ st.seq := hi.snaps_le _ (alGet_mem h1)
    rw [view_cons_of_newer hl _ _ hlt2, recEntry_seq,
      if_neg fun hh => Nat.not_succ_le_self _ (Nat.le_trans hh.2 hsq)]
    exact hv k

theorem sim_write (batch : List Rec) {st : State} {sp : Spec} (hi : Inv c st) (h : Sim c st sp) :
    Sim c (write c st batch) { sp with map := batch.foldl Map.apply sp.map } := by
  induction batch generalizing st sp with
  | nil => rw [write_nil]; exact h
  | cons r rs ih =>
    rw [write_cons]
    obtain ⟨hist, floor, hw⟩ := h
    exact ih (inv_write1 hl hi r) ⟨_, _, simW_write1 hl hi hw r⟩


theorem sim_clientStep {st : State} {sp : Spec} (hi : Inv c st) (h : Sim c st sp) (op : ClientOp) :
    (clientStep c st op).2 = (sp.step op).2 ∧ Sim c (clientStep c st op).1 (sp.step op).1 := by
  obtain ⟨hist, floor, hw⟩ := h
  -- a read at an admissible position returns what the full history shows there (C01 + `cur_hist`)
  have hread : ∀ k s, floor ≤ s → (getAt c st k s).toOption = view c hist k s := fun k s hs =>
    (C01.lookup_refines_view hl none [] st.mem st.frozen st.ver hi.sources k s).trans
      ((congrArg (view c · k s) (dbEntries_eq_curE st)).trans (hw.cur_hist k s hs))
  have hcur : ∀ k, (getAt c st k st.seq).toOption = sp.map.get k := fun k =>
    (hread k st.seq hw.floor_le).trans (hw.hist_map k st.seq (Nat.le_refl _))
  cases op with
  | put _ _ | del _ | write _ => exact ⟨rfl, sim_write hl _ hi ⟨hist, floor, hw⟩⟩
  | get k => exact ⟨congrArg Output.value (hcur k), hist, floor, hw⟩
  | has k =>
    exact ⟨congrArg Output.found ((isValue_eq _).trans (congrArg Option.isSome (hcur k))), hist, floor, hw⟩
  | snapAcquire =>
    refine ⟨congrArg Output.snap hw.next.symm, hist, floor, hw.floor_le,
      List.forall_mem_append.2 ⟨hw.floor_snaps, List.forall_mem_singleton.2 hw.floor_le⟩, hw.hist_le, hw.cur_hist,
      hw.hist_map, congrArg (· + 1) hw.next, ?_, ?_⟩
    · intro id s h1
      rcases alGet_append_single_eq_some.1 h1 with h0 | ⟨h0, rfl, rfl⟩
      · obtain ⟨m, h2, hv⟩ := hw.snaps_some id s h0
        exact ⟨m, alGet_append_single_eq_some.2 (.inl h2), hv⟩
      · exact ⟨sp.map, alGet_append_single_eq_some.2 (.inr ⟨hw.snaps_none _ h0, hw.next, rfl⟩),
          fun k => hw.hist_map k st.seq (Nat.le_refl _)⟩
    · intro id h1
      obtain ⟨h0, hne⟩ := alGet_append_single_eq_none.1 h1
      exact alGet_append_single_eq_none.2 ⟨hw.snaps_none id h0, hw.next ▸ hne⟩
  | snapGet id k =>
    simp only [clientStep, Spec.step]
    cases h1 : alGet st.snaps id with
    | none => rw [hw.snaps_none id h1]; exact ⟨rfl, hist, floor, hw⟩
    | some sq =>
      obtain ⟨m, h2, hv⟩ := hw.snaps_some id sq h1
      rw [h2]
      exact ⟨congrArg Output.value
        ((hread k sq (hw.floor_snaps _ (alGet_mem h1))).trans (hv k)), hist, floor, hw⟩
  | snapRelease id =>
    refine ⟨rfl, hist, floor, hw.floor_le, fun p hp => hw.floor_snaps p (mem_alErase hp), hw.hist_le, hw.cur_hist,
      hw.hist_map, hw.next, ?_, ?_⟩
    · intro x s h1
      obtain ⟨hne, h0⟩ := alGet_erase_eq_some.1 h1
      obtain ⟨m, h2, hv⟩ := hw.snaps_some x s h0
      exact ⟨m, alGet_erase_eq_some.2 ⟨hne, h2⟩, hv⟩
    · exact fun x h1 => alGet_erase_eq_none.2 ((alGet_erase_eq_none.1 h1).imp_right (hw.snaps_none x))


theorem sim_run (es : List Event) {st : State} {sp : Spec} (hi : Inv c st) (h : Sim c st sp) :
    run c st es = Spec.run sp (clientOps es) ∧ Sim c (runState c st es) (Spec.runState sp (clientOps es)) := by
  induction es generalizing st sp with
  | nil => exact ⟨rfl, h⟩
  | cons ev es ih =>
    cases ev with
    | client op =>
      obtain ⟨ho, hs⟩ := sim_clientStep hl hi h op
      obtain ⟨h1, h2⟩ := ih (inv_clientStep hl hi op) hs
      refine ⟨?_, h2⟩
      show (clientStep c st op).2 :: run c (clientStep c st op).1 es = (sp.step op).2 :: _
      rw [ho, h1]
    | bg b =>
      -- accepted or rejected, the specification does not move; by `BgKeeps` the floor rises to `max floor m`
      refine ih (inv_step hl hi (.bg b)) ?_
      show Sim c ((bgStep c st b).getD st) sp
      cases hb : bgStep c st b with
      | none => exact h
      | some st' =>
        show Sim c st' sp
        obtain ⟨hist, floor, hw⟩ := h
        obtain ⟨m, hm, hms, hk⟩ := bgStep_keeps hl hi b hb
        refine ⟨hist, max floor m, ?_, ?_, ?_, fun k s hs => ?_, ?_, ?_, ?_, ?_⟩
        · rw [hk.seq]; exact Nat.max_le.2 ⟨hw.floor_le, hm⟩
        · rw [hk.snaps]; exact fun p hp => Nat.max_le.2 ⟨hw.floor_snaps p hp, hms p hp⟩
        · rw [hk.seq]; exact hw.hist_le
        · rw [hk.view k s (Nat.le_trans (Nat.le_max_right _ _) hs),
            hw.cur_hist k s (Nat.le_trans (Nat.le_max_left _ _) hs)]
        · rw [hk.seq]; exact hw.hist_map
        · rw [hk.nextSnap]; exact hw.next
        · rw [hk.snaps]; exact hw.snaps_some
        · rw [hk.snaps]; exact hw.snaps_none

theorem sim_reachable (es : List Event) : Sim c (runState c init es) (Spec.runState Spec.init (clientOps es)) :=
  (sim_run hl es (inv_init hl) (sim_init c)).2

end sim


theorem runState_append (c : UCmp) (st : State) (es1 es2 : List Event) :
    runState c st (es1 ++ es2) = runState c (runState c st es1) es2 := by
  induction es1 generalizing st with
  | nil => rfl
  | cons e es ih => exact ih _

theorem run_append (c : UCmp) (st : State) (es1 es2 : List Event) :
    run c st (es1 ++ es2) = run c st es1 ++ run c (runState c st es1) es2 := by
  induction es1 generalizing st with
  | nil => rfl
  | cons e es ih =>
    simp only [List.cons_append, run, runState]
    cases (step c st e).2 with
    | none => exact ih _
    | some o => simp only [List.cons_append]; rw [ih]

theorem clientOps_append (es1 es2 : List Event) : clientOps (es1 ++ es2) = clientOps es1 ++ clientOps es2 := by
  induction es1 with
  | nil => rfl
  | cons e es ih => cases e <;> simp [clientOps, ih]

theorem Spec.runState_append (sp : Spec) (o1 o2 : List ClientOp) :
    Spec.runState sp (o1 ++ o2) = Spec.runState (Spec.runState sp o1) o2 := by
  induction o1 generalizing sp with
  | nil => rfl
  | cons o os ih => exact ih _


theorem Spec.step_snapGet (sp : Spec) (id : Nat) (k : Bytes) : (sp.step (.snapGet id k)).1 = sp := by
  simp only [Spec.step]; split <;> rfl

theorem spec_snap_persist (id : Nat) (m : Map) (ops : List ClientOp) (sp : Spec)
    (h : alGet sp.snaps id = some m) (hno : ClientOp.snapRelease id ∉ ops) :
    alGet (Spec.runState sp ops).snaps id = some m := by
  induction ops generalizing sp with
  | nil => exact h
  | cons op ops ih =>
    have hno' : ClientOp.snapRelease id ∉ ops := fun hh => hno (List.mem_cons_of_mem _ hh)
    apply ih _ _ hno'
    cases op with
    | snapAcquire => exact alGet_append_single_eq_some.2 (.inl h)
    | snapGet id' k => rw [Spec.step_snapGet]; exact h
    | snapRelease id' => exact alGet_erase_eq_some.2 ⟨fun e => hno (e ▸ List.mem_cons_self), h⟩
    | _ => exact h

/-- C03 from any state that simulates `sp`, short of the snapshot's own release -/
theorem snapGet_frozen {c : UCmp} (hl : LawfulUCmp c) {st : State} {sp : Spec} (hi : Inv c st)
    (h : Sim c st sp) (mid : List Event) (k : Bytes) (hno : ClientOp.snapRelease st.nextSnap ∉ clientOps mid) :
    (clientStep c (runState c st (.client .snapAcquire :: mid)) (.snapGet st.nextSnap k)).2 =
      .value (sp.map.get k) := by
  rw [(sim_clientStep hl (inv_runState hl _ hi) (sim_run hl _ hi h).2 _).1]
  obtain ⟨hist, floor, hw⟩ := h
  -- the specification knows no snapshot with the id about to be handed out
  have hnone := hw.snaps_none _ (alGet_none_of_not_mem fun p hp => Nat.ne_of_lt (hi.snaps_lt p hp))
  have hget : alGet (Spec.runState sp (clientOps (.client .snapAcquire :: mid))).snaps st.nextSnap = some sp.map :=
    spec_snap_persist _ _ (clientOps mid) _ (alGet_append_single_eq_some.2 (.inr ⟨hnone, hw.next, rfl⟩)) hno
  simp only [Spec.step, hget]

def writesOf : List ClientOp → List Rec
  | [] => []
  | .put k v :: ops => (true, k, v) :: writesOf ops
  | .del k :: ops => (false, k, []) :: writesOf ops
  | .write batch :: ops => batch ++ writesOf ops
  | _ :: ops => writesOf ops

theorem spec_map_eq_fold (ops : List ClientOp) (sp : Spec) :
    (Spec.runState sp ops).map = (writesOf ops).foldl Map.apply sp.map := by
  induction ops generalizing sp with
  | nil => rfl
  | cons op ops ih =>
    rw [Spec.runState, ih]
    cases op with
    | write batch => exact (List.foldl_append ..).symm
    | snapGet id' k => rw [Spec.step_snapGet]; rfl
    | _ => rfl

end GoLevel.SeqDB

import GoLevel.Proofs.LocksInv
/-! Explicit runs that end in a leaked resource: of the as-is configuration, or of any configuration, leaking iff it lacks
the release. -/
namespace GoLevel.Locks

/-- `OpenTransaction`: `rotateMem` fails in `newMem` after the first wait; the call returns its error (thread 0), thread 1
is idle; the token is back iff the configuration has the release (machine as coded) -/
theorem otxFailRun (cfg : Cfg) {k : Bool} (hm : cfg.m = .asCoded k) : Steps cfg (init 2)
    { ws := [.ret false, .idle], tok := if cfg.openTxReleasesOnError then false else true } := by
  have h := Steps.refl (cfg := cfg) (init 2)
  -- with the machine a literal, the side conditions of its steps evaluate (`rfl`) as for a concrete configuration
  obtain ⟨_, _, _, _, m, _, _, _, _, _, _, _⟩ := cfg
  subst hm
  have h := h.step (Step.startOtx _ 0 rfl)
  have h := h.step (Step.selTok _ 0 (.otxSel false) (.otxBranch false) rfl rfl rfl)
  have h := h.step (Step.otxRotate _ 0 false rfl)
  have h := h.step (Step.cwSendGo _ 0 false .otxRot1 false rfl rfl rfl)
  have h := h.step (Step.bgWorkOk _ false (some 0) rfl)
  have h := h.step (Step.bgSetErr _ false (some 0) true false rfl rfl)
  have h := h.step (Step.bgLockClk _ false (some 0) rfl rfl)
  have h := h.step (Step.bgCommitOk _ false (some 0) rfl)
  have h := h.step (Step.bgSetErr _ false (some 0) true true rfl rfl)
  have h := h.step (Step.bgAck _ false (some 0) rfl)
  have h := h.step (Step.otxNewMemFail _ 0 false rfl)
  have h := h.step (Step.otxFail _ 0 false rfl)
  exact h

/-- state after the leaking `OpenTransaction` returned: thread 0 has its error, thread 1 is idle, the
token is in `writeLockC` -/
def otxLeakSt : St := { ws := [.ret false, .idle], tok := true }

theorem otxLeakRun : Steps Cfg.asIs (init 2) otxLeakSt := otxFailRun Cfg.asIs (k := false) rfl

/-- after `Transaction.Commit` failed three times: the user discarded the transaction, a later `Put`
(thread 2, holding the token) waits for a memdb compaction, `mCompaction` is blocked in
`compCommitLk.Lock()`; thread 4 is idle (a later `Close`) -/
def commitLeakSt : St :=
  { ws := [.ret true, .ret false, .cwAck false .put false, .ret true, .idle], tok := true, clk := true,
    mc := .run (some 2) .lockClk }

theorem commitLeakRun : Steps Cfg.asIs (init 5) commitLeakSt := by
  have h := Steps.refl (cfg := Cfg.asIs) (init 5)
  -- thread 0: OpenTransaction succeeds
  have h := h.step (Step.startOtx _ 0 rfl)
  have h := h.step (Step.selTok _ 0 (.otxSel false) (.otxBranch false) rfl rfl rfl)
  have h := h.step (Step.otxNoRotate _ 0 false rfl)
  have h := h.step (Step.cwSendGo _ 0 false .otxWaitM false rfl rfl rfl)
  have h := h.step (Step.bgWorkOk _ false (some 0) rfl)
  have h := h.step (Step.bgSetErr _ false (some 0) true false rfl rfl)
  have h := h.step (Step.bgLockClk _ false (some 0) rfl rfl)
  have h := h.step (Step.bgCommitOk _ false (some 0) rfl)
  have h := h.step (Step.bgSetErr _ false (some 0) true true rfl rfl)
  have h := h.step (Step.bgAck _ false (some 0) rfl)
  have h := h.step (Step.otxNoWaitComp _ 0 false rfl)
  have h := h.step (Step.otxDone _ 0 false rfl)
  -- thread 1: Commit, `s.commit` fails three times
  have h := h.step (Step.startCommit _ 1 rfl rfl)
  have h := h.step (Step.cmLockTr _ 1 false rfl rfl)
  have h := h.step (Step.cmFlushOk _ 1 false rfl)
  have h := h.step (Step.cmLockClk _ 1 false rfl rfl)
  have h := h.step (Step.cmTryFail _ 1 2 false rfl)
  have h := h.step (Step.cmSleepTimer _ 1 2 false rfl)
  have h := h.step (Step.cmTryFail _ 1 1 false rfl)
  have h := h.step (Step.cmSleepTimer _ 1 1 false rfl)
  have h := h.step (Step.cmTryFail _ 1 0 false rfl)
  have h := h.step (Step.cmSleepTimer _ 1 0 false rfl)
  have h := h.step (Step.cmFail3 _ 1 false rfl)
  have h := h.step (Step.cmRet _ 1 false false rfl)
  -- thread 3: Discard
  have h := h.step (Step.startDiscard _ 3 rfl rfl)
  have h := h.step (Step.dcLockTr _ 3 false rfl rfl)
  have h := h.step (Step.dcBody _ 3 false rfl)
  -- thread 2: Put, memdb full: waits for a memdb compaction, which wants to commit
  have h := h.step (Step.startPut _ 2 rfl)
  have h := h.step (Step.selTok _ 2 .putSel .putFlush rfl rfl rfl)
  have h := h.step (Step.putWait _ 2 false rfl)
  have h := h.step (Step.cwSendGo _ 2 false .put false rfl rfl rfl)
  have h := h.step (Step.bgWorkOk _ false (some 2) rfl)
  have h := h.step (Step.bgSetErr _ false (some 2) true false rfl rfl)
  exact h

/-- after `DB.Write` (large batch) returned the error of `tr.Commit()`: the internal transaction is still
open and owns the token -/
def lgLeakSt : St := { ws := [.ret false, .idle], tok := true, trOpen := true, trUser := false }

theorem lgLeakRun : Steps Cfg.asIs (init 2) lgLeakSt := by
  have h := Steps.refl (cfg := Cfg.asIs) (init 2)
  have h := h.step (Step.startWrite _ 0 rfl)
  have h := h.step (Step.selTok _ 0 (.otxSel true) (.otxBranch true) rfl rfl rfl)
  have h := h.step (Step.otxNoRotate _ 0 true rfl)
  have h := h.step (Step.cwSendGo _ 0 false .otxWaitM true rfl rfl rfl)
  have h := h.step (Step.bgWorkOk _ false (some 0) rfl)
  have h := h.step (Step.bgSetErr _ false (some 0) true false rfl rfl)
  have h := h.step (Step.bgLockClk _ false (some 0) rfl rfl)
  have h := h.step (Step.bgCommitOk _ false (some 0) rfl)
  have h := h.step (Step.bgSetErr _ false (some 0) true true rfl rfl)
  have h := h.step (Step.bgAck _ false (some 0) rfl)
  have h := h.step (Step.otxNoWaitComp _ 0 true rfl)
  have h := h.step (Step.otxDone _ 0 true rfl)
  have h := h.step (Step.lgWriteOk _ 0 rfl)
  have h := h.step (Step.cmLockTr _ 0 true rfl rfl)
  have h := h.step (Step.cmFlushFail _ 0 true rfl)
  have h := h.step (Step.cmRet _ 0 false true rfl)
  exact h

/-- `SetReadOnly` racing with `Close`: it took the token, `Close` closed `closeC`, `compactionError`
left its `noerr` loop, `SetReadOnly` returned `ErrClosed` — with (`rel`) or without giving the token back; `Close`
(thread 1) is about to take the token -/
def srCloseSt (rel c : Bool) : St :=
  { ws := [.ret false, .clAcq], tok := !rel, ehTok := !rel, cwl := c, closed := true, eh := .exited }

theorem srCloseRun (cfg : Cfg) {k : Bool} (hm : cfg.m = .asCoded k) :
    Steps cfg (init 2) (srCloseSt cfg.setReadOnlyReleasesOnClose cfg.srSetsWriteLocking) := by
  have h := Steps.refl (cfg := cfg) (init 2)
  obtain ⟨_, _, _, rel, m, _, _, _, _, _, _, _⟩ := cfg
  subst hm
  have h := h.step (Step.startSR _ 0 rfl rfl)
  have h := h.step (Step.selTok _ 0 .srSel .srSet rfl rfl rfl)
  have h := h.step (Step.startClose _ 1 rfl)
  have h := h.step (Step.ehClose _ rfl rfl)
  cases rel <;> exact (h.step (Step.srClosed _ 0 rfl rfl)).step (Step.clCheckTr _ 1 rfl)

end GoLevel.Locks

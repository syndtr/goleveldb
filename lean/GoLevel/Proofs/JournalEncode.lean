import GoLevel.Model.Journal
import GoLevel.Proofs.Bytes
/-! The journal encoder, as the reader's and the writer's proofs use it: lengths of chunks, the padding, and the chunks
of one record.  `chunksAt i first x` describes `emitChunks` (`first`, header at offset `i`) and `restChunks` (not `first`,
offset 0) at once: the last chunk fits into its block (`chunksAt_last`), any other fills it and the next one starts a block
(`chunksAt_fill`); `chunksAt_ind` is the induction along these two.  A stream is padding, the chunks of a record, and the
stream of the other records (`encodeFrom_cons`). -/
namespace GoLevel.Journal
open GoLevel.Gen (fullChunkType firstChunkType lastChunkType)

open Sizes

theorem chunkHeader_length (ty : Nat) (p : Bytes) : (chunkHeader ty p).length = headerSize := by
  simp [chunkHeader, headerSize_eq]

theorem chunk_length (ty : Nat) (p : Bytes) : (chunk ty p).length = headerSize + p.length := by
  simp [chunk, chunkHeader_length]

theorem chunkType_range (cfirst l : Bool) : fullChunkType ≤ chunkType cfirst l ∧ chunkType cfirst l ≤ lastChunkType ∧
    chunkType cfirst l < 256 ∧ chunkType cfirst l ≠ 0 := by
  cases cfirst <;> cases l <;> decide

theorem chunkType_last (cfirst l : Bool) :
    (chunkType cfirst l = fullChunkType ∨ chunkType cfirst l = lastChunkType) ↔ l = true := by
  cases cfirst <;> cases l <;> decide

theorem chunkType_first (cfirst l : Bool) :
    (chunkType cfirst l ≠ fullChunkType ∧ chunkType cfirst l ≠ firstChunkType) ↔ cfirst = false := by
  cases cfirst <;> cases l <;> decide

theorem pad_fit {pos : Nat} (h : pos + headerSize ≤ blockSize) : pad pos = ([], pos) := by
  unfold pad; rw [if_neg (by omega)]

theorem pad_pos_le (pos : Nat) : (pad pos).2 + headerSize ≤ blockSize := by
  have := headerSize_lt_blockSize
  unfold pad; split <;> simp <;> omega

theorem pad_length (pos : Nat) : (pad pos).1.length < headerSize := by
  have h7 := headerSize_eq
  unfold pad; split <;> simp <;> omega

/-- the chunks still to be produced for the current record when the pending chunk header is at in-block
    offset `i` and `x` is the payload from that chunk on -/
def chunksAt (i : Nat) (first : Bool) (x : Bytes) : Bytes × Nat :=
  if first then emitChunks i x else restChunks x

theorem chunksAt_last (i : Nat) (first : Bool) (c : Bytes) (h : i + headerSize + c.length ≤ blockSize)
    (h0 : first = false → i = 0) :
    chunksAt i first c = (chunk (chunkType first true) c, i + headerSize + c.length) := by
  cases first
  · simp only [chunksAt, Bool.false_eq_true, if_false]
    have := h0 rfl; subst this
    rw [restChunks, if_pos (by omega)]; simp
  · simp only [chunksAt, if_true, emitChunks]
    rw [if_pos (by omega)]

theorem chunksAt_fill (i : Nat) (first : Bool) (x : Bytes) (a : Nat) (ha : i + headerSize + a = blockSize)
    (hx : a < x.length) (h0 : first = false → i = 0) :
    chunksAt i first x = (chunk (chunkType first false) (x.take a) ++ (chunksAt 0 false (x.drop a)).1,
      (chunksAt 0 false (x.drop a)).2) := by
  obtain rfl : a = blockSize - (i + headerSize) := by omega
  cases first
  · obtain rfl := h0 rfl
    rw [Nat.zero_add] at hx ⊢
    rw [chunksAt, if_neg Bool.false_ne_true, restChunks, if_neg (by omega)]; rfl
  · rw [chunksAt, if_pos rfl, emitChunks, if_neg (by omega)]; rfl

@[elab_as_elim] theorem chunksAt_ind {P : Nat → Bool → Bytes → Prop}
    (last : ∀ i first x, i + headerSize ≤ blockSize → (first = false → i = 0) →
      i + headerSize + x.length ≤ blockSize → P i first x)
    (fill : ∀ i first x a, i + headerSize ≤ blockSize → (first = false → i = 0) →
      i + headerSize + a = blockSize → a < x.length → P 0 false (x.drop a) → P i first x)
    (i : Nat) (first : Bool) (x : Bytes) (hi : i + headerSize ≤ blockSize) (h0 : first = false → i = 0) :
    P i first x := by
  have rest : ∀ x, P 0 false x := fun x => by
    fun_induction restChunks x with
    | case1 x h => exact last 0 false x (by omega) (fun _ => rfl) (by omega)
    | case2 x h r ih => exact fill 0 false x (blockSize - headerSize) (by omega) (fun _ => rfl) (by omega) (by omega) ih
  by_cases h : i + headerSize + x.length ≤ blockSize
  · exact last i first x hi h0 h
  · exact fill i first x (blockSize - (i + headerSize)) hi h0 (by omega) (by omega) (rest _)

theorem chunksAt_split (i : Nat) (first : Bool) (c q : Bytes) (h : i + headerSize + c.length = blockSize)
    (hq : q ≠ []) (h0 : first = false → i = 0) :
    chunksAt i first (c ++ q) = (chunk (chunkType first false) c ++ (chunksAt 0 false q).1, (chunksAt 0 false q).2) := by
  have hql : 0 < q.length := List.length_pos_iff.mpr hq
  rw [chunksAt_fill i first (c ++ q) c.length h (by rw [List.length_append]; omega) h0, List.take_left' rfl,
    List.drop_left' rfl]

theorem chunksAt_pos (i : Nat) (first : Bool) (x : Bytes) (hi : i + headerSize ≤ blockSize) (h0 : first = false → i = 0) :
    headerSize ≤ (chunksAt i first x).2 ∧ (chunksAt i first x).2 ≤ blockSize := by
  refine chunksAt_ind ?_ ?_ i first x hi h0
  · intro i first x hi h0 h; rw [chunksAt_last i first x h h0]; dsimp only; omega
  · intro i first x a hi h0 ha hx ih; rw [chunksAt_fill i first x a ha hx h0]; exact ih

theorem chunksAt_length_ge (i : Nat) (first : Bool) (x : Bytes) (hi : i + headerSize ≤ blockSize)
    (h0 : first = false → i = 0) : headerSize + x.length ≤ (chunksAt i first x).1.length := by
  refine chunksAt_ind ?_ ?_ i first x hi h0
  · intro i first x hi h0 h
    rw [chunksAt_last i first x h h0]; simp only [chunk_length]; omega
  · intro i first x a hi h0 ha hx ih
    rw [chunksAt_fill i first x a ha hx h0]
    simp only [List.length_append, chunk_length, List.length_take, List.length_drop] at ih ⊢
    omega

theorem restChunks_pos (rec : Bytes) : headerSize ≤ (restChunks rec).2 ∧ (restChunks rec).2 ≤ blockSize :=
  chunksAt_pos 0 false rec (Nat.le_of_lt headerSize_lt_blockSize) fun _ => rfl

theorem emitRecord_eq (pos : Nat) (r : Bytes) :
    emitRecord pos r = ((pad pos).1 ++ (chunksAt (pad pos).2 true r).1, (chunksAt (pad pos).2 true r).2) := rfl

theorem emitRecord_pos (pos : Nat) (rec : Bytes) :
    headerSize ≤ (emitRecord pos rec).2 ∧ (emitRecord pos rec).2 ≤ blockSize :=
  chunksAt_pos _ true rec (pad_pos_le pos) nofun

theorem encodeFrom_cons (pos : Nat) (r : Bytes) (rs : List Bytes) :
    encodeFrom pos (r :: rs) =
      (pad pos).1 ++ ((chunksAt (pad pos).2 true r).1 ++ encodeFrom (chunksAt (pad pos).2 true r).2 rs) := by
  rw [encodeFrom, emitRecord_eq, List.append_assoc]

theorem encodeFrom_cons_fit (pos : Nat) (r : Bytes) (rs : List Bytes) (h : pos + headerSize ≤ blockSize) :
    encodeFrom pos (r :: rs) = (chunksAt pos true r).1 ++ encodeFrom (chunksAt pos true r).2 rs := by
  rw [encodeFrom_cons, pad_fit h, List.nil_append]

theorem encodeFrom_pad (pos : Nat) (rs : List Bytes) (hne : rs ≠ []) :
    encodeFrom pos rs = (pad pos).1 ++ encodeFrom (pad pos).2 rs := by
  obtain ⟨r, rs', rfl⟩ := List.exists_cons_of_ne_nil hne
  rw [encodeFrom_cons, encodeFrom_cons_fit _ r rs' (pad_pos_le pos)]

theorem encodeFrom_append (pos : Nat) (rs rs' : List Bytes) :
    encodeFrom pos (rs ++ rs') = encodeFrom pos rs ++ encodeFrom (endPos pos rs) rs' := by
  induction rs generalizing pos with
  | nil => simp [encodeFrom, endPos]
  | cons r rs ih => simp [encodeFrom, endPos, ih]

theorem endPos_append (pos : Nat) (rs rs' : List Bytes) :
    endPos pos (rs ++ rs') = endPos (endPos pos rs) rs' := by
  induction rs generalizing pos with
  | nil => simp [endPos]
  | cons r rs ih => simp [endPos, ih]

theorem endPos_le (pos : Nat) (rs : List Bytes) (h : pos ≤ blockSize) : endPos pos rs ≤ blockSize := by
  induction rs generalizing pos with
  | nil => exact h
  | cons r rs ih => exact ih _ (emitRecord_pos pos r).2

end GoLevel.Journal

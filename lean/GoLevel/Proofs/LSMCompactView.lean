import GoLevel.Proofs.LSMEdits
/-!
# A table compaction keeps the version well formed and the view of every reader at or above `minSeq`

The entries of a version before / after an edit are those of the surviving tables plus those of the deleted /
added ones; for an edit that satisfies `CompactionOK` the two sets are related by `build_view_between`.
-/
namespace GoLevel

theorem baseLevelForKey_iff (c : UCmp) (v : Version) (ℓ : Nat) (k : Bytes) :
    baseLevelForKey c v ℓ k = true ↔ ∀ j, ℓ + 2 ≤ j → ∀ t ∈ v.lvl j, t.overlapsKey c k = false := by
  simp only [baseLevelForKey, List.all_eq_true, Bool.not_eq_true']
  exact v.forall_lvl (Q := fun l => ∀ t ∈ l, t.overlapsKey c k = false) (fun _ h => nomatch h) (ℓ + 2)

/-- `compaction.baseLevelForKey` answers `true` only if no level `≥ ℓ+2` holds the user key -/
theorem baseLevelForKey_sound {c : UCmp} (hl : LawfulUCmp c) (v : Version) (hw : v.WFi c) (ℓ : Nat) (k : Bytes)
    (h : baseLevelForKey c v ℓ k = true) :
    ∀ j, ℓ + 2 ≤ j → ∀ x ∈ Level.entries (v.lvl j), x.ukey ≠ k := by
  intro j hj x hx hk
  obtain ⟨t, ht, hxt⟩ := Level.mem_entries.1 hx
  have hov := Table.overlapsKey_of_mem hl (hw.tables j t ht) hxt
  rw [hk, (baseLevelForKey_iff c v ℓ k).1 h j hj t ht] at hov
  cases hov

theorem apply_entries (c : UCmp) (v : Version) (e : Edit) (x : Entry) :
    x ∈ (v.apply c e).entries ↔
      (∃ i, x ∈ Level.entries (v.survivors e i)) ∨ ∃ p ∈ e.added, x ∈ p.2.entries := by
  simp only [Version.mem_entries, Level.mem_entries, Version.apply_lvl, Version.mem_newLevel]
  constructor
  · rintro ⟨i, t, ht | ht, hx⟩
    · exact .inl ⟨i, t, ht, hx⟩
    · exact .inr ⟨(i, t), ht, hx⟩
  · rintro (⟨i, t, ht, hx⟩ | ⟨p, hp, hx⟩)
    · exact ⟨i, t, .inl ht, hx⟩
    · exact ⟨p.1, p.2, .inr hp, hx⟩

theorem entries_split (v : Version) (e : Edit) (x : Entry) :
    x ∈ v.entries ↔ (∃ i, x ∈ Level.entries (v.survivors e i)) ∨
      ∃ i, ∃ t ∈ v.lvl i, (i, t.num) ∈ e.deleted ∧ x ∈ t.entries := by
  simp only [Version.mem_entries, Level.mem_entries, Version.mem_survivors]
  constructor
  · rintro ⟨i, t, ht, hx⟩
    by_cases hd : (i, t.num) ∈ e.deleted
    · exact .inr ⟨i, t, ht, hd, hx⟩
    · exact .inl ⟨i, t, ⟨ht, hd⟩, hx⟩
  · rintro (⟨i, t, ht, hx⟩ | ⟨i, t, ht, _, hx⟩)
    · exact ⟨i, t, ht.1, hx⟩
    · exact ⟨i, t, ht, hx⟩

theorem flush_entries (c : UCmp) (v : Version) (L : Nat) (t : Table) (x : Entry) :
    x ∈ (v.apply c (flushEdit L t)).entries ↔ x ∈ t.entries ∨ x ∈ v.entries := by
  rw [apply_entries, entries_split v (flushEdit L t), or_comm]
  simp [flushEdit]

theorem replaceEdit_added_entries (ℓ : Nat) (S0 S1 nts : List Table) (x : Entry) :
    (∃ p ∈ (replaceEdit ℓ S0 S1 nts).added, x ∈ p.2.entries) ↔ ∃ t ∈ nts, x ∈ t.entries := by
  constructor
  · rintro ⟨p, hp, hx⟩
    exact ⟨p.2, ((replaceEdit_added ℓ S0 S1 nts p).1 hp).2, hx⟩
  · rintro ⟨t, ht, hx⟩
    exact ⟨(ℓ + 1, t), (replaceEdit_added ℓ S0 S1 nts _).2 ⟨rfl, ht⟩, hx⟩

theorem replaceEdit_deleted_entries (v : Version) (ℓ : Nat) (S0 S1 nts : List Table)
    (hnum : ∀ i, ∀ x ∈ v.lvl i, ∀ y ∈ v.lvl i, x.num = y.num → x = y)
    (hS0sub : ∀ t ∈ S0, t ∈ v.lvl ℓ) (hS1sub : ∀ t ∈ S1, t ∈ v.lvl (ℓ + 1)) (x : Entry) :
    (∃ i, ∃ t ∈ v.lvl i, (i, t.num) ∈ (replaceEdit ℓ S0 S1 nts).deleted ∧ x ∈ t.entries) ↔
      ∃ t ∈ S0 ++ S1, x ∈ t.entries := by
  simp only [replaceEdit_deleted_iff, List.mem_append]
  constructor
  · rintro ⟨i, t, ht, ⟨rfl, s, hs, hn⟩ | ⟨rfl, s, hs, hn⟩, hx⟩
    · exact ⟨t, .inl (hnum _ s (hS0sub s hs) t ht hn ▸ hs), hx⟩
    · exact ⟨t, .inr (hnum _ s (hS1sub s hs) t ht hn ▸ hs), hx⟩
  · rintro ⟨t, ht | ht, hx⟩
    · exact ⟨ℓ, t, hS0sub t ht, .inl ⟨rfl, t, ht, rfl⟩, hx⟩
    · exact ⟨ℓ + 1, t, hS1sub t ht, .inr ⟨rfl, t, ht, rfl⟩, hx⟩

theorem replace_entries_same (c : UCmp) (v : Version) (ℓ : Nat) (S0 S1 nts : List Table)
    (hnum : ∀ i, ∀ x ∈ v.lvl i, ∀ y ∈ v.lvl i, x.num = y.num → x = y)
    (hS0sub : ∀ t ∈ S0, t ∈ v.lvl ℓ) (hS1sub : ∀ t ∈ S1, t ∈ v.lvl (ℓ + 1))
    (hsame : ∀ x, (∃ t ∈ nts, x ∈ t.entries) ↔ (∃ t ∈ S0 ++ S1, x ∈ t.entries))
    (x : Entry) : x ∈ (v.apply c (replaceEdit ℓ S0 S1 nts)).entries ↔ x ∈ v.entries := by
  rw [apply_entries, entries_split v (replaceEdit ℓ S0 S1 nts), replaceEdit_added_entries,
    replaceEdit_deleted_entries v ℓ S0 S1 nts hnum hS0sub hS1sub, hsame]

def upE (v : Version) (e : Edit) (ℓ : Nat) : List Entry :=
  (List.range (ℓ + 1)).flatMap (fun i => Level.entries (v.survivors e i))

def downE (v : Version) (e : Edit) (ℓ : Nat) : List Entry :=
  (List.range v.levels.length).flatMap (fun j => if ℓ < j then Level.entries (v.survivors e j) else [])

theorem mem_upE (v : Version) (e : Edit) (ℓ : Nat) (x : Entry) :
    x ∈ upE v e ℓ ↔ ∃ i, i ≤ ℓ ∧ x ∈ Level.entries (v.survivors e i) := by
  simp only [upE, List.mem_flatMap, List.mem_range, Nat.lt_succ_iff]

theorem mem_downE (v : Version) (e : Edit) (ℓ : Nat) (x : Entry) :
    x ∈ downE v e ℓ ↔ ∃ j, ℓ < j ∧ x ∈ Level.entries (v.survivors e j) := by
  simp only [downE, List.mem_flatMap, List.mem_range]
  constructor
  · rintro ⟨j, _, hx⟩
    split at hx
    · exact ⟨j, by assumption, hx⟩
    · cases hx
  · rintro ⟨j, hj, hx⟩
    refine ⟨j, Classical.byContradiction fun hge => ?_, by rw [if_pos hj]; exact hx⟩
    obtain ⟨t, ht, -⟩ := Level.mem_entries.1 (Level.entries_mono (v.survivors_sub e j) x hx)
    rw [v.lvl_beyond (Nat.le_of_not_lt hge)] at ht
    cases ht

theorem survivors_split (v : Version) (e : Edit) (ℓ : Nat) (x : Entry) :
    (∃ i, x ∈ Level.entries (v.survivors e i)) ↔ x ∈ upE v e ℓ ∨ x ∈ downE v e ℓ := by
  rw [mem_upE, mem_downE]
  constructor
  · rintro ⟨i, hx⟩
    exact (Nat.lt_or_ge ℓ i).symm.imp (⟨i, ·, hx⟩) (⟨i, ·, hx⟩)
  · rintro (⟨i, _, hx⟩ | ⟨i, _, hx⟩) <;> exact ⟨i, hx⟩

/-- What must hold when `tableCompaction` commits the edit that replaces `S0 ⊆ level ℓ` and
`S1 ⊆ level ℓ+1` by the tables `nts` at level `ℓ+1`; `umin`/`umax` is the user-key range `expand` settled
on (`getRange` of `S0`), `minSeq` the smallest sequence number a live reader may hold. -/
structure CompactionOK (c : UCmp) (v : Version) (ℓ : Nat) (S0 S1 nts : List Table) (minSeq : Nat)
    (umin umax : Bytes) : Prop where
  src_sub : ∀ t ∈ S0, t ∈ v.lvl ℓ
  dst_sub : ∀ t ∈ S1, t ∈ v.lvl (ℓ + 1)
  distinct : ((S0 ++ S1).flatMap (·.entries)).Pairwise (fun a b => a.key ≠ b.key)
  /-- (L2) the new tables are a legal cut of the builder output -/
  cut : legalCut c (build c minSeq (baseLevelForKey c v ℓ) {} (mergeAll c (S0 ++ S1)))
    (nts.map (·.entries)) = true
  new_wf : ∀ t ∈ nts, t.wfB c = true
  range : ∀ t ∈ S0, c.le umin t.imin.ukey ∧ c.le t.imax.ukey umax
  /-- (L1) `S1` is exactly the set of tables of level `ℓ+1` meeting the range under the user comparer -/
  dst_all : ∀ t ∈ v.lvl (ℓ + 1), t.overlapsRange c umin umax = true ↔ t ∈ S1
  /-- (L0) for a level-0 compaction `S0` is closed under user-key overlap within level 0 -/
  src_closed : ℓ = 0 → ∀ x ∈ v.lvl 0, x ∉ S0 → x.overlapsRange c umin umax = false

instance (c : UCmp) (v : Version) (ℓ : Nat) (S0 S1 nts : List Table) (minSeq : Nat) (umin umax : Bytes) :
    Decidable (CompactionOK c v ℓ S0 S1 nts minSeq umin umax) :=
  decidable_of_iff
    ((∀ t ∈ S0, t ∈ v.lvl ℓ) ∧ (∀ t ∈ S1, t ∈ v.lvl (ℓ + 1)) ∧
     ((S0 ++ S1).flatMap (·.entries)).Pairwise (fun a b => a.key ≠ b.key) ∧
     legalCut c (build c minSeq (baseLevelForKey c v ℓ) {} (mergeAll c (S0 ++ S1))) (nts.map (·.entries)) = true ∧
     (∀ t ∈ nts, t.wfB c = true) ∧ (∀ t ∈ S0, c.le umin t.imin.ukey ∧ c.le t.imax.ukey umax) ∧
     (∀ t ∈ v.lvl (ℓ + 1), t.overlapsRange c umin umax = true ↔ t ∈ S1) ∧
     (ℓ = 0 → ∀ x ∈ v.lvl 0, x ∉ S0 → x.overlapsRange c umin umax = false))
    ⟨fun ⟨a, b, c', d, e, f, g, h⟩ => ⟨a, b, c', d, e, f, g, h⟩,
     fun h => ⟨h.src_sub, h.dst_sub, h.distinct, h.cut, h.new_wf, h.range, h.dst_all, h.src_closed⟩⟩

section view
variable {c : UCmp} (hl : LawfulUCmp c)
include hl

theorem compaction_wf {v : Version} {ℓ : Nat} {S0 S1 nts : List Table} {minSeq : Nat} {umin umax : Bytes}
    (hv : v.wfB c = true) (h : CompactionOK c v ℓ S0 S1 nts minSeq umin umax) :
    (v.apply c (replaceEdit ℓ S0 S1 nts)).wfB c = true := by
  have hsB := build_sorted c minSeq (baseLevelForKey c v ℓ) _ {} (mergeAll_sorted hl (S0 ++ S1) h.distinct)
  refine replace_wf hl v ℓ S0 S1 nts umin umax hv h.src_sub h.dst_sub h.new_wf (fun t ht x hx => ?_)
    ((legalCut_tables_pairwise hl _ nts hsB h.cut h.new_wf).imp fun h => .inl h) h.range h.dst_all
    (src_newer_of_closed hl v ℓ S0 umin umax hv h.src_sub h.range h.src_closed)
  exact (mem_mergeAll (S0 ++ S1) x).1 (build_subset c minSeq _ _ {} x ((legalCut_mem _ nts h.cut x).2 ⟨t, ht, hx⟩))

/-- **A table compaction preserves every admissible reader's view of the version.** -/
theorem compaction_view {v : Version} {ℓ : Nat} {S0 S1 nts : List Table} {minSeq : Nat} {umin umax : Bytes}
    (hv : v.wfB c = true) (hu : UniqSeq v.entries)
    (hnum : ∀ i, ∀ x ∈ v.lvl i, ∀ y ∈ v.lvl i, x.num = y.num → x = y)
    (h : CompactionOK c v ℓ S0 S1 nts minSeq umin umax) :
    (∀ x ∈ (v.apply c (replaceEdit ℓ S0 S1 nts)).entries, x ∈ v.entries) ∧
    ∀ (k : Bytes) (s : Nat), minSeq ≤ s →
      view c (v.apply c (replaceEdit ℓ S0 S1 nts)).entries k s = view c v.entries k s := by
  obtain ⟨hS0sub, hS1sub, hdist, hcut, -, hrange, hS1, hL0⟩ := h
  have hw := (Version.wfB_iff_WFi hl v).1 hv
  let e := replaceEdit ℓ S0 S1 nts
  let E := mergeAll c (S0 ++ S1)
  let base := baseLevelForKey c v ℓ
  let B := build c minSeq base {} E
  have hsE : ESorted c E := mergeAll_sorted hl (S0 ++ S1) hdist
  have hsrc := src_newer_of_closed hl v ℓ S0 umin umax hv hS0sub hrange hL0
  have hside := survivor_side hl v ℓ S0 S1 umin umax hw hS0sub hS1sub hrange hS1
  have hsurvE : ∀ i, ∀ x ∈ Level.entries (v.survivors e i), x ∈ Level.entries (v.lvl i) :=
    fun i => Level.entries_mono (v.survivors_sub e i)
  have hbetween := merged_between hw nts hS0sub hS1sub hsrc
  have hE : ∀ x ∈ E, x ∈ Level.entries (S0 ++ S1) := fun x hx => Level.mem_entries.2 ((mem_mergeAll _ x).1 hx)
  -- a table left at level `ℓ+1` lies on one side of every merged table, so shares no user key with it
  have hnokey : ∀ a ∈ E, ∀ r ∈ Level.entries (v.survivors e (ℓ + 1)), r.ukey ≠ a.ukey := by
    intro a ha r hr
    obtain ⟨y, hy, hry⟩ := Level.mem_entries.1 hr
    exact (hside y (v.survivors_sub e _ y hy) (replaceEdit_surv_dst hy)).elim
      (fun h => hl.ord.ne_of_lt (h r hry a (hE a ha))) fun h => (hl.ord.ne_of_lt (h a (hE a ha) r hry)).symm
  have hup : NewerThan (upE v e ℓ) (E ++ downE v e ℓ) := by
    intro a ha b hb hk
    obtain ⟨i, hi, ha⟩ := (mem_upE v e ℓ a).1 ha
    rcases List.mem_append.1 hb with hb | hb
    · exact hbetween.1 i hi a ha b (hE b hb) hk
    · obtain ⟨j, hj, hb⟩ := (mem_downE v e ℓ b).1 hb
      exact hw.ordered i j (Nat.lt_of_le_of_lt hi hj) a (hsurvE i a ha) b (hsurvE j b hb) hk
  have hdown : NewerThan E (downE v e ℓ) := by
    intro a ha b hb hk
    obtain ⟨j, hj, hb⟩ := (mem_downE v e ℓ b).1 hb
    rcases Nat.lt_or_eq_of_le (Nat.succ_le_of_lt hj) with hj' | rfl
    · exact hbetween.2 j hj' a (hE a ha) b (hsurvE j b hb) hk
    · exact absurd hk.symm (hnokey a ha b hb)
  have hbase' : ∀ x ∈ E, base x.ukey = true → ∀ r ∈ downE v e ℓ, r.ukey ≠ x.ukey := by
    intro x hx hbx r hr
    obtain ⟨j, hj, hr⟩ := (mem_downE v e ℓ r).1 hr
    rcases Nat.lt_or_eq_of_le (Nat.succ_le_of_lt hj) with hj' | rfl
    · exact baseLevelForKey_sound hl v hw ℓ x.ukey hbx j hj' r (hsurvE j r hr)
    · exact hnokey x hx r hr
  have hM1 : ∀ x, x ∈ v.entries ↔ x ∈ upE v e ℓ ++ (E ++ downE v e ℓ) := by
    intro x
    rw [entries_split v e, survivors_split v e ℓ, replaceEdit_deleted_entries v ℓ S0 S1 nts hnum hS0sub hS1sub,
      ← mem_mergeAll (c := c), List.mem_append, List.mem_append, or_right_comm, or_assoc]
  have hM2 : ∀ x, x ∈ (v.apply c e).entries ↔ x ∈ upE v e ℓ ++ (B ++ downE v e ℓ) := by
    intro x
    rw [apply_entries, survivors_split v e ℓ, replaceEdit_added_entries, ← legalCut_mem B nts hcut,
      List.mem_append, List.mem_append, or_right_comm, or_assoc]
  have hsub : ∀ x ∈ (v.apply c e).entries, x ∈ v.entries := by
    intro x hx
    rw [hM1]
    have := (hM2 x).1 hx
    simp only [List.mem_append] at this ⊢
    exact this.imp_right (Or.imp_left (build_subset c minSeq base E {} x))
  refine ⟨hsub, ?_⟩
  intro k s hms
  rw [view_congr hl (hu.uniqNum.of_subset hsub) hM2, view_congr hl hu.uniqNum hM1]
  exact build_view_between hl minSeq base (upE v e ℓ) E (downE v e ℓ) hsE hup hdown hbase' k s hms

end view

theorem Version.headD_entries_subset (v : Version) :
    ∀ x ∈ Level.entries (v.levels.headD []), x ∈ v.entries := by
  unfold Version.entries
  cases v.levels with
  | nil => exact fun x hx => hx
  | cons l ls => exact fun x hx => List.mem_flatMap.2 ⟨l, List.mem_cons_self, hx⟩

theorem versionGet_view {c : UCmp} (hl : LawfulUCmp c) (v : Version) (hv : v.wfB c = true)
    (hu : UniqSeq v.entries) (k : Bytes) (s : Nat) :
    (versionGet c [] v k s).toOption = view c v.entries k s := by
  rw [versionGet_eq hl [] v (by simp) (by simp [Level.entries, UniqSeq]) hv
    (hu.of_subset (Version.headD_entries_subset _)) (NewerThan.nil_left _) k s, hitOf_toOption]
  rfl

theorem nums_nodup_lvl (v : Version) (h : v.nums.Nodup) :
    ∀ i, ∀ x ∈ v.lvl i, ∀ y ∈ v.lvl i, x.num = y.num → x = y := by
  intro i x hx y hy hn
  rcases v.lvl_mem_or_nil i with hm | hm
  · exact eq_of_nodup_map _ ((List.pairwise_flatMap.1 h).1 _ hm) hx hy hn
  · rw [hm] at hx; cases hx

end GoLevel

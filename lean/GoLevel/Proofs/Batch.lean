import GoLevel.Model.Batch
import GoLevel.Proofs.Bytes
/-!
Round trip of the write-batch codec (`Model/Batch.lean`).
-/
namespace GoLevel.Batch
open GoLevel.Gen (keyTypeDel keyTypeVal batchHeaderLen)

theorem keyTypes_eq : keyTypeDel = 0 ∧ keyTypeVal = 1 ∧ batchHeaderLen = 12 := by decide

theorem encodeRec_ne_nil (r : Rec) : encodeRec r ≠ [] := by simp [encodeRec]

theorem encodeRec_length_pos (r : Rec) : 0 < (encodeRec r).length := by simp [encodeRec]

theorem decodeRec_encodeRec (r : Rec) (rest : Bytes) (h : r.valid) :
    decodeRec (encodeRec r ++ rest) = .ok (r, rest) := by
  obtain ⟨kd, kv, _⟩ := keyTypes_eq
  obtain ⟨hk, hkl, hvl⟩ := h
  obtain ⟨kind, key, val⟩ := r
  simp only at hk hkl hvl
  rcases hk with ⟨rfl, rfl⟩ | rfl
  · simp only [encodeRec, kd, kv, List.cons_append, List.append_assoc, decodeRec]
    simp [readUvarint_uvarint_append _ _ hkl, List.take_left']
  · simp only [encodeRec, kv, List.cons_append, List.append_assoc, decodeRec]
    simp [readUvarint_uvarint_append _ _ hkl, readUvarint_uvarint_append _ _ hvl, List.take_left']
    rw [if_neg (by omega), if_neg (by omega)]

theorem decodeRecsAux_encodeBody (rs : List Rec) (h : ∀ r ∈ rs, r.valid) (fuel : Nat)
    (hf : (encodeBody rs).length ≤ fuel) : decodeRecsAux fuel (encodeBody rs) = (rs, none) := by
  induction rs generalizing fuel with
  | nil => cases fuel <;> simp [encodeBody, decodeRecsAux]
  | cons r rs ih =>
    have hr := h r List.mem_cons_self
    have hrs : ∀ r ∈ rs, r.valid := fun x hx => h x (List.mem_cons_of_mem _ hx)
    have hpos := encodeRec_length_pos r
    have hb : encodeBody (r :: rs) = encodeRec r ++ encodeBody rs := by simp [encodeBody]
    rw [hb] at hf ⊢
    rw [List.length_append] at hf
    match fuel, hf with
    | 0, hf => omega
    | fuel+1, hf =>
      have hne : encodeRec r ++ encodeBody rs ≠ [] := by simp [encodeRec_ne_nil]
      match hd : encodeRec r ++ encodeBody rs, hne with
      | b :: bs, _ =>
        simp only [decodeRecsAux]
        rw [← hd, decodeRec_encodeRec r _ hr]
        simp only
        rw [ih hrs fuel (by omega)]

theorem decodeRecs_encodeBody (rs : List Rec) (h : ∀ r ∈ rs, r.valid) :
    decodeRecs (encodeBody rs) = (rs, none) :=
  decodeRecsAux_encodeBody rs h _ (Nat.le_refl _)

theorem header_encode (seq : Nat) (rs : List Rec) (hs : seq < 2 ^ 64) (hn : rs.length < 2 ^ 32) :
    header (encode seq rs) = some (seq, rs.length, encodeBody rs) := by
  obtain ⟨_, _, hh⟩ := keyTypes_eq
  have h8 : (le64 seq).length = 8 := le64_length seq
  have h4 : (le32 rs.length).length = 4 := le32_length _
  unfold header encode
  rw [if_neg (by simp [hh]; omega)]
  have e1 : rd64 (le64 seq ++ le32 rs.length ++ encodeBody rs) = seq := by
    rw [List.append_assoc, rd64_le64_append _ _ hs]
  have e2 : (le64 seq ++ le32 rs.length ++ encodeBody rs).drop 8 = le32 rs.length ++ encodeBody rs := by
    rw [List.append_assoc, List.drop_left' h8]
  have e3 : (le64 seq ++ le32 rs.length ++ encodeBody rs).drop batchHeaderLen = encodeBody rs := by
    rw [hh]; exact List.drop_left' (by simp)
  rw [e1, e2, e3, rd32_le32_append _ _ hn]

/-- `decodeBatch ∘ writeBatchesWithHeader = id` -/
theorem decode_encode (seq : Nat) (rs : List Rec) (hs : seq < 2 ^ 64) (hn : rs.length < 2 ^ 32)
    (h : ∀ r ∈ rs, r.valid) : decode (encode seq rs) = some (seq, rs) := by
  unfold decode
  rw [header_encode seq rs hs hn]
  simp only [decodeRecs_encodeBody rs h, if_true]

/-- … and `decodeBatchToMem` puts exactly the batch's entries and reports `(seq, count)` -/
theorem decodeToMem_encode (seq expect : Nat) (rs : List Rec) (hs : seq < 2 ^ 64) (hn : rs.length < 2 ^ 32)
    (h : ∀ r ∈ rs, r.valid) (he : expect ≤ seq) :
    decodeToMem (encode seq rs) expect = ⟨entries seq rs, .ok (seq, rs.length)⟩ := by
  unfold decodeToMem
  rw [header_encode seq rs hs hn]
  simp only [decodeRecs_encodeBody rs h]
  rw [if_neg (by omega)]
  simp

theorem decodeToMem_stale (seq expect : Nat) (rs : List Rec) (hs : seq < 2 ^ 64) (hn : rs.length < 2 ^ 32)
    (he : seq < expect) :
    decodeToMem (encode seq rs) expect = ⟨[], .error .badSeq⟩ := by
  unfold decodeToMem
  rw [header_encode seq rs hs hn]
  simp [he]

end GoLevel.Batch

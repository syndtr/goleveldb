import GoLevel.Proofs.SessionInstall
/-! Every operation keeps the simulation; whole operation sequences (C07). -/
namespace GoLevel.Session
open GoLevel GoLevel.RefLoop

theorem sim_step {y : Sys} {G : EnvF} {U : List Nat} (h : Sim y G U) (o : Op) (hok : OpOK y.sess U o) :
    StepOK y U o := by
  cases o with
  | recover v => exact step_recover h v hok
  | create => exact step_create h hok
  | commit c r => exact step_commit h c r hok
  | commitFail c r => exact step_commitFail h c r
  | pin => exact step_pin h
  | unpin id d => exact step_unpin h id d
  | close => exact step_close h
  | expire v => exact step_expire h v

theorem sim_init : ∃ y G, Sys.init = some y ∧ Settled y.loop ∧ Sim y G [] := by
  obtain ⟨l, rm, e1, ok1, _, _⟩ := single_chain loopOK_init envStepF_first
  have e1' : deliver State.init Sess.init.2 = some (l, rm) := e1
  refine ⟨⟨Sess.init.1, l, rm⟩, EnvF.init.push (.inst [] [] ⟨[], []⟩), by simp [Sys.init, e1'],
    run_settled ⟨rfl, by simp [State.init]⟩ e1, ?_⟩
  have hI : ∀ k, (EnvF.init.push (.inst [] [] ⟨[], []⟩)).inst k ↔ k = 0 := by
    intro k
    constructor
    · intro hk; have := EnvF.inst_lt hk; rw [EnvF.push_N] at this; simp [EnvF.init, EnvF.N] at this; exact this
    · rintro rfl; exact (EnvF.push_inst_eq (G := EnvF.init)).mpr rfl
  have hT : ∀ k, (EnvF.init.push (.inst [] [] ⟨[], []⟩)).T k = [] := by
    intro k
    by_cases hk : k = 0
    · subst hk; exact (EnvF.push_T_eq (G := EnvF.init))
    · exact EnvF.T_not_inst (fun h => hk ((hI k).mp h))
  refine ⟨by simpa using ok1, rfl, Nat.one_pos, rfl, fun _ => ⟨rfl, ?_⟩, by simp [Sess.init], ?_, ?_, ?_,
    fun _ => (hT 0).symm, ?_, ?_, fun hc => by cases hc⟩
  · show 1 ≤ (EnvF.init.push _).up 1
    exact EnvF.up_ge_self _ 1
  · intro o ho
    simp only [Sess.init, List.mem_singleton] at ho
    subst ho
    exact ⟨(hI 0).mpr rfl, by simp [EnvF.init, EnvF.push]⟩
  · intro _ k hk _
    exact ⟨⟨0, [], 0⟩, by simp [Sess.init], ((hI k).mp hk).symm⟩
  · intro o ho
    simp only [Sess.init, List.mem_singleton] at ho
    subst ho
    exact (hT 0).symm
  · intro _
    show (EnvF.init.push _).L 0 = _
    exact (EnvF.push_L_eq (G := EnvF.init))
  · intro _ k _ _ f hf
    rw [hT k] at hf; cases hf

/-- The states a session reaches, with the table numbers in use (`nextUsed`). -/
inductive Reachable : Sys → List Nat → Prop
  | init {y : Sys} : Sys.init = some y → Reachable y []
  | step {y y' : Sys} {U rm : List Nat} {o : Op} : Reachable y U → OpOK y.sess U o →
      y.step o = some (y', rm) → Reachable y' (nextUsed U y.sess o rm)

theorem sim_sys_step {y : Sys} {G : EnvF} {U : List Nat} (h : Sim y G U) {o : Op} (hok : OpOK y.sess U o)
    (hen : (y.sess.op o).isSome) :
    ∃ y' rm G', y.step o = some (y', rm) ∧ Sim y' G' (nextUsed U y.sess o rm) ∧ SafeF G' y'.loop.next rm := by
  cases hop : y.sess.op o with
  | none => rw [hop] at hen; cases hen
  | some p =>
    obtain ⟨s', ms⟩ := p
    obtain ⟨l', rm, G', e1, hs, sf⟩ := sim_step h o hok s' ms hop
    exact ⟨⟨s', l', y.requests ++ rm⟩, rm, G', by simp [Sys.step, hop, e1], hs, sf⟩

theorem safe_objs {y : Sys} {G : EnvF} {U rm : List Nat} (h : Sim y G U) (sf : SafeF G y.loop.next rm) :
    ∀ f ∈ rm, ∀ v ∈ y.sess.objs, f ∉ v.files := by
  intro f hf v hv
  obtain ⟨h1, h2⟩ := h.objs v hv
  rw [h.files v hv]
  exact sf f hf v.id h1 (Or.inl h2)

/-- In every reachable state the session and the loop's ghost history are in step, and `processTasks` ran to
completion. -/
theorem reachable_inv {y : Sys} {U : List Nat} (h : Reachable y U) : Settled y.loop ∧ ∃ G, Sim y G U := by
  induction h with
  | init h0 =>
    obtain ⟨y0, G, e, hset, hs⟩ := sim_init
    rw [e] at h0
    cases h0
    exact ⟨hset, G, hs⟩
  | @step y y' U rm o _ hok hst ih =>
    obtain ⟨hset, G, hs⟩ := ih
    simp only [Sys.step] at hst
    split at hst
    · cases hst
    · rename_i s' ms hop
      obtain ⟨l', rm', G', e, hs', _⟩ := sim_step hs o hok s' ms hop
      rw [e] at hst
      cases hst
      exact ⟨run_settled hset e, G', hs'⟩

theorem reachable_sim {y : Sys} {U : List Nat} (h : Reachable y U) : ∃ G, Sim y G U := (reachable_inv h).2

theorem reachable_settled {y : Sys} {U : List Nat} (h : Reachable y U) : Settled y.loop := (reachable_inv h).1

/-- Quiescence at the session level: nobody holds a version other than the current one. -/
theorem quiescent_sess {y : Sys} {G : EnvF} {U : List Nat} (h : Sim y G U) (hs : Settled y.loop)
    (hc : y.sess.closed = false) (hq : ∀ o ∈ y.sess.objs, o.id = y.sess.cur) :
    G.dn ≤ y.loop.next ∧ (∀ f, f ∈ y.loop.fileRef → f ∈ y.sess.lsm.nums) ∧
      (y.sess.manifest = true → ∀ f, f ∈ y.sess.lsm.nums → f ∈ y.loop.fileRef) := by
  obtain ⟨hdn, hcur⟩ := h.cur hc
  have hrel : ∀ k, k < G.dn → G.inst k → k ∈ G.rel := by
    intro k hk hik
    apply Classical.byContradiction
    intro hnr
    obtain ⟨o, ho, hoid⟩ := h.objs' hc k hik hnr
    have := hq o ho
    omega
  obtain ⟨h1, h2, h3⟩ := quiescentF h.ok.inv hs h.N_pos hcur hrel
  refine ⟨h1, fun f hf => by rw [h.lsm hc, ← hdn]; exact h3 f hf, fun hm f hf => ?_⟩
  apply h2
  have hv := h.view hc
  rw [hm] at hv
  rw [hdn]; simp only [if_true] at hv
  rw [hv, ← h.lsm hc]; exact hf

end GoLevel.Session

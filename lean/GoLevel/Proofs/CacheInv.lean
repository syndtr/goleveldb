import GoLevel.Proofs.CacheExec
/-! The invariant `InvP` of the cache interleaving system (C17) and the classes of instructions it speaks of;
ids and keys stay distinct. -/
namespace GoLevel.CacheM

theorem exec_nodes_shape {sh sh' : Shared} {i : Instr} {push : List Instr} {evs : List Ev}
    (he : exec sh i = some (sh', push, evs)) :
    (sh'.nodes.map (fun n => (n.id, n.key)) = sh.nodes.map (fun n => (n.id, n.key)) ∧ sh'.nextId = sh.nextId) ∨
    (∃ n, sh'.nodes = n :: sh.nodes ∧ n.id = sh.nextId ∧ sh'.nextId = sh.nextId + 1 ∧
        findKey sh.nodes n.key = none ∧ sh.closed = false ∧ n.ref = 1 ∧ n.lru = .none) ∨
    (∃ id, sh'.nodes = eraseId sh.nodes id ∧ sh'.nextId = sh.nextId ∧ sh.closed = false) := by
  cases exec_spec he
  case bgetNew hc hk _ => exact .inr (.inl ⟨_, rfl, rfl, rfl, hk, hc, rfl, rfl⟩)
  case delzRemove hc _ _ => exact .inr (.inr ⟨_, rfl, rfl, hc⟩)
  -- the table is left alone, or changed at one node / by the eviction loop in fields other than id and key
  all_goals refine .inl ⟨?_, rfl⟩
  all_goals first
    | with_reducible rfl
    | exact upd_map _ fun _ => rfl
    | exact (clearLru_map _ fun _ => rfl).trans (by first | with_reducible rfl | exact upd_map _ fun _ => rfl)

theorem exec_ghost {sh sh' : Shared} {i : Instr} {push : List Instr} {evs : List Ev}
    (he : exec sh i = some (sh', push, evs)) :
    sh'.clearDel = sh.clearDel ∧ sh'.recheck = sh.recheck ∧
    ((sh'.stale = sh.stale ∧ sh'.dead = sh.dead) ∨
     (∃ n : Node, sh'.stale = sh.stale ∧
        sh'.dead = { n with value := none, delFuncs := if sh.clearDel then [] else n.delFuncs } :: sh.dead) ∨
     (∃ id f, ∃ n : Node, i = .fin id f ∧ findId sh.nodes id = none ∧ findId sh.dead id = some n ∧
        sh'.stale = (sh.stale || !n.delFuncs.isEmpty) ∧
        sh'.dead = upd sh.dead id fun n => { n with delFuncs := [] })) := by
  cases exec_spec he
  case delzRemove => exact ⟨rfl, rfl, .inr (.inl ⟨_, rfl, rfl⟩)⟩
  case finStale hn hd => exact ⟨rfl, rfl, .inr (.inr ⟨_, _, _, rfl, hn, hd, rfl, rfl⟩)⟩
  all_goals exact ⟨rfl, rfl, .inl ⟨rfl, rfl⟩⟩

/-- The instruction owns one reference (a unit of `n.ref`) to node `id`. -/
def owns (id : Nat) : Instr → Bool
  | .setv j _ => j == id
  | .promote j => j == id
  | .retHandle j => j == id
  | .unrefInt j => j == id
  | .unrefExt j => j == id
  | _ => false

/-- Instructions that only occur inside an `RLock` section entered while the cache was open. -/
def openOnly : Instr → Bool
  | .bget _ _ => true
  | .setv _ _ => true
  | .promote _ => true
  | .retHandle _ => true
  | .addDel _ _ => true
  | .ban _ => true
  | .unrefInt _ => true
  | .delz _ => true
  | .runDel _ => true
  | _ => false

/-- Instructions that only occur after `Close`. -/
def closedOnly : Instr → Bool
  | .zero _ => true
  | .fin _ _ => true
  | _ => false

/-- The instruction relies on the value of node `id` being present. -/
def holdsVal (id : Nat) : Instr → Bool
  | .promote j => j == id
  | .retHandle j => j == id
  | .unrefExt j => j == id
  | _ => false

/-- After `Close`: the instruction is only there while node `id`'s counter is not positive.  A pending
`callFinalizer` of `unRefExternal` always is (it follows a counter found at zero, after `Close` counters only
fall); the zero branch of `unRefExternal` itself (`extz`) only in the guarded system `g` — without the guard the
node may have been revived before `Close`, which is what the re-check of the repaired code is for. -/
def zeroRef (g : Bool) : Instr → Option Nat
  | .extz id _ => if g then some id else none
  | .fin id false => some id
  | _ => none

/-- The node a pending `callFinalizer` / zero branch of `unRefExternal` will touch. -/
def finTarget : Instr → Option Nat
  | .fin id _ => some id
  | .extz id _ => some id
  | _ => none

/-- Finalisation is safe: the system is guarded, or `unRefExternal` re-checks the counter after `Close`. -/
def Eff (g : Bool) (sh : Shared) : Bool := g || sh.recheck

/-- Instructions that only `Close(true)` issues. -/
def forcedOnly : Instr → Bool
  | .zero _ => true
  | .fin _ true => true
  | _ => false

def isCloseLock : Instr → Bool
  | .closeLock _ => true
  | _ => false

/-- `enter c` only for the calls that start with `r.mu.RLock()`. -/
def enterOK : Instr → Bool
  | .enter (.setCapacity _) => false
  | .enter (.close _) => false
  | .enter (.release _) => false
  | _ => true

def isEnter : Instr → Bool
  | .enter _ => true
  | _ => false

theorem enterOK_of_not_enter {i : Instr} (h : isEnter i = false) : enterOK i = true := by
  cases i <;> first | rfl | cases h

def delOf : Instr → List Nat
  | .bget _ (.del (some d)) => [d]
  | .addDel _ d => [d]
  | .runDel d => [d]
  | _ => []

def finVal : Ev → Option Nat
  | .fin _ v _ => some v
  | _ => none

def delId : Ev → Option Nat
  | .delf d _ _ => some d
  | _ => none

/-- Every open-only instruction has an `RUnlock` after it in its thread. -/
def WB : List Instr → Prop
  | [] => True
  | i :: rest => (openOnly i = true → Instr.runlock ∈ rest) ∧ WB rest

def refsP (sh : Shared) (P : List Instr) (id : Nat) : Nat :=
  sh.handles.count id + sh.lru.recent.count id + P.countP (owns id)

/-- The invariant, over the shared state and the multiset `P` of pending instructions.
`g` = the system is guarded (see `sysStep`).  The clauses up to `cd` say that what is there is consistent; `zo`, `zc`,
`zf`, `lc` that nothing is lost: what has to be done for a node has its instruction pending (`Proofs/CacheQuiesce`). -/
structure InvP (g : Bool) (sh : Shared) (P : List Instr) : Prop where
  ids : (sh.nodes.map (·.id)).Nodup ∧ ∀ n ∈ sh.nodes, n.id < sh.nextId
  keys : (sh.nodes.map (·.key)).Nodup
  rl : sh.rlock = P.count .runlock
  cl : sh.closed = true → ∀ i ∈ P, openOnly i = false
  op : sh.closed = false → (∀ i ∈ P, closedOnly i = false) ∧ sh.forced = false
  fo : sh.forced = false → ∀ i ∈ P, forcedOnly i = false
  rc : sh.forced = false → ∀ n ∈ sh.nodes, n.ref = refsP sh P n.id
  ex : ∀ id, 0 < refsP sh P id → ∃ n ∈ sh.nodes, n.id = id
  lr : sh.lru.recent.Nodup ∧ ∀ id, id ∈ sh.lru.recent ↔ ∃ n ∈ sh.nodes, n.id = id ∧ n.lru = .inList
  us : sh.lru.used = (sh.lru.recent.map (sizeOf sh.nodes)).sum ∧ sh.lru.used ≤ sh.lru.capacity
  vl : (Eff g sh = true ∨ sh.closed = false) → sh.forced = false → ∀ n ∈ sh.nodes,
        (n.id ∈ sh.handles ∨ n.lru = .inList ∨ ∃ i ∈ P, holdsVal n.id i = true) → n.value.isSome = true
  zr : Eff g sh = true → sh.closed = true → sh.forced = false → ∀ i ∈ P, ∀ id, zeroRef g i = some id →
        ∀ n ∈ sh.nodes, n.id = id → n.ref ≤ 0
  fe : g = true → sh.closed = true → ∀ i ∈ P, ∀ id, finTarget i = some id → ∃ n ∈ sh.nodes, n.id = id
  ns : (g = true ∨ sh.clearDel = true) → sh.stale = false
  cd : sh.clearDel = true → ∀ n ∈ sh.dead, n.delFuncs = []
  zo : sh.closed = false → ∀ n ∈ sh.nodes, n.ref = 0 → Instr.delz n.key ∈ P ∨ Instr.extz n.id n.key ∈ P
  zc : sh.closed = true → sh.forced = false → ∀ n ∈ sh.nodes, n.ref = 0 →
        (n.value = none ∧ n.delFuncs = []) ∨ Instr.extz n.id n.key ∈ P ∨ Instr.fin n.id false ∈ P
  zf : sh.forced = true → ∀ n ∈ sh.nodes, (n.value = none ∧ n.delFuncs = []) ∨ Instr.fin n.id true ∈ P
  lc : sh.closed = true → ∀ id ∈ sh.lru.recent, Instr.levict id ∈ P

theorem InvP.recent_of_found {g sh P} (h : InvP g sh P) {id : Nat} {n : Node} (hf : findId sh.nodes id = some n)
    (hl : n.lru = .inList) : id ∈ sh.lru.recent :=
  (h.lr.2 id).mpr ⟨n, (findId_some hf).1, (findId_some hf).2, hl⟩

theorem inList_of_recent {g sh P} (h : InvP g sh P) {m : Node} (hm : m ∈ sh.nodes)
    (hrec : m.id ∈ sh.lru.recent) : m.lru = .inList := by
  obtain ⟨m2, hm2, hm2id, hm2l⟩ := (h.lr.2 m.id).mp hrec
  rwa [eq_of_nodup_map (·.id) h.ids.1 hm2 hm hm2id] at hm2l

theorem nodup_map_of_pair {ns ns' : List Node}
    (h : ns'.map (fun n => (n.id, n.key)) = ns.map (fun n => (n.id, n.key))) :
    ns'.map (·.id) = ns.map (·.id) ∧ ns'.map (·.key) = ns.map (·.key) := by
  have h1 := congrArg (List.map Prod.fst) h
  have h2 := congrArg (List.map Prod.snd) h
  simp only [List.map_map] at h1 h2
  exact ⟨h1, h2⟩

theorem exists_id_of_map_eq {ns ns' : List Node} {id : Nat}
    (hm : ns'.map (fun n => (n.id, n.key)) = ns.map (fun n => (n.id, n.key))) :
    (∃ n ∈ ns, n.id = id) → ∃ n ∈ ns', n.id = id := by
  rintro ⟨n, hn, rfl⟩
  have : n.id ∈ ns'.map (·.id) := by
    rw [(nodup_map_of_pair hm).1]; exact List.mem_map_of_mem hn
  obtain ⟨m, hm1, hm2⟩ := List.mem_map.mp this
  exact ⟨m, hm1, hm2⟩

/-- A node of the table after the step was there before, or is the node `mBucket.get` has just made. -/
theorem exec_node_from {sh sh' i push evs} (he : exec sh i = some (sh', push, evs)) {n' : Node}
    (hn' : n' ∈ sh'.nodes) :
    (∃ n ∈ sh.nodes, n.id = n'.id) ∨ (sh.closed = false ∧ n'.ref = 1 ∧ n'.lru = .none) := by
  rcases exec_nodes_shape he with ⟨hm, _⟩ | ⟨n0, h0, _, _, _, hc, hfresh⟩ | ⟨_, h0, _⟩
  · exact .inl (exists_id_of_map_eq hm.symm ⟨n', hn', rfl⟩)
  · rw [h0] at hn'
    rcases List.mem_cons.mp hn' with rfl | h
    · exact .inr ⟨hc, hfresh⟩
    · exact .inl ⟨n', h, rfl⟩
  · rw [h0] at hn'; exact .inl ⟨n', (mem_eraseId.mp hn').1, rfl⟩

theorem closed_node_from {sh sh' i push evs} (he : exec sh i = some (sh', push, evs)) (hc : sh.closed = true)
    {n' : Node} (hn' : n' ∈ sh'.nodes) : ∃ n ∈ sh.nodes, n.id = n'.id :=
  (exec_node_from he hn').resolve_right fun h => by rw [hc] at h; cases h.1

/-- A node of the table is still there after the step, unless `mBucket.delete` has removed it. -/
theorem exec_node_to {sh sh' i push evs} (he : exec sh i = some (sh', push, evs)) {n : Node} (hn : n ∈ sh.nodes) :
    (∃ n' ∈ sh'.nodes, n'.id = n.id) ∨ (sh.closed = false ∧ findId sh'.nodes n.id = none) := by
  rcases exec_nodes_shape he with ⟨hs, _⟩ | ⟨a, hs, _⟩ | ⟨m, hs, _, hc⟩
  · exact .inl (exists_id_of_map_eq hs ⟨n, hn, rfl⟩)
  · exact .inl ⟨n, hs ▸ List.mem_cons_of_mem _ hn, rfl⟩
  · by_cases e : n.id = m
    · exact .inr ⟨hc, findId_eq_none fun x hx ex => (mem_eraseId.mp (hs ▸ hx)).2 (ex.trans e)⟩
    · exact .inl ⟨n, hs ▸ mem_eraseId.mpr ⟨hn, e⟩, rfl⟩

theorem ids_step {g sh P sh' i push evs} (h : InvP g sh P)
    (he : exec sh i = some (sh', push, evs)) :
    (sh'.nodes.map (·.id)).Nodup ∧ ∀ n ∈ sh'.nodes, n.id < sh'.nextId := by
  rcases exec_nodes_shape he with ⟨hm, hn⟩ | ⟨n, hn, hid, hnx, _⟩ | ⟨_, hn, hnx, _⟩
  · rw [(nodup_map_of_pair hm).1, hn]
    refine ⟨h.ids.1, fun n hn' => ?_⟩
    obtain ⟨m, hm1, hm2⟩ := exists_id_of_map_eq hm.symm ⟨n, hn', rfl⟩
    rw [← hm2]; exact h.ids.2 m hm1
  · rw [hn, hnx]
    constructor
    · simp only [List.map_cons, List.nodup_cons]
      refine ⟨?_, h.ids.1⟩
      intro hmem
      obtain ⟨m, hm1, hm2⟩ := List.mem_map.mp hmem
      have := h.ids.2 m hm1
      omega
    · intro m hm
      rcases List.mem_cons.mp hm with rfl | hm
      · omega
      · have := h.ids.2 m hm; omega
  · rw [hn, hnx]
    constructor
    · unfold eraseId
      exact List.Nodup.sublist (List.Sublist.map _ List.filter_sublist) h.ids.1
    · intro m hm
      exact h.ids.2 m (mem_eraseId.mp hm).1

theorem keys_step {g sh P sh' i push evs} (h : InvP g sh P)
    (he : exec sh i = some (sh', push, evs)) : (sh'.nodes.map (·.key)).Nodup := by
  rcases exec_nodes_shape he with ⟨hm, _⟩ | ⟨n, hn, _, _, hk, _⟩ | ⟨_, hn, _⟩
  · rw [(nodup_map_of_pair hm).2]; exact h.keys
  · rw [hn]
    simp only [List.map_cons, List.nodup_cons]
    refine ⟨?_, h.keys⟩
    intro hmem
    obtain ⟨m, hm1, hm2⟩ := List.mem_map.mp hmem
    exact findKey_none hk m hm1 hm2
  · rw [hn]; unfold eraseId
    exact List.Nodup.sublist (List.Sublist.map _ List.filter_sublist) h.keys

end GoLevel.CacheM

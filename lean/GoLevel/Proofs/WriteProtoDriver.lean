import GoLevel.Driver.WriteProto
import GoLevel.Proofs.WriteProtoAppend
/-! Soundness of the trace validator: every candidate model state after an accepted event is reached from a
candidate before it by steps of the transition system (for `call`: from that candidate extended by the
idle thread the call uses). -/
namespace GoLevel.Driver.Wp
open GoLevel GoLevel.WP

theorem advance_sound (ms : List St) (alts : St → List (List Label)) (post : St → Bool) (m' : St)
    (h : m' ∈ advance ms alts post) : ∃ m ∈ ms, Steps m m' := by
  simp only [advance, List.mem_flatMap, List.mem_filter, List.mem_filterMap] at h
  obtain ⟨m, hm, ⟨ls, _, hr⟩, _⟩ := h
  exact ⟨m, hm, run_sound m m' ls hr⟩

theorem finish_ms (v v' : WpState) (ms : List St) (why : String) (h : finish v ms why = .ok v') :
    v'.ms = ms := by
  simp only [finish] at h
  split at h
  · cases h
  · cases h; rfl

/-- the state an event starts from -/
def pre : Ev → St → St
  | .call w mg d, m => addIdle m w mg d
  | _, m => m

/-- `legalStep` is built from `.error`, `if`, `finish` and `.ok`; each has its rule. -/
def Acc (P : List St → Prop) (r : Except String WpState) : Prop := ∀ v', r = .ok v' → P v'.ms

theorem Acc.error {P : List St → Prop} {why : String} : Acc P (.error why) := fun _ h => nomatch h

theorem Acc.ite {P : List St → Prop} {c : Prop} [Decidable c] {a b : Except String WpState}
    (ha : Acc P a) (hb : Acc P b) : Acc P (if c then a else b) := by
  split <;> assumption

theorem Acc.finish {P : List St → Prop} {v0 : WpState} {ms : List St} {why : String} (h : P ms) :
    Acc P (finish v0 ms why) :=
  fun v' hv => by rw [finish_ms _ _ _ _ hv]; exact h

theorem Acc.ok {P : List St → Prop} {v0 : WpState} (h : P v0.ms) : Acc P (.ok v0) :=
  fun v' hv => by cases hv; exact h

def From (v : WpState) (e : Ev) (ms : List St) : Prop := ∀ m' ∈ ms, ∃ m ∈ v.ms, Steps (pre e m) m'

theorem from_advance {v : WpState} {e : Ev} (he : ∀ m, pre e m = m) (alts : St → List (List Label))
    (post : St → Bool) : From v e (advance v.ms alts post) := fun m' hm' => by
  obtain ⟨m, hm, hs⟩ := advance_sound _ _ _ m' hm'
  exact ⟨m, hm, (he m).symm ▸ hs⟩

theorem from_same {v : WpState} {e : Ev} (he : ∀ m, pre e m = m) : From v e v.ms :=
  fun m' hm' => ⟨m', hm', by rw [he m']; exact .refl _⟩

theorem legalStep_sound (v v' : WpState) (e : Ev) (he : e ≠ .reset) (h : legalStep v e = .ok v') :
    ∀ m' ∈ v'.ms, ∃ m ∈ v.ms, Steps (pre e m) m' := by
  revert v'
  show Acc (From v e) (legalStep v e)
  cases e with
  | reset => exact absurd rfl he
  | call w mg d =>
    simp only [legalStep]
    refine .ite .error (.finish fun m' hm' => ?_)
    obtain ⟨m, hm, hs⟩ := advance_sound _ _ _ m' hm'
    obtain ⟨m0, hm0, rfl⟩ := List.mem_map.mp hm
    exact ⟨m0, hm0, hs⟩
  | leader w =>
    simp only [legalStep]
    split
    · exact .error
    · exact .ite .error (.ite .error (.finish fun m' hm' => ⟨m', (List.mem_filter.mp hm').1, .refl _⟩))
  | _ =>
    -- down the `if`s and `match`es of the validator: errors, unchanged candidates, `advance`
    simp only [legalStep]
    repeat
      first
      | exact .error
      | exact .finish (from_advance (fun _ => rfl) _ _)
      | apply Acc.ite
      | exact .ok (from_same fun _ => rfl)
      | split

theorem advance_post (ms : List St) (alts : St → List (List Label)) (post : St → Bool) (m' : St)
    (h : m' ∈ advance ms alts post) : post m' = true := by
  simp only [advance, List.mem_flatMap, List.mem_filter] at h
  obtain ⟨_, _, _, hp⟩ := h
  exact hp

/-- what the `group` check checks (`C10.validator_group_checked`) -/
theorem group_checked (v v' : WpState) (seq n nb : Nat) (sy : Bool) (hx : v.exact = true)
    (h : legalStep v (.group seq n nb (some sy)) = .ok v') :
    ∀ m' ∈ v'.ms, ∃ l, m'.ws[v.lead]? = some l ∧ l.gn = n ∧ l.batches.length = nb ∧ l.gsync = sy := by
  revert v'
  show Acc (fun ms => ∀ m' ∈ ms, ∃ l, m'.ws[v.lead]? = some l ∧ l.gn = n ∧ l.batches.length = nb ∧ l.gsync = sy) _
  simp only [legalStep]
  refine .ite .error (.ite .error (.ite .error (.ite .error (.finish fun m' hm' => ?_))))
  have hp := advance_post _ _ _ m' hm'
  simp only [hx, Bool.not_true, Bool.false_or, Bool.and_eq_true, recOk, nbOk, syncOk] at hp
  cases hl : m'.ws[v.lead]? with
  | none => simp [hl] at hp
  | some l => simp [hl] at hp; exact ⟨l, rfl, hp.1.1, hp.1.2, hp.2⟩

theorem legalStep_keeps {P : St → Prop} (h0 : ∀ m ∈ initWp.ms, P m) (hs : ∀ e m m', P m → Steps (pre e m) m' → P m')
    (v v' : WpState) (e : Ev) (hv : ∀ m ∈ v.ms, P m) (h : legalStep v e = .ok v') : ∀ m ∈ v'.ms, P m := by
  by_cases he : e = .reset
  · subst he; cases h; exact h0
  · intro m' hm'
    obtain ⟨m, hm, hst⟩ := legalStep_sound v v' e he h m' hm'
    exact hs e m m' (hv m hm) hst

def runEvents (v : WpState) : List Ev → Except String WpState
  | [] => .ok v
  | e :: es => match legalStep v e with
    | .ok v' => runEvents v' es
    | .error why => .error why

theorem runEvents_keeps {P : St → Prop} (h0 : ∀ m ∈ initWp.ms, P m) (hs : ∀ e m m', P m → Steps (pre e m) m' → P m')
    (es : List Ev) (v v' : WpState) (hv : ∀ m ∈ v.ms, P m) (h : runEvents v es = .ok v') : ∀ m ∈ v'.ms, P m := by
  induction es generalizing v with
  | nil => cases h; exact hv
  | cons e es ih =>
    simp only [runEvents] at h
    split at h
    · rename_i v1 h1; exact ih v1 (legalStep_keeps h0 hs v v1 e hv h1) h
    · cases h

def WpReach (v : WpState) : Prop := ∀ m ∈ v.ms, Reachable m

theorem initWp_reach : WpReach initWp := by
  intro m hm
  cases List.mem_singleton.mp hm
  exact ⟨initSt, by decide, .refl _⟩

/-- validator soundness (`C10.validator_sound`) -/
theorem runEvents_reach (es : List Ev) (v v' : WpState) (hv : WpReach v) (h : runEvents v es = .ok v') :
    WpReach v' :=
  runEvents_keeps initWp_reach (fun e m m' hr hst => reachable_steps _ _ (by
    cases e <;> first | exact hr | exact reachable_append m _ (by simp [Thread.fresh, mirror]) hr) hst) es v v' hv h

theorem initWp_cfg : ∀ m ∈ initWp.ms, m.cfg = {} := fun m hm => by cases List.mem_singleton.mp hm; rfl

/-- every candidate runs the configuration `{}` (all flags as in the source, `C10.code_cfg`) -/
theorem runEvents_cfg (es : List Ev) (v v' : WpState) (hv : ∀ m ∈ v.ms, m.cfg = {})
    (h : runEvents v es = .ok v') : ∀ m ∈ v'.ms, m.cfg = {} :=
  runEvents_keeps initWp_cfg (fun e m m' hc hst => by
    rw [steps_cfg _ _ hst]; cases e <;> exact hc) es v v' hv h

end GoLevel.Driver.Wp

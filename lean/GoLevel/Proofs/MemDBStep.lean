import GoLevel.Proofs.MemDBRefine
/-! `Delete`, the reads, and the step-by-step refinement of the sorted map (C14). -/
namespace GoLevel.MemDB

variable {cmp : Cmp}

theorem headD_map_filter (ls : List (List Bytes)) (p : Bytes → Bool) :
    (ls.map (·.filter p)).headD [] = (ls.headD []).filter p := by
  cases ls <;> simp

theorem value_filter_other (db : DB) {key k : Bytes} (hne : k ≠ key) (ls : List (List Bytes)) (a b c : Nat) :
    (DB.mk ls (db.kv.filter (·.1 != key)) a b c).value k = db.value k := by
  simp only [DB.value]
  rw [lookup_filter_ne]; simp [hne]

theorem pair_filter_other (db : DB) {key : Bytes} (ls : List (List Bytes)) (a b c : Nat)
    (l : List Bytes) (hl : ∀ x ∈ l, x ≠ key) :
    l.map (DB.mk ls (db.kv.filter (·.1 != key)) a b c).pair = l.map db.pair := by
  apply List.map_congr_left
  intro x hx
  simp only [DB.pair]
  rw [value_filter_other db (hl x hx)]

theorem abs_keys_ne {db : DB} {key : Bytes} (hk : key ∉ db.level0) : ∀ p ∈ db.abs, p.1 ≠ key :=
  List.forall_mem_map.2 fun _ hx e => hk (e ▸ hx)

section
variable (hc : LawfulCmp cmp)
include hc

theorem SplitMem.filter {db : DB} {key : Bytes} {pre post : List Bytes} (s : SplitMem cmp db key pre post) :
    db.level0.filter (· != key) = pre ++ post := by
  rw [s.l0]; exact filter_ne_split hc s.lt s.gt

theorem delete_absent {db : DB} (h : Inv cmp db) {key : Bytes} (hk : key ∉ db.level0) :
    delete cmp db key = (db, false) := by
  unfold delete
  rw [findGE_prev hc h key]
  simp only [hk, decide_false]

theorem delete_present {db : DB} (h : Inv cmp db) {key : Bytes} (hk : key ∈ db.level0) :
    delete cmp db key =
      ({ db with
         levels := db.levels.map (·.filter (· != key))
         kv := db.kv.filter (·.1 != key)
         n := db.n - 1
         kvSize := db.kvSize - (key.length + (db.value key).length) }, true) := by
  unfold delete
  rw [findGE_prev hc h key]
  simp only [hk, decide_true, succ_of_mem hc h.sorted0 hk, DB.height]
  rw [unlinkLevels_eq hc key db.levels h.sorted h.towersSub]

theorem abs_delete {db : DB} (h : Inv cmp db) {key : Bytes} {pre post : List Bytes}
    (s : SplitMem cmp db key pre post) :
    (delete cmp db key).1.abs = pre.map db.pair ++ post.map db.pair := by
  have hk : key ∈ db.level0 := by rw [s.l0]; simp
  rw [delete_present hc h hk, abs_eq]
  simp only [level0_mk, headD_map_filter]
  show List.map _ (db.level0.filter _) = _
  rw [s.filter hc, List.map_append, pair_filter_other, pair_filter_other]
  · intro x hx; exact (hc.ord.ne_of_lt (s.gt x hx)).symm
  · intro x hx; exact hc.ord.ne_of_lt (s.lt x hx)

theorem delete_abs {db : DB} (h : Inv cmp db) (key : Bytes) :
    (delete cmp db key).1.abs = SMap.erase cmp key db.abs := by
  by_cases hk : key ∈ db.level0
  · obtain ⟨pre, post, s⟩ := splitMem hc h hk
    obtain ⟨e, hA, hB⟩ := s.abs
    rw [abs_delete hc h s, e, SMap.erase_split_mem hc _ hA hB]
  · rw [delete_absent hc h hk, SMap.erase_absent hc (abs_keys_ne hk)]

theorem delete_inv {db : DB} (h : Inv cmp db) (key : Bytes) : Inv cmp (delete cmp db key).1 := by
  by_cases hk : key ∈ db.level0
  · obtain ⟨pre, post, s⟩ := splitMem hc h hk
    have habs := abs_delete hc h s
    obtain ⟨e, _, _⟩ := s.abs
    rw [delete_present hc h hk] at habs ⊢
    refine ⟨?_, ?_, ?_, ?_, ?_, ?_, ?_⟩
    · simpa using h.ne
    · simpa using h.height
    · intro l hl
      simp only [List.mem_map] at hl
      obtain ⟨l0, hl0, rfl⟩ := hl
      exact (h.sorted l0 hl0).filter _
    · show (db.levels.map _).Pairwise _
      rw [List.pairwise_map]
      refine List.Pairwise.imp ?_ h.towers
      intro a b hsub
      exact hsub.filter _
    · intro k
      show k ∈ (db.levels.map _).headD [] ↔ _
      rw [headD_map_filter]
      show k ∈ db.level0.filter _ ↔ _
      simp only
      rw [lookup_filter_ne, List.mem_filter]
      by_cases hkk : k = key
      · subst hkk; simp
      · simp [hkk, h.dom k]
    · show db.n - 1 = ((db.levels.map _).headD []).length
      rw [headD_map_filter]
      show _ = (db.level0.filter _).length
      rw [s.filter hc, h.len, s.l0]
      simp
    · show db.kvSize - (key.length + (db.value key).length) = _
      rw [habs, h.size, e]
      simp only [SMap.size_append, SMap.size_cons]
      omega
  · rw [delete_absent hc h hk]; exact h

theorem get_abs {db : DB} (h : Inv cmp db) (key : Bytes) :
    SMap.get cmp key db.abs = if key ∈ db.level0 then some (db.value key) else none := by
  by_cases hk : key ∈ db.level0
  · obtain ⟨pre, post, s⟩ := splitMem hc h hk
    obtain ⟨e, hA, _⟩ := s.abs
    rw [e, SMap.get_split_mem hc _ hA, if_pos hk]
  · rw [SMap.get_absent hc (abs_keys_ne hk), if_neg hk]

theorem delete_ok {db : DB} (h : Inv cmp db) (key : Bytes) :
    (delete cmp db key).2 = (SMap.get cmp key db.abs).isSome := by
  rw [get_abs hc h]
  by_cases hk : key ∈ db.level0
  · rw [delete_present hc h hk, if_pos hk]; rfl
  · rw [delete_absent hc h hk, if_neg hk]; rfl

theorem get_eq {db : DB} (h : Inv cmp db) (key : Bytes) : get cmp db key = SMap.get cmp key db.abs := by
  unfold get
  obtain ⟨hn, he⟩ := findGE_noprev hc h key
  simp only [hn, he, get_abs hc h]
  by_cases hk : key ∈ db.level0
  · simp [hk, succ_of_mem hc h.sorted0 hk]
  · simp [hk]

theorem contains_eq {db : DB} (h : Inv cmp db) (key : Bytes) :
    contains cmp db key = (SMap.get cmp key db.abs).isSome := by
  unfold contains
  rw [(findGE_noprev hc h key).2, get_abs hc h]
  by_cases hk : key ∈ db.level0 <;> simp [hk]

theorem find_eq {db : DB} (h : Inv cmp db) (key : Bytes) : find cmp db key = SMap.findGE cmp key db.abs := by
  unfold find
  rw [(findGE_noprev hc h key).1]
  unfold SMap.findGE succ
  rw [abs_eq, List.find?_map, head?_dropWhile_eq_find?]
  have : ((fun p : Bytes × Bytes => cmp p.1 key != .lt) ∘ db.pair) = (fun x => !below cmp key x) := by
    funext x; simp [below, bne]
  rw [this]
  cases db.level0.find? (fun x => !below cmp key x) <;> rfl

theorem step_refines {db : DB} (h : Inv cmp db) (op : Op) (hv : op.valid) :
    Inv cmp (step cmp db op).1 ∧ (step cmp db op).1.abs = (SMap.step cmp db.abs op).1 ∧
    (step cmp db op).2 = (SMap.step cmp db.abs op).2 := by
  cases op with
  | put k v ht => exact ⟨put_inv hc h k v hv.1 hv.2, put_abs hc h k v hv.1, rfl⟩
  | delete k =>
    refine ⟨delete_inv hc h k, delete_abs hc h k, ?_⟩
    simp only [step, SMap.step, delete_ok hc h k]
  | reset => exact ⟨inv_empty cmp, abs_empty, rfl⟩
  | get k => refine ⟨h, rfl, ?_⟩; simp only [step, SMap.step, get_eq hc h k]
  | find k => refine ⟨h, rfl, ?_⟩; simp only [step, SMap.step, find_eq hc h k]
  | contains k => refine ⟨h, rfl, ?_⟩; simp only [step, SMap.step, contains_eq hc h k]
  | len => refine ⟨h, rfl, ?_⟩; simp only [step, SMap.step, h.len, abs_eq, List.length_map]
  | size => refine ⟨h, rfl, ?_⟩; simp only [step, SMap.step, h.size]

theorem exec_run_refines : ∀ (ops : List Op) (db : DB), Inv cmp db → (∀ op ∈ ops, op.valid) →
    Inv cmp (exec cmp db ops) ∧ (exec cmp db ops).abs = SMap.exec cmp db.abs ops ∧
      run cmp db ops = SMap.run cmp db.abs ops := by
  intro ops
  induction ops with
  | nil => intro db h _; exact ⟨h, rfl, rfl⟩
  | cons o os ih =>
    intro db h hv
    obtain ⟨h1, h2, h3⟩ := step_refines hc h o (hv o (by simp))
    have := ih _ h1 (fun op hop => hv op (by simp [hop]))
    simp only [exec, SMap.exec, run, SMap.run]
    rw [← h2, ← h3, ← this.2.2]; exact ⟨this.1, this.2.1, rfl⟩

end

end GoLevel.MemDB

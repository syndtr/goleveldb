import GoLevel.Model.BlockIter
import GoLevel.Proofs.Block
/-!
# What the `blockIter` proofs use of a block (`Layout`)

`Layout b kvs off R rs`: entry `j` of `kvs` sits at offset `off j` of the block `b`, `block.entry` reads it back
with a shared-prefix length that is `0` at the restart points and otherwise refers to the previous key; the
restart array has `R` slots, slot `r` points at entry `rs r` (strictly increasing, `rs 0 = 0`).  Nothing in the
iterator proofs depends on the restart points being evenly spaced.  `Layout.decode`: what `block.entry` reads at entry
`j` when the key buffer is usable (`KeyOK`).
-/
namespace GoLevel.C13
open GoLevel BlockWriter

def kAt (kvs : List KV) (j : Nat) : Bytes := (kvs.getD j ([], [])).1
def vAt (kvs : List KV) (j : Nat) : Bytes := (kvs.getD j ([], [])).2

theorem getElem?_kv {kvs : List KV} {j : Nat} (h : j < kvs.length) : kvs[j]? = some (kAt kvs j, vAt kvs j) := by
  simp [kAt, vAt, List.getD, List.getElem?_eq_getElem h]

theorem getElem_kv {kvs : List KV} {j : Nat} (h : j < kvs.length) : kvs[j] = (kAt kvs j, vAt kvs j) :=
  Option.some.inj ((List.getElem?_eq_getElem h).symm.trans (getElem?_kv h))

theorem kAt_of_getElem? {kvs : List KV} {j : Nat} {k v : Bytes} (h : kvs[j]? = some (k, v)) : kAt kvs j = k := by
  simp [kAt, List.getD, h]

theorem take_succ_kv {kvs : List KV} {j : Nat} (hj : j < kvs.length) :
    kvs.take (j + 1) = kvs.take j ++ [(kAt kvs j, vAt kvs j)] := by
  rw [List.take_add_one, getElem?_kv hj]; rfl

theorem drop_kv {kvs : List KV} {j : Nat} (hj : j < kvs.length) :
    kvs.drop j = (kAt kvs j, vAt kvs j) :: kvs.drop (j + 1) := by
  rw [List.drop_eq_getElem_cons hj, getElem_kv hj]

def IsRestart (R : Nat) (rs : Nat → Nat) (j : Nat) : Prop := ∃ r, r < R ∧ rs r = j

structure Layout (b : BlockR) (kvs : List KV) (off : Nat → Nat) (R : Nat) (rs : Nat → Nat) : Prop where
  off0 : off 0 = 0
  offN : off kvs.length = b.restartsOffset
  mono : ∀ j, j < kvs.length → off j < off (j + 1)
  entry : ∀ j, j < kvs.length → ∃ sh,
      b.entryAt (off j) = .ok sh ((kAt kvs j).drop sh) (vAt kvs j) (off (j + 1) - off j) ∧
      sh ≤ (kAt kvs j).length ∧ (IsRestart R rs j → sh = 0) ∧
      (0 < j → sh ≤ (kAt kvs (j - 1)).length ∧ (kAt kvs (j - 1)).take sh = (kAt kvs j).take sh)
  value : ∀ j, j < kvs.length → (vAt kvs j).length ≤ off (j + 1) ∧
      (b.data.drop (off (j + 1) - (vAt kvs j).length)).take (vAt kvs j).length = vAt kvs j
  rlen : b.restartsLen = R
  rpos : 0 < R
  rs0 : rs 0 = 0
  rmono : ∀ r, r + 1 < R → rs r < rs (r + 1)
  rlt : ∀ r, r < R → kvs ≠ [] → rs r < kvs.length
  rE : kvs = [] → R = 1
  roff : ∀ r, r < R → b.restartOffset r = off (rs r)
  rkey : ∀ r, r < R → kvs ≠ [] → b.restartKey r = some (kAt kvs (rs r))
  rkeyE : kvs = [] → (b.restartKey 0).isSome
  rcount : b.restartOffset R = R

/-- a key buffer `kb` from which entry `j` can be decoded: a restart entry shares nothing, any other needs the key
before it -/
def KeyOK (kvs : List KV) (R : Nat) (rs : Nat → Nat) (j : Nat) (kb : Bytes) : Prop :=
  IsRestart R rs j ∨ (0 < j ∧ kb = kAt kvs (j - 1))

theorem add_le_of_step {f : Nat → Nat} {n : Nat} (h : ∀ j, j < n → f j < f (j + 1)) :
    ∀ {i j}, i ≤ j → j ≤ n → f i + (j - i) ≤ f j := by
  intro i j hij hj
  induction j with
  | zero => rw [Nat.le_zero.1 hij]; exact Nat.le_refl _
  | succ j ih =>
    have h1 := h j (by omega)
    by_cases e : i = j + 1
    · subst e; omega
    · have := ih (by omega) (by omega); omega

theorem lt_of_step {f : Nat → Nat} {n : Nat} (h : ∀ j, j < n → f j < f (j + 1)) {i j : Nat} (hij : i < j)
    (hj : j ≤ n) : f i < f j := by
  have := add_le_of_step h (Nat.le_of_lt hij) hj; omega

theorem le_self_of_step {f : Nat → Nat} {n : Nat} (h : ∀ j, j < n → f j < f (j + 1)) {j : Nat} (hj : j ≤ n) :
    j ≤ f j := by
  have := add_le_of_step h (Nat.zero_le j) hj; omega

namespace Layout
variable {b : BlockR} {kvs : List KV} {off : Nat → Nat} {R : Nat} {rs : Nat → Nat}

theorem off_lt (L : Layout b kvs off R rs) {i j : Nat} (hij : i < j) (hj : j ≤ kvs.length) : off i < off j :=
  lt_of_step L.mono hij hj

theorem off_add_le (L : Layout b kvs off R rs) {i j : Nat} (hij : i ≤ j) (hj : j ≤ kvs.length) :
    off i + (j - i) ≤ off j :=
  add_le_of_step L.mono hij hj

theorem off_le (L : Layout b kvs off R rs) {i j : Nat} (hij : i ≤ j) (hj : j ≤ kvs.length) : off i ≤ off j :=
  Nat.le_trans (Nat.le_add_right _ _) (L.off_add_le hij hj)

theorem off_inj (L : Layout b kvs off R rs) {i j : Nat} (hi : i ≤ kvs.length) (hj : j ≤ kvs.length)
    (h : off i = off j) : i = j := by
  rcases Nat.lt_trichotomy i j with hlt | heq | hgt
  · have := L.off_lt hlt hj; omega
  · exact heq
  · have := L.off_lt hgt hi; omega

theorem off_lt_iff (L : Layout b kvs off R rs) {i j : Nat} (hi : i ≤ kvs.length) (hj : j ≤ kvs.length) :
    off i < off j ↔ i < j := by
  constructor
  · intro h
    rcases Nat.lt_or_ge i j with hlt | hge
    · exact hlt
    · have := L.off_le hge hi; omega
  · intro h; exact L.off_lt h hj

theorem rs_lt (L : Layout b kvs off R rs) {p q : Nat} (hpq : p < q) (hq : q < R) : rs p < rs q :=
  lt_of_step (n := R - 1) (fun r hr => L.rmono r (by omega)) hpq (by omega)

theorem rs_le (L : Layout b kvs off R rs) {p q : Nat} (hpq : p ≤ q) (hq : q < R) : rs p ≤ rs q :=
  Nat.le_trans (Nat.le_add_right _ _)
    (add_le_of_step (n := R - 1) (fun r hr => L.rmono r (by omega)) hpq (by omega))

theorem rs_le_len (L : Layout b kvs off R rs) {r : Nat} (hr : r < R) : rs r ≤ kvs.length := by
  by_cases h : kvs = []
  · have h1 := L.rE h
    have : r = 0 := by omega
    subst this
    rw [L.rs0]; exact Nat.zero_le _
  · exact Nat.le_of_lt (L.rlt r hr h)

theorem le_off (L : Layout b kvs off R rs) {j : Nat} (hj : j ≤ kvs.length) : j ≤ off j :=
  le_self_of_step L.mono hj

/-- `restartsOffset + 1` passes are enough for every loop over entries -/
theorem fuel_ok (L : Layout b kvs off R rs) {j : Nat} (hj : j ≤ kvs.length) : j < b.restartsOffset + 1 := by
  have h1 := L.le_off hj
  have h2 := L.off_le hj (Nat.le_refl _)
  have h3 := L.offN
  omega

theorem keyOK_zero (L : Layout b kvs off R rs) (kb : Bytes) : KeyOK kvs R rs 0 kb := Or.inl ⟨0, L.rpos, L.rs0⟩

theorem off_succ (L : Layout b kvs off R rs) {j : Nat} (hj : j < kvs.length) :
    off j + (off (j + 1) - off j) = off (j + 1) := by
  have := L.mono j hj; omega

end Layout

variable {b : BlockR} {kvs : List KV} {off : Nat → Nat} {R : Nat} {rs : Nat → Nat}
variable {cmp : Bytes → Bytes → Ordering}

theorem Layout.decode (L : Layout b kvs off R rs) {j : Nat} (hj : j < kvs.length) {kb : Bytes}
    (hk : KeyOK kvs R rs j kb) :
    ∃ sh, b.entryAt (off j) = .ok sh ((kAt kvs j).drop sh) (vAt kvs j) (off (j + 1) - off j) ∧
      ¬ (sh > kb.length) ∧ kb.take sh ++ (kAt kvs j).drop sh = kAt kvs j := by
  obtain ⟨sh, he, hsh, hr, hp⟩ := L.entry j hj
  refine ⟨sh, he, ?_, ?_⟩
  · rcases hk with hk | ⟨h0, hk⟩
    · have := hr hk; omega
    · have := (hp h0).1; subst hk; omega
  · rcases hk with hk | ⟨h0, hk⟩
    · have := hr hk; subst this; simp
    · subst hk; rw [(hp h0).2, List.take_append_drop]

theorem kAt_lt (hs : StrictSorted cmp kvs) {i j : Nat} (hij : i < j) (hj : j < kvs.length) :
    cmp (kAt kvs i) (kAt kvs j) = .lt := by
  have := (List.pairwise_iff_getElem.1 hs) i j (by omega) hj hij
  simpa [kAt, List.getD, List.getElem?_eq_getElem hj, List.getElem?_eq_getElem (show i < kvs.length by omega)]
    using this

/-- the test `Seek(k)` applies to a pair: its key is not below `k` -/
def geK (cmp : Bytes → Bytes → Ordering) (k : Bytes) (e : KV) : Bool := cmp e.1 k != .lt

/-- where `Seek` stops: every earlier key is below the target, the key there (if any) is not -/
theorem findIdx_geK {key : Bytes} {j : Nat} (hj : j ≤ kvs.length) (hbelow : ∀ x, x < j → cmp (kAt kvs x) key = .lt)
    (hge : j < kvs.length → cmp (kAt kvs j) key ≠ .lt) : kvs.findIdx (geK cmp key) = j := by
  rcases Nat.lt_or_ge j kvs.length with hlt | hlen
  · rw [List.findIdx_eq hlt]
    refine ⟨by rw [getElem_kv hlt]; simpa [geK] using hge hlt, fun x hx => ?_⟩
    rw [getElem_kv (by omega)]
    simp [geK, hbelow x hx]
  · rw [Nat.le_antisymm hj hlen, List.findIdx_eq_length]
    intro e he
    obtain ⟨x, hx, rfl⟩ := List.getElem_of_mem he
    rw [getElem_kv hx]
    simp [geK, hbelow x (by omega)]

/-- `block.seek` over the restart slots `[q0, q1)`: the slot answered is the first of the range, or its key is not above
the target, so that every entry before it is below the target -/
theorem seekR_spec (L : Layout b kvs off R rs) (hc : LawfulCmp cmp) (hs : StrictSorted cmp kvs) {q0 q1 : Nat}
    (h01 : q0 < q1) (hq1 : q1 ≤ R) (key : Bytes) :
    ∃ q, b.seekR cmp q0 q1 key = some (q, off (rs q)) ∧ q0 ≤ q ∧ q < q1 ∧
      (q0 < q → ∀ x, x < rs q → cmp (kAt kvs x) key = .lt) := by
  have hsome : ∀ h, h < q1 - q0 → ∃ k, b.restartKey (q0 + h) = some k ∧ (kvs ≠ [] → k = kAt kvs (rs (q0 + h))) := by
    intro h hh
    by_cases he : kvs = []
    · have := L.rE he
      have e : q0 + h = 0 := by omega
      rw [e]
      obtain ⟨k, hk⟩ := Option.isSome_iff_exists.1 (L.rkeyE he)
      exact ⟨k, hk, fun hne => absurd he hne⟩
    · exact ⟨_, L.rkey _ (by omega) he, fun _ => rfl⟩
  obtain ⟨s, hss, hsn, hfalse, _⟩ := sortSearch_spec
    (fun i => (b.restartKey (q0 + i)).map fun k => cmp k key == .gt)
    (fun i => match b.restartKey (q0 + i) with | some k => cmp k key == .gt | none => false) (q1 - q0)
    (by intro h hh; obtain ⟨k, hk, _⟩ := hsome h hh; simp only [hk, Option.map_some])
  -- the index `block.seek` answers: `Search(…) + rstart - 1`, raised to `rstart` when below
  have hq : (if s + q0 - 1 < q0 then q0 else s + q0 - 1) = q0 + (s - 1) := by split <;> omega
  refine ⟨q0 + (s - 1), ?_, by omega, by omega, ?_⟩
  · unfold BlockR.seekR
    rw [hss]
    simp only [hq]
    rw [if_neg (by rw [L.rlen]; omega), L.roff _ (by omega)]
  · intro hlt x hx
    have hne : kvs ≠ [] := by
      intro he
      have := L.rE he
      omega
    obtain ⟨k, hk, hkk⟩ := hsome (s - 1) (by omega)
    have := hfalse (by omega)
    simp only [hk, hkk hne] at this
    exact hc.ord.lt_of_lt_of_le (kAt_lt hs hx (L.rlt _ (by omega) hne)) fun hgt => by simp [hgt] at this

end GoLevel.C13

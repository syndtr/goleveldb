import GoLevel.Proofs.JournalEncode
/-! The journal reader on well-formed input: the equations of the reader loop by position in the block, and the
round trip (the reader run over the encoding of records, followed by anything, delivers the records). -/
namespace GoLevel.Journal
open Sizes

theorem header_fields (ty : Nat) (p t : Bytes) (hty : ty < 256) (hp : p.length < 65536) :
    rd32 (chunkHeader ty p ++ t) = (CRC.crcValue (ty.toUInt8 :: p)).toNat ∧
    rd16 ((chunkHeader ty p ++ t).drop 4) = p.length ∧
    (chunkHeader ty p ++ t).getD 6 0 = ty.toUInt8 ∧
    (ty.toUInt8).toNat = ty := by
  simp only [chunkHeader, List.append_assoc]
  refine ⟨rd32_le32_append _ _ (UInt32.toNat_lt _), ?_, ?_, toNat_toUInt8_of_lt hty⟩
  · rw [List.drop_left' (le32_length _)]
    exact rd16_le16_append _ _ hp
  · rw [List.getD_eq_getElem?_getD, List.getElem?_append_right (by simp), le32_length,
      List.getElem?_append_right (by simp), le16_length]
    rfl

theorem decodeLoop_eof {s c st cur} (h : nextChunk s c cur.isNone st = .eof) :
    decodeLoop s c st cur = ⟨[], .eof⟩ := by
  rw [decodeLoop]; split <;> simp_all

theorem decodeLoop_corrupt {s c st cur n w} (h : nextChunk s c cur.isNone st = .corrupt n w) :
    decodeLoop s c st cur = ⟨[.drop n w], .corrupt⟩ := by
  rw [decodeLoop]; split <;> simp_all

theorem decodeLoop_skip {s c st cur n w st'} (h : nextChunk s c cur.isNone st = .skip n w st') :
    decodeLoop s c st cur = (decodeLoop s c st' none).cons (.drop n w) := by
  rw [decodeLoop]; split <;> simp_all

theorem decodeLoop_ok {s c st cur p l st'} (h : nextChunk s c cur.isNone st = .ok p l st') :
    decodeLoop s c st cur =
      if l then (decodeLoop s c st' none).cons (.record (cur.getD [] ++ p))
      else decodeLoop s c st' (some (cur.getD [] ++ p)) := by
  rw [decodeLoop]; split <;> simp_all

theorem decodeLoop_congr {s c st st' cur} (h : nextChunk s c cur.isNone st = nextChunk s c cur.isNone st') :
    decodeLoop s c st cur = decodeLoop s c st' cur := by
  cases h' : nextChunk s c cur.isNone st' with
  | eof => rw [decodeLoop_eof h', decodeLoop_eof (h.trans h')]
  | corrupt n w => rw [decodeLoop_corrupt h', decodeLoop_corrupt (h.trans h')]
  | skip n w st'' => rw [decodeLoop_skip h', decodeLoop_skip (h.trans h')]
  | ok p l st'' => rw [decodeLoop_ok h', decodeLoop_ok (h.trans h')]

/-- one round of the loop at the start of a block: it never goes round again -/
theorem nextChunkLoop_blockStart (s c f : Bool) (k : Nat) (rest : Bytes) :
    nextChunkLoop s c f (k + 1) ⟨0, rest⟩ =
      if headerSize ≤ min blockSize rest.length then parseChunk s c f 0 rest (min blockSize rest.length)
      else endOfStream s f ⟨0, rest⟩ := by
  have hlt := headerSize_lt_blockSize
  rw [nextChunkLoop]
  -- at offset 0 `n = min blockSize len`: short of a header means `n < blockSize`, the last block, or no block at all
  grind

/-- two rounds of the `for` loop of `nextChunk` always suffice: the fuel-exhausted branch of
    `nextChunkLoop` is never reached from `nextChunk` -/
theorem nextChunkLoop_fuel (s c f : Bool) (k : Nat) (st : RState) :
    nextChunkLoop s c f (k + 2) st = nextChunkLoop s c f 2 st := by
  rw [nextChunkLoop, nextChunkLoop]
  dsimp only
  rw [nextChunkLoop_blockStart, nextChunkLoop_blockStart _ _ _ 0]

theorem nextChunk_fit (s c f : Bool) (pos : Nat) (rest : Bytes) (hpos : pos + headerSize ≤ blockSize)
    (hr : headerSize ≤ rest.length) :
    nextChunk s c f ⟨pos, rest⟩ = parseChunk s c f pos rest (pos + min (blockSize - pos) rest.length) := by
  rw [nextChunk, nextChunkLoop, if_pos (by dsimp only; omega)]

/-- no header fits into the rest of the block: whatever these bytes are, the reader goes on to the next block -/
theorem nextChunk_blockEnd (s c f : Bool) (pos : Nat) (rest : Bytes) (hend : blockSize < pos + headerSize)
    (hl : blockSize - pos < rest.length) :
    nextChunk s c f ⟨pos, rest⟩ = nextChunk s c f ⟨0, rest.drop (blockSize - pos)⟩ := by
  have h7 := headerSize_eq
  have hlt := headerSize_lt_blockSize
  have hne : ¬ min blockSize (rest.drop (blockSize - pos)).length = 0 := by simp only [List.length_drop]; omega
  rw [nextChunk, nextChunkLoop]
  dsimp only
  rw [if_neg (by omega), if_neg (by omega), show pos + min (blockSize - pos) rest.length - pos = blockSize - pos by omega,
    if_neg hne, nextChunkLoop_blockStart, nextChunk, nextChunkLoop_blockStart _ _ _ 1]

theorem nextChunk_few (s c f : Bool) (st : RState) (h : st.rest.length < headerSize) :
    ∃ st', st'.rest.length < headerSize ∧ nextChunk s c f st = endOfStream s f st' := by
  rw [nextChunk, nextChunkLoop]
  dsimp only
  rw [if_neg (by omega)]
  split
  · exact ⟨st, h, rfl⟩
  split
  · exact ⟨st, h, rfl⟩
  · rw [nextChunkLoop_blockStart, if_neg (by simp only [List.length_drop]; omega)]
    exact ⟨_, by simp only [List.length_drop]; omega, rfl⟩

theorem decodeLoop_short_none (s c : Bool) (st : RState) (h : st.rest.length < headerSize) :
    decodeLoop s c st none = ⟨[], .eof⟩ := by
  obtain ⟨st', _, e⟩ := nextChunk_few s c true st h
  exact decodeLoop_eof (cur := none) e

theorem decodeLoop_corrupt_end {s c st cur n w st'} (h : nextChunk s c cur.isNone st = corrupt s n w false st')
    (hs : st'.rest.length < headerSize) :
    decodeLoop s c st cur = ⟨[.drop n w], if s then .corrupt else .eof⟩ := by
  cases s
  · rw [decodeLoop_skip h, decodeLoop_short_none _ _ _ hs]; rfl
  · rw [decodeLoop_corrupt h]; rfl

/-- fewer bytes than a header are left: the stream ends, inside a record with "missing chunk part" -/
theorem decodeLoop_few (s c : Bool) (st : RState) (cur : Option Bytes) (h : st.rest.length < headerSize) :
    decodeLoop s c st cur =
      if cur.isNone then ⟨[], .eof⟩ else ⟨[.drop 0 .missingPart], if s then .corrupt else .eof⟩ := by
  obtain ⟨st', hs', e⟩ := nextChunk_few s c cur.isNone st h
  cases cur with
  | none => exact decodeLoop_eof e
  | some acc => exact decodeLoop_corrupt_end e hs'

theorem decodeLoop_blockEnd (s c : Bool) (pos : Nat) (rest : Bytes) (cur : Option Bytes)
    (hend : blockSize < pos + headerSize) :
    decodeLoop s c ⟨pos, rest⟩ cur = decodeLoop s c ⟨0, rest.drop (blockSize - pos)⟩ cur := by
  have h7 := headerSize_eq
  by_cases hl : blockSize - pos < rest.length
  · exact decodeLoop_congr (nextChunk_blockEnd s c _ pos rest hend hl)
  · rw [decodeLoop_few _ _ ⟨pos, rest⟩ _ (by dsimp only; omega),
      decodeLoop_few _ _ ⟨0, _⟩ _ (by simp only [List.length_drop]; omega)]

theorem decodeLoop_blockSize (s c : Bool) (T : Bytes) (cur : Option Bytes) :
    decodeLoop s c ⟨blockSize, T⟩ cur = decodeLoop s c ⟨0, T⟩ cur := by
  have := headerSize_eq
  rw [decodeLoop_blockEnd _ _ _ _ _ (by omega), Nat.sub_self, List.drop_zero]

theorem decodeLoop_pad (s c : Bool) (pos : Nat) (T : Bytes) (cur : Option Bytes) :
    decodeLoop s c ⟨pos, (pad pos).1 ++ T⟩ cur = decodeLoop s c ⟨(pad pos).2, T⟩ cur := by
  unfold pad
  split
  · rw [decodeLoop_blockEnd _ _ _ _ _ (by omega), List.drop_left' (List.length_replicate ..)]
  · rfl

theorem parseChunk_chunk (s c first : Bool) (pos n : Nat) (cfirst l : Bool) (p more : Bytes)
    (hp : p.length < 65536) (hn : pos + headerSize + p.length ≤ n) :
    parseChunk s c first pos (chunk (chunkType cfirst l) p ++ more) n =
      if first ∧ cfirst = false then
        .skip (p.length + headerSize) .orphan ⟨pos + headerSize + p.length, more⟩
      else .ok p l ⟨pos + headerSize + p.length, more⟩ := by
  obtain ⟨r1, r2, r3, r4⟩ := chunkType_range cfirst l
  rw [chunk, List.append_assoc]
  obtain ⟨e1, e2, e3, e4⟩ := header_fields (chunkType cfirst l) p (p ++ more) r3 hp
  have e5 : ((chunkHeader (chunkType cfirst l) p ++ (p ++ more)).drop headerSize).take p.length = p := by
    rw [List.drop_left' (chunkHeader_length _ p), List.take_left' rfl]
  have e6 : (chunkHeader (chunkType cfirst l) p ++ (p ++ more)).drop (headerSize + p.length) = more := by
    rw [← List.append_assoc]; exact List.drop_left' (by rw [List.length_append, chunkHeader_length])
  unfold parseChunk
  simp only [e1, e2, e3, e4, e5, e6]
  have hlast := chunkType_last cfirst l
  have hfirst := chunkType_first cfirst l
  rw [if_neg (by omega), if_neg (by omega), if_neg (by omega), if_neg (by simp)]
  by_cases hf : first = true ∧ cfirst = false
  · rw [if_pos ⟨hf.1, hfirst.2 hf.2⟩, if_pos hf]; simp [corrupt]
  · rw [if_neg (fun h => hf ⟨h.1, hfirst.1 h.2⟩), if_neg hf]
    cases l <;> simp_all

theorem nextChunk_chunk (s c first : Bool) (pos : Nat) (cfirst l : Bool) (p more : Bytes)
    (hfit : pos + headerSize + p.length ≤ blockSize) :
    nextChunk s c first ⟨pos, chunk (chunkType cfirst l) p ++ more⟩ =
      if first ∧ cfirst = false then .skip (p.length + headerSize) .orphan ⟨pos + headerSize + p.length, more⟩
      else .ok p l ⟨pos + headerSize + p.length, more⟩ := by
  have h16 := blockSize_lt_u16
  rw [nextChunk_fit _ _ _ _ _ (by omega) (by rw [List.length_append, chunk_length]; omega)]
  exact parseChunk_chunk s c first pos _ cfirst l p more (by omega)
    (by rw [List.length_append, chunk_length]; omega)

theorem decodeLoop_chunk (s c : Bool) (pos : Nat) (cur : Option Bytes) (cfirst l : Bool) (p more : Bytes)
    (hfit : pos + headerSize + p.length ≤ blockSize) (hf : cur = none → cfirst = true) :
    decodeLoop s c ⟨pos, chunk (chunkType cfirst l) p ++ more⟩ cur =
      if l then (decodeLoop s c ⟨pos + headerSize + p.length, more⟩ none).cons (.record (cur.getD [] ++ p))
      else decodeLoop s c ⟨pos + headerSize + p.length, more⟩ (some (cur.getD [] ++ p)) := by
  have hn := nextChunk_chunk s c cur.isNone pos cfirst l p more hfit
  rw [if_neg (by cases cur <;> simp_all)] at hn
  exact decodeLoop_ok hn

theorem decodeLoop_fillChunk (s c : Bool) (pos : Nat) (cur : Option Bytes) (cfirst : Bool) (x more : Bytes) (a : Nat)
    (ha : pos + headerSize + a = blockSize) (hx : a ≤ x.length) (hf : cur = none → cfirst = true) :
    decodeLoop s c ⟨pos, chunk (chunkType cfirst false) (x.take a) ++ more⟩ cur =
      decodeLoop s c ⟨blockSize, more⟩ (some (cur.getD [] ++ x.take a)) := by
  rw [decodeLoop_chunk _ _ _ _ _ _ _ _ (by rw [List.length_take_of_le hx, ha]; exact Nat.le_refl _) hf,
    List.length_take_of_le hx, ha]
  rfl

theorem decodeLoop_orphan (s c : Bool) (pos : Nat) (l : Bool) (p more : Bytes)
    (hfit : pos + headerSize + p.length ≤ blockSize) :
    decodeLoop s c ⟨pos, chunk (chunkType false l) p ++ more⟩ none =
      (decodeLoop s c ⟨pos + headerSize + p.length, more⟩ none).cons (.drop (p.length + headerSize) .orphan) := by
  have hn := nextChunk_chunk s c true pos false l p more hfit
  rw [if_pos ⟨rfl, rfl⟩] at hn
  exact decodeLoop_skip (cur := none) hn

/-- the reader over the chunks of a record: `cur` is what it has of the record so far -/
theorem decodeLoop_chunksAt (s c : Bool) (i : Nat) (first : Bool) (x more : Bytes) (cur : Option Bytes)
    (hi : i + headerSize ≤ blockSize) (h0 : first = false → i = 0) (hf : cur = none → first = true) :
    decodeLoop s c ⟨i, (chunksAt i first x).1 ++ more⟩ cur =
      (decodeLoop s c ⟨(chunksAt i first x).2, more⟩ none).cons (.record (cur.getD [] ++ x)) := by
  revert cur
  refine chunksAt_ind ?_ ?_ i first x hi h0
  · intro i first x hi h0 h cur hf
    rw [chunksAt_last i first x h h0, decodeLoop_chunk _ _ _ _ _ _ _ _ h hf]; rfl
  · intro i first x a hi h0 ha hx ih cur hf
    rw [chunksAt_fill i first x a ha hx h0, List.append_assoc,
      decodeLoop_fillChunk s c i cur first x _ a ha (by omega) hf, decodeLoop_blockSize, ih (some _) nofun]
    simp [List.append_assoc]

theorem decodeLoop_emitRecord (s c : Bool) (pos : Nat) (rec more : Bytes) :
    decodeLoop s c ⟨pos, (emitRecord pos rec).1 ++ more⟩ none =
      (decodeLoop s c ⟨(emitRecord pos rec).2, more⟩ none).cons (.record rec) := by
  rw [emitRecord_eq, List.append_assoc, decodeLoop_pad,
    decodeLoop_chunksAt _ _ _ true _ _ none (pad_pos_le pos) nofun (fun _ => rfl)]
  rfl

theorem decodeLoop_encodeFrom (s c : Bool) (pos : Nat) (rs : List Bytes) (more : Bytes) :
    decodeLoop s c ⟨pos, encodeFrom pos rs ++ more⟩ none =
      let r := decodeLoop s c ⟨endPos pos rs, more⟩ none
      ⟨rs.map .record ++ r.events, r.final⟩ := by
  induction rs generalizing pos with
  | nil => simp [encodeFrom, endPos]
  | cons r rs ih =>
    simp only [encodeFrom, endPos, List.append_assoc]
    rw [decodeLoop_emitRecord, ih]
    simp [DecodeResult.cons]

theorem eventRecords_map_record (rs : List Bytes) : eventRecords (rs.map .record) = rs := by
  induction rs with
  | nil => rfl
  | cons r rs ih => simp [eventRecords, ih]

theorem eventDrops_map_record (rs : List Bytes) : eventDrops (rs.map .record) = [] := by
  induction rs with
  | nil => rfl
  | cons r rs ih => simp [eventDrops, ih]

theorem eventRecords_map_drop (xs : List Nat) (w : DropReason) : eventRecords (xs.map (.drop · w)) = [] := by
  induction xs with
  | nil => rfl
  | cons x xs ih => simpa [eventRecords] using ih

theorem eventDrops_map_drop (xs : List Nat) (w : DropReason) :
    eventDrops (xs.map (.drop · w)) = xs.map (·, w) := by
  induction xs with
  | nil => rfl
  | cons x xs ih => simp [eventDrops, ih]

theorem decodeLoop_encodeFrom_end (s c : Bool) (pos : Nat) (rs : List Bytes) :
    decodeLoop s c ⟨pos, encodeFrom pos rs⟩ none = ⟨rs.map .record, .eof⟩ := by
  have := decodeLoop_encodeFrom s c pos rs []
  simp only [List.append_nil] at this
  rw [this, decodeLoop_short_none _ _ _ (by simp [headerSize_eq])]
  simp

end GoLevel.Journal

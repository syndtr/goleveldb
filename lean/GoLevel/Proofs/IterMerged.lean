import GoLevel.Proofs.IterMergedAux
/-!
# The merged iterator simulates the cursor over the sorted union of its children (C02)

Invariant `Rel`: child `x` stands at `ps x` and `keys[x]` is the key under it (`Base`); when the merged cursor is at
`U[i] = e`, child `index` stands on `e`, the heap holds exactly the other valid children, and every child stands on
its first entry `≥ e` (after forward movement) or on its last entry `≤ e` (after backward movement).
-/
namespace GoLevel

structure MergeOK (c : UCmp) (Ls : List (List Entry)) (U : List Entry) : Prop where
  sortedU  : SortedEntries c U
  mem      : ∀ e, e ∈ U ↔ ∃ L ∈ Ls, e ∈ L
  sortedL  : ∀ L ∈ Ls, SortedEntries c L
  distinct : ∀ (i j : Nat) (Li Lj : List Entry) (a b : Entry), i ≠ j → Ls[i]? = some Li → Ls[j]? = some Lj → a ∈ Li → b ∈ Lj → a.key ≠ b.key

/-- `MergeOK` is: `U` holds the children's entries in sorted order and every child is sorted.  Keys are then
distinct across children because they are distinct in `U`. -/
theorem MergeOK.of_perm {c : UCmp} (hl : LawfulUCmp c) {Ls : List (List Entry)} {U : List Entry}
    (hU : SortedEntries c U) (hp : U.Perm Ls.flatten) (hL : ∀ L ∈ Ls, SortedEntries c L) : MergeOK c Ls U where
  sortedU := hU
  mem := fun e => by rw [hp.mem_iff, List.mem_flatten]
  sortedL := hL
  distinct := by
    intro i j Li Lj a b hij hi hj ha hb
    have hd : Ls.flatten.Pairwise (fun a b => a.key ≠ b.key) :=
      (List.Perm.pairwise_iff (fun {a b} (h : a.key ≠ b.key) => h.symm) hp).1
        (hU.imp fun {a b} (h : icmp c a.key b.key = .lt) (e : a.key = b.key) => (icmp_ord hl).irrefl b.key (e ▸ h))
    have hd := (List.pairwise_flatten.1 hd).2
    rcases Nat.lt_or_ge i j with h | h
    · exact hd.of_getElem? h hi hj a ha b hb
    · exact (hd.of_getElem? (Nat.lt_of_le_of_ne h (Ne.symm hij)) hj hi b hb a ha).symm

namespace MergedIter
variable {σ : Type}

structure Base (Rs : Nat → σ → Pos → Prop) (Ls : List (List Entry)) (m : MergedIter σ) (ps : Nat → Pos) :
    Prop where
  ilen : m.iters.length = Ls.length
  klen : m.keys.length = Ls.length
  rel  : ∀ x s, m.iters[x]? = some s → Rs x s (ps x)
  key  : ∀ x L, Ls[x]? = some L → keyAt m.keys x = (Cursor.get L (ps x)).map (·.key)

def HeapAll (n : Nat) (m : MergedIter σ) : Prop :=
  m.heap.Nodup ∧ ∀ x, x ∈ m.heap ↔ x < n ∧ (keyAt m.keys x).isSome

def HeapBut (n x0 : Nat) (m : MergedIter σ) : Prop :=
  m.heap.Nodup ∧ ∀ x, x ∈ m.heap ↔ x < n ∧ x ≠ x0 ∧ (keyAt m.keys x).isSome

def PosInv (c : UCmp) (Ls : List (List Entry)) (U : List Entry) (m : MergedIter σ) (ps : Nat → Pos) :
    Pos → Prop
  | .soi => m.dir = .soi
  | .eoi => m.dir = .eoi
  | .at i => ∃ e L, U[i]? = some e ∧ Ls[m.index]? = some L ∧ Cursor.get L (ps m.index) = some e ∧
      HeapBut Ls.length m.index m ∧
      ((m.dir = .forward ∧ m.reverse = false ∧
          ∀ x L', Ls[x]? = some L' → ps x = Cursor.seek L' (geKey c e.key)) ∨
       (m.dir = .backward ∧ m.reverse = true ∧
          ∀ x L', Ls[x]? = some L' → ps x = Cursor.bseek L' (gtKey c e.key)))

def Rel (_o : IterOps σ) (c : UCmp) (Rs : Nat → σ → Pos → Prop)
    (Ls : List (List Entry)) (U : List Entry) (m : MergedIter σ) (p : Pos) : Prop :=
  ∃ ps, Base Rs Ls m ps ∧ PosInv c Ls U m ps p

theorem rel_new (o : IterOps σ) (c : UCmp) (Rs : Nat → σ → Pos → Prop)
    (Ls : List (List Entry)) (U : List Entry) (ss : List σ) (hlen : ss.length = Ls.length)
    (h0 : ∀ i s, ss[i]? = some s → Rs i s .soi) :
    Rel o c Rs Ls U (MergedIter.new ss) .soi := by
  refine ⟨fun _ => .soi, ⟨hlen, by simp [new, hlen], h0, ?_⟩, rfl⟩
  intro x L _
  simp only [new, keyAt, Cursor.get, Option.map_none, List.getElem?_map]
  cases ss[x]? <;> rfl

theorem keyAt_set {keys : List (Option IKey)} {i : Nat} (h : i < keys.length) (v : Option IKey) (x : Nat) :
    keyAt (keys.set i v) x = if x = i then v else keyAt keys x := by
  unfold keyAt
  rw [List.getElem?_set]
  by_cases hx : x = i
  · subst hx; simp [h]
  · have : ¬ i = x := fun h => hx h.symm
    simp [hx, this]

theorem less_eq {c : UCmp} {rev : Bool} {keys : List (Option IKey)} {i j : Nat} {a b : IKey}
    (hi : keyAt keys i = some a) (hj : keyAt keys j = some b) :
    less c rev keys i j = (icmp c a b == if rev then .gt else .lt) := by
  cases rev <;> simp [less, hi, hj]

theorem less_some {c : UCmp} {rev : Bool} {keys : List (Option IKey)} {i j : Nat}
    (h : less c rev keys i j = true) :
    ∃ a b, keyAt keys i = some a ∧ keyAt keys j = some b ∧ icmp c a b = if rev then .gt else .lt := by
  unfold less at h
  split at h
  · rename_i a b hi hj
    exact ⟨a, b, hi, hj, by cases rev <;> simpa using h⟩
  · cases h

theorem icmp_dir_trans {c : UCmp} (hl : LawfulUCmp c) (r : Bool) {a b d : IKey}
    (h1 : icmp c a b = if r then .gt else .lt) (h2 : icmp c b d = if r then .gt else .lt) :
    icmp c a d = if r then .gt else .lt := by
  cases r with
  | false => exact icmp_trans hl _ _ _ h1 h2
  | true =>
    simp only [if_true] at h1 h2 ⊢
    rw [icmp_gt_iff hl] at h1 h2 ⊢
    exact icmp_trans hl _ _ _ h2 h1

theorem less_trans {c : UCmp} (hl : LawfulUCmp c) (rev : Bool) (keys : List (Option IKey)) (i j k : Nat)
    (h1 : less c rev keys i j = true) (h2 : less c rev keys j k = true) : less c rev keys i k = true := by
  obtain ⟨a, b, hi, hj, h1⟩ := less_some h1
  obtain ⟨b', d, hj', hk, h2⟩ := less_some h2
  rw [hj] at hj'; cases hj'
  rw [less_eq hi hk, beq_iff_eq]
  exact icmp_dir_trans hl rev h1 h2

theorem less_total {c : UCmp} (hl : LawfulUCmp c) (rev : Bool) {keys : List (Option IKey)} {i j : Nat} {a b : IKey}
    (hi : keyAt keys i = some a) (hj : keyAt keys j = some b) (hne : a ≠ b) :
    less c rev keys i j = true ∨ less c rev keys j i = true := by
  rw [less_eq hi hj, less_eq hj hi, beq_iff_eq, beq_iff_eq]
  rcases (icmp_ord hl).total a b with h | h | h
  · cases rev
    · exact .inl h
    · exact .inr ((icmp_gt_iff hl b a).2 h)
  · exact absurd h hne
  · cases rev
    · exact .inr h
    · exact .inl ((icmp_gt_iff hl a b).2 h)

section main
variable {c : UCmp} (hl : LawfulUCmp c) {Rs : Nat → σ → Pos → Prop}
  {Ls : List (List Entry)} {U : List Entry} (hok : MergeOK c Ls U)

omit hl in
theorem MergeOK_memU {x : Nat} {L : List Entry} {e : Entry} (hok : MergeOK c Ls U) (hL : Ls[x]? = some L)
    (he : e ∈ L) : e ∈ U :=
  (hok.mem e).2 ⟨L, List.mem_of_getElem? hL, he⟩

omit hl in
theorem MergeOK_child {e : Entry} (hok : MergeOK c Ls U) (he : e ∈ U) : ∃ (x : Nat) (L : List Entry), Ls[x]? = some L ∧ e ∈ L := by
  obtain ⟨L, hLm, heL⟩ := (hok.mem e).1 he
  obtain ⟨x, hL⟩ := List.mem_iff_getElem?.1 hLm
  exact ⟨x, L, hL, heL⟩

theorem Base.cur_of_valid {m : MergedIter σ} {ps : Nat → Pos} (hb : Base Rs Ls m ps) {x : Nat}
    (hx : x < Ls.length) (hk : (keyAt m.keys x).isSome) :
    ∃ e, Cursor.get Ls[x] (ps x) = some e ∧ keyAt m.keys x = some e.key := by
  rw [hb.key x _ (List.getElem?_eq_getElem hx)] at hk ⊢
  cases h : Cursor.get Ls[x] (ps x) with
  | none => rw [h] at hk; cases hk
  | some e => exact ⟨e, rfl, rfl⟩

theorem Base.key_of_cur {m : MergedIter σ} {ps : Nat → Pos} (hb : Base Rs Ls m ps) {x : Nat} {L : List Entry}
    (hL : Ls[x]? = some L) {e : Entry} (he : Cursor.get L (ps x) = some e) :
    keyAt m.keys x = some e.key := by
  rw [hb.key x L hL, he]; rfl

omit hl hok in
theorem Base.congr {m m' : MergedIter σ} {ps : Nat → Pos} (hb : Base Rs Ls m ps) (hi : m'.iters = m.iters)
    (hk : m'.keys = m.keys) : Base Rs Ls m' ps :=
  ⟨hi ▸ hb.ilen, hk ▸ hb.klen, hi ▸ hb.rel, hk ▸ hb.key⟩

omit hl hok in
theorem HeapAll.pop {n : Nat} {m : MergedIter σ} (hh : HeapAll n m) (b : Nat) (d : Dir) :
    HeapBut n b { m with index := b, heap := m.heap.erase b, dir := d } := by
  refine ⟨hh.1.erase b, fun x => ?_⟩
  show x ∈ m.heap.erase b ↔ _
  rw [hh.1.mem_erase_iff, hh.2]
  exact ⟨fun ⟨h1, h2, h3⟩ => ⟨h2, h1, h3⟩, fun ⟨h1, h2, h3⟩ => ⟨h2, h1, h3⟩⟩

include hl hok in
/-- children with a key stand on entries of their lists, which have distinct keys: `Less` is total on them, and the
child popped is strictly before every other one in the heap -/
theorem pop_best {m : MergedIter σ} {ps : Nat → Pos} (hb : Base Rs Ls m ps) (hh : HeapAll Ls.length m) :
    (m.heap = [] ∧ pop c m = none) ∨
    ∃ b ∈ m.heap, pop c m = some (b, m.heap.erase b) ∧
      ∀ z ∈ m.heap, z ≠ b → less c m.reverse m.keys b z = true := by
  unfold pop
  cases hheap : m.heap with
  | nil => exact .inl ⟨rfl, rfl⟩
  | cons x0 xs =>
    exact .inr ⟨_, argBest_mem _ xs x0, rfl,
      argBest_spec _ (fun a => a < Ls.length ∧ (keyAt m.keys a).isSome) (less_trans hl m.reverse m.keys) (by
        intro a b ⟨ha, hka⟩ ⟨hb', hkb⟩ hab
        obtain ⟨ea, hea, hka⟩ := hb.cur_of_valid ha hka
        obtain ⟨eb, heb, hkb⟩ := hb.cur_of_valid hb' hkb
        exact less_total hl m.reverse hka hkb (hok.distinct a b _ _ ea eb hab (List.getElem?_eq_getElem ha)
          (List.getElem?_eq_getElem hb') (Cursor.get_mem hea) (Cursor.get_mem heb))) xs x0
        fun z hz => (hh.2 z).1 (hheap ▸ hz)⟩

include hl hok in
theorem pop_cases {m : MergedIter σ} {ps : Nat → Pos} (hb : Base Rs Ls m ps) (hh : HeapAll Ls.length m) :
    (pop c m = none ∧ ∀ x L, Ls[x]? = some L → Cursor.get L (ps x) = none) ∨
    ∃ b Lb e', pop c m = some (b, m.heap.erase b) ∧ Ls[b]? = some Lb ∧ Cursor.get Lb (ps b) = some e' ∧
      ∀ x L cx, x ≠ b → Ls[x]? = some L → Cursor.get L (ps x) = some cx →
        icmp c e'.key cx.key = (if m.reverse then .gt else .lt) := by
  have hvalid : ∀ x L cx, Ls[x]? = some L → Cursor.get L (ps x) = some cx → x ∈ m.heap := fun x L cx hL hcx =>
    (hh.2 x).2 ⟨getElem?_lt hL, by rw [hb.key_of_cur hL hcx]; rfl⟩
  rcases pop_best hl hok hb hh with ⟨hnil, hpop⟩ | ⟨b, hbm, hpop, hbest⟩
  · refine .inl ⟨hpop, fun x L hL => ?_⟩
    cases h : Cursor.get L (ps x) with
    | none => rfl
    | some e => have := hvalid x L e hL h; rw [hnil] at this; cases this
  · obtain ⟨hbl, hkb⟩ := (hh.2 b).1 hbm
    obtain ⟨e', he', hkb⟩ := hb.cur_of_valid hbl hkb
    refine .inr ⟨b, _, e', hpop, List.getElem?_eq_getElem hbl, he', fun x L cx hxb hL hcx => ?_⟩
    have := hbest x (hvalid x L cx hL hcx) hxb
    rwa [less_eq hkb (hb.key_of_cur hL hcx), beq_iff_eq] at this

omit hl in
include hok in
theorem test_eq_of_none {ps : Nat → Pos} {r : Bool} {t : Entry → Bool}
    (hps : ∀ x L, Ls[x]? = some L → Foremost c r t L (ps x))
    (hnone : ∀ x L, Ls[x]? = some L → Cursor.get L (ps x) = none) : ∀ y ∈ U, t y = r := by
  intro y hy
  obtain ⟨x, L, hL, hyL⟩ := MergeOK_child hok hy
  apply Decidable.byContradiction
  intro h
  obtain ⟨cx, hcx, _⟩ := (hps x L hL).2 y hyL (Bool.eq_not_of_ne h)
  rw [hnone x L hL] at hcx; cases hcx

include hl hok in
/-- `e'` under child `b` is strictly before the entries under the other children (`pop_cases`), so it is the
foremost entry of `U` passing `t`: on `U` the test `t` says "not before `e'`" -/
theorem test_eq_of_best {ps : Nat → Pos} {r : Bool} {t : Entry → Bool} (hmono : Mono c U t)
    (hps : ∀ x L, Ls[x]? = some L → Foremost c r t L (ps x)) {b : Nat} {Lb : List Entry} {e' : Entry}
    (hLb : Ls[b]? = some Lb) (he' : Cursor.get Lb (ps b) = some e')
    (hbest : ∀ x L cx, x ≠ b → Ls[x]? = some L → Cursor.get L (ps x) = some cx →
      icmp c e'.key cx.key = (if r then .gt else .lt)) :
    ∀ y ∈ U, t y = if r then gtKey c e'.key y else geKey c e'.key y := by
  have hin := (hps b Lb hLb).1 e' he'
  have heU : e' ∈ U := MergeOK_memU hok hLb (Cursor.get_mem he')
  -- no entry passing the test is before `e'`: its own child stands on one that is not after it
  have hext : ∀ y ∈ U, t y = !r → icmp c y.key e'.key ≠ (if r then .gt else .lt) := by
    intro y hy hty
    obtain ⟨x, L, hL, hyL⟩ := MergeOK_child hok hy
    obtain ⟨cx, hcx, hle⟩ := (hps x L hL).2 y hyL hty
    by_cases hxb : x = b
    · subst hxb; rw [hLb] at hL; cases hL; rw [he'] at hcx; cases hcx; exact hle
    · exact fun h => hle (icmp_dir_trans hl r h (hbest x L cx hxb hL hcx))
  intro y hy
  cases r with
  | false =>
    show t y = (icmp c y.key e'.key != .lt)
    cases hty : t y with
    | true => exact (bne_iff_ne.2 (hext y hy hty)).symm
    | false =>
      rcases (icmp_ord hl).total y.key e'.key with h | h | h
      · rw [h]; rfl
      · rw [ESorted.key_inj hl hok.sortedU hy heU h, hin] at hty; cases hty
      · rw [hmono e' y heU hy hin h] at hty; cases hty
  | true =>
    show t y = (icmp c y.key e'.key == .gt)
    cases hty : t y with
    | false => exact (beq_eq_false_iff_ne.2 (hext y hy hty)).symm
    | true =>
      rcases (icmp_ord hl).total y.key e'.key with h | h | h
      · rw [hmono y e' hy heU hty h] at hin; cases hin
      · rw [ESorted.key_inj hl hok.sortedU hy heU h, hin] at hty; cases hty
      · rw [(icmp_gt_iff hl _ _).2 h]; rfl

include hl hok in
theorem rel_popNext (o : IterOps σ) {m : MergedIter σ} {ps : Nat → Pos} (hb : Base Rs Ls m ps)
    (hh : HeapAll Ls.length m) (hrev : m.reverse = false) (ge : Entry → Bool) (hmono : Mono c U ge)
    (hps : ∀ x L, Ls[x]? = some L → ps x = Cursor.seek L ge) :
    Rel o c Rs Ls U (popNext c m) (Cursor.seek U ge) ∧ (popNext c m).dir ≠ .backward := by
  have hfm : ∀ x L, Ls[x]? = some L → Foremost c false ge L (ps x) := fun x L hL =>
    hps x L hL ▸ seek_foremost hl (hok.sortedL L (List.mem_of_getElem? hL)) ge
  unfold popNext
  rcases pop_cases hl hok hb hh with ⟨hpop, hnone⟩ | ⟨b, Lb, e', hpop, hLb, he', hbest⟩
  · rw [hpop, Cursor.seek_eq_eoi (test_eq_of_none hok hfm hnone)]
    exact ⟨⟨ps, hb.congr rfl rfl, rfl⟩, by simp⟩
  · rw [hrev] at hbest
    have hcongr : ∀ y ∈ U, ge y = geKey c e'.key y := test_eq_of_best hl hok hmono hfm hLb he' hbest
    obtain ⟨i, hi⟩ := List.mem_iff_getElem?.1 (MergeOK_memU hok hLb (Cursor.get_mem he'))
    rw [hpop, Cursor.seek_congr hcongr, seek_self hl hok.sortedU hi]
    refine ⟨⟨ps, hb.congr rfl rfl, e', Lb, hi, hLb, he', hh.pop b _, .inl ⟨rfl, hrev, fun x L hL => ?_⟩⟩, by simp⟩
    rw [hps x L hL]
    exact Cursor.seek_congr (fun y hy => hcongr y (MergeOK_memU hok hL hy))

include hl hok in
theorem rel_popPrev (o : IterOps σ) {m : MergedIter σ} {ps : Nat → Pos} (hb : Base Rs Ls m ps)
    (hh : HeapAll Ls.length m) (hrev : m.reverse = true) (gt : Entry → Bool) (hmono : Mono c U gt)
    (hps : ∀ x L, Ls[x]? = some L → ps x = Cursor.bseek L gt) :
    Rel o c Rs Ls U (popPrev c m) (Cursor.bseek U gt) := by
  have hfm : ∀ x L, Ls[x]? = some L → Foremost c true gt L (ps x) := fun x L hL =>
    hps x L hL ▸ bseek_foremost hl (hok.sortedL L (List.mem_of_getElem? hL))
      (fun a b ha hb => hmono a b (MergeOK_memU hok hL ha) (MergeOK_memU hok hL hb))
  unfold popPrev
  rcases pop_cases hl hok hb hh with ⟨hpop, hnone⟩ | ⟨b, Lb, e', hpop, hLb, he', hbest⟩
  · rw [hpop, Cursor.bseek_eq_soi (test_eq_of_none hok hfm hnone)]
    exact ⟨ps, hb.congr rfl rfl, rfl⟩
  · rw [hrev] at hbest
    have hcongr : ∀ y ∈ U, gt y = gtKey c e'.key y := test_eq_of_best hl hok hmono hfm hLb he' hbest
    obtain ⟨i, hi⟩ := List.mem_iff_getElem?.1 (MergeOK_memU hok hLb (Cursor.get_mem he'))
    rw [hpop, Cursor.bseek_congr hcongr, bseek_self hl hok.sortedU hi]
    refine ⟨ps, hb.congr rfl rfl, e', Lb, hi, hLb, he', hh.pop b _, .inr ⟨rfl, hrev, fun x L hL => ?_⟩⟩
    rw [hps x L hL]
    exact Cursor.bseek_congr (fun y hy => hcongr y (MergeOK_memU hok hL hy))

end main
section ops
variable {c : UCmp} {o : IterOps σ} {Rs : Nat → σ → Pos → Prop}
  {Ls : List (List Entry)} (hch : ∀ i L, Ls[i]? = some L → Sim o c L (Rs i))

include hch in
theorem Base.of_keys {m : MergedIter σ} {ps : Nat → Pos} (hi : m.iters.length = Ls.length)
    (hk : m.keys.length = Ls.length)
    (h : ∀ x s, m.iters[x]? = some s → Rs x s (ps x) ∧ keyAt m.keys x = keyOf o s) : Base Rs Ls m ps :=
  ⟨hi, hk, fun x s hs => (h x s hs).1, fun x L hL => by
    have hs := List.getElem?_eq_getElem (hi ▸ getElem?_lt hL : x < m.iters.length)
    rw [(h x _ hs).2, keyOf, (hch x L hL).cur _ _ (h x _ hs).1]⟩

include hch in
theorem Base.key_eq {m : MergedIter σ} {ps : Nat → Pos} (hb : Base Rs Ls m ps) {x : Nat} {s : σ}
    (hs : m.iters[x]? = some s) : keyAt m.keys x = keyOf o s := by
  have hL := List.getElem?_eq_getElem (hb.ilen ▸ getElem?_lt hs : x < Ls.length)
  rw [hb.key x _ hL, keyOf, (hch x _ hL).cur _ _ (hb.rel x s hs)]

omit hch in
theorem resetAll_keyAt (rev : Bool) (f : σ → σ) (m : MergedIter σ) {x : Nat} {s : σ}
    (hs : (resetAll o rev f m).iters[x]? = some s) : keyAt (resetAll o rev f m).keys x = keyOf o s := by
  show (((resetAll o rev f m).iters.map (keyOf o))[x]?).join = _
  rw [List.getElem?_map, hs]; rfl

omit hch in
theorem turnBack_keyAt (key : IKey) (m : MergedIter σ) {x : Nat} {s : σ}
    (hs : (turnBack o key m).iters[x]? = some s) :
    keyAt (turnBack o key m).keys x = if x = m.index then keyAt m.keys x else keyOf o s := by
  show (((turnBack o key m).iters.mapIdx _)[x]?).join = _
  rw [List.getElem?_mapIdx, hs]; rfl

omit hch in
theorem turnBack_iters_index (key : IKey) (m : MergedIter σ) :
    (turnBack o key m).iters[m.index]? = m.iters[m.index]? := by
  show (m.iters.mapIdx _)[m.index]? = _
  rw [List.getElem?_mapIdx]
  cases m.iters[m.index]? <;> simp

include hch in
/-- The children are moved by a call `cl`, so that `Sim.step` says where each lands; `o.step .first` is `o.first`
by definition, which is how the methods of the model match. -/
theorem resetAll_base {m : MergedIter σ} {ps : Nat → Pos} (hb : Base Rs Ls m ps) (rev : Bool) (cl : Call IKey)
    (d : Dir) :
    ∃ q, (∀ x L, Ls[x]? = some L → q x = Cursor.step L (geKey c) cl (ps x)) ∧
      Base Rs Ls { resetAll o rev (o.step cl) m with dir := d } q ∧
      HeapAll Ls.length { resetAll o rev (o.step cl) m with dir := d } := by
  have hq : ∀ (x : Nat) L, Ls[x]? = some L →
      Cursor.step ((Ls[x]?).getD []) (geKey c) cl (ps x) = Cursor.step L (geKey c) cl (ps x) :=
    fun x L hL => by rw [hL]; rfl
  have hilen : (m.iters.map (o.step cl)).length = Ls.length := (List.length_map _).trans hb.ilen
  refine ⟨_, hq, Base.of_keys hch hilen ((List.length_map _).trans hilen) ?_, ?_, ?_⟩
  · intro x s (hs : (m.iters.map (o.step cl))[x]? = some s)
    refine ⟨?_, resetAll_keyAt rev _ m hs⟩
    obtain ⟨s0, h, rfl⟩ := List.getElem?_map.symm.trans hs |> Option.map_eq_some_iff.1
    have hL := List.getElem?_eq_getElem (hb.ilen ▸ getElem?_lt h)
    rw [hq x _ hL]
    exact (hch x _ hL).step cl s0 _ (hb.rel x s0 h)
  · exact List.Nodup.sublist List.filter_sublist List.nodup_range
  · intro x
    simp only [resetAll, List.mem_filter, List.mem_range, hilen]

theorem stepIndex_eq {m : MergedIter σ} {s : σ} (f : σ → σ) (h : m.iters[m.index]? = some s) :
    stepIndex o f m = { m with iters := m.iters.set m.index (f s),
                               keys := m.keys.set m.index (keyOf o (f s)),
                               heap := if (keyOf o (f s)).isSome then m.heap ++ [m.index] else m.heap } := by
  simp only [stepIndex, h]
  split <;> simp [keyOf, *]

omit hch in
theorem HeapBut.push {n : Nat} {m : MergedIter σ} (hbut : HeapBut n m.index m) (hx : m.index < n)
    (hxk : m.index < m.keys.length) (its : List σ) (v : Option IKey) :
    HeapAll n { m with iters := its, keys := m.keys.set m.index v,
                       heap := if v.isSome then m.heap ++ [m.index] else m.heap } := by
  have hnot : ¬ m.index ∈ m.heap := fun h => ((hbut.2 _).1 h).2.1 rfl
  cases v with
  | none =>
    refine ⟨hbut.1, fun x => ?_⟩
    show x ∈ m.heap ↔ x < n ∧ (keyAt (m.keys.set m.index none) x).isSome
    rw [keyAt_set hxk, hbut.2]
    by_cases hxe : x = m.index <;> simp [hxe]
  | some k =>
    refine ⟨List.nodup_append.2 ⟨hbut.1, by simp, fun a ha b hb => ?_⟩, fun x => ?_⟩
    · rw [List.mem_singleton.1 hb]; exact fun e => hnot (e ▸ ha)
    · show x ∈ m.heap ++ [m.index] ↔ x < n ∧ (keyAt (m.keys.set m.index (some k)) x).isSome
      rw [List.mem_append, List.mem_singleton, keyAt_set hxk, hbut.2]
      by_cases hxe : x = m.index <;> simp [hxe, hx]

include hch in
theorem stepIndex_base {m : MergedIter σ} {ps : Nat → Pos} (hb : Base Rs Ls m ps) {L : List Entry}
    (hL : Ls[m.index]? = some L) (hbut : HeapBut Ls.length m.index m) (cl : Call IKey) :
    Base Rs Ls (stepIndex o (o.step cl) m)
      (fun x => if x = m.index then Cursor.step L (geKey c) cl (ps x) else ps x) ∧
    HeapAll Ls.length (stepIndex o (o.step cl) m) ∧ (stepIndex o (o.step cl) m).reverse = m.reverse := by
  have hx : m.index < Ls.length := (List.getElem?_eq_some_iff.1 hL).1
  have hxi : m.index < m.iters.length := by rw [hb.ilen]; exact hx
  have hxk : m.index < m.keys.length := by rw [hb.klen]; exact hx
  have hs := List.getElem?_eq_getElem hxi
  rw [stepIndex_eq _ hs]
  refine ⟨Base.of_keys hch (List.length_set.trans hb.ilen) (List.length_set.trans hb.klen) ?_,
    hbut.push hx hxk _ _, rfl⟩
  intro x s' (hs' : (m.iters.set m.index (o.step cl m.iters[m.index]))[x]? = some s')
  show _ ∧ keyAt (m.keys.set m.index (keyOf o (o.step cl m.iters[m.index]))) x = _
  rw [keyAt_set hxk]
  rw [List.getElem?_set] at hs'
  by_cases hxe : x = m.index
  · subst hxe
    simp only [hxi, if_true, Option.some.injEq] at hs' ⊢
    subst hs'
    exact ⟨(hch _ L hL).step cl _ _ (hb.rel _ _ hs), rfl⟩
  · rw [if_neg (Ne.symm hxe)] at hs'
    simp only [hxe, if_false]
    exact ⟨hb.rel x s' hs', hb.key_eq hch hs'⟩

include hch in
theorem turnBack_base {m : MergedIter σ} {ps : Nat → Pos} (hb : Base Rs Ls m ps) (key : IKey) :
    Base Rs Ls (turnBack o key m)
      (fun x => if x = m.index then ps x else Cursor.bseek ((Ls[x]?).getD []) (geKey c key)) ∧
    HeapBut Ls.length m.index (turnBack o key m) := by
  have hilen : (turnBack o key m).iters.length = Ls.length := List.length_mapIdx.trans hb.ilen
  refine ⟨Base.of_keys hch hilen (List.length_mapIdx.trans hilen) ?_, ?_, ?_⟩
  · intro x s' hs'
    rw [turnBack_keyAt key m hs']
    by_cases hxe : x = m.index
    · subst hxe
      rw [turnBack_iters_index] at hs'
      rw [if_pos rfl, if_pos rfl]; exact ⟨hb.rel _ _ hs', hb.key_eq hch hs'⟩
    · obtain ⟨s0, h, rfl⟩ := Option.map_eq_some_iff.1 (List.getElem?_mapIdx.symm.trans hs')
      simp only [hxe, if_false, and_true]
      have hL := List.getElem?_eq_getElem (hb.ilen ▸ getElem?_lt h : x < Ls.length)
      have hsim := hch x _ hL
      have h1 := hsim.seek s0 _ key (hb.rel x s0 h)
      rw [hL, Option.getD_some, ← Cursor.turn_pos, hsim.ok_eq _ _ h1]
      split
      · exact hsim.prev _ _ h1
      · exact hsim.last _ _ h1
  · exact List.Nodup.sublist List.filter_sublist List.nodup_range
  · intro x
    show x ∈ List.filter (fun x => decide (x ≠ m.index) && (keyAt (turnBack o key m).keys x).isSome)
      (List.range (turnBack o key m).iters.length) ↔ _
    rw [hilen, List.mem_filter, List.mem_range]
    simp

end ops

section sim
variable {c : UCmp} (hl : LawfulUCmp c) {o : IterOps σ} {Rs : Nat → σ → Pos → Prop}
  {Ls : List (List Entry)} {U : List Entry} (hok : MergeOK c Ls U)
  (hch : ∀ i L, Ls[i]? = some L → Sim o c L (Rs i))

omit hl hok hch in
theorem Rel.dir_soi {m : MergedIter σ} (h : Rel o c Rs Ls U m .soi) : m.dir = .soi := by
  obtain ⟨_, _, hd⟩ := h; exact hd

omit hl hok hch in
theorem Rel.dir_eoi {m : MergedIter σ} (h : Rel o c Rs Ls U m .eoi) : m.dir = .eoi := by
  obtain ⟨_, _, hd⟩ := h; exact hd

omit hl hok hch in
theorem Rel.valid_at {m : MergedIter σ} {i : Nat} (h : Rel o c Rs Ls U m (.at i)) : m.dir.valid = true := by
  obtain ⟨_, _, _, _, _, _, _, _, h1 | h1⟩ := h <;> rw [h1.1] <;> rfl

omit hl hok hch in
theorem Rel.not_released {m : MergedIter σ} {p : Pos} (h : Rel o c Rs Ls U m p) : m.dir ≠ .released := by
  intro hr
  cases p with
  | soi => rw [h.dir_soi] at hr; cases hr
  | eoi => rw [h.dir_eoi] at hr; cases hr
  | «at» i => have := h.valid_at; rw [hr] at this; cases this

include hl hok hch in
theorem rel_first {m : MergedIter σ} {p : Pos} (h : Rel o c Rs Ls U m p) :
    Rel o c Rs Ls U (first o c m) (Cursor.first U) := by
  have hnr := h.not_released
  obtain ⟨ps, hb, _⟩ := h
  unfold first; rw [if_neg hnr]
  obtain ⟨q, hq, hb', hh'⟩ := resetAll_base hch hb false .first .soi
  rw [Cursor.first_eq_seek]
  exact (rel_popNext hl hok o hb' hh' rfl (fun _ => true) (fun _ _ _ _ _ _ => rfl)
    (fun x L hL => (hq x L hL).trans (Cursor.first_eq_seek L))).1

include hl hok hch in
theorem rel_seek {m : MergedIter σ} {p : Pos} (h : Rel o c Rs Ls U m p) (k : IKey) :
    Rel o c Rs Ls U (seek o c k m) (Cursor.seek U (geKey c k)) ∧ (seek o c k m).dir ≠ .backward := by
  have hnr := h.not_released
  obtain ⟨ps, hb, _⟩ := h
  unfold seek; rw [if_neg hnr]
  obtain ⟨q, hq, hb', hh'⟩ := resetAll_base hch hb false (.seek k) .soi
  exact rel_popNext hl hok o hb' hh' rfl (geKey c k) (mono_geKey hl U k) hq

include hl hok hch in
theorem rel_last {m : MergedIter σ} {p : Pos} (h : Rel o c Rs Ls U m p) :
    Rel o c Rs Ls U (last o c m) (Cursor.last U) := by
  have hnr := h.not_released
  obtain ⟨ps, hb, _⟩ := h
  unfold last; rw [if_neg hnr]
  obtain ⟨q, hq, hb', hh'⟩ := resetAll_base hch hb true .last .eoi
  rw [Cursor.last_eq_bseek]
  exact rel_popPrev hl hok o hb' hh' rfl (fun _ => false) (fun _ _ _ _ h _ => by cases h)
    (fun x L hL => (hq x L hL).trans (Cursor.last_eq_bseek L))

include hl hok hch in
theorem rel_prev_core {m : MergedIter σ} {ps : Nat → Pos} (hb : Base Rs Ls m ps) (hrev : m.reverse = true)
    {L0 : List Entry} (hL0 : Ls[m.index]? = some L0) {e : Entry} (hcur : Cursor.get L0 (ps m.index) = some e)
    (hbut : HeapBut Ls.length m.index m) {i : Nat} (hi : U[i]? = some e)
    (hps : ∀ x L, x ≠ m.index → Ls[x]? = some L → ps x = Cursor.bseek L (geKey c e.key)) :
    Rel o c Rs Ls U (popPrev c (stepIndex o o.prev m)) (Cursor.prev U (.at i)) := by
  obtain ⟨j, hp, hcur'⟩ := Cursor.get_eq_some hcur
  obtain ⟨hb', hh', hrev'⟩ := stepIndex_base hch hb hL0 hbut .prev
  rw [prev_eq_bseek hl hok.sortedU hi]
  refine rel_popPrev hl hok o hb' hh' (hrev'.trans hrev) (geKey c e.key) (mono_geKey hl U e.key) ?_
  intro x L hL
  by_cases hxe : x = m.index
  · subst hxe
    rw [hL0] at hL; cases hL
    simp only [if_true, hp]
    exact prev_eq_bseek hl (hok.sortedL _ (List.mem_of_getElem? hL0)) hcur'
  · simp only [hxe, if_false]
    exact hps x L hxe hL

omit hch in
include hl hok in
theorem others_congr {x x0 : Nat} {L L0 : List Entry} {e : Entry} (hL0 : Ls[x0]? = some L0) (he : e ∈ L0)
    (hne : x ≠ x0) (hL : Ls[x]? = some L) : ∀ y ∈ L, geKey c e.key y = gtKey c e.key y :=
  fun y hy => geKey_eq_gtKey hl (hok.distinct x x0 L L0 y e hne hL hL0 hy he)

include hl hok hch in
theorem rel_next_fwd {m : MergedIter σ} {i : Nat} (h : Rel o c Rs Ls U m (.at i)) (hdir : m.dir ≠ .backward) :
    Rel o c Rs Ls U (popNext c (stepIndex o o.next m)) (Cursor.next U (.at i)) := by
  obtain ⟨ps, hb, e, L0, hi, hL0, hcur, hbut, hfw | hbw⟩ := h
  · obtain ⟨j, hp, hcur'⟩ := Cursor.get_eq_some hcur
    obtain ⟨hb', hh', hrev'⟩ := stepIndex_base hch hb hL0 hbut .next
    rw [next_eq_seek hl hok.sortedU hi]
    refine (rel_popNext hl hok o hb' hh' (hrev'.trans hfw.2.1) (gtKey c e.key) (mono_gtKey hl U e.key) ?_).1
    intro x L hL
    by_cases hxe : x = m.index
    · subst hxe
      rw [hL0] at hL; cases hL
      simp only [if_true, hp]
      exact next_eq_seek hl (hok.sortedL _ (List.mem_of_getElem? hL0)) hcur'
    · simp only [hxe, if_false]
      rw [hfw.2.2 x L hL]
      exact Cursor.seek_congr (others_congr hl hok hL0 (Cursor.get_mem hcur) hxe hL)
  · exact absurd hbw.1 hdir

include hl hok hch in
/-- `Next` after backward movement: `Seek(key)` puts the iterator on the same entry facing forward, then as usual -/
theorem rel_next {m : MergedIter σ} {p : Pos} (h : Rel o c Rs Ls U m p) :
    Rel o c Rs Ls U (next o c m) (Cursor.next U p) := by
  cases p with
  | soi =>
    unfold next; rw [h.dir_soi]
    exact rel_first hl hok hch h
  | eoi =>
    unfold next; rw [h.dir_eoi]
    exact h
  | «at» i =>
    have h' := h
    obtain ⟨ps, hb, e, L0, hi, hL0, hcur, hbut, hfw | hbw⟩ := h'
    · unfold next; rw [hfw.1]
      exact rel_next_fwd hl hok hch h (by rw [hfw.1]; simp)
    · unfold next; rw [hbw.1]
      have hk := hb.key_of_cur hL0 hcur
      simp only [hk]
      obtain ⟨hrel1, hd1⟩ := rel_seek hl hok hch h e.key
      rw [seek_self hl hok.sortedU hi] at hrel1
      simp only [hrel1.valid_at, Bool.not_true, Bool.false_eq_true, if_false]
      exact rel_next_fwd hl hok hch hrel1 hd1

include hl hok hch in
theorem rel_prev {m : MergedIter σ} {p : Pos} (h : Rel o c Rs Ls U m p) :
    Rel o c Rs Ls U (prev o c m) (Cursor.prev U p) := by
  cases p with
  | soi =>
    unfold prev; rw [h.dir_soi]
    exact h
  | eoi =>
    unfold prev; rw [h.dir_eoi]
    exact rel_last hl hok hch h
  | «at» i =>
    have h' := h
    obtain ⟨ps, hb, e, L0, hi, hL0, hcur, hbut, hfw | hbw⟩ := h'
    · unfold prev; rw [hfw.1]
      have hk := hb.key_of_cur hL0 hcur
      simp only [hk]
      obtain ⟨hb', hbut'⟩ := turnBack_base hch hb e.key
      refine rel_prev_core hl hok hch (m := turnBack o e.key m) hb' rfl hL0 ?_ hbut' hi ?_
      · show Cursor.get L0 (if m.index = m.index then ps m.index else _) = some e
        rw [if_pos rfl]; exact hcur
      · intro x L hxe hL
        have hxe' : x ≠ m.index := hxe
        simp only [hxe', if_false, hL, Option.getD_some]
    · unfold prev; rw [hbw.1]
      refine rel_prev_core hl hok hch hb hbw.2.1 hL0 hcur hbut hi ?_
      intro x L hxe hL
      rw [hbw.2.2 x L hL]
      exact Cursor.bseek_congr (fun y hy => (others_congr hl hok hL0 (Cursor.get_mem hcur) hxe hL y hy).symm)

omit hl hok in
include hch in
theorem rel_cur {m : MergedIter σ} {p : Pos} (h : Rel o c Rs Ls U m p) : cur o m = Cursor.get U p := by
  cases p with
  | soi =>
    simp [cur, h.dir_soi, Dir.valid, Cursor.get]
  | eoi =>
    simp [cur, h.dir_eoi, Dir.valid, Cursor.get]
  | «at» i =>
    have hv := h.valid_at
    obtain ⟨ps, hb, e, L0, hi, hL0, hcur, hbut, _⟩ := h
    have hk := hb.key_of_cur hL0 hcur
    have hx : m.index < m.iters.length := by rw [hb.ilen]; exact (List.getElem?_eq_some_iff.1 hL0).1
    have hs := List.getElem?_eq_getElem hx
    have hc := (hch _ L0 hL0).cur _ _ (hb.rel _ _ hs)
    rw [hcur] at hc
    simp only [cur, hv, if_true, hk, hs, hc, Cursor.get, hi]
    rfl

omit hl hok hch in
theorem rel_wf {m : MergedIter σ} {p : Pos} (h : Rel o c Rs Ls U m p) : Cursor.wf U p := by
  cases p with
  | soi => trivial
  | eoi => trivial
  | «at» i =>
    obtain ⟨ps, hb, e, L0, hi, _⟩ := h
    exact (List.getElem?_eq_some_iff.1 hi).1

end sim

theorem ops_first (o : IterOps σ) (c : UCmp) : (ops o c).first = first o c := rfl
theorem ops_last (o : IterOps σ) (c : UCmp) : (ops o c).last = last o c := rfl
theorem ops_seek (o : IterOps σ) (c : UCmp) : (ops o c).seek = seek o c := rfl
theorem ops_next (o : IterOps σ) (c : UCmp) : (ops o c).next = next o c := rfl
theorem ops_prev (o : IterOps σ) (c : UCmp) : (ops o c).prev = prev o c := rfl
theorem ops_cur (o : IterOps σ) (c : UCmp) : (ops o c).cur = cur o := rfl

/-- C02 for the abstract merged iterator -/
theorem sim {c : UCmp} (hl : LawfulUCmp c) (o : IterOps σ) (Rs : Nat → σ → Pos → Prop)
    (Ls : List (List Entry)) (U : List Entry) (hok : MergeOK c Ls U)
    (hch : ∀ i L, Ls[i]? = some L → Sim o c L (Rs i)) :
    Sim (MergedIter.ops o c) c U (MergedIter.Rel o c Rs Ls U) where
  wf := fun _ _ h => rel_wf h
  first := fun _ _ h => rel_first hl hok hch h
  last := fun _ _ h => rel_last hl hok hch h
  seek := fun _ _ k h => (rel_seek hl hok hch h k).1
  next := fun _ _ h => rel_next hl hok hch h
  prev := fun _ _ h => rel_prev hl hok hch h
  cur := fun _ _ h => rel_cur hch h

theorem arr_sim (c : UCmp) (Ls : List (List Entry)) (i : Nat) (L : List Entry) (h : Ls[i]? = some L) :
    Sim (ArrIter.ops c) c L (ArrIter.Rel ((Ls[i]?).getD [])) := by
  simp only [h, Option.getD_some]; exact ArrIter.sim c L

theorem arr_rel_new (c : UCmp) (Ls : List (List Entry)) (U : List Entry) :
    Rel (ArrIter.ops c) c (fun i => ArrIter.Rel ((Ls[i]?).getD [])) Ls U
      (MergedIter.new (Ls.map fun L => (⟨L, .soi⟩ : ArrIter))) .soi := by
  refine rel_new _ c _ Ls U _ (by simp) fun i s h => ?_
  simp only [List.getElem?_map, Option.map_eq_some_iff] at h
  obtain ⟨L, hL, rfl⟩ := h
  simp only [hL, Option.getD_some]
  exact ⟨rfl, rfl, trivial⟩

end MergedIter

/-! ## non-vacuity: four children (one of them empty) with interleaved keys -/

namespace MergedExample
def a : Entry := ⟨⟨[1], 5⟩, [10]⟩
def b : Entry := ⟨⟨[2], 7⟩, [20]⟩
def c : Entry := ⟨⟨[2], 3⟩, [30]⟩
def d : Entry := ⟨⟨[3, 1], 1⟩, [40]⟩
def e : Entry := ⟨⟨[4], 9⟩, []⟩
def Ls : List (List Entry) := [[a, d], [b], [], [c, e]]
def U : List Entry := [a, b, c, d, e]

theorem mergeOK : MergeOK bytewise Ls U :=
  .of_perm bytewise_lawful (by decide) (by decide) (by decide)

end MergedExample

example : Sim (MergedIter.ops (ArrIter.ops bytewise) bytewise) bytewise MergedExample.U
    (MergedIter.Rel (ArrIter.ops bytewise) bytewise
      (fun i => ArrIter.Rel ((MergedExample.Ls[i]?).getD [])) MergedExample.Ls MergedExample.U) :=
  MergedIter.sim bytewise_lawful _ _ _ _ MergedExample.mergeOK (MergedIter.arr_sim bytewise _)

example (calls : List (Call IKey)) :
    (MergedIter.ops (ArrIter.ops bytewise) bytewise).run
      (MergedIter.new (MergedExample.Ls.map fun L => (⟨L, .soi⟩ : ArrIter))) calls =
    Cursor.run MergedExample.U (geKey bytewise) .soi calls :=
  (MergedIter.sim bytewise_lawful _ _ _ _ MergedExample.mergeOK (MergedIter.arr_sim bytewise _)).run calls _ _
    (MergedIter.arr_rel_new _ _ _)

/-- a run with both direction changes -/
example :
    (MergedIter.ops (ArrIter.ops bytewise) bytewise).run
      (MergedIter.new (MergedExample.Ls.map fun L => (⟨L, .soi⟩ : ArrIter)))
      [.first, .next, .next, .prev, .prev, .prev, .next, .seek ⟨[3], 0⟩, .prev, .last, .next, .prev] =
    (open MergedExample in
      [some a, some b, some c, some b, some a, none, some a, some d, some c, some e, none, some e]) := by
  decide +kernel

#print axioms MergedIter.sim
#print axioms MergedIter.rel_new
#print axioms MergedExample.mergeOK

end GoLevel

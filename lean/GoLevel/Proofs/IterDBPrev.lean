import GoLevel.Proofs.IterDBNext
/-!
# `dbIter.prev()` and the `for i.iter.Prev()` loop of `Prev`: the backward scans
-/
namespace GoLevel

/-- loop invariant of `prev()` when the indices from `lo` up to where it started have been examined (scanning
downwards); `K` is the rank it is to end on.  With `del` nothing visible has been found, `K` is the rank of `lo`;
without `del` the saved `key`/`value` are those of a value candidate at `m`, nothing between `lo` and `m` is a
candidate, and `K` is the rank above `m`.  ("Nothing visible in `[a, b)`" is `rk b = rk a`.) -/
inductive PI (c : UCmp) (es : List Entry) (seq lo K : Nat) (key value : Bytes) : Bool → Prop
  | none : K = rk c es seq lo → PI c es seq lo K key value true
  | cand {m : Nat} {em : Entry} : lo ≤ m → es[m]? = some em → em.seq ≤ seq → em.kind = Gen.keyTypeVal →
      key = em.ukey → value = em.val →
      (∀ (i : Nat) (e : Entry), lo ≤ i → i < m → es[i]? = some e → seq < e.seq) → K = rk c es seq (m + 1) →
      PI c es seq lo K key value false

section
variable {σ : Type} {o : IterOps σ} {c : UCmp} {es : List Entry} {R : σ → Pos → Prop}

def landBack (o : IterOps σ) (c : UCmp) (n : Nat) (del : Bool) (d : DBIter σ) (r : σ) : DBIter σ × Bool :=
  if o.ok r then DBIter.prevLoop o c n del { d with raw := r } else ({ d with raw := r }, del)

/-- the `if !i.iter.Prev() { break }` tail of one iteration -/
def prevCont (o : IterOps σ) (c : UCmp) (n : Nat) (del : Bool) (d : DBIter σ) : DBIter σ × Bool :=
  landBack o c n del d (o.prev d.raw)

theorem prevLoop_succ (n : Nat) (del : Bool) (d : DBIter σ) :
    DBIter.prevLoop o c (n + 1) del d =
      match o.cur d.raw with
      | none => prevCont o c n del d
      | some e =>
        if e.seq ≤ d.seq then
          if !del && c.cmp e.ukey d.key = .lt then (d, false)
          else if e.kind = Gen.keyTypeDel then prevCont o c n true d
          else prevCont o c n false { d with key := e.ukey, value := e.val }
        else prevCont o c n del d := by
  rfl

/-- what `prev()` returns from the result of its loop -/
def prevEnd (r : DBIter σ × Bool) : DBIter σ := if r.2 then { r.1 with dir := .soi } else r.1

theorem prevScan_eq (d : DBIter σ) : DBIter.prevScan o c d =
    prevEnd (if o.ok d.raw then DBIter.prevLoop o c d.fuel true { d with dir := .backward }
      else ({ d with dir := .backward }, true)) := rfl

/-- `Last` moves the raw iterator and calls `prev()`; when there is no entry `prev()` does what `Last` does itself -/
theorem DBIter.last_eq (d : DBIter σ) (hd : d.dir ≠ .released) :
    DBIter.last o c d = DBIter.prevScan o c { d with raw := o.last d.raw } := by
  simp only [DBIter.last, if_neg hd]
  split
  · rfl
  · rename_i hok
    simp only [prevScan_eq, if_neg hok]; rfl

theorem prev_forward_eq (d : DBIter σ) (hd : d.dir = .forward) : DBIter.prev o c d =
    (let r := DBIter.backLoop o c d.fuel d
     if r.2 then DBIter.prevScan o c r.1 else { r.1 with dir := .soi }) := by
  simp only [DBIter.prev, hd]

variable (hsim : Sim o c es R) (hl : LawfulUCmp c) (hs : SortedEntries c es)
include hsim hl hs

theorem landBack_spec (n a K : Nat) (del : Bool) (d : DBIter σ) (r : σ)
    (ih : ∀ (j : Nat) (del : Bool) (d : DBIter σ), j < n → R d.raw (.at j) → d.dir = .backward →
      es.length < d.fuel → PI c es d.seq (j + 1) K d.key d.value del →
      DBRel c R es d.seq (prevEnd (DBIter.prevLoop o c n del d)) (Cursor.before K))
    (hfuel : a ≤ n) (hR : R r (Cursor.before a)) (hd : d.dir = .backward) (hf : es.length < d.fuel)
    (hPI : PI c es d.seq a K d.key d.value del) :
    DBRel c R es d.seq (prevEnd (landBack o c n del d r)) (Cursor.before K) := by
  simp only [landBack]
  cases a with
  | zero =>
    have hok : o.ok r = false := by rw [hsim.ok_eq _ _ hR]; rfl
    rw [hok]
    cases hPI with
    | none h =>
      rw [h, rk_zero]
      exact ⟨rfl, hf, .soi rfl hR⟩
    | cand _ hem hc hval hkey hvalue hgap h =>
      subst h
      exact DBRel.of_backward hl hs rfl hf hd hem
        ⟨hc, hval, fun i e hi he _ => hgap i e (Nat.zero_le _) hi he⟩ hkey hvalue ⟨0, Nat.zero_le _, hR, hgap⟩
  | succ j =>
    rw [if_pos (hsim.ok_at hR)]
    exact ih j del { d with raw := r } hfuel hR hd hf hPI

variable (hk : ∀ e ∈ es, e.kind ≤ Gen.keyTypeVal)
include hk

/-- the loop of `prev()` in db_iter.go with the raw iterator at index `j`: it settles on the last visible entry at or
below where it started, or reports `del` if there is none -/
theorem prevLoop_spec (K : Nat) (n : Nat) : ∀ (j : Nat) (del : Bool) (d : DBIter σ),
    j < n → R d.raw (.at j) → d.dir = .backward → es.length < d.fuel → PI c es d.seq (j + 1) K d.key d.value del →
    DBRel c R es d.seq (prevEnd (DBIter.prevLoop o c n del d)) (Cursor.before K) := by
  induction n with
  | zero => intro j _ _ h; omega
  | succ n ih =>
    intro j del d hfuel hR hd hf hPI
    obtain ⟨e0, he0⟩ : ∃ e0, es[j]? = some e0 := ⟨_, List.getElem?_eq_getElem (hsim.wf _ _ hR)⟩
    have hskip := rk_succ_of_not hl hs d.seq j e0 he0
    have hcont : ∀ (del' : Bool) (d' : DBIter σ), R d'.raw (.at j) → d'.dir = .backward → es.length < d'.fuel →
        PI c es d'.seq j K d'.key d'.value del' → DBRel c R es d'.seq (prevEnd (prevCont o c n del' d')) _ :=
      fun del' d' hR' => landBack_spec hsim hl hs n j K del' d' _ ih (Nat.le_of_lt_succ hfuel) (hsim.prev _ _ hR')
    rw [prevLoop_succ, (hsim.cur _ _ hR).trans he0]
    simp only
    by_cases hc : e0.seq ≤ d.seq
    · rw [if_pos hc]
      by_cases hret : (!del && c.cmp e0.ukey d.key = .lt) = true
      · -- early `return true`
        rw [if_pos hret]
        cases hPI with
        | none => simp at hret
        | @cand m em hjm hem hcm hval hkey hvalue hgap h =>
          subst h
          have hlt : c.cmp e0.ukey em.ukey = .lt := by simpa [hkey] using hret
          refine DBRel.of_backward hl hs rfl hf hd hem ⟨hcm, hval, ?_⟩ hkey hvalue ⟨j + 1, hjm, hR, hgap⟩
          intro i e hi he hu
          rcases Nat.lt_or_ge j i with hji | hij
          · exact hgap i e hji hi he
          · exfalso
            have := ukey_le_idx hl hs i j e e0 hij he he0
            rw [hu] at this
            exact this ((hl.gt_iff _ _).2 hlt)
      · rw [if_neg hret]
        -- nothing above `j` is visible once the candidate `e0` at `j` is not below the saved key
        have hnone : K = rk c es d.seq (j + 1) := by
          cases hPI with
          | none h => exact h
          | @cand m em hjm hem hcm hval hkey hvalue hgap h =>
            subst h
            have hu : e0.ukey = em.ukey :=
              hl.ord.le_antisymm (ukey_le_idx hl hs j m e0 em (Nat.le_of_lt hjm) he0 hem)
                ((hl.ord.not_lt_iff _ _).1 fun h => hret (by simp [hkey, h]))
            -- `em` is hidden by `e0`, and the entries between them are newer than `seq`
            rw [rk_succ_of_not hl hs d.seq m em hem
              (fun hv => Nat.not_le_of_gt (hv.2.2 j e0 hjm he0 hu) hc)]
            exact rk_newer hl hs d.seq (j + 1) m hjm hgap
        by_cases hkd : e0.kind = Gen.keyTypeDel
        · rw [if_pos hkd]
          exact hcont true d hR hd hf (.none (hnone.trans (hskip (fun hv => kind_del_ne_val _ hkd hv.2.1))))
        · rw [if_neg hkd]
          have hval : e0.kind = Gen.keyTypeVal :=
            (kind_cases e0 (hk e0 (List.mem_of_getElem? he0))).resolve_left hkd
          exact hcont false { d with key := e0.ukey, value := e0.val } hR hd hf
            (.cand (Nat.le_refl _) he0 hc hval rfl rfl (fun i e hi1 hi2 => absurd hi2 (Nat.not_lt_of_le hi1)) hnone)
    · rw [if_neg hc]
      cases hPI with
      | none h => exact hcont true d hR hd hf (.none (h.trans (hskip (fun hv => hc hv.1))))
      | @cand m em hjm hem hcm hval hkey hvalue hgap habove =>
        refine hcont false d hR hd hf (.cand (Nat.le_of_lt hjm) hem hcm hval hkey hvalue ?_ habove)
        intro i e hi1 hi2 he
        rcases Nat.lt_or_ge j i with hji | hij
        · exact hgap i e hji hi2 he
        · obtain rfl : i = j := Nat.le_antisymm hij hi1
          rw [he0] at he; cases he
          exact Nat.lt_of_not_le hc

theorem prevScan_before (d : DBIter σ) (hfuel : es.length < d.fuel) {a : Nat} (hq : R d.raw (Cursor.before a)) :
    DBRel c R es d.seq (DBIter.prevScan o c d) (Cursor.before (rk c es d.seq a)) := by
  have ha : a ≤ es.length := by
    cases a with
    | zero => exact Nat.zero_le _
    | succ t => exact hsim.wf _ _ hq
  exact landBack_spec hsim hl hs d.fuel a _ true { d with dir := .backward } d.raw
    (prevLoop_spec hsim hl hs hk _ d.fuel) (Nat.le_trans ha (Nat.le_of_lt hfuel)) hq rfl hfuel
    (.none rfl)

/-- what `Prev` makes of the result of its `for i.iter.Prev()` loop -/
def backEnd (o : IterOps σ) (c : UCmp) (r : DBIter σ × Bool) : DBIter σ :=
  if r.2 then DBIter.prevScan o c r.1 else { r.1 with dir := .soi }

/-- the `for i.iter.Prev()` loop of `Prev` (`case dirForward`) and the `prev()` after it: the loop walks
back over the entries of the current user key, none of them visible since `e` at `j` is, to the first entry
of a smaller user key, where `prev()` takes over -/
theorem backLoop_spec (j : Nat) (e : Entry) (n : Nat) : ∀ (j0 : Nat) (d : DBIter σ), j0 < n → es.length < d.fuel →
    R d.raw (.at j0) → j0 ≤ j → es[j]? = some e → Vis es d.seq j e → d.key = e.ukey →
    rk c es d.seq j = rk c es d.seq j0 →
    DBRel c R es d.seq (backEnd o c (DBIter.backLoop o c n d)) (Cursor.before (rk c es d.seq j)) := by
  induction n with
  | zero => intro j0 _ h; omega
  | succ n ih =>
    intro j0 d hfuel hf hR hj0 he hv hkey hrk
    simp only [DBIter.backLoop]
    have hRp := hsim.prev _ _ hR
    cases j0 with
    | zero =>
      rw [hsim.cur _ _ hRp, hrk, rk_zero]
      exact ⟨rfl, hf, .soi rfl hRp⟩
    | succ j1 =>
      obtain ⟨e1, he1⟩ : ∃ e1, es[j1]? = some e1 := ⟨_, List.getElem?_eq_getElem (hsim.wf _ _ hRp)⟩
      rw [(hsim.cur _ _ hRp).trans he1]
      simp only
      by_cases hlt : c.cmp e1.ukey d.key = .lt
      · rw [if_pos hlt, hrk]
        exact prevScan_before hsim hl hs hk { d with raw := o.prev d.raw } hf (a := j1 + 1) hRp
      · rw [if_neg hlt]
        refine ih j1 { d with raw := o.prev d.raw } (Nat.lt_of_succ_lt_succ hfuel) hf hRp (Nat.le_of_succ_le hj0) he hv
          hkey ?_
        -- the entry passed has the user key of `e`, so it is newer than `seq`
        have hu : e1.ukey = e.ukey :=
          hl.ord.le_antisymm (ukey_le_idx hl hs j1 j e1 e (Nat.le_of_succ_le hj0) he1 he)
            ((hl.ord.not_lt_iff _ _).1 (hkey ▸ hlt))
        rw [hrk, ← rk_succ_of_not hl hs d.seq j1 e1 he1 (fun hv' => Nat.not_le_of_gt (hv.2.2 j1 e1 hj0 he1 hu) hv'.1)]

end
end GoLevel

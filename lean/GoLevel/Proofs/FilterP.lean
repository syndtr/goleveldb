import GoLevel.Model.Table
import GoLevel.Proofs.Block
/-! C13(f), filter-block level: which keys end up in which filter, and what `filterBlock.contains` looks at. -/
namespace GoLevel.C13
open GoLevel FilterWriter

/-- the bytes one `generate` call adds for the key list `ks` -/
def segBytes (pol : FilterPolicy) (ks : List Bytes) : Bytes := if ks.isEmpty then [] else pol.generate ks

theorem segBytes_ne (pol : FilterPolicy) (ks : List Bytes) (h : ks ≠ []) : segBytes pol ks = pol.generate ks := by
  rw [segBytes, if_neg (by simpa using h)]

def flat (pol : FilterPolicy) (segs : List (List Bytes)) : Bytes := (segs.map (segBytes pol)).flatten

def offs (pol : FilterPolicy) : List (List Bytes) → Nat → List Nat
  | [], _ => []
  | s :: rest, base => base :: offs pol rest (base + (segBytes pol s).length)

theorem flat_snoc (pol : FilterPolicy) (segs : List (List Bytes)) (s : List Bytes) :
    flat pol (segs ++ [s]) = flat pol segs ++ segBytes pol s := by
  simp [flat]

theorem offs_snoc (pol : FilterPolicy) (segs : List (List Bytes)) (s : List Bytes) : ∀ base,
    offs pol (segs ++ [s]) base = offs pol segs base ++ [base + (flat pol segs).length] := by
  induction segs with
  | nil => intro base; simp [offs, flat]
  | cons a t ih =>
    intro base
    simp only [List.cons_append, offs, ih, flat, List.map_cons, List.flatten_cons, List.length_append, Nat.add_assoc]

theorem offs_length (pol : FilterPolicy) (segs : List (List Bytes)) : ∀ base, (offs pol segs base).length = segs.length := by
  induction segs with
  | nil => intro base; rfl
  | cons a t ih => intro base; simp [offs, ih]

/-- the writer state described by the inputs `segs` of the `generate` calls made so far -/
structure FState (pol : FilterPolicy) (w : FilterWriter) (segs : List (List Bytes)) : Prop where
  buf : w.buf = flat pol segs
  offsets : w.offsets = offs pol segs 0

theorem FState.new (pol : FilterPolicy) : FState pol {} [] := ⟨rfl, rfl⟩

theorem FState.add {pol : FilterPolicy} {w : FilterWriter} {segs : List (List Bytes)} (h : FState pol w segs)
    (k : Bytes) : FState pol (w.add k) segs := ⟨h.buf, h.offsets⟩

theorem FState.generate {pol : FilterPolicy} {w : FilterWriter} {segs : List (List Bytes)} (h : FState pol w segs) :
    FState pol (generate pol w) (segs ++ [w.pending]) ∧ (generate pol w).pending = [] := by
  refine ⟨⟨?_, ?_⟩, rfl⟩
  · simp only [FilterWriter.generate, flat_snoc, segBytes, h.buf]
    split <;> simp
  · simp only [FilterWriter.generate, offs_snoc, h.offsets, h.buf, Nat.zero_add]

/-- one data block as the filter writer sees it: `add` for every key, then `flush(end offset)`
(`Writer.Append`* … `Writer.finishBlock`) -/
def feedBlock (pol : FilterPolicy) (lg : Nat) (w : FilterWriter) (endOff : Nat) (keys : List Bytes) : FilterWriter :=
  flush pol lg (keys.foldl add w) endOff

theorem foldl_add (keys : List Bytes) : ∀ w : FilterWriter,
    keys.foldl add w = { w with pending := w.pending ++ keys } := by
  induction keys with
  | nil => intro w; simp
  | cons k t ih => intro w; simp [ih, FilterWriter.add]

/-- where the keys of the blocks seen so far are: `hist` lists the blocks as (start offset, keys); a key of a block
starting at `o` is in the key list number `o >>> lg`, or still pending when that list is the next one -/
structure Placed (pol : FilterPolicy) (lg : Nat) (w : FilterWriter) (hist : List (Nat × List Bytes))
    (segs : List (List Bytes)) : Prop where
  st : FState pol w segs
  fwd : ∀ b ∈ hist, ∀ k ∈ b.2, (b.1 >>> lg < segs.length ∧ k ∈ segs.getD (b.1 >>> lg) []) ∨
          (b.1 >>> lg = segs.length ∧ k ∈ w.pending)
  bwd : ∀ f k, k ∈ segs.getD f [] → ∃ b ∈ hist, b.1 >>> lg = f ∧ k ∈ b.2
  bwdP : ∀ k ∈ w.pending, ∃ b ∈ hist, b.1 >>> lg = segs.length ∧ k ∈ b.2

theorem Placed.addKeys {pol : FilterPolicy} {lg : Nat} {w : FilterWriter} {hist : List (Nat × List Bytes)}
    {segs : List (List Bytes)} (h : Placed pol lg w hist segs) (s : Nat) (keys : List Bytes)
    (hs : s >>> lg = segs.length) : Placed pol lg (keys.foldl add w) (hist ++ [(s, keys)]) segs := by
  rw [foldl_add]
  refine ⟨⟨h.st.buf, h.st.offsets⟩, ?_, ?_, ?_⟩
  · intro b hb k hk
    rcases List.mem_append.mp hb with hb | hb
    · rcases h.fwd b hb k hk with h1 | h1
      · exact Or.inl h1
      · exact Or.inr ⟨h1.1, List.mem_append_left _ h1.2⟩
    · simp at hb; subst hb
      exact Or.inr ⟨hs, List.mem_append_right _ hk⟩
  · intro f k hk
    obtain ⟨b, hb, h1, h2⟩ := h.bwd f k hk
    exact ⟨b, List.mem_append_left _ hb, h1, h2⟩
  · intro k hk
    rcases List.mem_append.mp hk with hk | hk
    · obtain ⟨b, hb, h1, h2⟩ := h.bwdP k hk
      exact ⟨b, List.mem_append_left _ hb, h1, h2⟩
    · exact ⟨(s, keys), by simp, hs, hk⟩

theorem getD_snoc (segs : List (List Bytes)) (pend : List Bytes) (f : Nat) :
    (segs ++ [pend]).getD f [] = if f < segs.length then segs.getD f [] else if f = segs.length then pend else [] := by
  simp only [List.getD_eq_getElem?_getD, List.getElem?_append, List.getElem?_singleton]
  split
  · rfl
  · split <;> split <;> first | rfl | omega

/-- one `generate`: the pending keys become the next key list -/
theorem Placed.generate {pol : FilterPolicy} {lg : Nat} {w : FilterWriter} {hist : List (Nat × List Bytes)}
    {segs : List (List Bytes)} (h : Placed pol lg w hist segs) :
    Placed pol lg (generate pol w) hist (segs ++ [w.pending]) ∧ (generate pol w).pending = [] := by
  refine ⟨⟨h.st.generate.1, fun b hb k hk => .inl ?_, fun f k hk => ?_, fun k hk => by cases hk⟩, rfl⟩
  · rw [getD_snoc, List.length_append, List.length_singleton]
    rcases h.fwd b hb k hk with h1 | h1
    · exact ⟨by omega, by rw [if_pos h1.1]; exact h1.2⟩
    · exact ⟨by omega, by rw [h1.1, if_neg (Nat.lt_irrefl _), if_pos rfl]; exact h1.2⟩
  · rw [getD_snoc] at hk
    split at hk
    · exact h.bwd f k hk
    · split at hk
      · next h2 => exact h2 ▸ h.bwdP k hk
      · cases hk

/-- the `generate` calls of one `flush`: all but the first find nothing pending -/
theorem Placed.generateN {pol : FilterPolicy} {lg : Nat} {hist : List (Nat × List Bytes)} : ∀ (m : Nat)
    {w : FilterWriter} {segs : List (List Bytes)}, Placed pol lg w hist segs →
    Placed pol lg (FilterWriter.generateN pol (m + 1) w) hist (segs ++ [w.pending] ++ List.replicate m []) ∧
      (FilterWriter.generateN pol (m + 1) w).pending = [] := by
  intro m
  induction m with
  | zero => intro w segs h; simpa [FilterWriter.generateN] using h.generate
  | succ m ih =>
    intro w segs h
    obtain ⟨h1, hp1⟩ := h.generate
    obtain ⟨h2, hp2⟩ := ih h1
    rw [hp1] at h2
    exact ⟨by simpa [List.replicate_succ, FilterWriter.generateN] using h2, hp2⟩

/-- the filter writer between two data blocks: `s` is the start offset of the block being filled -/
structure PInv (pol : FilterPolicy) (lg : Nat) (w : FilterWriter) (s : Nat) (hist : List (Nat × List Bytes))
    (segs : List (List Bytes)) : Prop where
  placed : Placed pol lg w hist segs
  len : segs.length = s >>> lg

theorem PInv.new (pol : FilterPolicy) (lg : Nat) : PInv pol lg {} 0 [] [] :=
  ⟨⟨FState.new pol, by simp, by simp, by simp⟩, by simp⟩

theorem PInv.feed {pol : FilterPolicy} {lg : Nat} {w : FilterWriter} {s : Nat} {hist : List (Nat × List Bytes)}
    {segs : List (List Bytes)} (h : PInv pol lg w s hist segs) (e : Nat) (keys : List Bytes) (hse : s ≤ e) :
    ∃ segs', PInv pol lg (feedBlock pol lg w e keys) e (hist ++ [(s, keys)]) segs' := by
  have hpl := h.placed.addKeys s keys h.len.symm
  have hol : (keys.foldl add w).offsets.length = segs.length := by rw [hpl.st.offsets, offs_length]
  have hmono : s >>> lg ≤ e >>> lg := by
    simp only [Nat.shiftRight_eq_div_pow]; exact Nat.div_le_div_right hse
  unfold feedBlock FilterWriter.flush
  rw [hol]
  cases hn : (e >>> lg) - segs.length with
  | zero => exact ⟨segs, hpl, by have := h.len; omega⟩
  | succ m =>
    refine ⟨_, (Placed.generateN m hpl).1, ?_⟩
    simp only [List.length_append, List.length_singleton, List.length_replicate]
    omega

/-- all data blocks of a table, as (end offset, keys) -/
def feedAll (pol : FilterPolicy) (lg : Nat) : FilterWriter → List (Nat × List Bytes) → FilterWriter
  | w, [] => w
  | w, (e, ks) :: rest => feedAll pol lg (feedBlock pol lg w e ks) rest

/-- the same blocks as (start offset, keys), the first one starting at `s` -/
def histOf : Nat → List (Nat × List Bytes) → List (Nat × List Bytes)
  | _, [] => []
  | s, (e, ks) :: rest => (s, ks) :: histOf e rest

def MonoEnds : Nat → List (Nat × List Bytes) → Prop
  | _, [] => True
  | s, (e, _) :: rest => s ≤ e ∧ MonoEnds e rest

def lastEnd : Nat → List (Nat × List Bytes) → Nat
  | s, [] => s
  | _, (e, _) :: rest => lastEnd e rest

theorem PInv.feedAll {pol : FilterPolicy} {lg : Nat} : ∀ (bs : List (Nat × List Bytes)) {w : FilterWriter} {s : Nat}
    {hist : List (Nat × List Bytes)} {segs : List (List Bytes)},
    PInv pol lg w s hist segs → MonoEnds s bs →
    ∃ segs', PInv pol lg (feedAll pol lg w bs) (lastEnd s bs) (hist ++ histOf s bs) segs' := by
  intro bs
  induction bs with
  | nil => intro w s hist segs h _; exact ⟨segs, by simpa [C13.feedAll, lastEnd, histOf] using h⟩
  | cons b rest ih =>
    intro w s hist segs h hm
    obtain ⟨e, ks⟩ := b
    obtain ⟨segs1, h1⟩ := h.feed e ks hm.1
    obtain ⟨segs2, h2⟩ := ih h1 hm.2
    exact ⟨segs2, by simpa [C13.feedAll, lastEnd, histOf] using h2⟩

/-- the contents of a filter block holding the filters for the key lists `segs` -/
def filterBlockBytes (pol : FilterPolicy) (lg : Nat) (segs : List (List Bytes)) : Bytes :=
  flat pol segs ++ (offs pol segs 0 ++ [(flat pol segs).length]).flatMap le32 ++ [lg.toUInt8]

/-- C13(f), writer half: after any sequence of blocks with non-decreasing offsets, `finish` emits filters for key
lists `segs` such that the keys added while the data block starting at offset `s` was being filled are in the
list number `s >>> lg`, and every list holds only such keys -/
theorem filter_partition_writer (pol : FilterPolicy) (lg : Nat) (bs : List (Nat × List Bytes)) (hm : MonoEnds 0 bs) :
    ∃ segs, (feedAll pol lg {} bs).finish pol lg = filterBlockBytes pol lg segs ∧
      (∀ b ∈ histOf 0 bs, ∀ k ∈ b.2, b.1 >>> lg < segs.length ∧ k ∈ segs.getD (b.1 >>> lg) []) ∧
      (∀ f k, k ∈ segs.getD f [] → ∃ b ∈ histOf 0 bs, b.1 >>> lg = f ∧ k ∈ b.2) := by
  obtain ⟨segs, h⟩ := (PInv.new pol lg).feedAll bs hm
  simp only [List.nil_append] at h
  generalize feedAll pol lg {} bs = w at h
  by_cases hp : w.pending = []
  · refine ⟨segs, ?_, ?_, h.placed.bwd⟩
    · simp [FilterWriter.finish, hp, filterBlockBytes, h.placed.st.buf, h.placed.st.offsets]
    · intro b hb k hk
      rcases h.placed.fwd b hb k hk with h1 | h1
      · exact h1
      · rw [hp] at h1; simp at h1
  · -- `finish` calls `generate` once more
    obtain ⟨hg, hpe⟩ := h.placed.generate
    refine ⟨segs ++ [w.pending], ?_, ?_, hg.bwd⟩
    · have : w.pending.isEmpty = false := by cases hw : w.pending <;> simp_all
      simp only [FilterWriter.finish, this, Bool.false_eq_true, if_false, filterBlockBytes, hg.st.buf, hg.st.offsets]
    · intro b hb k hk
      rcases hg.fwd b hb k hk with h1 | h1
      · exact h1
      · rw [hpe] at h1; simp at h1

end GoLevel.C13

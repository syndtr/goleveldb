import GoLevel.Proofs.TableFF
import GoLevel.Proofs.TableRange
/-! Glue between `Table.write` and the shape-level lemmas: the wrappers used by `Props/C13` and `Proofs/TableMeta.lean`. -/
namespace GoLevel.C13
open GoLevel

/-- only the first key of a table may be the empty string (`flushPendingBH` takes an empty next key for "no
next key" and calls `Successor` instead of `Separator`) -/
def TailKeysNonempty (kvs : List KV) : Prop := ∀ kv ∈ kvs.tail, kv.1 ≠ []

theorem chunksOK_of {cfg : TableCfg} {kvs : List KV} {cs : List (List KV)} (hflat : cs.flatten = kvs)
    (hne : ∀ c ∈ cs, c ≠ []) (hsorted : StrictSorted cfg.cmp kvs) (hk : TailKeysNonempty kvs) :
    ChunksOK cfg cs [] := by
  refine ⟨by simpa [hflat] using hsorted, hne, ?_⟩
  cases cs with
  | nil => trivial
  | cons c rest =>
    have hc : c ≠ [] := hne c (by simp)
    cases c with
    | nil => exact absurd rfl hc
    | cons x c' =>
      intro kv hm
      apply hk kv
      rw [← hflat]
      simp only [List.flatten_cons, List.cons_append, List.tail_cons]
      simp only [List.append_nil] at hm
      exact List.mem_append_right _ hm

/-- the written file as chunks, with what the shape-level lemmas ask of them -/
theorem written_chunks (cfg : TableCfg) (kvs : List KV) (hsorted : StrictSorted cfg.cmp kvs) (hk : TailKeysNonempty kvs) :
    ∃ cs fb, Table.write cfg kvs = tableFile cfg cs fb ∧ cs.flatten = kvs ∧ fb.isSome = cfg.filter.isSome ∧
      (cs = [[]] ∨ ChunksOK cfg cs []) := by
  obtain ⟨cs, hfile, hflat, hshape⟩ := write_shape cfg kvs
  exact ⟨cs, _, hfile, hflat, by simp, hshape.imp_right fun h => chunksOK_of hflat h hsorted hk⟩

theorem entriesInRange_none (t : TableR) : t.entriesInRange none none = t.entries := by
  unfold TableR.entriesInRange TableR.entries
  cases h : t.index.entries with
  | none => rfl
  | some ix =>
    simp only [TableR.sliceIndex]
    cases hb : t.blocksOf ix with
    | none => rfl
    | some bs =>
      simp only [Option.map_some]
      rw [mapEnds_id (TableR.sliceBlock t.cmp none none) bs (fun c _ => rfl)]

/-- the reader of a written table: `Find` and range iteration (content of a full forward pass) by specification -/
theorem written_reader (cfg : TableCfg) (hok : CfgOK cfg) (kvs : List KV)
    (hsorted : StrictSorted cfg.cmp kvs) (hk : TailKeysNonempty kvs)
    (hsz : (Table.write cfg kvs).length < 2 ^ 32) (verify : Bool) :
    ∃ t, Table.open cfg verify (Table.write cfg kvs) = some t ∧ t.cmp = cfg.cmp ∧
      (∀ key, t.find key false = resultOf (kvs.find? fun e => cfg.cmp e.1 key != .lt)) ∧
      ∀ start limit, t.entriesInRange start limit = some (kvs.filter (inRange cfg.cmp start limit)) := by
  obtain ⟨cs, fb, hfile, hflat, hfb, hsh⟩ := written_chunks cfg kvs hsorted hk
  rw [hfile] at hsz ⊢
  obtain ⟨t, ho, hr, _⟩ := open_reads cfg hok.ck cs fb hfb hsz verify
  refine ⟨t, ho, hr.cmp, fun key => ?_, fun start limit => ?_⟩
  · rw [hr.find hok hsh key, hflat]
  · rw [hr.range hok hsh start limit, hflat]

end GoLevel.C13

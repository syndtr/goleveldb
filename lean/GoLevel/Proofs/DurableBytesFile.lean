import GoLevel.Model.DurableBytes
import GoLevel.Proofs.Manifest
import GoLevel.Proofs.Batch
import GoLevel.Proofs.ManifestRead
import GoLevel.Props.C12
import GoLevel.Proofs.DurableFiles
/-!
One log file of the byte-level disk (`Model/DurableBytes.lean`): the codecs of its records round-trip (write groups,
manifest records); what the real readers make of a crash image of its bytes.
-/
namespace GoLevel.Dur
open GoLevel GoLevel.Manifest

theorem decGrp_enc (g : Grp) (h : g.Encodable) : decGrp (encGrpBytes g) = some g.onDisk := by
  obtain ⟨h1, h2, h3⟩ := h
  simp only [decGrp, encGrpBytes, Batch.decode_encode g.seq g.recs h1 h2 h3, Option.map_some, Grp.onDisk]

theorem encMRec_valid (x : EncCtx) (hx : x.Valid) (r : MRec) (hr : r.Encodable) : (encMRec x r).valid := by
  obtain ⟨hc, hm⟩ := hx
  obtain ⟨hj, hs, hn, ha, hd⟩ := hr
  refine ⟨rfl, ?_⟩
  intro f hf
  simp only [SessionRecord.fields, encMRec, List.mem_append, List.mem_map, Option.mem_toList, Option.map_eq_some_iff,
    List.map_nil, List.not_mem_nil, or_false, List.map_map] at hf
  rcases hf with ((((⟨c, hc', rfl⟩ | ⟨j, hj', rfl⟩) | ⟨n, hn', rfl⟩) | ⟨s, hs', rfl⟩) | ⟨n, hn', rfl⟩) | ⟨n, hn', rfl⟩
  · split at hc'
    · cases hc'; exact hc
    · cases hc'
  · exact hj j hj'
  · cases hn'; exact hn
  · exact hs s hs'
  · exact ⟨(hm n).1, hd n hn'⟩
  · exact ⟨(hm n).1, ha n hn', (hm n).2.1, (hm n).2.2.1, (hm n).2.2.2⟩

theorem toMRec_encMRec (x : EncCtx) (r : MRec) (ht : r.torn = false) : toMRec (encMRec x r) = r := by
  obtain ⟨sn, jn, sq, nf, ad, de, tn⟩ := r
  simp only at ht
  subst ht
  simp only [toMRec, encMRec, List.map_map, Option.getD_some]
  congr 1
  · cases sn <;> simp
  · simp [Function.comp_def]
  · simp [Function.comp_def]

theorem decMRec_enc (x : EncCtx) (hx : x.Valid) (r : MRec) (hr : r.Encodable) (ht : r.torn = false) :
    decMRec (encMRecBytes x r) = some r := by
  simp only [decMRec, encMRecBytes, Manifest.decode_encode _ (encMRec_valid x hx r hr), Option.map_some,
    toMRec_encMRec x r ht]

theorem filterMap_dec_map {α : Type} (dec : Bytes → Option α) (enc : α → Bytes) (f : α → α) (l : List α)
    (h : ∀ a ∈ l, dec (enc a) = some (f a)) : (l.map enc).filterMap dec = l.map f := by
  induction l with
  | nil => rfl
  | cons a l ih =>
    simp only [List.map_cons, List.filterMap_cons, h a List.mem_cons_self]
    rw [ih fun b hb => h b (List.mem_cons_of_mem _ hb)]

theorem kept_eq_take (S U : List Bytes) (k : Nat) :
    (encLog S U).kept k = (Journal.encode (S ++ U)).take ((Journal.encode S).length + k) := by
  simp only [ByteFile.kept, encLog, Journal.encode, Journal.encodeFrom_append, List.take_append,
    Nat.add_sub_cancel_left]
  rw [List.take_of_length_le (Nat.le_add_right _ _)]

theorem encLog_all (S U : List Bytes) : (encLog S U).all = Journal.encode (S ++ U) := by
  simp only [ByteFile.all, encLog, Journal.encode, Journal.encodeFrom_append]

theorem fits_synced (S U : List Bytes) (k : Nat) :
    S.length ≤ Journal.fits 0 (S ++ U) ((Journal.encode S).length + k) := by
  rw [C12.fits_complete (S ++ U) _ S.length (by simp)]
  simp only [List.take_left']
  omega

/-- how many of the unsynced records `U` lie wholly within the first `k` unsynced bytes -/
def keptRecs (S U : List Bytes) (k : Nat) : Nat :=
  Journal.fits 0 (S ++ U) ((Journal.encode S).length + k) - S.length

/-- The tolerant reader with checksums on, run over a crash image of a log file (synced bytes,
    any number of bytes of the unsynced tail, silent junk), delivers the synced records and a prefix of the
    unsynced ones — a record-level crash image of the file — nothing else, never an error. -/
theorem crash_file_records {ρ : Type} (enc : ρ → Bytes) (f : LogFile ρ) (k : Nat) (junk : Bytes)
    (hs : Silent ((encLog (f.synced.map enc) (f.unsynced.map enc)).kept k) junk) :
    (Journal.decode false true (crashFile k junk (encLog (f.synced.map enc) (f.unsynced.map enc))).all).records =
      (crashLog (keptRecs (f.synced.map enc) (f.unsynced.map enc) k) f).all.map enc := by
  have hf := fits_synced (f.synced.map enc) (f.unsynced.map enc) k
  simp only [crashFile, ByteFile.all, List.append_nil, keptRecs, crashLog, LogFile.all, List.map_append, List.map_take]
  rw [hs, kept_eq_take, (C12.decode_truncate_tolerant true _ _).1, List.take_append, List.take_of_length_le hf]

theorem whole_file_records (S U : List Bytes) :
    (Journal.decode false true (encLog S U).all).records = S ++ U := by
  rw [encLog_all, (C12.decode_encode false true (S ++ U)).1]

theorem decJournal_payloads (l : List Grp) (hl : ∀ g ∈ l, g.Encodable) (bytes : Bytes)
    (hb : (Journal.decode false true bytes).records = l.map encGrpBytes) : decJournal bytes = l.map Grp.onDisk := by
  unfold decJournal
  rw [hb]
  exact filterMap_dec_map _ _ _ _ fun g hg => decGrp_enc g (hl g hg)

theorem decJournal_image (f : LogFile Grp) (hf : ∀ g ∈ f.all, g.Encodable) (k : Nat) (junk : Bytes)
    (hs : Silent ((encJournal f).kept k) junk) :
    decJournal (crashFile k junk (encJournal f)).all =
      (crashLog (keptRecs (f.synced.map encGrpBytes) (f.unsynced.map encGrpBytes) k) f).all.map Grp.onDisk :=
  decJournal_payloads _ (fun g hg => hf g (mem_crashLog_all hg)) _ (crash_file_records encGrpBytes f k junk hs)

theorem decJournal_whole (f : LogFile Grp) (hf : ∀ g ∈ f.all, g.Encodable) :
    decJournal (encJournal f).all = f.all.map Grp.onDisk :=
  decJournal_payloads _ hf _ (by rw [encJournal, whole_file_records, ← List.map_append]; rfl)

/-- the streaming reader of `session.recover` contributes exactly the complete records of `Journal.decode` -/
theorem decManifest_eq (bytes : Bytes) :
    decManifest bytes = (Journal.decode false true bytes).records.filterMap decMRec := by
  rw [← (readRecords_spec false bytes).1]
  unfold decManifest completeOnes
  rw [List.filterMap_filterMap]
  congr 1
  funext p
  cases p.2 <;> simp

theorem exists_take_filter {α : Type} (p : α → Bool) (l : List α) (m : Nat) :
    ∃ k, (l.take k).filter p = (l.filter p).take m := by
  induction l generalizing m with
  | nil => exact ⟨0, by simp⟩
  | cons a l ih =>
    cases m with
    | zero => exact ⟨0, by simp⟩
    | succ m =>
      by_cases ha : p a = true
      · obtain ⟨k, hk⟩ := ih m
        exact ⟨k + 1, by simp [ha, hk]⟩
      · obtain ⟨k, hk⟩ := ih (m + 1)
        exact ⟨k + 1, by simp [ha, hk]⟩

theorem decManifest_payloads (x : EncCtx) (hx : x.Valid) (l : List MRec)
    (hl : ∀ r ∈ l, r.torn = false ∧ r.Encodable) (bytes : Bytes)
    (hb : (Journal.decode false true bytes).records = l.map (encMRecBytes x)) : decManifest bytes = l := by
  rw [decManifest_eq, hb]
  have := filterMap_dec_map decMRec (encMRecBytes x) id l fun r hr => decMRec_enc x hx r (hl r hr).2 (hl r hr).1
  simpa using this

theorem crash_manifest_records (x : EncCtx) (f : LogFile MRec) (k : Nat) (junk : Bytes)
    (hs : Silent ((encManifest x f).kept k) junk) :
    ∃ j, (Journal.decode false true (crashFile k junk (encManifest x f)).all).records =
      ((crashLog j f).all.filter fun r => !r.torn).map (encMRecBytes x) := by
  have hj := crash_file_records (encMRecBytes x)
    ⟨f.synced.filter fun r => !r.torn, f.unsynced.filter fun r => !r.torn⟩ k junk hs
  obtain ⟨j, e⟩ := exists_take_filter (fun r : MRec => !r.torn) f.unsynced
    (keptRecs ((f.synced.filter fun r => !r.torn).map (encMRecBytes x))
      ((f.unsynced.filter fun r => !r.torn).map (encMRecBytes x)) k)
  refine ⟨j, hj.trans ?_⟩
  simp only [crashLog, LogFile.all, List.append_nil, List.filter_append, e]

theorem whole_manifest_records (x : EncCtx) (f : LogFile MRec) :
    (Journal.decode false true (encManifest x f).all).records =
      (f.all.filter fun r => !r.torn).map (encMRecBytes x) := by
  unfold encManifest
  rw [whole_file_records, ← List.map_append, ← List.filter_append]
  rfl

theorem manifestCheck_ok (x : EncCtx) (hx : x.Valid) (l : List MRec) (hl : ∀ r ∈ l, r.Encodable) (bytes : Bytes)
    (hb : (Journal.decode false true bytes).records = l.map (encMRecBytes x)) :
    manifestCheck x.cmpName bytes = none := by
  unfold manifestCheck
  have hp : ((readRecords false bytes).1.filterMap fun p => if p.2 then some p.1 else none) =
      l.map (encMRecBytes x) := by
    rw [← hb, ← (readRecords_spec false bytes).1]; rfl
  simp only [hp]
  have h1 : (l.map (encMRecBytes x)).any (fun p => (decodeInto {} p true).2 == some DecErr.eof) = false := by
    rw [List.any_eq_false]
    intro p hp
    obtain ⟨r, hr, rfl⟩ := List.mem_map.1 hp
    simp [encMRecBytes, Manifest.decodeInto_encode {} _ (encMRec_valid x hx r (hl r hr))]
  rw [h1]
  simp only [Bool.false_eq_true, if_false]
  have h2 : ∀ b ∈ (l.map (encMRecBytes x)).filterMap (fun p => (SessionRecord.decode p).bind (·.comparer)),
      b = x.cmpName := by
    intro b hb
    obtain ⟨p, hp, hb⟩ := List.mem_filterMap.1 hb
    obtain ⟨r, hr, rfl⟩ := List.mem_map.1 hp
    rw [show encMRecBytes x r = (encMRec x r).encode from rfl,
      Manifest.decode_encode _ (encMRec_valid x hx r (hl r hr))] at hb
    simp only [Option.bind_some, encMRec] at hb
    split at hb
    · cases hb; rfl
    · cases hb
  split
  · next c hc => rw [h2 c (List.mem_of_getLast? hc), if_pos rfl]
  · rfl

/-- **One manifest file**, given by bytes whose complete records are the payloads of `l` (a torn record is
    represented by no bytes): `session.recover` reads `l` without the torn records, and its two checks pass. -/
theorem manifest_reads (x : EncCtx) (hx : x.Valid) (l : List MRec) (hl : ∀ r ∈ l, r.torn = false → r.Encodable)
    (bytes : Bytes)
    (hb : (Journal.decode false true bytes).records = (l.filter fun r => !r.torn).map (encMRecBytes x)) :
    decManifest bytes = l.filter (fun r => !r.torn) ∧ manifestCheck x.cmpName bytes = none := by
  have hl' : ∀ r ∈ l.filter (fun r => !r.torn), r.torn = false ∧ r.Encodable := fun r hr => by
    simp only [List.mem_filter, Bool.not_eq_eq_eq_not, Bool.not_true] at hr
    exact ⟨hr.2, hl r hr.1 hr.2⟩
  exact ⟨decManifest_payloads x hx _ hl' _ hb, manifestCheck_ok x hx _ (fun r hr => (hl' r hr).2) _ hb⟩

theorem manifest_image (x : EncCtx) (hx : x.Valid) (f : LogFile MRec)
    (hf : ∀ r ∈ f.all, r.torn = false → r.Encodable) (k : Nat) (junk : Bytes)
    (hs : Silent ((encManifest x f).kept k) junk) :
    ∃ j, decManifest (crashFile k junk (encManifest x f)).all = (crashLog j f).all.filter (fun r => !r.torn) ∧
      manifestCheck x.cmpName (crashFile k junk (encManifest x f)).all = none := by
  obtain ⟨j, hj⟩ := crash_manifest_records x f k junk hs
  exact ⟨j, manifest_reads x hx _ (fun r hr => hf r (mem_crashLog_all hr)) _ hj⟩

theorem manifest_whole (x : EncCtx) (hx : x.Valid) (f : LogFile MRec)
    (hf : ∀ r ∈ f.all, r.torn = false → r.Encodable) :
    decManifest (encManifest x f).all = f.all.filter (fun r => !r.torn) ∧
      manifestCheck x.cmpName (encManifest x f).all = none :=
  manifest_reads x hx _ hf _ (whole_manifest_records x f)

end GoLevel.Dur

import GoLevel.Model.Bytes
/-! Round trips of the fixed-width little-endian encoders and of the uvarint encoder/decoder, also with the encoded
value followed by an arbitrary `rest`, the shape that occurs when a record is parsed. -/
namespace GoLevel

@[simp] theorem leN_length (n x : Nat) : (leN n x).length = n := by
  induction n generalizing x with
  | zero => rfl
  | succ n ih => simp [leN, ih]

@[simp] theorem le16_length (x : Nat) : (le16 x).length = 2 := leN_length 2 x
@[simp] theorem le32_length (x : Nat) : (le32 x).length = 4 := leN_length 4 x
@[simp] theorem le64_length (x : Nat) : (le64 x).length = 8 := leN_length 8 x

@[simp] theorem rdLE_nil : rdLE [] = 0 := rfl
@[simp] theorem rdLE_cons (b : UInt8) (bs : Bytes) : rdLE (b :: bs) = b.toNat + 256 * rdLE bs := rfl

theorem toNat_toUInt8_of_lt {x : Nat} (h : x < 256) : x.toUInt8.toNat = x := by
  simp only [Nat.toUInt8_eq, UInt8.toNat_ofNat']; omega

@[simp] theorem toNat_toUInt8_mod (x : Nat) : (x % 256).toUInt8.toNat = x % 256 :=
  toNat_toUInt8_of_lt (Nat.mod_lt _ (by decide))

theorem and_two_pow_eq_zero (x s : Nat) : x &&& 2 ^ s = 0 ↔ x.testBit s = false := by
  constructor
  · intro h
    have : (x &&& 2 ^ s).testBit s = false := by rw [h]; exact Nat.zero_testBit s
    simpa [Nat.testBit_and, Nat.testBit_two_pow_self] using this
  · intro h
    apply Nat.eq_of_testBit_eq
    intro i
    by_cases hi : s = i
    · subst hi; simp [Nat.testBit_and, h]
    · simp [Nat.testBit_and, hi]

theorem rdLE_leN_mod (n x : Nat) : rdLE (leN n x) = x % 256 ^ n := by
  induction n generalizing x with
  | zero => simp [leN, Nat.mod_one]
  | succ n ih =>
    simp only [leN, rdLE_cons, toNat_toUInt8_mod, ih]
    rw [Nat.pow_succ, Nat.mul_comm (256 ^ n) 256, Nat.mod_mul]

theorem rdLE_leN (n x : Nat) (h : x < 256 ^ n) : rdLE (leN n x) = x := by
  rw [rdLE_leN_mod, Nat.mod_eq_of_lt h]

theorem rdLE_lt (bs : Bytes) : rdLE bs < 256 ^ bs.length := by
  induction bs with
  | nil => simp
  | cons b bs ih =>
    have hb := b.toNat_lt
    simp only [rdLE_cons, List.length_cons, Nat.pow_succ]
    omega

theorem leN_rdLE (bs : Bytes) : leN bs.length (rdLE bs) = bs := by
  induction bs with
  | nil => rfl
  | cons b bs ih =>
    have hb := b.toNat_lt
    have h1 : (b.toNat + 256 * rdLE bs) % 256 = b.toNat := by omega
    have h2 : (b.toNat + 256 * rdLE bs) / 256 = rdLE bs := by omega
    simp only [List.length_cons, leN, rdLE_cons, h1, h2, ih]
    congr 1
    apply UInt8.toNat_inj.1
    rw [toNat_toUInt8_of_lt (by omega)]

/-- `n` little-endian bytes in front of anything read back as the value modulo `256 ^ n`: the fixed-width round
trips below are its instances at 2, 4 and 8 -/
theorem rdLE_take_leN (n x : Nat) (rest : Bytes) : rdLE ((leN n x ++ rest).take n) = x % 256 ^ n := by
  rw [List.take_left' (leN_length n x), rdLE_leN_mod]

theorem rd16_le16_append (x : Nat) (rest : Bytes) (h : x < 2 ^ 16) : rd16 (le16 x ++ rest) = x :=
  (rdLE_take_leN 2 x rest).trans (Nat.mod_eq_of_lt h)
theorem rd32_le32_append (x : Nat) (rest : Bytes) (h : x < 2 ^ 32) : rd32 (le32 x ++ rest) = x :=
  (rdLE_take_leN 4 x rest).trans (Nat.mod_eq_of_lt h)
theorem rd64_le64_append (x : Nat) (rest : Bytes) (h : x < 2 ^ 64) : rd64 (le64 x ++ rest) = x :=
  (rdLE_take_leN 8 x rest).trans (Nat.mod_eq_of_lt h)

/-- without a bound the fixed-width encoders truncate, exactly like Go's conversion to `uintN`
(`leN 2 x ++ []` unfolds to the same two bytes as `le16 x`) -/
theorem rd16_le16_mod (x : Nat) : rd16 (le16 x) = x % 2 ^ 16 := rdLE_take_leN 2 x []
theorem rd32_le32_mod (x : Nat) : rd32 (le32 x) = x % 2 ^ 32 := rdLE_take_leN 4 x []
theorem rd64_le64_mod (x : Nat) : rd64 (le64 x) = x % 2 ^ 64 := rdLE_take_leN 8 x []

theorem rd16_le16 (x : Nat) (h : x < 2 ^ 16) : rd16 (le16 x) = x := (rd16_le16_mod x).trans (Nat.mod_eq_of_lt h)
theorem rd32_le32 (x : Nat) (h : x < 2 ^ 32) : rd32 (le32 x) = x := (rd32_le32_mod x).trans (Nat.mod_eq_of_lt h)
theorem rd64_le64 (x : Nat) (h : x < 2 ^ 64) : rd64 (le64 x) = x := (rd64_le64_mod x).trans (Nat.mod_eq_of_lt h)

theorem rdLE_take_lt (n : Nat) (bs : Bytes) : rdLE (bs.take n) < 256 ^ n :=
  Nat.lt_of_lt_of_le (rdLE_lt _) (Nat.pow_le_pow_right (by decide) (List.length_take_le n bs))

theorem rd16_lt (bs : Bytes) : rd16 bs < 2 ^ 16 := rdLE_take_lt 2 bs
theorem rd32_lt (bs : Bytes) : rd32 bs < 2 ^ 32 := rdLE_take_lt 4 bs
theorem rd64_lt (bs : Bytes) : rd64 bs < 2 ^ 64 := rdLE_take_lt 8 bs

theorem uvarint_lt (x : Nat) (h : x < 128) : uvarint x = [x.toUInt8] := by
  rw [uvarint]; simp [h]

theorem uvarint_ge (x : Nat) (h : ¬ x < 128) :
    uvarint x = ((x % 128) + 128).toUInt8 :: uvarint (x / 128) := by
  rw [uvarint]; simp [h]

theorem uvarint_length_pos (x : Nat) : 0 < (uvarint x).length := by
  by_cases h : x < 128
  · simp [uvarint_lt x h]
  · simp [uvarint_ge x h]

theorem uvarint_ne_nil (x : Nat) : uvarint x ≠ [] := by
  intro h; have := uvarint_length_pos x; simp [h] at this

theorem uvarint_length_le (k x : Nat) (h : x < 2 ^ (7 * k)) (hk : 0 < k) : (uvarint x).length ≤ k := by
  induction k generalizing x with
  | zero => omega
  | succ k ih =>
    by_cases hx : x < 128
    · simp [uvarint_lt x hx]
    · rw [uvarint_ge x hx, List.length_cons]
      have hk0 : 0 < k := by
        rcases Nat.eq_zero_or_pos k with rfl | h0
        · simp at h; omega
        · exact h0
      have : x / 128 < 2 ^ (7 * k) := by
        rw [Nat.div_lt_iff_lt_mul (by decide)]
        have : 2 ^ (7 * (k + 1)) = 2 ^ (7 * k) * 128 := by
          rw [Nat.mul_succ, Nat.pow_add]
        omega
      have := ih (x / 128) this hk0
      omega

theorem uvarint_length_le_ten (x : Nat) (h : x < 2 ^ 64) : (uvarint x).length ≤ 10 :=
  uvarint_length_le 10 x (Nat.lt_of_lt_of_le h (by decide)) (by decide)

/-- the decoder started in the middle (`i` bytes consumed, `shift = 7 i` in every real call, but the
lemma does not need that) on the encoding of a value that still fits -/
theorem readUvarintAux_uvarint (x k i shift acc : Nat) (rest : Bytes)
    (hx : x < 2 ^ k) (hk : k + 7 * i ≤ 64) :
    readUvarintAux i shift acc (uvarint x ++ rest)
      = some (acc + x * 2 ^ shift, i + (uvarint x).length) := by
  fun_induction uvarint x generalizing k i shift acc with
  | case1 x hlt =>
    have hb : x.toUInt8.toNat = x := toNat_toUInt8_of_lt (by omega)
    have h9 : ¬ (i = 9 ∧ x > 1) := by
      rintro ⟨rfl, h1⟩
      have : 2 ^ k ≤ 2 ^ 1 := Nat.pow_le_pow_right (by decide) (by omega)
      omega
    simp [readUvarintAux, hb, hlt, h9, show ¬ i = 10 by omega]
  | case2 x hlt ih =>
    have hb : ((x % 128) + 128).toUInt8.toNat = x % 128 + 128 := toNat_toUInt8_of_lt (by omega)
    have hk8 : 8 ≤ k := by
      refine Nat.le_of_not_lt fun hk7 => ?_
      have : 2 ^ k ≤ 2 ^ 7 := Nat.pow_le_pow_right (by decide) (by omega)
      omega
    have hdiv : x / 128 < 2 ^ (k - 7) := by
      rw [Nat.div_lt_iff_lt_mul (by decide), show (128 : Nat) = 2 ^ 7 from rfl, ← Nat.pow_add]
      rwa [show k - 7 + 7 = k by omega]
    rw [List.cons_append, readUvarintAux, if_neg (by omega), hb, if_neg (by omega),
      ih (k - 7) (i + 1) (shift + 7) _ hdiv (by omega), Nat.add_sub_cancel, List.length_cons]
    refine congrArg some (Prod.ext ?_ (by simp only []; omega))
    have e := congrArg (· * 2 ^ shift) (Nat.mod_add_div x 128)
    simp only [Nat.add_mul] at e
    rw [Nat.add_assoc, Nat.pow_add, ← Nat.mul_assoc, ← e, Nat.mul_right_comm (x / 128), Nat.mul_comm (x / 128)]

/-- `binary.Uvarint(binary.PutUvarint(x) ++ rest) = (x, n)` for every 64-bit `x` -/
@[simp] theorem readUvarint_uvarint_append (x : Nat) (rest : Bytes) (h : x < 2 ^ 64) :
    readUvarint (uvarint x ++ rest) = some (x, (uvarint x).length) := by
  have := readUvarintAux_uvarint x 64 0 0 0 rest h (by omega)
  simpa [readUvarint] using this

theorem readUvarint_uvarint (x : Nat) (h : x < 2 ^ 64) :
    readUvarint (uvarint x) = some (x, (uvarint x).length) := by
  simpa using readUvarint_uvarint_append x [] h

/-- the bound is needed: `2^64` is encoded in 10 bytes whose last one is `2`, which Go rejects -/
example : readUvarint (uvarint (2 ^ 64)) = none := by
  have : uvarint (2 ^ 64) = [128, 128, 128, 128, 128, 128, 128, 128, 128, 2] := by
    simp [uvarint_ge, uvarint_lt]
  rw [this]; decide

end GoLevel

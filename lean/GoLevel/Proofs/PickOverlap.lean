import GoLevel.Model.Pick
import GoLevel.Proofs.LSMOverlap
/-!
# `tFiles.getOverlaps` as transcribed in `Model/Pick.lean` (nil-able bounds) against its specification

With both bounds present it coincides with the functions of `Model/LSM.lean` (filter on a sorted level, overlap
closure on level 0); with any bounds the result is a sublist of the level.
-/
namespace GoLevel.Pick

theorem lvlOf_eq (v : Version) (i : Nat) : lvlOf v i = v.lvl i := rfl

theorem tOverlaps_some (c : UCmp) (t : Table) (a b : Bytes) :
    tOverlaps c t (some a) (some b) = t.overlapsRange c a b := rfl

theorem goBeginO_some (c : UCmp) (tf : Level) (a : Bytes) : goBeginO c tf (some a) = goBegin c c.cmp tf a := rfl
theorem goEndO_some (c : UCmp) (tf : Level) (b : Bytes) : goEndO c tf (some b) = goEnd c c.cmp tf b := rfl

theorem getOverlapsGo_sorted {c : UCmp} (hl : LawfulUCmp c) (tf : Level)
    (hle : ∀ t ∈ tf, c.le t.imin.ukey t.imax.ukey) (hp : tf.Pairwise (tlt c)) (a b : Bytes) :
    getOverlapsGo c tf (some a) (some b) false = tf.filter (·.overlapsRange c a b) := by
  -- with both bounds present the branch is, by unfolding, the index arithmetic of `Proofs/LSMOverlap.lean`
  have : getOverlapsGo c tf (some a) (some b) false = getOverlapsSortedIdx c c.cmp tf a b := by
    cases tf <;> rfl
  rw [this, getOverlapsSortedIdx_eq hl tf hle hp]
  rfl

theorem scanL0_some (c : UCmp) (a b : Bytes) (ts acc : List Table) :
    scanL0 c (some a) (some b) ts acc =
      (getOverlapsL0.scan c a b ts acc).map (Prod.map some some) id := by
  induction ts generalizing acc with
  | nil => rfl
  | cons t ts ih =>
    simp only [scanL0, getOverlapsL0.scan, tOverlaps_some, widensMin, widensMax, beq_iff_eq, ih,
      apply_ite (Sum.map (Prod.map some some) id), Sum.map_inl, Prod.map_apply]

theorem overlapsL0Go_some (c : UCmp) (tf : Level) (fuel : Nat) (a b : Bytes) :
    overlapsL0Go c tf fuel (some a) (some b) = getOverlapsL0 c tf fuel a b := by
  induction fuel generalizing a b with
  | zero => rfl
  | succ n ih =>
    rw [overlapsL0Go, getOverlapsL0, scanL0_some]
    cases getOverlapsL0.scan c a b tf [] with
    | inl p => exact ih p.1 p.2
    | inr r => rfl

theorem getOverlapsGo_l0 (c : UCmp) (tf : Level) (a b : Bytes) :
    getOverlapsGo c tf (some a) (some b) true = getOverlapsL0 c tf (2 * tf.length + 1) a b := by
  cases tf with
  | nil => rfl
  | cons t ts => exact overlapsL0Go_some c (t :: ts) _ a b


theorem scanL0_inr (c : UCmp) (umin umax : Option Bytes) (ts acc r : List Table)
    (h : scanL0 c umin umax ts acc = .inr r) :
    r = acc.reverse ++ ts.filter (tOverlaps c · umin umax) := by
  induction ts generalizing acc with
  | nil =>
    simp only [scanL0, Sum.inr.injEq] at h
    simp [← h]
  | cons t ts ih =>
    rw [scanL0] at h
    by_cases hov : tOverlaps c t umin umax = true
    · rw [if_pos hov] at h
      split at h
      · cases h
      split at h
      · cases h
      rw [ih _ h]; simp [hov]
    · rw [if_neg hov] at h
      rw [ih _ h]; simp [hov]

theorem overlapsL0Go_sublist (c : UCmp) (tf : Level) (fuel : Nat) (umin umax : Option Bytes) :
    (overlapsL0Go c tf fuel umin umax).Sublist tf := by
  induction fuel generalizing umin umax with
  | zero => exact List.filter_sublist
  | succ n ih =>
    rw [overlapsL0Go]
    cases h : scanL0 c umin umax tf [] with
    | inl p => obtain ⟨x, y⟩ := p; exact ih x y
    | inr r =>
      have := scanL0_inr c umin umax tf [] r h
      simp only [List.reverse_nil, List.nil_append] at this
      rw [this]; exact List.filter_sublist

theorem getOverlapsGo_sublist (c : UCmp) (tf : Level) (umin umax : Option Bytes) (ov : Bool) :
    (getOverlapsGo c tf umin umax ov).Sublist tf := by
  unfold getOverlapsGo
  split
  · exact List.nil_sublist _
  · split
    · unfold overlapsSortedGo
      split
      · exact List.nil_sublist _
      · exact (List.take_sublist _ _).trans (List.drop_sublist _ _)
    · exact overlapsL0Go_sublist c tf _ umin umax

/-- nil bounds on level 0: everything overlaps, nothing widens the range -/
example : getOverlapsGo bytewise [ovT 1 40 60, ovT 2 25 45, ovT 4 70 80] none none true =
    [ovT 1 40 60, ovT 2 25 45, ovT 4 70 80] := by decide +kernel
example : getOverlapsGo bytewise [ovT 1 10 20, ovT 2 30 40, ovT 3 50 60] (some [35]) none false =
    [ovT 2 30 40, ovT 3 50 60] := by decide +kernel
example : getOverlapsGo bytewise [ovT 1 10 20, ovT 2 30 40, ovT 3 50 60] none (some [35]) false =
    [ovT 1 10 20, ovT 2 30 40] := by decide +kernel
/-- the closure on level 0 (two restarts) -/
example : getOverlapsGo bytewise [ovT 1 40 60, ovT 2 25 45, ovT 3 10 30, ovT 4 70 80] (some [50]) (some [55]) true =
    [ovT 1 40 60, ovT 2 25 45, ovT 3 10 30] := by decide +kernel

end GoLevel.Pick

import GoLevel.Proofs.CacheInv
/-! Who pushes whom (C17).  An API call of the cache is compiled to instructions, and executing an instruction puts
its continuation in front of the thread: `Pushes sh sh' i j` says that executing `i` in `sh`, with result `sh'`, may
push `j`, and records what the tests on that path tell about the two states.  It is read off `Exec` once
(`exec_pushes`); what a pushed instruction of some class (`holdsVal`, `zeroRef`, …) says about the instruction
executed is then a case analysis on the edges, with nothing else in the context. -/
namespace GoLevel.CacheM

inductive Pushes (sh sh' : Shared) : Instr → Instr → Prop
  | enterRunlock {c} : Pushes sh sh' (.enter c) .runlock
  | enterBget {c k m} : sh.closed = false → Pushes sh sh' (.enter c) (.bget k m)
  | enterLevict {c id} : Pushes sh sh' (.enter c) (.levict id)
  | bgetSetv {k m id sf} : Pushes sh sh' (.bget k m) (.setv id sf)
  | bgetAddDel {k m id d} : Pushes sh sh' (.bget k m) (.addDel id d)
  | bgetBan {k m id} : Pushes sh sh' (.bget k m) (.ban id)
  | bgetLevict {k m id} : Pushes sh sh' (.bget k m) (.levict id)
  | bgetUnref {k m id} : Pushes sh sh' (.bget k m) (.unrefInt id)
  | bgetRetBool {k m b} : Pushes sh sh' (.bget k m) (.retBool b)
  | bgetRetNil {k m} : Pushes sh sh' (.bget k m) .retNil
  | bgetRunDel {k m d} : Pushes sh sh' (.bget k m) (.runDel d)
  | setvPromote {id sf m} : m ∈ sh'.nodes → m.id = id → m.value.isSome = true →
      Pushes sh sh' (.setv id sf) (.promote id)
  | setvUnref {id sf} : Pushes sh sh' (.setv id sf) (.unrefInt id)
  | setvRetNil {id sf} : Pushes sh sh' (.setv id sf) .retNil
  | promoteRet {id} : Pushes sh sh' (.promote id) (.retHandle id)
  | promoteEvict {id e} : e = id ∨ e ∈ sh.lru.recent → Pushes sh sh' (.promote id) (.unrefExt e)
  | banUnlist {id n} : findId sh.nodes id = some n → n.lru = .inList → Pushes sh sh' (.ban id) (.unrefExt id)
  | levictUnlist {id n} : findId sh.nodes id = some n → n.lru = .inList → Pushes sh sh' (.levict id) (.unrefExt id)
  | unrefDelz {id k} : Pushes sh sh' (.unrefInt id) (.delz k)
  | unrefExtz {id n m} : findId sh.nodes id = some n → m ∈ sh'.nodes → m.id = id → m.ref = 0 →
      Pushes sh sh' (.unrefExt id) (.extz id n.key)
  | extzRunlock {id k} : Pushes sh sh' (.extz id k) .runlock
  | extzFin {id k} : sh'.closed = true → (sh.recheck && refNonZero sh.nodes id) = false →
      Pushes sh sh' (.extz id k) (.fin id false)
  | extzDelz {id k} : sh.closed = false → Pushes sh sh' (.extz id k) (.delz k)
  | setcapEvict {c e} : e ∈ sh.lru.recent → Pushes sh sh' (.setcap c) (.unrefExt e)
  | closeLevict {f id} : Pushes sh sh' (.closeLock f) (.levict id)
  | closeZero {id} : sh'.closed = true → sh'.forced = true → Pushes sh sh' (.closeLock true) (.zero id)
  | closeFin {n} : sh'.closed = true → sh'.forced = true → n ∈ sh.nodes →
      Pushes sh sh' (.closeLock true) (.fin n.id true)
  | relH {id} : id ∈ sh.handles → Pushes sh sh' (.relH id) (.unrefExt id)

theorem exec_pushes {sh sh' i push evs} (he : exec sh i = some (sh', push, evs)) : ∀ j ∈ push, Pushes sh sh' i j := by
  cases exec_spec he <;> clear he
  case setvHas n v hf hv =>
    intro j hj; rw [List.mem_singleton.mp hj]
    exact .setvPromote (findId_some hf).1 (findId_some hf).2 (by rw [hv]; rfl)
  case setvVal sid n sz hf hv =>
    intro j hj; rw [List.mem_singleton.mp hj]
    refine .setvPromote (mem_upd.mpr ⟨n, (findId_some hf).1, rfl⟩) ?_ ?_ <;> rw [if_pos (findId_some hf).2]
    · exact (findId_some hf).2
    · rfl
  case promoteAdmit pid n r hf hl hfit hr =>
    intro j hj
    rcases List.mem_append.mp hj with hj | hj
    · obtain ⟨e, hev, rfl⟩ := List.mem_map.mp hj
      have := evicted_mem hr hev
      simp only [List.mem_reverse, List.mem_cons] at this
      exact .promoteEvict this
    · rw [List.mem_singleton.mp hj]; exact .promoteRet
  case setcap c r hr =>
    intro j hj
    obtain ⟨e, hev, rfl⟩ := List.mem_map.mp hj
    exact .setcapEvict (List.mem_reverse.mp (evicted_mem hr hev))
  case unrefExtZero uid n hf h0 =>
    intro j hj; rw [List.mem_singleton.mp hj]
    refine .unrefExtz hf (mem_upd.mpr ⟨n, (findId_some hf).1, rfl⟩) ?_ ?_ <;> rw [if_pos (findId_some hf).2]
    · exact (findId_some hf).2
    · exact h0
  case banListed bid n hf hl =>
    intro j hj; rw [List.mem_singleton.mp hj]; exact .banUnlist hf hl
  case levictListed bid n hf hl =>
    intro j hj; rw [List.mem_singleton.mp hj]; exact .levictUnlist hf hl
  case close f h0 hc =>
    rw [forall_mem_closeInstrs]
    intro n hn
    exact ⟨.closeLevict, fun hf => by subst hf; exact ⟨.closeZero rfl rfl, .closeFin rfl rfl hn⟩⟩
  -- the other paths push an explicit list: one edge per element, its hypotheses among the tests of the path
  all_goals simp only [List.forall_mem_append, List.forall_mem_cons, List.forall_mem_map, List.forall_mem_filter,
    List.not_mem_nil, false_imp_iff, implies_true, and_true]
  all_goals first
    | exact True.intro
    | (repeat' (first | intro _ | constructor)) <;> assumption

namespace Pushes

/-- Inside a closed cache only an open-only instruction pushes an open-only one. -/
theorem openOnly {sh sh' i j} (hp : Pushes sh sh' i j) (hc : sh.closed = true) (hi : openOnly i = false) :
    CacheM.openOnly j = false := by
  cases hp <;> first | rfl | (cases hi; done) | exact absurd (‹sh.closed = false›.symm.trans hc) Bool.false_ne_true

theorem closedOnly {sh sh' i j} (hp : Pushes sh sh' i j) (hc : sh'.closed = false) : closedOnly j = false := by
  cases hp <;> first | rfl | exact absurd (hc.symm.trans ‹sh'.closed = true›) Bool.false_ne_true

theorem forcedOnly {sh sh' i j} (hp : Pushes sh sh' i j) (hf : sh'.forced = false) : forcedOnly j = false := by
  cases hp <;> first | rfl | exact absurd (hf.symm.trans ‹sh'.forced = true›) Bool.false_ne_true

/-- `Close`'s own lock step and the `RLock` of a call are only ever the first instruction of a call. -/
theorem plain {sh sh' i j} (hp : Pushes sh sh' i j) : isCloseLock j = false ∧ isEnter j = false := by
  cases hp <;> exact ⟨rfl, rfl⟩

/-- A finaliser / zero branch is pushed for a node just seen in the table, or for the node `i` was about. -/
theorem finTarget {sh sh' i j} (hp : Pushes sh sh' i j) {id : Nat} (hj : finTarget j = some id) :
    (∃ n ∈ sh.nodes, n.id = id) ∨ CacheM.finTarget i = some id := by
  cases hp <;> try (cases hj; done)
  case unrefExtz n m hf _ _ _ => exact .inl ⟨n, (findId_some hf).1, (findId_some hf).2.trans (Option.some.inj hj)⟩
  case extzFin => exact .inr hj
  case closeFin n _ _ hn => exact .inl ⟨n, hn, Option.some.inj hj⟩

/-- A zero branch or finaliser of `unRefExternal` is pushed by the zero branch itself, or by the `unRefExternal`
that brings the counter to zero. -/
theorem zeroRef {sh sh' i j} (hp : Pushes sh sh' i j) {g : Bool} {id : Nat} (hz : zeroRef g j = some id) :
    CacheM.zeroRef g i = some id ∨ (∃ m ∈ sh'.nodes, m.id = id ∧ m.ref = 0) ∨
      ∃ k, i = .extz id k ∧ (sh.recheck && refNonZero sh.nodes id) = false := by
  cases hp <;> try (cases hz; done)
  case unrefExtz uid n m hf hm hid h0 =>
    have e : uid = id := by cases g <;> simp [CacheM.zeroRef] at hz; exact hz
    exact .inr (.inl ⟨m, hm, hid.trans e, h0⟩)
  case extzFin eid k hc hre =>
    have e : eid = id := by simpa [CacheM.zeroRef] using hz
    exact .inr (.inr ⟨k, by rw [e], e ▸ hre⟩)

/-- An instruction that relies on a node's value is pushed by one that did, for a handle or a list entry given
up, or by the `setv` that has just seen or made the value. -/
theorem holdsVal {sh sh' i j} (hp : Pushes sh sh' i j) {id : Nat} (hv : holdsVal id j = true) :
    CacheM.holdsVal id i = true ∨ id ∈ sh.handles ∨ id ∈ sh.lru.recent ∨
      (∃ n, findId sh.nodes id = some n ∧ n.lru = .inList) ∨
      ∃ m ∈ sh'.nodes, m.id = id ∧ m.value.isSome = true := by
  have eqv : ∀ {a : Nat}, (a == id) = true → a = id := fun h => by simpa using h
  cases hp <;> try (cases hv; done)
  case setvPromote m hm hid hval => exact .inr (.inr (.inr (.inr ⟨m, hm, hid.trans (eqv hv), hval⟩)))
  case promoteRet => exact .inl hv
  case promoteEvict pid e he =>
    rcases he with rfl | he
    · exact .inl hv
    · exact .inr (.inr (.inl (eqv hv ▸ he)))
  case banUnlist n hf hl | levictUnlist n hf hl => exact .inr (.inr (.inr (.inl ⟨n, eqv hv ▸ hf, hl⟩)))
  case setcapEvict he => exact .inr (.inr (.inl (eqv hv ▸ he)))
  case relH hm => exact .inr (.inl (eqv hv ▸ hm))

end Pushes
end GoLevel.CacheM

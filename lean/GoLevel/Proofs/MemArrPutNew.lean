import GoLevel.Proofs.MemArrPut
/-! `Put` of a new key over the arrays re-establishes the representation relation (C14). -/
namespace GoLevel.MemArr
open GoLevel.Gen (nKV nKey nVal nHeight nNext tMaxHeight)
open GoLevel.MemDB (Node LawfulCmp Sorted pred below ins)

variable {cmp : Cmp} {a : DB} {d : MemDB.DB} {ix : Bytes → Nat}

/-- the ideal table after `Put` of a key that is not present (`MemDB.put_new`) -/
def putNew (cmp : Cmp) (d : MemDB.DB) (key v : Bytes) (h : Nat) : MemDB.DB :=
  { levels := MemDB.linkIdeal cmp key h d.levels
    kv := (key, v) :: d.kv.filter (·.1 != key)
    n := d.n + 1
    kvSize := d.kvSize + key.length + v.length
    used := d.used + key.length + v.length }

theorem lv_linkIdeal (key : Bytes) (h : Nat) (L : List (List Bytes)) (i : Nat) :
    lv (MemDB.linkIdeal cmp key h L) i = if i < h then ins cmp key (lv L i) else lv L i := by
  unfold lv
  rw [MemDB.linkIdeal_getElem?]
  by_cases hi : i < h <;> simp [hi]

theorem key_not_lv (r : Rep cmp a d ix) {key : Bytes} (hk : key ∉ d.level0) (i : Nat) :
    key ∉ lv d.levels i :=
  fun hm => hk (r.lv_sub0 hm)

theorem putNew_length (cmp : Cmp) (d : MemDB.DB) (key v : Bytes) (h : Nat) :
    (putNew cmp d key v h).levels.length = max h d.levels.length :=
  MemDB.linkIdeal_length key h d.levels

section
variable (hc : LawfulCmp cmp) (r : Rep cmp a d ix) {key : Bytes} (hk : key ∉ d.level0) (v : Bytes) {h : Nat}
  (h1 : 1 ≤ h) (h2 : h ≤ tMaxHeight)
include hc r hk h1 h2

theorem putNew_inv : MemDB.Inv cmp (putNew cmp d key v h) := by
  have := MemDB.put_inv hc r.inv key v h1 h2
  rwa [MemDB.put_new hc r.inv hk] at this

omit hc r hk h2 in
theorem putNew_level0 (k : Bytes) : k ∈ (putNew cmp d key v h).level0 ↔ k = key ∨ k ∈ d.level0 := by
  show k ∈ (MemDB.linkIdeal cmp key h d.levels).headD [] ↔ _
  rw [MemDB.level0_put_new h1, MemDB.mem_ins]

theorem putNew_height_other {k : Bytes} (hk0 : k ∈ d.level0) :
    (putNew cmp d key v h).height k = d.height k := by
  have hne : k ≠ key := fun e => hk (e ▸ hk0)
  apply height_unique (putNew_inv hc r hk v h1 h2).towersSub
  intro i
  show k ∈ lv (MemDB.linkIdeal cmp key h d.levels) i ↔ _
  rw [lv_linkIdeal, ← mem_lv_iff r k i]
  by_cases hih : i < h <;> simp [hih, MemDB.mem_ins, hne]

theorem putNew_height_key : (putNew cmp d key v h).height key = h := by
  apply height_unique (putNew_inv hc r hk v h1 h2).towersSub
  intro i
  show key ∈ lv (MemDB.linkIdeal cmp key h d.levels) i ↔ _
  rw [lv_linkIdeal]
  by_cases hih : i < h
  · simp only [hih, if_true, MemDB.mem_ins, true_or]
  · simp only [hih, if_false, iff_false]; exact key_not_lv r hk i

end

theorem put_new_rep (hc : LawfulCmp cmp) (r : Rep cmp a d ix) {key : Bytes} (hk : key ∉ d.level0) (v : Bytes)
    {h : Nat} (h1 : 1 ≤ h) (h2 : h ≤ tMaxHeight) {nd' : Array Nat} (pn2 : List Nat)
    (hpn : pn2.length = tMaxHeight) (I : Inserted cmp a d ix key v h nd') :
    Rep cmp { kvData := a.kvData ++ key.toArray ++ v.toArray, nodeData := nd', prevNode := pn2,
              maxHeight := if h > a.maxHeight then h else a.maxHeight, n := a.n + 1,
              kvSize := a.kvSize + (key.length + v.length), gen := a.gen }
      (putNew cmp d key v h) (fun k => if k = key then a.nodeData.size else ix k) := by
  have e4 := nNext_eq
  have hinv' := putNew_inv hc r hk v h1 h2
  have hlen := putNew_length cmp d key v h
  have hsz : nNext + tMaxHeight ≤ a.nodeData.size := by have := r.fuel; omega
  have same_slot : ∀ {z i}, Slot d ix z i → (i < h → z ≠ nix ix (pth cmp d key i)) →
      nd'[z + nNext + i]? = a.nodeData[z + nNext + i]? :=
    fun s hne => I.same _ (r.owner_lt s) (fun j hj => r.slot_off_path key s h2 hne hj)
  have same_field : ∀ {k}, k ∈ d.level0 → ∀ f, f < nNext → nd'[ix k + f]? = a.nodeData[ix k + f]? := by
    intro k hk0 f hf
    exact I.same _ (by have := (r.node k hk0).hi; omega)
      (fun j hj => r.field_ne_slot hk0 hf (r.pth_owner key (by omega)))
  have ixo : ∀ {k}, k ≠ key → (if k = key then a.nodeData.size else ix k) = ix k := by
    intro k hne; simp [hne]
  have hchain : ∀ i, i < tMaxHeight → Chain nd' (fun k => if k = key then a.nodeData.size else ix k) i 0 0
      (lv (MemDB.linkIdeal cmp key h d.levels) i) := by
    intro i hit
    rw [lv_linkIdeal]
    have hold := r.chain_lv hit
    by_cases hih : i < h
    · simp only [hih, if_true]
      unfold ins
      rw [← List.takeWhile_append_dropWhile (p := below cmp key) (l := lv d.levels i)] at hold
      have hp : ((List.takeWhile (below cmp key) (lv d.levels i)).map ix).getLastD 0 =
          nix ix (pth cmp d key i) := getLastD_map_nix ..
      have hmem : ∀ k, k ∈ List.takeWhile (below cmp key) (lv d.levels i) ++
          List.dropWhile (below cmp key) (lv d.levels i) → k ∈ lv d.levels i := by
        intro k hk'; rwa [List.takeWhile_append_dropWhile] at hk'
      refine chain_splice (mid := []) (mid' := [key]) _ 0 hold ?_ ?_ ?_ ?_
      · intro k hk'
        have : k ≠ key := fun e => key_not_lv r hk i (e ▸ hmem k hk')
        exact ixo this
      · intro S hS
        rw [hp] at hS ⊢
        refine ⟨?_, ?_⟩ <;> dsimp only <;> rw [if_pos rfl]
        · exact I.link i hih
        · exact (I.next i hih).trans hS
      · intro z hz hne
        rw [List.takeWhile_append_dropWhile] at hz
        exact same_slot (r.cell_owner hit hz) (fun _ => hp ▸ hne)
      · rw [List.takeWhile_append_dropWhile]; exact r.nodup_lv hc i
    · simp only [hih, if_false]
      exact hold.frame (fun k hk' => ixo (fun e => key_not_lv r hk i (e ▸ hk')))
        (fun z hz => same_slot (r.cell_owner hit hz) (fun hh => absurd hh hih))
  refine
    { inv := hinv', mh := ?_, n := ?_, kvSize := ?_, used := ?_, pn := hpn, fuel := ?_,
      top := (top_chain_of_lv hinv'.height hchain).1, chain := (top_chain_of_lv hinv'.height hchain).2,
      node := ?_, sep := ?_ }
  · show (if h > a.maxHeight then h else a.maxHeight) = _
    rw [hlen, r.mh]
    by_cases hgt : h > d.levels.length <;> simp [hgt] <;> omega
  · show a.n + 1 = d.n + 1
    rw [r.n]
  · show a.kvSize + (key.length + v.length) = d.kvSize + key.length + v.length
    rw [r.kvSize]; omega
  · show (a.kvData ++ key.toArray ++ v.toArray).size = d.used + key.length + v.length
    simp [Array.size_append, r.used, Nat.add_assoc]
  · show ((MemDB.linkIdeal cmp key h d.levels).map List.length).sum + _ ≤ nd'.size
    rw [linkIdeal_sum, I.size]
    have := r.fuel; omega
  · intro k hk'
    rcases (putNew_level0 v h1 k).1 hk' with rfl | hk0
    · rw [putNew_height_key hc r hk v h1 h2, if_pos rfl]
      have hv : (putNew cmp d k v h).value k = v := MemDB.value_put_self d k v _ _ _ _
      rw [hv]
      exact ⟨hsz, by show _ ≤ nd'.size; rw [I.size]; omega,
        ⟨a.kvData.size, I.fields 0 (by decide), slice_put_key _ _ _, slice_put_val _ _ _⟩, I.fields 1 (by decide),
        I.fields 2 (by decide), I.fields 3 (by decide)⟩
    · have hne : k ≠ key := fun e => hk (e ▸ hk0)
      rw [putNew_height_other hc r hk v h1 h2 hk0, ixo hne]
      have hv : (putNew cmp d key v h).value k = d.value k := MemDB.value_put_other d hne v _ _ _ _
      rw [hv]
      exact (r.node k hk0).frame _ (Array.append_assoc ..) (by show _ ≤ nd'.size; rw [I.size]; omega)
        (same_field hk0)
  · intro k hk1 k' hk2 hkk
    rcases (putNew_level0 v h1 k).1 hk1 with rfl | hk0
    · rcases (putNew_level0 v h1 k').1 hk2 with rfl | hk0'
      · exact absurd rfl hkk
      · have hne : k' ≠ k := fun e => hkk e.symm
        rw [ixo hne, if_pos rfl, putNew_height_other hc r hk v h1 h2 hk0']
        have := (r.node k' hk0').hi
        exact .inr this
    · have hne : k ≠ key := fun e => hk (e ▸ hk0)
      rcases (putNew_level0 v h1 k').1 hk2 with rfl | hk0'
      · rw [ixo hne, if_pos rfl, putNew_height_other hc r hk v h1 h2 hk0]
        have := (r.node k hk0).hi
        exact .inl this
      · have hne' : k' ≠ key := fun e => hk (e ▸ hk0')
        rw [ixo hne, ixo hne', putNew_height_other hc r hk v h1 h2 hk0, putNew_height_other hc r hk v h1 h2 hk0']
        exact r.sep k hk0 k' hk0' hkk

theorem put_new_sim (hc : LawfulCmp cmp) (r : Rep cmp a d ix) {key : Bytes} (hk : key ∉ d.level0) (v : Bytes)
    {h : Nat} (h1 : 1 ≤ h) (h2 : h ≤ tMaxHeight) :
    ∃ a', put cmp a key v h = some a' ∧
      Rep cmp a' (MemDB.put cmp d key v h) (fun k => if k = key then a.nodeData.size else ix k) ∧
      a'.gen = a.gen ∧ a'.kvData = a.kvData ++ key.toArray ++ v.toArray ∧
      Inserted cmp a d ix key v h a'.nodeData := by
  obtain ⟨node, pn', g1, _, glen, hpath⟩ := findGE_path hc r key
  obtain ⟨nd', pn2, e, hpn, I⟩ := putInsert_arrays r key v h2 pn' glen hpath
  refine ⟨{ kvData := a.kvData ++ key.toArray ++ v.toArray, nodeData := nd', prevNode := pn2,
            maxHeight := if h > a.maxHeight then h else a.maxHeight, n := a.n + 1,
            kvSize := a.kvSize + (key.length + v.length), gen := a.gen }, ?_,
    by rw [MemDB.put_new hc r.inv hk]; exact put_new_rep hc r hk v h1 h2 pn2 hpn I, rfl, rfl, I⟩
  simp only [put, g1, hk, decide_false, Option.bind_some, Option.bind_eq_bind, Bool.false_eq_true, if_false]
  exact e

end GoLevel.MemArr

import GoLevel.Model.BlockNS
/-! Invariant of `Model/BlockNS.lean` for the repaired order (evict, then give the number back). -/
namespace GoLevel.BlockNS

theorem lookup_cons (a b : Nat) (l : List (Nat × Nat)) (m : Nat) :
    lookup ((a, b) :: l) m = if a = m then some b else lookup l m := by
  unfold lookup
  by_cases h : a = m <;> simp [h]

theorem lookup_filter (l : List (Nat × Nat)) (n m : Nat) :
    lookup (l.filter (·.1 ≠ n)) m = if m = n then none else lookup l m := by
  unfold lookup
  induction l with
  | nil => split <;> rfl
  | cons p ps ih =>
    by_cases hp : p.1 = n <;> by_cases hm : p.1 = m <;> by_cases hmn : m = n <;>
      simp_all

structure Inv (s : St) : Prop where
  named_lt : ∀ n id, lookup s.named n = some id → n < s.next
  cache_ok : ∀ n cid, lookup s.cache n = some cid →
    lookup s.named n = some cid ∨ (lookup s.named n = none ∧ n < s.next)
  pend_gone : ∀ n b, s.pend = some (n, b) → lookup s.named n = none ∧ n < s.next
  pend_evicted : ∀ n, s.pend = some (n, true) → lookup s.cache n = none

theorem inv_init : Inv {} := ⟨by simp [lookup], by simp [lookup], by simp, by simp⟩

/-- Each field is a statement about `lookup`; a step changes the lists by a `cons` or a `filter`, for which
`lookup_cons` / `lookup_filter` compute the lookups; what remains is comparing numbers with `next`. -/
theorem inv_step {s s' : St} {a : Act} {out : Option Nat} (h : Inv s) (hs : step true s a = some (s', out)) :
    Inv s' := by
  obtain ⟨h1, h2, h3, h4⟩ := h
  cases a with
  | create =>
    simp only [step, Option.some.injEq, Prod.mk.injEq] at hs
    obtain ⟨rfl, _⟩ := hs
    refine ⟨?_, ?_, ?_, h4⟩ <;> simp only [lookup_cons] <;> grind
  | read n =>
    simp only [step] at hs
    split at hs
    · cases hs
    · split at hs <;> (simp only [Option.some.injEq, Prod.mk.injEq] at hs; obtain ⟨rfl, _⟩ := hs)
      · exact ⟨h1, h2, h3, h4⟩
      · refine ⟨h1, ?_, h3, ?_⟩ <;> simp only [lookup_cons] <;> grind
  | beginRemove n =>
    simp only [step] at hs
    split at hs
    · simp only [Option.some.injEq, Prod.mk.injEq] at hs
      obtain ⟨rfl, _⟩ := hs
      refine ⟨?_, ?_, ?_, ?_⟩ <;> simp only [lookup_filter] <;> grind
    · cases hs
  | removeStep =>
    simp only [step] at hs
    split at hs
    · cases hs
    · simp only [if_true, Option.some.injEq, Prod.mk.injEq] at hs
      obtain ⟨rfl, _⟩ := hs
      refine ⟨h1, ?_, ?_, ?_⟩ <;> simp only [evict, lookup_filter] <;> grind
    · simp only [if_true, Option.some.injEq, Prod.mk.injEq] at hs
      obtain ⟨rfl, _⟩ := hs
      unfold reuse
      split
      · refine ⟨?_, ?_, fun _ _ h => (nomatch h), fun _ h => (nomatch h)⟩ <;> grind
      · exact ⟨h1, h2, fun _ _ h => (nomatch h), fun _ h => (nomatch h)⟩

theorem read_serves_named {s s' : St} {n : Nat} {out : Option Nat} (h : Inv s)
    (hs : step true s (.read n) = some (s', out)) : lookup s.named n = out := by
  simp only [step] at hs
  split at hs
  · cases hs
  · rename_i id hn
    split at hs <;> (simp only [Option.some.injEq, Prod.mk.injEq] at hs; obtain ⟨-, rfl⟩ := hs)
    · rename_i hc
      rcases h.cache_ok n _ hc with h1 | ⟨h1, _⟩
      · exact h1
      · rw [hn] at h1; cases h1
    · exact hn

theorem inv_run {s s' : St} {as : List Act} {log : List (Nat × Option Nat × Nat)} (h : Inv s)
    (hr : run true s as = some (s', log)) : Inv s' ∧ ∀ e ∈ log, e.2.1 = some e.2.2 := by
  induction as generalizing s s' log with
  | nil =>
    simp only [run, Option.some.injEq, Prod.mk.injEq] at hr
    obtain ⟨rfl, rfl⟩ := hr; exact ⟨h, by simp⟩
  | cons a as ih =>
    simp only [run] at hr
    split at hr
    · cases hr
    · rename_i s1 out hst
      split at hr
      · cases hr
      · rename_i s2 l2 hr1
        have ⟨hi, hl⟩ := ih (inv_step h hst) hr1
        split at hr <;> (simp only [Option.some.injEq, Prod.mk.injEq] at hr; obtain ⟨rfl, rfl⟩ := hr)
        · refine ⟨hi, fun e he => ?_⟩
          rcases List.mem_cons.mp he with rfl | he
          · exact read_serves_named h hst
          · exact hl e he
        · exact ⟨hi, hl⟩

end GoLevel.BlockNS

import GoLevel.Proofs.FSMetaSys
/-!
# `GetMeta` without faults is a function of what the directory shows

In a *calm* world (`Calm`, `Proofs/FSMetaSys.lean`: the process is alive and none of its further system calls fails)
a system call is its effect (`sys_calm`), so the reading half of `GetMeta` is a pure function of the file system
(`look`, `lookAll`, `answer`; `getMeta_calm`), and the world it leaves is the one `repair` makes.
-/
namespace GoLevel.FSMeta

/-- `tryCurrent` as a function of the file system -/
def look (fs : FS) (n : Name) : Except Err FD :=
  match fs.read n with
  | none => .error .notExist
  | some c =>
    match c.parse with
    | none => .error .corrupted
    | some fd => if fs.vdir.files fd then .ok fd else .error .notExist

/-- `tryCurrents` as a function of the file system -/
def lookAll (fs : FS) : List Name → Bool → Except Err (Name × FD)
  | [], lastC => .error (if lastC then .corrupted else .notExist)
  | n :: rest, lastC =>
    match look fs n with
    | .ok fd => .ok (n, fd)
    | .error .notExist => lookAll fs rest lastC
    | .error .corrupted => lookAll fs rest true
    | .error e => .error e

def pendAns (fs : FS) : Except Err (Name × FD) :=
  if fs.pending.isEmpty then .error .notExist else lookAll fs (fs.pending.map .pend) false

def curAns (fs : FS) : Except Err (Name × FD) := lookAll fs [.cur, .bak] false

/-- `GetMeta`'s answer as a function of the file system -/
def answer (cfg : Cfg) (fs : FS) : Except Err FD :=
  match choose cfg (pendAns fs) (curAns fs) with
  | some c => .ok c.2
  | none =>
    match pendAns fs, curAns fs with
    | .error .corrupted, _ => .error .corrupted
    | _, .error e => .error e
    | _, _ => .error .io

theorem look_ne_io (fs : FS) (n : Name) : look fs n ≠ .error .io := by
  unfold look
  repeat' split
  all_goals simp

theorem lookAll_ne_io (fs : FS) (ns : List Name) (lc : Bool) : lookAll fs ns lc ≠ .error .io := by
  induction ns generalizing lc with
  | nil => cases lc <;> simp [lookAll]
  | cons n rest ih =>
    unfold lookAll
    have := look_ne_io fs n
    split
    · simp
    · exact ih _
    · exact ih _
    · rename_i e _ _ h; cases e <;> simp_all

theorem tryCurrent_calm (n : Name) {w : W} {fs : FS} (hf : w.fs = fs) (h : Calm w) :
    ∃ w', tryCurrent n w = (look fs n, w') ∧ w'.fs = fs ∧ Calm w' := by
  unfold tryCurrent look readFile
  rw [sys_calm _ _ _ h, hf]
  cases fs.read n with
  | none => exact ⟨_, rfl, rfl, h.nxt _ _⟩
  | some c =>
    simp only
    cases c.parse with
    | none => exact ⟨_, rfl, rfl, h.nxt _ _⟩
    | some fd =>
      simp only [statFile]
      rw [sys_calm _ _ _ (h.nxt _ _)]
      simp only [nxt_fs]
      by_cases hf : fs.vdir.files fd = true
      · simp only [hf, if_true]; exact ⟨_, rfl, rfl, (h.nxt _ _).nxt _ _⟩
      · simp only [hf]; exact ⟨_, rfl, rfl, (h.nxt _ _).nxt _ _⟩

theorem tryCurrents_calm (ns : List Name) (lc : Bool) {w : W} {fs : FS} (hf : w.fs = fs) (h : Calm w) :
    ∃ w', tryCurrents ns lc w = (lookAll fs ns lc, w') ∧ w'.fs = fs ∧ Calm w' := by
  induction ns generalizing lc w with
  | nil => exact ⟨w, rfl, hf, h⟩
  | cons n rest ih =>
    unfold tryCurrents lookAll
    obtain ⟨w1, e1, f1, c1⟩ := tryCurrent_calm n hf h
    rw [e1]
    cases look fs n with
    | ok fd => exact ⟨w1, rfl, f1, c1⟩
    | error e =>
      cases e with
      | notExist => exact ih lc f1 c1
      | corrupted => exact ih true f1 c1
      | io => exact ⟨w1, rfl, f1, c1⟩

theorem getMeta_calm (cfg : Cfg) (ro : Bool) {w : W} {fs : FS} (hf : w.fs = fs) (h : Calm w) :
    ∃ w', w'.fs = fs ∧ Calm w' ∧
      getMeta cfg ro w = (answer cfg fs,
        match choose cfg (pendAns fs) (curAns fs) with
        | some c => repair cfg ro fs.pending c w'
        | none => w') := by
  unfold getMeta readDir
  rw [sys_calm _ _ _ h, hf]
  have c1 := h.nxt .readDir fs
  have f1 : (nxt .readDir fs w).fs = fs := rfl
  generalize nxt .readDir fs w = w1 at c1 f1 ⊢
  simp only
  have hp : ∃ w2, (if fs.pending.isEmpty then ((.error .notExist : Except Err (Name × FD)), w1)
      else tryCurrents (fs.pending.map .pend) false w1) = (pendAns fs, w2) ∧ w2.fs = fs ∧ Calm w2 := by
    unfold pendAns
    split
    · exact ⟨w1, rfl, f1, c1⟩
    · exact tryCurrents_calm _ false f1 c1
  obtain ⟨w2, e2, f2, c2⟩ := hp
  rw [e2]
  obtain ⟨w3, e3, f3, c3⟩ := tryCurrents_calm [.cur, .bak] false f2 c2
  have hpio : pendAns fs ≠ .error .io := by
    unfold pendAns; split
    · simp
    · exact lookAll_ne_io _ _ _
  have hcio : curAns fs ≠ .error .io := lookAll_ne_io _ _ _
  have e3' : tryCurrents [.cur, .bak] false w2 = (curAns fs, w3) := e3
  refine ⟨w3, f3, c3, ?_⟩
  unfold answer
  generalize pendAns fs = P at hpio ⊢
  generalize curAns fs = C at hcio e3' ⊢
  rcases P with (_ | _ | _) | p <;> first | exact absurd rfl hpio | skip
  all_goals
    simp only [e3']
    rcases C with (_ | _ | _) | c <;> first | exact absurd rfl hcio | skip
    all_goals cases choose cfg _ _ <;> rfl

theorem ask_eq (cfg : Cfg) (ro : Bool) (fs : FS) : ask cfg ro fs = answer cfg fs := by
  obtain ⟨w', _, _, e⟩ := getMeta_calm cfg ro (fs := fs) rfl (calm_of fs)
  unfold ask; rw [e]

/-- the answer when `CURRENT` (or the backup) is readable: a readable pending file with the greater number wins -/
theorem answer_of_cur {fs : FS} {c : Name × FD} (h : curAns fs = .ok c) :
    answer {} fs = .ok (match pendAns fs with
      | .ok p => if p.2.num > c.2.num then p.2 else c.2
      | .error _ => c.2) := by
  unfold answer
  rw [h]
  cases pendAns fs with
  | ok p => by_cases hn : p.2.num > c.2.num <;> simp [choose, hn]
  | error e => simp [choose]

end GoLevel.FSMeta

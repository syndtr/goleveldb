import GoLevel.Proofs.IterDBOps
import GoLevel.Proofs.LSMOrder
/-!
# The visible list: sorted by user key, agrees with `view`
-/
namespace GoLevel

section
variable {c : UCmp} (hl : LawfulUCmp c) {es : List Entry} (hs : SortedEntries c es)
include hl hs

omit hs in
theorem isVisible_iff_max (seq : Nat) (e : Entry) :
    isVisible c es seq e = true ↔ (e.seq ≤ seq ∧ e.kind = Gen.keyTypeVal) ∧
      ∀ e' ∈ es, e'.ukey = e.ukey → e'.seq ≤ seq → e'.key.num ≤ e.key.num := by
  simp only [isVisible, Bool.and_eq_true, decide_eq_true_eq, List.all_eq_true, Bool.or_eq_true,
    Bool.not_eq_true', Bool.and_eq_false_iff, beq_eq_false_iff_ne, ne_eq, decide_eq_false_iff_not, hl.ord.eq_iff]
  refine and_congr_right fun _ => forall₂_congr fun e' _ => ?_
  rw [Decidable.imp_iff_not_or, Decidable.imp_iff_not_or, or_assoc]

theorem visList_sorted (seq : Nat) :
    (visList c es seq).Pairwise (fun a b => c.cmp a.ukey b.ukey = .lt) := by
  have hsub : (visList c es seq).Pairwise (fun a b => ecmp c a b = .lt) :=
    List.Pairwise.sublist List.filter_sublist hs
  have hmem : ∀ a ∈ visList c es seq, a ∈ es ∧ isVisible c es seq a = true := fun a ha =>
    List.mem_filter.1 ha
  refine List.Pairwise.imp_of_mem ?_ hsub
  intro a b ha hb hlt
  rcases (icmp_order hl _ _).1 hlt with h | ⟨hu, hn⟩
  · exact h
  · exfalso
    have ⟨hae, hav⟩ := hmem a ha
    have ⟨hbe, hbv⟩ := hmem b hb
    have := ((isVisible_iff_max hl seq b).1 hbv).2 a hae hu ((isVisible_iff_max hl seq a).1 hav).1.1
    omega

theorem visible_sorted (seq : Nat) :
    (visible c es seq).Pairwise (fun a b => c.cmp a.1 b.1 = .lt) := by
  rw [visible_eq, List.pairwise_map]
  exact visList_sorted hl hs seq

theorem newest_eq_some_iff (k : Bytes) (s : Nat) (e : Entry) :
    newest c es k s = some e ↔
      e ∈ es ∧ e.ukey = k ∧ e.seq ≤ s ∧ ∀ e' ∈ es, e'.ukey = k → e'.seq ≤ s → e'.key.num ≤ e.key.num := by
  have : newest c es k s = some e ↔ IsNewestE c es k s e :=
    ⟨newest_isNewest c k s es e, newest_eq_of_isNewest hl (ESorted.uniqNum hl hs)⟩
  simp only [this, IsNewestE, matches_iff hl, and_imp, and_assoc]

/-- **`visible` is the view**: `k ↦ v` is presented iff a reader at `seq` sees `v` for `k` -/
theorem mem_visible_iff_view (seq : Nat) (k v : Bytes) :
    (k, v) ∈ visible c es seq ↔ view c es k seq = some v := by
  -- both sides say: some entry is the newest of `k` at `seq`, is a value, and holds `v`
  have hview : view c es k seq = some v ↔
      ∃ e, newest c es k seq = some e ∧ e.kind = Gen.keyTypeVal ∧ e.val = v := by
    unfold view
    cases newest c es k seq with
    | none => simp
    | some e =>
      by_cases hk : e.kind = Gen.keyTypeVal <;> simp [Entry.hit, Hit.toOption, hk]
  simp only [hview, newest_eq_some_iff hl hs, visible, List.mem_map, List.mem_filter, Prod.mk.injEq,
    isVisible_iff_max hl]
  constructor
  · rintro ⟨e, ⟨hm, ⟨hc, hk⟩, hmax⟩, rfl, hval⟩
    exact ⟨e, ⟨hm, rfl, hc, hmax⟩, hk, hval⟩
  · rintro ⟨e, ⟨hm, rfl, hc, hmax⟩, hk, hval⟩
    exact ⟨e, ⟨hm, ⟨hc, hk⟩, hmax⟩, rfl, hval⟩

end

end GoLevel

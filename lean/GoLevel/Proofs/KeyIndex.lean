import GoLevel.Proofs.Key
/-!
# The table index on parsed keys

`tableFind` (`table.Reader.find`), what the table writer guarantees about its index keys (`IndexOK`) and the index
it builds from the shortened keys (`buildIndex`), with the lemmas that take an `IndexOK` apart and put one together.
The routing theorems are in `Props/C15.lean`.
-/
namespace GoLevel

/-- `table.Reader.find` on parsed keys: seek the index for the first index key `≥ p`, seek inside that
block, and if the block has nothing `≥ p` take the first entry of the next block. -/
def tableFind (c : UCmp) (bs : List (List IKey)) (ix : List IKey) (p : IKey) : Option IKey :=
  match ix.findIdx? (fun k => icmp c k p != .lt) with
  | none => none
  | some i => (seekGE c (bs[i]?.getD []) p).or ((bs[i + 1]?).bind List.head?)

/-- what the table writer guarantees about the index keys `ix` of the blocks `bs` -/
structure IndexOK (c : UCmp) (bs : List (List IKey)) (ix : List IKey) : Prop where
  len : ix.length = bs.length
  nonempty : ∀ b ∈ bs, b ≠ []
  /-- `last(b_i) ≤ ix_i` -/
  lo : ∀ (i : Nat) (b : List IKey) (k l : IKey), bs[i]? = some b → ix[i]? = some k → b.getLast? = some l → icmp c l k ≠ .gt
  /-- `ix_i < first(b_{i+1})` -/
  hi : ∀ (i : Nat) (b' : List IKey) (k f : IKey), bs[i + 1]? = some b' → ix[i]? = some k → b'.head? = some f → icmp c k f = .lt

theorem IndexOK.tail {c : UCmp} {b : List IKey} {bs : List (List IKey)} {k : IKey} {ix : List IKey}
    (h : IndexOK c (b :: bs) (k :: ix)) : IndexOK c bs ix where
  len := Nat.succ.inj h.len
  nonempty := fun b' hb' => h.nonempty b' (List.mem_cons_of_mem _ hb')
  lo := fun i => h.lo (i + 1)
  hi := fun i => h.hi (i + 1)

section route
variable {c : UCmp} (hl : LawfulUCmp c)
include hl

theorem le_getLast_of_sorted (es : List IKey) (hs : Sorted c es) (l : IKey) (hlast : es.getLast? = some l) :
    ∀ e ∈ es, icmp c e l ≠ .gt := fun e he =>
  (rel_getLast_or_eq hs hlast e he).elim StrictOrd.le_of_lt fun h => h ▸ (icmp_ord hl).le_refl l

end route

/-- the index keys `table.Writer.flushPendingBH` emits: between two blocks the separator of the last key
of the finished block and the first key of the next, after the last block the successor of its last key
(in both cases the last key itself when the comparer returns nil) -/
def buildIndex (c : UCmp) : List (List IKey) → List IKey
  | [] => []
  | [b] => (b.getLast?.map (indexSucc c)).toList
  | b :: b' :: rest =>
    (match b.getLast?, b'.head? with
      | some l, some f => [indexSep c l f]
      | _, _ => []) ++ buildIndex c (b' :: rest)

theorem IndexOK.cons {c : UCmp} {b : List IKey} {bs : List (List IKey)} {k l : IKey} {ix : List IKey}
    (h : IndexOK c bs ix) (hlast : b.getLast? = some l) (hlo : icmp c l k ≠ .gt)
    (hhi : ∀ b' f, bs.head? = some b' → b'.head? = some f → icmp c k f = .lt) :
    IndexOK c (b :: bs) (k :: ix) where
  len := congrArg Nat.succ h.len
  nonempty := List.forall_mem_cons.2 ⟨fun e => (by rw [e] at hlast; cases hlast), h.nonempty⟩
  lo := fun i b' k' l' h1 h2 h3 => match i with
    | 0 => by cases h1; cases h2; cases hlast.symm.trans h3; exact hlo
    | i + 1 => h.lo i b' k' l' h1 h2 h3
  hi := fun i b' k' f h1 h2 h3 => match i with
    | 0 => by cases h2; exact hhi b' f (List.head?_eq_getElem?.trans h1) h3
    | i + 1 => h.hi i b' k' f h1 h2 h3

end GoLevel

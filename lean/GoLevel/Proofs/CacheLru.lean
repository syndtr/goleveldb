import GoLevel.Proofs.CacheRef
/-! The LRU list: `recent` holds exactly the nodes whose `CacheData` is a listed `lruNode`, each once (`lr`). -/
namespace GoLevel.CacheM

theorem inList_iff_mem_map {ns : List Node} {id : Nat} :
    (∃ n ∈ ns, n.id = id ∧ n.lru = .inList) ↔ (id, LruSt.inList) ∈ ns.map (fun n => (n.id, n.lru)) := by
  simp only [List.mem_map, Prod.mk.injEq]

theorem nodup_reverse_iff {l : List Nat} : l.reverse.Nodup ↔ l.Nodup :=
  (List.reverse_perm l).nodup_iff

theorem inList_congr {ns ns' : List Node}
    (hm : ns'.map (fun n => (n.id, n.lru)) = ns.map (fun n => (n.id, n.lru))) (id : Nat) :
    (∃ n ∈ ns', n.id = id ∧ n.lru = .inList) ↔ (∃ n ∈ ns, n.id = id ∧ n.lru = .inList) := by
  rw [inList_iff_mem_map, inList_iff_mem_map, hm]

theorem inList_upd_off {ns : List Node} {j id : Nat} {f : Node → Node}
    (hf : ∀ n, (f n).id = n.id ∧ (f n).lru ≠ .inList) :
    (∃ n ∈ upd ns j f, n.id = id ∧ n.lru = .inList) ↔ (id ≠ j ∧ ∃ n ∈ ns, n.id = id ∧ n.lru = .inList) := by
  constructor
  · rintro ⟨n, hn, h1, h2⟩
    obtain ⟨m, hm, rfl⟩ := mem_upd.mp hn
    by_cases hmj : m.id = j
    · simp only [hmj, if_true] at h1 h2; exact absurd h2 (hf m).2
    · simp only [hmj, if_false] at h1 h2; exact ⟨by omega, m, hm, h1, h2⟩
  · rintro ⟨hne, n, hn, h1, h2⟩
    refine ⟨n, mem_upd.mpr ⟨n, hn, ?_⟩, h1, h2⟩
    have : ¬ n.id = j := by omega
    simp [this]

theorem inList_upd_on {ns : List Node} {j id : Nat} {f : Node → Node}
    (hf : ∀ n, (f n).id = n.id ∧ (f n).lru = .inList) (hj : ∃ n ∈ ns, n.id = j) :
    (∃ n ∈ upd ns j f, n.id = id ∧ n.lru = .inList) ↔ (id = j ∨ ∃ n ∈ ns, n.id = id ∧ n.lru = .inList) := by
  constructor
  · rintro ⟨n, hn, h1, h2⟩
    obtain ⟨m, hm, rfl⟩ := mem_upd.mp hn
    by_cases hmj : m.id = j
    · simp only [hmj, if_true, (hf m).1] at h1; left; omega
    · simp only [hmj, if_false] at h1 h2; exact Or.inr ⟨m, hm, h1, h2⟩
  · rintro (rfl | ⟨n, hn, h1, h2⟩)
    · obtain ⟨n, hn, hnid⟩ := hj
      refine ⟨f n, mem_upd.mpr ⟨n, hn, by simp [hnid]⟩, ?_, (hf n).2⟩
      rw [(hf n).1, hnid]
    · by_cases hnj : n.id = j
      · refine ⟨f n, mem_upd.mpr ⟨n, hn, by simp [hnj]⟩, ?_, (hf n).2⟩
        rw [(hf n).1]; exact h1
      · exact ⟨n, mem_upd.mpr ⟨n, hn, by simp [hnj]⟩, h1, h2⟩

theorem inList_clearLru {ns : List Node} {ev : List Nat} {id : Nat} :
    (∃ n ∈ clearLru ns ev, n.id = id ∧ n.lru = .inList) ↔ (id ∉ ev ∧ ∃ n ∈ ns, n.id = id ∧ n.lru = .inList) := by
  constructor
  · rintro ⟨n, hn, h1, h2⟩
    obtain ⟨m, hm, hid, _, _, _, _, _, hl⟩ := mem_clearLru_proj hn
    rcases hl with ⟨hl, hnot⟩ | ⟨hl, _⟩
    · exact ⟨by rw [← h1, hid]; exact hnot, m, hm, by omega, by rw [← hl]; exact h2⟩
    · rw [hl] at h2; cases h2
  · rintro ⟨hnot, n, hn, h1, h2⟩
    refine ⟨n, mem_clearLru.mpr ⟨n, hn, ?_⟩, h1, h2⟩
    have : ¬ n.id ∈ ev := by rw [h1]; exact hnot
    simp [this]

theorem evictTail_nodup {ns : List Node} {cap : Nat} {l : List Nat} {used : Nat} {r : List Nat × Nat × List Nat × Bool}
    (hr : evictTail ns cap l used = r) (h : l.Nodup) :
    r.1.Nodup ∧ ∀ id, id ∈ r.1 ↔ id ∉ r.2.2.1 ∧ id ∈ l := by
  have hs := evictTail_split hr
  rw [← hs] at h ⊢
  have hn := List.nodup_append.mp h
  refine ⟨hn.2.1, fun id => ⟨fun hid => ⟨fun hev => hn.2.2 id hev id hid rfl, List.mem_append_right _ hid⟩, ?_⟩⟩
  rintro ⟨hnot, hid⟩
  exact (List.mem_append.mp hid).resolve_left hnot

/-- The LRU list holds a reference to each node on it. -/
theorem not_inList_of_ref_zero {g sh P} (h : InvP g sh P) (hf : sh.forced = false)
    {n : Node} (hn : n ∈ sh.nodes) (h0 : n.ref = 0) : n.id ∉ sh.lru.recent := by
  intro hmem
  have := h.rc hf n hn
  have hc := List.count_pos_iff.mpr hmem
  simp only [refsP] at this
  omega

theorem found_unique {ns : List Node} (hnd : (ns.map (·.id)).Nodup) {j : Nat} {n0 m : Node}
    (hf : findId ns j = some n0) (hm : m ∈ ns) (hmj : m.id = j) : m = n0 := by
  have := findId_of_mem hnd hm
  rw [hmj, hf] at this
  exact (Option.some.inj this).symm

theorem lr_step {g sh Q sh' i push evs} (h : InvP g sh (i :: Q))
    (he : exec sh i = some (sh', push, evs)) :
    sh'.lru.recent.Nodup ∧ ∀ id, id ∈ sh'.lru.recent ↔ ∃ n ∈ sh'.nodes, n.id = id ∧ n.lru = .inList := by
  have hlr := h.lr
  have hopf : sh.closed = false → sh.forced = false := fun hc => (h.op hc).2
  cases exec_spec he <;> clear he
  case promoteAdmit pid n0 r hfind hnone _ hr =>
    have hfs := findId_some hfind
    have hnotin : pid ∉ sh.lru.recent := fun hmem => by
      rw [inList_of_recent h hfs.1 (hfs.2 ▸ hmem)] at hnone; cases hnone
    have hE := evictTail_nodup hr (nodup_reverse_iff.mpr (List.nodup_cons.mpr ⟨hnotin, hlr.1⟩))
    refine ⟨nodup_reverse_iff.mpr hE.1, fun id => ?_⟩
    simp only [List.mem_reverse]
    rw [hE.2 id, inList_clearLru,
      inList_upd_on (f := fun n => { n with ref := n.ref + 1, lru := .inList }) (fun _ => ⟨rfl, rfl⟩) ⟨n0, hfs⟩]
    simp only [List.mem_reverse, List.mem_cons, hlr.2 id]
  case promoteListed pid n0 hfind hin =>
    have hmem := h.recent_of_found hfind hin
    refine ⟨List.nodup_cons.mpr ⟨fun hm => ((List.Nodup.mem_erase_iff hlr.1).mp hm).1 rfl, hlr.1.erase pid⟩, fun id => ?_⟩
    simp only [List.mem_cons]
    rw [← hlr.2 id, List.Nodup.mem_erase_iff hlr.1]
    exact ⟨fun h1 => h1.elim (· ▸ hmem) (·.2), fun h1 => (Classical.em (id = pid)).imp (fun e => e) (⟨·, h1⟩)⟩
  case setcap c r hr =>
    have hE := evictTail_nodup hr (nodup_reverse_iff.mpr hlr.1)
    refine ⟨nodup_reverse_iff.mpr hE.1, fun id => ?_⟩
    simp only [List.mem_reverse]
    rw [hE.2 id, inList_clearLru]
    simp only [List.mem_reverse, hlr.2 id]
  case banListed | levictListed =>
    refine ⟨hlr.1.erase _, fun id => ?_⟩
    rw [List.Nodup.mem_erase_iff hlr.1, hlr.2 id]
    refine (inList_upd_off ?_).symm
    exact fun _ => ⟨rfl, by simp⟩
  case banFree n hfind hnone =>
    refine ⟨hlr.1, fun id => ?_⟩
    rw [hlr.2 id]
    refine Iff.trans ?_ (inList_upd_off (f := fun n => { n with lru := .banned }) (fun _ => ⟨rfl, by simp⟩)).symm
    refine ⟨fun ⟨m, hm, hmid, hml⟩ => ⟨?_, m, hm, hmid, hml⟩, fun h2 => h2.2⟩
    rintro rfl
    rw [found_unique h.ids.1 hfind hm hmid, hnone] at hml; cases hml
  case delzRemove n _ _ _ =>
    -- `mBucket.delete` removes a node whose counter is zero: it is not on the list
    have hnot := not_inList_of_ref_zero h (hopf ‹sh.closed = false›) (findKey_some ‹findKey _ _ = some n›).1 ‹n.ref = 0›
    refine ⟨hlr.1, fun id => ⟨fun hid => ?_, fun ⟨m, hm, hmid, hml⟩ => (hlr.2 id).mpr ⟨m, (mem_eraseId.mp hm).1, hmid, hml⟩⟩⟩
    obtain ⟨m, hm, hmid, hml⟩ := (hlr.2 id).mp hid
    exact ⟨m, mem_eraseId.mpr ⟨hm, fun heq => hnot (heq ▸ hmid ▸ hid)⟩, hmid, hml⟩
  all_goals first
    | exact hlr
    | (refine ⟨hlr.1, fun id => ?_⟩
       rw [hlr.2 id]
       refine (inList_congr ?_ id).symm
       exact upd_map _ (by intro; rfl))
    | (refine ⟨hlr.1, fun id => ?_⟩
       rw [hlr.2 id]; simp; done)

end GoLevel.CacheM

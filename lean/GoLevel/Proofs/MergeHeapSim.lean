import GoLevel.Proofs.IterMerged
import GoLevel.Proofs.MergeHeapProp
/-!
# The heap-based merged iterator refines the abstract one (C02)

`HRel c h m`: the heap-based state `h` (`Model/MergeHeap.lean`) is the abstract state `m` (`Model/Iter.lean`) with
its bag laid out as a `container/heap` slice.  Every call preserves `HRel` because both pop the same child
(`Ready.pop`); so the heap-based iterator answers every call sequence like the abstract one.
-/
namespace GoLevel

namespace HeapMerged
variable {σ : Type}
open MergedIter (keyAt Base HeapAll HeapBut Rel)

def HRel (c : UCmp) (h m : MergedIter σ) : Prop :=
  ∃ hp, h = { m with heap := hp } ∧ hp.Perm m.heap ∧ GoHeap.IsHeap (lessOf c m) hp

theorem HRel.dir {c : UCmp} {h m : MergedIter σ} (hr : HRel c h m) : h.dir = m.dir := by
  obtain ⟨hp, rfl, _, _⟩ := hr; rfl

theorem HRel.key {c : UCmp} {h m : MergedIter σ} (hr : HRel c h m) :
    keyAt h.keys h.index = keyAt m.keys m.index := by
  obtain ⟨hp, rfl, _, _⟩ := hr; rfl

theorem hrel_new (c : UCmp) (ss : List σ) : HRel c (MergedIter.new ss) (MergedIter.new ss) :=
  ⟨[], rfl, List.Perm.refl _, fun _ _ hj => absurd hj (Nat.not_lt_zero _)⟩

theorem isHeap_congr {less less' : Nat → Nat → Bool} {h : List Nat}
    (hc : ∀ a ∈ h, ∀ b ∈ h, less a b = less' a b) (hh : GoHeap.IsHeap less h) : GoHeap.IsHeap less' h := by
  intro j hj0 hjn hp
  unfold GoHeap.LinkOK
  rw [← hc _ (GoHeap.getD_mem hjn) _ (GoHeap.getD_mem (Nat.lt_trans (GoHeap.parent_lt hj0) hjn))]
  exact hh j hj0 hjn hp

section order
variable {c : UCmp} (hl : LawfulUCmp c)

include hl in
theorem swo_less (rev : Bool) (keys : List (Option IKey)) :
    GoHeap.SWO (MergedIter.less c rev keys) (fun x => (keyAt keys x).isSome) where
  irrefl := by
    intro a ha
    obtain ⟨k, hk⟩ := Option.isSome_iff_exists.1 ha
    rw [MergedIter.less_eq hk hk, (icmp_eq_iff hl k k).2 rfl]
    cases rev <;> rfl
  trans := fun a b d _ _ _ h1 h2 => MergedIter.less_trans hl rev keys a b d h1 h2
  negtrans := by
    intro a b d ha hb hd h1 h2
    obtain ⟨ka, hka⟩ := Option.isSome_iff_exists.1 ha
    obtain ⟨kb, hkb⟩ := Option.isSome_iff_exists.1 hb
    obtain ⟨kd, hkd⟩ := Option.isSome_iff_exists.1 hd
    rw [MergedIter.less_eq hka hkb] at h1
    rw [MergedIter.less_eq hkb hkd] at h2
    rw [MergedIter.less_eq hka hkd]
    cases rev with
    | false =>
      simp only [Bool.false_eq_true, if_false, beq_eq_false_iff_ne, ne_eq] at h1 h2 ⊢
      rw [← ne_eq, (icmp_ord hl).not_lt_iff] at h1 h2 ⊢
      exact (icmp_ord hl).le_trans h2 h1
    | true =>
      simp only [if_true, beq_eq_false_iff_ne, ne_eq] at h1 h2 ⊢
      exact (icmp_ord hl).le_trans h1 h2

end order

section main
variable {c : UCmp} (hl : LawfulUCmp c) {o : IterOps σ} {Rs : Nat → σ → Pos → Prop}
  {Ls : List (List Entry)} {U : List Entry} (hok : MergeOK c Ls U)
  (hch : ∀ i L, Ls[i]? = some L → Sim o c L (Rs i))

def Ready (c : UCmp) (Rs : Nat → σ → Pos → Prop) (Ls : List (List Entry)) (h m : MergedIter σ) : Prop :=
  ∃ ps, Base Rs Ls m ps ∧ HeapAll Ls.length m ∧ HRel c h m

include hl hok in
/-- with distinct keys one child is strictly first (`pop_best`) and the root of the real heap has no child before
it (`pop_spec`): `heap.Pop` and the abstract "take the least element" return the same child -/
theorem Ready.pop {h m : MergedIter σ} (hrd : Ready c Rs Ls h m) (d1 d2 : Dir) :
    HRel c
      (match GoHeap.pop (lessOf c h) h.heap with
        | none => { h with dir := d1 }
        | some (x, r) => { h with index := x, heap := r, dir := d2 })
      (match MergedIter.pop c m with
        | none => { m with dir := d1 }
        | some (x, r) => { m with index := x, heap := r, dir := d2 }) := by
  obtain ⟨ps, hb, hh, hp, rfl, hperm, hheap⟩ := hrd
  show HRel c (match GoHeap.pop (MergedIter.less c m.reverse m.keys) hp with
    | none => { m with heap := hp, dir := d1 }
    | some (x, r) => { m with index := x, heap := r, dir := d2 }) _
  rcases MergedIter.pop_best hl hok hb hh with ⟨hnil, hnone⟩ | ⟨b, hbm, hpop, hbest⟩
  · have : hp = [] := (hnil ▸ hperm).eq_nil
    rw [hnone, this]
    exact ⟨[], rfl, this ▸ hperm, this ▸ hheap⟩
  · have hbp : b ∈ hp := hperm.mem_iff.2 hbm
    obtain ⟨rest, hpop', hpr, hrest, hmin⟩ := GoHeap.pop_spec (swo_less hl m.reverse m.keys)
      (fun x hx => ((hh.2 x).1 (hperm.mem_iff.1 hx)).2) hheap (List.ne_nil_of_mem hbp)
    have hroot : hp.getD 0 0 = b := Classical.byContradiction fun hne => by
      have := hbest _ (hperm.mem_iff.1 (hpr.mem_iff.1 List.mem_cons_self)) hne
      rw [hmin b hbp] at this; cases this
    rw [hroot] at hpop' hpr
    have := (hpr.trans hperm).erase b
    rw [List.erase_cons_head] at this
    rw [hpop, hpop']
    exact ⟨rest, rfl, this, hrest⟩

include hl in
theorem hrel_init {m : MergedIter σ} (hall : ∀ x ∈ m.heap, (keyAt m.keys x).isSome) :
    HRel c (init c m) m :=
  ⟨GoHeap.init (lessOf c m) m.heap, rfl, GoHeap.init_perm _ _,
    GoHeap.init_isHeap (swo_less hl m.reverse m.keys) hall⟩

include hl hch in
theorem ready_step {h m : MergedIter σ} {ps : Nat → Pos} (hb : Base Rs Ls m ps) {L : List Entry}
    (hL : Ls[m.index]? = some L) (hbut : HeapBut Ls.length m.index m) (hr : HRel c h m) (cl : Call IKey) :
    Ready c Rs Ls (stepIndex o c (o.step cl) h) (MergedIter.stepIndex o (o.step cl) m) := by
  obtain ⟨hp, rfl, hperm, hheap⟩ := hr
  obtain ⟨hb', hall', _⟩ := MergedIter.stepIndex_base hch hb hL hbut cl
  generalize o.step cl = f at hb' hall' ⊢
  refine ⟨_, hb', hall', ?_⟩
  have hx : m.index < Ls.length := (List.getElem?_eq_some_iff.1 hL).1
  have hxk : m.index < m.keys.length := by rw [hb.klen]; exact hx
  have hxi : m.index < m.iters.length := by rw [hb.ilen]; exact hx
  have hs := List.getElem?_eq_getElem hxi
  have hnot : ¬ m.index ∈ hp := fun hmem => ((hbut.2 _).1 (hperm.mem_iff.1 hmem)).2.1 rfl
  -- the order on the old heap elements does not change when `keys[index]` changes
  have hcongr : ∀ v, ∀ a ∈ hp, ∀ b ∈ hp,
      lessOf c m a b = MergedIter.less c m.reverse (m.keys.set m.index v) a b := by
    intro v a ha b hb'
    have ha' : a ≠ m.index := fun e => hnot (e ▸ ha)
    have hb'' : b ≠ m.index := fun e => hnot (e ▸ hb')
    unfold lessOf MergedIter.less
    rw [MergedIter.keyAt_set hxk, MergedIter.keyAt_set hxk]
    simp only [ha', hb'', if_false]
  rw [MergedIter.stepIndex_eq f hs] at hall' ⊢
  have hs' : ({ m with heap := hp } : MergedIter σ).iters[({ m with heap := hp } : MergedIter σ).index]?
      = some m.iters[m.index] := hs
  unfold stepIndex
  simp only [hs']
  cases hc : o.cur (f m.iters[m.index]) with
  | none =>
    simp only [MergedIter.keyOf, hc, Option.map_none, Option.isSome_none, Bool.false_eq_true, if_false]
    exact ⟨hp, rfl, hperm, isHeap_congr (hcongr none) hheap⟩
  | some e =>
    simp only [MergedIter.keyOf, hc, Option.map_some, Option.isSome_some, if_true] at hall' ⊢
    refine ⟨_, rfl, (GoHeap.push_perm _ _ _).trans (List.Perm.append_right _ hperm), ?_⟩
    refine GoHeap.push_isHeap (swo_less hl m.reverse (m.keys.set m.index (some e.key))) ?_
      (isHeap_congr (hcongr (some e.key)) hheap)
    intro x hx'
    exact ((hall'.2 x).1 ((List.Perm.append_right _ hperm).mem_iff.1 hx')).2

include hl hch in
/-- what `First`, `Last`, `Seek` share; `hxy` is the pop that follows -/
theorem hrel_reset {h m : MergedIter σ} {p : Pos} (hrel : Rel o c Rs Ls U m p) (hr : HRel c h m)
    (rev : Bool) (cl : Call IKey) (d : Dir) {x y : MergedIter σ}
    (hxy : Ready c Rs Ls (init c { MergedIter.resetAll o rev (o.step cl) h with dir := d })
      { MergedIter.resetAll o rev (o.step cl) m with dir := d } → HRel c x y) :
    HRel c (if h.dir = .released then h else x) (if m.dir = .released then m else y) := by
  have hnr := hrel.not_released
  obtain ⟨ps, hb, _⟩ := hrel
  obtain ⟨hp, rfl, _, _⟩ := hr
  obtain ⟨q, _, hb', hh'⟩ := MergedIter.resetAll_base hch hb rev cl d
  rw [if_neg hnr, if_neg hnr]
  exact hxy ⟨q, hb', hh', hrel_init hl (fun x hx => ((hh'.2 x).1 hx).2)⟩

include hl hok hch in
theorem hrel_first {h m : MergedIter σ} {p : Pos} (hrel : Rel o c Rs Ls U m p) (hr : HRel c h m) :
    HRel c (first o c h) (MergedIter.first o c m) :=
  hrel_reset hl hch hrel hr false .first .soi (·.pop hl hok _ _)

include hl hok hch in
theorem hrel_last {h m : MergedIter σ} {p : Pos} (hrel : Rel o c Rs Ls U m p) (hr : HRel c h m) :
    HRel c (last o c h) (MergedIter.last o c m) :=
  hrel_reset hl hch hrel hr true .last .eoi (·.pop hl hok _ _)

include hl hok hch in
theorem hrel_seek {h m : MergedIter σ} {p : Pos} (hrel : Rel o c Rs Ls U m p) (hr : HRel c h m) (k : IKey) :
    HRel c (seek o c k h) (MergedIter.seek o c k m) :=
  hrel_reset hl hch hrel hr false (.seek k) .soi (·.pop hl hok _ _)

include hl hok hch in
theorem hrel_next {h m : MergedIter σ} {p : Pos} (hrel : Rel o c Rs Ls U m p) (hr : HRel c h m) :
    HRel c (next o c h) (MergedIter.next o c m) := by
  unfold next MergedIter.next
  rw [hr.dir]
  cases p with
  | soi =>
    rw [hrel.dir_soi]; exact hrel_first hl hok hch hrel hr
  | eoi =>
    rw [hrel.dir_eoi]; exact hr
  | «at» i =>
    have ⟨ps, hb, e, L0, hi, hL0, hcur, hbut, hd⟩ := hrel
    rcases hd with hfw | hbw
    · rw [hfw.1]
      exact (ready_step hl hch hb hL0 hbut hr .next).pop hl hok _ _
    · -- after `Prev`: `Seek(key)` lands on the same entry facing forward, then as above
      obtain ⟨hrel1, _⟩ := MergedIter.rel_seek hl hok hch hrel e.key
      rw [seek_self hl hok.sortedU hi] at hrel1
      have hr1 := hrel_seek hl hok hch hrel hr e.key
      have hv := hrel1.valid_at
      obtain ⟨ps1, hb1, _, L1, _, hL1, _, hbut1, _⟩ := hrel1
      rw [hbw.1]
      simp only [hr.key, hb.key_of_cur hL0 hcur, hr1.dir, hv, Bool.not_true, Bool.false_eq_true, if_false]
      exact (ready_step hl hch hb1 hL1 hbut1 hr1 .next).pop hl hok _ _

include hl hok hch in
theorem hrel_prev {h m : MergedIter σ} {p : Pos} (hrel : Rel o c Rs Ls U m p) (hr : HRel c h m) :
    HRel c (prev o c h) (MergedIter.prev o c m) := by
  unfold prev MergedIter.prev
  rw [hr.dir]
  cases p with
  | soi =>
    rw [hrel.dir_soi]; exact hr
  | eoi =>
    rw [hrel.dir_eoi]; exact hrel_last hl hok hch hrel hr
  | «at» i =>
    obtain ⟨ps, hb, e, L0, hi, hL0, hcur, hbut, hfw | hbw⟩ := hrel
    · -- after `Next`: the other children turn back, `heap.Init`, then as below
      have hturn : MergedIter.turnBack o e.key h = MergedIter.turnBack o e.key m := by
        obtain ⟨hp, rfl, _, _⟩ := hr; rfl
      rw [hfw.1]
      simp only [hr.key, hb.key_of_cur hL0 hcur, hturn]
      obtain ⟨hb', hbut'⟩ := MergedIter.turnBack_base hch hb e.key
      exact (ready_step (m := MergedIter.turnBack o e.key m) hl hch hb' hL0 hbut'
        (hrel_init hl (fun x hx => ((hbut'.2 x).1 hx).2.2)) .prev).pop hl hok _ _
    · rw [hbw.1]
      exact (ready_step hl hch hb hL0 hbut hr .prev).pop hl hok _ _

end main

def HeapRel (o : IterOps σ) (c : UCmp) (Rs : Nat → σ → Pos → Prop) (Ls : List (List Entry)) (U : List Entry)
    (h : MergedIter σ) (p : Pos) : Prop :=
  ∃ m, Rel o c Rs Ls U m p ∧ HRel c h m

/-- C02 for the heap-based merged iterator -/
theorem sim {c : UCmp} (hl : LawfulUCmp c) (o : IterOps σ) (Rs : Nat → σ → Pos → Prop)
    (Ls : List (List Entry)) (U : List Entry) (hok : MergeOK c Ls U)
    (hch : ∀ i L, Ls[i]? = some L → Sim o c L (Rs i)) :
    Sim (HeapMerged.ops o c) c U (HeapRel o c Rs Ls U) where
  wf := fun _ _ ⟨_, h, _⟩ => MergedIter.rel_wf h
  first := fun _ _ ⟨_, h, hr⟩ => ⟨_, MergedIter.rel_first hl hok hch h, hrel_first hl hok hch h hr⟩
  last := fun _ _ ⟨_, h, hr⟩ => ⟨_, MergedIter.rel_last hl hok hch h, hrel_last hl hok hch h hr⟩
  seek := fun _ _ k ⟨_, h, hr⟩ => ⟨_, (MergedIter.rel_seek hl hok hch h k).1, hrel_seek hl hok hch h hr k⟩
  next := fun _ _ ⟨_, h, hr⟩ => ⟨_, MergedIter.rel_next hl hok hch h, hrel_next hl hok hch h hr⟩
  prev := fun _ _ ⟨_, h, hr⟩ => ⟨_, MergedIter.rel_prev hl hok hch h, hrel_prev hl hok hch h hr⟩
  cur := fun _ _ ⟨_, h, hr⟩ => by
    obtain ⟨hp, rfl, _, _⟩ := hr          -- `cur` does not read the heap
    exact (MergedIter.rel_cur hch h : MergedIter.cur o _ = _)

theorem heapRel_new (o : IterOps σ) (c : UCmp) (Rs : Nat → σ → Pos → Prop)
    (Ls : List (List Entry)) (U : List Entry) (ss : List σ) (hlen : ss.length = Ls.length)
    (h0 : ∀ i s, ss[i]? = some s → Rs i s .soi) :
    HeapRel o c Rs Ls U (MergedIter.new ss) .soi :=
  ⟨_, MergedIter.rel_new o c Rs Ls U ss hlen h0, hrel_new c ss⟩

/-- both answer like the cursor over `U` -/
theorem heap_run_eq_abstract {c : UCmp} (hl : LawfulUCmp c) (o : IterOps σ) (Rs : Nat → σ → Pos → Prop)
    (Ls : List (List Entry)) (U : List Entry) (hok : MergeOK c Ls U)
    (hch : ∀ i L, Ls[i]? = some L → Sim o c L (Rs i)) (cs : List (Call IKey)) :
    ∀ (h m : MergedIter σ) (p : Pos), Rel o c Rs Ls U m p → HRel c h m →
      (HeapMerged.ops o c).run h cs = (MergedIter.ops o c).run m cs :=
  fun h m p hrel hr => ((sim hl o Rs Ls U hok hch).run cs h p ⟨m, hrel, hr⟩).trans
    ((MergedIter.sim hl o Rs Ls U hok hch).run cs m p hrel).symm

end HeapMerged

#print axioms HeapMerged.sim
#print axioms HeapMerged.heap_run_eq_abstract

end GoLevel

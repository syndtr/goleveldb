import GoLevel.Proofs.SessionChain
/-! More than `maxCachedNumber` version tasks pile up behind an unreleased version (a long-held iterator); the
loop converts that version to full references, processes the 260 later versions, and removes the table the held
version needs only when it is released.

Evaluating the whole run is quadratic in the number of piled-up releases (every message walks `released`), so the
cycles that only grow the pile and the release loop's pass over it are proved for any length; only the two ends are
evaluated. -/
namespace GoLevel.C07
open GoLevel.RefLoop GoLevel.Session

/-- A long-held version: version 1 = {7} stays referenced while `n` versions come and go; table 7 is deleted from
the version at once. -/
def longHeld (n : Nat) : List Msg :=
  [ .ref 0 [], .ref 1 [7], .delta 0 ⟨[7], []⟩, .rel 0 [],
    .ref 2 [], .delta 1 ⟨[], [7]⟩ ] ++
  ((List.range n).flatMap fun i => [ Msg.ref (i + 3) [], .delta (i + 2) ⟨[], []⟩, .rel (i + 2) [] ])

/-- The released versions `lo … lo+k-1`, each with its (empty) delta, as the loop files them: newest first. -/
def piled (lo : Nat) : Nat → List (Nat × Option Delta)
  | 0 => []
  | k + 1 => (lo + k, some ⟨[], []⟩) :: piled lo k

theorem piled_lookup (lo k j : Nat) :
    (piled lo k).lookup j = if lo ≤ j ∧ j < lo + k then some (some ⟨[], []⟩) else none := by
  induction k with
  | zero => simp [piled]
  | succ k ih =>
    rw [piled, lookup_cons_eq, ih]
    by_cases h : j = lo + k
    · rw [if_pos h, if_pos (by omega)]
    · rw [if_neg h]; simp only [show (lo ≤ j ∧ j < lo + k) ↔ (lo ≤ j ∧ j < lo + (k + 1)) by omega]

theorem piled_filter {lo k j : Nat} (h : lo + k ≤ j) : (piled lo k).filter (fun p => p.1 != j) = piled lo k := by
  induction k with
  | zero => rfl
  | succ k ih => rw [piled, List.filter_cons_of_pos (by simp; omega), ih (by omega)]

theorem piled_length (lo k : Nat) : (piled lo k).length = k := by
  induction k with
  | zero => rfl
  | succ k ih => rw [piled, List.length_cons, ih]

theorem piled_pop (lo k : Nat) : (piled lo (k + 1)).filter (fun p => p.1 != lo) = piled (lo + 1) k := by
  induction k with
  | zero => simp [piled]
  | succ k ih => rw [piled, List.filter_cons_of_pos (by simp), ih, piled, Nat.add_assoc, Nat.add_comm 1 k]

theorem releaseLoop_piled {fuel k : Nat} (h : k < fuel) (S : State) (hab : S.abandoned = [])
    (hrl : S.released = piled S.next k) :
    releaseLoop fuel S = some ({ S with released := [], next := S.next + k }, []) := by
  induction k generalizing fuel S with
  | zero =>
    obtain ⟨fuel, rfl⟩ := Nat.exists_eq_add_one.mpr h
    cases S; simp_all [releaseLoop, piled]
  | succ k ih =>
    obtain ⟨fuel, rfl⟩ := Nat.exists_eq_add_one.mpr (Nat.zero_lt_of_lt h)
    rw [releaseLoop, hab, if_neg (by simp), hrl, piled_lookup, if_pos (by omega), piled_pop]
    simp only [applyDelta, incrAll, decrAll, List.foldl_nil]
    rw [ih (fuel := fuel) (by omega) _ rfl rfl]
    simp [Nat.add_assoc, Nat.add_comm 1 k]

/-- The loop's state after `longHeld k`, as long as the held version 1 stays cached: `k` releases piled up. -/
def held (k : Nat) : State :=
  { fileRef := [7], ref := [(k + 2, []), (1, [7])], deltas := [(1, ⟨[], [7]⟩)], referenced := [],
    released := piled 2 k, abandoned := [], old := [], next := 1, last := k + 2 }

def cycle (k : Nat) : List Msg := [.ref (k + 3) [], .delta (k + 2) ⟨[], []⟩, .rel (k + 2) []]

theorem longHeld_add (a b : Nat) :
    longHeld (a + b) = longHeld a ++ (List.range b).flatMap fun i => cycle (a + i) := by
  simp [longHeld, cycle, List.range_add, List.flatMap_map, Nat.add_assoc]

theorem run_longHeld {k : Nat} (h : k ≤ 254) : run State.init (longHeld k) = some (held k, []) := by
  induction k with
  | zero => decide
  | succ k ih =>
    have h1 : k + 2 < 256 := by omega
    have : run (held k) (cycle k) = some (held (k + 1), []) := by
      simp [h1, run, cycle, step, handle, processTasks, convertLoop, releaseLoop, held, piled_lookup, piled_filter,
        Gen.maxCachedNumber, lookup_cons_eq, piled, Nat.add_comm 2 k]
    rw [longHeld_add k 1]
    exact run_append (ih (by omega)) (by simpa using this)

/-- One version more and the cache is too long: the held version is converted to full references (its table counted
once more, then its pending delta applied), and the release loop gets to run over the whole pile. -/
theorem step_convert {k : Nat} (h : 254 ≤ k) : step (held k) (.ref (k + 3) []) =
    some ({ fileRef := [7], ref := [(k + 3, []), (k + 2, [])], deltas := [], referenced := [1], released := [],
            abandoned := [], old := [], next := 2 + k, last := k + 3 }, []) := by
  have h1 : ¬ k + 2 < 256 ∧ 2 < 2 + k := by omega
  simp [h1, step, handle, processTasks, convertLoop, held, piled_lookup, lookup_cons_eq, Gen.maxCachedNumber,
    applyDelta, incrAll, decrAll, decr, incr]
  rw [releaseLoop_piled (k := k) (by rw [piled_length]; omega) _ rfl rfl]

example : (run State.init (longHeld 260 ++ [.rel 1 [7]])).map
      (fun r => (r.1.fileRef, r.1.referenced, r.1.next, r.2)) = some ([], [], 262, [7]) := by
  have h := run_append (run_longHeld (Nat.le_refl _)) (run_cons (step_convert (Nat.le_refl _)) (ms :=
    .delta 256 ⟨[], []⟩ :: .rel 256 [] :: ((List.range 5).flatMap fun i => cycle (255 + i)) ++ [.rel 1 [7]])
    (S2 := { fileRef := [], ref := [(262, [])], deltas := [], referenced := [], released := [], abandoned := [],
              old := [], next := 262, last := 262 }) (rm' := [7]) (by decide))
  rw [longHeld_add 254 6, List.append_assoc]
  exact congrArg _ h

end GoLevel.C07

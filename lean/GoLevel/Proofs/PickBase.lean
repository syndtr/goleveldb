import GoLevel.Model.Pick
import GoLevel.Proofs.LSMCompactView
/-!
# (P2) `compaction.baseLevelForKey` with its cursor `tPtrs`

`CursorInv … ptrs k`: in every level `≥ src+2` every table before the cursor ends strictly before `k`.  It is
monotone in `k`, and one call under it answers what the cursor-free `GoLevel.baseLevelForKey` answers.  Hence on
non-decreasing keys `tableCompactionBuilder.run` with the stateful function builds what `GoLevel.build` builds
with the pure one: hypothesis (H2) of `C03.build_preserves_view`, derived from the code.  Out of order the answer
can be a wrong `true` (`baseLevelForKey_out_of_order`).
-/
namespace GoLevel.Pick

structure CursorInv (c : UCmp) (v : Version) (src : Nat) (ptrs : List Nat) (k : Bytes) : Prop where
  len : ptrs.length = v.levels.length
  bound : ∀ level, ptrs.getD level 0 ≤ (v.lvl level).length
  skipped : ∀ level, src + 2 ≤ level → ∀ t ∈ (v.lvl level).take (ptrs.getD level 0), c.lt t.imax.ukey k

theorem getD_replicate_zero (n i : Nat) : (List.replicate n 0).getD i 0 = 0 := by
  rw [List.getD_eq_getElem?_getD, List.getElem?_replicate]
  split <;> rfl

/-- the cursor `newCompaction` creates (`make([]int, len(v.levels))`) satisfies the invariant for every key -/
theorem cursorInv_init (c : UCmp) (v : Version) (src : Nat) (k : Bytes) :
    CursorInv c v src (List.replicate v.levels.length 0) k := by
  refine ⟨by simp, ?_, ?_⟩
  · intro level; rw [getD_replicate_zero]; exact Nat.zero_le _
  · intro level _ t ht
    rw [getD_replicate_zero, List.take_zero] at ht
    cases ht

theorem getD_set (ptrs : List Nat) (i j x : Nat) (hi : i < ptrs.length) :
    (ptrs.set i x).getD j 0 = if j = i then x else ptrs.getD j 0 := by
  rw [List.getD_eq_getElem?_getD, List.getD_eq_getElem?_getD, List.getElem?_set]
  by_cases h : i = j
  · subst h; simp [hi]
  · rw [if_neg h, if_neg (fun e => h e.symm)]

theorem baseLevelForKey_v (c : UCmp) (cm : Compaction) (k : Bytes) :
    (cm.baseLevelForKey c k).2.v = cm.v ∧ (cm.baseLevelForKey c k).2.sourceLevel = cm.sourceLevel := ⟨rfl, rfl⟩

theorem bstep_eq (c : UCmp) (minSeq : Nat) (base : Bytes → Bool) (st : BState) (e : Entry) :
    bstep c minSeq base st e = ({ lastKey := some e.ukey, lastSeq := some e.seq },
      !(shadowedB c minSeq st e || (decide (e.kind = Gen.keyTypeDel) && decide (e.seq ≤ minSeq) && base e.ukey))) :=
  rfl

section
variable {c : UCmp} (hl : LawfulUCmp c)
include hl

/-- the invariant is monotone in the key: that is why keys must come in non-decreasing order -/
theorem CursorInv.mono {v : Version} {src : Nat} {ptrs : List Nat} {k k' : Bytes}
    (h : CursorInv c v src ptrs k) (hk : c.le k k') : CursorInv c v src ptrs k' :=
  ⟨h.len, h.bound, fun level hlv t ht => hl.ord.lt_of_lt_of_le (h.skipped level hlv t ht) hk⟩

omit hl in
theorem CursorInv.set {v : Version} {src : Nat} {ptrs : List Nat} {k : Bytes} (h : CursorInv c v src ptrs k)
    {level x : Nat} (hlt : level < v.levels.length) (hx : x ≤ (v.lvl level).length)
    (hs : ∀ t ∈ (v.lvl level).take x, c.lt t.imax.ukey k) : CursorInv c v src (ptrs.set level x) k := by
  have hg := fun j => getD_set ptrs level j x (h.len ▸ hlt)
  refine ⟨by rw [List.length_set]; exact h.len, fun j => ?_, fun j hj t ht => ?_⟩
  · rw [hg]
    split
    · subst j; exact hx
    · exact h.bound j
  · rw [hg] at ht
    split at ht
    · subst j; exact hs t ht
    · exact h.skipped j hj t ht

theorem not_overlapsKey_of_before {t : Table} {k : Bytes} (h : c.lt t.imax.ukey k) :
    t.overlapsKey c k = false := (not_overlapsRange_iff hl t k k).2 (.inl h)

theorem not_overlapsKey_of_after {t : Table} {k : Bytes} (h : c.lt k t.imin.ukey) :
    t.overlapsKey c k = false := (not_overlapsRange_iff hl t k k).2 (.inr h)

theorem scanLevel_spec (k : Bytes) (ts : List Table) (p : Nat) (hp : ts.Pairwise (tlt c)) :
    ∃ n, n ≤ ts.length ∧ (scanLevel c k ts p).1 = p + n ∧ (∀ t ∈ ts.take n, c.lt t.imax.ukey k) ∧
      (scanLevel c k ts p).2 = ts.any (·.overlapsKey c k) := by
  induction ts generalizing p with
  | nil => exact ⟨0, Nat.le_refl _, rfl, by simp, rfl⟩
  | cons t ts ih =>
    obtain ⟨ht, hts⟩ := List.pairwise_cons.1 hp
    rw [scanLevel]
    split
    next hA =>
      refine ⟨0, Nat.zero_le _, by split <;> rfl, by simp, ?_⟩
      split
      next hB => rw [List.any_cons, Table.overlapsKey, hA, hB]; rfl
      next hB =>
        -- `k` lies before `t` and, being at or below its largest key, before every later table
        symm
        rw [List.any_eq_false]
        intro x hx
        rw [Bool.not_eq_true]
        rcases List.mem_cons.1 hx with rfl | hx
        · rw [hl.ord.bne_lt_iff, hl.ord.not_le_iff] at hB
          exact not_overlapsKey_of_after hl hB
        · exact not_overlapsKey_of_after hl (hl.ord.lt_of_le_of_lt (bne_iff_ne.1 hA) (ht x hx))
    next hA =>
      have hkt : c.lt t.imax.ukey k := by
        rw [bne_iff_ne, hl.ord.not_le_iff] at hA; exact hA
      obtain ⟨n, h1, h2, h3, h4⟩ := ih (p + 1) hts
      refine ⟨n + 1, Nat.succ_le_succ h1, by rw [h2]; omega, fun x hx => ?_, ?_⟩
      · rcases List.mem_cons.1 hx with rfl | hx
        · exact hkt
        · exact h3 x hx
      · rw [h4, List.any_cons, not_overlapsKey_of_before hl hkt]; rfl

theorem baseLoop_spec (v : Version) (hw : v.WFi c) (src : Nat) (k : Bytes) (level : Nat) (hlv : src + 2 ≤ level)
    (ptrs : List Nat) (hinv : CursorInv c v src ptrs k) :
    CursorInv c v src (baseLoop c k (v.levels.drop level) level ptrs).2 k ∧
    (baseLoop c k (v.levels.drop level) level ptrs).1 =
      (v.levels.drop level).all (fun l => l.all fun t => !(t.overlapsKey c k)) := by
  induction hn : v.levels.length - level generalizing level ptrs with
  | zero => rw [List.drop_eq_nil_of_le (Nat.le_of_sub_eq_zero hn)]; exact ⟨hinv, rfl⟩
  | succ _ ih =>
    have hlt : level < v.levels.length := Nat.lt_of_sub_eq_succ hn
    have hlvl := v.lvl_getElem hlt
    have hb := hinv.bound level
    have hskip := hinv.skipped level hlv
    rw [List.drop_eq_getElem_cons hlt, ← hlvl, baseLoop, List.all_cons]
    generalize ptrs.getD level 0 = m at hb hskip ⊢
    obtain ⟨n, h1, h2, h3, h4⟩ := scanLevel_spec hl k ((v.lvl level).drop m) m
      ((hw.disjoint level (by omega)).sublist (List.drop_sublist _ _))
    rw [List.length_drop] at h1
    have hinv' : CursorInv c v src (ptrs.set level (scanLevel c k ((v.lvl level).drop m) m).1) k := by
      refine hinv.set hlt (h2 ▸ Nat.add_le_of_le_sub' hb h1) fun t ht => ?_
      rw [h2, List.take_add] at ht
      exact (List.mem_append.1 ht).elim (hskip t) (h3 t)
    -- the tables before the cursor do not hold `k`, so the scan answers for the whole level
    have hans : (scanLevel c k ((v.lvl level).drop m) m).2 = !(v.lvl level).all fun t => !(t.overlapsKey c k) := by
      have happ := List.any_append (f := (·.overlapsKey c k)) (xs := (v.lvl level).take m) (ys := (v.lvl level).drop m)
      rw [List.take_append_drop, Bool.or_eq_right_iff_imp.2 ?_] at happ
      · rw [h4, ← happ, ← List.not_any_eq_all_not, Bool.not_not]
      · intro h
        obtain ⟨t, ht, ho⟩ := List.any_eq_true.1 h
        rw [not_overlapsKey_of_before hl (hskip t ht)] at ho
        cases ho
    obtain ⟨r1, r2⟩ := ih (level + 1) (Nat.le_succ_of_le hlv) _ hinv' (by rw [Nat.sub_add_eq, hn]; rfl)
    rw [hans]
    cases (v.lvl level).all fun t => !(t.overlapsKey c k)
    · exact ⟨hinv', rfl⟩
    · exact ⟨r1, r2⟩

theorem baseLevelForKey_spec {v : Version} {src : Nat} (cm : Compaction) (hv : cm.v = v) (hs : cm.sourceLevel = src)
    (hw : v.WFi c) (k : Bytes) (hinv : CursorInv c v src cm.tPtrs k) :
    (cm.baseLevelForKey c k).1 = GoLevel.baseLevelForKey c v src k ∧
    CursorInv c v src (cm.baseLevelForKey c k).2.tPtrs k := by
  subst hv hs
  exact (baseLoop_spec hl cm.v hw cm.sourceLevel k _ (Nat.le_refl _) cm.tPtrs hinv).symm

theorem baseRun_eq {v : Version} {src : Nat} (cm : Compaction) (hv : cm.v = v) (hs : cm.sourceLevel = src)
    (hw : v.WFi c) (ks : List Bytes) (hks : ks.Pairwise c.le) (hinv : ∀ k ∈ ks, CursorInv c v src cm.tPtrs k) :
    (baseRun c cm ks).1 = ks.map (GoLevel.baseLevelForKey c v src) := by
  induction ks generalizing cm with
  | nil => rfl
  | cons k ks ih =>
    obtain ⟨hk, hks⟩ := List.pairwise_cons.1 hks
    obtain ⟨h1, h2⟩ := baseLevelForKey_spec hl cm hv hs hw k (hinv k (by simp))
    rw [baseRun]
    simp only [List.map_cons]
    rw [h1]
    congr 1
    exact ih (cm.baseLevelForKey c k).2 hv hs hks (fun k' hk' => h2.mono hl (hk k' hk'))

theorem bstepC_spec {v : Version} {src : Nat} (minSeq : Nat) (cm : Compaction) (hv : cm.v = v)
    (hs : cm.sourceLevel = src) (hw : v.WFi c) (st : BState) (e : Entry) (hinv : CursorInv c v src cm.tPtrs e.ukey) :
    (bstepC c minSeq cm st e).1 = (bstep c minSeq (GoLevel.baseLevelForKey c v src) st e).1 ∧
    (bstepC c minSeq cm st e).2.1 = (bstep c minSeq (GoLevel.baseLevelForKey c v src) st e).2 ∧
    (bstepC c minSeq cm st e).2.2.v = v ∧ (bstepC c minSeq cm st e).2.2.sourceLevel = src ∧
    CursorInv c v src (bstepC c minSeq cm st e).2.2.tPtrs e.ukey := by
  obtain ⟨h1, h2⟩ := baseLevelForKey_spec hl cm hv hs hw e.ukey hinv
  rw [bstep_eq]
  unfold bstepC
  split
  next hsh => rw [hsh]; exact ⟨rfl, rfl, hv, hs, hinv⟩
  next hsh =>
    rw [Bool.not_eq_true] at hsh
    rw [hsh]
    split
    next hdel => rw [hdel, h1]; exact ⟨rfl, rfl, hv, hs, h2⟩
    next hdel =>
      rw [Bool.not_eq_true] at hdel
      rw [hdel]
      exact ⟨rfl, rfl, hv, hs, hinv⟩

/-- **(H2) derived from the code.**  On an input whose user keys are non-decreasing (the merged iterator:
`C03.mergeAll_sorted_perm`), `tableCompactionBuilder.run` with the stateful `baseLevelForKey` keeps exactly
the entries the model builder keeps with the cursor-free specification. -/
theorem buildC_eq_build {v : Version} {src : Nat} (minSeq : Nat) (cm : Compaction) (hv : cm.v = v)
    (hs : cm.sourceLevel = src) (hw : v.WFi c) (es : List Entry)
    (hes : es.Pairwise (fun a b => c.le a.ukey b.ukey))
    (hinv : ∀ e ∈ es, CursorInv c v src cm.tPtrs e.ukey) (st : BState) :
    (buildC c minSeq cm st es).1 = build c minSeq (GoLevel.baseLevelForKey c v src) st es := by
  induction es generalizing cm st with
  | nil => rfl
  | cons e es ih =>
    obtain ⟨he, hes⟩ := List.pairwise_cons.1 hes
    obtain ⟨h1, h2, hv', hs', h3⟩ := bstepC_spec hl minSeq cm hv hs hw st e (hinv e (by simp))
    rw [buildC, build, ← h2, ← h1, ← ih _ hv' hs' hes (fun e' he' => h3.mono hl (he e' he'))]
    split <;> rfl

end

theorem ukeys_sorted_of_ESorted {c : UCmp} (hl : LawfulUCmp c) (es : List Entry) (hs : ESorted c es) :
    es.Pairwise (fun a b => c.le a.ukey b.ukey) :=
  hs.imp (fun h => ecmp_ule hl h)


def bT (n : Nat) (a b : UInt8) : Table := ⟨n, 10, [], mkIKey [a] 1 1, mkIKey [b] 1 1⟩

/-- three levels; level 2 holds `[4]..[6]` and `[8]..[9]` -/
def bV : Version := ⟨[[bT 5 1 9], [bT 4 1 3], [bT 1 4 6, bT 2 8 9]]⟩

def bCm : Compaction :=
  { v := bV, sourceLevel := 0, s0 := [bT 5 1 9], s1 := [bT 4 1 3], maxGPOverlaps := 100, gp := [bT 1 4 6, bT 2 8 9],
    gpi := 0, seenKey := false, gpOverlappedBytes := 0, imin := mkIKey [1] 1 1, imax := mkIKey [9] 1 1,
    tPtrs := [0, 0, 0], snapGPI := 0, snapSeenKey := false, snapGPOverlappedBytes := 0, snapTPtrs := [] }

/-- in order: `[3]` base level, `[5]` not (table 1 holds it), `[7]` base level, `[8]` not -/
example : (baseRun bytewise bCm [[3], [5], [7], [8]]).1 = [true, false, true, false] ∧
    (baseRun bytewise bCm [[3], [5], [7], [8]]).2.tPtrs = [0, 0, 1] := by decide +kernel

/-- **Out of order the answer is wrong.**  Asking for `[7]` first moves the level-2 cursor past table 1
(`[4]..[6]`); asking for `[5]` afterwards answers `true` ("no deeper level can hold `[5]`") although table 1
holds `[5]`: a deletion marker of `[5]` would be dropped and the old value in level 2 resurrected. -/
theorem baseLevelForKey_out_of_order :
    (baseRun bytewise bCm [[7], [5]]).1 = [true, true] ∧
    GoLevel.baseLevelForKey bytewise bV 0 [5] = false ∧
    ¬ CursorInv bytewise bV 0 (bCm.baseLevelForKey bytewise [7]).2.tPtrs [5] := by
  refine ⟨by decide +kernel, by decide +kernel, ?_⟩
  intro h
  have := h.skipped 2 (by decide) (bT 1 4 6) (by decide)
  revert this
  decide

end GoLevel.Pick

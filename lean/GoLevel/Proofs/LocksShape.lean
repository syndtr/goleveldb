import GoLevel.Proofs.LocksAcc
/-! Where a thread is after a step (`step_at`: where it was, or its ack has been delivered, or the step is its own, and
then `ownStep` says what the lemmas that follow a single thread ask about): `clWait_step`, `close_thread_step`,
`sel_thread_step_arms` are read off it; `ackWs_at` also serves `W1`. -/
namespace GoLevel.Locks

theorem set_get {ws : List Pc} {i j : Nat} {p p' : Pc} (hi : ws[i]? = some p) (hj : ws[j]? = some p') (q : Pc) :
    (ws.set i q)[j]? = some p' ∨ (p' = p ∧ (ws.set i q)[j]? = some q) := by
  rw [List.getElem?_set]
  split
  · rename_i e; subst e; rw [hi] at hj; cases hj
    exact .inr ⟨rfl, if_pos (getElem?_lt hi)⟩
  · exact .inl hj

/-- an ack moves only the thread it is for, if that thread still waits for it, to the continuation of its wait -/
theorem ackWs_at (ws : List Pc) (w : Option Nat) (b : Bool) (j : Nat) :
    ((ackWs ws w b)[j]? = ws[j]? ∧ (w = some j → ∀ site lg, ws[j]? ≠ some (.cwAck b site lg))) ∨
    ∃ site lg, ws[j]? = some (.cwAck b site lg) ∧ (ackWs ws w b)[j]? = some (onOk site lg) := by
  unfold ackWs
  split
  · rename_i i
    split
    · rename_i b' site lg hi
      split
      · rename_i e; subst e
        rw [List.getElem?_set]
        split
        · rename_i e; subst e
          exact .inr ⟨site, lg, hi, if_pos (getElem?_lt hi)⟩
        · rename_i ne; exact .inl ⟨rfl, fun e => absurd (Option.some.inj e) ne⟩
      · rename_i nb
        refine .inl ⟨rfl, fun e site' lg' h => ?_⟩
        cases e; rw [hi] at h; cases h; exact nb rfl
    · rename_i hn
      exact .inl ⟨rfl, fun e site' lg' h => by cases e; exact hn _ _ _ h⟩
  · exact .inl ⟨rfl, fun e => by cases e⟩

/-- a thread that has returned does not move -/
def moves : Pc → Bool
  | .ret _ | .retE _ => false
  | _ => true

/-- What a thread's own step from `p` to `q` tells, said only for what the lemmas that follow a thread ask about:
`Close` leaves `db.closeW.Wait()` only when both compaction goroutines have exited; a thread inside `Close` stays inside
until it returns `nil`; a first `select` takes the lock only if the token is free, else it returns the error from
`compPerErrC` or, `closeC` closed, `ErrClosed`. -/
def ownStep (s : St) (p q : Pc) : Prop :=
  moves p = true ∧ (p = .clWait → s.mc = .exited ∧ s.tc = .exited) ∧
  (clAllW p = 1 → clAllW q = 1 ∨ q = .ret true) ∧
  (∀ q', selNext p = some q' → s.tok = false ∨ q = .retE s.ehErr ∨ (s.closed = true ∧ q = .ret false))

namespace ownStep

/-- outside `Close` and the first `select`s -/
theorem other {s : St} {p q : Pc} (h1 : moves p = true) (h3 : clAllW p = 0) (h4 : selNext p = none) :
    ownStep s p q :=
  ⟨h1, fun e => (by rw [e] at h3; cases h3), fun e => (by rw [h3] at e; cases e), fun _ e => (by rw [h4] at e; cases e)⟩

/-- inside `Close`, before `db.closeW.Wait()` -/
theorem close {s : St} {p q : Pc} (h1 : moves p = true) (h2 : clPreW p = 1) (h3 : clAllW q = 1)
    (h4 : selNext p = none) : ownStep s p q :=
  ⟨h1, fun e => (by rw [e] at h2; cases h2), fun _ => .inl h3, fun _ e => (by rw [h4] at e; cases e)⟩

theorem sel {s : St} {p q0 q : Pc} (hq : selNext p = some q0)
    (h : s.tok = false ∨ q = .retE s.ehErr ∨ (s.closed = true ∧ q = .ret false)) : ownStep s p q := by
  obtain ⟨rfl, -⟩ | ⟨lg, rfl, -⟩ | ⟨rfl, -⟩ | ⟨rfl, -⟩ := selNext_some hq <;>
    exact ⟨rfl, fun e => (by cases e), fun e => (by cases e), fun _ _ => h⟩

end ownStep

def After (s t : St) (j : Nat) (p : Pc) : Prop :=
  t.ws[j]? = some p ∨ (∃ b site lg, p = .cwAck b site lg ∧ t.ws[j]? = some (onOk site lg)) ∨
  ∃ q, t.ws[j]? = some q ∧ ownStep s p q

theorem After.set {s t : St} {i j : Nat} {p0 p q : Pc} (hi : s.ws[i]? = some p0) (hws : t.ws = s.ws.set i q)
    (hj : s.ws[j]? = some p) (o : ownStep s p0 q) : After s t j p := by
  unfold After
  rw [hws]
  rcases set_get hi hj q with e | ⟨e, e'⟩
  · exact .inl e
  · subst e; exact .inr (.inr ⟨_, e', o⟩)

theorem step_at {cfg : Cfg} {s t : St} {f : Bool} (h : Step cfg f s t) {j : Nat} {p : Pc} (hj : s.ws[j]? = some p) :
    After s t j p := by
  cases h with
  | ehAcquire | ehClose | ehTake | bgExitParked => exact .inl hj
  | bgExitIdle | bgWorkOk | bgWorkFail | bgCommitOk | bgCommitFail | bgWorkCorrupt | bgCommitCorrupt | bgSetErr
  | bgSetErrCorrupt | bgSetErrPer | bgBackoff | bgLockClk | bgExit => rw [St.setBg_eq]; exact .inl hj
  | bgAck _ b w =>
    rw [St.setBg_eq]
    rcases ackWs_at s.ws w b j with ⟨e, _⟩ | ⟨site, lg, e, e'⟩
    · exact .inl (e.trans hj)
    · rw [hj] at e; cases e; exact .inr (.inl ⟨_, _, _, rfl, e'⟩)
  | selTok _ _ _ _ hi hq ht => exact .set hi rfl hj (.sel hq (.inl ht))
  | selPerErr _ _ _ _ hi hq => exact .set hi rfl hj (.sel hq (.inr (.inl rfl)))
  | selClosed _ _ _ _ hi hq hc => exact .set hi rfl hj (.sel hq (.inr (.inr ⟨hc, rfl⟩)))
  | clCheckTr _ _ hi => exact .set hi rfl hj (.close rfl rfl (by split <;> rfl) rfl)
  | clLockTr _ _ hi | clAcq _ _ hi | clAcqKept _ _ hi => exact .set hi rfl hj (.close rfl rfl rfl rfl)
  | clBody _ _ hi => unfold St.setDone; split <;> exact .set hi rfl hj (.close rfl rfl rfl rfl)
  | clWait _ _ hi hm ht =>
    exact .set hi rfl hj ⟨rfl, fun _ => ⟨hm, ht⟩, fun _ => .inr rfl, fun _ e => (by cases e)⟩
  | cwSendGo _ _ _ _ _ hi | cwAckErr _ _ _ _ _ hi => rw [St.setBg_eq]; exact .set hi rfl hj (.other rfl rfl rfl)
  | startClose _ _ hi | cmLockTr _ _ _ hi | srPerErr _ _ hi | srClosed _ _ hi =>
    split <;> exact .set hi rfl hj (.other rfl rfl rfl)
  | cmDone _ _ _ hi | dcBody _ _ _ hi => unfold St.setDone; split <;> exact .set hi rfl hj (.other rfl rfl rfl)
  | _ =>
    have hi : s.ws[_]? = some _ := ‹_›
    exact .set hi rfl hj (.other rfl rfl rfl)

end GoLevel.Locks

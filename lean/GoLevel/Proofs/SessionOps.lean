import GoLevel.Proofs.SessionSim
/-! The operations that do not install a version: `create`, `pin`, the timer, a failed commit, and
`version.releaseNB` (readers' `unpin`, and the release inside `setVersion`) (C07). -/
namespace GoLevel.Session
open GoLevel GoLevel.RefLoop

def StepOK (y : Sys) (U : List Nat) (o : Op) : Prop :=
  ∀ s' ms, y.sess.op o = some (s', ms) →
    ∃ l' rm G', deliver y.loop ms = some (l', rm) ∧
      Sim ⟨s', l', y.requests ++ rm⟩ G' (nextUsed U y.sess o rm) ∧ SafeF G' l'.next rm

theorem quiet_step {y : Sys} {G : EnvF} {U : List Nat} {o : Op} {s' : Sess} (hn : newNums y.sess o = [])
    (hs : Sim ⟨s', y.loop, y.requests⟩ G U) :
    ∃ l' rm G', deliver y.loop [] = some (l', rm) ∧
      Sim ⟨s', l', y.requests ++ rm⟩ G' (nextUsed U y.sess o rm) ∧ SafeF G' l'.next rm := by
  refine ⟨y.loop, [], G, rfl, ?_, safeF_nil _ _⟩
  unfold nextUsed
  rw [hn, List.append_nil, List.append_nil, List.filter_eq_self.mpr (by simp)]; exact hs

theorem of_guard {α : Type} {c : Bool} {p q : α} (h : (if c then none else some p) = some q) : c = false ∧ p = q := by
  cases c
  · exact ⟨rfl, Option.some.inj h⟩
  · cases h

theorem step_create {y : Sys} {G : EnvF} {U : List Nat} (h : Sim y G U) (hok : OpOK y.sess U .create) :
    StepOK y U .create := by
  intro s' ms hop
  obtain ⟨_, ⟨⟩⟩ := of_guard hop
  refine quiet_step rfl { h with view := fun hc => ?_ }
  have hv := h.view hc
  show G.L y.sess.cur = if true = true then G.T y.sess.cur else []
  cases hmf : y.sess.manifest
  · -- `Open` creates the manifest only when there is nothing to recover: the version is empty
    rw [hmf] at hv
    rw [if_pos rfl, ← h.lsm hc, hok hmf]; simpa using hv
  · rwa [hmf] at hv

theorem step_pin {y : Sys} {G : EnvF} {U : List Nat} (h : Sim y G U) : StepOK y U .pin := by
  intro s' ms hop
  obtain ⟨hcl, ⟨⟩⟩ := of_guard hop
  exact quiet_step rfl <| sim_pins h (fun o => if o.id = y.sess.cur then { o with pins := o.pins + 1 } else o)
    (fun o => by split <;> rfl) (fun o => by split <;> rfl) (fun hc => by rw [hcl] at hc; cases hc)

theorem step_expire {y : Sys} {G : EnvF} {U : List Nat} (h : Sim y G U) (v : Nat) : StepOK y U (.expire v) := by
  intro s' ms hop
  simp only [Sess.op, Option.some.injEq, Prod.mk.injEq] at hop
  obtain ⟨rfl, rfl⟩ := hop
  obtain ⟨l', rm, e1, ok1, le1, sf1⟩ := single_chain h.ok (EnvStepF.expire G v)
  refine ⟨l', rm, G, e1, { h with ok := ok1, used := fun hc => ?_ }, sf1⟩
  have hcl : G.closing = false := by rw [h.closing]; exact hc
  exact used_step (new := []) (h.used hc) (G' := G) (nx' := l'.next)
    (fun k hik hal => Or.inl ⟨hik, hal.anti (fun _ h => h) (G.cb_mono le1), rfl⟩) sf1 hcl

theorem step_commitFail {y : Sys} {G : EnvF} {U : List Nat} (h : Sim y G U) (c : UCmp) (r : Edit) :
    StepOK y U (.commitFail c r) := by
  intro s' ms hop
  obtain ⟨hcl', ⟨⟩⟩ := of_guard hop
  have hGc : G.closing = false := by rw [h.closing]; exact hcl'
  have hN := h.N_open hcl'
  have hs : EnvStepF y.loop.next G (.abandon G.N) (G.push .failed) := EnvStepF.abandon G hGc h.N_pos
  rw [hN] at hs
  obtain ⟨l', rm, e1, ok1, le1, sf1⟩ := single_chain h.ok hs
  obtain ⟨hdn, hcur⟩ := h.cur hcl'
  have hdnN := h.ok.inv.wf.dn_lt h.N_pos
  refine ⟨l', rm, G.push .failed, e1, ⟨ok1, ?_, Nat.succ_pos _, h.closing, ?_, h.idsnd, ?_, ?_, ?_, ?_, ?_, ?_, fun hc => by rw [hcl'] at hc; cases hc⟩, sf1⟩
  · show (G.push .failed).N = (y.sess.nt + 1) + _
    rw [EnvF.push_N, h.nt]; simp only [hcl']; simp
  · intro _
    refine ⟨hdn, ?_⟩
    show (G.push .failed).N ≤ (G.push .failed).up (G.dn + 1)
    rw [EnvF.push_up (by omega), EnvF.push_N]
    have : ¬ G.up (G.dn + 1) < G.N := by omega
    simp [this, Slot.isInst]
  · intro o ho
    obtain ⟨h1, h2⟩ := h.objs o ho
    exact ⟨(G.push_failed_inst _).mpr h1, h2⟩
  · intro hc k h1 h2
    exact h.objs' hc k ((G.push_failed_inst k).mp h1) h2
  · intro o ho
    rw [h.files o ho, EnvF.push_failed_T]
  · intro hc
    show y.sess.lsm.nums = (G.push .failed).T y.sess.cur
    rw [h.lsm hc, EnvF.push_failed_T]
  · intro hc
    show (G.push .failed).L y.sess.cur = if y.sess.manifest then (G.push .failed).T y.sess.cur else []
    rw [EnvF.push_failed_L, EnvF.push_failed_T]; exact h.view hc
  · intro hc
    refine used_step (new := []) (h.used hc) (fun k hik hal => Or.inl ?_) sf1 (by rw [EnvF.push_closing]; exact hGc)
    rw [alive_pushF h.ok.inv.wf h.N_pos] at hal
    exact ⟨(G.push_failed_inst k).mp hik, hal.anti (fun _ h => h) (G.cb_mono le1), G.push_failed_T k⟩

theorem drop_eq {s : Sess} {id : Nat} {o : VObj} (ho : s.obj id = some o) :
    s.drop id = if o.pins + (if id = s.cur ∧ ¬ s.closed then 1 else 0) > 0 then (s, [])
      else ({ s with objs := s.objs.filter (·.id != id) }, [.rel id o.files]) := by
  simp [Sess.drop, ho]

theorem drop_none {s : Sess} {id : Nat} (ho : s.obj id = none) : s.drop id = (s, []) := by
  simp [Sess.drop, ho]

/-- `releaseNB` on a version other than the session's own current one: only the reader pins count -/
theorem drop_other {s : Sess} {o : VObj} (hnd : (s.objs.map (·.id)).Nodup) (ho : o ∈ s.objs)
    (hne : ¬ (o.id = s.cur ∧ ¬ s.closed)) :
    s.drop o.id = if 0 < o.pins then (s, [])
      else ({ s with objs := s.objs.filter (·.id != o.id) }, [.rel o.id o.files]) := by
  rw [drop_eq (obj_eq hnd ho), if_neg hne, Nat.add_zero]

theorem drop_held {s : Sess} {o : VObj} (hnd : (s.objs.map (·.id)).Nodup) (ho : o ∈ s.objs)
    (hcur : o.id = s.cur ∧ ¬ s.closed) : s.drop o.id = (s, []) := by
  rw [drop_eq (obj_eq hnd ho), if_pos hcur, if_pos (by omega)]

/-- `close(s.closeC)` may come before or after the `releaseNB` of a version other than the current one -/
theorem drop_closed (s : Sess) {id : Nat} (hne : id ≠ s.cur) :
    ({ s with closed := true } : Sess).drop id = ({ (s.drop id).1 with closed := true }, (s.drop id).2) := by
  unfold Sess.drop
  show (match s.obj id with | none => _ | some o => _) = _
  cases s.obj id with
  | none => rfl
  | some o => simp only [hne, false_and, if_false]; split <;> rfl

/-- an object disappears without a message (the sender took the `<-closeC` arm) -/
theorem sim_drop_silent {y : Sys} {G : EnvF} {U : List Nat} (h : Sim y G U) (hc : y.sess.closed = true) (id : Nat) :
    Sim ⟨{ y.sess with objs := y.sess.objs.filter (·.id != id) }, y.loop, y.requests⟩ G U := by
  exact { h with
    idsnd := (List.filter_sublist.map _).nodup h.idsnd
    objs := fun o ho => h.objs o (List.mem_filter.mp ho).1
    objs' := fun hc' => by rw [hc] at hc'; cases hc'
    files := fun o ho => h.files o (List.mem_filter.mp ho).1
    clsobj := fun hc' o ho hid => h.clsobj hc' o (List.mem_filter.mp ho).1 hid }

theorem Sim.id_pos {y : Sys} {G : EnvF} {U : List Nat} (h : Sim y G U) {o : VObj} (ho : o ∈ y.sess.objs)
    (hne : ¬ (o.id = y.sess.cur ∧ ¬ y.sess.closed)) (hp : 0 < o.pins) :
    o.id < G.dn ∨ (G.closing = true ∧ o.id = G.dn) := by
  obtain ⟨hi, hnr⟩ := h.objs o ho
  have hlt := EnvF.inst_lt hi
  by_cases hc : y.sess.closed = true
  · have hcl : G.closing = true := by rw [h.closing]; exact hc
    obtain ⟨_, _, _, h1, h2⟩ := h.ok.inv.wf.cls hcl
    rcases Nat.lt_trichotomy o.id G.dn with h3 | h3 | h3
    · exact Or.inl h3
    · exact Or.inr ⟨hcl, h3⟩
    · exfalso
      have h4 : G.up (G.dn + 1) ≤ o.id := EnvF.up_le_of_inst (by omega) hi
      have := h.clsobj hc o ho (by omega)
      omega
  · have hc' : y.sess.closed = false := by simpa using hc
    obtain ⟨h1, h2⟩ := h.cur hc'
    left
    rcases Nat.lt_trichotomy o.id G.dn with h3 | h3 | h3
    · exact h3
    · exact absurd ⟨by rw [h3, h1], hc⟩ hne
    · have h4 : G.up (G.dn + 1) ≤ o.id := EnvF.up_le_of_inst (by omega) hi
      omega

/-- `releaseNB` of a version other than the session's current one, after the removals `rm0` of the same operation:
nothing happens while a reader pins it, otherwise the release task is processed. -/
theorem sim_drop {y : Sys} {G : EnvF} {U : List Nat} (h : Sim y G U) {o : VObj} (ho : o ∈ y.sess.objs)
    (hne : ¬ (o.id = y.sess.cur ∧ ¬ y.sess.closed))
    (hk : o.id < G.dn ∨ (G.closing = true ∧ o.id = G.dn)) {rm0 : List Nat} (sf0 : SafeF G y.loop.next rm0) :
    ∃ l' rm G', run y.loop (y.sess.drop o.id).2 = some (l', rm) ∧
      Sim ⟨(y.sess.drop o.id).1, l', y.requests ++ rm⟩ G' (U.filter (fun f => decide (f ∉ rm))) ∧
      SafeF G' l'.next (rm0 ++ rm) := by
  rw [drop_other h.idsnd ho hne]
  by_cases hp : 0 < o.pins
  · rw [if_pos hp]
    refine ⟨y.loop, [], G, rfl, ?_, by rw [List.append_nil]; exact sf0⟩
    rw [List.append_nil, List.filter_eq_self.mpr (by simp)]; exact h
  · rw [if_neg hp]
    obtain ⟨hi, hnr⟩ := h.objs o ho
    have hs : EnvStepF y.loop.next G (.rel o.id (G.T o.id)) { G with rel := o.id :: G.rel } := by
      rcases hk with hk | ⟨hc, hk⟩
      · exact EnvStepF.rel G o.id hi hk hnr
      · rw [hk] at hnr ⊢; exact EnvStepF.relClose G hc hnr
    rw [← h.files o ho] at hs
    obtain ⟨l', rm, e1, ok1, le1, sf1⟩ := single_chain h.ok hs
    -- what was safe before stays safe: the versions that must keep their tables only get fewer
    have sf0' := safeF_shrink (G' := { G with rel := o.id :: G.rel }) sf0 rfl (fun _ hk => List.mem_cons_of_mem _ hk)
      (fun hc => hc) (EnvF.cb_mono _ le1)
    refine ⟨l', rm, _, e1, ?_, safeF_append sf0' sf1⟩
    refine { h with
      ok := ok1, idsnd := (List.filter_sublist.map _).nodup h.idsnd
      objs := ?_, objs' := ?_, files := ?_, used := ?_, clsobj := ?_ }
    · intro o' ho'
      obtain ⟨h1, h2⟩ := List.mem_filter.mp ho'
      obtain ⟨h3, h4⟩ := h.objs o' h1
      refine ⟨h3, fun hm => ?_⟩
      rcases List.mem_cons.mp hm with h5 | h5
      · simp [h5] at h2
      · exact h4 h5
    · intro hc k h1 h2
      have h2' : k ≠ o.id ∧ k ∉ G.rel := by
        constructor
        · intro h3; exact h2 (by rw [h3]; exact List.mem_cons_self)
        · intro h3; exact h2 (List.mem_cons_of_mem _ h3)
      obtain ⟨o', ho', rfl⟩ := h.objs' hc k h1 h2'.2
      exact ⟨o', List.mem_filter.mpr ⟨ho', by simp [h2'.1]⟩, rfl⟩
    · intro o' ho'
      exact h.files o' (List.mem_filter.mp ho').1
    · intro hc
      have hcl : G.closing = false := by rw [h.closing]; exact hc
      have := used_step (new := []) (h.used hc) (G' := { G with rel := o.id :: G.rel }) (nx' := l'.next)
        (fun k hik hal => Or.inl ⟨hik, hal.anti (fun _ h => List.mem_cons_of_mem _ h) (G.cb_mono le1), rfl⟩) sf1 hcl
      simpa using this
    · intro hc o' ho' hid
      exact h.clsobj hc o' (List.mem_filter.mp ho').1 hid

theorem step_unpin {y : Sys} {G : EnvF} {U : List Nat} (h : Sim y G U) (id : Nat) (delivered : Bool) :
    StepOK y U (.unpin id delivered) := by
  intro s' ms hop
  simp only [Sess.op] at hop
  split at hop
  · cases hop
  · rename_i o hobj
    split at hop
    · cases hop
    · rename_i hpre
      obtain ⟨ho, hid⟩ := obj_mem hobj
      subst hid
      have hp : 0 < o.pins := by
        rcases Nat.eq_zero_or_pos o.pins with h0 | h0
        · exact absurd (Or.inl h0) hpre
        · exact h0
      have hs1 := sim_pins h (fun o' => if o'.id = o.id then { o' with pins := o'.pins - 1 } else o')
        (fun o' => by split <;> rfl) (fun o' => by split <;> rfl)
        (fun _ o' _ => by split; exact Nat.sub_le _ _; exact Nat.le_refl _)
      have ho1 : ({ o with pins := o.pins - 1 } : VObj) ∈
          y.sess.objs.map fun o' => if o'.id = o.id then { o' with pins := o'.pins - 1 } else o' :=
        List.mem_map.mpr ⟨o, ho, by simp⟩
      simp only [Option.some.injEq, Prod.mk.injEq] at hop
      obtain ⟨rfl, rfl⟩ := hop
      have hU : ∀ d rm, nextUsed U y.sess (.unpin o.id d) rm = U.filter (fun f => decide (f ∉ rm)) := fun d rm => by
        simp [nextUsed, newNums]
      by_cases hne : o.id = y.sess.cur ∧ ¬ y.sess.closed
      · -- the session itself still holds it
        have hd := drop_held hs1.idsnd ho1 hne
        dsimp only at hd
        rw [hd]
        cases delivered <;> exact quiet_step rfl hs1
      · cases delivered with
        | true =>
          obtain ⟨l', rm, G', e, hs, sf⟩ := sim_drop hs1 ho1 hne (h.id_pos (o := o) ho hne hp) (safeF_nil _ _)
          exact ⟨l', rm, G', e, by rw [hU]; exact hs, by simpa using sf⟩
        | false =>
          have hc : y.sess.closed = true := by
            rcases hcl : y.sess.closed with _ | _
            · exact absurd (Or.inr (by simp [hcl])) hpre
            · rfl
          rw [drop_other hs1.idsnd ho1 hne]
          refine quiet_step (G := G) rfl ?_
          split
          · exact hs1
          · exact sim_drop_silent hs1 hc o.id

end GoLevel.Session

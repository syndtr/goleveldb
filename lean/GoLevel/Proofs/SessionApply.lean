import GoLevel.Proofs.SessionEdit
import GoLevel.Proofs.LSMWf
/-! `EditFacts` derived from what `Version.apply` (`versionStaging.commit/finish`) does level by level (C07):
the hypotheses left are about the record (each deleted table sits at the level it names, added and deleted
numbers are listed once) and about where new numbers come from. -/
namespace GoLevel.Session
open GoLevel GoLevel.RefLoop

theorem mem_nums_iff (v : Version) (f : Nat) : f ∈ v.nums ↔ ∃ i, ∃ t ∈ v.lvl i, t.num = f := by
  rw [Version.nums, v.mem_flatMap_lvl rfl]; simp only [List.mem_map]

theorem nums_nodup_iff (v : Version) : v.nums.Nodup ↔
    (∀ i, ((v.lvl i).map (·.num)).Nodup) ∧ ∀ i j, i ≠ j → ∀ x ∈ v.lvl i, ∀ y ∈ v.lvl j, x.num ≠ y.num := by
  have h1 : (∀ l ∈ v.levels, (l.map (·.num)).Nodup) ↔ ∀ i, ((v.lvl i).map (·.num)).Nodup := by
    simpa using v.forall_lvl (Q := fun l => (l.map (·.num)).Nodup) List.nodup_nil 0
  rw [Version.nums, List.Nodup, List.pairwise_flatMap, v.pairwise_lvl (fun _ _ _ _ h => nomatch h)]
  refine and_congr h1 ⟨fun h i j hij x hx y hy => ?_, fun h i j hij a ha b hb => ?_⟩
  · rcases Nat.lt_or_gt_of_ne hij with hl | hl
    · exact h i j hl _ (List.mem_map_of_mem hx) _ (List.mem_map_of_mem hy)
    · exact fun hn => h j i hl _ (List.mem_map_of_mem hy) _ (List.mem_map_of_mem hx) hn.symm
  · obtain ⟨x, hx, rfl⟩ := List.mem_map.mp ha
    obtain ⟨y, hy, rfl⟩ := List.mem_map.mp hb
    exact h i j (Nat.ne_of_lt hij) x hx y hy

theorem level_unique {v : Version} (hv : v.nums.Nodup) {i j : Nat} {t t' : Table}
    (ht : t ∈ v.lvl i) (ht' : t' ∈ v.lvl j) (hn : t.num = t'.num) : i = j :=
  Decidable.by_contra fun hij => ((nums_nodup_iff v).mp hv).2 i j hij t ht t' ht' hn

theorem addAt_perm (c : UCmp) (e : Edit) (i : Nat) (l : Level) :
    (e.addAt c i l).Perm (l ++ (e.added.filter (·.1 = i)).map (·.2)) := by
  unfold Edit.addAt
  exact foldl_insertTable_perm c i _ l

/-- The hypotheses about a commit record that are NOT consequences of the session's history: the record names
each deleted table at its level, lists numbers once, and a new table's number is not in use. -/
structure RecordHyp (v : Version) (r : Edit) (U : List Nat) : Prop where
  delAt : ∀ p ∈ r.deleted, ∃ t ∈ v.lvl p.1, t.num = p.2
  dnd : r.delNums.Nodup
  and_ : r.addNums.Nodup
  fresh : ∀ f ∈ r.addNums, f ∉ U ∨ f ∈ r.delNums

section
variable {v : Version} {r : Edit} {U : List Nat}
  (h : RecordHyp v r U) (vnd : v.nums.Nodup) (used : ∀ f ∈ v.nums, f ∈ U)
include h vnd

theorem survivor_not_deleted {i : Nat} {x : Table} (hx : x ∈ v.survivors r i) :
    x.num ∉ r.delNums := by
  obtain ⟨hx1, hx2⟩ := (Version.mem_survivors v r i x).mp hx
  intro hd
  obtain ⟨p, hp, hpn⟩ := List.mem_map.mp hd
  obtain ⟨t', ht', htn⟩ := h.delAt p hp
  have : i = p.1 := level_unique vnd hx1 ht' (by rw [htn]; exact hpn.symm)
  apply hx2
  have hpe : p = (i, x.num) := by
    obtain ⟨a, b⟩ := p
    simp only at this hpn
    rw [this, ← hpn]
  rw [← hpe]; exact hp

include used

theorem added_not_survivor {i j : Nat} {x t : Table} (hx : x ∈ v.survivors r i)
    (ht : (j, t) ∈ r.added) : x.num ≠ t.num := by
  intro hn
  have hmem : t.num ∈ r.addNums := List.mem_map.mpr ⟨(j, t), ht, rfl⟩
  have hv : x.num ∈ v.nums := (mem_nums_iff v _).mpr ⟨i, x, v.survivors_sub r i x hx, rfl⟩
  rcases h.fresh _ hmem with h1 | h1
  · exact h1 (by rw [← hn]; exact used _ hv)
  · exact survivor_not_deleted h vnd hx (by rw [hn]; exact h1)

theorem newLevel_nums_nodup (c : UCmp) (i : Nat) :
    ((v.newLevel c r i).map (·.num)).Nodup := by
  have hp := (addAt_perm c r i (v.survivors r i)).map (fun t : Table => t.num)
  rw [show (v.newLevel c r i) = r.addAt c i (v.survivors r i) from rfl]
  rw [hp.nodup_iff, List.map_append, List.nodup_append]
  refine ⟨?_, ?_, ?_⟩
  · exact List.Nodup.sublist (List.filter_sublist.map _) (((nums_nodup_iff v).mp vnd).1 i)
  · have : ((r.added.filter (·.1 = i)).map (·.2)).map (fun t : Table => t.num) =
        (r.added.filter (·.1 = i)).map (·.2.num) := by rw [List.map_map]; rfl
    rw [this]
    exact List.Nodup.sublist (List.filter_sublist.map _) h.and_
  · intro a ha b hb hab
    obtain ⟨x, hx, rfl⟩ := List.mem_map.mp ha
    obtain ⟨t, ht, rfl⟩ := List.mem_map.mp hb
    obtain ⟨p, hp', rfl⟩ := List.mem_map.mp ht
    exact added_not_survivor h vnd used hx (j := p.1) (List.mem_filter.mp hp').1 hab

theorem newLevel_apart (c : UCmp) {i j : Nat} (hij : i ≠ j) {x y : Table}
    (hx : x ∈ v.newLevel c r i) (hy : y ∈ v.newLevel c r j) : x.num ≠ y.num := by
  intro hn
  rcases (Version.mem_newLevel c v r i x).mp hx with hx | hx <;>
    rcases (Version.mem_newLevel c v r j y).mp hy with hy | hy
  · exact hij (level_unique vnd (v.survivors_sub r i x hx) (v.survivors_sub r j y hy) hn)
  · exact added_not_survivor h vnd used hx hy hn
  · exact added_not_survivor h vnd used hy hx hn.symm
  · have := eq_of_nodup_map (fun p : Nat × Table => p.2.num) h.and_ hx hy hn
    exact hij (congrArg Prod.fst this)

end

theorem editFacts_of_record {v : Version} {r : Edit} {U : List Nat} (h : RecordHyp v r U) (vnd : v.nums.Nodup)
    (used : ∀ f ∈ v.nums, f ∈ U) (c : UCmp) :
    EditFacts v c r U := by
  have hlvl := Version.apply_lvl c v r
  have hmem : ∀ f, f ∈ (v.apply c r).nums ↔ (f ∈ v.nums ∧ f ∉ r.delNums) ∨ f ∈ r.addNums := by
    intro f
    rw [mem_nums_iff]
    constructor
    · rintro ⟨i, x, hx, rfl⟩
      rw [hlvl] at hx
      rcases (Version.mem_newLevel c v r i x).mp hx with hs | ha
      · left
        exact ⟨(mem_nums_iff v _).mpr ⟨i, x, v.survivors_sub r i x hs, rfl⟩,
          survivor_not_deleted h vnd hs⟩
      · right; exact List.mem_map.mpr ⟨(i, x), ha, rfl⟩
    · rintro (⟨h1, h2⟩ | h1)
      · obtain ⟨i, t, ht, rfl⟩ := (mem_nums_iff v f).mp h1
        refine ⟨i, t, ?_, rfl⟩
        rw [hlvl]
        refine (Version.mem_newLevel c v r i t).mpr (Or.inl ((Version.mem_survivors v r i t).mpr ⟨ht, fun hd => ?_⟩))
        exact h2 (List.mem_map.mpr ⟨(i, t.num), hd, rfl⟩)
      · obtain ⟨p, hp, rfl⟩ := List.mem_map.mp h1
        refine ⟨p.1, p.2, ?_, rfl⟩
        rw [hlvl]
        exact (Version.mem_newLevel c v r p.1 p.2).mpr (Or.inr hp)
  refine ⟨?_, h.dnd, ?_, hmem, h.fresh⟩
  · refine (nums_nodup_iff _).mpr ⟨fun i => ?_, fun i j hij x hx y hy => ?_⟩
    · rw [hlvl]; exact newLevel_nums_nodup h vnd used c i
    · rw [hlvl] at hx hy; exact newLevel_apart h vnd used c hij hx hy
  · intro x hx
    obtain ⟨p, hp, rfl⟩ := List.mem_map.mp hx
    obtain ⟨t, ht, htn⟩ := h.delAt p hp
    exact (mem_nums_iff v _).mpr ⟨p.1, t, ht, htn⟩

end GoLevel.Session

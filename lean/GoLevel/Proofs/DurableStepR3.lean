import GoLevel.Proofs.DurableStepJobPost
/-!
Crash, process exit, and the steps of recovery (`recOpen`, `recStep`: replaying one journal, spawning the intermediate
and the final commit) preserve the invariant.
-/
namespace GoLevel.Dur

variable {cfg : Cfg} {s s' : St} {d d' : Disk} {j : Job} {e : MRec} {rot : Bool}

theorem inv_crash {cfg : Cfg} (hg : cfg.Good) {s : St} {d : Disk} (h : Inv cfg s d) (ch : CrashChoice) :
    Inv cfg (crashSt s) (crashWith ch d) := by
  refine .of_crashed rfl ⟨rfl, rfl, rfl, rfl, rfl⟩ ((h.disk.crash hg.noTrace ch).mono
    (fun _ hx => List.mem_append_left _ (mem_ackedSync_downgrade hx)) fun x hx => ?_) (h.mm.crash hg.noTrace ⟨_, _, h.disk⟩ ch)
  simp only [issuedGrps, crashSt, issuedGrps_downgrade] at hx ⊢
  exact hx

theorem inv_exit {cfg : Cfg} {s : St} {d : Disk} (h : Inv cfg s d) : Inv cfg (exitSt s) d :=
  .of_crashed rfl ⟨rfl, rfl, rfl, rfl, rfl⟩ (h.disk.mono (fun _ => List.mem_append_left _) fun _ hx => hx) h.mm

/-- `Open` gives up: the process is back where a crashed one is, the storage keeps what it has -/
theorem Inv.giveUp (h : Inv cfg s d) (hph : s.phase = .recovering)
    (hd : DiskOK cfg d' (must s) (issuedGrps s)) (hmm : ManifestMono cfg d') : Inv cfg (giveUp s) d' :=
  .of_crashed rfl ⟨rfl, rfl, rfl, (h.idle_of_not_running (by rw [hph]; decide)).2.2.1, rfl⟩
    (hd.mono (fun _ => List.mem_append_left _) fun _ hx => hx) hmm

theorem recoverR_view {r : RState} (h : recoverR cfg d = .ok r) {mf : LogFile MRec}
    (hmf : curManifest d = some mf) : lastView cfg d = some r.mv := by
  rw [lastView_eq hmf, viewAt_all]
  cases hv : (replayM cfg mf.all).view? with
  | none => rw [recoverR_unreadable cfg hmf hv] at h; cases h
  | some v =>
    rw [recoverR_readable cfg hmf hv] at h
    cases ht : tableGroups d v.live <;> rw [ht] at h <;> cases h
    rfl

theorem maxNum_ge (l : List Nat) : ∀ x ∈ l, x ≤ maxNum l := by
  unfold maxNum
  have : ∀ (l : List Nat) (a : Nat), a ≤ l.foldl max a ∧ ∀ x ∈ l, x ≤ l.foldl max a := by
    intro l
    induction l with
    | nil => intro a; exact ⟨Nat.le_refl _, fun x hx => by cases hx⟩
    | cons y ys ih =>
      intro a
      simp only [List.foldl_cons]
      obtain ⟨i1, i2⟩ := ih (max a y)
      refine ⟨Nat.le_trans (Nat.le_max_left _ _) i1, fun x hx => ?_⟩
      rcases List.mem_cons.1 hx with rfl | hx'
      · exact Nat.le_trans (Nat.le_max_right _ _) i1
      · exact i2 x hx'
  exact (this l 0).2

theorem mem_journalsFrom (hs : d.journals.Pairwise (fun p q => p.1 < q.1)) {jn n : Nat} :
    n ∈ journalsFrom d jn ↔ ∃ p ∈ d.journals, p.1 = n ∧ jn ≤ n := by
  rw [journalsFrom_eq hs]
  simp only [List.mem_map, mem_relJournals]
  constructor
  · rintro ⟨p, ⟨hp, hge⟩, rfl⟩; exact ⟨p, hp, rfl, hge⟩
  · rintro ⟨p, hp, rfl, hge⟩; exact ⟨p, ⟨hp, hge⟩, rfl⟩

theorem inv_recOpen {cfg : Cfg} {s : St} {d : Disk} (h : Inv cfg s d) {s' : St}
    (hs : recOpen cfg s d = some s') : Inv cfg s' d := by
  unfold recOpen at hs
  split at hs
  · rename_i hph
    obtain ⟨hjob, hw, hfz, htr⟩ := h.crashed hph
    obtain ⟨mf, v0, v, hparts, hlv, hvl, hvok, hmono⟩ := h.disk.last
    have hcur := hparts.cur
    split at hs
    · cases hs
    · rename_i r hr
      simp only [Option.some.injEq] at hs
      subst hs
      obtain rfl : v = r.mv := Option.some.inj (hlv.symm.trans (recoverR_view hr hcur))
      have hsorted := h.disk.jsorted
      obtain ⟨m, hc, _⟩ := curManifest_some hcur
      have hmg := h.mm.get hcur hc (Nat.le_refl _) hvl
      -- the new next-file number dominates everything
      have hjs : ∀ n ∈ journalsFrom d r.mv.jn,
          n < max r.mv.nf (if (journalsFrom d r.mv.jn).isEmpty then 0 else maxNum (journalsFrom d r.mv.jn) + 1) := by
        intro n hn
        have hne : (journalsFrom d r.mv.jn).isEmpty = false := by
          cases hh : journalsFrom d r.mv.jn with
          | nil => rw [hh] at hn; cases hn
          | cons a b => rfl
        rw [hne]
        simp only [Bool.false_eq_true, if_false]
        have := maxNum_ge _ n hn
        omega
      have hnf : r.mv.nf ≤
          max r.mv.nf (if (journalsFrom d r.mv.jn).isEmpty then 0 else maxNum (journalsFrom d r.mv.jn) + 1) :=
        Nat.le_max_left _ _
      refine Inv.of_recovering rfl h.disk h.mm ?_ ?_ (by show Holds' s.job _; rw [hjob]; trivial)
      · unfold ViewBounds
        rw [hcur]
        simp only [Holds]
        intro k hk
        obtain ⟨vk, hvk, _, _⟩ := hparts.views k hk
        rw [hvk]
        have := hmg.2 k hk vk hvk
        refine ⟨?_, Nat.le_trans this.2 hnf, fun hr' => by cases hr'⟩
        rw [seqHi_eq (not_trWindow_of_nojob (by exact hjob))]
        exact this.1
      · show Holds (some _) _
        simp only [Holds]
        refine ⟨MfdOK.nojob hjob rfl, ⟨hw, hfz, htr⟩, ?_, (fun o ho => by cases ho), ⟨?_, ?_, hjs⟩, ?_, rfl, fun _ => ?_, ?_,
          (fun o ho => by cases ho)⟩
        · rw [journalsFrom_eq hsorted, List.pairwise_map]
          exact hsorted.filter _
        · intro p hp
          by_cases hge : r.mv.jn ≤ p.1
          · exact hjs p.1 ((mem_journalsFrom hsorted).2 ⟨p, hp, rfl, hge⟩)
          · have := hvok.jnf
            show p.1 < max r.mv.nf _
            omega
        · rw [hc]
          exact Nat.lt_of_lt_of_le hmg.1 hnf
        · intro p hp hpt g hg
          obtain ⟨q, _, hq1, hge⟩ := (mem_journalsFrom hsorted).1 hpt
          exact (hvok.jseq p (mem_relJournals.2 ⟨hp, hge⟩) g hg).1
        · exact .intro hcur (fun hx => by cases hx) hlv ⟨⟨rfl, rfl, rfl⟩, (fun o ho => by cases ho)⟩
        · rw [hlv]
          simp only [Holds]
          exact ⟨fun p hp hge => Or.inl ((mem_journalsFrom hsorted).2 ⟨p, hp, rfl, hge⟩),
            fun n hn => ((mem_journalsFrom hsorted).1 hn).choose_spec.2.2⟩
  · cases hs

theorem AscFrom.raise {s : Nat} {l : List Grp} (h : AscFrom 0 l) (hs : ∀ g ∈ l, s ≤ g.seq) : AscFrom s l := by
  cases l with
  | nil => trivial
  | cons g gs => exact ⟨hs g List.mem_cons_self, h.2⟩

theorem replayJ_le' {x : Nat} {l : List Grp} (hl : ∀ g ∈ l, g.fin ≤ x) {s : Nat} (hs : s ≤ x) :
    (replayJ s l).2 ≤ x := by
  induction l generalizing s with
  | nil => simpa [replayJ] using hs
  | cons g gs ih =>
    simp only [replayJ]
    split
    · exact ih (fun y hy => hl y (List.mem_cons_of_mem _ hy)) hs
    · exact ih (fun y hy => hl y (List.mem_cons_of_mem _ hy)) (hl g List.mem_cons_self)

/-- the sequence number after a replay is the least bound of its start and the groups' ends -/
theorem replayJ_le {s x : Nat} {l : List Grp} (h : AscFrom s l) (hs : s ≤ x) (hl : ∀ g ∈ l, g.fin ≤ x) :
    (replayJ s l).2 ≤ x :=
  replayJ_le' hl hs

theorem journalRecs_single (d : Disk) (j : Nat) :
    journalRecs d [j] = ((lookup d.journals j).map (·.all)).getD [] := by
  simp [journalRecs]

def replayed (s : St) (d : Disk) (j : Nat) (rest : List Nat) : St :=
  { s with seq := (replayJ s.seq (journalRecs d [j])).2, recov := some { todo := rest, ofd := some j, mdb := (replayJ s.seq (journalRecs d [j])).1 } }

theorem recStep_replay_eq {r : Recov} {j : Nat} {rest : List Nat}
    (hph : s.phase = .recovering) (hjob : s.job = none) (hr : s.recov = some r) (ht : r.todo = j :: rest)
    (ho : r.ofd = none) : recStep s d = some (replayed s d j rest) := by
  simp [recStep, hph, hjob, hr, ht, ho, replayed]

theorem inv_recStep_replay (h : Inv cfg s d) {r : Recov} {j : Nat} {rest : List Nat}
    (hph : s.phase = .recovering) (hjob : s.job = none) (hr : s.recov = some r) (ht : r.todo = j :: rest)
    (ho : r.ofd = none) : Inv cfg (replayed s d j rest) d := by
  unfold replayed
  have hrec : RecOK cfg s d r := holds_some (h.recov hph) hr
  have hb := h.bounds_of hph
  obtain ⟨mf, v0, v, hparts, hlv, hvl, hvok, hmono⟩ := h.disk.last
  have hnc : NoCommitYet s := .of_nojob hjob
  have hnd := sorted_nodup h.disk.jsorted
  obtain ⟨r1, r2, r3, r4, r5, r6, r7, r8, r9, r10⟩ := hrec
  rw [hlv] at r9
  obtain ⟨hrel, htge⟩ : (∀ p ∈ d.journals, v.jn ≤ p.1 → p.1 ∈ r.todo ∨ some p.1 = r.ofd ∨ p.2.all = []) ∧
      ∀ n ∈ r.todo, v.jn ≤ n := r9
  have hjt : j ∈ r.todo := by rw [ht]; exact List.mem_cons_self
  have hsub : ∀ n ∈ rest, n ∈ r.todo := fun n hn => by rw [ht]; exact List.mem_cons_of_mem _ hn
  have hvj : v.jn ≤ j := htge j hjt
  rw [ht] at r3
  rw [List.pairwise_cons] at r3
  have hview := r8 hnc
  have hmir : Mirror s v := (hview.view hlv).1
  have hbv := hb.all mf hparts.cur _ (Nat.le_refl _) v hvl
  rw [seqHi_eq (not_trWindow_of_nojob hjob)] at hbv
  have hstsq : s.stSq ≤ s.seq := by rw [← hmir.2.2]; exact hbv.1
  -- the journal being replayed, if it is there
  have hfile : ∀ f, lookup d.journals j = some f →
      AscFrom 0 f.all ∧ ∀ p ∈ d.journals, p.1 ∈ rest → ∀ g ∈ p.2.all, ∀ x ∈ f.all, x.fin ≤ g.seq := by
    intro f hf
    have hfm : (j, f) ∈ d.journals := lookup_some_mem hf
    have hfr : (j, f) ∈ relJournals d v0.jn := mem_relJournals.2 ⟨hfm, Nat.le_trans hmono hvj⟩
    refine ⟨hparts.jasc _ hfr, fun p hp hpr g hg x hx => ?_⟩
    have hjp : j < p.1 := r3.1 p.1 hpr
    have hpr' : p ∈ relJournals d v0.jn := mem_relJournals.2 ⟨hp, by omega⟩
    exact hparts.jord _ hfr p hpr' hjp x hx g hg
  -- the result of the replay
  have hrp : (∀ p ∈ d.journals, p.1 = j → (∀ g ∈ (replayJ s.seq (journalRecs d [j])).1, g ∈ p.2.all) ∧
        ∀ g ∈ p.2.all, g ∈ (replayJ s.seq (journalRecs d [j])).1 ∨ g ∉ must s) ∧
      (∀ g ∈ (replayJ s.seq (journalRecs d [j])).1, g.fin ≤ (replayJ s.seq (journalRecs d [j])).2 ∧ s.seq ≤ g.seq) ∧
      s.seq ≤ (replayJ s.seq (journalRecs d [j])).2 ∧
      ((∃ p ∈ d.journals, p.1 = j) ∨ (replayJ s.seq (journalRecs d [j])).1 = []) ∧
      (∀ p ∈ d.journals, p.1 ∈ rest → ∀ g ∈ p.2.all, (replayJ s.seq (journalRecs d [j])).2 ≤ g.seq ∨ g ∉ must s) := by
    rw [journalRecs_single]
    cases hf : lookup d.journals j with
    | none =>
      simp only [Option.map_none, Option.getD_none, replayJ]
      refine ⟨fun p hp hpj => absurd hpj (lookup_none_iff.1 hf p hp), (fun g hg => by cases hg), Nat.le_refl _,
        Or.inr trivial, fun p hp hpr g hg => r6 p hp (hsub _ hpr) g hg⟩
    | some f =>
      simp only [Option.map_some, Option.getD_some]
      obtain ⟨hasc, hord⟩ := hfile f hf
      obtain ⟨a1, a2, a3⟩ := replayJ_filter (s := s.seq) hasc
      have hmemf : ∀ g, g ∈ (replayJ s.seq f.all).1 ↔ g ∈ f.all ∧ s.seq ≤ g.seq := by
        intro g; rw [a1]; simp [List.mem_filter]
      refine ⟨fun p hp hpj => ?_, fun g hg => ⟨a3 g ((hmemf g).1 hg).1 ((hmemf g).1 hg).2, ((hmemf g).1 hg).2⟩, a2,
        Or.inl ⟨(j, f), lookup_some_mem hf, rfl⟩, fun p hp hpr g hg => ?_⟩
      · have : lookup d.journals p.1 = some p.2 := lookup_of_mem hnd (by cases p; exact hp)
        rw [hpj, hf] at this
        cases this
        refine ⟨fun g hg => ((hmemf g).1 hg).1, fun g hg => ?_⟩
        rcases r6 _ (lookup_some_mem hf) hjt g hg with h1 | h1
        · exact Or.inl ((hmemf g).2 ⟨hg, h1⟩)
        · exact Or.inr h1
      · rcases r6 p hp (hsub _ hpr) g hg with h1 | h1
        · exact Or.inl (replayJ_le' (fun x hx => hord p hp hpr g hg x hx) h1)
        · exact Or.inr h1
  obtain ⟨p1, p2, p3, p4, p5⟩ := hrp
  refine Inv.of_recovering hph h.disk h.mm (hb.of_same rfl (seqHi_le_of_not_window (not_trWindow_of_nojob hjob)
    (not_trWindow_of_nojob (by exact hjob)) p3) (Nat.le_refl _) (fun hr' => by rw [hph] at hr'; cases hr')) ?_
    (by show Holds' s.job _; rw [hjob]; trivial)
  show Holds (some _) _
  simp only [Holds]
  refine ⟨r1, r2, r3.2,
    ?_, ⟨r5.1, r5.2.1, fun n hn => r5.2.2 n (hsub n hn)⟩, p5, ?_, fun _ => ?_,
    ?_, ?_⟩
  · intro o ho' n hn
    cases ho'
    exact r3.1 n hn
  · show MdbOK _ d _
    unfold MdbOK
    exact ⟨p1, fun g hg => (p2 g hg).1, fun _ => ⟨p4, fun g hg => Nat.le_trans hstsq (p2 g hg).2⟩⟩
  · exact hview.imp fun _ hv1 hm => ⟨hm.1, fun o ho' => by cases ho'; cases hlv.symm.trans hv1; exact hvj⟩
  · rw [hlv]
    simp only [Holds]
    refine ⟨fun p hp hge => ?_, fun n hn => htge n (hsub n hn)⟩
    rcases hrel p hp hge with h1 | h1 | h1
    · rw [ht] at h1
      rcases List.mem_cons.1 h1 with h2 | h2
      · exact Or.inr (Or.inl (by rw [h2]))
      · exact Or.inl h2
    · rw [ho] at h1; cases h1
    · exact Or.inr (Or.inr h1)
  · intro o ho'
    cases ho'
    exact r5.2.2 j hjt

/-- the output tables of a recovery commit: the recovery memdb, if it is not empty -/
def recOuts (s : St) (r : Recov) : List (Nat × List Grp) := if r.mdb.isEmpty then [] else [(s.nextFile, r.mdb)]

def recNext (s : St) (r : Recov) : Nat := if r.mdb.isEmpty then s.nextFile else s.nextFile + 1

/-- a commit of the recovery: the recovery memdb is its (at most one) output table, `n` the journal its edit names, `pc0`
    where it starts when there is no table to write -/
def recJob (s : St) (r : Recov) (kind : JobKind) (mk : Option Nat) (n : Nat) (rm : List Nat) (pc0 : JPc) : Job :=
  { kind := kind, outs := recOuts s r, mkJournal := mk,
    edit := some { jn := some n, sq := some s.seq, added := (recOuts s r).map (·.1) },
    rmJournals := rm, pc := if (recOuts s r).isEmpty then pc0 else .tCreate 0 }

theorem recStep_mid_eq {r : Recov} {j o : Nat} {rest : List Nat}
    (hph : s.phase = .recovering) (hjob : s.job = none) (hr : s.recov = some r) (ht : r.todo = j :: rest)
    (ho : r.ofd = some o) :
    recStep s d = some { s with nextFile := recNext s r, job := some (recJob s r .recovMid none j [o] .append) } := by
  unfold recStep recJob recOuts recNext
  rw [if_pos ⟨hph, hjob⟩]
  simp only [hr, ht, ho]

theorem recStep_final_eq {r : Recov}
    (hph : s.phase = .recovering) (hjob : s.job = none) (hr : s.recov = some r) (ht : r.todo = []) :
    recStep s d = some { s with nextFile := recNext s r + 1, job := some (recJob s r .recovFinal
      (some (recNext s r)) (recNext s r) r.ofd.toList .mkJournal) } := by
  unfold recStep recJob recOuts recNext
  rw [if_pos ⟨hph, hjob⟩]
  simp only [hr, ht]

theorem recOuts_facts (s : St) (r : Recov) :
    (recOuts s r).length ≤ 1 ∧ (∀ o ∈ recOuts s r, o.1 = s.nextFile ∧ o.1 < recNext s r) ∧ s.nextFile ≤ recNext s r ∧
    (recOuts s r = [] ∧ r.mdb = [] ∨ recOuts s r = [((recOuts s r).head?.map (·.1) |>.getD 0, r.mdb)]) := by
  by_cases hm : r.mdb.isEmpty = true
  · have hmdb : r.mdb = [] := by simpa using hm
    simp [recOuts, recNext, hmdb]
  · simp [recOuts, recNext, hm]

/-- spawning a commit of the recovery: the job starts in the early phase; what ties it to the recovery (kind, the journal
    it makes) is the caller's -/
theorem inv_rec_spawn (h : Inv cfg s d) {r : Recov}
    (hph : s.phase = .recovering) (hjob : s.job = none) (hr : s.recov = some r)
    {kind : JobKind} {mk : Option Nat} {n : Nat} {rm : List Nat} {pc0 : JPc} {j' : Job}
    (hj' : j' = recJob s r kind mk n rm pc0) (hpc0 : pc0.early = true) (htd : pc0.tablesDone = true)
    (nf' : Nat) (hnf : recNext s r ≤ nf')
    (hkind : JobKindOK { s with nextFile := nf', job := some j' } j')
    (hmk : MkJournalOK { s with nextFile := nf', job := some j' } d j')
    (hmkf : ∀ m, mk = some m → s.nextFile ≤ m) :
    Inv cfg { s with nextFile := nf', job := some j' } d := by
  subst hj'
  have hrec : RecOK cfg s d r := holds_some (h.recov hph) hr
  have hb := h.bounds_of hph
  obtain ⟨mf, v0, v, hparts, hlv, hvl, hvok, hmono⟩ := h.disk.last
  have hnc : NoCommitYet s := .of_nojob hjob
  obtain ⟨f1, f2, f3, _⟩ := recOuts_facts s r
  have hnf0 : s.nextFile ≤ nf' := Nat.le_trans f3 hnf
  have hpc : (recJob s r kind mk n rm pc0).pc.early = true := by
    unfold recJob; simp only; split
    · exact hpc0
    · rfl
  have hbc := early_beforeCommit hpc
  have hnr : ∀ m, (recJob s r kind mk n rm pc0).pc ≠ .rotRemove m := by
    intro m hm; rw [hm] at hpc; cases hpc
  have hl : s.limbo = none := hrec.idle.2.2.2
  have hview := hrec.view hnc
  refine Inv.of_recovering hph h.disk h.mm ?_ ?_ ?_
  · exact hb.of_same rfl (seqHi_le_of_not_window (not_trWindow_of_nojob hjob)
      (not_trWindow_of_bc (j := recJob s r kind mk n rm pc0) rfl hbc hl) (Nat.le_refl _)) hnf0
      (fun hr' => by rw [hph] at hr'; cases hr')
  · refine holds_of_some (o := s.recov) hr ?_
    rw [upd_eq]
    exact RecOK.job_step (d' := d) hrec _ nf' s.live s.stJn s.stSq s.manifestFd s.manifestOpen hnf0 rfl
      (hrec.mfd.transport (by rw [hjob]; intro m hm; cases hm) (fun m hm => hnr m (Option.some.inj hm)) rfl rfl rfl)
      (hrec.nums.2.1.imp (fun m hm => Nat.lt_of_lt_of_le hm hnf0)) (fun _ => ⟨hnc, rfl, rfl, rfl, rfl, rfl⟩)
      (holds_of_some hlv (holds_of_some hlv ⟨Nat.le_refl _, (holds_some hrec.rel hlv).2⟩))
  · refine JobOK.spawned h (by rw [hph]; decide) s.issued nf' f1
      (fun o ho => ⟨(f2 o ho).1, Nat.lt_of_lt_of_le (f2 o ho).2 hnf⟩) hpc ?_ rfl ⟨rfl, rfl, rfl⟩ (Or.inl rfl) hmk hmkf
      (hview.imp fun v1 _ hv1 => (MirrorL.of_none hl).2 hv1.1) hkind ?_
    · unfold recJob
      simp only
      by_cases hemp : (recOuts s r).isEmpty = true
      · rw [if_pos hemp]
        exact .inr ⟨by simpa using hemp, htd⟩
      · rw [if_neg hemp]
        exact .inl ⟨rfl, by simpa using hemp⟩
    -- a job of the recovery is no table compaction
    unfold InputsOK
    rw [if_neg fun hk => by
      have hkk := hkind
      unfold JobKindOK at hkk
      rw [hk] at hkk
      have : s.phase = .running := hkk.1
      rw [hph] at this; cases this]
    exact ⟨rfl, fun _ => rfl, rfl⟩

theorem inv_recStep {cfg : Cfg} {s : St} {d : Disk} (h : Inv cfg s d) {s' : St}
    (hs : recStep s d = some s') : Inv cfg s' d := by
  have hs0 := hs
  unfold recStep at hs0
  split at hs0
  · rename_i hg
    obtain ⟨hph, hjob⟩ := hg
    cases hr : s.recov with
    | none => rw [hr] at hs0; cases hs0
    | some r =>
      have hrec : RecOK cfg s d r := holds_some (h.recov hph) hr
      obtain ⟨_, _, f3, f4⟩ := recOuts_facts s r
      cases ht : r.todo with
      | nil =>
        rw [recStep_final_eq hph hjob hr ht] at hs
        cases hs
        refine inv_rec_spawn h hph hjob hr rfl rfl rfl (recNext s r + 1) (Nat.le_succ _) ?_ ?_
          fun n hn => by cases hn; exact f3
        · unfold JobKindOK recJob
          simp only [hph, true_and]
          apply holds_of_some (o := s.recov) hr
          refine ⟨ht, ⟨rfl, fun o ho => ?_⟩, f4, rfl, rfl⟩
          simp only [Holds]
          cases hofd : r.ofd with
          | none => rw [hofd] at ho; cases ho
          | some o' =>
            rw [hofd] at ho
            simp only [Option.toList_some, List.mem_singleton] at ho
            subst ho
            exact Nat.lt_of_lt_of_le (hrec.ofdNf o hofd) f3
        · unfold MkJournalOK recJob
          simp only
          refine ⟨Nat.lt_succ_self _, ?_⟩
          have hcond : (if (recOuts s r).isEmpty = true then JPc.mkJournal else JPc.tCreate 0) = JPc.mkJournal ∨
              (if (recOuts s r).isEmpty = true then JPc.mkJournal else JPc.tCreate 0).tablesDone = false := by
            split
            · exact Or.inl rfl
            · exact Or.inr rfl
          rw [if_pos hcond]
          exact fun p hp => Nat.lt_of_lt_of_le (hrec.nums.1 p hp) f3
      | cons j rest =>
        cases ho : r.ofd with
        | none =>
          rw [recStep_replay_eq hph hjob hr ht ho] at hs
          cases hs
          exact inv_recStep_replay h hph hjob hr ht ho
        | some o =>
          rw [recStep_mid_eq hph hjob hr ht ho] at hs
          cases hs
          refine inv_rec_spawn h hph hjob hr rfl rfl rfl (recNext s r) (Nat.le_refl _) ?_ (MkJournalOK.of_none rfl)
            fun n hn => by cases hn
          unfold JobKindOK recJob
          simp only [hph, true_and]
          apply holds_of_some (o := s.recov) hr
          apply holds_of_some ho
          refine ⟨rfl, f4, ?_⟩
          rw [ht]
          exact ⟨rfl, rfl⟩
  · cases hs0

end GoLevel.Dur

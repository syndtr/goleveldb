import GoLevel.Driver.Conc
import GoLevel.Proofs.ConcSnaps
/-!
# The trace validator only ever holds reachable states of the model (with their snapshot list)
-/
namespace GoLevel.Driver
open GoLevel GoLevel.Conc

/-- the validator's state is a state of an execution of the model, together with the real snapshot list -/
def Good (st : ConcState) : Prop := Joint bytewise st.σ st.snl

theorem good_init : Good {} := Joint.init

theorem Good.reachable {st : ConcState} (h : Good st) : Reachable Cfg.real bytewise st.σ := Joint.reachable h

theorem applyAct_some {st st' : ConcState} {a : Action} (h : applyAct st a = some st') :
    a.plain = true ∧ Conc.step Cfg.real bytewise st.σ a = some st'.σ ∧ snapsStep st.σ st.snl a = some st'.snl := by
  unfold applyAct at h
  split at h
  · rename_i hp
    split at h
    · rename_i σ' l' h1 h2
      cases h
      exact ⟨hp, h1, h2⟩
    · cases h
  · cases h

theorem applyAct_good {st st' : ConcState} {a : Action} (hg : Good st) (h : applyAct st a = some st') :
    Good st' ∧ Steps Cfg.real bytewise st.σ st'.σ := by
  obtain ⟨hp, h1, h2⟩ := applyAct_some h
  have hstep : Step Cfg.real bytewise st.σ a st'.σ := ⟨h1, guardP_plain _ _ hp⟩
  exact ⟨Joint.step a hg hstep h2, Steps.tail a (Steps.refl _) hstep⟩

theorem applyCompactId_good {st st' : ConcState} (hg : Good st) (h : applyCompactId st = some st') :
    Good st' ∧ Steps Cfg.real bytewise st.σ st'.σ := by
  unfold applyCompactId at h
  split at h
  · rename_i hc
    cases h
    let σ1 : State := { st.σ with comp := some (Conc.minSeq st.σ), floor := Conc.minSeq st.σ }
    have s1 : Step Cfg.real bytewise st.σ .compStart σ1 := ⟨if_pos hc, trivial⟩
    -- committing the unchanged table collection: every entry of it is in it, and every view stays
    have s2 : Step Cfg.real bytewise σ1 (.compCommit σ1.tabs) { st.σ with comp := none, floor := Conc.minSeq st.σ } :=
      ⟨if_pos (List.all_eq_true.2 fun e he => decide_eq_true he), fun m _ k s _ => rfl⟩
    have j1 := Joint.step (l' := st.snl) .compStart hg s1 rfl
    exact ⟨Joint.step (l' := st.snl) (.compCommit σ1.tabs) j1 s2 rfl, Steps.tail _ (Steps.tail _ (Steps.refl _) s1) s2⟩
  · cases h

theorem applyDs_good : ∀ (ds : List DAct) {st st' : ConcState}, Good st → applyDs st ds = some st' →
    Good st' ∧ Steps Cfg.real bytewise st.σ st'.σ := by
  intro ds
  induction ds with
  | nil => intro st st' hg h; cases h; exact ⟨hg, Steps.refl _⟩
  | cons d ds ih =>
    intro st st' hg h
    obtain ⟨st1, h1, h⟩ := Option.bind_eq_some_iff.1 (show (applyD st d).bind (applyDs · ds) = _ from h)
    obtain ⟨g1, g2⟩ : Good st1 ∧ Steps Cfg.real bytewise st.σ st1.σ := by
      cases d with
      | act a => exact applyAct_good hg h1
      | compactId => exact applyCompactId_good hg h1
    exact ⟨(ih g1 h).1, Steps.trans g2 (ih g1 h).2⟩

theorem illegal_ne_ok (m : String) : "illegal " ++ m ≠ "ok" := by
  intro h
  have := congrArg (fun s => s.toList.head?) h
  simp at this

theorem exec_cases (st : ConcState) (p : Plan) :
    (∃ m, exec st p = (st, "illegal " ++ m)) ∨
    ∃ st1, applyDs st p.acts = some st1 ∧ p.post st1 = none ∧
      exec st p = ({ st1 with sids := p.sids st1.sids }, "ok") := by
  unfold exec
  split
  · exact .inl ⟨_, rfl⟩
  · split
    · exact .inl ⟨_, rfl⟩
    · rename_i st1 h1
      split
      · exact .inl ⟨_, rfl⟩
      · rename_i h2
        exact .inr ⟨st1, h1, h2, rfl⟩

theorem handleConc_spec {st st' : ConcState} {args : List String} {out : String} (hg : Good st)
    (h : handleConc st args = some (st', out)) :
    Good st' ∧ (args.head? ≠ some "reset" → Steps Cfg.real bytewise st.σ st'.σ) := by
  unfold handleConc at h
  split at h
  · rename_i pub
    refine ⟨?_, fun hnr => absurd rfl hnr⟩
    obtain ⟨p, _, h⟩ := Option.bind_eq_some_iff.1 h
    split at h
    · cases h; exact good_init
    · split at h
      · rename_i st1 h1
        cases h
        exact (applyAct_good good_init h1).1
      · cases h; exact good_init
  · cases h; exact ⟨hg, fun _ => Steps.refl _⟩
  · obtain ⟨p, _, he⟩ := Option.map_eq_some_iff.1 h
    obtain ⟨m, e⟩ | ⟨st1, h1, _, e⟩ := exec_cases st p
    · cases e.symm.trans he; exact ⟨hg, fun _ => Steps.refl _⟩
    · cases e.symm.trans he
      exact ⟨(applyDs_good _ hg h1).1, fun _ => (applyDs_good _ hg h1).2⟩

theorem handleConc_good {st st' : ConcState} {args : List String} {out : String} (hg : Good st)
    (h : handleConc st args = some (st', out)) : Good st' := (handleConc_spec hg h).1

/-- **An accepted `rget` line.**  The recorded answer agrees (`answerOk`) with a value `v`, the last result of model
reader `rid`; in the state after the line and in every later state `σ''` of the run that reader still has its sequence
number, and `v` is the value of the key in the history as of that number. -/
theorem rget_sound {st st' : ConcState} {rid key ans vid : String} (hg : Good st)
    (h : handleConc st ["rget", rid, key, ans, vid] = some (st', "ok")) {σ'' : State}
    (hs : Steps Cfg.real bytewise st'.σ σ'') :
    ∃ (i : Nat) (k : Bytes) (r : Reader) (s : Nat) (val v : Option Bytes),
      natOf rid = some i ∧ fromHex key = some k ∧ parseVal vid = some val ∧
      σ''.readers[i]? = some r ∧ r.seq? = some s ∧ s ≤ σ''.pub ∧
      answerOk ans val v = true ∧ v = view bytewise σ''.hist k s := by
  -- the plan of an `rget` line, read off by evaluating `plan` (unfolding it with `simp` goes through all its patterns)
  have h : ((natOf rid).bind fun i => (fromHex key).bind fun k => (parseVal vid).bind fun val =>
      some (_ : Plan)).map (exec st) = some (st', "ok") := h
  obtain ⟨p, hp, he⟩ := Option.map_eq_some_iff.1 h
  obtain ⟨i, hi, hp⟩ := Option.bind_eq_some_iff.1 hp
  obtain ⟨k, hk, hp⟩ := Option.bind_eq_some_iff.1 hp
  obtain ⟨val, hv, hp⟩ := Option.bind_eq_some_iff.1 hp
  cases hp
  obtain ⟨m, e⟩ | ⟨st1, h1, h2, e⟩ := exec_cases st _
  · exact absurd (Prod.mk.inj (e.symm.trans he)).2 (illegal_ne_ok m)
  cases (Prod.mk.inj (e.symm.trans he)).1
  obtain ⟨st2, ha, h1⟩ := Option.bind_eq_some_iff.1 (show (applyAct st (.rLookup i k)).bind _ = _ from h1)
  obtain rfl : st2 = st1 := Option.some.inj h1
  obtain ⟨r0, s, mf, ver, q1, q2, q3, q4, q5⟩ := doRLookup_some (applyAct_some ha).2.1
  have hr : st2.σ.readers[i]? =
      some { r0 with results := r0.results ++ [(k, view bytewise (readSrc st.σ mf ver) k s)] } := by
    rw [q5]; exact List.getElem?_set_self (getElem?_lt q1)
  simp only [hr, List.getLast?_concat] at h2
  split at h2
  · rename_i hok
    have hreach := (applyAct_good hg ha).1.reachable
    obtain ⟨s', p1, p2, -, p4⟩ := read_lin hreach i _ hr k
      (view bytewise (readSrc st.σ mf ver) k s) (List.mem_append_right _ List.mem_cons_self)
    have gr := runSum (inv_reachable hreach).basic hs
    obtain ⟨r', f1, f2⟩ := gr.rdKeep i _ hr
    exact ⟨i, k, r', s', val, _, hi, hk, hv, f1, (f2.seqKeep s' p1).1, Nat.le_trans p2 gr.pubLe, hok, p4 _ hs⟩
  · cases h2

/-- the pure part of `gldriver`'s loop on `conc` lines -/
def feed : ConcState → List (List String) → ConcState × List String
  | st, [] => (st, [])
  | st, l :: ls =>
    match handleConc st l with
    | some (st', out) => ((feed st' ls).1, out :: (feed st' ls).2)
    | none => ((feed st ls).1, "bad-op" :: (feed st ls).2)

theorem feed_spec : ∀ (ls : List (List String)) {st : ConcState}, Good st → Good (feed st ls).1 ∧
    ((∀ l ∈ ls, l.head? ≠ some "reset") → Steps Cfg.real bytewise st.σ (feed st ls).1.σ) := by
  intro ls
  induction ls with
  | nil => intro st hg; exact ⟨hg, fun _ => Steps.refl _⟩
  | cons l ls ih =>
    intro st hg
    simp only [feed]
    split
    · rename_i st' out h1
      obtain ⟨g1, g2⟩ := handleConc_spec hg h1
      refine ⟨(ih g1).1, fun hnr => ?_⟩
      exact Steps.trans (g2 (hnr l List.mem_cons_self)) ((ih g1).2 fun x hx => hnr x (List.mem_cons_of_mem _ hx))
    · exact ⟨(ih hg).1, fun hnr => (ih hg).2 fun x hx => hnr x (List.mem_cons_of_mem _ hx)⟩

theorem feed_good : ∀ (ls : List (List String)) {st : ConcState}, Good st → Good (feed st ls).1 :=
  fun ls _ hg => (feed_spec ls hg).1

theorem feed_steps : ∀ (ls : List (List String)) {st : ConcState}, Good st →
    (∀ l ∈ ls, l.head? ≠ some "reset") → Steps Cfg.real bytewise st.σ (feed st ls).1.σ :=
  fun ls _ hg => (feed_spec ls hg).2

/-- (`bad-op` is what `feed` prints for a line on which `handleConc` fails) -/
theorem feed_at : ∀ (pre : List (List String)) {post : List (List String)} {l : List String} {st : ConcState}
    {out : String}, (feed st (pre ++ [l] ++ post)).2[pre.length]? = some out → out ≠ "bad-op" →
    ∃ st2, handleConc (feed st pre).1 l = some (st2, out) ∧ (feed st (pre ++ [l] ++ post)).1 = (feed st2 post).1 := by
  intro pre
  induction pre with
  | nil =>
    intro post l st out h hne
    simp only [List.nil_append, List.singleton_append, feed] at h ⊢
    split at h
    · rename_i st' out' h1
      cases h
      exact ⟨st', h1, rfl⟩
    · cases h; exact absurd rfl hne
  | cons x pre ih =>
    intro post l st out h hne
    simp only [List.cons_append, feed] at h ⊢
    split at h <;> exact ih h hne

end GoLevel.Driver

import GoLevel.Proofs.PickExpand
import GoLevel.Proofs.PickBase
/-!
# Every way the code picks, and what follows for the compaction it builds

`pickInputs` and `rangeInputs` hand `newCompaction` a non-empty sublist of level `src`, so `pickCompaction` /
`getCompactionRange` never hit a Go panic and the input clauses of `CompactionOK` hold (P1): `CompactionOK` is
reduced to its three clauses about the *output*.
-/
namespace GoLevel.Pick


theorem limitPrefix_sublist (limit : Nat) (ts : List Table) (total : Nat) :
    (limitPrefix limit ts total).Sublist ts := by
  induction ts generalizing total with
  | nil => exact List.Sublist.refl _
  | cons t ts ih =>
    rw [limitPrefix]
    split
    · exact List.singleton_sublist.2 (by simp)
    · exact (ih _).cons_cons t

theorem limitPrefix_ne_nil (limit : Nat) (ts : List Table) (total : Nat) (h : ts ≠ []) :
    limitPrefix limit ts total ≠ [] := by
  cases ts with
  | nil => exact absurd rfl h
  | cons t ts =>
    rw [limitPrefix]
    split <;> simp

theorem rangeInputs_ok (c : UCmp) (o : Limits) (v : Version) (src : Nat) (umin umax : Option Bytes)
    (noLimit : Bool) (t0 : List Table) (h : rangeInputs c o v src umin umax noLimit = some t0) :
    t0.Sublist (v.lvl src) ∧ t0 ≠ [] := by
  unfold rangeInputs at h
  rw [lvlOf_eq] at h
  simp only [Option.ite_none_left_eq_some] at h
  obtain ⟨_, hne, h⟩ := h
  have hsl := getOverlapsGo_sublist c (v.lvl src) umin umax (src == 0)
  have hne' : getOverlapsGo c (v.lvl src) umin umax (src == 0) ≠ [] := fun he => hne (List.isEmpty_iff.2 he)
  split at h <;> cases h
  · exact ⟨(limitPrefix_sublist _ _ _).trans hsl, limitPrefix_ne_nil _ _ _ hne'⟩
  · exact ⟨hsl, hne'⟩

theorem afterCompPtr_cases (c : UCmp) (tables : Level) (src : Nat) (cptr : Option IKey) :
    afterCompPtr c tables src cptr = [] ∨ ∃ t ∈ tables, afterCompPtr c tables src cptr = [t] := by
  cases cptr with
  | none => exact .inl rfl
  | some cp =>
    simp only [afterCompPtr]
    by_cases hs : src > 0
    · rw [if_pos hs]
      cases hg : tables[tables.findIdx (fun t => icmp c t.imax cp == .gt)]? with
      | none => exact .inl rfl
      | some t => exact .inr ⟨t, List.mem_of_getElem? hg, rfl⟩
    · rw [if_neg hs]; exact .inl rfl

theorem scoreInputs_ok (c : UCmp) (tables : Level) (src : Nat) (cptr : Option IKey) (t0 : List Table)
    (h : scoreInputs c tables src cptr = some t0) : ∃ t ∈ tables, t0 = [t] := by
  unfold scoreInputs at h
  rcases afterCompPtr_cases c tables src cptr with he | ⟨t, ht, he⟩
  · rw [he] at h
    cases tables with
    | nil => cases h
    | cons t rest =>
      simp only [List.isEmpty_nil, if_true, Option.some.injEq] at h
      exact ⟨t, by simp, h.symm⟩
  · rw [he] at h
    simp only [List.isEmpty_cons, Bool.false_eq_true, if_false, Option.some.injEq] at h
    exact ⟨t, ht, h.symm⟩

/-- no index panic on `tables[0]` for a level that holds a table -/
theorem scoreInputs_isSome (c : UCmp) {tables : Level} (h : tables ≠ []) (src : Nat) (cptr : Option IKey) :
    ∃ t0, scoreInputs c tables src cptr = some t0 := by
  unfold scoreInputs
  split
  · cases tables with
    | nil => exact absurd rfl h
    | cons t _ => exact ⟨_, rfl⟩
  · exact ⟨_, rfl⟩

/-- `pickCompaction` hands `newCompaction` one table of the level.  `v.cSeek` is set by `version.get` /
`sampleSeek` *of the same version* to a table of that version: the premise `hseek`. -/
theorem pickInputs_ok (c : UCmp) (v : Version) (p : PickState)
    (hseek : ∀ lvl t, p.cSeek = some (lvl, t) → t ∈ v.lvl lvl) (src : Nat) (t0 : List Table)
    (h : pickInputs c v p = some (src, t0)) : t0.Sublist (v.lvl src) ∧ t0 ≠ [] ∧ t0.length = 1 := by
  unfold pickInputs at h
  split at h
  · split at h
    next hsc =>
      cases h
      obtain ⟨t, ht, rfl⟩ := scoreInputs_ok c _ _ _ _ hsc
      exact ⟨List.singleton_sublist.2 ht, by simp, rfl⟩
    · cases h
  · split at h
    next hk =>
      cases h
      exact ⟨List.singleton_sublist.2 (hseek _ _ hk), by simp, rfl⟩
    · cases h

/-- the predicate of the `sort.Search` in `pickCompaction` (`icmp.Compare(tables[i].imax, cptr) > 0`) is
monotone along a sorted, disjoint level, so `sort.Search` returns the first index satisfying it -/
theorem pick_search_mono {c : UCmp} (hl : LawfulUCmp c) (tables : Level)
    (hle : ∀ t ∈ tables, c.le t.imin.ukey t.imax.ukey) (hp : tables.Pairwise (tlt c)) (cptr : IKey) :
    tables.Pairwise (fun x y => (icmp c x.imax cptr == .gt) = true → (icmp c y.imax cptr == .gt) = true) := by
  refine (tlt_chain hl hle hp).imp fun {x y} hxy h => ?_
  rw [beq_iff_eq, icmp_gt_iff hl] at h ⊢
  exact icmp_trans hl _ _ _ h ((icmp_order hl _ _).2 (.inl hxy.2))

theorem newCompaction_eq {c : UCmp} {o : Limits} {v : Version} {src : Nat} {t0 : List Table} {cm : Compaction}
    (h : newCompaction c o v src t0 = some cm) :
    expand c (o.expandLimit src) v src t0 = some cm.chosen ∧ cm.v = v ∧ cm.sourceLevel = src ∧
    cm.tPtrs = List.replicate v.levels.length 0 ∧ cm.restore.tPtrs = List.replicate v.levels.length 0 := by
  unfold newCompaction at h
  cases he : expand c (o.expandLimit src) v src t0 with
  | none => rw [he] at h; cases h
  | some e => rw [he] at h; cases h; exact ⟨rfl, rfl, rfl, rfl, rfl⟩

section
variable {c : UCmp} (hl : LawfulUCmp c)
include hl

theorem newCompaction_isSome (o : Limits) (v : Version) (hw : v.WFi c) (src : Nat) (t0 : List Table)
    (hsub : t0.Sublist (v.lvl src)) (hne : t0 ≠ []) : ∃ cm, newCompaction c o v src t0 = some cm := by
  obtain ⟨e, he, _⟩ := expand_spec hl (o.expandLimit src) v hw src t0 hsub hne
  unfold newCompaction
  rw [he]
  exact ⟨_, rfl⟩

theorem getCompactionRange_isSome (o : Limits) (v : Version) (hw : v.WFi c) (src : Nat)
    (umin umax : Option Bytes) (noLimit : Bool) (t0 : List Table)
    (h : rangeInputs c o v src umin umax noLimit = some t0) :
    ∃ cm, getCompactionRange c o v src umin umax noLimit = some cm := by
  obtain ⟨hsub, hne⟩ := rangeInputs_ok c o v src umin umax noLimit t0 h
  unfold getCompactionRange
  rw [h]
  exact newCompaction_isSome hl o v hw src t0 hsub hne

structure InputsClosed (c : UCmp) (v : Version) (ℓ : Nat) (S0 S1 : List Table) (umin umax : Bytes) : Prop where
  src_sub : ∀ t ∈ S0, t ∈ v.lvl ℓ
  dst_sub : ∀ t ∈ S1, t ∈ v.lvl (ℓ + 1)
  range : ∀ t ∈ S0, c.le umin t.imin.ukey ∧ c.le t.imax.ukey umax
  dst_all : ∀ t ∈ v.lvl (ℓ + 1), t.overlapsRange c umin umax = true ↔ t ∈ S1
  src_closed : ℓ = 0 → ∀ x ∈ v.lvl 0, x ∉ S0 → x.overlapsRange c umin umax = false

/-- **(P1) for a compaction built by `newCompaction`** -/
theorem newCompaction_ok (o : Limits) (v : Version) (hw : v.WFi c) (src : Nat) (t0 : List Table)
    (hsub : t0.Sublist (v.lvl src)) (hne : t0 ≠ []) (cm : Compaction)
    (h : newCompaction c o v src t0 = some cm) :
    InputsClosed c v src cm.s0 cm.s1 cm.imin.ukey cm.imax.ukey ∧ ExpandOK c v src t0 cm.chosen := by
  obtain ⟨e, he, hok⟩ := expand_spec hl (o.expandLimit src) v hw src t0 hsub hne
  rw [(newCompaction_eq h).1] at he
  cases he
  have hs := hok.src_ok
  have hd : cm.s1 = (v.lvl (src + 1)).filter (·.overlapsRange c cm.imin.ukey cm.imax.ukey) := hok.dst_eq
  refine ⟨⟨fun t ht => hs.sub.subset ht, ?_, getRange_covers hl _ _ _ hs.rng, ?_, hs.closed⟩, hok⟩
  · intro t ht
    rw [hd] at ht
    exact (List.mem_filter.1 ht).1
  · intro t ht
    rw [hd, List.mem_filter]
    exact ⟨fun hov => ⟨ht, hov⟩, fun hm => hm.2⟩

theorem compactionOK_of_built (o : Limits) (v : Version) (hw : v.WFi c) (src : Nat) (t0 : List Table)
    (hsub : t0.Sublist (v.lvl src)) (hne : t0 ≠ []) (cm : Compaction)
    (h : newCompaction c o v src t0 = some cm) (nts : List Table) (minSeq : Nat)
    (hdistinct : ((cm.s0 ++ cm.s1).flatMap (·.entries)).Pairwise (fun a b => a.key ≠ b.key))
    (hcut : legalCut c (build c minSeq (GoLevel.baseLevelForKey c v src) {} (mergeAll c (cm.s0 ++ cm.s1)))
      (nts.map (·.entries)) = true)
    (hnew : ∀ t ∈ nts, t.wfB c = true) :
    CompactionOK c v src cm.s0 cm.s1 nts minSeq cm.imin.ukey cm.imax.ukey := by
  obtain ⟨hin, _⟩ := newCompaction_ok hl o v hw src t0 hsub hne cm h
  exact ⟨hin.src_sub, hin.dst_sub, hdistinct, hcut, hnew, hin.range, hin.dst_all, hin.src_closed⟩

end

theorem newCompaction_cursorInv (c : UCmp) (o : Limits) (v : Version) (src : Nat) (t0 : List Table)
    (cm : Compaction) (h : newCompaction c o v src t0 = some cm) :
    cm.v = v ∧ cm.sourceLevel = src ∧ ∀ k, CursorInv c v src cm.tPtrs k := by
  obtain ⟨_, hv, hs, hp, _⟩ := newCompaction_eq h
  exact ⟨hv, hs, fun k => hp ▸ cursorInv_init c v src k⟩

end GoLevel.Pick

import GoLevel.Proofs.DurableBytesFile
/-!
Behind `C04.silent_zeros` and `C04.silent_rejected` (when is the junk after the surviving bytes of a crashed log
file `Dur.Silent`?): a cut at a record boundary leaves the encoding of the surviving records; a tail that ends in
the block of the chunk that was cut and fails the reader's header/CRC test (`Dead`, the hypothesis of
`C12.decode_damage_partial`) delivers no record.
-/
namespace GoLevel.Dur
open GoLevel GoLevel.Journal Journal.Sizes

theorem kept_at_boundary (S U : List Bytes) (j : Nat) :
    (encLog S U).kept (Journal.encodeFrom (Journal.endPos 0 S) (U.take j)).length =
      Journal.encode (S ++ U.take j) := by
  simp only [ByteFile.kept, encLog, Journal.encode, Journal.encodeFrom_append]
  congr 1
  conv => lhs; rw [← List.take_append_drop j U, Journal.encodeFrom_append]
  simp

/-- `T`, read at a chunk boundary, is *dead*: it ends in the block of that chunk and is too short for a chunk
    header or fails the reader's test (zero header, invalid type, length beyond what is there, checksum) -/
def Dead (pos : Nat) (y : Option Bytes) (T : Bytes) : Prop :=
  T.length ≤ blockSize - zoneStart pos y ∧
  (T.length < headerSize ∨ ¬ Accepts true (zoneStart pos y) T (zoneStart pos y + T.length))

instance (pos : Nat) (y : Option Bytes) (T : Bytes) : Decidable (Dead pos y T) := by unfold Dead; infer_instance

theorem decodeLoop_dead (pos : Nat) (cur y : Option Bytes) (T : Bytes)
    (hpos : if y.isSome then pos = blockSize else pos + headerSize ≤ blockSize)
    (hd : Dead pos y T) : eventRecords (decodeLoop false true ⟨pos, T⟩ cur).events = [] := by
  have h7 := headerSize_eq
  obtain ⟨hlen, hrej⟩ := hd
  by_cases hshort : T.length < headerSize
  · rw [decodeLoop_few _ _ _ _ hshort]
    cases cur <;> rfl
  · obtain ⟨w, hn⟩ := nextChunk_reject false true cur.isNone pos y T T.length hpos (by omega) (by omega)
      (hrej.resolve_left hshort)
    rw [decodeLoop_corrupt_end hn (by simp; omega)]
    rfl

end GoLevel.Dur

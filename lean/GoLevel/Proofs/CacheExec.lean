import GoLevel.Proofs.CacheBasic
/-! What one instruction of the cache model does (C17): `exec` as a relation, one constructor per path through the
code of an instruction, with the tests that select the path as hypotheses.  The step lemmas of the invariants go
by `cases` on this relation instead of unfolding `exec`. -/
namespace GoLevel.CacheM

def closeInstrs (force : Bool) (ns : List Node) : List Instr :=
  ns.flatMap (fun n =>
      (if force then [Instr.zero n.id] else []) ++ [Instr.levict n.id] ++
      (if force then [Instr.fin n.id true] else []))

theorem forall_mem_closeInstrs {force : Bool} {ns : List Node} {P : Instr → Prop} :
    (∀ j ∈ closeInstrs force ns, P j) ↔
      ∀ n ∈ ns, P (.levict n.id) ∧ (force = true → P (.zero n.id) ∧ P (.fin n.id true)) := by
  cases force <;> simp [closeInstrs, List.mem_flatMap, or_imp, forall_and]
  · exact ⟨fun h n hn => h _ n hn rfl, fun h j n hn e => e ▸ h n hn⟩
  · exact ⟨fun ⟨h1, h2, h3⟩ => ⟨fun n hn => h2 _ n hn rfl, fun n hn => h1 _ n hn rfl, fun n hn => h3 _ n hn rfl⟩,
      fun ⟨h2, h1, h3⟩ => ⟨fun j n hn e => e ▸ h1 n hn, fun j n hn e => e ▸ h2 n hn, fun j n hn e => e ▸ h3 n hn⟩⟩

theorem mem_closeInstrs {force : Bool} {ns : List Node} {j : Instr} (h : j ∈ closeInstrs force ns) :
    (∃ id, j = .zero id) ∨ (∃ id, j = .levict id) ∨ (∃ id, j = .fin id true) := by
  revert j
  rw [forall_mem_closeInstrs]
  exact fun n _ => ⟨.inr (.inl ⟨_, rfl⟩), fun _ => ⟨.inl ⟨_, rfl⟩, .inr (.inr ⟨_, rfl⟩)⟩⟩

inductive Exec (sh : Shared) : Instr → Shared → List Instr → List Ev → Prop
  | getClosed {k sf} : sh.closed = true → Exec sh (.enter (.get k sf)) sh [] [.retNil]
  | getOpen {k sf} : sh.closed = false →
      Exec sh (.enter (.get k sf)) { sh with rlock := sh.rlock + 1 } [.bget k (.get sf), .runlock] []
  | delDropped {k} : sh.closed = true →
      Exec sh (.enter (.delete k true)) { sh with nextDel := sh.nextDel + 1, dropped := sh.nextDel :: sh.dropped }
        [] [.retBool false]
  | delClosed {k} : sh.closed = true → Exec sh (.enter (.delete k false)) sh [] [.retBool false]
  | delFOpen {k} : sh.closed = false →
      Exec sh (.enter (.delete k true)) { sh with nextDel := sh.nextDel + 1, rlock := sh.rlock + 1 }
        [.bget k (.del (some sh.nextDel)), .runlock] []
  | delOpen {k} : sh.closed = false →
      Exec sh (.enter (.delete k false)) { sh with rlock := sh.rlock + 1 } [.bget k (.del none), .runlock] []
  | evictClosed {k} : sh.closed = true → Exec sh (.enter (.evict k)) sh [] [.retBool false]
  | evictOpen {k} : sh.closed = false →
      Exec sh (.enter (.evict k)) { sh with rlock := sh.rlock + 1 } [.bget k .evict, .runlock] []
  | evictNSClosed {ns} : sh.closed = true → Exec sh (.enter (.evictNS ns)) sh [] []
  | evictNSOpen {ns} : sh.closed = false →
      Exec sh (.enter (.evictNS ns)) { sh with rlock := sh.rlock + 1 }
        (((sh.nodes.filter fun n => n.key.1 == ns).map fun n => Instr.levict n.id) ++ [.runlock]) []
  | evictAllClosed : sh.closed = true → Exec sh (.enter .evictAll) sh [] []
  | evictAllOpen : sh.closed = false →
      Exec sh (.enter .evictAll) { sh with rlock := sh.rlock + 1 }
        ((sh.nodes.map fun n => Instr.levict n.id) ++ [.runlock]) []
  | evictIdsClosed {ids} : sh.closed = true → Exec sh (.enter (.evictIds ids)) sh [] []
  | evictIdsOpen {ids} : sh.closed = false →
      Exec sh (.enter (.evictIds ids)) { sh with rlock := sh.rlock + 1 } (ids.map Instr.levict ++ [.runlock]) []
  | bgetClosed {k m} : sh.closed = true → Exec sh (.bget k m) { sh with bug := true } [] []
  | bgetHit {k sf n} : sh.closed = false → findKey sh.nodes k = some n →
      Exec sh (.bget k (.get sf)) { sh with nodes := upd sh.nodes n.id fun n => { n with ref := n.ref + 1 } }
        [.setv n.id sf] []
  | bgetDelF {k d n} : sh.closed = false → findKey sh.nodes k = some n →
      Exec sh (.bget k (.del (some d))) { sh with nodes := upd sh.nodes n.id fun n => { n with ref := n.ref + 1 } }
        [.addDel n.id d, .ban n.id, .unrefInt n.id, .retBool true] []
  | bgetDel {k n} : sh.closed = false → findKey sh.nodes k = some n →
      Exec sh (.bget k (.del none)) { sh with nodes := upd sh.nodes n.id fun n => { n with ref := n.ref + 1 } }
        [.ban n.id, .unrefInt n.id, .retBool true] []
  | bgetEvict {k n} : sh.closed = false → findKey sh.nodes k = some n →
      Exec sh (.bget k .evict) { sh with nodes := upd sh.nodes n.id fun n => { n with ref := n.ref + 1 } }
        [.levict n.id, .unrefInt n.id, .retBool true] []
  | bgetMiss {k} : sh.closed = false → findKey sh.nodes k = none → Exec sh (.bget k (.get .none)) sh [.retNil] []
  | bgetNew {k sf} : sh.closed = false → findKey sh.nodes k = none → sf ≠ .none →
      Exec sh (.bget k (.get sf))
        { sh with nodes := { id := sh.nextId, key := k, ref := 1, value := none, size := 0, delFuncs := [], lru := .none } ::
            sh.nodes, nextId := sh.nextId + 1, statNodes := sh.statNodes + 1 }
        [.setv sh.nextId sf] []
  | bgetDelFMiss {k d} : sh.closed = false → findKey sh.nodes k = none →
      Exec sh (.bget k (.del (some d))) sh [.runDel d, .retBool false] []
  | bgetDelMiss {k} : sh.closed = false → findKey sh.nodes k = none →
      Exec sh (.bget k (.del none)) sh [.retBool false] []
  | bgetEvictMiss {k} : sh.closed = false → findKey sh.nodes k = none →
      Exec sh (.bget k .evict) sh [.retBool false] []
  | setvGone {id sf} : findId sh.nodes id = none → Exec sh (.setv id sf) { sh with bug := true } [] []
  | setvHas {id sf n v} : findId sh.nodes id = some n → n.value = some v → Exec sh (.setv id sf) sh [.promote id] []
  | setvNone {id n} : findId sh.nodes id = some n → n.value = none →
      Exec sh (.setv id .none) sh [.unrefInt id, .retNil] []
  | setvNil {id n sz} : findId sh.nodes id = some n → n.value = none →
      Exec sh (.setv id (.nilv sz)) { sh with nodes := upd sh.nodes id fun n => { n with size := 0 } }
        [.unrefInt id, .retNil] [.ctorNil id]
  | setvVal {id n sz} : findId sh.nodes id = some n → n.value = none →
      Exec sh (.setv id (.val sz))
        { sh with nodes := upd sh.nodes id fun n => { n with size := sz, value := some sh.nextVal },
                  nextVal := sh.nextVal + 1, statSize := sh.statSize + sz }
        [.promote id] [.ctor id sh.nextVal]
  | promoteGone {id} : findId sh.nodes id = none → Exec sh (.promote id) { sh with bug := true } [] []
  | promoteAdmit {id n r} : findId sh.nodes id = some n → n.lru = .none → n.size ≤ sh.lru.capacity →
      evictTail (upd sh.nodes id fun n => { n with ref := n.ref + 1, lru := .inList }) sh.lru.capacity
        (id :: sh.lru.recent).reverse (sh.lru.used + n.size) = r →
      Exec sh (.promote id)
        { sh with
            nodes := clearLru (upd sh.nodes id fun n => { n with ref := n.ref + 1, lru := .inList }) r.2.2.1,
            lru := { sh.lru with used := r.2.1, recent := r.1.reverse },
            bug := sh.bug || decide (n.ref + 1 ≤ 1) || r.2.2.2 }
        (r.2.2.1.map Instr.unrefExt ++ [.retHandle id]) []
  | promoteBig {id n} : findId sh.nodes id = some n → n.lru = .none → ¬ n.size ≤ sh.lru.capacity →
      Exec sh (.promote id) sh [.retHandle id] []
  | promoteListed {id n} : findId sh.nodes id = some n → n.lru = .inList →
      Exec sh (.promote id) { sh with lru := { sh.lru with recent := id :: sh.lru.recent.erase id } }
        [.retHandle id] []
  | promoteBanned {id n} : findId sh.nodes id = some n → n.lru = .banned →
      Exec sh (.promote id) sh [.retHandle id] []
  | retHandle {id} :
      Exec sh (.retHandle id) { sh with handles := id :: sh.handles } []
        [.handle id ((findId sh.nodes id).bind (·.value))]
  | addDel {id d} :
      Exec sh (.addDel id d)
        { sh with nodes := upd sh.nodes id fun n => { n with delFuncs := n.delFuncs ++ [d] } } [] []
  | banGone {id} : findId sh.nodes id = none → Exec sh (.ban id) { sh with bug := true } [] []
  | banFree {id n} : findId sh.nodes id = some n → n.lru = .none →
      Exec sh (.ban id) { sh with nodes := upd sh.nodes id fun n => { n with lru := .banned } } [] []
  | banListed {id n} : findId sh.nodes id = some n → n.lru = .inList →
      Exec sh (.ban id)
        { sh with nodes := upd sh.nodes id fun n => { n with lru := .banned },
                  lru := { sh.lru with recent := sh.lru.recent.erase id, used := sh.lru.used - n.size } }
        [.unrefExt id] []
  | banBanned {id n} : findId sh.nodes id = some n → n.lru = .banned → Exec sh (.ban id) sh [] []
  | levictGone {id} : findId sh.nodes id = none → Exec sh (.levict id) sh [] []
  | levictListed {id n} : findId sh.nodes id = some n → n.lru = .inList →
      Exec sh (.levict id)
        { sh with nodes := upd sh.nodes id fun n => { n with lru := .none },
                  lru := { sh.lru with recent := sh.lru.recent.erase id, used := sh.lru.used - n.size } }
        [.unrefExt id] []
  | levictOff {id n} : findId sh.nodes id = some n → n.lru ≠ .inList → Exec sh (.levict id) sh [] []
  | unrefIntGone {id} : findId sh.nodes id = none → Exec sh (.unrefInt id) { sh with bug := true } [] []
  | unrefIntZero {id n} : findId sh.nodes id = some n → n.ref - 1 = 0 →
      Exec sh (.unrefInt id) { sh with nodes := upd sh.nodes id fun n => { n with ref := n.ref - 1 } }
        [.delz n.key] []
  | unrefIntPos {id n} : findId sh.nodes id = some n → n.ref - 1 ≠ 0 →
      Exec sh (.unrefInt id) { sh with nodes := upd sh.nodes id fun n => { n with ref := n.ref - 1 } } [] []
  | unrefExtGone {id} : findId sh.nodes id = none → Exec sh (.unrefExt id) { sh with bug := true } [] []
  | unrefExtZero {id n} : findId sh.nodes id = some n → n.ref - 1 = 0 →
      Exec sh (.unrefExt id) { sh with nodes := upd sh.nodes id fun n => { n with ref := n.ref - 1 } }
        [.extz id n.key] []
  | unrefExtPos {id n} : findId sh.nodes id = some n → n.ref - 1 ≠ 0 →
      Exec sh (.unrefExt id) { sh with nodes := upd sh.nodes id fun n => { n with ref := n.ref - 1 } } [] []
  | extzRevived {id key} : sh.closed = true → (sh.recheck && refNonZero sh.nodes id) = true →
      Exec sh (.extz id key) { sh with rlock := sh.rlock + 1 } [.runlock] []
  | extzFin {id key} : sh.closed = true → (sh.recheck && refNonZero sh.nodes id) = false →
      Exec sh (.extz id key) { sh with rlock := sh.rlock + 1 } [.fin id false, .runlock] []
  | extzOpen {id key} : sh.closed = false →
      Exec sh (.extz id key) { sh with rlock := sh.rlock + 1 } [.delz key, .runlock] []
  | delzClosed {k} : sh.closed = true → Exec sh (.delz k) { sh with bug := true } [] []
  | delzMiss {k} : sh.closed = false → findKey sh.nodes k = none → Exec sh (.delz k) sh [] []
  | delzRemove {k n} : sh.closed = false → findKey sh.nodes k = some n → n.ref = 0 →
      Exec sh (.delz k)
        { sh with nodes := eraseId sh.nodes n.id, statSize := sh.statSize - n.size, statNodes := sh.statNodes - 1,
                  dead := { n with value := none, delFuncs := if sh.clearDel then [] else n.delFuncs } :: sh.dead }
        [] (finEvents n false)
  | delzBusy {k n} : sh.closed = false → findKey sh.nodes k = some n → n.ref ≠ 0 → Exec sh (.delz k) sh [] []
  | finLost {id f} : findId sh.nodes id = none → findId sh.dead id = none →
      Exec sh (.fin id f) { sh with bug := true } [] []
  | finStale {id f n} : findId sh.nodes id = none → findId sh.dead id = some n →
      Exec sh (.fin id f)
        { sh with bug := true, stale := sh.stale || !n.delFuncs.isEmpty,
                  dead := upd sh.dead id fun n => { n with delFuncs := [] } }
        [] (n.delFuncs.map fun d => Ev.delf d (some n.id) f)
  | fin {id f n} : findId sh.nodes id = some n →
      Exec sh (.fin id f) { sh with nodes := upd sh.nodes id fun n => { n with value := none, delFuncs := [] } } []
        (finEvents n f)
  | zero {id} : Exec sh (.zero id) { sh with nodes := upd sh.nodes id fun n => { n with ref := 0 } } [] []
  | runDel {d} : Exec sh (.runDel d) sh [] [.delf d none false]
  | runlock : Exec sh .runlock { sh with rlock := sh.rlock - 1 } [] []
  | setcap {c r} : evictTail sh.nodes c sh.lru.recent.reverse sh.lru.used = r →
      Exec sh (.setcap c)
        { sh with nodes := clearLru sh.nodes r.2.2.1, lru := { capacity := c, used := r.2.1, recent := r.1.reverse },
                  bug := sh.bug || r.2.2.2 }
        (r.2.2.1.map Instr.unrefExt) []
  | closeAgain {f} : sh.rlock = 0 → sh.closed = true → Exec sh (.closeLock f) sh [] []
  | close {f} : sh.rlock = 0 → sh.closed = false →
      Exec sh (.closeLock f) { sh with closed := true, forced := f } (closeInstrs f sh.nodes) []
  | relH {id} : id ∈ sh.handles →
      Exec sh (.relH id) { sh with handles := sh.handles.erase id } [.unrefExt id] []
  | relHNone {id} : id ∉ sh.handles → Exec sh (.relH id) sh [] []
  | retBool {b} : Exec sh (.retBool b) sh [] [.retBool b]
  | retNil : Exec sh .retNil sh [] [.retNil]

theorem exec_spec {sh sh' : Shared} {i : Instr} {push : List Instr} {evs : List Ev}
    (he : exec sh i = some (sh', push, evs)) : Exec sh i sh' push evs := by
  cases i
  case enter c =>
    cases c
    case delete k w =>
      cases w <;> simp only [exec, execEnter, Bool.false_eq_true, if_false, if_true] at he <;> split at he <;>
        simp only [Option.some.injEq, Prod.mk.injEq, Bool.not_eq_true] at * <;> obtain ⟨rfl, rfl, rfl⟩ := he <;>
        constructor <;> assumption
    all_goals (simp only [exec, execEnter, reduceCtorEq] at he; try split at he)
    all_goals (simp only [Option.some.injEq, Prod.mk.injEq, Bool.not_eq_true] at *)
    all_goals (obtain ⟨rfl, rfl, rfl⟩ := he; constructor; assumption)
  case delz k =>
    simp only [exec, execDelz] at he
    by_cases hc : sh.closed = true
    · rw [if_pos hc] at he; obtain ⟨rfl, rfl, rfl⟩ := he; exact .delzClosed hc
    · rw [if_neg hc] at he
      have hc : sh.closed = false := by simpa using hc
      split at he
      · obtain ⟨rfl, rfl, rfl⟩ := he; exact .delzMiss hc ‹_›
      · split at he <;> obtain ⟨rfl, rfl, rfl⟩ := he
        · exact .delzRemove hc ‹_› ‹_›
        · exact .delzBusy hc ‹_› ‹_›
  case closeLock f =>
    simp only [exec, execCloseLock] at he
    by_cases hr : sh.rlock = 0
    · rw [if_neg (fun h => h hr)] at he
      split at he <;> obtain ⟨rfl, rfl, rfl⟩ := he
      · exact .closeAgain hr ‹_›
      · exact .close hr (by simpa using ‹¬ sh.closed = true›)
    · simp [hr] at he
  all_goals (simp only [exec, execBget, execSetv, execPromote, execBan, execLevict, execSetcap,
        execUnref, execFin, execFinStale] at he)
  all_goals (repeat' (split at he))
  all_goals (try (simp only [Option.some.injEq, Prod.mk.injEq] at he))
  all_goals (try (obtain ⟨h1, h2, h3⟩ := he; subst h1; subst h2; subst h3))
  all_goals (try simp only [List.nil_append, List.cons_append, Bool.not_eq_true] at *)
  -- `constructor` takes the first constructor whose conclusion fits: for these two paths an earlier one
  -- (`promoteBig`, `levictGone`) has the same conclusion and other hypotheses, so they are named
  all_goals first
    | contradiction
    | exact .promoteBanned ‹_› ‹_›
    | exact .levictOff ‹_› ‹_›
    | (constructor <;> first | assumption | rfl | (simp; done))

end GoLevel.CacheM

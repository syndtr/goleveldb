import GoLevel.Proofs.MemArrConc
import GoLevel.Proofs.MemDBConc
/-! The moves of the observed iterator in the interleaving model over the arrays, the interleaving invariant along an
execution, and what the observed iterator yields (C14, `concurrent_readers`). -/
namespace GoLevel.MemArr
open GoLevel.Gen (nKV nKey nVal nHeight nNext tMaxHeight)
open GoLevel.MemDB (Node LawfulCmp Sorted pred below ins Op Ans inR ps pl outOf)

variable {cmp : Cmp} {a : DB} {d : MemDB.DB} {ix : Bytes → Nat} {D : List Dead} {puts : List (Bytes × Bytes)}
  {st lm : Option Bytes}

theorem inR_of_checked {k : Bytes} {cs cl : Bool} (ho : outOf cmp st lm k cs cl = false)
    (h1 : cs = false → ps cmp st k = false) (h2 : cl = false → pl cmp lm k = true) : inR cmp st lm k = true := by
  rw [MemDB.outOf_eq] at ho
  cases cs <;> cases cl <;> simp_all [inR]

theorem ItOK.fillZero (ai : Iter) (hs : ai.start = st) (hl : ai.limit = lm)
    (cs cl : Bool) (h0 : ai.node = 0) :
    ∃ ai', Iter.fill cmp a ai cs cl = some (ai', false) ∧ ItOK cmp a d ix D puts st lm ai' ∧ ai'.node = 0 ∧
      ai'.gen = a.gen :=
  ⟨_, arr_fill_zero h0 cs cl, ⟨hs, hl, Nat.le_refl _, fun _ hne => absurd h0 hne⟩, h0, rfl⟩

theorem World.fillNode (w : World cmp a d ix D puts) (ai : Iter) (hs : ai.start = st) (hl : ai.limit = lm)
    (cs cl : Bool) {k : Bytes} (hal : Alloc d ix D ai.node k) (h1 : cs = false → ps cmp st k = false)
    (h2 : cl = false → pl cmp lm k = true) :
    ∃ ai' b, Iter.fill cmp a ai cs cl = some (ai', b) ∧ ItOK cmp a d ix D puts st lm ai' ∧ ai'.gen = a.gen ∧
      (ai'.node ≠ 0 → ai'.key = some k) := by
  have nk := w.nodeOK hal
  obtain ⟨o, v, f0, f1, f2, f3, f4, f5⟩ := nk.fields
  rw [arr_fill_node (cmp := cmp) hs hl rfl nk.ne f0 f1 f2 f3 f4 cs cl]
  by_cases hout : outOf cmp st lm k cs cl = true
  · simp only [hout, if_true]
    exact ⟨_, _, rfl, ⟨hs, hl, Nat.le_refl _, fun _ hne => absurd rfl hne⟩, rfl, fun hne => absurd rfl hne⟩
  · have hout' : outOf cmp st lm k cs cl = false := by simpa using hout
    simp only [hout', Bool.false_eq_true, if_false]
    exact ⟨_, _, rfl, ⟨hs, hl, Nat.le_refl _, fun _ _ => ⟨k, v, hal, rfl, rfl, f5, inR_of_checked hout' h1 h2⟩⟩,
      rfl, fun _ => rfl⟩

/-- `fill` on the node a move arrives at: nothing, or an allocated node whose key has `P` and lies inside the bound
that `fill` is told not to check -/
theorem World.fillTo (w : World cmp a d ix D puts) {it : Iter} (io : ItOK cmp a d ix D puts st lm it)
    (fw cs cl : Bool) {tgt : Nat} {P : Bytes → Prop} (ht : tgt = 0 ∨ ∃ k, Alloc d ix D tgt k ∧ P k)
    (hb : ∀ k, P k → (cs = false → ps cmp st k = false) ∧ (cl = false → pl cmp lm k = true)) :
    ∃ it' b, Iter.fill cmp a { it with forward := fw, node := tgt } cs cl = some (it', b) ∧
      ItOK cmp a d ix D puts st lm it' ∧ it'.gen = a.gen ∧ ∀ k, it'.node ≠ 0 → it'.key = some k → P k := by
  rcases ht with rfl | ⟨k, hal, hP⟩
  · obtain ⟨ai', e, ok, h0, hg⟩ := ItOK.fillZero { it with forward := fw, node := 0 } io.start io.limit cs cl rfl
    exact ⟨ai', false, e, ok, hg, fun _ hne => absurd h0 hne⟩
  · obtain ⟨ai', b, e, ok, hg, hk'⟩ := w.fillNode { it with forward := fw, node := tgt } io.start io.limit cs cl hal
      (hb k hP).1 (hb k hP).2
    exact ⟨ai', b, e, ok, hg, fun k' hne hk => by rw [hk' hne] at hk; cases hk; exact hP⟩

section
variable (hc : LawfulCmp cmp) (w : World cmp a d ix D puts) {it : Iter} (io : ItOK cmp a d ix D puts st lm it)
include hc w io

/-- `First`, `Last` and `Seek` do not look at the iterator's position: over the arrays they are the moves of an ideal
iterator with the same bounds (`abs_step_sim`), and an ideal move ends inside the slice (`MemDB.move_cinv`) -/
theorem World.fresh_move_ok {c : Call Bytes} (hcall : c = .first ∨ c = .last ∨ ∃ k, c = .seek k) :
    ∃ it' b, Iter.step cmp a c it = some (it', b) ∧ ItOK cmp a d ix D puts st lm it' ∧ it'.gen = a.gen := by
  let iti : MemDB.Iter := { start := st, limit := lm }
  obtain ⟨ai', e, h, hg⟩ := abs_step_sim hc w.rep hcall (it := iti) io.start io.limit
  have hm := MemDB.move_cinv hc (s := ⟨d, iti⟩) ⟨w.rep.inv, rfl, rfl, fun k hk => absurd hk (by simp [iti])⟩ c
  refine ⟨ai', _, e, ⟨h.start.trans hm.start, h.limit.trans hm.limit, Nat.le_of_eq hg, fun _ hne => ?_⟩, hg⟩
  cases hn : (MemDB.Iter.step cmp d c iti).node with
  | none => exact absurd ((h.node_zero w.rep).2 hn) hne
  | some k =>
    obtain ⟨hk, hkey, hval⟩ := h.mem k hn
    exact ⟨k, d.value k, .inl ⟨hk, by rw [h.node, hn]; rfl⟩, hkey, hval, w.allPut k hk,
      (MemDB.mem_sliceKeys.1 (hm.node k hn)).2⟩

theorem World.next_ok :
    ∃ it' b, it.next cmp a = some (it', b) ∧ ItOK cmp a d ix D puts st lm it' ∧ (it'.node ≠ 0 → it'.gen = a.gen ∧
      (it.node ≠ 0 → it.gen = a.gen ∧ ∀ k1 k2, it.key = some k1 → it'.key = some k2 → cmp k1 k2 = .lt)) := by
  by_cases h0 : it.node = 0
  · rw [arr_next_zero h0]
    cases it.forward with
    | true => exact ⟨it, false, rfl, io, fun hne => absurd h0 hne⟩
    | false =>
      obtain ⟨it', b, e, ok, hg⟩ := w.fresh_move_ok hc io (.inl rfl)
      exact ⟨it', b, e, ok, fun _ => ⟨hg, fun hne => absurd h0 hne⟩⟩
  · rw [arr_next_pos h0]
    by_cases hgen : it.gen = a.gen
    · obtain ⟨k1, v1, hal, hkey, hval, hput, hin⟩ := io.cur hgen h0
      obtain ⟨nx, hnx, htgt⟩ := w.next hal
      rw [if_pos hgen, hnx, Option.bind_some]
      obtain ⟨it', b, e, ok, hg, hP⟩ := w.fillTo io true false true htgt fun k' hlt =>
        ⟨fun _ => Bool.eq_false_iff.2 fun h => by simp [inR, MemDB.ps_down hc st hlt h] at hin,
          fun h => absurd h (by simp)⟩
      exact ⟨it', b, e, ok, fun hne => ⟨hg, fun _ => ⟨hgen, fun _ k2 hk1 hk2 => by
        rw [hkey] at hk1; cases hk1; exact hP k2 hne hk2⟩⟩⟩
    · rw [if_neg hgen, Option.bind_some]
      obtain ⟨ai', e, ok, hz, hg⟩ := ItOK.fillZero { it with forward := true, node := 0 } io.start io.limit false true rfl
      exact ⟨ai', false, e, ok, fun hne => absurd hz hne⟩

theorem World.prev_ok :
    ∃ it' b, it.prev cmp a = some (it', b) ∧ ItOK cmp a d ix D puts st lm it' ∧ (it'.node ≠ 0 → it'.gen = a.gen ∧
      (it.node ≠ 0 → it.gen = a.gen ∧ ∀ k1 k2, it.key = some k1 → it'.key = some k2 → cmp k2 k1 = .lt)) := by
  by_cases h0 : it.node = 0
  · rw [arr_prev_zero h0]
    cases it.forward with
    | true =>
      obtain ⟨it', b, e, ok, hg⟩ := w.fresh_move_ok hc io (.inr (.inl rfl))
      exact ⟨it', b, e, ok, fun _ => ⟨hg, fun hne => absurd h0 hne⟩⟩
    | false => exact ⟨it, false, rfl, io, fun hne => absurd h0 hne⟩
  · rw [arr_prev_pos h0]
    by_cases hgen : it.gen = a.gen
    · obtain ⟨k1, v1, hal, hkey, hval, hput, hin⟩ := io.cur hgen h0
      obtain ⟨pv, hpv, htgt⟩ := w.pred hc k1
      rw [if_pos hgen, hkey, Option.getD_some, hpv, Option.bind_some]
      obtain ⟨it', b, e, ok, hg, hP⟩ := w.fillTo io false true false htgt fun k' hlt =>
        ⟨fun h => absurd h (by simp), fun _ => MemDB.pl_down hc lm hlt (Bool.and_eq_true_iff.1 hin).2⟩
      exact ⟨it', b, e, ok, fun hne => ⟨hg, fun _ => ⟨hgen, fun _ k2 hk1 hk2 => by
        cases hk1; exact hP k2 hne hk2⟩⟩⟩
    · rw [if_neg hgen, Option.bind_some]
      obtain ⟨ai', e, ok, hz, hg⟩ := ItOK.fillZero { it with forward := false, node := 0 } io.start io.limit true false rfl
      exact ⟨ai', false, e, ok, fun hne => absurd hz hne⟩

theorem World.move_ok (c : Call Bytes) :
    ∃ it' b, Iter.step cmp a c it = some (it', b) ∧ ItOK cmp a d ix D puts st lm it' ∧
      (it'.node ≠ 0 → it'.gen = a.gen) := by
  cases c with
  | next => obtain ⟨it', b, e, ok, hq⟩ := w.next_ok hc io; exact ⟨it', b, e, ok, fun h => (hq h).1⟩
  | prev => obtain ⟨it', b, e, ok, hq⟩ := w.prev_ok hc io; exact ⟨it', b, e, ok, fun h => (hq h).1⟩
  | _ => exact (w.fresh_move_ok hc io (by simp)).imp fun _ h => h.imp fun _ h => ⟨h.1, h.2.1, fun _ => h.2.2⟩

end

section

/-- the invariant of the interleaving model: the arrays are a world (live structure + intact dead nodes + every live
pair put since the last `Reset`) and the iterator is consistent with it -/
def CInvA (cmp : Cmp) (st lm : Option Bytes) (s : CState) (puts : List (Bytes × Bytes)) : Prop :=
  ∃ d ix D, World cmp s.db d ix D puts ∧ ItOK cmp s.db d ix D puts st lm s.it

theorem cinvA_init (cmp : Cmp) (st lm : Option Bytes) :
    CInvA cmp st lm ⟨DB.new, { start := st, limit := lm }⟩ [] :=
  ⟨MemDB.DB.empty, fun _ => 0, [], World.new _, ⟨rfl, rfl, Nat.le_refl _, fun _ h => absurd rfl h⟩⟩

theorem ItOK.out_some {a : DB} {d : MemDB.DB} {ix : Bytes → Nat} {D : List Dead} {puts : List (Bytes × Bytes)}
    {it : Iter} (ok : ItOK cmp a d ix D puts st lm it) (hg : it.node ≠ 0 → it.gen = a.gen) {k v : Bytes}
    (h : it.out = some (k, v)) :
    it.node ≠ 0 ∧ it.gen = a.gen ∧ it.key = some k ∧ (k, v) ∈ puts ∧ inR cmp st lm k = true := by
  unfold Iter.out at h
  by_cases h0 : it.node = 0
  · simp [h0] at h
  · simp only [h0, if_false, Option.some.injEq, Prod.mk.injEq] at h
    obtain ⟨k', v', _, hk, hv, hp, hin⟩ := ok.cur (hg h0) h0
    rw [hk, hv] at h
    simp only [Option.getD_some] at h
    obtain ⟨rfl, rfl⟩ := h
    exact ⟨h0, hg h0, hk, hp, hin⟩

theorem ItOK.out_none {it : Iter} (h0 : it.node = 0) : it.out = none := by
  unfold Iter.out; simp [h0]

theorem mem_putsStep {puts : List (Bytes × Bytes)} {e : Ev} (hr : e.isReset = false) {p : Bytes × Bytes}
    (hp : p ∈ puts) : p ∈ putsStep puts e := by
  cases e with
  | move c => exact hp
  | op o =>
    cases o with
    | put k v h => exact List.mem_cons_of_mem _ hp
    | reset => cases hr
    | _ => exact hp

section
variable (hc : LawfulCmp cmp)
include hc

theorem cstep_ok {s : CState} {puts : List (Bytes × Bytes)} (h : CInvA cmp st lm s puts) (e : Ev) (hv : e.valid) :
    ∃ s', cstep cmp s e = some s' ∧ CInvA cmp st lm s' (putsStep puts e) ∧
      (e.isMove = false → s'.it = s.it ∧ s'.db.gen = s.db.gen + if e.isReset then 1 else 0) := by
  obtain ⟨d, ix, D, w, io⟩ := h
  cases e with
  | op o =>
    obtain ⟨a', d', ix', D', ans, e, w', hg, hkeep⟩ := w.op hc o hv
    refine ⟨{ s with db := a' }, by simp [cstep, e], ⟨d', ix', D', w', ?_⟩, fun _ => ⟨rfl, hg⟩⟩
    have hle : s.it.gen ≤ a'.gen := Nat.le_trans io.genle (hg ▸ Nat.le_add_right _ _)
    refine ⟨io.start, io.limit, hle, fun (he : s.it.gen = a'.gen) hne => ?_⟩
    -- an iterator of the current generation after the step: the step was no `Reset`
    cases hr : Ev.isReset (.op o) with
    | true => rw [hr] at hg; have := io.genle; simp at hg; omega
    | false =>
      rw [hr] at hg
      obtain ⟨k, v, h1, h2, h3, h4, h5⟩ := io.cur (he.trans (by simpa using hg)) hne
      exact ⟨k, v, hkeep hr _ _ h1, h2, h3, mem_putsStep hr h4, h5⟩
  | move c =>
    obtain ⟨it', b, e, ok, _⟩ := w.move_ok hc io c
    exact ⟨{ s with it := it' }, by simp [cstep, e], ⟨d, ix, D, w, ok⟩, fun h => by simp [Ev.isMove] at h⟩

theorem cexec_ok : ∀ (evs : List Ev) {s : CState} {puts : List (Bytes × Bytes)}, CInvA cmp st lm s puts →
    (∀ e ∈ evs, e.valid) → ∃ s', cexec cmp s evs = some s' ∧ CInvA cmp st lm s' (evs.foldl putsStep puts) ∧
      ((∀ e ∈ evs, e.isMove = false) → s'.it = s.it ∧ s'.db.gen = s.db.gen + evs.countP Ev.isReset) := by
  intro evs
  induction evs with
  | nil => intro s puts h _; exact ⟨s, rfl, h, fun _ => ⟨rfl, rfl⟩⟩
  | cons e es ih =>
    intro s puts h hv
    obtain ⟨s1, e1, h1, hm⟩ := cstep_ok hc h e (hv e (by simp))
    obtain ⟨s2, e2, h2, hm2⟩ := ih h1 (fun x hx => hv x (by simp [hx]))
    refine ⟨s2, by simp only [cexec, e1, Option.bind_some, e2], by simpa using h2, fun hn => ?_⟩
    obtain ⟨hit, hgen⟩ := hm (hn e (by simp))
    obtain ⟨hit2, hgen2⟩ := hm2 (fun x hx => hn x (by simp [hx]))
    exact ⟨hit2.trans hit, by rw [hgen2, hgen, List.countP_cons]; omega⟩

theorem cyield_ok {s : CState} {puts : List (Bytes × Bytes)} (h : CInvA cmp st lm s puts) (c : Call Bytes) :
    ∃ r, cyield cmp s c = some r ∧ ∀ k v, r = some (k, v) → (k, v) ∈ puts ∧ inR cmp st lm k = true := by
  obtain ⟨d, ix, D, w, io⟩ := h
  obtain ⟨it', b, e, ok, hg⟩ := w.move_ok hc io c
  refine ⟨it'.out, by simp [cyield, e], ?_⟩
  intro k v hkv
  obtain ⟨_, _, _, hp, hin⟩ := ok.out_some hg hkv
  exact ⟨hp, hin⟩

theorem corder_ok {s : CState} {puts : List (Bytes × Bytes)} (h : CInvA cmp st lm s puts) (c1 : Call Bytes)
    {k1 v1 : Bytes} (hy : cyield cmp s c1 = some (some (k1, v1))) (ws : List Ev)
    (hws : ∀ e ∈ ws, e.valid ∧ e.isMove = false) :
    ∃ s1 s2, cstep cmp s (.move c1) = some s1 ∧ cexec cmp s1 ws = some s2 ∧
      (if ws.any Ev.isReset then
        cyield cmp s2 .next = some none ∧ cyield cmp s2 .prev = some none
      else
        (∀ k2 v2, cyield cmp s2 .next = some (some (k2, v2)) → cmp k1 k2 = .lt) ∧
        (∀ k2 v2, cyield cmp s2 .prev = some (some (k2, v2)) → cmp k2 k1 = .lt)) := by
  obtain ⟨d, ix, D, w, io⟩ := h
  obtain ⟨it1, b, e, ok, hg⟩ := w.move_ok hc io c1
  have hout : it1.out = some (k1, v1) := by
    simp only [cyield, e, Option.map_some, Option.some.injEq] at hy
    exact hy
  obtain ⟨hne1, hgen1, hkey1, _, _⟩ := ok.out_some hg hout
  have h1 : CInvA cmp st lm { s with it := it1 } puts := ⟨d, ix, D, w, ok⟩
  obtain ⟨s2, e2, h2, hm⟩ := cexec_ok hc ws h1 (fun e he => (hws e he).1)
  obtain ⟨db2, it2⟩ := s2
  obtain ⟨hit, hgen⟩ : it2 = it1 ∧ db2.gen = s.db.gen + ws.countP Ev.isReset := hm (fun e he => (hws e he).2)
  obtain rfl : it1 = it2 := hit.symm
  refine ⟨{ s with it := it1 }, ⟨db2, it1⟩, by simp [cstep, e], e2, ?_⟩
  obtain ⟨d2, ix2, D2, w2, io2⟩ := h2
  obtain ⟨itn, bn, en, okn, hqn⟩ := w2.next_ok hc io2
  obtain ⟨itp, bp, ep, okp, hqp⟩ := w2.prev_ok hc io2
  have eyn : cyield cmp ⟨db2, it1⟩ .next = some itn.out := by simp [cyield, Iter.step, en]
  have eyp : cyield cmp ⟨db2, it1⟩ .prev = some itp.out := by simp [cyield, Iter.step, ep]
  by_cases hr : ws.any Ev.isReset = true
  · simp only [hr, if_true]
    -- the iterator is of an older generation: neither move can end on a node
    have hgne : it1.gen ≠ db2.gen := by
      have := List.countP_pos_iff.2 (List.any_eq_true.1 hr)
      omega
    rw [eyn, eyp, ItOK.out_none (Decidable.byContradiction fun h => hgne ((hqn h).2 hne1).1),
      ItOK.out_none (Decidable.byContradiction fun h => hgne ((hqp h).2 hne1).1)]
    exact ⟨rfl, rfl⟩
  · simp only [hr, Bool.false_eq_true, if_false]
    refine ⟨?_, ?_⟩
    · intro k2 v2 hy2
      rw [eyn] at hy2
      obtain ⟨hne2, _, hkey2, _, _⟩ := okn.out_some (fun h => (hqn h).1) (Option.some.inj hy2)
      exact ((hqn hne2).2 hne1).2 k1 k2 hkey1 hkey2
    · intro k2 v2 hy2
      rw [eyp] at hy2
      obtain ⟨hne2, _, hkey2, _, _⟩ := okp.out_some (fun h => (hqp h).1) (Option.some.inj hy2)
      exact ((hqp hne2).2 hne1).2 k1 k2 hkey1 hkey2

end

theorem putsStep_sub {acc : List (Bytes × Bytes)} {e : Ev} {p : Bytes × Bytes} (h : p ∈ putsStep acc e) :
    p ∈ acc ∨ ∃ ht, e = .op (.put p.1 p.2 ht) := by
  cases e with
  | move c => exact .inl h
  | op o =>
    cases o with
    | put k v ht => exact (List.mem_cons.1 h).symm.imp_right fun e => ⟨ht, by rw [e]⟩
    | reset => cases h
    | _ => exact .inl h

theorem putsOf_sub : ∀ (evs : List Ev) (acc : List (Bytes × Bytes)) (p : Bytes × Bytes),
    p ∈ evs.foldl putsStep acc → p ∈ acc ∨ ∃ h, Ev.op (.put p.1 p.2 h) ∈ evs := by
  intro evs
  induction evs with
  | nil => intro acc p h; exact .inl h
  | cons e es ih =>
    intro acc p h
    rcases ih _ p h with h1 | ⟨ht, h2⟩
    · exact (putsStep_sub h1).imp_right fun ⟨ht, he⟩ => ⟨ht, he ▸ List.mem_cons_self⟩
    · exact .inr ⟨ht, List.mem_cons_of_mem _ h2⟩

end

end GoLevel.MemArr

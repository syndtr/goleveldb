import GoLevel.Proofs.BlockIterRun
/-!
# A `blockIter` sliced to nothing because `Start` is beyond every key

`newBlockIter` then sets `riStart = restartsLen`, `offsetStart = offsetRealStart = restartsOffset` and leaves the
limit alone.  Every call answers `false`; `Seek` makes `block.seek` run with `rstart = rlimit = restartsLen`, where
it answers `restartsOffset` for the index behind the last restart point instead of reading the restart array there.
-/
namespace GoLevel.C13
open GoLevel

variable {b : BlockR} {kvs : List KV} {off : Nat → Nat} {R : Nat} {rs : Nat → Nat}
variable {cmp : Bytes → Bytes → Ordering}

structure Deg (b : BlockR) (it : BIter) (p : Pos) : Prop where
  riStart : it.riStart = b.restartsLen
  riLimit : it.riLimit = b.restartsLen
  os : it.offsetStart = b.restartsOffset
  real : it.offsetRealStart = b.restartsOffset
  limit : it.offsetLimit = b.restartsOffset
  err : it.err = none
  dir : (p = .soi ∧ it.dir = .soi) ∨ (p = .eoi ∧ it.dir = .eoi)

theorem Deg.soi_or_eoi {it : BIter} {p : Pos} (h : Deg b it p) : it.dir = .soi ∨ it.dir = .eoi :=
  h.dir.imp And.right And.right

theorem Deg.live {it : BIter} {p : Pos} (h : Deg b it p) : it.dir ≠ .released := by
  rcases h.soi_or_eoi with hd | hd <;> rw [hd] <;> simp

theorem finishSlice_eq {it : BIter} (h : it.offsetStart ≤ it.offsetLimit) : it.finishSlice = it.reset := by
  unfold BIter.finishSlice
  exact if_neg (by show ¬ it.dropCache.offsetStart > it.dropCache.offsetLimit; rw [dropCache_eq]; exact Nat.not_lt.2 h)

theorem deg_finish {it : BIter} (h1 : it.riStart = b.restartsLen) (h2 : it.riLimit = b.restartsLen)
    (h3 : it.offsetStart = b.restartsOffset) (h4 : it.offsetRealStart = b.restartsOffset)
    (h5 : it.offsetLimit = b.restartsOffset) (h6 : it.err = none) : Deg b it.finishSlice .soi := by
  rw [finishSlice_eq (by omega), BIter.reset, dropCache_eq]
  exact ⟨h1, h2, h3, h4, h5, h6, Or.inl ⟨rfl, rfl⟩⟩

theorem nextBody_deg {it : BIter} (h1 : it.offset = it.offsetLimit) (h2 : it.offsetRealStart ≤ it.offset) :
    BIter.nextBody b it = (false, { it with dir := .eoi }) := by
  have hs : BIter.nextSkip b (b.restartsOffset + 1) it = (true, it) := by
    rw [BIter.nextSkip, if_neg (by omega)]
  unfold BIter.nextBody
  rw [hs]
  simp only
  rw [if_pos (by omega), if_neg (by simp [h1])]

theorem restartsLen_le (L : Layout b kvs off R rs) (hne : kvs ≠ []) : R ≤ b.restartsOffset := by
  have h1 : ∀ r, r < R → r ≤ rs r := fun r hr =>
    le_self_of_step (n := R - 1) (fun r hr => L.rmono r (by omega)) (by omega)
  have h2 := h1 (R - 1) (by have := L.rpos; omega)
  have h3 := L.rlt (R - 1) (by have := L.rpos; omega) hne
  have h4 := L.le_off (Nat.le_refl kvs.length)
  have := L.offN
  omega

theorem deg_next {it : BIter} {p : Pos} (h : Deg b it p) :
    Deg b (BIter.next b it).2 (Cursor.next ([] : List KV) p) ∧ (BIter.next b it).1 = false := by
  rcases h.dir with ⟨rfl, hd⟩ | ⟨rfl, hd⟩
  · rw [next_soi h.err hd, nextBody_deg (by show it.offsetStart = it.offsetLimit; rw [h.os, h.limit])
      (by show it.offsetRealStart ≤ it.offsetStart; rw [h.os, h.real]; exact Nat.le_refl _)]
    exact ⟨{ h with dir := Or.inr ⟨rfl, rfl⟩ }, rfl⟩
  · rw [next_eoi hd]
    exact ⟨h, rfl⟩

theorem deg_prev {it : BIter} {p : Pos} (h : Deg b it p) :
    Deg b (BIter.prev b it).2 (Cursor.prev ([] : List KV) p) ∧ (BIter.prev b it).1 = false := by
  rcases h.dir with ⟨rfl, hd⟩ | ⟨rfl, hd⟩
  · rw [prev_soi hd]
    exact ⟨h, rfl⟩
  · rw [prev_eoi h.err hd, if_pos (by rw [h.limit, h.real])]
    exact ⟨{ h with dir := Or.inl ⟨rfl, rfl⟩ }, rfl⟩

theorem Deg.dropCache {it : BIter} {p : Pos} (h : Deg b it p) : it.dropCache = it := by
  unfold BIter.dropCache
  rw [if_neg]
  rcases h.soi_or_eoi with hd | hd <;> rw [hd] <;> simp

theorem deg_first {it : BIter} {p : Pos} (h : Deg b it p) :
    Deg b (BIter.first b it).2 (Cursor.first ([] : List KV)) ∧ (BIter.first b it).1 = false := by
  rw [first_eq h.err h.live, h.dropCache]
  exact deg_next (p := .soi) { h with dir := Or.inl ⟨rfl, rfl⟩ }

theorem deg_last {it : BIter} {p : Pos} (h : Deg b it p) :
    Deg b (BIter.last b it).2 (Cursor.last ([] : List KV)) ∧ (BIter.last b it).1 = false := by
  rw [last_eq h.err h.live, h.dropCache]
  exact deg_prev (p := .eoi) { h with dir := Or.inr ⟨rfl, rfl⟩ }

/-- `block.seek` over no restart slots at all, behind the last one: the index it was given and `restartsOffset`, without a
read of the restart array -/
theorem seekR_behind (b : BlockR) (key : Bytes) :
    b.seekR cmp b.restartsLen b.restartsLen key = some (b.restartsLen, b.restartsOffset) := by
  have hq : (if 0 + b.restartsLen - 1 < b.restartsLen then b.restartsLen else 0 + b.restartsLen - 1) = b.restartsLen := by
    split <;> omega
  unfold BlockR.seekR
  rw [Nat.sub_self]
  simp only [sortSearch, searchLoop, Nat.lt_irrefl, if_false, hq]
  rw [if_pos (Nat.le_refl _)]

theorem deg_seek (key : Bytes) {it : BIter} {p : Pos} (h : Deg b it p) :
    Deg b (BIter.seek cmp b key it).2 (Cursor.seek ([] : List KV) (geK cmp key)) ∧
      (BIter.seek cmp b key it).1 = false := by
  have hmax : max it.offsetStart b.restartsOffset = it.offsetLimit := by
    rw [h.os, h.limit]
    omega
  have hseekR : b.seekR cmp it.riStart it.riLimit key = some (b.restartsLen, b.restartsOffset) := by
    rw [h.riStart, h.riLimit, seekR_behind]
  rw [seek_eq h.err h.live hseekR, if_pos h.soi_or_eoi, BIter.seekLoop, next_entry, dropCache_eq]
  · simp only [reduceCtorEq, if_false]
    rw [nextBody_deg hmax (by show it.offsetRealStart ≤ max it.offsetStart b.restartsOffset; rw [h.real, h.os]; omega)]
    exact ⟨{ h with dir := Or.inr ⟨by simp [Cursor.seek], rfl⟩ }, rfl⟩
  · exact h.err
  · exact Or.inl rfl

theorem deg_step (cl : Call Bytes) {it : BIter} {p : Pos} (h : Deg b it p) :
    Deg b (BIter.step cmp b cl it).2 (Cursor.step ([] : List KV) (geK cmp) cl p) ∧
      (BIter.step cmp b cl it).1 = false := by
  cases cl with
  | first => exact deg_first h
  | last => exact deg_last h
  | seek k => exact deg_seek k h
  | next => exact deg_next h
  | prev => exact deg_prev h

theorem deg_run (cs : List (Call Bytes)) {it : BIter} {p : Pos} (h : Deg b it p) :
    BIter.run cmp b it cs = ((Cursor.run ([] : List KV) (geK cmp) p cs).map fun o => (o.isSome, o)) ∧
      (BIter.exec cmp b it cs).err = none :=
  run_of_sim (Q := Deg b)
    (fun cl _ _ h =>
      let ⟨h1, h2⟩ := deg_step (cmp := cmp) cl h
      ⟨h1, h2.trans (by rcases h1.dir with ⟨e, _⟩ | ⟨e, _⟩ <;> rw [e] <;> rfl)⟩)
    (fun h => by rcases h.dir with ⟨rfl, hd⟩ | ⟨rfl, hd⟩ <;> simp [BIter.cur, BIter.valid, hd, Cursor.get, posOk, h.err])
    cs h

end GoLevel.C13

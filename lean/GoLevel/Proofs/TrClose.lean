import GoLevel.Model.TrClose
import GoLevel.Proofs.ListSum
import GoLevel.Proofs.Order
/-! `OpenTransaction` racing `Close` (`Model/TrClose.lean`): the invariants of every configuration (the token has its
owner, `db.tr` names the one open transaction, the flags are ordered), the invariant of the repaired configuration
(once `Close` has looked at `db.tr`, every transaction it did not see will be ended by its own `OpenTransaction`),
termination (every step decreases a measure) and progress (`Close` past `setClosed` is never stuck).

A step of a client changes one entry of `os` and does one of three things with the write lock (`LockMove`) and one of
three with `db.tr` (`RegMove`); that the invariant survives each kind is shown once (`Inv.client`), and `step_inv` only
says of which kind each step is. -/
namespace GoLevel.TrClose

/-- `Close` is past `setClosed` -/
def CPc.started : CPc → Bool
  | .idle => false
  | _ => true

/-- `Close` is past `close(closeC)` -/
def CPc.signalled : CPc → Bool
  | .idle | .atCloseC => false
  | _ => true

/-- `Close` has looked at `db.tr` and dealt with what it saw -/
def CPc.pastDiscard : CPc → Bool
  | .atAcq | .done => true
  | _ => false

structure Inv (s : St) : Prop where
  /-- a token is in `writeLockC` iff somebody owns it -/
  tokOwner : s.tok = true ↔ s.owner ≠ none
  /-- a goroutine owns the token exactly between taking it and ending its transaction (or failing) -/
  thrOwner : ∀ (i : Nat) (p : OPc), s.os[i]? = some p → (holds p = true ↔ s.owner = some (.thr i))
  closeOwner : s.owner = some .close ↔ s.cl = .done
  /-- `db.tr` names the registered, not yet ended transaction -/
  trReg : ∀ (i : Nat), s.tr = some i ↔ (s.os[i]? = some .live ∨ s.os[i]? = some (.selfDiscard false))
  closedFlag : s.closed = s.cl.started
  closeCFlag : s.closeC = s.cl.signalled
  /-- the owner and the transaction `Close` saw are goroutines of the run -/
  ownerValid : ∀ (i : Nat), s.owner = some (.thr i) → i < s.os.length
  seenValid : ∀ (i : Nat), s.cl = .atDiscard (some i) → i < s.os.length

theorem inv_init (n : Nat) (c : Bool) : Inv (init n c) := by
  refine ⟨by simp [init], ?_, by simp [init], ?_, rfl, rfl, by simp [init], by simp [init]⟩
  · intro i p hi
    simp only [init, List.getElem?_replicate] at hi
    split at hi <;> simp at hi
    subst hi; simp [holds, init]
  · intro i
    simp only [init, List.getElem?_replicate]
    split <;> simp

theorem holds_cases (p : OPc) : holds p = true ↔ (p = .body ∨ p = .reg ∨ p = .selfDiscard false ∨ p = .live) := by
  cases p with
  | selfDiscard e => cases e <;> simp [holds]
  | _ => simp [holds]

/-- the transaction of a goroutine at this program counter is the one `db.tr` names -/
def registered : OPc → Bool
  | .selfDiscard false | .live => true
  | _ => false

theorem registered_iff {o : Option OPc} {p : OPc} (h : o = some p) :
    (o = some .live ∨ o = some (.selfDiscard false)) ↔ registered p = true := by
  subst h
  cases p with
  | selfDiscard e => cases e <;> simp [registered]
  | _ => simp [registered]

theorem Inv.owner_none {s : St} (inv : Inv s) (ht : s.tok = false) : s.owner = none :=
  Decidable.not_not.mp fun h => Bool.false_ne_true (ht.symm.trans (inv.tokOwner.mpr h))

theorem Inv.holder {s : St} (inv : Inv s) (ht : s.tok = true) :
    s.cl = .done ∨ ∃ (i : Nat) (p : OPc), s.os[i]? = some p ∧ holds p = true := by
  cases ho : s.owner with
  | none => exact absurd ho (inv.tokOwner.mp ht)
  | some o =>
    cases o with
    | close => exact .inl (inv.closeOwner.mp ho)
    | thr i =>
      have hi := List.getElem?_eq_getElem (inv.ownerValid i ho)
      exact .inr ⟨i, _, hi, (inv.thrOwner i _ hi).mpr ho⟩

theorem Inv.tr_iff {s : St} (inv : Inv s) {i : Nat} {p : OPc} (hi : s.os[i]? = some p) :
    s.tr = some i ↔ registered p = true :=
  (inv.trReg i).trans (registered_iff hi)

theorem Inv.tr_lt {s : St} (inv : Inv s) {i : Nat} (h : s.tr = some i) : i < s.os.length :=
  ((inv.trReg i).mp h).elim getElem?_lt getElem?_lt

theorem Inv.owner_of_tr {s : St} (inv : Inv s) {i : Nat} (h : s.tr = some i) : s.owner = some (.thr i) :=
  ((inv.trReg i).mp h).elim (fun h => (inv.thrOwner i _ h).mp rfl) (fun h => (inv.thrOwner i _ h).mp rfl)

/-- What a step of client `i` from `p` to `q` does with the write lock, as the new `tok` and `owner`: nothing, or it
puts the token into the free `writeLockC`, or it takes its own token out. -/
inductive LockMove (s : St) (i : Nat) (p q : OPc) : Bool → Option Owner → Prop
  | keep (h : holds q = holds p) : LockMove s i p q s.tok s.owner
  | take (hq : holds q = true) (ht : s.tok = false) : LockMove s i p q true (some (.thr i))
  | release (hp : holds p = true) (hq : holds q = false) : LockMove s i p q false none

/-- What the step does with `db.tr`, as its new value: nothing, or a holder of the write lock registers its
transaction, or the registered transaction ends. -/
inductive RegMove (s : St) (i : Nat) (p q : OPc) : Option Nat → Prop
  | keep (h : registered q = registered p) : RegMove s i p q s.tr
  | register (hp : holds p = true) (hq : registered q = true) : RegMove s i p q (some i)
  | unregister (hp : registered p = true) (hq : registered q = false) : RegMove s i p q none

theorem Inv.client {s : St} (inv : Inv s) {i : Nat} {p q : OPc} {tok : Bool} {owner : Option Owner} {tr : Option Nat}
    (hi : s.os[i]? = some p) (hl : LockMove s i p q tok owner) (hr : RegMove s i p q tr) :
    Inv { s with os := s.os.set i q, tok := tok, owner := owner, tr := tr } := by
  have lt := getElem?_lt hi
  have own := inv.thrOwner i p hi
  have ne : ∀ {j}, i ≠ j → some (Owner.thr i) ≠ some (.thr j) := fun e h => e (Owner.thr.inj (Option.some.inj h))
  have len : (s.os.set i q).length = s.os.length := List.length_set
  have seen : ∀ j, s.cl = .atDiscard (some j) → j < (s.os.set i q).length := fun j hj => len ▸ inv.seenValid j hj
  have reg : ∀ j, tr = some j ↔
      ((s.os.set i q)[j]? = some .live ∨ (s.os.set i q)[j]? = some (.selfDiscard false)) := by
    intro j
    by_cases e : i = j
    · subst e
      rw [List.getElem?_set_self lt, registered_iff rfl]
      cases hr with
      | keep h => rw [h]; exact inv.tr_iff hi
      | register _ hq => exact iff_of_true rfl hq
      | unregister _ hq => exact iff_of_false nofun (by rw [hq]; nofun)
    · rw [List.getElem?_set_ne e]
      cases hr with
      | keep _ => exact inv.trReg j
      | register hp _ =>
        -- whoever is registered owns the token, as `i` does
        exact iff_of_false (fun h => e (Option.some.inj h)) fun h =>
          ne e ((own.mp hp).symm.trans (inv.owner_of_tr ((inv.trReg j).mpr h)))
      | unregister hp _ =>
        -- `db.tr` named `i`
        have := (inv.tr_iff hi).mpr hp
        exact iff_of_false nofun fun h => e (Option.some.inj (this.symm.trans ((inv.trReg j).mpr h)))
  cases hl with
  | keep h =>
    refine ⟨inv.tokOwner, fun j p' hj => ?_, inv.closeOwner, reg, inv.closedFlag, inv.closeCFlag,
      fun j hj => len ▸ inv.ownerValid j hj, seen⟩
    rcases getElem?_set_cases hj with ⟨rfl, rfl⟩ | ⟨_, hj⟩
    · rw [h]; exact own
    · exact inv.thrOwner j p' hj
  | take hq ht =>
    -- the token was free: nobody owned it, nobody held the lock
    have ho := inv.owner_none ht
    refine ⟨iff_of_true rfl nofun, fun j p' hj => ?_,
      iff_of_false nofun (fun h => nomatch ho.symm.trans (inv.closeOwner.mpr h)), reg, inv.closedFlag, inv.closeCFlag,
      fun j hj => by cases hj; exact len ▸ lt, seen⟩
    rcases getElem?_set_cases hj with ⟨rfl, rfl⟩ | ⟨e, hj⟩
    · exact iff_of_true hq rfl
    · exact iff_of_false (fun h => nomatch ho.symm.trans ((inv.thrOwner j p' hj).mp h)) (ne e)
  | release hp hq =>
    -- `i` owned the token: `Close` did not, nobody else held the lock
    have ho := own.mp hp
    refine ⟨iff_of_false nofun (· rfl), fun j p' hj => ?_,
      iff_of_false nofun (fun h => nomatch ho.symm.trans (inv.closeOwner.mpr h)), reg, inv.closedFlag, inv.closeCFlag,
      nofun, seen⟩
    rcases getElem?_set_cases hj with ⟨rfl, rfl⟩ | ⟨e, hj⟩
    · exact iff_of_false (by rw [hq]; nofun) nofun
    · exact iff_of_false (fun h => ne e (ho.symm.trans ((inv.thrOwner j p' hj).mp h))) nofun

theorem Inv.closed_at {s : St} (inv : Inv s) {c c' : CPc} (hc : s.cl = c) (h : c'.started = c.started) :
    s.closed = c'.started := h ▸ hc ▸ inv.closedFlag

theorem Inv.closeC_at {s : St} (inv : Inv s) {c c' : CPc} (hc : s.cl = c) (h : c'.signalled = c.signalled) :
    s.closeC = c'.signalled := h ▸ hc ▸ inv.closeCFlag

/-- **A step of `Close`** from `c` to `c'`, short of taking the write lock. -/
theorem Inv.close {s : St} (inv : Inv s) {c c' : CPc} {closed closeC : Bool} (hc : s.cl = c) (hd : c ≠ .done)
    (hd' : c' ≠ .done) (h5 : closed = c'.started) (h6 : closeC = c'.signalled)
    (h8 : ∀ i, c' = .atDiscard (some i) → i < s.os.length) :
    Inv { s with cl := c', closed := closed, closeC := closeC } :=
  ⟨inv.tokOwner, inv.thrOwner, iff_of_false (fun h => hd (hc.symm.trans (inv.closeOwner.mp h))) hd', inv.trReg, h5, h6,
    inv.ownerValid, h8⟩

theorem step_inv (cfg : Cfg) (s t : St) (h : Step cfg s t) (inv : Inv s) : Inv t := by
  cases h with
  | oStart i hi => exact inv.client hi (.keep (by split <;> rfl)) (.keep (by split <;> rfl))
  | oSelTok i hi ht => exact inv.client hi (.take rfl ht) (.keep rfl)
  | oSelClosed i hi | oBodyOk i hi => exact inv.client hi (.keep rfl) (.keep rfl)
  | oBodyFail i hi => exact inv.client hi (.release rfl rfl) (.keep rfl)
  | oReg i hi => exact inv.client hi (.keep (by split <;> rfl)) (.register rfl (by split <;> rfl))
  | oSelfDiscard i e hi =>
    cases e
    · exact inv.client hi (.release rfl rfl) (.unregister rfl rfl)
    · exact inv.client hi (.keep rfl) (.keep rfl)
  | oEnd i hi => exact inv.client hi (.release rfl rfl) (.unregister rfl rfl)
  | cStart hc => exact inv.close hc nofun nofun rfl (inv.closeC_at hc rfl) nofun
  | cCloseC hc => exact inv.close hc nofun nofun (inv.closed_at hc rfl) rfl nofun
  | cRead hc =>
    exact inv.close hc nofun nofun (inv.closed_at hc rfl) (inv.closeC_at hc rfl)
      fun i h => inv.tr_lt (CPc.atDiscard.inj h)
  | cReadStale hc | cDiscardNone hc =>
    exact inv.close hc nofun nofun (inv.closed_at hc rfl) (inv.closeC_at hc rfl) nofun
  | cDiscard i p hc hi =>
    -- `Close` moves on; if the transaction it saw is still open, it also ends it in the place of its goroutine
    have inv' := inv.close (c' := .atAcq) hc nofun nofun (inv.closed_at hc rfl) (inv.closeC_at hc rfl) nofun
    cases p with
    | live => exact inv'.client hi (.release rfl rfl) (.unregister rfl rfl)
    | selfDiscard e =>
      cases e
      · exact inv'.client hi (.release rfl rfl) (.unregister rfl rfl)
      · exact inv'
    | _ => exact inv'
  | cAcq hc ht =>
    -- the token was free: nobody owned it, nobody held the lock
    have ho := inv.owner_none ht
    exact ⟨iff_of_true rfl nofun,
      fun j p hj => iff_of_false (fun h => nomatch ho.symm.trans ((inv.thrOwner j p hj).mp h)) nofun,
      iff_of_true rfl rfl, inv.trReg, inv.closed_at hc rfl, inv.closeC_at hc rfl, nofun, nofun⟩

theorem steps_inv (cfg : Cfg) (P : St → Prop) (hP : ∀ s t, Step cfg s t → P s → P t) (s t : St)
    (h : Steps cfg s t) (hs : P s) : P t := by
  induction h with
  | refl => exact hs
  | tail _ h ih => exact hP _ _ h ih

theorem reachable_inv (cfg : Cfg) (s : St) (hr : Reachable cfg s) : Inv s := by
  obtain ⟨n, c, hs⟩ := hr
  exact steps_inv cfg Inv (step_inv cfg) _ _ hs (inv_init n c)

/-- while `Close` is about to discard what it saw, every live transaction is the one it saw; afterwards none is live -/
def SeenInv (s : St) : Prop :=
  (∀ seen, s.cl = .atDiscard seen → ∀ (i : Nat), s.os[i]? = some .live → seen = some i) ∧
  (s.cl.pastDiscard = true → ∀ (i : Nat), s.os[i]? ≠ some .live)

theorem seenInv_init (n : Nat) (c : Bool) : SeenInv (init n c) := by
  refine ⟨fun seen h => by simp [init] at h, fun h => by simp [init, CPc.pastDiscard] at h⟩

theorem live_of_set {l : List OPc} {i j : Nat} {q : OPc} (hq : q ≠ .live) (h : (l.set i q)[j]? = some .live) :
    l[j]? = some .live :=
  (getElem?_set_cases h).elim (fun e => absurd e.2.symm hq) (·.2)

/-- a step of a client that does not hand a transaction to its caller -/
theorem SeenInv.client {s : St} (k : SeenInv s) {i : Nat} {q : OPc} {tok : Bool} {owner : Option Owner}
    {tr : Option Nat} (hq : q ≠ .live) : SeenInv { s with os := s.os.set i q, tok := tok, owner := owner, tr := tr } :=
  ⟨fun seen hs j hj => k.1 seen hs j (live_of_set hq hj), fun hp j hj => k.2 hp j (live_of_set hq hj)⟩

theorem SeenInv.of_not_started {s : St} (h : s.cl.started = false) : SeenInv s := by
  unfold SeenInv
  revert h
  cases s.cl with
  | idle => exact fun _ => ⟨nofun, nofun⟩
  | _ => nofun

theorem step_seenInv (cfg : Cfg) (c1 : cfg.otxChecks = true) (c2 : cfg.closeLocked = true) (s t : St)
    (h : Step cfg s t) (inv : Inv s) (k : SeenInv s) : SeenInv t := by
  cases h with
  | oStart i hi => exact k.client (by split <;> nofun)
  | oSelTok i hi | oSelClosed i hi | oBodyFail i hi | oBodyOk i hi | oEnd i hi => exact k.client nofun
  | oSelfDiscard i e hi => cases e <;> exact k.client nofun
  | oReg i hi =>
    -- with the flag set it goes to discard its transaction; without, `Close` has not begun
    rcases Bool.eq_false_or_eq_true s.closed with hcl | hcl
    · exact k.client (by rw [c1, hcl]; nofun)
    · exact .of_not_started (inv.closedFlag.symm.trans hcl)
  | cStart hc | cCloseC hc => exact ⟨nofun, nofun⟩
  | cRead hc => exact ⟨fun seen hs j hj => CPc.atDiscard.inj hs ▸ (inv.trReg j).mpr (.inl hj), nofun⟩
  | cReadStale hc hl => rw [c2] at hl; cases hl
  | cDiscardNone hc => exact ⟨nofun, fun _ j hj => nomatch k.1 none hc j hj⟩
  | cDiscard i p hc hi =>
    -- the only live transaction is the one `Close` saw, and `Discard` ends it
    have honly : ∀ j : Nat, s.os[j]? = some .live → i = j := fun j hj => Option.some.inj (k.1 (some i) hc j hj)
    have ended : ∀ q : OPc, q ≠ .live → ∀ j : Nat, (s.os.set i q)[j]? ≠ some .live := fun q hq j hj =>
      (getElem?_set_cases hj).elim (fun h => hq h.2.symm) (fun h => h.1 (honly j h.2))
    have other : p ≠ .live → ∀ j : Nat, s.os[j]? ≠ some .live := fun hp j hj =>
      hp (Option.some.inj (hi.symm.trans (honly j hj ▸ hj)))
    cases p with
    | live => exact ⟨nofun, fun _ => ended .endedClose nofun⟩
    | selfDiscard e =>
      cases e
      · exact ⟨nofun, fun _ => ended (.selfDiscard true) nofun⟩
      · exact ⟨nofun, fun _ => other nofun⟩
    | _ => exact ⟨nofun, fun _ => other nofun⟩
  | cAcq hc => exact ⟨nofun, fun _ => k.2 (by rw [hc]; rfl)⟩

def wtO : OPc → Nat
  | .idle => 6 | .sel => 5 | .body => 4 | .reg => 3 | .selfDiscard false => 2 | .selfDiscard true => 1 | .live => 1
  | _ => 0

def wtC : CPc → Nat
  | .idle => 5 | .atCloseC => 4 | .atRead => 3 | .atDiscard _ => 2 | .atAcq => 1 | .done => 0

def measure (s : St) : Nat := (s.os.map wtO).sum + wtC s.cl

theorem sum_set (l : List OPc) (i : Nat) (p v : OPc) (hi : l[i]? = some p) :
    ((l.set i v).map wtO).sum + wtO p = (l.map wtO).sum + wtO v := sum_map_set wtO hi v

theorem sum_set_lt {l : List OPc} {i : Nat} {p : OPc} (hi : l[i]? = some p) (v : OPc) (h : wtO v < wtO p) :
    ((l.set i v).map wtO).sum < (l.map wtO).sum := by
  have := sum_set l i p v hi; omega

theorem step_measure (cfg : Cfg) (s t : St) (h : Step cfg s t) : measure t < measure s := by
  unfold measure
  cases h with
  | oStart i hi | oReg i hi => exact Nat.add_lt_add_right (sum_set_lt hi _ (by split <;> decide)) _
  | oSelTok i hi | oSelClosed i hi | oBodyFail i hi | oBodyOk i hi | oEnd i hi =>
    exact Nat.add_lt_add_right (sum_set_lt hi _ (by decide)) _
  | oSelfDiscard i e hi => cases e <;> exact Nat.add_lt_add_right (sum_set_lt hi _ (by decide)) _
  | cDiscard i p hc hi =>
    have hcl : wtC .atAcq < wtC s.cl := by rw [hc]; exact Nat.lt_succ_self _
    cases p with
    | live => exact Nat.add_lt_add (sum_set_lt hi _ (by decide)) hcl
    | selfDiscard e =>
      cases e
      · exact Nat.add_lt_add (sum_set_lt hi _ (by decide)) hcl
      · exact Nat.add_lt_add_left hcl _
    | _ => exact Nat.add_lt_add_left hcl _
  | cStart hc | cCloseC hc | cRead hc | cReadStale hc | cDiscardNone hc | cAcq hc =>
    exact Nat.add_lt_add_left (by rw [hc]; exact Nat.lt_succ_self _) _

theorem settle (cfg : Cfg) (s : St) : ∃ t, Steps cfg s t ∧ ¬ ∃ u, Step cfg t u := by
  generalize hm : measure s = m
  induction m using Nat.strongRecOn generalizing s with
  | _ m ih =>
    by_cases h : ∃ u, Step cfg s u
    · obtain ⟨u, hu⟩ := h
      obtain ⟨t, ht, hq⟩ := ih (measure u) (by rw [← hm]; exact step_measure cfg s u hu) u rfl
      exact ⟨t, Steps.trans (Steps.step (Steps.refl s) hu) ht, hq⟩
    · exact ⟨s, Steps.refl s, h⟩

theorem step_started (cfg : Cfg) (s t : St) (h : Step cfg s t) (hs : s.cl.started = true) : t.cl.started = true := by
  cases h with
  | oSelfDiscard i e hi => cases e <;> exact hs
  | cDiscard i p hc hi => cases p <;> (try (rename_i e; cases e)) <;> rfl
  | cStart _ | cCloseC _ | cRead _ | cReadStale _ _ | cDiscardNone _ | cAcq _ _ => rfl
  | _ => exact hs

theorem steps_started (cfg : Cfg) (s t : St) (h : Steps cfg s t) (hs : s.cl.started = true) : t.cl.started = true :=
  steps_inv cfg (fun s => s.cl.started = true) (step_started cfg) s t h hs

/-- **progress of `Close`** in the repaired configuration: between `setClosed` and the acquisition of the write lock
`Close` always has a step of its own, or the goroutine that holds the write lock has one — it is never a transaction
in a client's hands -/
theorem close_progress (cfg : Cfg) (s : St) (inv : Inv s) (k : SeenInv s)
    (hs : s.cl.started = true) (hd : s.cl ≠ .done) : ∃ t, Step cfg s t := by
  cases hc : s.cl with
  | idle => rw [hc] at hs; cases hs
  | atCloseC => exact ⟨_, Step.cCloseC s hc⟩
  | atRead => exact ⟨_, Step.cRead s hc⟩
  | atDiscard seen =>
    cases seen with
    | none => exact ⟨_, Step.cDiscardNone s hc⟩
    | some i =>
      have hl := inv.seenValid i hc
      exact ⟨_, Step.cDiscard s i s.os[i] hc (List.getElem?_eq_getElem hl)⟩
  | done => exact absurd hc hd
  | atAcq =>
    cases ht : s.tok with
    | false => exact ⟨_, Step.cAcq s hc ht⟩
    | true =>
      rcases inv.holder ht with hd | ⟨i, p, hi, hh⟩
      · exact nomatch hc.symm.trans hd
      · -- the holder is an `OpenTransaction` on its way out
        rcases (holds_cases p).mp hh with rfl | rfl | rfl | rfl
        · exact ⟨_, .oBodyOk s i hi⟩
        · exact ⟨_, .oReg s i hi⟩
        · exact ⟨_, .oSelfDiscard s i false hi⟩
        · exact absurd hi (k.2 (by rw [hc]; rfl) i)

/-- every client holds a transaction that it will not end (the DB is closed and it takes `ErrClosed` as final), and
`Close` needs the write lock that such a transaction holds: nothing moves, whatever the configuration -/
theorem stuck_of_live (cfg : Cfg) (s : St) (hos : ∀ p ∈ s.os, p = .live) (hcl : s.cl = .atAcq)
    (htok : s.tok = true) (hcd : s.closed = true) (hco : s.coop = false) : ¬ ∃ t, Step cfg s t := by
  rintro ⟨t, h⟩
  cases h with
  | oStart i hi | oSelTok i hi | oSelClosed i hi | oBodyFail i hi | oBodyOk i hi | oReg i hi | oSelfDiscard i e hi =>
    cases hos _ (List.mem_of_getElem? hi)
  | oEnd i hi hc => rw [hcd, hco] at hc; rcases hc with hc | hc <;> cases hc
  | cStart hc | cCloseC hc | cRead hc | cReadStale hc | cDiscardNone hc | cDiscard i p hc => rw [hcl] at hc; cases hc
  | cAcq hc ht => rw [htok] at ht; cases ht

end GoLevel.TrClose

import GoLevel.Proofs.WriteProtoCount
/-! The executable step function is sound for the step relation (`step?_sound`, `run_sound`); completeness is not
proved.  The configuration is constant along a run. -/
namespace GoLevel.WP

/-- each branch of `step?` returns the state of the constructor of `Step` with the label's name, under that
constructor's guards (`releaseLost` and `release` return the same state and differ in the guard only) -/
theorem step?_sound (s t : St) (a : Label) (h : step? s a = some t) : Step s t := by
  cases a with
  | releaseLost j =>
    simp only [step?] at h; split at h <;> try contradiction
    rename_i l hl; split at h <;> try contradiction
    rename_i r m hp; split at h <;> try contradiction
    rename_i hc; cases h; exact Step.releaseLost s j l m r hl hp hc.1 hc.2
  | publish j rot =>
    simp only [step?] at h; split at h <;> try contradiction
    rename_i l hl; split at h <;> try contradiction
    rename_i m o hp; split at h <;> try contradiction
    rename_i hrot; cases h; exact Step.publish s j l m o rot hl hp hrot
  | _ =>
    simp only [step?] at h
    repeat' split at h
    all_goals first | contradiction | (cases h; constructor <;> first | assumption | simp_all)

theorem run_sound (s t : St) (as : List Label) (h : run s as = some t) : Steps s t := by
  induction as generalizing s with
  | nil => simp [run] at h; subst h; exact .refl _
  | cons a as ih =>
    simp only [run] at h
    split at h <;> try contradiction
    rename_i u hu
    exact Steps.trans (Steps.single (step?_sound s u a hu)) (ih u h)

instance (w : Thread) : Decidable w.fresh := by unfold Thread.fresh; infer_instance
instance (s : St) : Decidable (InitAny s) := by unfold InitAny; infer_instance
instance (s : St) : Decidable (Init s) := by unfold Init; infer_instance

theorem step_cfg (s t : St) (h : Step s t) : t.cfg = s.cfg := by cases h <;> rfl

theorem steps_cfg (s t : St) (h : Steps s t) : t.cfg = s.cfg :=
  h.keeps (P := fun u => u.cfg = s.cfg) (fun _ _ h e => (step_cfg _ _ h).trans e) rfl

end GoLevel.WP

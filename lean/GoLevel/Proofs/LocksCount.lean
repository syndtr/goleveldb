import GoLevel.Model.Locks
import GoLevel.Proofs.ListSum
import GoLevel.Proofs.Order
/-! Sums of a weight over the thread list (`tot`) and how `set` changes them; the accounting predicates
of the blocking resources: a held resource has exactly one owner (a thread at a program counter that holds it, the
open transaction, `compWriteLocking`, `Close`, a committing compaction).  That the steps keep them is
`LocksInv.lean`. -/
namespace GoLevel.Locks

theorem tot_cons (f : Pc → Nat) (x : Pc) (xs : List Pc) : tot f (x :: xs) = f x + tot f xs := by
  simp [tot]

theorem tot_eraseIdx (f : Pc → Nat) {ws : List Pc} {i : Nat} {old : Pc} (h : ws[i]? = some old) :
    tot f ws = tot f (ws.eraseIdx i) + f old := sum_map_eraseIdx f h

theorem tot_set_eraseIdx (f : Pc → Nat) {ws : List Pc} {i : Nat} {old : Pc} (h : ws[i]? = some old) (new : Pc) :
    tot f (ws.set i new) = tot f (ws.eraseIdx i) + f new := sum_map_set_eraseIdx f h new

theorem tot_set (f : Pc → Nat) (ws : List Pc) (i : Nat) (old new : Pc) (h : ws[i]? = some old) :
    tot f (ws.set i new) + f old = tot f ws + f new := sum_map_set f h new

theorem le_tot (f : Pc → Nat) (ws : List Pc) (i : Nat) (w : Pc) (h : ws[i]? = some w) : f w ≤ tot f ws :=
  le_sum_map f h

theorem exists_of_tot_pos (f : Pc → Nat) (ws : List Pc) (h : 0 < tot f ws) :
    ∃ (i : Nat) (w : Pc), ws[i]? = some w ∧ 0 < f w := exists_of_sum_map_pos f h

theorem tot_replicate_idle (f : Pc → Nat) (n : Nat) (h : f .idle = 0) : tot f (List.replicate n .idle) = 0 := by
  induction n with
  | zero => simp [tot]
  | succ n ih => rw [List.replicate_succ, tot_cons, ih, h]

theorem tot_set3 (ws : List Pc) (i : Nat) (old new : Pc) (h : ws[i]? = some old) :
    (tot tokW (ws.set i new) + tokW old = tot tokW ws + tokW new) ∧
    (tot clkW (ws.set i new) + clkW old = tot clkW ws + clkW new) ∧
    (tot trlkW (ws.set i new) + trlkW old = tot trlkW ws + trlkW new) :=
  ⟨tot_set _ _ _ _ _ h, tot_set _ _ _ _ _ h, tot_set _ _ _ _ _ h⟩

theorem St.setBg_eq (s : St) (b : Bool) (v : Bg) :
    s.setBg b v = { s with mc := if b then s.mc else v, tc := if b then v else s.tc } := by
  cases b <;> rfl

/-- the four `select`s on `writeLockC` -/
theorem selNext_some {p q : Pc} (h : selNext p = some q) :
    (p = .putSel ∧ q = .putFlush) ∨ (∃ lg, p = .otxSel lg ∧ q = .otxBranch lg) ∨ (p = .crSel ∧ q = .crCheck) ∨
    (p = .srSel ∧ q = .srSet) := by
  cases p <;> simp only [selNext, Option.some.injEq, reduceCtorEq] at h <;> subst h <;> simp

theorem b2n_le (b : Bool) : b2n b ≤ 1 := by cases b <;> simp [b2n]
@[simp] theorem b2n_true : b2n true = 1 := rfl
@[simp] theorem b2n_false : b2n false = 0 := rfl
@[simp] theorem bgClk_run (w : Option Nat) (ph : BPh) : bgClk (.run w ph) = bphClk ph := rfl
@[simp] theorem bgClk_idle : bgClk .idle = 0 := rfl
@[simp] theorem bgClk_exited : bgClk .exited = 0 := rfl
theorem bphClk_le (ph : BPh) : bphClk ph ≤ 1 := by
  unfold bphClk; split <;> omega
theorem clearW_run (w : Option Nat) (ph : BPh) (i : Nat) : ∃ w', clearW (.run w ph) i = .run w' ph := by
  cases w with
  | none => exact ⟨none, rfl⟩
  | some j =>
    unfold clearW
    by_cases h : j = i
    · exact ⟨none, by simp [h]⟩
    · exact ⟨some j, by simp [h]⟩

@[simp] theorem clearW_idle (i : Nat) : clearW .idle i = .idle := rfl
@[simp] theorem clearW_exited (i : Nat) : clearW .exited i = .exited := rfl

@[simp] theorem clearW_eq_exited (x : Bg) (i : Nat) : clearW x i = .exited ↔ x = .exited := by
  unfold clearW; split
  · split <;> simp
  · rfl

@[simp] theorem bgClk_clearW (x : Bg) (i : Nat) : bgClk (clearW x i) = bgClk x := by
  unfold clearW; split
  · split <;> rfl
  · rfl

@[simp] theorem bgClk_parked : bgClk .parked = 0 := rfl
@[simp] theorem clearW_parked (i : Nat) : clearW .parked i = .parked := rfl

theorem afterCmd_cases (cfg : Cfg) (s : St) (b : Bool) : afterCmd cfg s b = .idle ∨ afterCmd cfg s b = .parked := by
  unfold afterCmd; split <;> simp
@[simp] theorem bgClk_afterCmd (cfg : Cfg) (s : St) (b : Bool) : bgClk (afterCmd cfg s b) = 0 := by
  rcases afterCmd_cases cfg s b with h | h <;> rw [h] <;> rfl

theorem afterCmd_parked (cfg : Cfg) (s : St) (b : Bool) (h : afterCmd cfg s b = .parked) : b = true ∧ s.ro = true := by
  unfold afterCmd at h
  split at h
  · rename_i hc; simp at hc; exact ⟨hc.1.1, hc.2⟩
  · cases h

@[simp] theorem clearW_eq_parked (x : Bg) (i : Nat) : clearW x i = .parked ↔ x = .parked := by
  unfold clearW; split
  · split <;> simp
  · rfl

theorem St.bg_setBg (s : St) (b : Bool) (v : Bg) (b' : Bool) :
    (s.setBg b v).bg b' = if b' = b then v else s.bg b' := by
  cases b <;> cases b' <;> rfl

theorem b2n_pos (b : Bool) (h : 0 < b2n b) : b = true := by cases b <;> simp [b2n] at h ⊢

/-- threads between the two `select`s of `SetReadOnly` -/
def srW : Pc → Nat | .srSet => 1 | _ => 0

/-- the token is in `writeLockC` iff exactly one owner claims it -/
def TokE (s : St) : Prop := tot tokW s.ws + b2n s.trOpen + b2n s.ehTok + b2n s.closeTok = b2n s.tok

/-- every resource is held by exactly its owners -/
structure RInv (s : St) : Prop where
  tokI : tot tokW s.ws + b2n s.trOpen + b2n s.ehTok + b2n s.closeTok = b2n s.tok
  clkI : tot clkW s.ws + bgClk s.mc + bgClk s.tc = b2n s.clk
  trlkI : tot trlkW s.ws = b2n s.trlk

/-- `compCommitLk` and `tr.lk` are held by exactly their owners; a token in `writeLockC` has an owner (both
take-backs of `compWriteLocking` are blind: after `Close` has begun an owner can find its token gone) -/
structure RInvW (s : St) : Prop where
  tokI : b2n s.tok ≤ tot tokW s.ws + b2n s.trOpen + b2n s.ehTok + b2n s.closeTok
  clkI : tot clkW s.ws + bgClk s.mc + bgClk s.tc = b2n s.clk
  trlkI : tot trlkW s.ws = b2n s.trlk

theorem RInv.weak {s : St} (h : RInv s) : RInvW s := ⟨by have := h.tokI; omega, h.clkI, h.trlkI⟩

end GoLevel.Locks

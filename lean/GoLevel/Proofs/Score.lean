import GoLevel.Model.Score
/-!
# `computeCompaction` picks the first level of maximal score; a score `≥ 1` names a non-empty level

Loop invariant of `scoreLoop` over `v.levels` (`Inv`): after `k` levels the best pair is a processed level with its own
score, no processed level has a larger score, and every level before it has a strictly smaller one.
-/
namespace GoLevel.Score
open GoLevel.Pick

/-- the sanitised options: `GetCompactionL0Trigger() > 0`, `GetCompactionTotalSize(level) > 0` -/
def ScoreOpts.Pos (o : ScoreOpts) : Prop := 0 < o.l0Trigger ∧ ∀ l, 0 < o.totalSize l

def scoreAt (o : ScoreOpts) (v : Version) (j : Nat) : Frac := levelScore o j (lvlOf v j)

theorem scoreAt_den_pos {o : ScoreOpts} (hp : o.Pos) (v : Version) (j : Nat) : 0 < (scoreAt o v j).den := by
  unfold scoreAt levelScore
  split
  · exact hp.1
  · exact hp.2 j

theorem Frac.lt_irrefl (a : Frac) : a.lt a = false := by
  simp [Frac.lt]

theorem Frac.lt_of_le_of_lt {x s t : Frac} (hx : 0 < x.den) (h1 : s.lt x = false) (h2 : s.lt t = true) :
    x.lt t = true := by
  simp only [Frac.lt, decide_eq_false_iff_not, decide_eq_true_eq, Nat.not_lt] at *
  have a : x.num * s.den * t.den ≤ s.num * x.den * t.den := Nat.mul_le_mul_right _ h1
  have b : s.num * t.den * x.den < t.num * s.den * x.den := Nat.mul_lt_mul_of_pos_right h2 hx
  have c : x.num * t.den * s.den < t.num * x.den * s.den := by
    calc x.num * t.den * s.den = x.num * s.den * t.den := by rw [Nat.mul_right_comm]
      _ ≤ s.num * x.den * t.den := a
      _ = s.num * t.den * x.den := by rw [Nat.mul_right_comm]
      _ < t.num * s.den * x.den := b
      _ = t.num * x.den * s.den := by rw [Nat.mul_right_comm]
  exact Nat.lt_of_mul_lt_mul_right c

theorem Frac.not_lt_of_lt {s t : Frac} (h : s.lt t = true) : t.lt s = false := by
  simp only [Frac.lt, decide_eq_false_iff_not, decide_eq_true_eq, Nat.not_lt] at *
  omega

theorem Frac.ge1_of_le {s b : Frac} (hs : 0 < s.den) (h1 : b.lt s = false) (h2 : s.ge1 = true) : b.ge1 = true := by
  simp only [Frac.lt, Frac.ge1, decide_eq_false_iff_not, decide_eq_true_eq, Nat.not_lt] at *
  have a : s.den * b.den ≤ s.num * b.den := Nat.mul_le_mul_right _ h2
  have b' : s.den * b.den ≤ b.num * s.den := Nat.le_trans a h1
  rw [Nat.mul_comm s.den b.den] at b'
  exact Nat.le_of_mul_le_mul_right b' hs

def Inv (o : ScoreOpts) (v : Version) (k : Nat) : Option (Nat × Frac) → Prop
  | none => k = 0
  | some (l, s) => l < k ∧ s = scoreAt o v l ∧ (∀ j, j < k → s.lt (scoreAt o v j) = false) ∧
      (∀ j, j < l → (scoreAt o v j).lt s = true)

theorem scoreStep_inv {o : ScoreOpts} (hp : o.Pos) (v : Version) (k : Nat) (best : Option (Nat × Frac))
    (t : Level) (ht : v.levels[k]? = some t) (hi : Inv o v k best) : Inv o v (k + 1) (scoreStep o best k t) := by
  have hsk : levelScore o k t = scoreAt o v k := by
    unfold scoreAt lvlOf; rw [ht]; rfl
  unfold scoreStep
  rw [hsk]
  cases best with
  | none =>
    cases (show k = 0 from hi)
    exact ⟨Nat.zero_lt_one, rfl, fun j hj => by rw [Nat.lt_one_iff.1 hj]; exact Frac.lt_irrefl _,
      fun j hj => absurd hj (Nat.not_lt_zero j)⟩
  | some p =>
    obtain ⟨hl, hs, hmax, hfirst⟩ := hi
    -- every level so far scores at most `p.2`; if level `k` beats `p.2`, it beats them all
    have hbeat := fun (hlt : p.2.lt (scoreAt o v k) = true) j (hj : j < k) =>
      Frac.lt_of_le_of_lt (scoreAt_den_pos hp v j) (hmax j hj) hlt
    simp only []
    split
    next hlt =>
      refine ⟨Nat.lt_succ_self k, rfl, fun j hj => ?_, hbeat hlt⟩
      rcases Nat.lt_succ_iff_lt_or_eq.1 hj with hj | rfl
      · exact Frac.not_lt_of_lt (hbeat hlt j hj)
      · exact Frac.lt_irrefl _
    next hlt =>
      refine ⟨Nat.lt_succ_of_lt hl, hs, fun j hj => ?_, hfirst⟩
      rcases Nat.lt_succ_iff_lt_or_eq.1 hj with hj | rfl
      · exact hmax j hj
      · exact Bool.eq_false_iff.2 hlt

theorem scoreLoop_inv {o : ScoreOpts} (hp : o.Pos) (v : Version) (k : Nat) (best : Option (Nat × Frac))
    (hi : Inv o v k best) (hk : k ≤ v.levels.length) :
    Inv o v v.levels.length (scoreLoop o best k (v.levels.drop k)) := by
  induction hn : v.levels.length - k generalizing k best with
  | zero =>
    rw [List.drop_eq_nil_of_le (Nat.le_of_sub_eq_zero hn), Nat.le_antisymm (Nat.le_of_sub_eq_zero hn) hk]
    exact hi
  | succ _ ih =>
    have hlt : k < v.levels.length := Nat.lt_of_sub_eq_succ hn
    rw [List.drop_eq_getElem_cons hlt, scoreLoop]
    exact ih (k + 1) _ (scoreStep_inv hp v k best _ (List.getElem?_eq_getElem hlt) hi) hlt
      (by rw [Nat.sub_add_eq, hn]; rfl)

theorem computeCompaction_inv {o : ScoreOpts} (hp : o.Pos) (v : Version) :
    Inv o v v.levels.length (computeCompaction o v) :=
  scoreLoop_inv hp v 0 none rfl (Nat.zero_le _)

theorem tSize_nil : tSize [] = 0 := rfl

theorem scoreAt_ge1_nonempty {o : ScoreOpts} (hp : o.Pos) (v : Version) (l : Nat)
    (h : (scoreAt o v l).ge1 = true) : lvlOf v l ≠ [] := by
  intro he
  unfold scoreAt levelScore at h
  rw [he] at h
  have h1 := hp.1
  have h2 := hp.2 l
  split at h <;> simp [Frac.ge1, tSize_nil] at h <;> omega

end GoLevel.Score

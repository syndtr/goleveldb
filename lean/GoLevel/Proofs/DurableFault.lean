import GoLevel.Proofs.DurableMain
/-!
C08, the write path under storage faults: every journal `Write`/`Flush`/`Sync` may fail, with or without
having had its effect.  Sub-protocol: the write groups of `DB.writeLocked` on the initial journal (no buffer
rotation, no flush).  With `consumeSeqOnJournalError = true` the journal stays ascending, so a later `Open`
replays every record: nothing acknowledged is lost, nothing is invented, failed groups come back whole or
not at all.
-/
namespace GoLevel.Dur

def Act.writePath : Act → Bool
  | .wAppend _ _ _ | .wSync _ | .wApply | .wPublish | .wAck => true
  | _ => false

def ReachableW (cfg : Cfg) (sd : St × Disk) : Prop :=
  ∃ as, (∀ a ∈ as, a.writePath = true) ∧ run cfg init as = some sd

def statusOf (s : St) (g : Grp) (st : Status) : Prop := ∃ i ∈ s.issued, i.grp = g ∧ i.status = st

/-- the group the writer has applied but not yet acknowledged -/
def appliedNow : WPc → List Grp
  | .applied g => [g]
  | .published g => [g]
  | _ => []

structure WInv (s : St) (d : Disk) (jf : LogFile Grp) : Prop where
  shape : s.phase = .running ∧ s.jcur = 2 ∧ d.current = some 1 ∧ d.manifests = init.2.manifests ∧
    d.tables = [] ∧ d.journals = [(2, jf)]
  asc : AscFrom 0 jf.all
  hi : (∀ x ∈ jf.all, x.fin ≤ s.hi) ∧
    match s.w with
    | .idle | .published _ => s.hi = s.seq + 1
    | .appended g | .synced g | .applied g => g.seq = s.seq + 1 ∧ s.hi = g.fin ∧ g.recs ≠ []
  issued : ∀ x ∈ jf.all, x ∈ issuedGrps s
  /-- the write buffer holds exactly the acknowledged groups and the one just applied -/
  mem : (∀ g ∈ s.mem, g ∈ jf.all ∧ (statusOf s g .acked ∨ g ∈ appliedNow s.w)) ∧
    (∀ g, statusOf s g .acked → g ∈ s.mem) ∧ ∀ g ∈ appliedNow s.w, g ∈ s.mem
  /-- every issued group lies below the high-water mark; the groups of the write buffer are published, except
      the one just applied -/
  fresh : (∀ i ∈ s.issued, i.grp.fin ≤ s.hi ∧ i.grp.recs ≠ []) ∧
    ∀ x ∈ s.mem, x.fin ≤ s.seq + 1 ∨ s.w = .applied x
  /-- acknowledged with `Sync` ⇒ in the synced part -/
  synced : (∀ g, statusOf s g .acked → g.sync = true → g ∈ jf.synced) ∧
    match s.w with
    | .appended g => g ∈ jf.all
    | .synced g | .applied g | .published g => g ∈ jf.all ∧ (g.sync = true → g ∈ jf.synced)
    | .idle => True

theorem winv_init : WInv init.1 init.2 ⟨[], []⟩ := by
  refine ⟨⟨rfl, rfl, rfl, rfl, rfl, rfl⟩, trivial, ⟨(fun x hx => by cases hx), rfl⟩, (fun x hx => by cases hx),
    ⟨(fun g hg => by cases hg), (fun g hg => ?_), (fun g hg => by cases hg)⟩,
    ⟨(fun i hi => by cases hi), (fun x hx => by cases hx)⟩, ⟨(fun g hg => ?_), trivial⟩⟩
  · obtain ⟨i, hi, _⟩ := hg; cases hi
  · obtain ⟨i, hi, _⟩ := hg; cases hi

/-- a new issue that is not acknowledged: the acknowledged groups are the same -/
theorem acked_append {s s' : St} {g x : Grp} {st : Status} (hi : s'.issued = s.issued ++ [⟨g, st⟩]) (hst : st ≠ .acked) :
    statusOf s' x .acked ↔ statusOf s x .acked := by
  unfold statusOf
  simp only [hi, List.mem_append, List.mem_singleton]
  constructor
  · rintro ⟨i, hi | hi, h1, h2⟩
    · exact ⟨i, hi, h1, h2⟩
    · subst hi; exact absurd h2 hst
  · rintro ⟨i, hi, h1, h2⟩
    exact ⟨i, Or.inl hi, h1, h2⟩

theorem statusOf_setStatus {s s' : St} {g x : Grp} {st st' : Status} (hi : s'.issued = setStatus g st s.issued) :
    statusOf s' x st' ↔ (x = g ∧ st' = st ∧ g ∈ issuedGrps s) ∨ (x ≠ g ∧ statusOf s x st') := by
  unfold statusOf issuedGrps
  simp only [hi, setStatus, List.mem_map]
  constructor
  · rintro ⟨i, ⟨i0, hi0, rfl⟩, h1, h2⟩
    by_cases hg : i0.grp = g
    · simp only [hg, if_true] at h1 h2
      exact Or.inl ⟨h1.symm, h2.symm, i0, hi0, hg⟩
    · simp only [hg, if_false] at h1 h2
      exact Or.inr ⟨by rw [← h1]; exact hg, i0, hi0, h1, h2⟩
  · rintro (⟨rfl, rfl, i0, hi0, hg⟩ | ⟨hne, i0, hi0, h1, h2⟩)
    · exact ⟨_, ⟨i0, hi0, rfl⟩, by simp [hg], by simp [hg]⟩
    · have : ¬ i0.grp = g := by rw [h1]; exact hne
      exact ⟨_, ⟨i0, hi0, rfl⟩, by rw [if_neg this]; exact h1, by rw [if_neg this]; exact h2⟩

/-- a group that was not acknowledged is reported as failed: the acknowledged groups are the same -/
theorem acked_failed {s s' : St} {g x : Grp} (hi : s'.issued = setStatus g .failed s.issued)
    (hg : ¬ statusOf s g .acked) : statusOf s' x .acked ↔ statusOf s x .acked :=
  (statusOf_setStatus hi).trans
    ⟨fun h => h.elim (fun h => nomatch h.2.1) (·.2), fun h => Or.inr ⟨fun e => hg (e ▸ h), h⟩⟩

/-- an issued group is acknowledged: it joins the acknowledged groups -/
theorem acked_acked {s s' : St} {g x : Grp} (hi : s'.issued = setStatus g .acked s.issued) (hg : g ∈ issuedGrps s) :
    statusOf s' x .acked ↔ x = g ∨ statusOf s x .acked :=
  (statusOf_setStatus hi).trans ⟨fun h => h.elim (fun h => Or.inl h.1) fun h => Or.inr h.2, fun h =>
    (Decidable.em (x = g)).elim (fun e => Or.inl ⟨e, rfl, hg⟩) fun e => Or.inr ⟨e, h.resolve_left e⟩⟩

/-- a change of status leaves the groups as they are -/
theorem forall_grp_setStatus {P : Grp → Prop} {g : Grp} {st : Status} {l : List Issue} (h : ∀ i ∈ l, P i.grp) :
    ∀ i ∈ setStatus g st l, P i.grp := fun i hi => by
  obtain ⟨i0, hi0, rfl⟩ := List.mem_map.1 hi
  have := h i0 hi0
  split <;> exact this

theorem exec_journal {d : Disk} {n : Nat} {jf : LogFile Grp} (hjs : d.journals = [(n, jf)]) {op : Op}
    {f : LogFile Grp → LogFile Grp} (hop : ∀ d : Disk, d.apply op = { d with journals := d.journals.modify n f })
    (o : Outcome) :
    ∃ jf', (jf' = jf ∨ jf' = f jf) ∧ (o = .ok → jf' = f jf) ∧ d.exec op o = { d with journals := [(n, jf')] } := by
  have e : d.apply op = { d with journals := [(n, f jf)] } := by rw [hop, hjs]; simp [Files.modify]
  cases o
  · exact ⟨_, Or.inr rfl, fun _ => rfl, e⟩
  · exact ⟨jf, Or.inl rfl, nofun, by show d = _; rw [← hjs]⟩
  · exact ⟨_, Or.inr rfl, nofun, e⟩

theorem Outcome.ok_or_failed (o : Outcome) : o = .ok ∨ o.failed = true := by cases o <;> simp [Outcome.failed]

theorem winv_step {cfg : Cfg} (hc : cfg.consumeSeqOnJournalError = true) {s : St} {d : Disk} {jf : LogFile Grp}
    (h : WInv s d jf) {a : Act} (ha : a.writePath = true) {s' : St} {d' : Disk}
    (hs : step cfg s d a = some (s', d')) : ∃ jf', WInv s' d' jf' := by
  obtain ⟨⟨hph, hjc, hcur, hman, htab, hjs⟩, hasc, ⟨hhi, hw⟩, hiss, ⟨hm1, hm2, hm3⟩, ⟨hfr, hpub⟩, ⟨hsy, hws⟩⟩ := h
  cases a with
  | wAppend recs sync o =>
    -- the file may gain `g`; a new issue (failed or pending): `asc`, `hi`, `issued`, the status clauses
    simp only [step, stepWriter] at hs
    split at hs
    · rename_i hg
      obtain ⟨_, hwi, hrecs, _⟩ := hg
      rw [hwi] at hw hws hm1 hm3
      simp only at hw
      obtain ⟨g, hgd⟩ : ∃ g : Grp, g = ⟨s.seq + 1, recs, sync⟩ := ⟨_, rfl⟩
      rw [← hgd] at hs
      have hgr : g.recs ≠ [] := by rw [hgd]; exact hrecs
      have hgs : g.seq = s.seq + 1 := by rw [hgd]
      have hgf := Grp.seq_lt_fin hgr
      obtain ⟨jf', hj, hok, hde⟩ := exec_journal hjs (op := .writeJ s.jcur g) (f := (·.append g))
        (fun _ => by rw [hjc]; rfl) o
      obtain ⟨a1, a2, a3, a4, a5⟩ : AscFrom 0 jf'.all ∧ (∀ x ∈ jf'.all, x.fin ≤ g.fin) ∧
          (∀ x ∈ jf'.all, x ∈ jf.all ∨ x = g) ∧ (∀ x ∈ jf.all, x ∈ jf'.all) ∧ jf'.synced = jf.synced := by
        rcases hj with rfl | rfl
        · exact ⟨hasc, fun x hx => by have := hhi x hx; omega, fun x hx => Or.inl hx, fun x hx => hx, rfl⟩
        · rw [LogFile.append_all]
          refine ⟨hasc.snoc (Nat.zero_le _) hgr (fun x hx => by have := hhi x hx; omega), fun x hx => ?_,
            fun x hx => (List.mem_append.1 hx).imp id List.mem_singleton.1, fun x hx => List.mem_append_left _ hx, rfl⟩
          rcases List.mem_append.1 hx with h1 | h1
          · have := hhi x h1; omega
          · rw [List.mem_singleton.1 h1]; exact Nat.le_refl _
      rw [hde] at hs
      -- either way one more issue, not acknowledged; the writer stays idle (the call failed) or holds `g`
      obtain ⟨w', st, q', ef', hst, hcase, rfl, rfl⟩ : ∃ w' st q' ef', st ≠ Status.acked ∧
          (w' = .idle ∧ q' + 1 = g.fin ∨ w' = .appended g ∧ q' = s.seq ∧ g ∈ jf'.all) ∧
          s' = { s with w := w', issued := s.issued ++ [⟨g, st⟩], hi := g.fin, seq := q', everFailed := ef' } ∧
          d' = { d with journals := [(2, jf')] } := by
        rcases o.ok_or_failed with rfl | hf
        · simp only [Outcome.failed, Bool.false_eq_true, if_false, Option.some.injEq, Prod.mk.injEq] at hs
          exact ⟨_, _, _, _, by decide, Or.inr ⟨rfl, rfl, by rw [hok rfl, LogFile.append_all]; simp⟩, hs.1.symm, hs.2.symm⟩
        · simp only [hf, if_true, Option.some.injEq, Prod.mk.injEq] at hs
          exact ⟨s.w, _, _, _, by decide, Or.inl ⟨hwi, by omega⟩, hs.1.symm, hs.2.symm⟩
      have hpub' : ∀ x ∈ s.mem, x.fin ≤ s.seq + 1 := fun x hx => (hpub x hx).resolve_right (by rw [hwi]; nofun)
      refine ⟨jf', ⟨hph, hjc, hcur, hman, htab, rfl⟩, a1, ⟨a2, ?_⟩, ?_,
        ⟨fun x hx => ⟨a4 x (hm1 x hx).1, (hm1 x hx).2.imp (acked_append rfl hst).2 nofun⟩,
          fun x hx => hm2 x ((acked_append rfl hst).1 hx), ?_⟩, ⟨?_, ?_⟩,
        ⟨fun x hx hxs => a5 ▸ hsy x ((acked_append rfl hst).1 hx) hxs, ?_⟩⟩
      · rcases hcase with ⟨rfl, hq⟩ | ⟨rfl, rfl, _⟩
        · exact hq.symm
        · exact ⟨hgs, rfl, hgr⟩
      · intro x hx
        simp only [issuedGrps, List.map_append, List.mem_append]
        exact (a3 x hx).imp (hiss x) List.mem_singleton.2
      · rcases hcase with ⟨rfl, _⟩ | ⟨rfl, _⟩ <;> exact fun x hx => by cases hx
      · intro i hi
        simp only [List.mem_append, List.mem_singleton] at hi
        rcases hi with hi | rfl
        · obtain ⟨c1, c2⟩ := hfr i hi
          exact ⟨by show i.grp.fin ≤ g.fin; omega, c2⟩
        · exact ⟨Nat.le_refl _, hgr⟩
      · intro x hx
        have := hpub' x hx
        left
        rcases hcase with ⟨_, hq⟩ | ⟨_, rfl, _⟩
        · show x.fin ≤ q' + 1; omega
        · exact this
      · rcases hcase with ⟨rfl, _⟩ | ⟨rfl, _, hmem⟩
        · trivial
        · exact hmem
    · cases hs
  | wSync o =>
    -- the file may be synced (same records); on failure `g` becomes `failed`, its numbers consumed: `hi`, `mem`, `synced`
    simp only [step, stepWriter] at hs
    split at hs
    · rename_i g hwi
      rw [hwi] at hw hws hm1 hm3
      simp only at hw hws
      obtain ⟨hgs, hghi, hgr⟩ := hw
      split at hs
      · rename_i hsync
        obtain ⟨jf', hj, hok, hde⟩ := exec_journal hjs (op := .sync .journal s.jcur) (f := (·.sync))
          (fun _ => by rw [hjc]; rfl) o
        have hall : jf'.all = jf.all ∧ ∀ x ∈ jf.synced, x ∈ jf'.synced := by
          rcases hj with rfl | rfl
          · exact ⟨rfl, fun x hx => hx⟩
          · exact ⟨LogFile.sync_all _, fun x hx => by
              simp only [LogFile.sync, LogFile.all]; exact List.mem_append_left _ hx⟩
        obtain ⟨hall1, hall2⟩ := hall
        have hws0 := hws
        rw [← hall1] at hasc hhi hiss hm1 hws
        replace hsy := fun x hx hxs => hall2 x (hsy x hx hxs)
        rw [hde] at hs
        have hpub' : ∀ x ∈ s.mem, x.fin ≤ s.seq + 1 := fun x hx => (hpub x hx).resolve_right (by rw [hwi]; nofun)
        rcases o.ok_or_failed with rfl | hf
        rotate_left
        · simp only [hf, if_true] at hs
          cases hs
          have hgf := Grp.seq_lt_fin hgr
          -- `g` is the newest group, above the acknowledged ones
          have hgn : ¬ statusOf s g .acked := fun hx => by have := hpub' g (hm2 g hx); omega
          refine ⟨jf', ⟨hph, hjc, hcur, hman, htab, rfl⟩, hasc, ⟨hhi, ?_⟩, ?_,
            ⟨fun x hx => ⟨(hm1 x hx).1, (hm1 x hx).2.imp (acked_failed rfl hgn).2 id⟩,
              fun x hx => hm2 x ((acked_failed rfl hgn).1 hx), fun x hx => by cases hx⟩,
            ⟨forall_grp_setStatus (P := fun x => x.fin ≤ s.hi ∧ x.recs ≠ []) hfr, fun x hx => ?_⟩,
            ⟨fun x hx hxs => hsy x ((acked_failed rfl hgn).1 hx) hxs, trivial⟩⟩
          · show s.hi = g.fin - 1 + 1
            omega
          · intro x hx
            simp only [issuedGrps, issuedGrps_setStatus]
            exact hiss x hx
          · left; show x.fin ≤ g.fin - 1 + 1
            have := hpub' x hx; omega
        · simp only [Outcome.failed, Bool.false_eq_true, if_false] at hs
          cases hs
          refine ⟨jf', ⟨hph, hjc, hcur, hman, htab, rfl⟩, hasc, ⟨hhi, hgs, hghi, hgr⟩,
            hiss, ⟨hm1, hm2, fun x hx => by cases hx⟩, ⟨hfr, fun x hx => Or.inl (hpub' x hx)⟩, ⟨hsy, hws, fun _ => ?_⟩⟩
          rw [hok rfl]
          exact hws0
      · cases hs
    · cases hs
  | wApply =>
    -- `g` joins the write buffer: `mem`, `fresh`, `synced` for the writer's group
    -- from `appended` only a group without `Sync` is applied
    have key : ∀ g, (s.w = .appended g ∨ s.w = .synced g) → (s.w = .appended g → g.sync = false) →
        WInv { s with w := .applied g, mem := s.mem ++ [g] } d jf := by
      intro g hwg hns
      have hgall : g ∈ jf.all ∧ (s.w = .synced g → g.sync = true → g ∈ jf.synced) := by
        rcases hwg with e | e <;> rw [e] at hws <;> simp only at hws
        · exact ⟨hws, fun h => by rw [e] at h; cases h⟩
        · exact ⟨hws.1, fun _ => hws.2⟩
      have hwf : g.seq = s.seq + 1 ∧ s.hi = g.fin ∧ g.recs ≠ [] := by
        rcases hwg with e | e <;> rw [e] at hw <;> exact hw
      have hap : appliedNow s.w = [] := by rcases hwg with e | e <;> rw [e] <;> rfl
      refine ⟨⟨hph, hjc, hcur, hman, htab, hjs⟩, hasc, ⟨hhi, hwf⟩, hiss, ⟨?_, ?_, ?_⟩, ⟨hfr, ?_⟩, ⟨hsy, ?_⟩⟩
      · intro x hx
        rcases List.mem_append.1 hx with h1 | h1
        · exact ⟨(hm1 x h1).1, (hm1 x h1).2.imp id fun b => by rw [hap] at b; cases b⟩
        · simp only [List.mem_singleton] at h1
          subst h1
          exact ⟨hgall.1, Or.inr (List.mem_singleton.2 rfl)⟩
      · exact fun x hx => List.mem_append_left _ (hm2 x hx)
      · intro x hx
        simp only [appliedNow, List.mem_singleton] at hx
        subst hx
        exact List.mem_append_right _ (List.mem_singleton.2 rfl)
      · intro x hx
        rcases List.mem_append.1 hx with h1 | h1
        · exact Or.inl ((hpub x h1).resolve_right (by rcases hwg with e | e <;> rw [e] <;> nofun))
        · simp only [List.mem_singleton] at h1
          subst h1
          exact Or.inr rfl
      · refine ⟨hgall.1, fun hsy' => ?_⟩
        rcases hwg with e | e
        · rw [hns e] at hsy'; cases hsy'
        · exact hgall.2 e hsy'
    simp only [step, stepWriter] at hs
    split at hs
    · rename_i g hwi
      split at hs
      · cases hs
      · rename_i hns
        cases hs
        exact ⟨jf, key g (Or.inl hwi) fun _ => by simpa using hns⟩
    · rename_i g hwi
      cases hs
      exact ⟨jf, key g (Or.inr hwi) fun e => by rw [hwi] at e; cases e⟩
    · cases hs
  | wPublish =>
    -- `seq` moves to the end of `g`: `hi`, `fresh`
    simp only [step, stepWriter] at hs
    split at hs
    · rename_i g hwi
      cases hs
      rw [hwi] at hw hws hm1 hm3
      simp only at hw hws
      have hgf := Grp.seq_lt_fin hw.2.2
      refine ⟨jf, ⟨hph, hjc, hcur, hman, htab, hjs⟩, hasc, ⟨hhi, ?_⟩, hiss, ⟨hm1, hm2, hm3⟩, ⟨hfr, fun x hx => ?_⟩,
        ⟨hsy, hws⟩⟩
      · show s.hi = g.fin - 1 + 1
        omega
      · left
        show x.fin ≤ g.fin - 1 + 1
        rcases hpub x hx with h1 | h1
        · omega
        · rw [hwi] at h1; cases h1; omega
    · cases hs
  | wAck =>
    -- `g` becomes `acked`: the status clauses of `mem`, `synced`
    simp only [step, stepWriter] at hs
    split at hs
    · rename_i g hwi
      cases hs
      rw [hwi] at hw hws hm1 hm3
      simp only at hw hws
      have hgm : g ∈ s.mem := hm3 g (List.mem_singleton.2 rfl)
      have hgi : g ∈ issuedGrps s := hiss g hws.1
      refine ⟨jf, ⟨hph, hjc, hcur, hman, htab, hjs⟩, hasc, ⟨hhi, hw⟩, ?_,
        ⟨fun x hx => ⟨(hm1 x hx).1, Or.inl ((acked_acked rfl hgi).2 ((hm1 x hx).2.symm.imp List.mem_singleton.1 id))⟩,
          fun x hx => ((acked_acked rfl hgi).1 hx).elim (fun e => e ▸ hgm) (hm2 x), fun x hx => by cases hx⟩,
        ⟨forall_grp_setStatus (P := fun x => x.fin ≤ s.hi ∧ x.recs ≠ []) hfr,
          fun x hx => Or.inl ((hpub x hx).resolve_right (by rw [hwi]; nofun))⟩, ⟨?_, trivial⟩⟩
      · intro x hx
        simp only [issuedGrps, issuedGrps_setStatus]
        exact hiss x hx
      · intro x hx hxs
        rcases (acked_acked rfl hgi).1 hx with rfl | h1
        · exact hws.2 hxs
        · exact hsy x h1 hxs
    · cases hs
  | _ => cases ha


theorem winv_reachable {cfg : Cfg} (hc : cfg.consumeSeqOnJournalError = true) {s : St} {d : Disk}
    (h : ReachableW cfg (s, d)) : ∃ jf, WInv s d jf := by
  obtain ⟨as, hw, hr⟩ := h
  exact run_preserves (I := fun sd => ∃ jf, WInv sd.1 sd.2 jf) (fun _ _ _ _ _ ⟨_, hjf⟩ ha hs => winv_step hc hjf ha hs)
    ⟨_, winv_init⟩ as hw hr

/-- the storage of the write-path sub-protocol: the first manifest, no table, the one journal ascending -/
def WDisk (d : Disk) (jf : LogFile Grp) : Prop :=
  d.current = some 1 ∧ d.manifests = init.2.manifests ∧ d.tables = [] ∧ d.journals = [(2, jf)] ∧ AscFrom 0 jf.all

theorem WInv.disk {s : St} {d : Disk} {jf : LogFile Grp} (h : WInv s d jf) : WDisk d jf :=
  ⟨h.shape.2.2.1, h.shape.2.2.2.1, h.shape.2.2.2.2.1, h.shape.2.2.2.2.2, h.asc⟩

/-- a crash keeps a prefix of the journal; the manifest has no unsynced record to lose -/
theorem WDisk.crash {d : Disk} {jf : LogFile Grp} (h : WDisk d jf) (ch : CrashChoice) :
    WDisk (crashWith ch d) (crashLog (ch.cutJ 2) jf) := by
  obtain ⟨hcur, hman, htab, hjs, hasc⟩ := h
  refine ⟨hcur, ?_, by simp [crashWith, htab], by simp [crashWith, hjs], ?_⟩
  · simp only [crashWith, hman, init, List.map_cons, List.map_nil]
    cases ch.tornM 1 <;> simp [crashManifest, crashLog]
  · rw [(crashLog_all (ch.cutJ 2) jf).2.2] at hasc; exact hasc.of_append_left

/-- `Open` on such a storage replays every record of the journal -/
theorem WDisk.open_ok (cfg : Cfg) {d : Disk} {jf : LogFile Grp} (h : WDisk d jf) :
    ∃ r, recoverR cfg d = .ok r ∧ r.grps = jf.all := by
  obtain ⟨hcur, hman, htab, hjs, hasc⟩ := h
  have hview : (replayM cfg
      [{ snapshot := true, jn := some 0, sq := some 0, nf := 2 }, { jn := some 2, sq := some 0, nf := 3 }]).view? =
      some ⟨[], 2, 0, 3⟩ := by
    simp [replayM, MAcc.step, MAcc.view?, applyEdit]
  have hlk : lookup d.manifests 1 = some ⟨[{ snapshot := true, jn := some 0, sq := some 0, nf := 2 },
      { jn := some 2, sq := some 0, nf := 3 }], []⟩ := by rw [hman]; rfl
  have a1 := (replayJ_asc hasc).1
  have hjf : journalsFrom d 2 = [2] := by simp [journalsFrom, hjs, Files.nums, sortNums, insertNum]
  have hjr : journalRecs d [2] = jf.all := by simp [journalRecs, hjs, lookup]
  refine ⟨⟨⟨[], 2, 0, 3⟩, [2], [], jf.all, (replayJ 0 jf.all).2⟩, ?_, by simp [RState.grps]⟩
  unfold recoverR
  simp only [hcur, hlk, LogFile.all, List.append_nil, hview, hjf, hjr, tableGroups]
  simp only [LogFile.all] at a1 ⊢
  rw [a1]

end GoLevel.Dur

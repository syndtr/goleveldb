import GoLevel.Proofs.LSMLookup
/-!
# The merged input of a compaction (`mergeAll`) and the builder's drop rules (`build`)

On a sorted input the builder keeps, for every user key and every reader at `s ≥ minSeq`, the entry that
reader sees — except a tombstone dropped by rule (B), which hides nothing when no deeper source holds the key.
-/
namespace GoLevel

section merge
variable {c : UCmp} (hl : LawfulUCmp c)

theorem insertSorted_perm (e : Entry) (xs : List Entry) : (insertSorted c e xs).Perm (e :: xs) := by
  induction xs with
  | nil => exact List.Perm.refl _
  | cons x xs ih =>
    simp only [insertSorted]
    split
    · exact List.Perm.refl _
    · exact ((List.Perm.cons x ih).trans (List.Perm.swap e x xs))

theorem mem_insertSorted (e a : Entry) (xs : List Entry) : a ∈ insertSorted c e xs ↔ a = e ∨ a ∈ xs := by
  rw [(insertSorted_perm e xs).mem_iff, List.mem_cons]

include hl in
theorem insertSorted_sorted (e : Entry) (xs : List Entry) (hs : ESorted c xs)
    (hne : ∀ x ∈ xs, x.key ≠ e.key) : ESorted c (insertSorted c e xs) := by
  induction xs with
  | nil => simp [insertSorted]
  | cons x xs ih =>
    obtain ⟨hx, hxs⟩ := List.pairwise_cons.1 hs
    simp only [insertSorted]
    split
    · rename_i hlt
      exact List.pairwise_cons.2 ⟨List.forall_mem_cons.2 ⟨hlt, fun y hy => icmp_trans hl _ _ _ hlt (hx y hy)⟩, hs⟩
    · rename_i hlt
      have hxe : ecmp c x e = .lt :=
        (((icmp_ord hl).total e.key x.key).resolve_left hlt).resolve_left fun h => hne x (by simp) h.symm
      refine List.pairwise_cons.2 ⟨fun y hy => ?_, ih hxs (fun y hy => hne y (List.mem_cons_of_mem _ hy))⟩
      exact ((mem_insertSorted e y xs).1 hy).elim (· ▸ hxe) (hx y)

theorem foldl_insert_perm (l acc : List Entry) :
    (l.foldl (fun acc e => insertSorted c e acc) acc).Perm (l ++ acc) := by
  induction l generalizing acc with
  | nil => exact List.Perm.refl _
  | cons e l ih =>
    rw [List.foldl_cons]
    refine (ih _).trans ?_
    refine (List.Perm.append_left l (insertSorted_perm e acc)).trans ?_
    exact List.perm_middle

include hl in
theorem foldl_insert_sorted (l acc : List Entry) (hacc : ESorted c acc)
    (hd : (l ++ acc).Pairwise (fun a b => a.key ≠ b.key)) :
    ESorted c (l.foldl (fun acc e => insertSorted c e acc) acc) := by
  induction l generalizing acc with
  | nil => exact hacc
  | cons e l ih =>
    rw [List.foldl_cons]
    rw [List.cons_append] at hd
    have he := (List.pairwise_cons.1 hd).1
    apply ih
    · exact insertSorted_sorted hl e acc hacc (fun x hx => (he x (List.mem_append_right _ hx)).symm)
    · -- having different keys is symmetric, so it survives the permutation
      exact (List.Perm.pairwise_iff (fun {a b} (h : a.key ≠ b.key) => h.symm)
        ((List.Perm.append_left l (insertSorted_perm e acc)).trans List.perm_middle)).2 hd

theorem mergeAll_perm (tables : List Table) : (mergeAll c tables).Perm (tables.flatMap (·.entries)) := by
  have := foldl_insert_perm (c := c) (tables.flatMap (·.entries)) []
  simpa [mergeAll] using this

include hl in
theorem mergeAll_sorted (tables : List Table)
    (hd : (tables.flatMap (·.entries)).Pairwise (fun a b => a.key ≠ b.key)) :
    ESorted c (mergeAll c tables) := by
  apply foldl_insert_sorted hl _ [] List.Pairwise.nil
  simpa using hd

theorem mem_mergeAll (tables : List Table) (e : Entry) :
    e ∈ mergeAll c tables ↔ ∃ t ∈ tables, e ∈ t.entries := by
  rw [(mergeAll_perm tables).mem_iff, List.mem_flatMap]

end merge

/-- builder state after having processed `prev` -/
def stOf : Option Entry → BState
  | none => {}
  | some p => { lastKey := some p.ukey, lastSeq := some p.seq }

theorem bstep_fst (c : UCmp) (minSeq : Nat) (base : Bytes → Bool) (st : BState) (x : Entry) :
    (bstep c minSeq base st x).1 = stOf (some x) := rfl

/-- rule (A): the previous entry has the same user key and is already visible at `minSeq` -/
def Shadowed (minSeq : Nat) (prev : Option Entry) (e : Entry) : Prop :=
  ∃ p, prev = some p ∧ p.ukey = e.ukey ∧ p.seq ≤ minSeq

/-- rule (B): an old tombstone with nothing below it -/
def DropDel (minSeq : Nat) (base : Bytes → Bool) (e : Entry) : Prop :=
  e.kind = Gen.keyTypeDel ∧ e.seq ≤ minSeq ∧ base e.ukey = true

theorem bstep_snd {c : UCmp} (hl : LawfulUCmp c) (minSeq : Nat) (base : Bytes → Bool) (prev : Option Entry)
    (x : Entry) :
    (bstep c minSeq base (stOf prev) x).2 = true ↔ ¬ Shadowed minSeq prev x ∧ ¬ DropDel minSeq base x := by
  have hD : (decide (x.kind = Gen.keyTypeDel) && decide (x.seq ≤ minSeq) && base x.ukey) = true ↔
      DropDel minSeq base x := by
    simp only [DropDel, Bool.and_eq_true, decide_eq_true_eq, and_assoc]
  unfold bstep
  rw [Bool.not_eq_true', Bool.or_eq_false_iff, ← hD, Bool.not_eq_true]
  -- what is left is rule (A): the state after `prev` remembers its user key and sequence number
  apply and_congr_left'
  cases prev with
  | none => simp [stOf, Shadowed]
  | some p => by_cases hk : p.ukey = x.ukey <;> simp [stOf, Shadowed, hl.ord.eq_iff, hk]

theorem build_cons (c : UCmp) (minSeq : Nat) (base : Bytes → Bool) (st : BState) (x : Entry)
    (xs : List Entry) :
    build c minSeq base st (x :: xs) =
      if (bstep c minSeq base st x).2 = true then x :: build c minSeq base (stOf (some x)) xs
      else build c minSeq base (stOf (some x)) xs := rfl

theorem build_cons_drop {c : UCmp} (hl : LawfulUCmp c) {minSeq : Nat} {base : Bytes → Bool} {prev : Option Entry}
    {x : Entry} (xs : List Entry) (h : Shadowed minSeq prev x ∨ DropDel minSeq base x) :
    build c minSeq base (stOf prev) (x :: xs) = build c minSeq base (stOf (some x)) xs :=
  if_neg fun hk => h.elim ((bstep_snd hl minSeq base prev x).1 hk).1 ((bstep_snd hl minSeq base prev x).1 hk).2

theorem build_cons_keep {c : UCmp} (hl : LawfulUCmp c) {minSeq : Nat} {base : Bytes → Bool} {prev : Option Entry}
    {x : Entry} (xs : List Entry) (h1 : ¬ Shadowed minSeq prev x) (h2 : ¬ DropDel minSeq base x) :
    build c minSeq base (stOf prev) (x :: xs) = x :: build c minSeq base (stOf (some x)) xs :=
  if_pos ((bstep_snd hl minSeq base prev x).2 ⟨h1, h2⟩)

theorem build_sublist (c : UCmp) (minSeq : Nat) (base : Bytes → Bool) (es : List Entry) :
    ∀ st, (build c minSeq base st es).Sublist es := by
  induction es with
  | nil => intro st; exact List.Sublist.refl _
  | cons x xs ih =>
    intro st
    rw [build_cons]
    split
    · exact (ih _).cons_cons x
    · exact List.Sublist.cons x (ih _)

theorem build_subset (c : UCmp) (minSeq : Nat) (base : Bytes → Bool) (es : List Entry) (st : BState) :
    ∀ e ∈ build c minSeq base st es, e ∈ es :=
  fun _ he => (build_sublist c minSeq base es st).subset he

theorem build_sorted (c : UCmp) (minSeq : Nat) (base : Bytes → Bool) (es : List Entry) (st : BState)
    (hs : ESorted c es) : ESorted c (build c minSeq base st es) :=
  ESorted.sublist (build_sublist c minSeq base es st) hs

section build
variable {c : UCmp} (hl : LawfulUCmp c)
include hl

theorem build_drops (minSeq : Nat) (base : Bytes → Bool) (es : List Entry) (p : Entry)
    (hp : p.seq ≤ minSeq) (hs : ESorted c (p :: es)) :
    ∀ e ∈ build c minSeq base (stOf (some p)) es, e.ukey ≠ p.ukey := by
  induction es generalizing p with
  | nil => intro e he; cases he
  | cons x xs ih =>
    obtain ⟨hpx, hxs⟩ := List.pairwise_cons.1 hs
    obtain ⟨hx, hxs'⟩ := List.pairwise_cons.1 hxs
    intro e he
    by_cases hk : x.ukey = p.ukey
    · -- shadowed, dropped; continue with `x`
      rw [build_cons_drop hl xs (.inl ⟨p, rfl, hk.symm, hp⟩)] at he
      have hxseq : x.seq ≤ minSeq := by
        rcases (ecmp_lt_iff hl p x).1 (hpx x (by simp)) with h | ⟨_, h⟩
        · rw [hk] at h; exact absurd h (hl.ord.irrefl _)
        · have := Entry.seq_le_of_num_le (Nat.le_of_lt h); omega
      have := ih x hxseq hxs e he
      rwa [hk] at this
    · have hlt : c.lt p.ukey x.ukey := by
        rcases (ecmp_lt_iff hl p x).1 (hpx x (by simp)) with h | ⟨h, _⟩
        · exact h
        · exact absurd h.symm hk
      have hmem : e ∈ x :: xs := build_subset c minSeq base (x :: xs) _ e he
      have hle : c.le x.ukey e.ukey := ESorted.head_ule hl hxs e hmem
      intro heq
      rw [heq] at hle
      exact hl.ord.irrefl _ (hl.ord.lt_of_lt_of_le hlt hle)

/-- **Drop rules, per reader.**  For a reader at `s ≥ minSeq` the builder output shows the same newest
entry of `k` as its sorted input, or the input shows a tombstone that rule (B) dropped together with
everything older. -/
theorem build_newest (minSeq : Nat) (base : Bytes → Bool) (k : Bytes) (s : Nat) (hms : minSeq ≤ s)
    (es : List Entry) (prev : Option Entry) (hs : ESorted c es)
    (hprev : ∀ p, prev = some p → p.ukey = k → s < p.seq) :
    newest c (build c minSeq base (stOf prev) es) k s = newest c es k s ∨
    (∃ e, newest c es k s = some e ∧ DropDel minSeq base e ∧
      newest c (build c minSeq base (stOf prev) es) k s = none) := by
  induction es generalizing prev with
  | nil => exact .inl rfl
  | cons x xs ih =>
    obtain ⟨hx, hxs⟩ := List.pairwise_cons.1 hs
    have hsb := build_sorted c minSeq base (x :: xs) (stOf prev) hs
    by_cases hm : Matches c k s x
    · obtain ⟨hxk, hxseq⟩ := (matches_iff hl k s x).1 hm
      have hin := newest_cons_of_matches hl hs hm
      have hnsh : ¬ Shadowed minSeq prev x := by
        rintro ⟨p, hp, hpk, hpseq⟩
        have := hprev p hp (hpk.trans hxk); omega
      by_cases hd : DropDel minSeq base x
      · refine .inr ⟨x, hin, hd, ?_⟩
        rw [build_cons_drop hl xs (.inr hd), newest_eq_none_iff]
        intro e he hme
        have := build_drops hl minSeq base xs x hd.2.1 hs e he
        exact this (((matches_iff hl k s e).1 hme).1.trans hxk.symm)
      · left
        rw [hin]
        rw [build_cons_keep hl xs hnsh hd] at hsb ⊢
        exact newest_cons_of_matches hl hsb hm
    · have hb : newest c (build c minSeq base (stOf prev) (x :: xs)) k s
          = newest c (build c minSeq base (stOf (some x)) xs) k s := by
        rw [build_cons]
        split
        · exact newest_cons_of_not_matches _ hm
        · rfl
      rw [newest_cons_of_not_matches xs hm, hb]
      apply ih (some x) hxs
      intro p hp hpk
      have hpx : x = p := Option.some.inj hp
      subst hpx
      have : ¬ x.seq ≤ s := fun h => hm ((matches_iff hl k s x).2 ⟨hpk, h⟩)
      omega

omit hl in
theorem DropDel.hit {minSeq : Nat} {base : Bytes → Bool} {e : Entry} (h : DropDel minSeq base e) :
    e.hit = .deleted := by
  have : e.kind ≠ Gen.keyTypeVal := by rw [h.1]; decide
  simp [Entry.hit, this]

/-- **The builder preserves every admissible reader's view.**  `rest` are the sources searched after
the compacted ones (deeper levels); `base` may be true only for user keys none of them holds. -/
theorem build_view (minSeq : Nat) (base : Bytes → Bool) (es rest : List Entry) (hs : ESorted c es)
    (hnewer : NewerThan es rest)
    (hbase : ∀ e ∈ es, base e.ukey = true → ∀ r ∈ rest, r.ukey ≠ e.ukey)
    (k : Bytes) (s : Nat) (hms : minSeq ≤ s) :
    view c (build c minSeq base {} es ++ rest) k s = view c (es ++ rest) k s := by
  have hsub := build_subset c minSeq base es {}
  rw [← hitOf_toOption, ← hitOf_toOption, newest_append_of_newer hl _ _ hnewer,
    newest_append_of_newer hl _ _ (hnewer.mono hsub (fun _ h => h))]
  rcases build_newest hl minSeq base k s hms es none hs (by simp) with h | ⟨e, he, hd, hnone⟩
  · rw [show stOf none = ({} : BState) from rfl] at h
    rw [h]
  · rw [show stOf none = ({} : BState) from rfl] at hnone
    rw [hnone, he]
    have hrest : newest c rest k s = none := by
      rw [newest_eq_none_iff]
      intro r hr hm
      have hek := ((matches_iff hl k s e).1 (newest_matches he)).1
      exact hbase e (newest_mem he) hd.2.2 r hr (((matches_iff hl k s r).1 hm).1.trans hek.symm)
    simp only [hrest, Option.or_none, hitOf, hd.hit]
    rfl

theorem build_view_between (minSeq : Nat) (base : Bytes → Bool) (up es down : List Entry)
    (hs : ESorted c es) (hup : NewerThan up (es ++ down)) (hdown : NewerThan es down)
    (hbase : ∀ e ∈ es, base e.ukey = true → ∀ r ∈ down, r.ukey ≠ e.ukey)
    (k : Bytes) (s : Nat) (hms : minSeq ≤ s) :
    view c (up ++ (build c minSeq base {} es ++ down)) k s = view c (up ++ (es ++ down)) k s := by
  have hsub := build_subset c minSeq base es {}
  have hup' : NewerThan up (build c minSeq base {} es ++ down) := by
    apply hup.mono (fun _ h => h)
    intro e he
    rcases List.mem_append.1 he with h | h
    · exact List.mem_append_left _ (hsub e h)
    · exact List.mem_append_right _ h
  have := build_view hl minSeq base es down hs hdown hbase k s hms
  rw [← hitOf_toOption, ← hitOf_toOption] at this ⊢
  rw [newest_append_of_newer hl _ _ hup, newest_append_of_newer hl _ _ hup', hitOf_or, hitOf_or]
  cases newest c up k s with
  | some u => rfl
  | none => exact this

end build

end GoLevel

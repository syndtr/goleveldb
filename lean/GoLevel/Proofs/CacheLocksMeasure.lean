import GoLevel.Proofs.CacheLocksLive
/-! The lock-level cache system (C17): a weight for the work a thread still has to do inside its
`r.mu.RLock()` section.  Every instruction weighs more than what it pushes; the only state-dependent weight is
that of `lru.Promote` (it may release every handle on the LRU list), bounded through `B` ≥ the length of the list
plus the number of `Promote`s still to come. -/
namespace GoLevel.CacheL
open GoLevel.CacheM

/-- Instructions that lead to an `lru.Promote` (which can lengthen the LRU list by one). -/
def promoteLike : Instr → Bool
  | .bget _ (.get _) => true
  | .setv _ _ => true
  | .promote _ => true
  | _ => false

def wt (B : Nat) : Instr → Nat
  | .extz _ _ => 3
  | .unrefExt _ => 4
  | .unrefInt _ => 2
  | .levict _ => 5
  | .ban _ => 5
  | .relH _ => 5
  | .promote _ => 4 * B + 6
  | .setv _ _ => 4 * B + 7
  | .bget _ _ => 4 * B + 12
  | .setcap _ => 4 * B + 1
  | _ => 1

def tw (B : Nat) (T : List Instr) : Nat := (T.map (wt B)).sum

theorem tw_mono {B' B : Nat} (h : B' ≤ B) (T : List Instr) : tw B' T ≤ tw B T := by
  induction T with
  | nil => simp [tw]
  | cons a T ih =>
    have : wt B' a ≤ wt B a := by cases a <;> simp [wt] <;> omega
    simp only [tw, List.map_cons, List.sum_cons] at ih ⊢; omega

@[simp] theorem tw_nil (B : Nat) : tw B [] = 0 := rfl
@[simp] theorem tw_cons (B : Nat) (i : Instr) (T : List Instr) : tw B (i :: T) = wt B i + tw B T := by
  simp [tw]
@[simp] theorem tw_append (B : Nat) (S T : List Instr) : tw B (S ++ T) = tw B S + tw B T := by
  simp [tw, List.sum_append]

@[simp] theorem tw_map_unrefExt (B : Nat) (l : List Nat) : tw B (l.map Instr.unrefExt) = 4 * l.length := by
  induction l with
  | nil => rfl
  | cons a l ih => simp [wt, ih]; omega

theorem tw_map_levict {α : Type} (B : Nat) (f : α → Nat) (l : List α) :
    tw B (l.map fun a => Instr.levict (f a)) = 5 * l.length := by
  induction l with
  | nil => rfl
  | cons a l ih => simp [wt, ih]; omega

theorem evictTail_len {ns : List Node} {cap : Nat} {l : List Nat} {used : Nat} {r : List Nat × Nat × List Nat × Bool}
    (hr : evictTail ns cap l used = r) : r.2.2.1.length + r.1.length = l.length := by
  have := congrArg List.length (evictTail_split hr)
  simpa using this

theorem countP_pl_zero {l : List Instr} (h : ∀ j ∈ l, promoteLike j = false) : l.countP promoteLike = 0 := by
  rw [List.countP_eq_zero]; intro j hj; simp [h j hj]

/-- The exceptions are `Close` and the `RLock` of a call (`enter`), whose pushes depend on the number of nodes: they
are never inside a section. -/
theorem step_measure {sh sh' : Shared} {i : Instr} {push evs}
    (he : exec sh i = some (sh', push, evs)) (hen : isEnter i = false) :
    sh'.lru.recent.length + push.countP promoteLike ≤ sh.lru.recent.length + (if promoteLike i then 1 else 0) ∧
    (isCloseLock i = false → ∀ B, sh.lru.recent.length + (if promoteLike i then 1 else 0) ≤ B →
      tw B push < wt B i) := by
  cases exec_spec he <;> clear he
  case promoteAdmit id n r _ _ _ hr =>
    have h1 := evictTail_len hr
    refine ⟨?_, fun _ B hB => ?_⟩
    · rw [List.countP_append, countP_pl_zero (by intro j hj; obtain ⟨_, _, rfl⟩ := List.mem_map.mp hj; rfl)]
      simp [promoteLike] at h1 ⊢; omega
    · simp [promoteLike] at hB
      simp [wt] at h1 ⊢; omega
  case setcap c r hr =>
    have h1 := evictTail_len hr
    refine ⟨?_, fun _ B hB => ?_⟩
    · rw [countP_pl_zero (by intro j hj; obtain ⟨_, _, rfl⟩ := List.mem_map.mp hj; rfl)]
      simp at h1 ⊢; omega
    · simp [promoteLike] at hB
      simp [wt] at h1 ⊢; omega
  case close f _ _ =>
    refine ⟨?_, fun hcl => by simp [isCloseLock] at hcl⟩
    rw [countP_pl_zero fun j hj => by rcases mem_closeInstrs hj with ⟨_, rfl⟩ | ⟨_, rfl⟩ | ⟨_, rfl⟩ <;> rfl]
    simp
  -- every other path pushes a fixed list: both parts are arithmetic on literals
  all_goals first
    | (simp [isEnter] at hen; done)
    | (refine ⟨?_, fun hcl B hB => ?_⟩
       · simp [promoteLike]
         first
          | done
          | omega
          | (have := List.length_erase_le (a := (by assumption : Nat)) (l := sh.lru.recent); omega)
       · simp [wt]
         first
          | done
          | omega
          | (simp_all; done))

end GoLevel.CacheL

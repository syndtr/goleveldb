import GoLevel.Proofs.WriteProtoGInv
import GoLevel.Proofs.WriteProtoLive
/-! Who belongs to a group.  First what a step does to one thread record (`step_keeps` with the relation `Keeps`,
`step_members`): all constructors but the one that touches a field leave it as it is by `rfl`; that `returned` is absorbing
and where a new `acc` comes from (`step_acc`) are read off `Keeps`.  Then the invariants about `members` (`Tie`, `Nd`, `RM`,
`AM`) and the sequence numbers (`SeqOk`). -/
namespace GoLevel.WP

@[simp] theorem accept_members (c : Cfg) (l : Thread) (i : Nat) (w : Thread) (st : List Rec) :
    (l.accept c i w st).members = l.members ++ [memOf i w] := rfl
@[simp] theorem accept_gseq (c : Cfg) (l : Thread) (i : Nat) (w : Thread) (st : List Rec) :
    (l.accept c i w st).gseq = l.gseq := rfl

def isReplying : Pc → Bool
  | .lead .replying _ _ => true | _ => false

/-- what no step changes in a thread record: the call's data and kind; `acc` changes only when the reply arrives, to the
replying leader; the caller's batch is left alone (merged records go to `ourBatch`); a thread that has returned is not
touched again -/
def Keeps (s : St) (w w' : Thread) : Prop :=
  (∀ i, memOf i w' = memOf i w) ∧ w'.kind = w.kind ∧
    (w'.acc = w.acc ∨ w.pc = .waitMerged ∧ ∃ j l, w'.acc = some j ∧ s.ws[j]? = some l ∧ isReplying l.pc = true) ∧
    (s.cfg.appendOur = true → w'.cb = w.cb) ∧ ∀ r, w.pc = .returned r → w' = w

theorem Keeps.refl (s : St) (w : Thread) : Keeps s w w := ⟨fun _ => rfl, rfl, .inl rfl, fun _ => rfl, fun _ _ => rfl⟩

theorem step_keeps (s t : St) (h : Step s t) (i : Nat) (w : Thread) (hi : s.ws[i]? = some w) :
    ∃ w', t.ws[i]? = some w' ∧ Keeps s w w' := by
  cases h with
  | publish j l m o rot hj hp hrot =>
    cases rot <;> refine rel_set (Keeps.refl _) hj ?_ hi <;>
      exact ⟨fun _ => rfl, rfl, .inl rfl, fun _ => rfl, fun r h => by simp [hp] at h⟩
  | reply k j x l m o hj hk hp hq =>
    exact rel_set2 (Keeps.refl _) hj hk
      (by exact ⟨fun _ => rfl, rfl, .inl rfl, fun _ => rfl, fun r h => by simp [hp] at h⟩)
      (by exact ⟨fun _ => rfl, rfl, .inr ⟨hq, j, l, rfl, hj, by rw [hp]; rfl⟩, fun _ => rfl, fun r h => by simp [hq] at h⟩) hi
  | recvAccept k j x l m g hj hk hp hm hl' hq hkd hwm hsz =>
    exact rel_set2 (Keeps.refl _) hj hk
      (by exact ⟨fun _ => rfl, rfl, .inl rfl,
        fun hc => by show l.acceptCb s.cfg x = l.cb; simp [Thread.acceptCb, hc], fun r h => by simp [hp] at h⟩)
      (by exact ⟨fun _ => rfl, rfl, .inl rfl, fun _ => rfl, fun r h => by simp [hq] at h⟩) hi
  | _ =>
    first
    | refine rel_set (Keeps.refl _) (by assumption) ?_ hi
      exact ⟨fun _ => rfl, rfl, .inl rfl, fun _ => rfl, fun r h => by simp [*] at h⟩
    | refine rel_set2 (Keeps.refl _) (by assumption) (by assumption) ?_ ?_ hi <;>
        exact ⟨fun _ => rfl, rfl, .inl rfl, fun _ => rfl, fun r h => by simp [*] at h⟩

theorem returned_absorbing (s t : St) (h : Step s t) (i : Nat) (w : Thread) (r : Res)
    (hi : s.ws[i]? = some w) (hp : w.pc = .returned r) : t.ws[i]? = some w := by
  obtain ⟨w', hi', k⟩ := step_keeps s t h i w hi
  rw [hi', k.2.2.2.2 r hp]

theorem result_once (s t : St) (h : Steps s t) (i : Nat) (w : Thread) (r : Res)
    (hi : s.ws[i]? = some w) (hp : w.pc = .returned r) : t.ws[i]? = some w :=
  h.keeps (P := fun u => u.ws[i]? = some w) (fun _ _ h hi => returned_absorbing _ _ h i w r hi hp) hi

theorem step_members (s t : St) (h : Step s t) (jj : Nat) (l' : Thread) (hj' : t.ws[jj]? = some l') :
    ∃ l, s.ws[jj]? = some l ∧ (l'.members = l.members ∨
      ∃ (i : Nat) (w : Thread), s.ws[i]? = some w ∧ w.pc = .selecting ∧ w.kind = .writer ∧
        t.ws[i]? = some (w.setPc .waitMerged) ∧ isReplying l'.pc = true ∧ l'.members = l.members ++ [memOf i w]) := by
  revert jj l'
  cases h with
  | recvAccept i j w l m g hj hi hp hm hl' hq hk hwm hsz =>
    exact forall_set2 ⟨l, hj, .inr ⟨i, w, hi, hq, hk, get_set2_left hi, rfl, rfl⟩⟩
      ⟨w, hi, .inl rfl⟩ fun a x _ _ hx => ⟨x, hx, .inl rfl⟩
  | publish j l m o rot hj hp hrot =>
    cases rot <;> exact forall_set ⟨l, hj, .inl rfl⟩ fun a x _ hx => ⟨x, hx, .inl rfl⟩
  | _ =>
    first
    | exact forall_set ⟨_, by assumption, .inl (by rfl)⟩ fun a x _ hx => ⟨x, hx, .inl rfl⟩
    | exact forall_set2 ⟨_, by assumption, .inl (by rfl)⟩ ⟨_, by assumption, .inl (by rfl)⟩ fun a x _ _ hx => ⟨x, hx, .inl rfl⟩

theorem step_acc (s t : St) (h : Step s t) (i : Nat) (w' : Thread) (jj : Nat) (hi' : t.ws[i]? = some w')
    (ha : w'.acc = some jj) :
    ∃ w, s.ws[i]? = some w ∧ memOf i w' = memOf i w ∧
      (w.acc = some jj ∨ (w.pc = .waitMerged ∧ ∃ l, s.ws[jj]? = some l ∧ isReplying l.pc = true)) := by
  obtain ⟨w, hi, _⟩ := step_members s t h i w' hi'
  obtain ⟨w2, h2, k⟩ := step_keeps s t h i w hi
  rw [hi'] at h2; cases h2
  refine ⟨w, hi, k.1 i, ?_⟩
  rcases k.2.2.1 with e | ⟨hp, j, l, e, hj, hr⟩
  · exact .inl (e ▸ ha)
  · rw [ha] at e; cases e; exact .inr ⟨hp, l, hj, hr⟩

/-- between leaving the merge loop and `db.addSeq` -/
def inGroup : Pc → Bool
  | .lead .journal _ _ => true | .lead .apply _ _ => true | .lead .publish _ _ => true | _ => false

def RM (s : St) : Prop :=
  ∀ (i : Nat) (w : Thread) (j : Nat) (l : Thread), s.ws[i]? = some w → w.pc = .waitMerged →
    s.ws[j]? = some l → isReplying l.pc = true → memOf i w ∈ l.members

def AM (s : St) : Prop :=
  ∀ (j : Nat) (l : Thread), s.ws[j]? = some l → ∀ (i : Nat) (w : Thread), s.ws[i]? = some w → w.acc = some j →
    memOf i w ∈ l.members

theorem holds_of_isReplying (p : Pc) (h : isReplying p = true) : 0 < holds p := by
  cases p with
  | lead ph m o => cases ph <;> simp_all [isReplying, holds]
  | _ => simp [isReplying] at h

theorem holds_of_inGroup (p : Pc) (h : inGroup p = true) : 0 < holds p := by
  cases p with
  | lead ph m o => cases ph <;> simp_all [inGroup, holds]
  | _ => simp [inGroup] at h

theorem no_wm_merging (s : St) (c : CInv s) (j : Nat) (l : Thread) (m : Nat) (hj : s.ws[j]? = some l)
    (hp : l.pc = .lead .merging m false) (a : Nat) (x : Thread) (ha : s.ws[a]? = some x) :
    x.pc ≠ .waitMerged := by
  intro hpc
  -- somebody owes the reply; it holds the lock, so it is `l`, which owes none
  obtain ⟨b, y, hb, hy⟩ := exists_of_balance c.replies.symm ha (by rw [hpc]; exact Nat.one_pos)
  have := holder_unique s c b j y l hb hj (Nat.lt_of_lt_of_le hy (pendReply_le_holds _)) (lead_holds hp)
  subst this; rw [hj] at hb; cases hb; rw [hp] at hy; cases hy

theorem rm_set {s t : St} (rm : RM s) {k : Nat} {v : Thread} (hws : t.ws = s.ws.set k v)
    (h1 : v.pc ≠ .waitMerged) (h2 : isReplying v.pc = false) : RM t := by
  intro a x b y hx hxp hy hyr
  rw [hws] at hx hy
  rcases getElem?_set_cases hx with ⟨_, rfl⟩ | ⟨_, hx⟩
  · exact absurd hxp h1
  rcases getElem?_set_cases hy with ⟨_, rfl⟩ | ⟨_, hy⟩
  · rw [h2] at hyr; cases hyr
  exact rm a x b y hx hxp hy hyr

theorem rm_set2 {s t : St} (rm : RM s) {i j : Nat} {l' w' : Thread} (hws : t.ws = set2 s.ws j l' i w')
    (h1 : l'.pc ≠ .waitMerged) (h2 : w'.pc ≠ .waitMerged) (h3 : isReplying l'.pc = false)
    (h4 : isReplying w'.pc = false) : RM t :=
  rm_set (s := { s with ws := s.ws.set j l' }) (rm_set rm rfl h1 h3) hws h2 h4

theorem step_rm (s t : St) (h : Step s t) (c : CInv s) (rm : RM s) : RM t := by
  cases h with
  | recvAccept i j w l m g hj hi hp hm hl' hq hk hwm hsz =>
    intro a x b y hx hxp hy hyr
    have e1 : a = i ∧ memOf a x = memOf i w := by
      revert hxp; revert a x
      exact forall_set2 (fun h => by simp at h) (fun _ => ⟨rfl, rfl⟩) fun a x _ _ hx hxp =>
        absurd hxp (no_wm_merging s c j l m hj hp a x hx)
    have e2 : y.members = l.members ++ [memOf i w] := by
      revert hyr; revert b y
      exact forall_set2 (fun _ => rfl) (fun h => by simp [isReplying] at h) fun b y _ hbj hy hr =>
        absurd (not_holder c hj (lead_holds hp) hy hbj) (Nat.pos_iff_ne_zero.mp (holds_of_isReplying _ hr))
    obtain ⟨rfl, e1⟩ := e1
    rw [e2, e1]
    exact List.mem_append_right _ (List.mem_singleton.mpr rfl)
  | recvOverflow i j w l m hj hi hp hm hl' hq hk hwm hsz =>
    intro a x b y _ _ hy hyr
    revert hyr; revert b y
    exact forall_set2 (fun h => by simp [isReplying] at h) (fun h => by simp [isReplying] at h) fun b y _ hbj hy hr =>
      absurd (not_holder c hj (lead_holds hp) hy hbj) (Nat.pos_iff_ne_zero.mp (holds_of_isReplying _ hr))
  | publish j l m o rot hj hp hrot => cases rot <;> exact rm_set rm rfl (by simp) rfl
  | _ =>
    first
    | exact rm_set rm rfl (by simp) rfl
    | exact rm_set2 rm rfl (by simp) (by simp) rfl rfl

theorem step_am (s t : St) (h : Step s t) (rm : RM s) (am : AM s) : AM t := by
  intro j l' hj' i w' hi' ha
  obtain ⟨w, hi, hmo, hc⟩ := step_acc s t h i w' j hi' ha
  obtain ⟨l, hj, hm⟩ := step_members s t h j l' hj'
  have : memOf i w ∈ l.members := hc.elim (am j l hj i w hi) fun ⟨hp, l0, hj0, hr⟩ =>
    rm i w j l hi hp hj (by rw [hj] at hj0; cases hj0; exact hr)
  rw [hmo]
  rcases hm with hm | ⟨_, _, _, _, _, _, _, hm⟩ <;> rw [hm]
  · exact this
  · exact List.mem_append_left _ this

@[simp] theorem accept_gn (c : Cfg) (l : Thread) (i : Nat) (w : Thread) (st : List Rec) :
    (l.accept c i w st).gn = l.gn := rfl

/-- the sequence numbers of a group: from the end of the merge loop to `db.addSeq` nobody else moves `db.seq`, so
`gseq` stays `db.seq + 1`, and what `addSeq` publishes is `gseq + gn - 1` -/
def SeqOk (seq : Nat) (l : Thread) : Prop :=
  (inGroup l.pc = true → l.gseq = seq + 1) ∧ ∀ p, l.pub = some p → p + 1 = l.gseq + l.gn

theorem step_seq (s t : St) (h : Step s t) (c : CInv s) (h1 : ∀ (i : Nat) (w : Thread), s.ws[i]? = some w → Loc w)
    (inv : ∀ (a : Nat) (x : Thread), s.ws[a]? = some x → SeqOk s.seq x) :
    ∀ (a : Nat) (x : Thread), t.ws[a]? = some x → SeqOk t.seq x := by
  have nopub : ∀ {j : Nat} {l : Thread} {m : Nat} {o : Bool}, s.ws[j]? = some l → l.pc = .lead .merging m o →
      ∀ p, l.pub = some p → p + 1 = s.seq + 1 + l.flat.length := by
    intro j l m o hj hp p h; cases (loc_at hp (h1 j l hj)).2.2.2.2.symm.trans h
  -- `db.seq` moves: the other threads are not between the merge loop and `addSeq`, since they do not hold the lock
  have others : ∀ {j : Nat} {l : Thread} {ph : Ph} {m : Nat} {o : Bool} {q : Nat}, s.ws[j]? = some l →
      l.pc = .lead ph m o → ∀ (a : Nat) (x : Thread), a ≠ j → s.ws[a]? = some x → SeqOk q x :=
    fun hj hp a x hne hx => ⟨fun hg => absurd (not_holder c hj (lead_holds hp) hx hne)
      (Nat.pos_iff_ne_zero.mp (holds_of_inGroup _ hg)), (inv a x hx).2⟩
  cases h with
  | recvOverflow i j w l m hj hi hp hm hl' hq hk hwm hsz =>
    exact inv_set2 inv hj hi (fun _ => ⟨fun _ => rfl, nopub (l := l) hj hp⟩) fun H => ⟨fun h => by simp [inGroup] at h, H.2⟩
  | mergeDone j l m o hj hp => exact inv_set inv hj fun _ => ⟨fun _ => rfl, nopub (l := l) hj hp⟩
  | journalOk j l m o hj hp | apply j l m o hj hp =>
    exact inv_set inv hj fun H => ⟨fun _ => H.1 (by rw [hp]; rfl), H.2⟩
  | journalFail j l m o hj hp =>
    exact forall_set ⟨fun h => by simp [inGroup] at h, (inv j l hj).2⟩ (others hj hp)
  | publish j l m o rot hj hp hrot =>
    have := (inv j l hj).1 (by rw [hp]; rfl)
    cases rot <;> exact forall_set ⟨fun h => by simp [inGroup] at h, fun p (h : some (s.seq + l.gn) = some p) => by
      cases h; show s.seq + l.gn + 1 = l.gseq + l.gn; omega⟩ (others hj hp)
  | _ =>
    first
    | exact inv_set inv (by assumption) (by intro H; exact ⟨fun h => by simp [inGroup] at h, H.2⟩)
    | exact inv_set2 inv (by assumption) (by assumption) (by intro H; exact ⟨fun h => by simp [inGroup] at h, H.2⟩)
        (by intro H; exact ⟨fun h => by simp [inGroup] at h, H.2⟩)

/-- writer `w` belongs to the group of the leader `l` at index `j` -/
def Rel (j : Nat) (w l : Thread) : Prop :=
  w.acc = some j ∨ (w.pc = .waitMerged ∧ isReplying l.pc = true)

theorem rel_keep {ws : List Thread} {a b k : Nat} {x y u v x' y' : Thread} (hx : ws[a]? = some x)
    (hy : ws[b]? = some y) (hxp : x.pc = .waitMerged) (hyr : isReplying y.pc = true) (hk : ws[k]? = some u)
    (h1 : u.pc ≠ .waitMerged) (h2 : isReplying u.pc = false) (hx' : (ws.set k v)[a]? = some x')
    (hy' : (ws.set k v)[b]? = some y') : Rel b x' y' := by
  rw [get_set_ne ws a k v x u hx hk (by rw [hxp]; exact Ne.symm h1)] at hx'
  rw [get_set_ne ws b k v y u hy hk (fun e => by rw [e, h2] at hyr; cases hyr)] at hy'
  cases hx'; cases hy'; exact .inr ⟨hxp, hyr⟩

theorem step_rel (s t : St) (h : Step s t) (c : CInv s) (h1 : ∀ (i : Nat) (w : Thread), s.ws[i]? = some w → Loc w)
    (a b : Nat) (x y x' y' : Thread) (hxs : s.ws[a]? = some x) (hys : s.ws[b]? = some y) (hr : Rel b x y) :
    t.ws[a]? = some x' → t.ws[b]? = some y' → Rel b x' y' := by
  intro hx' hy'
  rcases hr with hacc | ⟨hxp, hyr⟩
  · -- `acc`, once set, is never changed: only the reply to a `waitMerged` writer sets it, and that writer has none
    obtain ⟨x2, h2, k⟩ := step_keeps s t h a x hxs
    rw [hx'] at h2; cases h2
    rcases k.2.2.1 with e | ⟨hp, _⟩
    · exact .inl (e.trans hacc)
    · cases (loc_at hp (h1 a x hxs)).2.1.symm.trans hacc
  -- `y` holds the lock and is replying: of the leader's steps only `reply` is possible, and it is to `x`
  have same : ∀ {j : Nat} {l : Thread} {ph : Ph} {m : Nat} {o : Bool}, s.ws[j]? = some l → l.pc = .lead ph m o →
      ph = .replying := by
    intro j l ph m o hj hp
    have := holder_unique s c j b l y hj hys (lead_holds hp) (holds_of_isReplying _ hyr)
    subst this; rw [hj] at hys; cases hys
    rw [hp] at hyr; cases ph <;> first | rfl | cases hyr
  cases h with
  | reply i j w l m o hj hi hp hq =>
    have hwm : tot isWM s.ws ≤ 1 := waitMerged_le_one s c
    have := unique_of_tot_le_one isWM s.ws hwm rfl i a w x hi hxs (by simp [hq, isWM]) (by simp [hxp, isWM])
    subst this
    rw [get_set2_left hi] at hx'; cases hx'
    have := holder_unique s c j b l y hj hys (lead_holds hp) (holds_of_isReplying _ hyr)
    subst this; exact .inl rfl
  | recvAccept i j w l m g hj hi hp hm hl' hq hk hwm hsz
  | recvOverflow i j w l m hj hi hp hm hl' hq hk hwm hsz | ack i j w l k m o r hj hi hp hq
  | handoff i j w l m r g hj hi hp hq hc => cases same hj hp
  | _ => exact rel_keep hxs hys hxp hyr (by assumption) (by simp [*]) (by simp [*, isReplying]) hx' hy'

/-- `members` records threads: every message is that of a writer thread which `acc`s this leader or still waits for
its reply -/
def Tie (s : St) : Prop :=
  ∀ (j : Nat) (l : Thread) (e : Mem), s.ws[j]? = some l → e ∈ l.members →
    ∃ w, s.ws[e.idx]? = some w ∧ memOf e.idx w = e ∧ w.kind = .writer ∧ Rel j w l

def Nd (s : St) : Prop :=
  ∀ (j : Nat) (l : Thread), s.ws[j]? = some l → (l.members.map (·.idx)).Nodup

theorem step_tie (s t : St) (h : Step s t) (c : CInv s)
    (h1 : ∀ (i : Nat) (w : Thread), s.ws[i]? = some w → Loc w) (inv : Tie s) : Tie t := by
  intro j l' e hj' he
  obtain ⟨l, hj, hm⟩ := step_members s t h j l' hj'
  have old : e ∈ l.members → ∃ w, t.ws[e.idx]? = some w ∧ memOf e.idx w = e ∧ w.kind = .writer ∧ Rel j w l' := by
    intro he
    obtain ⟨w, hw, h2, h3, hr⟩ := inv j l e hj he
    obtain ⟨w', hw', k⟩ := step_keeps s t h e.idx w hw
    exact ⟨w', hw', (k.1 _).trans h2, k.2.1.trans h3, step_rel s t h c h1 e.idx j w l w' l' hw hj hr hw' hj'⟩
  rcases hm with hm | ⟨i, w, _, _, hk, hi', hrp, hm⟩
  · rw [hm] at he; exact old he
  · rw [hm] at he
    rcases List.mem_append.mp he with he | he
    · exact old he
    · cases List.mem_singleton.mp he
      exact ⟨_, hi', rfl, hk, .inr ⟨rfl, hrp⟩⟩

theorem step_nd (s t : St) (h : Step s t) (h1 : ∀ (i : Nat) (w : Thread), s.ws[i]? = some w → Loc w) (tie : Tie s)
    (inv : Nd s) : Nd t := by
  intro j l' hj'
  obtain ⟨l, hj, hm⟩ := step_members s t h j l' hj'
  rcases hm with hm | ⟨i, w, hi, hq, _, _, _, hm⟩
  · rw [hm]; exact inv j l hj
  · rw [hm, List.map_append, List.nodup_append]
    refine ⟨inv j l hj, by simp, ?_⟩
    intro a ha b hb
    simp only [List.map_cons, List.map_nil, List.mem_singleton, memOf] at hb
    subst hb
    obtain ⟨e, he, rfl⟩ := List.mem_map.mp ha
    -- the new member was still selecting: it had no `acc` and did not wait for a reply
    obtain ⟨w0, hw0, _, _, hr⟩ := tie j l e hj he
    intro heq
    rw [heq, hi] at hw0; cases hw0
    rcases hr with ha | ⟨hp, _⟩
    · rw [acc_none (h1 _ w hi) (by simp [hq]) (by simp [hq])] at ha; cases ha
    · rw [hq] at hp; cases hp

end GoLevel.WP

import GoLevel.Model.Manifest
import GoLevel.Proofs.Bytes
/-!
Round trip of the session-record codec (`Model/Manifest.lean`).
-/
namespace GoLevel.Manifest
open GoLevel.Gen (recComparer recJournalNum recNextFileNum recSeqNum recCompPtr recDelTable recAddTable
  recPrevJournalNum)

theorem tags_eq : recComparer = 1 ∧ recJournalNum = 2 ∧ recNextFileNum = 3 ∧ recSeqNum = 4 ∧ recCompPtr = 5 ∧
    recDelTable = 6 ∧ recAddTable = 7 ∧ recPrevJournalNum = 9 := by decide

/-- what `sessionRecord.encode` can write and `decode` accepts: file numbers and sizes are `int64`,
    the sequence number and levels `uint64`, byte strings have a 64-bit length -/
def Field.valid : Field → Prop
  | .comparer name => name.length < 2 ^ 64
  | .journalNum n => n < 2 ^ 63
  | .nextFileNum n => n < 2 ^ 63
  | .seqNum n => n < 2 ^ 64
  | .compPtr l k => l < 2 ^ 64 ∧ k.length < 2 ^ 64
  | .delTable l n => l < 2 ^ 64 ∧ n < 2 ^ 63
  | .addTable t => t.level < 2 ^ 64 ∧ t.num < 2 ^ 63 ∧ t.size < 2 ^ 63 ∧ t.imin.length < 2 ^ 64 ∧
      t.imax.length < 2 ^ 64
  | .prevJournalNum n => n < 2 ^ 63

def SessionRecord.valid (r : SessionRecord) : Prop := r.prevJournalNum = none ∧ ∀ f ∈ r.fields, f.valid

theorem rdUvarint_append (x : Nat) (rest : Bytes) (h : x < 2 ^ 64) :
    rdUvarint (uvarint x ++ rest) = .ok (x, rest) := by
  simp [rdUvarint, readUvarint_uvarint_append x rest h]

theorem rdVarint_append (x : Nat) (rest : Bytes) (h : x < 2 ^ 63) :
    rdVarint (uvarint x ++ rest) = .ok (x, rest) := by
  simp [rdVarint, rdUvarint_append x rest (by omega), h]

theorem rdBytes_append (c : Bool) (x rest : Bytes) (h : x.length < 2 ^ 64) :
    rdBytes c (putBytes x ++ rest) = .ok (x, rest) := by
  simp [rdBytes, putBytes, rdUvarint_append x.length _ h, List.take_left']

def Field.tag : Field → Nat
  | .comparer _ => recComparer
  | .journalNum _ => recJournalNum
  | .nextFileNum _ => recNextFileNum
  | .seqNum _ => recSeqNum
  | .compPtr _ _ => recCompPtr
  | .delTable _ _ => recDelTable
  | .addTable _ => recAddTable
  | .prevJournalNum _ => recPrevJournalNum

def Field.payload : Field → Bytes
  | .comparer name => putBytes name
  | .journalNum n => uvarint n
  | .nextFileNum n => uvarint n
  | .seqNum n => uvarint n
  | .compPtr l k => uvarint l ++ putBytes k
  | .delTable l n => uvarint l ++ uvarint n
  | .addTable t => uvarint t.level ++ uvarint t.num ++ uvarint t.size ++ putBytes t.imin ++ putBytes t.imax
  | .prevJournalNum n => uvarint n

theorem Field.encode_eq (f : Field) : f.encode = uvarint f.tag ++ f.payload := by
  cases f <;> simp [Field.encode, Field.tag, Field.payload, List.append_assoc]

theorem Field.tag_lt (f : Field) : f.tag < 2 ^ 64 := by
  obtain ⟨h1, h2, h3, h4, h5, h6, h7, h9⟩ := tags_eq
  cases f <;> simp [Field.tag, *]

theorem Field.encode_ne_nil (f : Field) : f.encode ≠ [] := by
  rw [f.encode_eq]; simp [uvarint_ne_nil]

/-- in every case the tag selects the branch of `decode` that reads the payload back, reader by reader -/
theorem rdField_payload (c : Bool) (f : Field) (rest : Bytes) (h : f.valid) :
    rdField c f.tag (f.payload ++ rest) = .ok (some f, rest) := by
  obtain ⟨h1, h2, h3, h4, h5, h6, h7, h9⟩ := tags_eq
  cases f <;> simp only [Field.valid] at h <;>
    simp [rdField, Field.tag, Field.payload, h1, h2, h3, h4, h5, h6, h7, h9, List.append_assoc, rdUvarint_append,
      rdVarint_append, rdBytes_append, h, Except.map, bind, Except.bind, pure, Except.pure]

theorem decodeLoop_fields (fs : List Field) (h : ∀ f ∈ fs, f.valid) (p : SessionRecord) (fuel : Nat)
    (hf : fs.length < fuel) :
    decodeLoop true fuel p (fs.flatMap Field.encode) = (fs.foldl SessionRecord.apply p, none) := by
  induction fs generalizing p fuel with
  | nil =>
    match fuel, hf with
    | fuel+1, _ => simp [decodeLoop]
  | cons f fs ih =>
    match fuel, hf with
    | fuel+1, hf =>
      have hv := h f List.mem_cons_self
      have hne : (f.encode ++ fs.flatMap Field.encode).isEmpty = false := by simp [f.encode_ne_nil]
      simp only [List.flatMap_cons, List.foldl_cons, decodeLoop, hne]
      rw [f.encode_eq, List.append_assoc, rdUvarint_append _ _ f.tag_lt]
      simp only [Bool.false_eq_true, false_and, if_false, rdField_payload true f _ hv]
      exact ih (fun g hg => h g (List.mem_cons_of_mem _ hg)) _ fuel (by simp at hf; omega)

theorem length_le_flatMap_encode (fs : List Field) : fs.length ≤ (fs.flatMap Field.encode).length := by
  induction fs with
  | nil => simp
  | cons f fs ih =>
    have : 0 < f.encode.length := List.length_pos_iff.mpr f.encode_ne_nil
    simp only [List.flatMap_cons, List.length_append, List.length_cons]
    omega

theorem foldl_lists :
    (∀ (l : List (Nat × Bytes)) (p : SessionRecord), (l.map fun x => Field.compPtr x.1 x.2).foldl SessionRecord.apply p =
      { p with compPtrs := p.compPtrs ++ l }) ∧
    (∀ (l : List (Nat × Nat)) (p : SessionRecord), (l.map fun x => Field.delTable x.1 x.2).foldl SessionRecord.apply p =
      { p with deleted := p.deleted ++ l }) ∧
    (∀ (l : List AddedTable) (p : SessionRecord), (l.map Field.addTable).foldl SessionRecord.apply p =
      { p with added := p.added ++ l }) := by
  refine ⟨?_, ?_, ?_⟩ <;> intro l <;> induction l <;> intro p <;> simp_all [SessionRecord.apply, List.append_assoc]

theorem foldl_fields (r : SessionRecord) (h : r.prevJournalNum = none) :
    r.fields.foldl SessionRecord.apply {} = r := by
  obtain ⟨cmp, jn, pj, nf, sq, cps, del, add⟩ := r
  simp only at h
  subst h
  simp only [SessionRecord.fields, List.foldl_append, foldl_lists.1, foldl_lists.2.1, foldl_lists.2.2]
  cases cmp <;> cases jn <;> cases nf <;> cases sq <;> simp [SessionRecord.apply]

/-- decoding into a used receiver (as `session.recover` does): the new record's scalars overwrite, its
    lists are appended -/
theorem decodeInto_encode (p r : SessionRecord) (h : r.valid) :
    decodeInto p r.encode true = (r.fields.foldl SessionRecord.apply p, none) := by
  unfold decodeInto SessionRecord.encode
  exact decodeLoop_fields r.fields h.2 p _ (by have := length_le_flatMap_encode r.fields; omega)

theorem decode_encode (r : SessionRecord) (h : r.valid) : SessionRecord.decode r.encode = some r := by
  rw [SessionRecord.decode, decodeInto_encode {} r h, foldl_fields r h.1]

end GoLevel.Manifest

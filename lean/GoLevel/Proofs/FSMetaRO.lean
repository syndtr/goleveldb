import GoLevel.Proofs.FSMetaSys
/-! A read-only `GetMeta` does not touch the file system — for every directory, every oracle (faults, death). -/
namespace GoLevel.FSMeta

theorem readFile_fs (n : Name) (l : Lbl) (w : W) : (readFile n l w).2.fs = w.fs := sys_fs_id _ _ (fun _ => rfl) w
theorem statFile_fs (fd : FD) (w : W) : (statFile fd w).2.fs = w.fs := sys_fs_id _ _ (fun _ => rfl) w
theorem readDir_fs (w : W) : (readDir w).2.fs = w.fs := sys_fs_id _ _ (fun _ => rfl) w

theorem tryCurrent_fs (n : Name) (w : W) : (tryCurrent n w).2.fs = w.fs := by
  unfold tryCurrent
  have h1 := readFile_fs n .tryRead w
  split
  · next h => rwa [h] at h1
  · next b w1 h =>
    rw [h] at h1
    split
    · exact h1
    · next fd _ =>
      have h2 := (statFile_fs fd w1).trans h1
      split <;> next h => rwa [h] at h2

theorem tryCurrents_fs (ns : List Name) (lc : Bool) (w : W) : (tryCurrents ns lc w).2.fs = w.fs := by
  induction ns generalizing lc w with
  | nil => rfl
  | cons n rest ih =>
    unfold tryCurrents
    have h1 := tryCurrent_fs n w
    split <;> rename_i h <;> rw [h] at h1
    · exact h1
    · exact (ih _ _).trans h1
    · exact (ih _ _).trans h1
    · exact h1

/-- Every call `GetMeta` issues before its repair only reads (`sys_fs_id`), and the repair is skipped when `ro` is set:
    the world it returns is the one after `Readdirnames`, after the pending files or after `CURRENT`/`CURRENT.bak`. -/
theorem getMeta_ro_fs (cfg : Cfg) (w : W) : (getMeta cfg true w).2.fs = w.fs := by
  unfold getMeta
  have h1 := readDir_fs w
  split
  · next h => rwa [h] at h1
  · next nums w1 h =>
    rw [h] at h1
    have h2 : (if nums.isEmpty = true then ((Except.error Err.notExist : Except Err (Name × FD)), w1)
        else tryCurrents (nums.map .pend) false w1).2.fs = w.fs := by
      split
      · exact h1
      · exact (tryCurrents_fs _ _ _).trans h1
    split
    · next h => rwa [h] at h2
    · next pend w2 _ h =>
      rw [h] at h2
      have h3 := (tryCurrents_fs [.cur, .bak] false w2).trans h2
      split
      · next h => rwa [h] at h3
      · next cur w3 _ h =>
        rw [h] at h3
        split
        · simpa [repair] using h3
        · split <;> exact h3

end GoLevel.FSMeta

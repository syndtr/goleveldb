import GoLevel.Spec.Cursor
/-!
# The specification cursor by itself

Where the moves of `Spec/Cursor` land: over a list of length `n`, `first`, `next` and `seek` on `atOr n k` (element `k`,
`eoi` when there is none), `last` and `prev` on `before k` (the element before element `k`, `soi` when `k = 0`).  Then the
cursor over a mapped list, and what its walks show.  Nothing here knows of entries or iterators.
-/
namespace GoLevel

namespace IndexedIter

def atOr (n k : Nat) : Pos := if k < n then .at k else .eoi

theorem atOr_lt {n k : Nat} (h : k < n) : atOr n k = .at k := if_pos h

theorem atOr_ge {n k : Nat} (h : n ≤ k) : atOr n k = .eoi := if_neg (Nat.not_lt_of_le h)

end IndexedIter

namespace Cursor
variable {α : Type}
open IndexedIter (atOr atOr_lt atOr_ge)

theorem findIdx?_some_iff {xs : List α} {p : α → Bool} {i : Nat} :
    xs.findIdx? p = some i ↔
      ∃ e, xs[i]? = some e ∧ p e = true ∧ ∀ j y, j < i → xs[j]? = some y → p y = false := by
  rw [List.findIdx?_eq_some_iff_getElem]
  constructor
  · rintro ⟨h, hp, hb⟩
    refine ⟨xs[i], List.getElem?_eq_getElem h, hp, ?_⟩
    intro j y hj hy
    obtain ⟨hj', rfl⟩ := List.getElem?_eq_some_iff.1 hy
    simpa using hb j hj
  · rintro ⟨e, he, hp, hb⟩
    obtain ⟨h, rfl⟩ := List.getElem?_eq_some_iff.1 he
    refine ⟨h, hp, ?_⟩
    intro j hj
    have := hb j xs[j] hj (List.getElem?_eq_getElem (by omega))
    simp [this]

theorem findIdx?_getD_before {xs : List α} {p : α → Bool} {i : Nat} {x : α}
    (hi : i < (xs.findIdx? p).getD xs.length) (hx : xs[i]? = some x) : p x = false := by
  cases hf : xs.findIdx? p with
  | none => exact List.findIdx?_eq_none_iff.1 hf x (List.mem_of_getElem? hx)
  | some k =>
    rw [hf] at hi
    exact (findIdx?_some_iff.1 hf).choose_spec.2.2 i x hi hx

theorem findIdx?_getD_at {xs : List α} {p : α → Bool} {x : α}
    (hx : xs[(xs.findIdx? p).getD xs.length]? = some x) : p x = true := by
  cases hf : xs.findIdx? p with
  | none => rw [hf] at hx; simp at hx
  | some k =>
    obtain ⟨y, hy, hp, _⟩ := findIdx?_some_iff.1 hf
    rw [hf, Option.getD_some, hy] at hx
    cases hx; exact hp

theorem findIdx?_getD_le (xs : List α) (p : α → Bool) : (xs.findIdx? p).getD xs.length ≤ xs.length := by
  cases hf : xs.findIdx? p with
  | none => exact Nat.le_refl _
  | some k => exact Nat.le_of_lt (List.findIdx?_eq_some_iff_getElem.1 hf).1

def before (n : Nat) : Pos := if n = 0 then .soi else .at (n - 1)

theorem first_eq (xs : List α) : first xs = atOr xs.length 0 := by cases xs <;> rfl

theorem last_eq (xs : List α) : last xs = before xs.length := by cases xs <;> rfl

theorem seek_eq (xs : List α) (ge : α → Bool) : seek xs ge = atOr xs.length ((xs.findIdx? ge).getD xs.length) := by
  unfold seek
  cases h : xs.findIdx? ge with
  | none => exact (atOr_ge (Nat.le_refl _)).symm
  | some i => exact (atOr_lt (List.findIdx?_eq_some_iff_getElem.1 h).1).symm

theorem seek_append (A B : List α) (ge : α → Bool) (hA : ∀ a ∈ A, ge a = false) (hB : ∀ b ∈ B, ge b = true) :
    seek (A ++ B) ge = atOr (A ++ B).length A.length := by
  unfold seek
  rw [List.findIdx?_append, List.findIdx?_eq_none_iff.2 hA]
  cases B with
  | nil => simp [atOr]
  | cons b B => simp [List.findIdx?_cons, hB b List.mem_cons_self, atOr]

theorem next_at (xs : List α) (k : Nat) : next xs (.at k) = atOr xs.length (k + 1) := rfl

theorem prev_at (xs : List α) (k : Nat) : prev xs (.at k) = before k := rfl

theorem next_before (xs : List α) (a : Nat) : next xs (before a) = atOr xs.length a := by
  cases a with
  | zero => exact first_eq xs
  | succ a => rfl

theorem wf_atOr (xs : List α) (k : Nat) : wf xs (atOr xs.length k) := by
  unfold atOr; split
  · assumption
  · trivial

theorem wf_before (xs : List α) {k : Nat} (h : k ≤ xs.length) : wf xs (before k) := by
  unfold before; split
  · trivial
  · show k - 1 < xs.length; omega

theorem wf_first (xs : List α) : wf xs (first xs) := first_eq xs ▸ wf_atOr xs 0

theorem wf_last (xs : List α) : wf xs (last xs) := last_eq xs ▸ wf_before xs (Nat.le_refl _)

theorem wf_seek (xs : List α) (ge : α → Bool) : wf xs (seek xs ge) := seek_eq xs ge ▸ wf_atOr xs _

theorem wf_next (xs : List α) (p : Pos) : wf xs (next xs p) := by
  cases p with
  | soi => exact wf_first xs
  | eoi => trivial
  | «at» i => exact wf_atOr xs (i + 1)

theorem wf_prev (xs : List α) (p : Pos) (h : wf xs p) : wf xs (prev xs p) := by
  cases p with
  | soi => trivial
  | eoi => exact wf_last xs
  | «at» i => exact wf_before xs (Nat.le_of_lt h)

theorem wf_step {κ : Type} (xs : List α) (ge : κ → α → Bool) (cl : Call κ) (p : Pos) (h : wf xs p) :
    wf xs (step xs ge cl p) := by
  cases cl with
  | first => exact wf_first xs
  | last => exact wf_last xs
  | seek k => exact wf_seek xs _
  | next => exact wf_next xs p
  | prev => exact wf_prev xs p h

theorem get_first (xs : List α) : get xs (first xs) = xs.head? := by
  cases xs <;> simp [first, get]

theorem get_last (xs : List α) : get xs (last xs) = xs.getLast? := by
  cases xs with
  | nil => simp [last, get]
  | cons x xs => simp [last, get, List.getLast?_eq_getElem?]

theorem get_seek (xs : List α) (ge : α → Bool) : get xs (seek xs ge) = xs.find? ge := by
  rw [List.find?_eq_bind_findIdx?_getElem?]
  unfold seek
  cases xs.findIdx? ge <;> rfl

variable {β : Type}

theorem get_map (f : α → β) (xs : List α) (p : Pos) : get (xs.map f) p = (get xs p).map f := by
  cases p <;> simp [get]

theorem first_map (f : α → β) (xs : List α) : first (xs.map f) = first xs := by
  cases xs <;> simp [first]

theorem last_map (f : α → β) (xs : List α) : last (xs.map f) = last xs := by
  cases xs <;> simp [last]

theorem next_map (f : α → β) (xs : List α) (p : Pos) : next (xs.map f) p = next xs p := by
  cases p <;> simp [next, first_map]

theorem prev_map (f : α → β) (xs : List α) (p : Pos) : prev (xs.map f) p = prev xs p := by
  cases p <;> simp [prev, last_map]

theorem seek_map (f : α → β) (xs : List α) (ge : β → Bool) : seek (xs.map f) ge = seek xs (ge ∘ f) := by
  simp only [seek, List.findIdx?_map]

theorem step_map {κ : Type} (f : α → β) (xs : List α) (ge : κ → β → Bool) (cl : Call κ) (p : Pos) :
    step (xs.map f) ge cl p = step xs (fun k => ge k ∘ f) cl p := by
  cases cl <;> simp [step, first_map, last_map, next_map, prev_map, seek_map]

theorem run_map {κ : Type} (f : α → β) (xs : List α) (ge : κ → β → Bool) (p : Pos) (cs : List (Call κ)) :
    run (xs.map f) ge p cs = (run xs (fun k => ge k ∘ f) p cs).map (·.map f) := by
  induction cs generalizing p with
  | nil => rfl
  | cons cl cs ih => simp only [run, step_map, get_map, ih, List.map_cons]

variable {κ : Type}

def after (xs : List α) (ge : κ → α → Bool) : Pos → List (Call κ) → Pos
  | p, [] => p
  | p, cl :: cs => after xs ge (step xs ge cl p) cs

theorem run_append (xs : List α) (ge : κ → α → Bool) (p : Pos) (cs ds : List (Call κ)) :
    run xs ge p (cs ++ ds) = run xs ge p cs ++ run xs ge (after xs ge p cs) ds := by
  induction cs generalizing p with
  | nil => rfl
  | cons cl cs ih => simp only [List.cons_append, run, after, ih]

theorem run_mem (xs : List α) (ge : κ → α → Bool) (p : Pos) (cs : List (Call κ)) (x : α)
    (h : some x ∈ run xs ge p cs) : x ∈ xs := by
  induction cs generalizing p with
  | nil => simp [run] at h
  | cons cl cs ih =>
    simp only [run, List.mem_cons] at h
    rcases h with h | h
    · cases hp : step xs ge cl p with
      | soi => rw [hp] at h; simp [get] at h
      | eoi => rw [hp] at h; simp [get] at h
      | «at» i => rw [hp] at h; simp only [get] at h; exact List.mem_of_getElem? h.symm
    · exact ih _ h

/-- `Seek(k)` shows the first element passing the test, whatever came before -/
theorem run_seek (xs : List α) (ge : κ → α → Bool) (p : Pos) (cs : List (Call κ)) (k : κ) :
    run xs ge p (cs ++ [.seek k]) = run xs ge p cs ++ [xs.find? (ge k)] := by
  rw [run_append]
  simp only [run, step, get_seek]

theorem run_from_atOr (xs : List α) (ge : κ → α → Bool) (n : Nat) : ∀ k : Nat, k + n = xs.length →
    get xs (atOr xs.length k) :: run xs ge (atOr xs.length k) (List.replicate n .next) = (xs.drop k).map some ++ [none] := by
  induction n with
  | zero =>
    intro k hk
    have hle : xs.length ≤ k := Nat.le_of_eq hk.symm
    rw [atOr_ge hle, List.drop_of_length_le hle]; rfl
  | succ n ih =>
    intro k hk
    have hlt : k < xs.length := by omega
    rw [atOr_lt hlt, List.drop_eq_getElem_cons hlt]
    show xs[k]? :: (get xs (atOr xs.length (k + 1)) :: run xs ge (atOr xs.length (k + 1)) (List.replicate n .next)) = _
    rw [ih (k + 1) (by omega), List.getElem?_eq_getElem hlt]; rfl

/-- **walking `First, Next, Next, …`** shows every element exactly once, in list order, then stops -/
theorem run_first_next (xs : List α) (ge : κ → α → Bool) (p : Pos) :
    run xs ge p (.first :: List.replicate xs.length .next) = xs.map some ++ [none] := by
  simp only [run, step, first_eq]
  exact run_from_atOr xs ge xs.length 0 (Nat.zero_add _)

theorem run_from_before (xs : List α) (ge : κ → α → Bool) : ∀ k : Nat, k ≤ xs.length →
    get xs (before k) :: run xs ge (before k) (List.replicate k .prev) = (xs.take k).reverse.map some ++ [none] := by
  intro k
  induction k with
  | zero => intro _; rfl
  | succ k ih =>
    intro hlt
    show xs[k]? :: (get xs (before k) :: run xs ge (before k) (List.replicate k .prev)) = _
    rw [ih (Nat.le_of_lt hlt), List.take_add_one, List.getElem?_eq_getElem hlt]
    simp only [Option.toList_some, List.reverse_append, List.reverse_singleton, List.map_cons, List.cons_append,
      List.nil_append]

theorem run_last_prev (xs : List α) (ge : κ → α → Bool) (p : Pos) :
    run xs ge p (.last :: List.replicate xs.length .prev) = xs.reverse.map some ++ [none] := by
  simp only [run, step, last_eq]
  rw [run_from_before xs ge xs.length (Nat.le_refl _), List.take_length]

/-! `bseek`, and what `seek`/`bseek` do under a test that agrees, always holds or never holds on the list -/

/-- the backward analogue of `seek`: the position just before the first element passing a "strictly beyond" test -/
def bseek (xs : List α) (gt : α → Bool) : Pos :=
  match xs.findIdx? gt with
  | some 0 => .soi
  | some (j + 1) => .at j
  | none => last xs

theorem findIdx?_congr {xs : List α} {p q : α → Bool} (h : ∀ y ∈ xs, p y = q y) :
    xs.findIdx? p = xs.findIdx? q := by
  induction xs with
  | nil => rfl
  | cons x xs ih =>
    simp only [List.findIdx?_cons]
    rw [h x (by simp), ih (fun y hy => h y (by simp [hy]))]

theorem seek_congr {xs : List α} {p q : α → Bool} (h : ∀ y ∈ xs, p y = q y) : seek xs p = seek xs q := by
  unfold seek; rw [findIdx?_congr h]

theorem bseek_congr {xs : List α} {p q : α → Bool} (h : ∀ y ∈ xs, p y = q y) : bseek xs p = bseek xs q := by
  unfold bseek; rw [findIdx?_congr h]

theorem first_eq_seek (xs : List α) : first xs = seek xs (fun _ => true) := by
  cases xs <;> simp [first, seek, List.findIdx?_cons]

theorem last_eq_bseek (xs : List α) : last xs = bseek xs (fun _ => false) := by
  have : xs.findIdx? (fun _ => false) = none := List.findIdx?_eq_none_iff.2 (fun _ _ => rfl)
  simp [bseek, this]

/-- what `Prev()` in the `dirForward` case of the merged iterator does to the other children -/
theorem turn_pos (xs : List α) (ge : α → Bool) :
    (if (get xs (seek xs ge)).isSome then prev xs (seek xs ge) else last xs) = bseek xs ge := by
  unfold seek bseek
  cases h : xs.findIdx? ge with
  | none => simp [get]
  | some j =>
    obtain ⟨e, he, _, _⟩ := findIdx?_some_iff.1 h
    cases j with
    | zero => simp [get, he, prev]
    | succ j => simp [get, he, prev]

theorem get_eq_some {xs : List α} {p : Pos} {e : α} (h : get xs p = some e) : ∃ j, p = .at j ∧ xs[j]? = some e := by
  cases p with
  | «at» i => exact ⟨i, rfl, h⟩
  | soi => cases h
  | eoi => cases h

theorem get_mem {xs : List α} {p : Pos} {e : α} (h : get xs p = some e) : e ∈ xs := by
  obtain ⟨j, _, hj⟩ := get_eq_some h
  exact List.mem_of_getElem? hj

theorem seek_eq_eoi {xs : List α} {ge : α → Bool} (h : ∀ y ∈ xs, ge y = false) : seek xs ge = .eoi := by
  unfold seek; rw [List.findIdx?_eq_none_iff.2 h]

theorem bseek_eq_soi {xs : List α} {gt : α → Bool} (h : ∀ y ∈ xs, gt y = true) : bseek xs gt = .soi := by
  unfold bseek
  cases xs with
  | nil => simp [last]
  | cons x xs => simp [List.findIdx?_cons, h x (by simp)]

end Cursor

namespace IndexedIter

theorem get_atOr {α : Type} (xs : List α) (k : Nat) : Cursor.get xs (atOr xs.length k) = xs[k]? := by
  unfold atOr; split
  · rfl
  · simp only [Cursor.get]; rw [List.getElem?_eq_none (by omega)]

end IndexedIter

end GoLevel

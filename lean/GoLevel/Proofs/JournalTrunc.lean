import GoLevel.Proofs.JournalReader
/-! Streams that end early or go on with zeros: a truncated stream gives exactly the records that are wholly
present; a zero-extended stream (preallocated file) gives the records and "zero header" drops. -/
namespace GoLevel.Journal
open Sizes

theorem parseChunk_partial (s c first : Bool) (pos : Nat) (cfirst l : Bool) (p : Bytes) (k : Nat)
    (hp : p.length < 65536) (hk7 : headerSize ≤ k) (hk : k < headerSize + p.length) :
    parseChunk s c first pos ((chunk (chunkType cfirst l) p).take k) (pos + k) =
      corrupt s k .lengthOverflow false ⟨pos + k, []⟩ := by
  obtain ⟨r1, r2, r3, r4⟩ := chunkType_range cfirst l
  rw [chunk, List.take_append, chunkHeader_length, List.take_of_length_le (by rw [chunkHeader_length]; exact hk7)]
  obtain ⟨e1, e2, e3, e4⟩ := header_fields (chunkType cfirst l) p (p.take (k - headerSize)) r3 hp
  unfold parseChunk
  simp only [e1, e2, e3, e4]
  rw [if_neg (by omega), if_neg (by omega), if_pos (by omega)]
  have hd : List.drop (pos + k - pos) (chunkHeader (chunkType cfirst l) p ++ List.take (k - headerSize) p) = [] := by
    apply List.drop_eq_nil_of_le
    simp only [List.length_append, chunkHeader_length, List.length_take]; omega
  rw [hd, Nat.add_sub_cancel_left]

/-- what reading a torn record can produce: no record; nothing at all, or one drop
    ("chunk length overflows block" or "missing chunk part" with size 0) which in strict mode is the error -/
def Torn (s : Bool) (r : DecodeResult) : Prop :=
  r = ⟨[], .eof⟩ ∨
  ∃ x w, r = ⟨[.drop x w], if s then .corrupt else .eof⟩ ∧ (w = .lengthOverflow ∨ (w = .missingPart ∧ x = 0))

theorem torn_chunk (s c : Bool) (cur : Option Bytes) (pos : Nat) (cfirst l : Bool) (p : Bytes) (k : Nat)
    (hfit : pos + headerSize + p.length ≤ blockSize) (hk : k < headerSize + p.length) :
    Torn s (decodeLoop s c ⟨pos, (chunk (chunkType cfirst l) p).take k⟩ cur) := by
  have h7 := headerSize_eq
  have h16 := blockSize_lt_u16
  have hlen : ((chunk (chunkType cfirst l) p).take k).length = k := by
    simp only [List.length_take, chunk_length]; omega
  by_cases hk7 : headerSize ≤ k
  · have hn : nextChunk s c cur.isNone ⟨pos, (chunk (chunkType cfirst l) p).take k⟩ =
        corrupt s k .lengthOverflow false ⟨pos + k, []⟩ := by
      rw [nextChunk_fit _ _ _ _ _ (by omega) (by omega), hlen, show pos + min (blockSize - pos) k = pos + k by omega]
      exact parseChunk_partial s c _ pos cfirst l p k (by omega) hk7 hk
    rw [decodeLoop_corrupt_end hn (by simp [h7])]
    exact .inr ⟨_, _, rfl, .inl rfl⟩
  · rw [decodeLoop_few _ _ _ _ (by dsimp only; omega)]
    cases cur
    · exact .inl rfl
    · exact .inr ⟨_, _, rfl, .inr ⟨rfl, rfl⟩⟩

theorem torn_chunksAt (s c : Bool) (i : Nat) (first : Bool) (x : Bytes) (cur : Option Bytes) (k : Nat)
    (hi : i + headerSize ≤ blockSize) (h0 : first = false → i = 0) (hf : cur = none → first = true)
    (hk : k < (chunksAt i first x).1.length) :
    Torn s (decodeLoop s c ⟨i, (chunksAt i first x).1.take k⟩ cur) := by
  revert cur k
  refine chunksAt_ind ?_ ?_ i first x hi h0
  · intro i first x hi h0 h cur k hf hk
    rw [chunksAt_last i first x h h0] at hk ⊢
    exact torn_chunk s c cur i first true x k h (by simpa only [chunk_length] using hk)
  · intro i first x a hi h0 ha hx ih cur k hf hk
    have hlen : (x.take a).length = a := List.length_take_of_le (by omega)
    rw [chunksAt_fill i first x a ha hx h0] at hk ⊢
    simp only [List.length_append, chunk_length, hlen] at hk
    dsimp only
    rw [List.take_append, chunk_length, hlen]
    by_cases hk1 : k < headerSize + a
    · -- the cut is in this chunk
      rw [show k - (headerSize + a) = 0 by omega, List.take_zero, List.append_nil]
      exact torn_chunk s c cur i first false _ k (by omega) (by omega)
    · rw [List.take_of_length_le (by simp only [chunk_length, hlen]; omega),
        decodeLoop_fillChunk s c i cur first x _ a ha (by omega) hf, decodeLoop_blockSize]
      exact ih (some _) _ nofun (by omega)

theorem torn_record (s c : Bool) (pos : Nat) (r : Bytes) (k : Nat) (hk : k < (emitRecord pos r).1.length) :
    Torn s (decodeLoop s c ⟨pos, (emitRecord pos r).1.take k⟩ none) := by
  have hpl := pad_length pos
  rw [emitRecord_eq] at hk ⊢
  simp only [List.length_append] at hk
  dsimp only
  rw [List.take_append]
  by_cases hk0 : k ≤ (pad pos).1.length
  · -- the cut is in the padding: fewer than a header's bytes are left
    rw [show k - (pad pos).1.length = 0 by omega, List.take_zero, List.append_nil,
      decodeLoop_short_none _ _ _ (by simp only [List.length_take]; omega)]
    exact .inl rfl
  · obtain ⟨k', rfl⟩ : ∃ k', k = (pad pos).1.length + k' := ⟨k - (pad pos).1.length, by omega⟩
    rw [List.take_of_length_le (by omega), Nat.add_sub_cancel_left, decodeLoop_pad]
    exact torn_chunksAt s c _ true r none k' (pad_pos_le pos) nofun (fun _ => rfl) (by omega)

/-- number of leading records of `rs` (written from offset `pos`) that lie wholly within the first `n` bytes -/
def fits : Nat → List Bytes → Nat → Nat
  | _, [], _ => 0
  | pos, r :: rs, n =>
    if (emitRecord pos r).1.length ≤ n then 1 + fits (emitRecord pos r).2 rs (n - (emitRecord pos r).1.length)
    else 0

theorem fits_le (pos : Nat) (rs : List Bytes) (n : Nat) : fits pos rs n ≤ rs.length := by
  induction rs generalizing pos n with
  | nil => simp [fits]
  | cons r rs ih =>
    simp only [fits, List.length_cons]; split
    · have := ih (emitRecord pos r).2 (n - (emitRecord pos r).1.length); omega
    · omega

theorem fits_spec (pos : Nat) (rs : List Bytes) (n k : Nat) (hk : k ≤ rs.length) :
    k ≤ fits pos rs n ↔ (encodeFrom pos (rs.take k)).length ≤ n := by
  induction rs generalizing pos n k with
  | nil =>
    have : k = 0 := by simpa using hk
    subst this; simp [fits, encodeFrom]
  | cons r rs ih =>
    cases k with
    | zero => simp [encodeFrom]
    | succ k =>
      simp only [List.length_cons] at hk
      simp only [fits, List.take_succ_cons, encodeFrom, List.length_append]
      split
      · rename_i h
        have := ih (emitRecord pos r).2 (n - (emitRecord pos r).1.length) k (by omega)
        omega
      · omega

theorem decodeLoop_truncate (s c : Bool) (pos : Nat) (rs : List Bytes) (n : Nat) :
    ∃ t, Torn s t ∧ decodeLoop s c ⟨pos, (encodeFrom pos rs).take n⟩ none =
      ⟨(rs.take (fits pos rs n)).map .record ++ t.events, t.final⟩ := by
  have h7 := headerSize_eq
  induction rs generalizing pos n with
  | nil =>
    refine ⟨⟨[], .eof⟩, Or.inl rfl, ?_⟩
    simp only [encodeFrom, List.take_nil, fits, List.map_nil, List.append_nil]
    exact decodeLoop_short_none _ _ _ (by simp; omega)
  | cons r rs ih =>
    simp only [encodeFrom, fits]
    rw [List.take_append]
    split
    · rename_i h
      rw [List.take_of_length_le h, decodeLoop_emitRecord]
      obtain ⟨t, ht, e⟩ := ih (emitRecord pos r).2 (n - (emitRecord pos r).1.length)
      refine ⟨t, ht, ?_⟩
      rw [e]
      simp [DecodeResult.cons, List.take_succ_cons, Nat.add_comm 1]
    · rename_i h
      rw [show n - (emitRecord pos r).1.length = 0 by omega, List.take_zero, List.append_nil]
      have ht := torn_record s c pos r n (by omega)
      exact ⟨_, ht, by simp⟩

theorem rdLE_zeros (k : Nat) : rdLE (List.replicate k (0 : UInt8)) = 0 := by
  induction k with
  | zero => rfl
  | succ k ih => simp [List.replicate_succ, ih]

theorem parseChunk_zeros (s c first : Bool) (pos k n : Nat) :
    parseChunk s c first pos (List.replicate k 0) n =
      corrupt s (n - pos) .zeroHeader false ⟨n, List.replicate (k - (n - pos)) 0⟩ := by
  unfold parseChunk
  have e1 : rd32 (List.replicate k (0 : UInt8)) = 0 := by
    simp [rd32, List.take_replicate, rdLE_zeros]
  have e2 : ∀ j, rd16 (List.replicate j (0 : UInt8)) = 0 := by
    intro j; simp [rd16, List.take_replicate, rdLE_zeros]
  have e3 : ((List.replicate k (0 : UInt8)).getD 6 0).toNat = 0 := by
    simp only [List.getD_eq_getElem?_getD, List.getElem?_replicate]
    split <;> simp
  simp only [List.drop_replicate, e1, e2, e3, and_self, if_true]

theorem nextChunk_zeros (s c first : Bool) (pos k : Nat) (hp : pos + headerSize ≤ blockSize) :
    (∃ st', st'.rest.length < headerSize ∧ nextChunk s c first ⟨pos, List.replicate k 0⟩ = endOfStream s first st') ∨
    ∃ x pos' k', k' < k ∧
      nextChunk s c first ⟨pos, List.replicate k 0⟩ = corrupt s x .zeroHeader false ⟨pos', List.replicate k' 0⟩ := by
  have h7 := headerSize_eq
  by_cases hk : k < headerSize
  · exact .inl (nextChunk_few s c first _ (by simpa using hk))
  · right
    rw [nextChunk_fit _ _ _ _ _ hp (by simpa using hk), parseChunk_zeros, List.length_replicate]
    exact ⟨_, _, _, by omega, rfl⟩

theorem zeros_blockEnd (s c : Bool) (pos k : Nat) :
    ∃ pos0 k0, pos0 + headerSize ≤ blockSize ∧ k0 ≤ k ∧
      decodeLoop s c ⟨pos, List.replicate k 0⟩ none = decodeLoop s c ⟨pos0, List.replicate k0 0⟩ none := by
  have hlt := headerSize_lt_blockSize
  by_cases hp : pos + headerSize ≤ blockSize
  · exact ⟨pos, k, hp, Nat.le_refl _, rfl⟩
  · exact ⟨0, k - (blockSize - pos), by omega, by omega,
      by rw [decodeLoop_blockEnd _ _ _ _ _ (by omega), List.drop_replicate]⟩

theorem decodeLoop_zeros_tolerant (c : Bool) (pos k : Nat) :
    ∃ xs : List Nat, decodeLoop false c ⟨pos, List.replicate k 0⟩ none = ⟨xs.map (.drop · .zeroHeader), .eof⟩ := by
  induction k using Nat.strongRecOn generalizing pos with
  | _ k ih =>
    obtain ⟨pos0, k0, hp0, hk0, e0⟩ := zeros_blockEnd false c pos k
    rw [e0]
    rcases nextChunk_zeros false c true pos0 k0 hp0 with ⟨st', _, e⟩ | ⟨x, pos', k', hk', e⟩
    · exact ⟨[], decodeLoop_eof (cur := none) e⟩
    · obtain ⟨xs, e'⟩ := ih k' (by omega) pos'
      exact ⟨x :: xs, by rw [decodeLoop_skip (cur := none) e, e']; rfl⟩

theorem decodeLoop_zeros_strict (c : Bool) (pos k : Nat) :
    decodeLoop true c ⟨pos, List.replicate k 0⟩ none = ⟨[], .eof⟩ ∨
    ∃ x, decodeLoop true c ⟨pos, List.replicate k 0⟩ none = ⟨[.drop x .zeroHeader], .corrupt⟩ := by
  obtain ⟨pos0, k0, hp0, _, e0⟩ := zeros_blockEnd true c pos k
  rw [e0]
  rcases nextChunk_zeros true c true pos0 k0 hp0 with ⟨st', _, e⟩ | ⟨x, _, _, _, e⟩
  · exact .inl (decodeLoop_eof (cur := none) e)
  · exact .inr ⟨x, decodeLoop_corrupt (cur := none) e⟩

end GoLevel.Journal

import GoLevel.Proofs.CacheLru
/-! The charge of the LRU list: `used = Σ size ≤ capacity` (`us`). -/
namespace GoLevel.CacheM

theorem sum_sizeOf_congr {ns ns' : List Node} {l : List Nat} (h : ∀ j ∈ l, sizeOf ns' j = sizeOf ns j) :
    (l.map (sizeOf ns')).sum = (l.map (sizeOf ns)).sum := by
  rw [List.map_congr_left h]

theorem sizeOf_upd_ne {ns : List Node} {id j : Nat} {f : Node → Node} (hf : ∀ n, (f n).id = n.id) (hne : j ≠ id) :
    sizeOf (upd ns id f) j = sizeOf ns j := by
  unfold sizeOf; rw [findId_upd_ne hf hne]

theorem sizeOf_cons_ne {ns : List Node} {a : Node} {j : Nat} (hne : a.id ≠ j) :
    sizeOf (a :: ns) j = sizeOf ns j := by
  unfold sizeOf findId
  have h2 : (a.id == j) = false := by simp [hne]
  simp only [List.find?_cons, h2]

theorem sizeOf_eraseId_ne {ns : List Node} {e j : Nat} (hne : j ≠ e) :
    sizeOf (eraseId ns e) j = sizeOf ns j := by
  unfold sizeOf; rw [findId_eraseId_ne hne]

theorem sum_erase {ns : List Node} {l : List Nat} {id : Nat} (h : id ∈ l) :
    ((l.erase id).map (sizeOf ns)).sum + sizeOf ns id = (l.map (sizeOf ns)).sum := by
  have := ((List.perm_cons_erase h).map (sizeOf ns)).sum_nat
  simp only [List.map_cons, List.sum_cons] at this
  omega

theorem sizeOf_found {ns : List Node} {id : Nat} {n : Node} (h : findId ns id = some n) : sizeOf ns id = n.size := by
  unfold sizeOf; rw [h]

theorem sizeOf_upd_same {ns : List Node} {id : Nat} {f : Node → Node}
    (hf : ∀ n, ((f n).id, (f n).size) = (n.id, n.size) := by intro _; rfl) : sizeOf (upd ns id f) = sizeOf ns :=
  funext (sizeOf_congr (upd_map _ hf))

theorem sizeOf_clearLru (ns : List Node) (ev : List Nat) : sizeOf (clearLru ns ev) = sizeOf ns :=
  funext (sizeOf_congr (clearLru_map _ fun _ => rfl))

theorem us_erase {sh : Shared} {id : Nat} {n0 : Node} {l : LruSt}
    (hus : sh.lru.used = (sh.lru.recent.map (sizeOf sh.nodes)).sum ∧ sh.lru.used ≤ sh.lru.capacity)
    (hmem : id ∈ sh.lru.recent) (hfind : findId sh.nodes id = some n0) :
    sh.lru.used - n0.size = ((sh.lru.recent.erase id).map
        (sizeOf (upd sh.nodes id fun n => { n with lru := l }))).sum ∧
      sh.lru.used - n0.size ≤ sh.lru.capacity := by
  have hs := sum_erase (ns := sh.nodes) hmem
  rw [sizeOf_found hfind] at hs
  refine ⟨?_, by omega⟩
  rw [sizeOf_upd_same]
  omega

theorem us_step {g sh Q sh' i push evs} (h : InvP g sh (i :: Q))
    (he : exec sh i = some (sh', push, evs)) :
    sh'.lru.used = (sh'.lru.recent.map (sizeOf sh'.nodes)).sum ∧ sh'.lru.used ≤ sh'.lru.capacity := by
  have hus := h.us
  have hlr := h.lr
  have hopf : sh.closed = false → sh.forced = false := fun hc => (h.op hc).2
  have hfresh := refs_fresh h
  cases exec_spec he <;> clear he
  case promoteAdmit pid n0 r hfind _ hfit hr =>
    have hE := evictTail_used hr (by
      rw [sizeOf_upd_same, List.map_reverse, List.sum_reverse, List.map_cons, List.sum_cons, sizeOf_found hfind, hus.1]
      omega)
    refine ⟨?_, hE.2.1⟩
    simp only []
    rw [hE.1, List.map_reverse, List.sum_reverse, sizeOf_clearLru]
  case promoteListed pid n0 hfind hin =>
    have := sum_erase (ns := sh.nodes) (h.recent_of_found hfind hin)
    refine ⟨?_, hus.2⟩
    simp only [List.map_cons, List.sum_cons]
    omega
  case setcap c r hr =>
    have hE := evictTail_used hr (by
      rw [List.map_reverse, List.sum_reverse]; exact hus.1)
    refine ⟨?_, hE.2.1⟩
    simp only []
    rw [hE.1, List.map_reverse, List.sum_reverse, sizeOf_clearLru]
  case banListed hf hl | levictListed hf hl => exact us_erase hus (h.recent_of_found hf hl) hf
  case banFree => simp only []; rw [sizeOf_upd_same]; exact hus
  case setvNil nid n0 _ hfind hnoval | setvVal nid n0 _ hfind hnoval =>
    -- `setFunc` stores a size: the node has no value, so it is not on the list
    have hclosed : sh.closed = false := by
      cases hc : sh.closed with
      | false => rfl
      | true => have := h.cl hc _ List.mem_cons_self; simp [openOnly] at this
    have hnot : nid ∉ sh.lru.recent := by
      intro hmem
      obtain ⟨hn0, rfl⟩ := findId_some hfind
      have := h.vl (Or.inr hclosed) (hopf hclosed) n0 hn0 (Or.inr (Or.inl (inList_of_recent h hn0 hmem)))
      rw [hnoval] at this; cases this
    refine ⟨?_, hus.2⟩
    rw [hus.1]
    refine (sum_sizeOf_congr (fun j hj => sizeOf_upd_ne ?_ ?_)).symm
    · intro _; rfl
    · rintro rfl; exact hnot hj
  case delzRemove n hc hk h0 =>
    have hnot := not_inList_of_ref_zero h (hopf hc) (findKey_some hk).1 h0
    refine ⟨?_, hus.2⟩
    rw [hus.1]
    refine (sum_sizeOf_congr (fun j hj => sizeOf_eraseId_ne ?_)).symm
    rintro rfl; exact hnot hj
  case bgetNew =>
    -- nothing refers to the fresh id
    refine ⟨?_, hus.2⟩
    rw [hus.1]
    refine (sum_sizeOf_congr (fun j hj => sizeOf_cons_ne ?_)).symm
    intro heq; simp only [] at heq; subst heq
    have := List.count_pos_iff.mpr hj
    simp only [refsP] at hfresh; omega
  -- the other paths leave the list alone and change no size
  all_goals first
    | exact hus
    | (simp only []; rw [sizeOf_upd_same]; exact hus)
end GoLevel.CacheM

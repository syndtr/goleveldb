import GoLevel.Proofs.DurableBytesFile
/-!
The whole byte-level disk: a crash image of the encoded disk decodes to (the physical part of) a record-level
crash image, and the record-level recovery does not look at ghost state.
-/
namespace GoLevel.Dur
open GoLevel GoLevel.Manifest

/-- per-file existential choices, keyed by file number, glued into one choice function -/
theorem map_choice {α β : Type} (l : Files α) (hn : l.Pairwise (fun p q => p.1 ≠ q.1)) (F : Nat → α → β)
    (G : Nat → Nat → α → β) (h : ∀ p ∈ l, ∃ j, F p.1 p.2 = G j p.1 p.2) :
    ∃ c : Nat → Nat, l.map (fun p => (p.1, F p.1 p.2)) = l.map (fun p => (p.1, G (c p.1) p.1 p.2)) := by
  induction l with
  | nil => exact ⟨fun _ => 0, rfl⟩
  | cons p l ih =>
    obtain ⟨hp, hl⟩ := List.pairwise_cons.1 hn
    obtain ⟨c, hc⟩ := ih hl fun q hq => h q (List.mem_cons_of_mem _ hq)
    obtain ⟨j, hj⟩ := h p List.mem_cons_self
    refine ⟨fun n => if n = p.1 then j else c n, ?_⟩
    simp only [List.map_cons, if_true, hj, List.cons.injEq, true_and]
    rw [hc]
    apply List.map_congr_left
    intro q hq
    have : q.1 ≠ p.1 := fun e => hp q hq e.symm
    simp [this]

theorem crashManifest_false (k : Nat) (f : LogFile MRec) : crashManifest k false f = crashLog k f := by
  unfold crashManifest; rfl

/-- `C04.crash_image_decodes` with the choices explicit: per file the cut found by `manifest_image` /
    `decJournal_image`, glued by `map_choice`; a record that was cut is lost (`tornM := false`). -/
theorem crash_image_decodes_aux (x : EncCtx) (hx : x.Valid) (d : Disk) (hd : d.Encodable)
    (hm : d.manifests.Pairwise (fun p q => p.1 ≠ q.1)) (hj : d.journals.Pairwise (fun p q => p.1 ≠ q.1))
    (ch : ByteCrashChoice) (ha : ch.Admissible (encodeDisk x d)) :
    ∃ ch' : CrashChoice, decodeDisk (crashWithB ch (encodeDisk x d)) = (crashWith ch' d).onDisk := by
  obtain ⟨cM, hcM⟩ := map_choice d.manifests hm
    (fun n f => (⟨decManifest (crashFile (ch.cutM n) (ch.junkM n) (encManifest x f)).all, []⟩ : LogFile MRec))
    (fun j _ f => ⟨(crashLog j f).all.filter (fun r => !r.torn), []⟩) (by
      intro p hp
      obtain ⟨j, e, _⟩ := manifest_image x hx p.2 (hd.1 p hp) (ch.cutM p.1) (ch.junkM p.1)
        (ha.1 (p.1, encManifest x p.2) (List.mem_map.2 ⟨p, hp, rfl⟩))
      exact ⟨j, by rw [e]⟩)
  obtain ⟨cJ, hcJ⟩ := map_choice d.journals hj
    (fun n f => (⟨decJournal (crashFile (ch.cutJ n) (ch.junkJ n) (encJournal f)).all, []⟩ : LogFile Grp))
    (fun j _ f => ⟨(crashLog j f).all.map Grp.onDisk, []⟩) (by
      intro p hp
      exact ⟨_, by rw [decJournal_image p.2 (hd.2 p hp) (ch.cutJ p.1) (ch.junkJ p.1)
        (ha.2 (p.1, encJournal p.2) (List.mem_map.2 ⟨p, hp, rfl⟩))]⟩)
  refine ⟨{ cutM := cM, cutJ := cJ, tornM := fun _ => false, keepT := ch.keepT }, ?_⟩
  simp only [decodeDisk, crashWithB, encodeDisk, Disk.onDisk, crashWith, List.map_map, Function.comp_def,
    crashManifest_false]
  rw [hcM, hcJ]

theorem decode_encodeDisk (x : EncCtx) (hx : x.Valid) (d : Disk) (hd : d.Encodable) :
    decodeDisk (encodeDisk x d) = d.onDisk := by
  simp only [decodeDisk, encodeDisk, Disk.onDisk, List.map_map, Function.comp_def]
  congr 1
  · apply List.map_congr_left
    intro p hp
    rw [(manifest_whole x hx p.2 (hd.1 p hp)).1]
  · apply List.map_congr_left
    intro p hp
    rw [decJournal_whole p.2 (hd.2 p hp)]

theorem manifestCheck_map (name : Bytes) (d : Disk) (F : Nat → LogFile MRec → ByteFile)
    (h : ∀ p ∈ d.manifests, manifestCheck name (F p.1 p.2).all = none) :
    (d.current.bind (lookup (d.manifests.map fun p => (p.1, F p.1 p.2)))).bind
      (fun f => manifestCheck name f.all) = none := by
  cases d.current with
  | none => rfl
  | some m =>
    rw [Option.bind_some, lookup_map_snd d.manifests F m]
    cases hl : lookup d.manifests m with
    | none => rfl
    | some f => exact h (m, f) (lookup_some_mem hl)

theorem manifestCheck_image (x : EncCtx) (hx : x.Valid) (d : Disk) (hd : d.Encodable)
    (ch : ByteCrashChoice) (ha : ch.Admissible (encodeDisk x d)) :
    ((crashWithB ch (encodeDisk x d)).current.bind (lookup (crashWithB ch (encodeDisk x d)).manifests)).bind
      (fun f => manifestCheck x.cmpName f.all) = none := by
  simp only [crashWithB, encodeDisk, List.map_map, Function.comp_def]
  refine manifestCheck_map _ d (fun n f => crashFile (ch.cutM n) (ch.junkM n) (encManifest x f)) fun p hp => ?_
  obtain ⟨j, _, h⟩ := manifest_image x hx p.2 (hd.1 p hp) (ch.cutM p.1) (ch.junkM p.1)
    (ha.1 (p.1, encManifest x p.2) (List.mem_map.2 ⟨p, hp, rfl⟩))
  exact h

theorem manifestCheck_whole (x : EncCtx) (hx : x.Valid) (d : Disk) (hd : d.Encodable) :
    ((encodeDisk x d).current.bind (lookup (encodeDisk x d).manifests)).bind
      (fun f => manifestCheck x.cmpName f.all) = none :=
  manifestCheck_map _ d (fun _ f => encManifest x f) fun p hp => (manifest_whole x hx p.2 (hd.1 p hp)).2

theorem replayM_filter (cfg : Cfg) (h : cfg.failedRecordLeavesNoTrace = true) (l : List MRec) (a : MAcc) :
    (l.filter fun r => !r.torn).foldl (MAcc.step cfg) a = l.foldl (MAcc.step cfg) a := by
  induction l generalizing a with
  | nil => rfl
  | cons r l ih =>
    by_cases ht : r.torn = true
    · have : MAcc.step cfg a r = a := by simp [MAcc.step, ht, h]
      simp [ht, this, ih]
    · simp [ht, ih]

theorem Grp.onDisk_fin (g : Grp) : g.onDisk.fin = g.fin := rfl
theorem Grp.onDisk_seq (g : Grp) : g.onDisk.seq = g.seq := rfl
theorem Grp.onDisk_ents (g : Grp) : g.onDisk.ents = g.ents := rfl

theorem replayJ_onDisk (seq : Nat) (gs : List Grp) :
    replayJ seq (gs.map Grp.onDisk) = ((replayJ seq gs).1.map Grp.onDisk, (replayJ seq gs).2) := by
  induction gs generalizing seq with
  | nil => rfl
  | cons g gs ih =>
    simp only [List.map_cons, replayJ, Grp.onDisk_seq, Grp.onDisk_fin]
    by_cases hlt : g.seq < seq
    · simp [hlt, ih]
    · simp [hlt, ih]

theorem journalRecs_onDisk (d : Disk) (nums : List Nat) :
    journalRecs d.onDisk nums = (journalRecs d nums).map Grp.onDisk := by
  unfold journalRecs
  rw [List.map_flatMap]
  congr 1
  funext n
  simp only [Disk.onDisk]
  rw [lookup_map_snd d.journals (fun _ f => (⟨f.all.map Grp.onDisk, []⟩ : LogFile Grp)) n]
  cases lookup d.journals n <;> simp [LogFile.all]

theorem tableGroups_onDisk (d : Disk) (l : List Nat) : tableGroups d.onDisk l = tableGroups d l := by
  induction l with
  | nil => rfl
  | cons n l ih =>
    simp only [tableGroups, ih]
    rfl

theorem journalsFrom_onDisk (d : Disk) (jn : Nat) : journalsFrom d.onDisk jn = journalsFrom d jn := by
  unfold journalsFrom
  simp only [Disk.onDisk]
  rw [nums_map_snd d.journals (fun _ f => (⟨f.all.map Grp.onDisk, []⟩ : LogFile Grp))]

/-- The record-level `Open` on the physical part of a disk gives the same result up to the ghost flags of the
    groups replayed from journals (with the repair of D22: a torn manifest record leaves no trace). -/
theorem recoverR_onDisk (cfg : Cfg) (h : cfg.failedRecordLeavesNoTrace = true) (d : Disk) :
    recoverR cfg d.onDisk = (recoverR cfg d).map RState.onDisk := by
  unfold recoverR
  simp only [journalsFrom_onDisk, journalRecs_onDisk, tableGroups_onDisk, replayJ_onDisk]
  have e1 : d.onDisk.current = d.current := rfl
  have e2 : d.onDisk.manifests.isEmpty = d.manifests.isEmpty := by simp [Disk.onDisk]
  have e3 : d.onDisk.journals.isEmpty = d.journals.isEmpty := by simp [Disk.onDisk]
  have e4 : d.onDisk.tables = d.tables := rfl
  have e5 : ∀ m, lookup d.onDisk.manifests m =
      (lookup d.manifests m).map fun f => (⟨f.all.filter (fun r => !r.torn), []⟩ : LogFile MRec) := fun m =>
    lookup_map_snd d.manifests (fun _ f => (⟨f.all.filter (fun r => !r.torn), []⟩ : LogFile MRec)) m
  rw [e1, e2, e3, e4]
  cases d.current with
  | none => simp only; split <;> split <;> rfl
  | some m =>
    simp only [e5]
    cases lookup d.manifests m with
    | none => simp only [Option.map_none]; split <;> rfl
    | some mf =>
      simp only [Option.map_some]
      have : replayM cfg (LogFile.all ⟨mf.all.filter (fun r => !r.torn), []⟩) = replayM cfg mf.all := by
        simp only [LogFile.all, List.append_nil, replayM]
        exact replayM_filter cfg h _ _
      rw [this]
      cases (replayM cfg mf.all).view? with
      | none => rfl
      | some v =>
        simp only
        cases tableGroups d v.live with
        | error e => rfl
        | ok tg => rfl

theorem recoverBytes_eq {cfg : Cfg} {name : Bytes} {bd : ByteDisk} {d : Disk}
    (hc : (bd.current.bind (lookup bd.manifests)).bind (fun f => manifestCheck name f.all) = none)
    (hd : decodeDisk bd = d) : recoverBytes cfg name bd = recoverR cfg d := by
  unfold recoverBytes; rw [hc, hd]

/-- `Open` on a byte-level crash image of the encoded disk is the record-level `Open` on a record-level crash image
    of the disk, up to the ghost flags -/
theorem recoverBytes_image {cfg : Cfg} (hn : cfg.failedRecordLeavesNoTrace = true) (x : EncCtx) (hx : x.Valid)
    {d : Disk} (hd : d.Encodable) (hm : d.manifests.Pairwise (fun p q => p.1 ≠ q.1))
    (hj : d.journals.Pairwise (fun p q => p.1 ≠ q.1)) {bd' : ByteDisk} (hi : IsByteCrashImage (encodeDisk x d) bd') :
    ∃ ch, recoverBytes cfg x.cmpName bd' = (recoverR cfg (crashWith ch d)).map RState.onDisk := by
  obtain ⟨ch, ha, rfl⟩ := hi
  obtain ⟨ch', e⟩ := crash_image_decodes_aux x hx d hd hm hj ch ha
  exact ⟨ch', by rw [recoverBytes_eq (manifestCheck_image x hx d hd ch ha) e, recoverR_onDisk cfg hn]⟩

theorem RState.onDisk_entries (r : RState) : r.onDisk.entries = r.entries := by
  simp [RState.entries, RState.grps, RState.onDisk, List.flatMap_append, List.flatMap_map, Grp.onDisk_ents]

theorem RState.onDisk_seq (r : RState) : r.onDisk.seq = r.seq := rfl

theorem RState.onDisk_get (c : UCmp) (r : RState) (k : Bytes) : r.onDisk.get c k = r.get c k := by
  simp [RState.get, RState.onDisk_entries, RState.onDisk_seq]

theorem grpOfEntry_ents (e : Entry) : (grpOfEntry e).ents = [e] := by
  obtain ⟨⟨uk, num⟩, v⟩ := e
  simp only [grpOfEntry, Grp.ents, Batch.entries, Batch.entriesFrom, Batch.entryOf, mkIKey, Entry.seq, Entry.kind,
    Entry.ukey, IKey.seq, IKey.kind, Nat.add_zero, List.cons.injEq, and_true, Entry.mk.injEq, IKey.mk.injEq,
    true_and]
  omega

theorem tableOfEntries_ents (es : List Entry) : (es.map grpOfEntry).flatMap Grp.ents = es := by
  induction es with
  | nil => rfl
  | cons e es ih => simp [grpOfEntry_ents, ih]

end GoLevel.Dur

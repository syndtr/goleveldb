import GoLevel.Proofs.MemArrBasic
/-! Pointwise specifications of the bounded loops of `Put`, `Delete` and `Reset` over `nodeData`/`prevNode`
(`clearLoop`, `linkLoop`, `unlinkLoop`, `resetLoop` of `Model/MemArr.lean`) — C14. -/
namespace GoLevel.MemArr
open GoLevel.Gen (nKV nKey nVal nHeight nNext tMaxHeight)

theorem clearLoop_spec : ∀ (c : Nat) (pn : List Nat) (i : Nat), i + c ≤ pn.length →
    ∃ pn', clearLoop pn i c = some pn' ∧ pn'.length = pn.length ∧
      ∀ j, pn'[j]? = if i ≤ j ∧ j < i + c then some 0 else pn[j]? := by
  intro c
  induction c with
  | zero => intro pn i _; exact ⟨pn, rfl, rfl, by intro j; simp; omega⟩
  | succ c ih =>
    intro pn i hle
    obtain ⟨pn', h1, h2, h3⟩ := ih (pn.set i 0) (i + 1) (by simp; omega)
    refine ⟨pn', ?_, by simpa using h2, ?_⟩
    · simp only [clearLoop, setAt_some 0 (show i < pn.length by omega), Option.bind_some, Option.bind_eq_bind]
      exact h1
    · intro j
      rw [h3 j]
      by_cases hj : j = i
      · subst hj
        rw [if_neg (by omega), List.getElem?_set_self (by omega), if_pos (by omega)]
      · rw [List.getElem?_set_ne (fun e => hj e.symm)]
        by_cases hr : i + 1 ≤ j ∧ j < i + 1 + c
        · rw [if_pos hr, if_pos (by omega)]
        · rw [if_neg hr, if_neg (by omega)]

theorem link_step {nd : Array Nat} {m : Nat} (node : Nat) (hm : m < nd.size) :
    ∃ nd1, nd[m]? = some nd[m] ∧ wr (nd.push nd[m]) m node = some nd1 ∧ nd1.size = nd.size + 1 ∧
      nd1[m]? = some node ∧ nd1[nd.size]? = nd[m]? ∧ ∀ x, x < nd.size → x ≠ m → nd1[x]? = nd[x]? := by
  obtain ⟨nd1, hw, hs, hg⟩ := wr_some (a := nd.push nd[m]) node (show m < _ by simp; omega)
  refine ⟨nd1, Array.getElem?_eq_getElem hm, hw, by simp [hs], by rw [hg, if_pos rfl], ?_, fun x hx hne => ?_⟩
  · rw [hg, if_neg (by omega), Array.getElem?_push, if_pos rfl, Array.getElem?_eq_getElem hm]
  · rw [hg, if_neg hne, Array.getElem?_push, if_neg (by omega)]

theorem linkLoop_append (node : Nat) : ∀ (l1 l2 : List Nat) (i : Nat) (nd : Array Nat),
    linkLoop node (l1 ++ l2) i nd = (linkLoop node l1 i nd).bind (linkLoop node l2 (i + l1.length)) := by
  intro l1
  induction l1 with
  | nil => intro l2 i nd; rfl
  | cons n rest ih =>
    intro l2 i nd
    simp only [List.cons_append, linkLoop, Option.bind_eq_bind, Option.bind_assoc, ih, List.length_cons,
      Nat.add_assoc, Nat.add_comm 1]

/-- the linking loop of `Put` (`sl j` is `prevNode[j]`, the slots `sl j + nNext + j` are pairwise distinct): every slot
ends up pointing to `node`, whose pointer of level `j`, appended at `nd.size + j`, is the old content of that slot -/
theorem linkLoop_spec (node : Nat) (pn : List Nat) (sl : Nat → Nat) : ∀ (h : Nat) (nd : Array Nat),
    (∀ j, j < h → pn[j]? = some (sl j)) →
    (∀ j, j < h → sl j + nNext + j < nd.size) →
    (∀ j j', j < j' → j' < h → sl j + j ≠ sl j' + j') →
    ∃ nd', linkLoop node (pn.take h) 0 nd = some nd' ∧ nd'.size = nd.size + h ∧
      (∀ x, x < nd.size → (∀ j, j < h → x ≠ sl j + nNext + j) → nd'[x]? = nd[x]?) ∧
      (∀ j, j < h → nd'[sl j + nNext + j]? = some node) ∧
      (∀ j, j < h → nd'[nd.size + j]? = nd[sl j + nNext + j]?) := by
  intro h
  induction h with
  | zero => intro nd _ _ _; exact ⟨nd, rfl, rfl, fun _ _ _ => rfl, fun j hj => by omega, fun j hj => by omega⟩
  | succ h ih =>
    intro nd hp hb hdis
    obtain ⟨nd1, e, h2, h3, h4, h5⟩ :=
      ih nd (fun j hj => hp j (by omega)) (fun j hj => hb j (by omega)) (fun j j' a b => hdis j j' a (by omega))
    have hph := hp h (Nat.lt_succ_self h)
    have hm := hb h (Nat.lt_succ_self h)
    obtain ⟨nd', hv, hw, hsz, g1, g2, g3⟩ := link_step (nd := nd1) node (show sl h + nNext + h < nd1.size by omega)
    have hne : ∀ j, j < h → sl j + nNext + j ≠ sl h + nNext + h := fun j hj => by
      have := hdis j h hj (Nat.lt_succ_self h); omega
    refine ⟨nd', ?_, by omega, fun x hx hn => ?_, fun j hj => ?_, fun j hj => ?_⟩
    · rw [List.take_add_one, hph, linkLoop_append, e, List.length_take,
        Nat.min_eq_left (Nat.le_of_lt (List.getElem?_eq_some_iff.1 hph).1)]
      simp only [Option.toList_some, Nat.zero_add, Option.bind_some, linkLoop, hv, hw, Option.bind_eq_bind]
    · rw [g3 x (by omega) (hn h (Nat.lt_succ_self h)), h3 x hx (fun j hj => hn j (by omega))]
    · by_cases e : j = h
      · subst e; exact g1
      · rw [g3 _ (by have := hb j hj; omega) (hne j (by omega)), h4 j (by omega)]
    · by_cases e : j = h
      · subst e; rw [← h2, g2, h3 _ hm (fun j' hj' => (hne j' hj').symm)]
      · rw [g3 _ (by omega) (by omega), h5 j (by omega)]

theorem unlinkLoop_append : ∀ (l1 l2 : List Nat) (i : Nat) (nd : Array Nat),
    unlinkLoop (l1 ++ l2) i nd = (unlinkLoop l1 i nd).bind (unlinkLoop l2 (i + l1.length)) := by
  intro l1
  induction l1 with
  | nil => intro l2 i nd; rfl
  | cons n rest ih =>
    intro l2 i nd
    simp only [List.cons_append, unlinkLoop, Option.bind_eq_bind, Option.bind_assoc, ih, List.length_cons,
      Nat.add_assoc, Nat.add_comm 1]

/-- the unlinking loop of `Delete` (`sl j` is `prevNode[j]`; every slot `sl j + nNext + j` points to the deleted node `t`,
the slots are pairwise distinct and none is a pointer of `t`): each slot receives `t`'s pointer of that level -/
theorem unlinkLoop_spec (t : Nat) (pn : List Nat) (sl : Nat → Nat) : ∀ (h : Nat) (nd : Array Nat),
    (∀ j, j < h → pn[j]? = some (sl j)) →
    (∀ j, j < h → nd[sl j + nNext + j]? = some t ∧ t + nNext + j < nd.size) →
    (∀ j j', j < j' → j' < h → sl j + j ≠ sl j' + j' ∧ sl j + j ≠ t + j') →
    ∃ nd', unlinkLoop (pn.take h) 0 nd = some nd' ∧ nd'.size = nd.size ∧
      (∀ x, (∀ j, j < h → x ≠ sl j + nNext + j) → nd'[x]? = nd[x]?) ∧
      (∀ j, j < h → nd'[sl j + nNext + j]? = nd[t + nNext + j]?) := by
  intro h
  induction h with
  | zero => intro nd _ _ _; exact ⟨nd, rfl, rfl, fun _ _ => rfl, fun j hj => by omega⟩
  | succ h ih =>
    intro nd hp hpt hdis
    obtain ⟨nd1, e, h2, h3, h4⟩ :=
      ih nd (fun j hj => hp j (by omega)) (fun j hj => hpt j (by omega)) (fun j j' a b => hdis j j' a (by omega))
    have hph := hp h (Nat.lt_succ_self h)
    obtain ⟨hm0, htlt⟩ := hpt h (Nat.lt_succ_self h)
    have hne : ∀ j, j < h → sl h + nNext + h ≠ sl j + nNext + j ∧ t + nNext + h ≠ sl j + nNext + j :=
      fun j hj => by have := hdis j h hj (Nat.lt_succ_self h); omega
    have hm1 : nd1[sl h + nNext + h]? = some t := (h3 _ fun j hj => (hne j hj).1).trans hm0
    have hv : nd1[t + nNext + h]? = some nd[t + nNext + h] :=
      (h3 _ fun j hj => (hne j hj).2).trans (Array.getElem?_eq_getElem htlt)
    obtain ⟨nd', hw, hs, hg⟩ := wr_some (a := nd1) nd[t + nNext + h] (Array.getElem?_eq_some_iff.1 hm1).1
    refine ⟨nd', ?_, hs.trans h2, fun x hn => ?_, fun j hj => ?_⟩
    · rw [List.take_add_one, hph, unlinkLoop_append, e, List.length_take,
        Nat.min_eq_left (Nat.le_of_lt (List.getElem?_eq_some_iff.1 hph).1)]
      simp only [Option.toList_some, Nat.zero_add, Option.bind_some, unlinkLoop, hm1, hv, hw, Option.bind_eq_bind]
    · rw [hg, if_neg (hn h (Nat.lt_succ_self h)), h3 x (fun j hj => hn j (by omega))]
    · rw [hg]
      by_cases e : j = h
      · subst e; rw [if_pos rfl, Array.getElem?_eq_getElem htlt]
      · rw [if_neg (hne j (by omega)).1.symm, h4 j (by omega)]

theorem resetLoop_spec : ∀ (c : Nat) (nd : Array Nat) (pn : List Nat) (n : Nat),
    nNext + n + c ≤ nd.size → n + c ≤ pn.length →
    ∃ nd' pn', resetLoop nd pn n c = some (nd', pn') ∧ nd'.size = nd.size ∧ pn'.length = pn.length ∧
      (∀ x, nd'[x]? = if nNext + n ≤ x ∧ x < nNext + n + c then some 0 else nd[x]?) := by
  intro c
  induction c with
  | zero => intro nd pn n _ _; exact ⟨nd, pn, rfl, rfl, rfl, by intro x; simp; omega⟩
  | succ c ih =>
    intro nd pn n h1 h2
    obtain ⟨nd1, hw, hs1, hg1⟩ := wr_some (a := nd) 0 (show nNext + n < nd.size by omega)
    obtain ⟨nd', pn', e, s1, s2, g⟩ := ih nd1 (pn.set n 0) (n + 1) (by rw [hs1]; omega) (by simp; omega)
    refine ⟨nd', pn', ?_, by rw [s1, hs1], by simpa using s2, ?_⟩
    · simp only [resetLoop, hw, setAt_some 0 (show n < pn.length by omega), Option.bind_some, Option.bind_eq_bind]
      exact e
    · intro x
      rw [g x, hg1 x]
      by_cases hx : x = nNext + n
      · subst hx
        rw [if_neg (by omega), if_pos rfl, if_pos (by omega)]
      · rw [if_neg hx]
        by_cases hr : nNext + (n + 1) ≤ x ∧ x < nNext + (n + 1) + c
        · rw [if_pos hr, if_pos (by omega)]
        · rw [if_neg hr, if_neg (by omega)]

end GoLevel.MemArr

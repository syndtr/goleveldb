import GoLevel.Model.Manifest
import GoLevel.Proofs.JournalReader
/-!
The journal reader as `session.recover` drives it (`Manifest.readRecords`) delivers, as its complete
records, exactly the records of `Journal.decode` — so the C12 theorems about truncated and zero-extended
streams apply to manifests as well.
-/
namespace GoLevel.Manifest
open GoLevel.Journal

/-- the complete records among the deliveries -/
def completeOnes (l : List (Bytes × Bool)) : List Bytes := l.filterMap fun p => if p.2 then some p.1 else none

theorem readLoop_spec (strict checksum : Bool) (st : RState) (cur : Option Bytes) :
    completeOnes (readLoop strict checksum st cur).1 =
      eventRecords (Journal.decodeLoop strict checksum st cur).events ∧
    (readLoop strict checksum st cur).2 = (Journal.decodeLoop strict checksum st cur).final := by
  fun_induction readLoop strict checksum st cur with
  | case1 st cur h =>
    rw [decodeLoop_eof h]; simp [completeOnes, eventRecords]
  | case2 st cur n why h =>
    rw [decodeLoop_corrupt h]
    cases cur <;> simp [completeOnes, eventRecords, partialOf]
  | case3 st cur n why st' h r ih =>
    rw [decodeLoop_skip h]
    cases cur <;> simp [completeOnes, eventRecords, DecodeResult.cons, partialOf] at ih ⊢ <;> exact ih
  | case4 st cur payload st' acc r h ih =>
    rw [decodeLoop_ok h]
    simp [completeOnes, eventRecords, DecodeResult.cons] at ih ⊢
    exact ⟨⟨rfl, ih.1⟩, ih.2⟩
  | case5 st cur payload last st' h acc hl ih =>
    rw [decodeLoop_ok h]
    simp only [hl]
    exact ih

theorem readRecords_spec (strict : Bool) (bs : Bytes) :
    completeOnes (readRecords strict bs).1 = (decode strict true bs).records ∧
    (readRecords strict bs).2 = (decode strict true bs).final :=
  readLoop_spec strict true ⟨0, bs⟩ none

/-- `x` fails, if at all, with a corruption error (and not with the bare `io.EOF`) -/
def OnlyCorrupt {α : Type} (x : Except DecErr α) : Prop := ∀ e, x = .error e → e = .corrupted

theorem OnlyCorrupt.ok {α : Type} {a : α} : OnlyCorrupt (.ok a) := fun _ h => by cases h

theorem OnlyCorrupt.error {α : Type} {e : DecErr} (he : e = .corrupted) : OnlyCorrupt (.error e : Except DecErr α) :=
  fun _ h => by cases h; exact he

theorem OnlyCorrupt.bind {α β : Type} {x : Except DecErr α} {f : α → Except DecErr β}
    (hx : OnlyCorrupt x) (hf : ∀ a, OnlyCorrupt (f a)) : OnlyCorrupt (x >>= f) := by
  cases x with
  | error e' => exact .error (hx _ rfl)
  | ok a => exact hf a

theorem OnlyCorrupt.map {α β : Type} {x : Except DecErr α} {f : α → β} (hx : OnlyCorrupt x) :
    OnlyCorrupt (x.map f) := by
  cases x with
  | error e' => exact .error (hx _ rfl)
  | ok a => exact .ok

theorem OnlyCorrupt.ite {α : Type} {c : Prop} [Decidable c] {x y : Except DecErr α}
    (hx : OnlyCorrupt x) (hy : OnlyCorrupt y) : OnlyCorrupt (if c then x else y) := by
  split <;> assumption

theorem rdUvarint_corrupt (data : Bytes) : OnlyCorrupt (rdUvarint data) := by
  unfold rdUvarint
  split
  · exact .ok
  · exact .error rfl

theorem rdVarint_corrupt (data : Bytes) : OnlyCorrupt (rdVarint data) := by
  unfold rdVarint
  split
  · exact .ite .ok (.error rfl)
  · rename_i e he
    exact .error (rdUvarint_corrupt data _ he)

/-- `readBytes` on a record that is cut: a short read, never `io.EOF` -/
theorem rdBytes_corrupt (data : Bytes) : OnlyCorrupt (rdBytes false data) := by
  unfold rdBytes
  simp only [Bool.false_eq_true, false_and, if_false]
  split
  · rename_i e he
    exact .error (rdUvarint_corrupt data _ he)
  · exact .ite .ok (.error rfl)

/-- every `case` of `sessionRecord.decode` is made of the three readers -/
theorem rdField_corrupt (tag : Nat) (data : Bytes) : OnlyCorrupt (rdField false tag data) := by
  unfold rdField
  exact .ite (.map (rdBytes_corrupt _)) <| .ite (.map (rdVarint_corrupt _)) <| .ite (.map (rdVarint_corrupt _)) <|
    .ite (.map (rdVarint_corrupt _)) <| .ite (.map (rdUvarint_corrupt _)) <|
    .ite (.bind (rdUvarint_corrupt _) fun _ => .bind (rdBytes_corrupt _) fun _ => .ok) <|
    .ite (.bind (rdUvarint_corrupt _) fun _ => .bind (rdVarint_corrupt _) fun _ => .bind (rdVarint_corrupt _) fun _ =>
      .bind (rdBytes_corrupt _) fun _ => .bind (rdBytes_corrupt _) fun _ => .ok) <|
    .ite (.bind (rdUvarint_corrupt _) fun _ => .bind (rdVarint_corrupt _) fun _ => .ok) .ok

/-- a record that ends with `io.ErrUnexpectedEOF` always fails with a corruption error -/
theorem decodeLoop_incomplete (fuel : Nat) (p : SessionRecord) (data : Bytes) :
    (decodeLoop false fuel p data).2 = some .corrupted := by
  induction fuel generalizing p data with
  | zero => rfl
  | succ k ih =>
    unfold decodeLoop
    simp only [Bool.false_eq_true, and_false, if_false]
    split
    · rename_i e he; rw [rdUvarint_corrupt _ _ he]
    · split
      · rename_i e he; rw [rdField_corrupt _ _ _ he]
      · exact ih _ _
      · exact ih _ _

theorem decodeInto_incomplete (p : SessionRecord) (data : Bytes) :
    (decodeInto p data false).2 = some .corrupted := decodeLoop_incomplete _ p data

end GoLevel.Manifest

import GoLevel.Proofs.FSMetaLive
/-!
# Machine crashes inside `setMeta b` (clean start): what `GetMeta` sees and answers

Every crash image of every state `setMeta b` can end in shows `GetMeta` what a live state shows it (`Shows`,
`shape_image_cases`): the old `CURRENT` with nothing pending; the old `CURRENT` with `CURRENT.<b>` pending, complete
or unreadable; the new `CURRENT`.  The answer is then `Shows.answer`; the repair needs nothing of the image but
`PendOK` (`getMeta_repairs`).
-/
namespace GoLevel.FSMeta

theorem image_synced (d c : Content) (k : Keep) : Inode.image ⟨d, c, false⟩ k = ⟨c, c, false⟩ := rfl

/-- whatever a crash makes of a file that was being filled with a pointer: the pointer, or something unreadable.
    Both contents of the inode are of that kind, and a crash keeps one of them, empties or cuts it. -/
theorem filling_image {fd : FD} {y : Inode} (hy : y ∈ filling .empty (.gen fd)) (k : Keep) :
    ∃ v, (v = .gen fd ∨ v.parse = none) ∧ y.image k = ⟨v, v, false⟩ := by
  have hd := filling_parse hy
  unfold Inode.image
  split
  · cases k
    · exact ⟨_, hd.1, rfl⟩
    · exact ⟨_, hd.2, rfl⟩
    · exact ⟨_, .inr rfl, rfl⟩
    · exact ⟨_, .inr (cutOf_parse _), rfl⟩
  · exact ⟨_, hd.2, rfl⟩

/-- case split on which of the pending directory operations survive / on the fate of inode 2, then evaluate -/
macro "img1 " ops:ident " then " ev:tactic : tactic =>
  `(tactic| (generalize h0 : $ops 0 = m0; cases m0 <;> $ev))
macro "img2k " ops:ident data:ident " then " ev:tactic : tactic =>
  `(tactic| (generalize h0 : $ops 0 = m0; generalize h1 : $ops 1 = m1; generalize hk : $data 2 = k2
             cases m0 <;> cases m1 <;> cases k2 <;> $ev))
macro "img3 " ops:ident " then " ev:tactic : tactic =>
  `(tactic| (generalize h0 : $ops 0 = m0; generalize h1 : $ops 1 = m1; generalize h2 : $ops 2 = m2
             cases m0 <;> cases m1 <;> cases m2 <;> $ev))

theorem shape_image_cases (p : CleanP) {r : Except Err Unit} {fs : FS} (h : Shape p r fs) (ch : Choice) :
    Shows p (fs.image ch) := by
  obtain ⟨ops, data⟩ := ch
  obtain ⟨a, b, ca, bak, files⟩ := p
  have hfill : ∀ y ∈ filling .empty (.gen (m b)),
      ∃ v, (v = .ptr (m b) true ∨ v.parse = none) ∧ y.image (data 2) = ⟨v, v, false⟩ := fun y hy => filling_image hy _
  -- which of the directory operations waiting for a `syncDir` survive
  cases h <;> cases bak
  case' bak.none => img1 ops then skip
  case' new.none _ y hy => obtain ⟨v, hv, hyv⟩ := hfill y hy; cases h0 : ops 0 <;> cases h1 : ops 1
  case' new.some _ y _ hy => obtain ⟨v, hv, hyv⟩ := hfill y hy; img1 ops then skip
  case' ren.none => img3 ops then skip
  case' ren.some => cases h0 : ops 0 <;> cases h1 : ops 1
  -- the image is computed once, then `Shows` is read off it
  all_goals
    simp [*, FS.image, imageInodes, applyMasked, image_synced, CleanP.fs, CleanP.cur, CleanP.dir, CleanP.bakLink,
      CleanP.bakDone, CleanP.newDone, Dir.apply, Dir.set, Dir.del, delL]
    refine ⟨?_, rfl, ?_⟩ <;>
      simp [*, PendOK, FS.read, FS.vdir, Dir.get, getL, FS.ino, FS.pending, pendNums, sortDesc, insDesc, Content.gen]

/-- **a machine crash in any state `setMeta b` can end in: `GetMeta` answers `a` or `b`** -/
theorem shape_image (p : CleanP) (hp : p.Ok) {r : Except Err Unit} {fs : FS} (h : Shape p r fs) (ch : Choice)
    (ro : Bool) : ask {} ro (fs.image ch) = .ok (m p.a) ∨ ask {} ro (fs.image ch) = .ok (m p.b) :=
  (shape_image_cases p h ch).answer_cases hp ro

/-- once `setMeta b` has returned nil the directory is synced: every crash image answers `b` -/
theorem shape_done (p : CleanP) (hp : p.Ok) {fs : FS} (h : Shape p (.ok ()) fs) (ch : Choice) (ro : Bool) :
    ask {} ro (fs.image ch) = .ok (m p.b) := by
  rw [(shape_image_cases p h ch).answer hp, h.eq_fin_of_ok]
  simp [liveAnswer, FS.image, imageInodes, applyMasked, Inode.image, fsm_eval]

end GoLevel.FSMeta

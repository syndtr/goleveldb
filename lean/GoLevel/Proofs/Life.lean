import GoLevel.Model.Lifecycle
/-! Lemmas for C18.  The ownership machine keeps `Sys.Inv`.  For the machine of one DB everything turns on the states
in which nothing is left to do (`Idle`): from there no event mutates and the state moves only by a charged seek or by
`Close` (`idle_step`), so an invariant that implies idleness and survives those two moves holds along every run
(`idle_run`); the read-only invariants of C18 are three instances. -/
namespace GoLevel.Life

theorem DBm.forall_of_all {P : DBm → Prop} (h : ∀ m ∈ DBm.all, P m) (m : DBm) : P m :=
  h m (by cases m <;> exact List.mem_of_elem_eq_true rfl)
theorem SnapM.forall_of_all {P : SnapM → Prop} (h : ∀ m ∈ SnapM.all, P m) (m : SnapM) : P m :=
  h m (by cases m <;> exact List.mem_of_elem_eq_true rfl)
theorem TxM.forall_of_all {P : TxM → Prop} (h : ∀ m ∈ TxM.all, P m) (m : TxM) : P m :=
  h m (by cases m <;> exact List.mem_of_elem_eq_true rfl)
theorem IterM.forall_of_all {P : IterM → Prop} (h : ∀ m ∈ IterM.all, P m) (m : IterM) : P m :=
  h m (by cases m <;> exact List.mem_of_elem_eq_true rfl)

/-- the lock holders are exactly the open DBs, and there is at most one -/
def Sys.Inv (s : Sys) : Prop :=
  s.kind = .exclusive ∧ s.owners = s.opened ∧ s.opened.length ≤ 1

theorem Sys.init_inv : (Sys.init .exclusive).Inv := ⟨rfl, rfl, by simp [Sys.init]⟩

theorem Sys.step_inv (s : Sys) (e : SysEv) (h : s.Inv) : (s.step e).1.Inv := by
  obtain ⟨hk, ho, hl⟩ := h
  cases e with
  | «open» id ro j =>
    simp only [Sys.step]
    split
    · exact ⟨hk, ho, hl⟩
    · split
      · exact ⟨hk, ho, hl⟩
      · -- the lock was free: nobody was open
        rename_i hc _
        have he : s.opened = [] := by rw [← ho]; simpa [Sys.canLock, hk] using hc
        exact ⟨hk, by simp [ho], by simp [he]⟩
  | close id =>
    simp only [Sys.step]
    split
    · exact ⟨hk, by simp [ho], Nat.le_trans List.length_erase_le hl⟩
    · exact ⟨hk, ho, hl⟩

theorem Sys.Inv.canLock_eq {s : Sys} (h : s.Inv) : s.canLock = s.opened.isEmpty := by
  simp [Sys.canLock, h.1, h.2.1]

theorem Sys.run_fst_inv (s : Sys) (es : List SysEv) (h : s.Inv) : (Sys.run s es).1.Inv := by
  induction es generalizing s with
  | nil => exact h
  | cons e es ih =>
    simp only [Sys.run]
    exact ih _ (Sys.step_inv s e h)

theorem run_append (c : Cfg) (s : St) (es fs : List Ev) :
    run c s (es ++ fs) = ((run c (run c s es).1 fs).1, (run c s es).2 ++ (run c (run c s es).1 fs).2) := by
  induction es generalizing s with
  | nil => simp [run]
  | cons e es ih => simp [run, ih, List.append_assoc]

theorem run_cons (c : Cfg) (s : St) (e : Ev) (es : List Ev) :
    run c s (e :: es) = ((run c (step c s e).st es).1, (step c s e).acts ++ (run c (step c s e).st es).2) := by
  simp only [run]

theorem chargeSeek_eq (c : Cfg) (s : St) (b : Bool) :
    chargeSeek c s b = { s with due := s.due + b2n (c.seeks && b && s.mode != .closed) } := by
  cases s; unfold chargeSeek; split <;> simp_all [b2n]

theorem chargeSeek_of_quiet (c : Cfg) (s : St) (b : Bool) (hb : c.seeks = false ∨ b = false) :
    chargeSeek c s b = s := by
  rcases hb with hb | hb <;> simp [chargeSeek, hb]

theorem chargeSeek_false (c : Cfg) (s : St) : chargeSeek c s false = s :=
  chargeSeek_of_quiet c s false (.inr rfl)

theorem txLive_beq_false (t : TxSt) (h : t ≠ .live) : (t == .live) = false := by
  cases t <;> simp_all

theorem afterClose_ne_live (t : TxSt) : t.afterClose ≠ .live := by
  cases t <;> simp [TxSt.afterClose]

theorem step_closed (c : Cfg) (s : St) (e : Ev) (hm : s.mode = .closed) :
    (step c s e).st = s ∧ (step c s e).acts = [] := by
  obtain ⟨mode, bg, frozen, due, pins, tx, running⟩ := s
  simp only at hm; subst hm
  cases e <;> simp [step, stepDB, stepTx, chargeSeek, compactionRuns]

theorem stepRW_cls (c : Cfg) (s : St) (m : DBm) (p : Nat) (cls : Cls) : (stepRW c s m p cls).cls = cls := by
  simp only [stepRW, closeRes, apply_ite Res.cls, ite_self]

theorem stepRO_cls (c : Cfg) (s : St) (m : DBm) (p : Nat) (cls : Cls) : (stepRO c s m p cls).cls = cls := by
  simp only [stepRO, closeRes, apply_ite Res.cls, ite_self]

theorem step_db_cls (c : Cfg) (s : St) (m : DBm) (p : Nat) :
    (step c s (.db m p)).cls = (dbTable s.mode (s.tx == .live) m).cls := by
  obtain ⟨mode, bg, frozen, due, pins, tx, running⟩ := s
  cases mode <;> simp only [step, stepDB]
  · split
    · rename_i h; rw [((Bool.and_eq_true _ _).mp h).1]
    · exact stepRW_cls ..
  · exact stepRO_cls ..
  · exact stepRO_cls ..

theorem stepRO_of_ne_close (c : Cfg) (s : St) {m : DBm} (p : Nat) (cls : Cls) (hm : m ≠ .close) :
    (stepRO c s m p cls).st = chargeSeek c s (m.isRead && decide (p > 0))
      ∧ ∀ a ∈ (stepRO c s m p cls).acts, a.mutating = false := by
  unfold stepRO
  rw [if_neg hm]
  split
  · rename_i h; subst h; exact ⟨(chargeSeek_false c s).symm, by simp [Act.mutating]⟩
  · exact ⟨rfl, by simp⟩

theorem stepRW_of_quiet (c : Cfg) (s : St) {m : DBm} (p : Nat) (cls : Cls)
    (hc : m ≠ .close) (hr : m.isRead = false) (hw : m.isWrite = false) :
    (∀ a ∈ (stepRW c s m p cls).acts, a.mutating = false)
      ∧ ((stepRW c s m p cls).st = s ∨ (stepRW c s m p cls).st =
          { s with mode := .switchedRO, running := s.bg && decide (p > 0) && decide (s.due > 0) }) := by
  cases m <;> simp [DBm.isRead, DBm.isWrite] at hc hr hw <;>
    simp [stepRW, DBm.isRead, chargeSeek_false, Act.mutating]

/-- what `DB.Close` leaves of a state (`closeRes`): goroutines gone, the open transaction discarded -/
def St.shut (s : St) : St := { s with mode := .closed, bg := false, tx := s.tx.afterClose, running := false }

/-- `Idle c s`: read-only, no transaction holds the write lock, no iterator pins replaced tables, and the background
loops would neither flush nor compact. -/
def Idle (c : Cfg) (s : St) : Prop :=
  (s.mode = .openRO ∨ s.mode = .switchedRO) ∧ s.tx ≠ .live ∧ s.pins = 0
    ∧ (s.bg && (s.frozen || compactionPending c s)) = false

theorem idle_step {c : Cfg} {s : St} (h : Idle c s) (e : Ev) :
    (∀ a ∈ (step c s e).acts, a.mutating = false)
      ∧ ((step c s e).st = s ∨ (step c s e).st = chargeSeek c s e.seekHit ∨ (step c s e).st = s.shut) := by
  obtain ⟨hm, ht, hp, hbg⟩ := h
  have hcl : s.mode ≠ .closed := by rcases hm with h | h <;> simp [h]
  have hfl : (s.bg && s.frozen) = false ∧ compactionRuns c s = false := by
    unfold compactionRuns; cases hb : s.bg <;> simp_all
  cases e with
  | db m p =>
    have hs : step c s (.db m p) = stepRO c s m p (dbTable s.mode (s.tx == .live) m).cls := by
      rcases hm with h | h <;> simp only [step, stepDB, h]
    rw [hs]
    by_cases hc : m = .close
    · subst hc
      exact ⟨by simp [stepRO, closeRes, txLive_beq_false _ ht, hbg, Act.mutating], Or.inr (Or.inr rfl)⟩
    · exact ⟨(stepRO_of_ne_close c s p _ hc).2, Or.inr (Or.inl (stepRO_of_ne_close c s p _ hc).1)⟩
  | tx m p =>
    simp [step, stepTx, hcl, ht]
  | snap hh m p =>
    exact ⟨by simp [step], Or.inr (Or.inl (by cases hh <;> rfl))⟩
  | iter hh m p =>
    simp only [step, hp, Nat.lt_irrefl, decide_false, Bool.and_false, Bool.false_and, Bool.false_eq_true, if_false]
    exact ⟨by simp, Or.inr (Or.inl (by cases hh <;> rfl))⟩
  | bgFlush p =>
    simp [step, hfl.1]
  | bgCompact p =>
    simp [step, hfl.2]

theorem idle_run (c : Cfg) (I : St → Prop) (Q : Ev → Prop)
    (hidle : ∀ s, I s → s.mode = .closed ∨ Idle c s)
    (hcharge : ∀ s e, I s → Q e → I (chargeSeek c s e.seekHit)) (hshut : ∀ s, I s → I s.shut)
    (s : St) (es : List Ev) (hs : I s) (hq : ∀ e ∈ es, Q e) :
    I (run c s es).1 ∧ ∀ a ∈ (run c s es).2, a.mutating = false := by
  induction es generalizing s with
  | nil => exact ⟨hs, by simp [run]⟩
  | cons e es ih =>
    have h1 : I (step c s e).st ∧ ∀ a ∈ (step c s e).acts, a.mutating = false := by
      rcases hidle s hs with hm | hi
      · rw [(step_closed c s e hm).1, (step_closed c s e hm).2]; exact ⟨hs, by simp⟩
      · refine ⟨?_, (idle_step hi e).1⟩
        rcases (idle_step hi e).2 with h | h | h <;> rw [h]
        · exact hs
        · exact hcharge s e hs (hq e (by simp))
        · exact hshut s hs
    have h2 := ih _ h1.1 (fun x hx => hq x (by simp [hx]))
    rw [run_cons]
    exact ⟨h2.1, fun a ha => (List.mem_append.mp ha).elim (h1.2 a) (h2.2 a)⟩

theorem drained_iff (s : St) : s.drained = true ↔ s.frozen = false ∧ s.due = 0 ∧ s.pins = 0 ∧ s.running = false := by
  simp [St.drained, and_assoc]

theorem settled_iff (s : St) : s.settled = true ↔ s.frozen = false ∧ s.running = false ∧ s.pins = 0 := by
  simp [St.settled, and_assoc]

/-- opened read-only (or closed since): no background goroutines, nothing pinned, no live transaction -/
def RoInv (s : St) : Prop :=
  (s.mode = .openRO ∨ s.mode = .closed) ∧ s.bg = false ∧ s.pins = 0 ∧ s.tx ≠ .live

theorem RoInv_run (c : Cfg) (s : St) (es : List Ev) (h : RoInv s) :
    RoInv (run c s es).1 ∧ ∀ a ∈ (run c s es).2, a.mutating = false := by
  refine idle_run c RoInv (fun _ => True) ?_ ?_ ?_ s es h (fun _ _ => trivial)
  · rintro s ⟨hm | hm, hb, hp, ht⟩
    · exact Or.inr ⟨Or.inl hm, ht, hp, by simp [hb]⟩
    · exact Or.inl hm
  · intro s e h _; rw [chargeSeek_eq]; exact h
  · rintro s ⟨_, _, hp, _⟩; exact ⟨Or.inr rfl, rfl, hp, afterClose_ne_live _⟩

/-- switched to read-only (or closed since) and drained, no live transaction -/
def SwInv (s : St) : Prop :=
  (s.mode = .switchedRO ∨ s.mode = .closed) ∧ s.drained = true ∧ s.tx ≠ .live

/-- a loop that does not look at the mode stays quiet only as long as no read makes a compaction due -/
theorem SwInv_run (c : Cfg) (s : St) (es : List Ev) (h : SwInv s)
    (hq : ∀ e ∈ es, c.seeks = false ∨ e.seekHit = false) :
    SwInv (run c s es).1 ∧ ∀ a ∈ (run c s es).2, a.mutating = false := by
  refine idle_run c SwInv _ ?_ ?_ ?_ s es h hq
  · rintro s ⟨hm | hm, hd, ht⟩
    · obtain ⟨hf, hdue, hp, hr⟩ := (drained_iff s).mp hd
      exact Or.inr ⟨Or.inr hm, ht, hp, by simp [compactionPending, hf, hdue, hr]⟩
    · exact Or.inl hm
  · intro s e h hq; rw [chargeSeek_of_quiet c s _ hq]; exact h
  · rintro s ⟨_, hd, _⟩
    exact ⟨Or.inr rfl, by simp_all [St.shut, St.drained], afterClose_ne_live _⟩

/-- switched to read-only (or closed since), what was in flight has completed, no live transaction -/
def PkInv (s : St) : Prop :=
  (s.mode = .switchedRO ∨ s.mode = .closed) ∧ s.settled = true ∧ s.tx ≠ .live

/-- a parked loop ignores what is due: settled stays settled, whatever is called -/
theorem PkInv_run (c : Cfg) (hc : c.parks = true) (s : St) (es : List Ev) (h : PkInv s) :
    PkInv (run c s es).1 ∧ ∀ a ∈ (run c s es).2, a.mutating = false := by
  refine idle_run c PkInv (fun _ => True) ?_ ?_ ?_ s es h (fun _ _ => trivial)
  · rintro s ⟨hm | hm, hd, ht⟩
    · obtain ⟨hf, hr, hp⟩ := (settled_iff s).mp hd
      exact Or.inr ⟨Or.inr hm, ht, hp, by simp [compactionPending, hc, hm, hf, hr]⟩
    · exact Or.inl hm
  · intro s e h _; rw [chargeSeek_eq]; exact h
  · rintro s ⟨_, hd, _⟩
    exact ⟨Or.inr rfl, by simp_all [St.shut, St.settled], afterClose_ne_live _⟩

theorem run_compacts (c : Cfg) (hc : c.parks = false) (n pins : Nat) (tx : TxSt) (running : Bool)
    (hr : running = true → n > 0) :
    (run c ⟨.switchedRO, true, false, n, pins, tx, running⟩ (List.replicate n (.bgCompact 0))).1
      = ⟨.switchedRO, true, false, 0, pins, tx, false⟩ := by
  induction n generalizing running with
  | zero =>
    cases running
    · simp [run]
    · exact absurd (hr rfl) (by decide)
  | succ n ih =>
    have hs : (step c ⟨.switchedRO, true, false, n + 1, pins, tx, running⟩ (.bgCompact 0)).st
        = ⟨.switchedRO, true, false, n, pins, tx, false⟩ := by
      simp [step, compactionRuns, compactionPending, hc, deferred, moreDue]
    rw [List.replicate_succ, run_cons, hs]
    exact ih false (by simp)

theorem run_unpins (c : Cfg) (n due : Nat) (tx : TxSt) :
    (run c ⟨.switchedRO, true, false, due, n, tx, false⟩ (List.replicate n (.iter .live .release 1))).1
      = ⟨.switchedRO, true, false, due, 0, tx, false⟩ := by
  induction n with
  | zero => simp [run]
  | succ n ih =>
    have hs : (step c ⟨.switchedRO, true, false, due, n + 1, tx, false⟩ (.iter .live .release 1)).st
        = ⟨.switchedRO, true, false, due, n, tx, false⟩ := by
      simp [step]
    rw [List.replicate_succ, run_cons, hs]
    exact ih

theorem run_flush (c : Cfg) (frozen : Bool) (due pins : Nat) (tx : TxSt) (running : Bool) :
    (run c ⟨.switchedRO, true, frozen, due, pins, tx, running⟩ [.bgFlush 0]).1
      = ⟨.switchedRO, true, false, due, pins, tx, running⟩ := by
  cases frozen <;> simp [run, step, moreDue]

theorem run_finish_running (c : Cfg) (hc : c.parks = true) (due pins : Nat) (tx : TxSt) (running : Bool) :
    (run c ⟨.switchedRO, true, false, due, pins, tx, running⟩ [.bgCompact 0]).1
      = ⟨.switchedRO, true, false, if running then due - 1 else due, pins, tx, false⟩ := by
  cases running <;> simp [run, step, compactionRuns, compactionPending, hc, deferred, moreDue]

end GoLevel.Life

import GoLevel.Proofs.MemArrPutNew
/-! `Delete` over the arrays simulates the ideal `Delete` and re-establishes the representation relation (C14). -/
namespace GoLevel.MemArr
open GoLevel.Gen (nKV nKey nVal nHeight nNext tMaxHeight)
open GoLevel.MemDB (Node LawfulCmp Sorted pred below ins)

variable {cmp : Cmp} {a : DB} {d : MemDB.DB} {ix : Bytes → Nat}

/-- the ideal table after `Delete` of a key that is present (`MemDB.delete_present`) -/
def delOld (d : MemDB.DB) (key : Bytes) : MemDB.DB :=
  { d with levels := d.levels.map (·.filter (· != key))
           kv := d.kv.filter (·.1 != key)
           n := d.n - 1
           kvSize := d.kvSize - (key.length + (d.value key).length) }

theorem Chain.last {nd : Array Nat} {ix : Bytes → Nat} {h stop frm : Nat} {l : List Bytes}
    (c : Chain nd ix h stop frm l) : nd[(l.map ix).getLastD frm + nNext + h]? = some stop := by
  rcases List.eq_nil_or_concat l with rfl | ⟨l', k, rfl⟩
  · exact c
  · rw [List.concat_eq_append] at c ⊢
    rw [List.map_append, List.map_singleton, List.getLastD_concat]
    exact (chain_append.1 c).2

theorem lv_map_filter (L : List (List Bytes)) (p : Bytes → Bool) (i : Nat) :
    lv (L.map (·.filter p)) i = (lv L i).filter p := by
  unfold lv
  rw [List.getElem?_map]
  cases L[i]? <;> simp

section
variable (hc : LawfulCmp cmp) (r : Rep cmp a d ix) {key : Bytes} (hk : key ∈ d.level0)
include hc r hk

theorem delOld_inv : MemDB.Inv cmp (delOld d key) := by
  have := MemDB.delete_inv hc r.inv key
  rwa [MemDB.delete_present hc r.inv hk] at this

omit hc r hk in
theorem delOld_level0 (k : Bytes) : k ∈ (delOld d key).level0 ↔ k ∈ d.level0 ∧ k ≠ key := by
  show k ∈ (d.levels.map (·.filter (· != key))).headD [] ↔ _
  rw [MemDB.headD_map_filter]
  show k ∈ d.level0.filter _ ↔ _
  simp [List.mem_filter]

theorem delOld_height {k : Bytes} (hne : k ≠ key) : (delOld d key).height k = d.height k := by
  apply height_unique (delOld_inv hc r hk).towersSub
  intro i
  show k ∈ lv (d.levels.map (·.filter (· != key))) i ↔ _
  rw [lv_map_filter, List.mem_filter, mem_lv_iff r]
  simp [hne]

end

/-- the facts about `nodeData` after the unlinking loop of `Delete` -/
structure Unlinked (cmp : Cmp) (a : DB) (d : MemDB.DB) (ix : Bytes → Nat) (key : Bytes) (nd' : Array Nat) : Prop where
  size : nd'.size = a.nodeData.size
  same : ∀ x, (∀ j, j < d.height key → x ≠ nix ix (pth cmp d key j) + nNext + j) → nd'[x]? = a.nodeData[x]?
  link : ∀ j, j < d.height key →
    nd'[nix ix (pth cmp d key j) + nNext + j]? = a.nodeData[ix key + nNext + j]?

theorem pred_points (hc : LawfulCmp cmp) (r : Rep cmp a d ix) {key : Bytes} {j : Nat}
    (hj : j < d.height key) : a.nodeData[nix ix (pth cmp d key j) + nNext + j]? = some (ix key) := by
  obtain ⟨pre, post, hl, _, _, htw, _⟩ := MemDB.split_mem hc (r.sorted_lv j) ((mem_lv_iff r key j).2 hj)
  have hch := r.chain_lv (Nat.lt_of_lt_of_le hj (r.height_le key))
  rw [hl] at hch
  have := (chain_append.1 hch).1.last
  rw [getLastD_map_nix, ← htw] at this
  exact this

theorem pth_ne_key (hc : LawfulCmp cmp) (r : Rep cmp a d ix) {key : Bytes} (hk : key ∈ d.level0) (j : Nat) :
    nix ix (pth cmp d key j) ≠ ix key := by
  cases hp : pth cmp d key j with
  | none => exact (r.ix_ne_zero hk).symm
  | some q =>
    have hq := MemDB.pred_mem hp
    exact fun e => hc.ord.ne_of_lt hq.2 (r.ix_inj (r.lv_sub0 hq.1) hk e)

theorem Unlinked.field {nd' : Array Nat} {key : Bytes} (U : Unlinked cmp a d ix key nd') (r : Rep cmp a d ix)
    {k : Bytes} (hk : k ∈ d.level0) {f : Nat} (hf : f < nNext) : nd'[ix k + f]? = a.nodeData[ix k + f]? :=
  U.same _ (fun _ hj => r.field_ne_slot hk hf (r.pth_owner key (Nat.lt_of_lt_of_le hj (r.height_le key))))

theorem delete_arrays (hc : LawfulCmp cmp) (r : Rep cmp a d ix) {key : Bytes} (hk : key ∈ d.level0)
    (pn1 : List Nat) (hpath : ∀ j, j < a.maxHeight → pn1[j]? = some (nix ix (pth cmp d key j))) :
    ∃ nd', unlinkLoop (pn1.take (d.height key)) 0 a.nodeData = some nd' ∧ Unlinked cmp a d ix key nd' := by
  have hHle := height_le_length d key
  have hown : ∀ j, j < d.height key → Slot d ix (nix ix (pth cmp d key j)) j :=
    fun j hj => r.pth_owner key (Nat.lt_of_lt_of_le hj (r.height_le key))
  obtain ⟨nd', u1, u2, u3, u4⟩ := unlinkLoop_spec (ix key) pn1 (fun j => nix ix (pth cmp d key j)) (d.height key)
    a.nodeData (fun j hj => hpath j (by rw [r.mh]; omega))
    (fun j hj => ⟨pred_points hc r hj, r.owner_lt (.node hk hj)⟩)
    (fun j j' hjj hj' =>
      have oj := hown j (Nat.lt_trans hjj hj')
      ⟨fun e => Nat.ne_of_lt hjj (r.slot_inj oj (hown j' hj') (by omega)).2,
        fun e => pth_ne_key hc r hk j (r.slot_inj oj (.node hk hj') (by omega)).1⟩)
  exact ⟨nd', u1, u2, u3, u4⟩

theorem delete_rep (hc : LawfulCmp cmp) (r : Rep cmp a d ix) {key : Bytes} (hk : key ∈ d.level0)
    {nd' : Array Nat} (pn1 : List Nat) (hlen : pn1.length = tMaxHeight) (U : Unlinked cmp a d ix key nd') :
    Rep cmp { a with prevNode := pn1, nodeData := nd', kvSize := a.kvSize - (key.length + (d.value key).length),
                     n := a.n - 1 } (delOld d key) ix := by
  have hinv' := delOld_inv hc r hk
  have same_slot : ∀ {z i}, Slot d ix z i → (i < d.height key → z ≠ nix ix (pth cmp d key i)) →
      nd'[z + nNext + i]? = a.nodeData[z + nNext + i]? :=
    fun s hne => U.same _ (fun j hj => r.slot_off_path key s (r.height_le key) hne hj)
  have hchain : ∀ i, i < tMaxHeight → Chain nd' ix i 0 0 (lv (d.levels.map (·.filter (· != key))) i) := by
    intro i hit
    rw [lv_map_filter]
    have hold := r.chain_lv hit
    by_cases hih : i < d.height key
    · have hm : key ∈ lv d.levels i := (mem_lv_iff r key i).2 hih
      obtain ⟨pre, post, hl, hlt', hgt', htw, _⟩ := MemDB.split_mem hc (r.sorted_lv i) hm
      have hf : (lv d.levels i).filter (· != key) = pre ++ post := by
        rw [hl]; exact MemDB.filter_ne_split hc hlt' hgt'
      rw [hf]
      have hp : (pre.map ix).getLastD 0 = nix ix (pth cmp d key i) := by
        rw [getLastD_map_nix, ← htw]; rfl
      have hsub : (0 :: (pre ++ post).map ix).Sublist (0 :: (lv d.levels i).map ix) :=
        ((hf ▸ List.filter_sublist).map ix).cons_cons 0
      rw [hl] at hold
      refine chain_splice (mid := [key]) (mid' := []) pre 0 hold (fun _ _ => rfl) ?_ ?_
        ((r.nodup_lv hc i).sublist hsub)
      · intro S hS
        rw [hp] at hS ⊢
        exact (U.link i hih).trans hS.2
      · intro z hz hne
        exact same_slot (r.cell_owner hit (hsub.subset hz)) (fun _ => hp ▸ hne)
    · rw [MemDB.filter_ne_of_not_mem fun hm => hih ((mem_lv_iff r key i).1 hm)]
      exact hold.frame (fun _ _ => rfl) (fun z hz => same_slot (r.cell_owner hit hz) (fun hh => absurd hh hih))
  refine
    { inv := hinv', mh := ?_, n := ?_, kvSize := ?_, used := r.used, pn := hlen, fuel := ?_,
      top := (top_chain_of_lv hinv'.height hchain).1, chain := (top_chain_of_lv hinv'.height hchain).2,
      node := ?_, sep := ?_ }
  · show a.maxHeight = (d.levels.map _).length
    rw [List.length_map]; exact r.mh
  · show a.n - 1 = d.n - 1
    rw [r.n]
  · show a.kvSize - _ = d.kvSize - _
    rw [r.kvSize]
  · show ((d.levels.map (·.filter (· != key))).map List.length).sum + _ ≤ nd'.size
    rw [U.size]
    have := filter_sum_le key d.levels
    have := r.fuel
    omega
  · intro k hk'
    obtain ⟨hk0, hne⟩ := (delOld_level0 k).1 hk'
    rw [delOld_height hc r hk hne]
    have hv : (delOld d key).value k = d.value k := MemDB.value_filter_other d hne _ _ _ _
    rw [hv]
    exact (r.node k hk0).frame #[] (Array.append_empty ..).symm (Nat.le_of_eq U.size.symm) (fun _ => U.field r hk0)
  · intro k hk1 k' hk2 hkk
    obtain ⟨hk0, hne⟩ := (delOld_level0 k).1 hk1
    obtain ⟨hk0', hne'⟩ := (delOld_level0 k').1 hk2
    rw [delOld_height hc r hk hne, delOld_height hc r hk hne']
    exact r.sep k hk0 k' hk0' hkk

theorem delete_present_sim (hc : LawfulCmp cmp) (r : Rep cmp a d ix) {key : Bytes} (hk : key ∈ d.level0) :
    ∃ a', delete cmp a key = some (a', true) ∧ Rep cmp a' (delOld d key) ix ∧ a'.gen = a.gen ∧
      a'.kvData = a.kvData ∧ Unlinked cmp a d ix key a'.nodeData := by
  obtain ⟨node, pn', g1, hn, hpl, hpath⟩ := findGE_path hc r key
  obtain ⟨nd', u, U⟩ := delete_arrays hc r hk pn' hpath
  have hnk := r.node key hk
  have e4 := nNext_eq
  have e2 := nVal_eq
  have e1 := nKey_eq
  refine ⟨_, ?_, delete_rep hc r hk pn' hpl U, rfl, rfl, U⟩
  have hH : ¬ d.height key > pn'.length := by rw [hpl]; exact Nat.not_lt.2 (r.height_le key)
  have k1 : nd'[ix key + nKey]? = some key.length := (U.field r hk (by omega)).trans hnk.klen
  have k2 : nd'[ix key + nVal]? = some (d.value key).length := (U.field r hk (by omega)).trans hnk.vlen
  simp only [delete, g1, hn hk, hk, decide_true, Option.bind_some, Option.bind_eq_bind, Bool.not_true,
    Bool.false_eq_true, if_false, hnk.height, hH, u, k1, k2]

theorem delete_absent_sim (hc : LawfulCmp cmp) (r : Rep cmp a d ix) {key : Bytes} (hk : key ∉ d.level0) :
    ∃ pn', delete cmp a key = some ({ a with prevNode := pn' }, false) ∧ pn'.length = a.prevNode.length := by
  obtain ⟨node, pn', g1, _, glen, _⟩ := findGE_path hc r key
  refine ⟨pn', ?_, glen.trans r.pn.symm⟩
  simp only [delete, g1, hk, decide_false, Option.bind_some, Option.bind_eq_bind, Bool.not_false, if_true]

theorem delete_sim (hc : LawfulCmp cmp) (r : Rep cmp a d ix) (key : Bytes) :
    ∃ a', delete cmp a key = some (a', (MemDB.delete cmp d key).2) ∧ Rep cmp a' (MemDB.delete cmp d key).1 ix := by
  by_cases hk : key ∈ d.level0
  · obtain ⟨a', e, r', _⟩ := delete_present_sim hc r hk
    rw [MemDB.delete_present hc r.inv hk]
    exact ⟨a', e, r'⟩
  · obtain ⟨pn', e, hl⟩ := delete_absent_sim hc r hk
    rw [MemDB.delete_absent hc r.inv hk]
    exact ⟨_, e, r.setPrev pn' hl⟩

end GoLevel.MemArr

import GoLevel.Proofs.RecoverOpsJournal
/-!
The two blocks of `recoverJournal`'s loop body (`flush_cont`, `mid_cont`), its tail and the janitor: every crash
image offers a second `Recover` an input that is `MidIn` relative to the first one's (`Atomic`).
-/
namespace GoLevel.Dur
open GoLevel GoLevel.Conc

/-- a `Recover` started on `r` reads what the interrupted one would have read (see `rebuild_mid`) -/
def Atomic (cfg : RCfg) (r0 r : RDisk) : Prop := ∃ P Q R, MidIn (scanIn cfg r0) (scanIn cfg r) P Q R

variable {cfg : RCfg} {r0 r r' : RDisk} {nf t : Nat} {P Q R G : List Grp} {Jcur : Files (LogFile Grp)}

theorem journalRecs_one {d : Disk} {j : Nat} {f : LogFile Grp} (h : lookup d.journals j = some f) :
    journalRecs d [j] = f.all := by
  simp [journalRecs, h]

theorem JInv.quiet
    (h : JInv cfg r0 nf P Jcur r) {op : ROp} (hq : op.quiet = true) : JInv cfg r0 nf P Jcur (r.apply op) := by
  obtain ⟨a, b, c⟩ := quiet_apply hq r
  exact h.of_eq a b c

theorem JInv.remove_table
    (h : JInv cfg r0 nf P Jcur r) {n : Nat} (hn : n ∈ r0.disk.tables.nums) (he : slotEnts cfg r0 n = []) :
    JInv cfg r0 nf P Jcur (r.apply (.base (.remove .table n))) := by
  have hl : ∀ k, lookup (r.apply (.base (.remove .table n))).disk.tables k =
      if k = n then none else lookup r.disk.tables k := by
    intro k
    show lookup (r.disk.tables.erase n) k = _
    rw [lookup_erase]
  have hs : ∀ k, slotEnts cfg (r.apply (.base (.remove .table n))) k = slotEnts cfg r k := by
    intro k
    by_cases hk : k = n
    · subst hk
      rw [h.orig k hn, he]
      simp [slotEnts, hl]
    · exact slotEnts_eq_of (by rw [hl, if_neg hk]) rfl
  refine ⟨h.journals, fun p hp => h.tsynced p (mem_erase.1 hp).1, fun p hp => h.tbound p (mem_erase.1 hp).1,
    h.dbound, fun e => ?_, fun k hk => by rw [hs]; exact h.orig k hk⟩
  rw [← h.tabs e]
  simp only [hs]

theorem janitor_preserve (m : Nat) (h : JInv cfg r0 nf P Jcur r)
    (hr : Reach (janitorOps m r0 (tablePhase cfg r0).2) r r') : JInv cfg r0 nf P Jcur r' := by
  refine reach_preserve (I := JInv cfg r0 nf P Jcur) ?_ h hr
  intro op hop r1 h1
  unfold janitorOps at hop
  rcases List.mem_append.1 hop with hop | hop
  · obtain ⟨t, ht, rfl⟩ := List.mem_map.1 hop
    rw [List.mem_filter] at ht
    -- not recorded, so nothing was read from it
    refine h1.remove_table (mem_sortNums.1 ht.1) (Classical.not_not.1 fun hne => ?_)
    simpa [mem_added_iff.2 ⟨ht.1, hne⟩] using ht.2
  · obtain ⟨x, _, rfl⟩ := List.mem_map.1 hop
    exact h1.quiet rfl

/-- the journal files `Jcur` still there, in number order and durable, hold the part `Q ++ R` of the stream
    `P ++ Q ++ R` that the first `Recover` read -/
structure JMid (cfg : RCfg) (r0 : RDisk) (P Q R : List Grp) (Jcur : Files (LogFile Grp)) : Prop where
  sorted : Jcur.Pairwise (fun p q => p.1 < q.1)
  dur : ∀ p ∈ Jcur, p.2.unsynced = []
  split : (scanIn cfg r0).journals.flatMap (·.2) = P ++ Q ++ R
  stream : Jcur.flatMap (·.2.all) = Q ++ R

/-- `Q` counted with the part that sits in journals only -/
theorem JMid.unflushed (hm : JMid cfg r0 P Q R Jcur) : JMid cfg r0 P [] (Q ++ R) Jcur :=
  ⟨hm.sorted, hm.dur, by simpa using hm.split, by simpa using hm.stream⟩

/-- a `Recover` started on a storage between two operations reads the journals still there and, in the tables, the
    groups flushed so far -/
theorem JInv.atomic (h : JInv cfg r0 nf (P ++ Q) Jcur r) (hm : JMid cfg r0 P Q R Jcur) : Atomic cfg r0 r := by
  refine ⟨P, Q, R, hm.split, fun e => ?_, ?_⟩
  · rw [mem_scan_tables]; exact h.tabs e
  · rw [scan_journals_sorted cfg (by rw [h.journals]; exact hm.sorted), h.journals]; exact hm.stream

theorem atomic_of_jinv (h : JInv cfg r0 nf (P ++ Q) Jcur r) (hm : JMid cfg r0 P Q R Jcur) (ch : RCrash) :
    Atomic cfg r0 (rcrash ch r) :=
  (h.crash hm.dur ch).atomic hm

/-- between two operations: a crash here is covered by `atomic_of_jinv`, otherwise go on after the operation -/
theorem JInv.step
    (h : JInv cfg r0 nf (P ++ Q) Jcur r) (hm : JMid cfg r0 P Q R Jcur) (ch : RCrash) {op : ROp} {rest : List ROp}
    (hr : Reach (op :: rest) r r') (k : Reach rest (r.apply op) r' → Atomic cfg r0 (rcrash ch r')) :
    Atomic cfg r0 (rcrash ch r') := by
  rcases reach_cons_iff.1 hr with rfl | hr
  · exact atomic_of_jinv h hm ch
  · exact k hr

/-- the crash image of a storage that differs from `r` in the fresh table `t` only, which holds nothing or `G`
    and is not synced yet: it is such a storage again, `t` durable and intact or unreadable (`JInv.fill`); the
    journals are untouched, the tables hold the groups flushed before, with or without `G` -/
theorem flush_mid {r'' : RDisk} {Rr g : List Grp} (h : JInv cfg r0 t P Jcur r) (hr0 : ∀ n ∈ r0.disk.tables.nums, n < t)
    (hm : JMid cfg r0 P G Rr Jcur) (ch : RCrash) (hd : r''.dmg = r.dmg)
    (hj : r''.disk.journals = r.disk.journals) (ht : r''.disk.tables = r.disk.tables.set t ⟨g, false, false⟩)
    (hG : g = [] ∨ g = G) : Atomic cfg r0 (rcrash ch r'') := by
  have hc := h.fill (r' := rcrash ch r'') hr0 (by cases ch.base.keepT t <;> rfl) (rcrash_tables_set ch h ht)
    ((rcrash_journals ch r'' (by rw [hj, h.journals]; exact hm.dur)).trans hj) hd
  have hx : scanGood (crashTable (ch.base.keepT t) ⟨g, false, false⟩) = [] ∨
      scanGood (crashTable (ch.base.keepT t) ⟨g, false, false⟩) = G := by
    cases ch.base.keepT t
    · exact Or.inl rfl
    · exact hG
  rcases hx with e | e <;> rw [e] at hc
  · exact hc.atomic hm.unflushed
  · exact hc.atomic hm

/-- `flushMemdb` of the memdb `mdb` of the journal in hand (nothing happens if it is empty): inside the flush the
    tables hold `P` with or without `mdb` -/
theorem flush_cont {mdb Rr : List Grp} {rest : List ROp} (h : JInv cfg r0 nf P Jcur r)
    (hr0 : ∀ n ∈ r0.disk.tables.nums, n < nf)
    (hm : JMid cfg r0 P mdb Rr Jcur) (ch : RCrash) (hr : Reach (flushOps nf mdb ++ rest) r r')
    (k : ∀ rf, JInv cfg r0 (nfAfterFlush nf mdb) (P ++ mdb) Jcur rf → Reach rest rf r' →
      Atomic cfg r0 (rcrash ch r')) : Atomic cfg r0 (rcrash ch r') := by
  unfold flushOps at hr
  by_cases hG : mdb.isEmpty = true
  · rw [if_pos hG] at hr
    refine k r ?_ hr
    rw [List.isEmpty_iff.1 hG]
    simpa [nfAfterFlush] using h
  · rw [if_neg hG] at hr
    have e : nfAfterFlush nf mdb = nf + 1 := by simp [nfAfterFlush, hG]
    -- before `Create`, after it, after `Write`; what follows the `Sync` is the continuation's
    rcases reach_cons_iff.1 hr with rfl | hr
    · exact atomic_of_jinv (Q := []) (by simpa using h) hm.unflushed ch
    rcases reach_cons_iff.1 hr with rfl | hr
    · exact flush_mid h hr0 hm ch rfl rfl rfl (Or.inl rfl)
    rcases reach_cons_iff.1 hr with rfl | hr
    · exact flush_mid h hr0 hm ch rfl rfl
        (set_modify_fresh (fun p hp => Nat.ne_of_lt (h.tbound p hp)) {} fun x => { x with grps := mdb }) (Or.inr rfl)
    · exact k _ (e ▸ h.flush hr0) hr

/-- after the flush: the manifest record, its sync, and the removal of the journal `o` whose memdb was flushed -/
theorem mid_cont {rf : RDisk} {o : Nat} {fo : LogFile Grp} {mdb Rr : List Grp}
    {Jrem : Files (LogFile Grp)} {q1 q2 : ROp} {rest : List ROp}
    (hf : JInv cfg r0 nf (P ++ mdb) ((o, fo) :: Jrem) rf) (hm : JMid cfg r0 P mdb Rr ((o, fo) :: Jrem))
    (ch : RCrash) (hq1 : q1.quiet = true) (hq2 : q2.quiet = true)
    (hr : Reach (q1 :: q2 :: .base (.remove .journal o) :: rest) rf r')
    (k : ∀ r4, JInv cfg r0 nf (P ++ mdb) Jrem r4 → Reach rest r4 r' → Atomic cfg r0 (rcrash ch r')) :
    Atomic cfg r0 (rcrash ch r') := by
  have h3 := (hf.quiet hq1).quiet hq2
  refine hf.step hm ch hr fun hr => (hf.quiet hq1).step hm ch hr fun hr => h3.step hm ch hr fun hr => ?_
  refine k _ ?_ hr
  refine h3.set_journals rfl rfl ?_
  show Files.erase _ o = _
  rw [h3.journals]; exact erase_head_sorted hm.sorted

/-- "Flush the last memdb" … `checkAndCleanFiles`; `hand`: the last replayed journal, still there (none if there was
    no journal at all) -/
theorem tail_reach {m seq : Nat} (hand : Option (Nat × LogFile Grp))
    (h : JInv cfg r0 nf P hand.toList r) (hh : ∀ q ∈ hand.toList, q.2.unsynced = [] ∧ q.1 < nf)
    (hr0 : ∀ n ∈ r0.disk.tables.nums, n < nf)
    (hsplit : (scanIn cfg r0).journals.flatMap (·.2) = P ++ hand.toList.flatMap (·.2.all))
    (hr : Reach (tailOps m ⟨seq, nf, hand.map (·.1), (hand.map (·.2.all)).getD []⟩ ++
      janitorOps m r0 (tablePhase cfg r0).2) r r') (ch : RCrash) :
    Atomic cfg r0 (rcrash ch r') := by
  generalize hmdb : (hand.map (·.2.all)).getD [] = mdb at hr
  have hall : hand.toList.flatMap (·.2.all) = mdb := by subst hmdb; cases hand <;> simp
  have hlt : ∀ q ∈ hand.toList, q.1 < nfAfterFlush nf mdb := fun q hq => by
    have := (hh q hq).2; unfold nfAfterFlush; split <;> omega
  have hm1 : JMid cfg r0 P mdb [] hand.toList :=
    ⟨by cases hand <;> simp, fun q hq => (hh q hq).1, by simp [hsplit, hall], by simp [hall]⟩
  have hm2 : JMid cfg r0 P mdb [] (hand.toList ++ [(nfAfterFlush nf mdb, ⟨[], []⟩)]) :=
    ⟨List.pairwise_append.2 ⟨hm1.sorted, List.pairwise_singleton _ _, fun p hp q hq => by
        rw [List.mem_singleton.1 hq]; exact hlt p hp⟩,
      fun p hp => (List.mem_append.1 hp).elim (hm1.dur p) fun hq => by rw [List.mem_singleton.1 hq],
      hm1.split, by rw [List.flatMap_append, hall]; simp [LogFile.all]⟩
  have hm3 : JMid cfg r0 (P ++ mdb) [] [] [(nfAfterFlush nf mdb, ⟨[], []⟩)] :=
    ⟨List.pairwise_singleton _ _, by simp, by simp [hsplit, hall], by simp [LogFile.all]⟩
  unfold tailOps at hr
  simp only [List.append_assoc, List.cons_append, List.nil_append] at hr
  refine flush_cont h hr0 hm1 ch hr fun rf hf hr => hf.step hm1 ch hr fun hr => ?_
  have h1 := hf.set_journals (r' := rf.apply (.base (.create .journal (nfAfterFlush nf mdb)))) rfl rfl
    (J := hand.toList ++ [(nfAfterFlush nf mdb, ⟨[], []⟩)]) (by
      show rf.disk.journals.set _ _ = _
      rw [hf.journals, set_of_fresh _ fun p hp => Nat.ne_of_lt (hlt p hp)])
  cases hand with
  | none =>
    refine h1.step hm2 ch hr fun hr => (h1.quiet rfl).step hm2 ch hr fun hr => ?_
    exact atomic_of_jinv (janitor_preserve m ((h1.quiet rfl).quiet rfl) hr) hm2 ch
  | some q =>
    refine mid_cont h1 hm2 ch rfl rfl hr fun r4 h4 hr => ?_
    exact atomic_of_jinv (janitor_preserve m (by simpa using h4) hr) hm3 ch

end GoLevel.Dur

import GoLevel.Proofs.SessionChain
/-! The session (producers) and the ghost history of the loop stay in step (C07). -/
namespace GoLevel.Session
open GoLevel GoLevel.RefLoop

/-- The numbers in use after an operation: the tables of a new version are in use; a number handed to
`tOps.remove` is free again (`reuseFileNum`). -/
def newNums (s : Sess) : Op → List Nat
  | .recover v => v.nums
  | .commit c r => (s.lsm.apply c r).nums
  | _ => []

def nextUsed (U : List Nat) (s : Sess) (o : Op) (rm : List Nat) : List Nat :=
  (U ++ newNums s o).filter (fun f => decide (f ∉ rm))

/-- What the theorems assume about an operation: where table numbers come from and what `Version.apply` does
(`EditFacts`); a recovery is the first thing a session does; the first commit after it deletes nothing
(`recoverJournal`'s record only adds the tables it flushed); `session.create` is called on an empty version
(`Open` → `s.create()` only when there is nothing to recover). -/
def OpOK (s : Sess) (U : List Nat) : Op → Prop
  | .recover v => s.nt = 1 ∧ s.manifest = false ∧ v.nums.Nodup ∧ ∀ f ∈ v.nums, f ∉ U
  | .commit c r => EditFacts s.lsm c r U ∧ (s.manifest = false → r.deleted = [])
  | .create => s.manifest = false → s.lsm.nums = []
  | _ => True

structure Sim (y : Sys) (G : EnvF) (U : List Nat) : Prop where
  ok : LoopOK y.loop G y.requests
  nt : G.N = y.sess.nt + (if y.sess.closed then 1 else 0)
  ntpos : 0 < y.sess.nt
  closing : G.closing = y.sess.closed
  cur : y.sess.closed = false → G.dn = y.sess.cur ∧ G.N ≤ G.up (G.dn + 1)
  idsnd : (y.sess.objs.map (·.id)).Nodup
  /-- every version object somebody holds is installed and unreleased for the loop … -/
  objs : ∀ o ∈ y.sess.objs, G.inst o.id ∧ o.id ∉ G.rel
  /-- … and (until `close`, after which release tasks may be dropped) conversely -/
  objs' : y.sess.closed = false → ∀ k, G.inst k → k ∉ G.rel → ∃ o ∈ y.sess.objs, o.id = k
  files : ∀ o ∈ y.sess.objs, o.files = G.T o.id
  lsm : y.sess.closed = false → y.sess.lsm.nums = G.T y.sess.cur
  view : y.sess.closed = false → G.L y.sess.cur = (if y.sess.manifest then G.T y.sess.cur else [])
  used : y.sess.closed = false → ∀ k, G.inst k → G.alive y.loop.next k → ∀ f ∈ G.T k, f ∈ U
  /-- nobody pins the closing version -/
  clsobj : y.sess.closed = true → ∀ o ∈ y.sess.objs, o.id + 1 = G.N → o.pins = 0

theorem Sim.N_pos {y : Sys} {G : EnvF} {U : List Nat} (h : Sim y G U) : 0 < G.N := by
  have := h.nt; have := h.ntpos; omega

theorem Sim.N_open {y : Sys} {G : EnvF} {U : List Nat} (h : Sim y G U) (hc : y.sess.closed = false) :
    G.N = y.sess.nt := by
  have := h.nt; rw [hc] at this; simpa using this

theorem Sim.cur_obj {y : Sys} {G : EnvF} {U : List Nat} (h : Sim y G U) (hc : y.sess.closed = false) :
    G.inst G.dn ∧ G.dn ∉ G.rel ∧ ∃ o ∈ y.sess.objs, o.id = G.dn := by
  have hdi := h.ok.inv.wf.dn_inst h.N_pos
  have hdnr : G.dn ∉ G.rel := fun hm => Nat.lt_irrefl _ (h.ok.inv.wf.rel_lt (by rw [h.closing, hc]) hm)
  exact ⟨hdi, hdnr, h.objs' hc G.dn hdi hdnr⟩

theorem Sim.cur_used {y : Sys} {G : EnvF} {U : List Nat} (h : Sim y G U) (hc : y.sess.closed = false) :
    ∀ f ∈ y.sess.lsm.nums, f ∈ U := by
  intro f hf
  obtain ⟨hdi, hnr, _⟩ := h.cur_obj hc
  rw [h.lsm hc, ← (h.cur hc).1] at hf
  exact h.used hc _ hdi (Or.inl hnr) f hf

/-- The object of a version that `setVersion` has just referenced (id `N`, tables `fs`) joins the held ones. -/
theorem Sim.objs_push {y : Sys} {G : EnvF} {U : List Nat} (h : Sim y G U) (hN : G.N = y.sess.nt)
    {fs L : List Nat} {din : Delta} {G' : EnvF} (hvs : G'.vs = (G.push (.inst fs L din)).vs) (hrel : G'.rel = G.rel) :
    ((y.sess.objs ++ [(⟨y.sess.nt, fs, 0⟩ : VObj)]).map (·.id)).Nodup ∧
    ∀ o ∈ y.sess.objs ++ [(⟨y.sess.nt, fs, 0⟩ : VObj)], (G'.inst o.id ∧ o.id ∉ G'.rel) ∧ o.files = G'.T o.id := by
  have hlt : ∀ o ∈ y.sess.objs, o.id < G.N := fun o ho => EnvF.inst_lt (h.objs o ho).1
  have hnr : G.N ∉ G.rel := fun hm => by have := EnvF.inst_lt (h.ok.inv.wf.rel _ hm).1; omega
  refine ⟨?_, fun o ho => ?_⟩
  · rw [List.map_append, List.nodup_append]
    refine ⟨h.idsnd, by simp, ?_⟩
    intro a ha b hb
    obtain ⟨o, ho, rfl⟩ := List.mem_map.mp ha
    simp only [List.map_cons, List.map_nil, List.mem_singleton] at hb
    have := hlt o ho
    omega
  · rw [EnvF.inst_congr hvs, EnvF.T_congr hvs, hrel]
    rcases List.mem_append.mp ho with ho | ho
    · exact ⟨⟨(EnvF.push_inst_lt (hlt o ho)).mpr (h.objs o ho).1, (h.objs o ho).2⟩,
        by rw [h.files o ho, EnvF.push_T_lt (hlt o ho)]⟩
    · simp only [List.mem_singleton] at ho
      subst ho
      show ((G.push _).inst y.sess.nt ∧ y.sess.nt ∉ G.rel) ∧ fs = (G.push _).T y.sess.nt
      rw [← hN]
      exact ⟨⟨EnvF.push_inst_eq.mpr rfl, hnr⟩, (EnvF.push_T_eq (s := .inst fs L din)).symm⟩

theorem obj_eq {s : Sess} (hnd : (s.objs.map (·.id)).Nodup) {o : VObj} (ho : o ∈ s.objs) :
    s.obj o.id = some o := by
  unfold Sess.obj
  cases h : s.objs.find? (·.id = o.id) with
  | none => simpa using List.find?_eq_none.1 h o ho
  | some m => rw [eq_of_nodup_map (·.id) hnd (List.mem_of_find?_eq_some h) ho (by simpa using List.find?_some h)]

theorem obj_mem {s : Sess} {id : Nat} {o : VObj} (h : s.obj id = some o) : o ∈ s.objs ∧ o.id = id := by
  unfold Sess.obj at h
  exact ⟨List.mem_of_find?_eq_some h, by simpa using List.find?_some h⟩

theorem used_step {G G' : EnvF} {U new rm : List Nat} {nx nx' : Nat}
    (hu : ∀ k, G.inst k → G.alive nx k → ∀ f ∈ G.T k, f ∈ U)
    (hold : ∀ k, G'.inst k → G'.alive nx' k →
      (G.inst k ∧ G.alive nx k ∧ G'.T k = G.T k) ∨ (∀ f ∈ G'.T k, f ∈ new))
    (hs : SafeF G' nx' rm) (hc : G'.closing = false) :
    ∀ k, G'.inst k → G'.alive nx' k → ∀ f ∈ G'.T k, f ∈ (U ++ new).filter (fun f => decide (f ∉ rm)) := by
  intro k hik hal f hf
  rw [List.mem_filter]
  refine ⟨?_, by
    simp only [decide_eq_true_eq]
    exact fun hr => hs f hr k hik (needs_of_alive hc hal) hf⟩
  rcases hold k hik hal with ⟨h1, h2, h3⟩ | h1
  · rw [h3] at hf; exact List.mem_append_left _ (hu k h1 h2 f hf)
  · exact List.mem_append_right _ (h1 f hf)

theorem sim_pins {y : Sys} {G : EnvF} {U : List Nat} (h : Sim y G U) (φ : VObj → VObj)
    (hid : ∀ o, (φ o).id = o.id) (hfiles : ∀ o, (φ o).files = o.files)
    (hg : y.sess.closed = true → ∀ o ∈ y.sess.objs, (φ o).pins ≤ o.pins) :
    Sim ⟨{ y.sess with objs := y.sess.objs.map φ }, y.loop, y.requests⟩ G U := by
  refine { h with idsnd := ?_, objs := ?_, objs' := ?_, files := ?_, clsobj := ?_ }
  · show ((y.sess.objs.map φ).map (·.id)).Nodup
    rw [List.map_map, show ((·.id) ∘ φ) = (·.id) from funext hid]; exact h.idsnd
  · intro o' ho'
    obtain ⟨o, ho, rfl⟩ := List.mem_map.mp ho'
    rw [hid]; exact h.objs o ho
  · intro hc k h1 h2
    obtain ⟨o, ho, rfl⟩ := h.objs' hc k h1 h2
    exact ⟨_, List.mem_map_of_mem ho, hid o⟩
  · intro o' ho'
    obtain ⟨o, ho, rfl⟩ := List.mem_map.mp ho'
    rw [hid, hfiles]; exact h.files o ho
  · intro hc o' ho' hid'
    obtain ⟨o, ho, rfl⟩ := List.mem_map.mp ho'
    have := h.clsobj hc o ho (by rw [← hid o]; exact hid')
    have := hg hc o ho
    omega

end GoLevel.Session

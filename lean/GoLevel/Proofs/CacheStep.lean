import GoLevel.Proofs.CacheLog
/-! What the property theorems (C17) read off the invariants: about runs (`runSched`, `runInstrs`); no delFunc runs twice
in the guarded system or with the repaired `mBucket.delete`; a finaliser runs while no handle to its node is outstanding;
quiescent states. -/
namespace GoLevel.CacheM

theorem holdsHandle_holdsVal {id : Nat} {j : Instr} (h : holdsHandle id j = true) : holdsVal id j = true := by
  cases j <;> first | exact h | cases h

theorem holdsHandle_owns {id : Nat} {j : Instr} (h : holdsHandle id j = true) : owns id j = true :=
  holdsVal_owns (holdsHandle_holdsVal h)

theorem outstanding_le_refs (s : Sys) (id : Nat) : outstanding s id ≤ refsP s.sh (pending s) id := by
  unfold outstanding refsP
  have : (pending s).countP (holdsHandle id) ≤ (pending s).countP (owns id) :=
    List.countP_mono_left (fun j _ hj => holdsHandle_owns hj)
  omega

theorem reachable_of_runSched {g : Bool} {s s' : Sys} {sched : List Act} (hr : Reachable g s)
    (h : runSched g s sched = some s') : Reachable g s' := by
  induction sched generalizing s with
  | nil => simp only [runSched, Option.some.injEq] at h; subst h; exact hr
  | cons a as ih =>
    simp only [runSched] at h
    cases hs : sysStep g s a with
    | none => rw [hs] at h; cases h
    | some s1 => rw [hs] at h; exact ih (Reachable.step a hr hs) h

/-- The sequential API (`runInstrs`, used by the driver) is a run of the interleaving system with one thread. -/
theorem runInstrs_reachable {f : Nat} {sh sh' : Shared} {is : List Instr} {evs0 evs log : List Ev}
    (hr : Reachable false { sh := sh, threads := [is], log := log })
    (h : runInstrs f sh is evs0 = some (sh', evs)) :
    ∃ log', Reachable false { sh := sh', threads := [[]], log := log' } := by
  induction f generalizing sh is evs0 log with
  | zero => simp [runInstrs] at h
  | succ f ih =>
    cases is with
    | nil =>
      simp only [runInstrs, Option.some.injEq, Prod.mk.injEq] at h
      obtain ⟨rfl, _⟩ := h
      exact ⟨log, hr⟩
    | cons i rest =>
      simp only [runInstrs] at h
      cases he : exec sh i with
      | none => rw [he] at h; cases h
      | some r =>
        obtain ⟨sh1, push, e⟩ := r
        rw [he] at h
        refine ih (log := log ++ e) (Reachable.step (.step 0) hr ?_) h
        simp [sysStep, stepOK, he]
        cases i <;> rfl

theorem cfg_runSched {g : Bool} {sched : List Act} : ∀ {s s' : Sys}, runSched g s sched = some s' →
    s'.sh.clearDel = s.sh.clearDel ∧ s'.sh.recheck = s.sh.recheck := by
  induction sched with
  | nil => intro s s' h; simp only [runSched, Option.some.injEq] at h; rw [h]; exact ⟨rfl, rfl⟩
  | cons a as ih =>
    intro s s' h
    simp only [runSched] at h
    cases hs : sysStep g s a with
    | none => rw [hs] at h; cases h
    | some s1 =>
      rw [hs] at h
      rw [(ih h).1, (ih h).2]
      rcases sysStep_cases hs with ⟨t, c, rfl, ht, _, rfl⟩ | ⟨t, i, rest, sh', push, evs, rfl, ht, he, _, rfl⟩
      · exact ⟨rfl, rfl⟩
      · exact ⟨(exec_ghost he).1, (exec_ghost he).2.1⟩

theorem eff_of {g : Bool} {sh : Shared} (h : g = true ∨ sh.recheck = true ∨ sh.closed = false) :
    Eff g sh = true ∨ sh.closed = false := by
  rcases h with h | h | h
  · exact Or.inl (by simp [Eff, h])
  · exact Or.inl (by simp [Eff, h])
  · exact Or.inr h

theorem not_stale {g : Bool} {s : Sys} (hr : Reachable g s) :
    (g = true ∨ s.sh.clearDel = true ∨ s.sh.stale = false) → s.sh.stale = false
  | .inl hg => (inv_reachable hr).core.ns (.inl hg)
  | .inr (.inl hc) => (inv_reachable hr).core.ns (.inr hc)
  | .inr (.inr h) => h

/-- No delFunc ran twice: in the guarded system, with the repaired `mBucket.delete`, or as long as no finaliser went
through a stale pointer. -/
theorem delf_nodup {g : Bool} {s : Sys} (hr : Reachable g s)
    (hg : g = true ∨ s.sh.clearDel = true ∨ s.sh.stale = false) : (s.log.filterMap delId).Nodup :=
  List.nodup_iff_count.mpr fun d => by
    have := (logOK_reachable hr).dels (not_stale hr hg) d
    simp only [D, List.count_append] at this
    split at this <;> omega

/-- A finaliser event of a step (not force-closed; finalisation safe): no handle to its node is outstanding. -/
theorem outstanding_zero_of_fin {g : Bool} {s s' : Sys} {a : Act} (hr : Reachable g s)
    (hs : sysStep g s a = some s') (hf : s.sh.forced = false)
    (hg : g = true ∨ s.sh.recheck = true ∨ s.sh.closed = false) {e : Ev} {id : Nat} (hev : e ∈ emitted s a)
    (hfin : isFinOf id e = true) : outstanding s id = 0 := by
  rcases sysStep_cases hs with ⟨t, c, rfl, _, hem, rfl⟩ | ⟨t, i, rest, sh', push, evs, rfl, ht, he, hem, rfl⟩
  · rw [hem] at hev; cases hev
  · obtain ⟨Q, hperm, _, hP, _⟩ := (inv_reachable hr).at_step hs ht
    rw [hem] at hev
    have h0 := fin_refs_zero hP he hf (eff_of hg) hev hfin
    have hle := outstanding_le_refs s id
    have : refsP s.sh (pending s) id = refsP s.sh (i :: Q) id := by
      simp only [refsP]; rw [hperm.countP_eq]
    omega

/-- **Quiescent**: every thread has finished every call it started — no instruction is pending anywhere.  This is
the only assumption the "exactly once" theorems make about the scheduler: they speak about the states in which
all calls have returned, however the threads were interleaved before. -/
def Quiescent (s : Sys) : Prop := pending s = []

/-- In a quiescent state the cache (map or LRU list) or a caller still *retains* node `n`: a caller owns a handle
to it, or the cache is open and the node is on the LRU list; and the cache was not force-closed. -/
def Retained (s : Sys) (n : Node) : Prop :=
  s.sh.forced = false ∧ (n.id ∈ s.sh.handles ∨ (s.sh.closed = false ∧ n.id ∈ s.sh.lru.recent))

theorem retained_of_quiescent {g : Bool} {s : Sys} (hr : Reachable g s) (hq : Quiescent s) {n : Node}
    (hn : n ∈ s.sh.nodes) (hne : ¬ (n.value = none ∧ n.delFuncs = [])) : Retained s n := by
  have hP := (inv_reachable hr).core
  unfold Quiescent at hq
  rw [hq] at hP
  cases hf : s.sh.forced with
  | true =>
    rcases hP.zf hf n hn with h1 | h1
    · exact absurd h1 hne
    · cases h1
  | false =>
    refine ⟨hf, ?_⟩
    have hrc := hP.rc hf n hn
    simp only [refsP, List.countP_nil, Nat.add_zero] at hrc
    cases hc : s.sh.closed with
    | false =>
      have hnz : n.ref ≠ 0 := by
        intro h0
        rcases hP.zo hc n hn h0 with h1 | h1 <;> cases h1
      by_cases hh : n.id ∈ s.sh.handles
      · exact Or.inl hh
      · right
        refine ⟨rfl, ?_⟩
        have := List.count_eq_zero.mpr hh
        exact List.count_pos_iff.mp (by omega)
    | true =>
      have hnz : n.ref ≠ 0 := by
        intro h0
        rcases hP.zc hc hf n hn h0 with h1 | h1 | h1
        · exact hne h1
        · cases h1
        · cases h1
      have hrec : s.sh.lru.recent.count n.id = 0 := by
        rw [List.count_eq_zero]
        intro hm; have := hP.lc hc _ hm; cases this
      left
      exact List.count_pos_iff.mp (by omega)

theorem recent_nil_of_closed_quiescent {g : Bool} {s : Sys} (hr : Reachable g s) (hq : Quiescent s)
    (hc : s.sh.closed = true) : s.sh.lru.recent = [] := by
  have hP := (inv_reachable hr).core
  unfold Quiescent at hq
  rw [hq] at hP
  cases hrec : s.sh.lru.recent with
  | nil => rfl
  | cons a l => have := hP.lc hc a (by rw [hrec]; exact List.mem_cons_self); cases this

end GoLevel.CacheM

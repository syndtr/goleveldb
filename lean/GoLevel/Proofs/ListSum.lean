/-! Sums of a weight over a list (`(l.map g).sum`) when one position is rewritten: the arithmetic behind every
"each resource has exactly one owner among the threads" invariant (`Locks.tot`, `WP.tot`, `CacheL.cnt`). -/
namespace GoLevel
variable {α : Type} (g : α → Nat)

/-- The sum split into the element at `i` and the others: rewriting an invariant with this and the goal with
`sum_map_set_eraseIdx` leaves linear arithmetic over the old and the new weight, without truncated subtraction. -/
theorem sum_map_eraseIdx {l : List α} {i : Nat} {a : α} (h : l[i]? = some a) :
    (l.map g).sum = ((l.eraseIdx i).map g).sum + g a := by
  induction l generalizing i with
  | nil => simp at h
  | cons x xs ih =>
    cases i with
    | zero => simp at h; subst h; simp; omega
    | succ n => simp only [List.eraseIdx_cons_succ, List.map_cons, List.sum_cons, ih (by simpa using h)]; omega

theorem sum_map_set_eraseIdx {l : List α} {i : Nat} {a : α} (h : l[i]? = some a) (b : α) :
    ((l.set i b).map g).sum = ((l.eraseIdx i).map g).sum + g b := by
  have hi : i < l.length := (List.getElem?_eq_some_iff.mp h).1
  rw [sum_map_eraseIdx g (l := l.set i b) (i := i) (a := b) (by simp [hi]), List.eraseIdx_set_eq]

theorem sum_map_set {l : List α} {i : Nat} {a : α} (h : l[i]? = some a) (b : α) :
    ((l.set i b).map g).sum + g a = (l.map g).sum + g b := by
  rw [sum_map_eraseIdx g h, sum_map_set_eraseIdx g h]; omega

theorem le_sum_map {l : List α} {i : Nat} {a : α} (h : l[i]? = some a) : g a ≤ (l.map g).sum := by
  rw [sum_map_eraseIdx g h]; omega

theorem exists_of_sum_map_pos {l : List α} (h : 0 < (l.map g).sum) : ∃ (i : Nat) (a : α), l[i]? = some a ∧ 0 < g a := by
  induction l with
  | nil => simp at h
  | cons x xs ih =>
    rw [List.map_cons, List.sum_cons] at h
    by_cases hx : 0 < g x
    · exact ⟨0, x, by simp, hx⟩
    · obtain ⟨i, w, hi, hw⟩ := ih (by omega)
      exact ⟨i + 1, w, by simpa using hi, hw⟩

theorem sum_map_le {f₁ f₂ : α → Nat} {l : List α} (h : ∀ x ∈ l, f₁ x ≤ f₂ x) : (l.map f₁).sum ≤ (l.map f₂).sum := by
  induction l with
  | nil => exact Nat.le_refl _
  | cons a l ih =>
    simp only [List.map_cons, List.sum_cons]
    exact Nat.add_le_add (h a List.mem_cons_self) (ih fun x hx => h x (List.mem_cons_of_mem _ hx))

theorem sum_map_lt {f₁ f₂ : α → Nat} {l : List α} (h : ∀ x ∈ l, f₁ x ≤ f₂ x) {a : α} (ha : a ∈ l)
    (hlt : f₁ a < f₂ a) : (l.map f₁).sum < (l.map f₂).sum := by
  obtain ⟨i, hi⟩ := List.getElem?_of_mem ha
  rw [sum_map_eraseIdx f₁ hi, sum_map_eraseIdx f₂ hi]
  have := sum_map_le (l := l.eraseIdx i) fun x hx => h x (List.mem_of_mem_eraseIdx hx)
  omega

end GoLevel

import GoLevel.Proofs.IterSim
/-!
# `IndexedIter` is a cursor over the concatenation of its children (C02)

`IndexedIter.sim`: under `IdxOK` (what the index promises about the children) every reachable state of
the model of `leveldb/iterator/indexed_iter.go` behaves like the specification cursor over
`chs.flatMap (·.es)`.
-/
namespace GoLevel

/-- what the index promises; children may be empty -/
structure IdxOK (c : UCmp) (chs : List IdxChild) : Prop where
  sorted  : SortedEntries c (chs.flatMap (·.es))
  lo      : ∀ (i : Nat) (ch : IdxChild) (e : Entry), chs[i]? = some ch → e ∈ ch.es → icmp c e.key ch.sep ≠ .gt
  hi      : ∀ (i j : Nat) (chi chj : IdxChild) (e : Entry), i < j → chs[i]? = some chi → chs[j]? = some chj → e ∈ chj.es →
              icmp c chi.sep e.key ≠ .gt
  sepMono : ∀ (i j : Nat) (chi chj : IdxChild), i < j → chs[i]? = some chi → chs[j]? = some chj →
              icmp c chi.sep chj.sep ≠ .gt

namespace IndexedIter

abbrev flat (chs : List IdxChild) : List Entry := chs.flatMap (·.es)

def off (chs : List IdxChild) (i : Nat) : Nat := ((chs.take i).map (·.es.length)).sum

open Cursor (before)

/-- the simulation relation between an `IndexedIter` state and a cursor position over the concatenation -/
inductive Rel (_c : UCmp) (chs : List IdxChild) : IndexedIter → Pos → Prop
  | soi : Rel _c chs ⟨chs, .soi, none⟩ .soi
  | eoi : Rel _c chs ⟨chs, .eoi, none⟩ .eoi
  | hit {i : Nat} {ch : IdxChild} {j : Nat} : chs[i]? = some ch → j < ch.es.length →
      Rel _c chs ⟨chs, .at i, some ⟨ch.es, .at j⟩⟩ (.at (off chs i + j))

theorem rel_new (c : UCmp) (chs : List IdxChild) : Rel c chs (IndexedIter.new chs) .soi := .soi

theorem Rel.children {c : UCmp} {chs : List IdxChild} {x : IndexedIter} {p : Pos} (h : Rel c chs x p) :
    x.children = chs := by
  cases h <;> rfl

theorem off_eq_length (chs : List IdxChild) (i : Nat) : off chs i = (flat (chs.take i)).length := by
  simp only [off, flat, List.length_flatMap]

@[simp] theorem off_zero (chs : List IdxChild) : off chs 0 = 0 := by simp [off]

theorem off_succ {chs : List IdxChild} {i : Nat} {ch : IdxChild} (h : chs[i]? = some ch) :
    off chs (i + 1) = off chs i + ch.es.length := by
  simp [off, List.take_add_one, h]

theorem off_of_le {chs : List IdxChild} {i : Nat} (h : chs.length ≤ i) : off chs i = (flat chs).length := by
  rw [off_eq_length, List.take_of_length_le h]

theorem flat_split {chs : List IdxChild} {i : Nat} {ch : IdxChild} (h : chs[i]? = some ch) :
    flat chs = flat (chs.take i) ++ (ch.es ++ flat (chs.drop (i + 1))) := by
  have hi : i < chs.length := (List.getElem?_eq_some_iff.1 h).1
  have he : chs[i] = ch := (List.getElem?_eq_some_iff.1 h).2
  conv => lhs; rw [← List.take_append_drop i chs, List.drop_eq_getElem_cons hi, he]
  simp [flat, List.flatMap_append, List.flatMap_cons]

theorem flat_length {chs : List IdxChild} {i : Nat} {ch : IdxChild} (h : chs[i]? = some ch) :
    (flat chs).length = off chs i + ch.es.length + (flat (chs.drop (i + 1))).length := by
  rw [flat_split h, off_eq_length]; simp only [List.length_append]; omega

theorem flat_get {chs : List IdxChild} {i : Nat} {ch : IdxChild} (h : chs[i]? = some ch) (j : Nat)
    (hj : j < ch.es.length) : (flat chs)[off chs i + j]? = ch.es[j]? := by
  rw [flat_split h, off_eq_length, List.getElem?_append_right (by omega)]
  rw [List.getElem?_append_left (by omega)]
  congr 1; omega

theorem nextF_none_stop (c : UCmp) (n : Nat) (chs : List IdxChild) (p : Pos)
    (h : Cursor.get chs (Cursor.next chs p) = none) :
    nextF c (n + 1) ⟨chs, p, none⟩ = ⟨chs, Cursor.next chs p, none⟩ := by
  simp [nextF, indexOk, h]

theorem nextF_none_go (c : UCmp) (n : Nat) (chs : List IdxChild) (p : Pos) (ch : IdxChild)
    (h : Cursor.get chs (Cursor.next chs p) = some ch) :
    nextF c (n + 1) ⟨chs, p, none⟩ = nextF c n ⟨chs, Cursor.next chs p, some ⟨ch.es, .soi⟩⟩ := by
  simp [nextF, indexOk, setData, h]

theorem nextF_some_fail (c : UCmp) (n : Nat) (chs : List IdxChild) (p : Pos) (a : ArrIter)
    (h : Cursor.get a.xs (Cursor.next a.xs a.pos) = none) :
    nextF c (n + 1) ⟨chs, p, some a⟩ = nextF c (n + 1) ⟨chs, p, none⟩ := by
  simp [nextF, ArrIter.ops, IterOps.ok, h, clearData]

theorem nextF_some_ok (c : UCmp) (n : Nat) (chs : List IdxChild) (p : Pos) (a : ArrIter) (e : Entry)
    (h : Cursor.get a.xs (Cursor.next a.xs a.pos) = some e) :
    nextF c (n + 1) ⟨chs, p, some a⟩ = ⟨chs, p, some ⟨a.xs, Cursor.next a.xs a.pos⟩⟩ := by
  simp [nextF, ArrIter.ops, IterOps.ok, h]

theorem prevF_none_stop (c : UCmp) (n : Nat) (chs : List IdxChild) (p : Pos)
    (h : Cursor.get chs (Cursor.prev chs p) = none) :
    prevF c (n + 1) ⟨chs, p, none⟩ = ⟨chs, Cursor.prev chs p, none⟩ := by
  simp [prevF, indexOk, h]

theorem prevF_none_go (c : UCmp) (n : Nat) (chs : List IdxChild) (p : Pos) (ch : IdxChild)
    (h : Cursor.get chs (Cursor.prev chs p) = some ch) :
    prevF c (n + 2) ⟨chs, p, none⟩ = prevF c (n + 1) ⟨chs, Cursor.prev chs p, some ⟨ch.es, .eoi⟩⟩ := by
  simp only [prevF, indexOk, setData, h]
  simp [ArrIter.ops, clearData, show Cursor.prev ch.es .eoi = Cursor.last ch.es from rfl]

theorem prevF_some_fail (c : UCmp) (n : Nat) (chs : List IdxChild) (p : Pos) (a : ArrIter)
    (h : Cursor.get a.xs (Cursor.prev a.xs a.pos) = none) :
    prevF c (n + 1) ⟨chs, p, some a⟩ = prevF c (n + 1) ⟨chs, p, none⟩ := by
  simp [prevF, ArrIter.ops, IterOps.ok, h, clearData]

theorem prevF_some_ok (c : UCmp) (n : Nat) (chs : List IdxChild) (p : Pos) (a : ArrIter) (e : Entry)
    (h : Cursor.get a.xs (Cursor.prev a.xs a.pos) = some e) :
    prevF c (n + 1) ⟨chs, p, some a⟩ = ⟨chs, p, some ⟨a.xs, Cursor.prev a.xs a.pos⟩⟩ := by
  simp [prevF, ArrIter.ops, IterOps.ok, h]

theorem first_eq (c : UCmp) (chs : List IdxChild) (ipos : Pos) (data : Option ArrIter) :
    first c ⟨chs, ipos, data⟩ = nextF c (chs.length + 3) ⟨chs, .soi, none⟩ := rfl

theorem last_eq (c : UCmp) (chs : List IdxChild) (ipos : Pos) (data : Option ArrIter) :
    last c ⟨chs, ipos, data⟩ = prevF c (chs.length + 3) ⟨chs, .eoi, none⟩ := rfl

/-- `Next` with the data iterator of child `i` at `q`, whose next position is offset `j` of the child:
entry `j` of the child if there is one; otherwise what `Next` without a data iterator finds (`hcont`) -/
theorem nextF_data (c : UCmp) {chs : List IdxChild} {i : Nat} {ch : IdxChild} (hch : chs[i]? = some ch) (q : Pos)
    (j : Nat) (hq : Cursor.next ch.es q = atOr ch.es.length j) (hj : j ≤ ch.es.length) (m : Nat)
    (hcont : Rel c chs (nextF c (m + 1) ⟨chs, .at i, none⟩) (atOr (flat chs).length (off chs (i + 1)))) :
    Rel c chs (nextF c (m + 1) ⟨chs, .at i, some ⟨ch.es, q⟩⟩) (atOr (flat chs).length (off chs i + j)) := by
  have hget : Cursor.get ch.es (Cursor.next ch.es q) = ch.es[j]? := by rw [hq, get_atOr]
  by_cases hlt : j < ch.es.length
  · rw [nextF_some_ok c m chs (.at i) ⟨ch.es, q⟩ ch.es[j] (by rw [hget, List.getElem?_eq_getElem hlt])]
    have hlen := flat_length hch
    rw [atOr_lt (by omega)]
    show Rel c chs ⟨chs, .at i, some ⟨ch.es, Cursor.next ch.es q⟩⟩ _
    rw [hq, atOr_lt hlt]
    exact .hit hch hlt
  · rw [nextF_some_fail c m chs (.at i) ⟨ch.es, q⟩ (by rw [hget, List.getElem?_eq_none (by omega)])]
    have : off chs i + j = off chs (i + 1) := by rw [off_succ hch]; omega
    rw [this]; exact hcont

theorem nextF_scan (c : UCmp) (chs : List IdxChild) :
    ∀ (n i : Nat) (p : Pos), Cursor.next chs p = atOr chs.length i → 0 < n → chs.length < i + n →
      Rel c chs (nextF c n ⟨chs, p, none⟩) (atOr (flat chs).length (off chs i)) := by
  intro n
  induction n with
  | zero => intro i p _ h; exact absurd h (Nat.lt_irrefl 0)
  | succ n ih =>
    intro i p hnext _ hfuel
    by_cases hi : i < chs.length
    · have hch : chs[i]? = some chs[i] := List.getElem?_eq_getElem hi
      have hat : Cursor.next chs p = .at i := by rw [hnext, atOr_lt hi]
      rw [nextF_none_go c n chs p chs[i] (by rw [hat]; exact hch), hat]
      obtain ⟨m, rfl⟩ : ∃ m, n = m + 1 := ⟨n - 1, by omega⟩
      exact nextF_data c hch .soi 0 (Cursor.first_eq _) (Nat.zero_le _) m
        (ih (i + 1) (.at i) (Cursor.next_at chs i) (by omega) (by omega))
    · have hat : Cursor.next chs p = .eoi := by rw [hnext, atOr_ge (Nat.le_of_not_lt hi)]
      rw [nextF_none_stop c n chs p (by rw [hat]; rfl), hat, off_of_le (Nat.le_of_not_lt hi), atOr_ge (Nat.le_refl _)]
      exact .eoi

/-- the mirror image of `nextF_data` -/
theorem prevF_data (c : UCmp) {chs : List IdxChild} {i : Nat} {ch : IdxChild} (hch : chs[i]? = some ch) (q : Pos)
    (j : Nat) (hq : Cursor.prev ch.es q = before j) (hj : j ≤ ch.es.length) (m : Nat)
    (hcont : Rel c chs (prevF c (m + 1) ⟨chs, .at i, none⟩) (before (off chs i))) :
    Rel c chs (prevF c (m + 1) ⟨chs, .at i, some ⟨ch.es, q⟩⟩) (before (off chs i + j)) := by
  cases j with
  | zero => rw [prevF_some_fail c m chs (.at i) ⟨ch.es, q⟩ (by rw [hq]; rfl)]; exact hcont
  | succ j =>
    rw [prevF_some_ok c m chs (.at i) ⟨ch.es, q⟩ ch.es[j] (by rw [hq]; exact List.getElem?_eq_getElem hj)]
    show Rel c chs ⟨chs, .at i, some ⟨ch.es, Cursor.prev ch.es q⟩⟩ _
    rw [hq]
    exact .hit hch hj

theorem prevF_scan (c : UCmp) (chs : List IdxChild) :
    ∀ (n i : Nat) (p : Pos), Cursor.prev chs p = before i → i ≤ chs.length → i < n →
      Rel c chs (prevF c n ⟨chs, p, none⟩) (before (off chs i)) := by
  intro n
  induction n with
  | zero => intro i p _ _ h; omega
  | succ n ih =>
    intro i p hprev hi hfuel
    cases i with
    | zero =>
      have hat : Cursor.prev chs p = .soi := hprev
      rw [prevF_none_stop c n chs p (by rw [hat]; rfl), hat]
      rw [off_zero]; exact .soi
    | succ i =>
      have hch : chs[i]? = some chs[i] := List.getElem?_eq_getElem hi
      have hat : Cursor.prev chs p = .at i := hprev
      obtain ⟨m, rfl⟩ : ∃ m, n = m + 1 := ⟨n - 1, by omega⟩
      rw [prevF_none_go c m chs p chs[i] (by rw [hat]; exact hch), hat, off_succ hch]
      exact prevF_data c hch .eoi _ (Cursor.last_eq _) (Nat.le_refl _) m
        (ih i (.at i) (Cursor.prev_at chs i) (Nat.le_of_lt hi) (Nat.lt_of_succ_lt_succ hfuel))

theorem rel_wf (c : UCmp) (chs : List IdxChild) (x : IndexedIter) (p : Pos) (h : Rel c chs x p) :
    Cursor.wf (flat chs) p := by
  cases h with
  | soi => trivial
  | eoi => trivial
  | hit hch hj =>
    have := flat_length hch
    simp only [Cursor.wf]; omega

theorem rel_cur (c : UCmp) (chs : List IdxChild) (x : IndexedIter) (p : Pos) (h : Rel c chs x p) :
    x.cur = Cursor.get (flat chs) p := by
  cases h with
  | soi => rfl
  | eoi => rfl
  | hit hch hj => exact (flat_get hch _ hj).symm

theorem rel_first (c : UCmp) (chs : List IdxChild) (x : IndexedIter) (p : Pos) (h : Rel c chs x p) :
    Rel c chs (first c x) (Cursor.first (flat chs)) := by
  obtain ⟨children, ipos, data⟩ := x
  obtain rfl : children = chs := h.children
  rw [first_eq, Cursor.first_eq, ← off_zero children]
  exact nextF_scan c children _ 0 .soi (Cursor.first_eq children) (by omega) (by omega)

theorem rel_last (c : UCmp) (chs : List IdxChild) (x : IndexedIter) (p : Pos) (h : Rel c chs x p) :
    Rel c chs (last c x) (Cursor.last (flat chs)) := by
  obtain ⟨children, ipos, data⟩ := x
  obtain rfl : children = chs := h.children
  rw [last_eq, Cursor.last_eq, ← off_of_le (Nat.le_refl children.length)]
  exact prevF_scan c children _ children.length .eoi (Cursor.last_eq children) (Nat.le_refl _)
    (Nat.lt_add_of_pos_right (Nat.succ_pos 2))

theorem rel_next (c : UCmp) (chs : List IdxChild) (x : IndexedIter) (p : Pos) (h : Rel c chs x p) :
    Rel c chs (next c x) (Cursor.next (flat chs) p) := by
  cases h with
  | soi =>
    have := nextF_scan c chs (chs.length + 2) 0 .soi (Cursor.first_eq chs) (by omega) (by omega)
    rwa [off_zero, ← Cursor.first_eq] at this
  | eoi =>
    have := nextF_scan c chs (chs.length + 2) chs.length .eoi
      (by rw [atOr_ge (Nat.le_refl _)]; rfl) (by omega) (by omega)
    rwa [off_of_le (Nat.le_refl _), atOr_ge (Nat.le_refl _)] at this
  | @hit i ch j hch hj =>
    have hi : i < chs.length := (List.getElem?_eq_some_iff.1 hch).1
    rw [Cursor.next_at, Nat.add_assoc]
    exact nextF_data c hch (.at j) (j + 1) (Cursor.next_at _ j) hj (chs.length + 1)
      (nextF_scan c chs _ (i + 1) (.at i) (Cursor.next_at chs i) (by omega) (by omega))

theorem rel_prev (c : UCmp) (chs : List IdxChild) (x : IndexedIter) (p : Pos) (h : Rel c chs x p) :
    Rel c chs (prev c x) (Cursor.prev (flat chs) p) := by
  cases h with
  | soi =>
    have := prevF_scan c chs (chs.length + 2) 0 .soi rfl (Nat.zero_le _) (Nat.succ_pos _)
    rwa [off_zero] at this
  | eoi =>
    have := prevF_scan c chs (chs.length + 2) chs.length .eoi (Cursor.last_eq chs)
      (Nat.le_refl _) (Nat.lt_add_of_pos_right (Nat.succ_pos 1))
    rwa [off_of_le (Nat.le_refl _), ← Cursor.last_eq] at this
  | @hit i ch j hch hj =>
    have hi : i < chs.length := (List.getElem?_eq_some_iff.1 hch).1
    exact prevF_data c hch (.at j) j (Cursor.prev_at _ j) (Nat.le_of_lt hj) (chs.length + 1)
      (prevF_scan c chs _ i (.at i) (Cursor.prev_at chs i) (Nat.le_of_lt hi) (Nat.lt_add_right 2 hi))

theorem mem_flat_take {chs : List IdxChild} {i : Nat} {e : Entry} (h : e ∈ flat (chs.take i)) :
    ∃ j ch, j < i ∧ chs[j]? = some ch ∧ e ∈ ch.es := by
  obtain ⟨ch, hmem, he⟩ := List.mem_flatMap.1 h
  obtain ⟨j, hj⟩ := List.mem_iff_getElem?.1 hmem
  rw [List.getElem?_take] at hj
  split at hj
  · exact ⟨j, ch, by assumption, hj, he⟩
  · exact absurd hj (by simp)

theorem mem_flat_drop {chs : List IdxChild} {i : Nat} {e : Entry} (h : e ∈ flat (chs.drop i)) :
    ∃ j ch, i ≤ j ∧ chs[j]? = some ch ∧ e ∈ ch.es := by
  obtain ⟨ch, hmem, he⟩ := List.mem_flatMap.1 h
  obtain ⟨j, hj⟩ := List.mem_iff_getElem?.1 hmem
  rw [List.getElem?_drop] at hj
  exact ⟨i + j, ch, by omega, hj, he⟩

theorem seek_flat {chs : List IdxChild} {i : Nat} {ch : IdxChild} (hch : chs[i]? = some ch)
    (p : Entry → Bool) (hpre : ∀ e ∈ flat (chs.take i), p e = false)
    (hpost : ∀ e ∈ flat (chs.drop (i + 1)), p e = true) :
    Cursor.seek (flat chs) p = atOr (flat chs).length (off chs i + (ch.es.findIdx? p).getD ch.es.length) := by
  cases hj : ch.es.findIdx? p with
  | some j =>
    have hlt := (List.findIdx?_eq_some_iff_getElem.1 hj).1
    have hlen := flat_length hch
    have h1 : (flat chs).findIdx? p = some (off chs i + j) := by
      rw [flat_split hch, List.findIdx?_append, List.findIdx?_eq_none_iff.2 hpre, List.findIdx?_append, hj,
        off_eq_length]
      simp [Nat.add_comm]
    simp only [Cursor.seek, h1, Option.getD_some]
    exact (atOr_lt (by omega)).symm
  | none =>
    have h := Cursor.seek_append (flat (chs.take i) ++ ch.es) (flat (chs.drop (i + 1))) p
      (fun a ha => (List.mem_append.1 ha).elim (hpre a) (List.findIdx?_eq_none_iff.1 hj a)) hpost
    rw [List.append_assoc, ← flat_split hch] at h
    rw [h, List.length_append, ← off_eq_length, Option.getD_none]

section order
variable {c : UCmp} (hl : LawfulUCmp c)
include hl

theorem geKey_false_of_lo (k sep : IKey) (e : Entry) (h1 : icmp c e.key sep ≠ .gt)
    (h2 : icmp c sep k = .lt) : geKey c k e = false := by
  simp [geKey, (icmp_ord hl).lt_of_le_of_lt h1 h2]

theorem geKey_false_take {chs : List IdxChild} (hok : IdxOK c chs) (k : IKey) (i : Nat)
    (hsep : ∀ j ch, j < i → chs[j]? = some ch → icmp c ch.sep k = .lt) :
    ∀ e ∈ flat (chs.take i), geKey c k e = false := by
  intro e he
  obtain ⟨j, ch, hji, hj, hech⟩ := mem_flat_take he
  exact geKey_false_of_lo hl k ch.sep e (hok.lo j ch e hj hech) (hsep j ch hji hj)

end order

theorem seek_stop (c : UCmp) (k : IKey) (chs : List IdxChild) (ipos : Pos) (data : Option ArrIter)
    (h : Cursor.seek chs (fun ch => icmp c ch.sep k != Ordering.lt) = .eoi) :
    seek c k ⟨chs, ipos, data⟩ = ⟨chs, .eoi, none⟩ := by
  simp [seek, h, indexOk, Cursor.get, clearData]

theorem seek_at (c : UCmp) (k : IKey) (chs : List IdxChild) (ipos : Pos) (data : Option ArrIter)
    (i : Nat) (ch : IdxChild)
    (h : Cursor.seek chs (fun ch => icmp c ch.sep k != Ordering.lt) = .at i) (hch : chs[i]? = some ch) :
    seek c k ⟨chs, ipos, data⟩ = nextF c (chs.length + 2)
      ⟨chs, .at i, some ⟨ch.es, before ((ch.es.findIdx? (geKey c k)).getD ch.es.length)⟩⟩ := by
  have hget : Cursor.get chs (.at i) = some ch := hch
  simp only [seek, h, indexOk, hget, setData]
  simp [nextF, ArrIter.ops, Cursor.next_before, ← Cursor.seek_eq, next, fuel, clearData]

/-- the index seek stops on the first child `i` with `sep i ≥ k`: `lo` puts every entry of the children before it
below `k`, `hi` every entry of the children after it at or above `k`; then the index is exhausted, or the
answer is what `Next` finds from just before where the seek in child `i` lands -/
theorem rel_seek {c : UCmp} (hl : LawfulUCmp c) (chs : List IdxChild) (hok : IdxOK c chs) (x : IndexedIter)
    (p : Pos) (k : IKey) (h : Rel c chs x p) :
    Rel c chs (seek c k x) (Cursor.seek (flat chs) (geKey c k)) := by
  obtain ⟨children, ipos, data⟩ := x
  obtain rfl : children = chs := h.children
  cases hs : children.findIdx? (fun ch => icmp c ch.sep k != Ordering.lt) with
  | none =>
    rw [seek_stop c k children ipos data (by simp only [Cursor.seek, hs])]
    have hpre := geKey_false_take hl hok k children.length (fun j ch _ hj => by
      simpa using List.findIdx?_eq_none_iff.1 hs ch (List.mem_of_getElem? hj))
    rw [List.take_length] at hpre
    rw [Cursor.seek_eq_eoi hpre]
    exact .eoi
  | some i =>
    have hseek : Cursor.seek children (fun ch => icmp c ch.sep k != Ordering.lt) = .at i := by
      simp only [Cursor.seek, hs]
    obtain ⟨ch, hch, hge, hbefore⟩ := Cursor.findIdx?_some_iff.1 hs
    have hpre := geKey_false_take hl hok k i (fun j y hj hy => by simpa using hbefore j y hj hy)
    rw [seek_at c k children ipos data i _ hseek hch, seek_flat hch _ hpre (fun e he => by
      obtain ⟨j, chj, hij, hj, hech⟩ := mem_flat_drop he
      exact geKey_of_le hl k ch.sep e (by simpa using hge) (hok.hi i j _ chj e (by omega) hch hj hech))]
    exact nextF_data c hch _ _ (Cursor.next_before _ _) (Cursor.findIdx?_getD_le _ _) _
      (nextF_scan c children (children.length + 2) (i + 1) (.at i) (Cursor.next_at children i) (by omega) (by omega))

end IndexedIter

theorem IndexedIter.sim {c : UCmp} (hl : LawfulUCmp c) (chs : List IdxChild) (hok : IdxOK c chs) :
    Sim (IndexedIter.ops c) c (chs.flatMap (·.es)) (IndexedIter.Rel c chs) where
  wf := IndexedIter.rel_wf c chs
  first := IndexedIter.rel_first c chs
  last := IndexedIter.rel_last c chs
  seek := fun s p k h => IndexedIter.rel_seek hl chs hok s p k h
  next := IndexedIter.rel_next c chs
  prev := IndexedIter.rel_prev c chs
  cur := IndexedIter.rel_cur c chs

theorem IdxOK.of_pairwise {c : UCmp} {chs : List IdxChild} (sorted : SortedEntries c (chs.flatMap (·.es)))
    (lo : ∀ ch ∈ chs, ∀ e ∈ ch.es, icmp c e.key ch.sep ≠ .gt)
    (hi : chs.Pairwise fun a b => (∀ e ∈ b.es, icmp c a.sep e.key ≠ .gt) ∧ icmp c a.sep b.sep ≠ .gt) :
    IdxOK c chs where
  sorted := sorted
  lo := fun _ ch e h he => lo ch (List.mem_of_getElem? h) e he
  hi := fun _ _ _ _ e hij h1 h2 he => (hi.of_getElem? hij h1 h2).1 e he
  sepMono := fun _ _ _ _ hij h1 h2 => (hi.of_getElem? hij h1 h2).2

/-- `[1 2] [] [4] [6 7]` with index keys `2 3 5 7` -/
def IndexedIter.demo : List IdxChild :=
  let e (a : UInt8) : Entry := ⟨⟨[a], 256⟩, [a, a]⟩
  [⟨⟨[2], 256⟩, [e 1, e 2]⟩, ⟨⟨[3], 256⟩, []⟩, ⟨⟨[5], 256⟩, [e 4]⟩, ⟨⟨[7], 256⟩, [e 6, e 7]⟩]

theorem IndexedIter.demo_ok : IdxOK bytewise IndexedIter.demo :=
  IdxOK.of_pairwise (by decide) (by decide) (by decide)

example : Sim (IndexedIter.ops bytewise) bytewise (IndexedIter.demo.flatMap (·.es))
    (IndexedIter.Rel bytewise IndexedIter.demo) :=
  IndexedIter.sim bytewise_lawful _ IndexedIter.demo_ok

example :
    (IndexedIter.ops bytewise).run (IndexedIter.new IndexedIter.demo)
        [.next, .next, .next, .next, .next, .next, .prev, .prev, .seek ⟨[3], 256⟩, .prev, .last, .first, .prev]
      = Cursor.run (IndexedIter.demo.flatMap (·.es)) (geKey bytewise) .soi
        [.next, .next, .next, .next, .next, .next, .prev, .prev, .seek ⟨[3], 256⟩, .prev, .last, .first, .prev] :=
  (IndexedIter.sim bytewise_lawful _ IndexedIter.demo_ok).run _ _ _ (IndexedIter.rel_new bytewise _)

#print axioms IndexedIter.sim
#print axioms IndexedIter.rel_new
#print axioms IndexedIter.demo_ok

end GoLevel

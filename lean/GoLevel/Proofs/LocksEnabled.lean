import GoLevel.Proofs.LocksCount
/-! A decidable over-approximation of "some step is enabled" (any configuration): `canStep cfg s = false` is
checked by `decide` on concrete states and implies that `s` has no successor at all — a deadlock. -/
namespace GoLevel.Locks
open CompErr
set_option linter.unusedSimpArgs false

/-- a thread at this program counter may have an enabled step -/
def thrEn (cfg : Cfg) (s : St) : Pc → Bool
  | .idle => true
  | .ret _ | .retE _ => false
  | .putSel | .otxSel _ | .crSel | .srSel => !s.tok || offPer cfg.m s.eh || s.closed
  | .cwSend b _ _ => (s.bg b == .idle) || offErr cfg.m s.eh || s.closed
  | .cwAck _ _ _ => offErr cfg.m s.eh || s.closed
  | .cmLockTr _ | .dcLockTr _ | .clLockTr => !s.trlk
  | .cmLockClk _ => !s.clk
  | .srSet => recvs cfg.m s.eh || offPer cfg.m s.eh || s.closed
  | .clAcq => !s.tok || (s.eh == .closing && cfg.m.hasperrKeepsLock && cfg.closeSel)
  | .clWait => (s.mc == .exited) && (s.tc == .exited)
  | _ => true

/-- a compaction goroutine may have an enabled step -/
def bgEn (cfg : Cfg) (s : St) (b : Bool) : Bool :=
  match s.bg b with
  | .idle => s.closed
  | .parked => s.closed
  | .exited => false
  | .run _ ph =>
    match ph with
    | .lockClk => !s.clk
    | .setErr _ _ | .setErrC _ => recvs cfg.m s.eh || offPer cfg.m s.eh || s.closed
    | _ => true

/-- `compactionError` may have an enabled step of its own -/
def ehEn (cfg : Cfg) (s : St) : Bool :=
  (offLock cfg.m s.eh && !s.tok) || (closes cfg.m s.eh && s.closed) || (s.eh == .closing && s.tok && cfg.m.hasperrGivesBack)

def canStep (cfg : Cfg) (s : St) : Bool :=
  s.ws.any (thrEn cfg s) || bgEn cfg s false || bgEn cfg s true || ehEn cfg s

theorem canStep_thr (cfg : Cfg) (s : St) (i : Nat) (p : Pc) (hi : s.ws[i]? = some p) (h : thrEn cfg s p = true) :
    canStep cfg s = true := by
  have hm : p ∈ s.ws := List.mem_of_getElem? hi
  have : s.ws.any (thrEn cfg s) = true := List.any_eq_true.mpr ⟨p, hm, h⟩
  simp [canStep, this]

theorem canStep_bg (cfg : Cfg) (s : St) (b : Bool) (h : bgEn cfg s b = true) : canStep cfg s = true := by
  cases b <;> simp [canStep, h]

theorem canStep_eh (cfg : Cfg) (s : St) (h : ehEn cfg s = true) : canStep cfg s = true := by
  simp [canStep, h]

theorem canStep_of_step (cfg : Cfg) (s t : St) (f : Bool) (h : Step cfg f s t) : canStep cfg s = true := by
  cases h with
  | selTok _ i p q hi hq | selPerErr _ i p q hi hq | selClosed _ i p q hi hq =>
    refine canStep_thr cfg s i p hi ?_
    obtain ⟨rfl, -⟩ | ⟨lg, rfl, -⟩ | ⟨rfl, -⟩ | ⟨rfl, -⟩ := selNext_some hq <;> simp_all [thrEn]
  | cwSendErr _ i b site lg hi he | cwAckErr _ i b site lg hi he =>
    refine canStep_thr cfg s i _ hi ?_
    rcases he with he | he <;> simp_all [thrEn]
  | ehAcquire | ehClose | ehTake => exact canStep_eh cfg s (by simp_all [ehEn])
  | bgExitParked => exact canStep_bg cfg s true (by simp_all [bgEn, St.bg])
  | bgExit _ b w ph hb hx =>
    refine canStep_bg cfg s b ?_
    rcases hx with ⟨h1, h2, h3⟩ | ⟨h1, c, h2 | h2⟩ <;> cases ph <;> simp_all [bgEn]
  | bgExitIdle _ b | bgWorkCorrupt _ b | bgCommitCorrupt _ b | bgSetErrCorrupt _ b | bgWorkOk _ b | bgWorkFail _ b
  | bgCommitOk _ b | bgCommitFail _ b | bgSetErr _ b | bgSetErrPer _ b | bgBackoff _ b | bgLockClk _ b | bgAck _ b =>
    exact canStep_bg cfg s b (by simp_all [bgEn])
  | _ =>
    exact canStep_thr cfg s _ _ ‹_› (by simp_all [thrEn, St.bg])

theorem stuck_of_canStep (cfg : Cfg) (s : St) (h : canStep cfg s = false) : ¬ ∃ f t, Step cfg f s t := by
  rintro ⟨f, t, hs⟩
  rw [canStep_of_step cfg s t f hs] at h
  cases h

end GoLevel.Locks

import GoLevel.Proofs.CachePhase
/-! Reference counts: `n.ref` is the number of references that exist (`rc`), and what is referenced exists (`ex`). -/
namespace GoLevel.CacheM

@[simp] theorem countP_owns_map_unrefExt (l : List Nat) (id : Nat) :
    (l.map Instr.unrefExt).countP (owns id) = l.count id := by
  induction l with
  | nil => rfl
  | cons a l ih => simp [List.countP_cons, List.count_cons, owns, ih]

theorem countP_owns_map_levict {α : Type} (f : α → Nat) (l : List α) (id : Nat) :
    (l.map fun a => Instr.levict (f a)).countP (owns id) = 0 := by
  rw [List.countP_eq_zero]; simp only [List.mem_map]; rintro _ ⟨a, _, rfl⟩; simp [owns]

theorem countP_owns_map_levict' (l : List Nat) (id : Nat) : (l.map Instr.levict).countP (owns id) = 0 :=
  countP_owns_map_levict (fun a => a) l id

theorem countP_owns_close (l : List Node) (id : Nat) (force : Bool) :
    (l.flatMap (fun n => (if force then [Instr.zero n.id] else []) ++ [Instr.levict n.id] ++
      (if force then [Instr.fin n.id true] else []))).countP (owns id) = 0 := by
  rw [List.countP_eq_zero]; simp only [List.mem_flatMap]; rintro _ ⟨a, _, ha⟩
  cases force <;> simp at ha <;> rcases ha with rfl | rfl | rfl <;> simp [owns]

theorem mem_clearLru_proj {ns : List Node} {ev : List Nat} {n : Node} (h : n ∈ clearLru ns ev) :
    ∃ m ∈ ns, n.id = m.id ∧ n.ref = m.ref ∧ n.key = m.key ∧ n.value = m.value ∧ n.size = m.size ∧
      n.delFuncs = m.delFuncs ∧ (n.lru = m.lru ∧ m.id ∉ ev ∨ n.lru = .none ∧ m.id ∈ ev) := by
  rw [mem_clearLru] at h
  obtain ⟨m, hm, rfl⟩ := h
  refine ⟨m, hm, ?_⟩
  split <;> simp_all

theorem refs_fresh {g sh P} (h : InvP g sh P) : refsP sh P sh.nextId = 0 := by
  rcases Nat.eq_zero_or_pos (refsP sh P sh.nextId) with h0 | h0
  · exact h0
  · obtain ⟨n, hn, hid⟩ := h.ex _ h0
    have := h.ids.2 n hn
    omega

theorem evictTail_count {ns : List Node} {cap : Nat} {l : List Nat} {used : Nat} {r : List Nat × Nat × List Nat × Bool}
    (hr : evictTail ns cap l used = r) (id : Nat) : r.1.count id + r.2.2.1.count id = l.count id := by
  have := congrArg (List.count id) (evictTail_split hr)
  rw [List.count_append] at this
  omega

/-! `refOf ns id` is the counter of node `id` as the table has it.  Whatever a step does, it changes the number of
references to `id` that exist (`refsP`) by exactly what it adds to the counter; `rc` and `ex` follow from that. -/

def refOf (ns : List Node) (id : Nat) : Int :=
  match findId ns id with
  | some n => n.ref
  | none => 0

theorem refOf_found {ns : List Node} {id : Nat} {n : Node} (h : findId ns id = some n) : refOf ns id = n.ref := by
  unfold refOf; rw [h]

theorem refOf_none {ns : List Node} {id : Nat} (h : findId ns id = none) : refOf ns id = 0 := by
  unfold refOf; rw [h]

theorem refOf_congr {ns ns' : List Node}
    (h : ns'.map (fun n => (n.id, n.ref)) = ns.map (fun n => (n.id, n.ref))) (id : Nat) :
    refOf ns' id = refOf ns id := by
  have := findId_congr (·.ref) h id
  unfold refOf
  cases h1 : findId ns' id <;> cases h2 : findId ns id <;> simp_all

theorem refOf_upd {ns : List Node} {j : Nat} {f : Node → Node} {n0 : Node} (hf : ∀ n, (f n).id = n.id)
    (h : findId ns j = some n0) (id : Nat) :
    refOf (upd ns j f) id = if id = j then (f n0).ref else refOf ns id := by
  unfold refOf
  by_cases e : id = j
  · rw [if_pos e, e, findId_upd_self hf h]
  · rw [if_neg e, findId_upd_ne hf e]

theorem refOf_cons (a : Node) (ns : List Node) (id : Nat) :
    refOf (a :: ns) id = if id = a.id then a.ref else refOf ns id := by
  unfold refOf findId
  by_cases e : id = a.id
  · simp [e]
  · have : (a.id == id) = false := by simp; omega
    simp only [List.find?_cons, this, if_neg e]

theorem refOf_mem {ns : List Node} (hnd : (ns.map (·.id)).Nodup) {n : Node} (hn : n ∈ ns) :
    refOf ns n.id = n.ref := refOf_found (findId_of_mem hnd hn)

/-- `zero` (the store of `Close(true)`) is the one instruction that breaks the balance. -/
theorem refs_balance {g sh Q sh' i push evs} (h : InvP g sh (i :: Q))
    (he : exec sh i = some (sh', push, evs)) (hz : ∀ j, i ≠ .zero j) (id : Nat) :
    (refsP sh' (push ++ Q) id : Int) + refOf sh.nodes id = refsP sh (i :: Q) id + refOf sh'.nodes id := by
  have hnd := h.ids.1
  have gone : ∀ {j}, findId sh.nodes j = none → owns j i = true → False := by
    intro j hn ho
    obtain ⟨n, hn', hid⟩ := h.ex j (by simp only [refsP, List.countP_cons, ho, if_true]; omega)
    exact findId_none hn n hn' hid
  have beq : ∀ j, ((j == id) = true ↔ id = j) := fun j => by rw [beq_iff_eq]; exact eq_comm
  cases exec_spec he <;> clear he
  case promoteAdmit pid n r hf _ _ hr =>
    have hc := evictTail_count hr id
    simp only [List.count_reverse, List.count_cons, beq] at hc
    show ((List.count id sh.handles + List.count id (List.reverse _) + List.countP (owns id) (_ ++ Q) : Nat) : Int) + _ =
      _ + refOf (clearLru _ _) id
    rw [refOf_congr (clearLru_map _ fun _ => rfl), refOf_upd (by intro; rfl) hf]
    simp only [refsP, List.countP_cons, List.countP_append, List.countP_nil, owns, countP_owns_map_unrefExt,
      List.count_reverse, beq]
    split
    · next e => subst e; rw [refOf_found hf]; simp only [if_true] at hc; omega
    · next e => simp only [if_neg e] at hc; omega
  case zero => exact absurd rfl (hz _)
  all_goals simp only [refsP, List.countP_cons, List.countP_append, List.countP_nil, owns, countP_owns_map_levict,
    countP_owns_map_levict',
    countP_owns_map_unrefExt, closeInstrs, countP_owns_close, Bool.false_eq_true, if_false, Nat.add_zero, Nat.zero_add,
    List.count_cons, beq, List.count_reverse]
  case bgetHit hk | bgetDelF hk | bgetDel hk | bgetEvict hk =>
    have hf := findId_of_mem hnd (findKey_some hk).1
    rw [refOf_upd (by intro; rfl) hf]
    split
    · next e => rw [e, refOf_found hf]; simp only []; omega
    · omega
  case bgetNew =>
    have h0 := refs_fresh h
    simp only [refsP, List.countP_cons, owns] at h0
    rw [refOf_cons]
    split
    · next e =>
      rw [e, refOf_none (findId_eq_none fun m hm => Nat.ne_of_lt (h.ids.2 m hm))]; dsimp only; omega
    · omega
  case unrefIntZero hf _ | unrefIntPos hf _ | unrefExtZero hf _ | unrefExtPos hf _ =>
    rw [refOf_upd (by intro; rfl) hf]
    split
    · next e => rw [e, refOf_found hf]; dsimp only; omega
    · omega
  case setvGone hf | promoteGone hf | unrefIntGone hf | unrefExtGone hf =>
    split
    · next e => exact (gone hf (by simp [owns])).elim
    · omega
  case promoteListed n hf hl =>
    have := (List.perm_cons_erase (h.recent_of_found hf hl)).count_eq id
    simp only [List.count_cons, beq] at this
    omega
  case banListed n hf hl | levictListed n hf hl =>
    have := List.count_pos_iff.mpr (h.recent_of_found hf hl)
    rw [refOf_congr (upd_map _ (by intro; rfl))]
    simp only [List.count_erase, beq]; split
    · next e => rw [← e] at this; omega
    · omega
  case setvNil | setvVal | addDel | banFree | fin =>
    rw [refOf_congr (upd_map _ (by intro; rfl))] <;> omega
  case setcap c r hr =>
    have hc := evictTail_count hr id
    simp only [List.count_reverse] at hc
    rw [refOf_congr (clearLru_map _ fun _ => rfl)]
    omega
  case relH hm =>
    simp only [List.count_erase, beq]
    split
    · next e => have := List.count_pos_iff.mpr (e ▸ hm); omega
    · omega
  case delzRemove n _ hk h0 =>
    have hn := (findKey_some hk).1
    unfold refOf
    by_cases e : id = n.id
    · rw [e, findId_of_mem hnd hn]
      rw [findId_eq_none fun m hm => (mem_eraseId.mp hm).2]; simp only []; omega
    · rw [findId_eraseId_ne e]
  -- the remaining paths neither own nor count a reference, before or after
  all_goals omega

theorem refOf_eq_refs {g sh P} (h : InvP g sh P) (hf : sh.forced = false) (id : Nat) :
    refOf sh.nodes id = refsP sh P id := by
  cases hfind : findId sh.nodes id with
  | some n => rw [refOf_found hfind, h.rc hf n (findId_some hfind).1, (findId_some hfind).2]
  | none =>
    rw [refOf_none hfind]
    rcases Nat.eq_zero_or_pos (refsP sh P id) with h0 | h0
    · rw [h0]; rfl
    · obtain ⟨n, hn, hid⟩ := h.ex id h0
      exact absurd hid (findId_none hfind n hn)

theorem rc_step {g sh Q sh' i push evs} (h : InvP g sh (i :: Q))
    (he : exec sh i = some (sh', push, evs)) :
    sh'.forced = false → ∀ n ∈ sh'.nodes, n.ref = refsP sh' (push ++ Q) n.id := by
  intro hf' n hn
  have hf := forced_back h he hf'
  have hz : ∀ j, i ≠ .zero j := fun j e => by
    have := h.fo hf i List.mem_cons_self; rw [e] at this; cases this
  have hb := refs_balance h he hz n.id
  rw [refOf_mem (ids_step h he).1 hn, refOf_eq_refs h hf] at hb
  omega

theorem ex_step {g sh Q sh' i push evs} (h : InvP g sh (i :: Q))
    (he : exec sh i = some (sh', push, evs)) :
    ∀ id, 0 < refsP sh' (push ++ Q) id → ∃ n ∈ sh'.nodes, n.id = id := by
  intro id hpos
  by_cases hz : ∃ j, i = .zero j
  · -- `zero` owns nothing, pushes nothing, and keeps the ids
    obtain ⟨j, rfl⟩ := hz
    obtain ⟨m, hm, rfl⟩ := h.ex id (by
      cases exec_spec he
      simp only [refsP, List.nil_append, List.countP_cons] at hpos ⊢; omega)
    exact (exec_node_to he hm).resolve_right fun ⟨hc, _⟩ => by
      have := (h.op hc).1 _ List.mem_cons_self; cases this
  · have hb := refs_balance h he (fun j e => hz ⟨j, e⟩) id
    cases h1 : findId sh'.nodes id with
    | some n => exact ⟨n, findId_some h1⟩
    | none =>
      exfalso
      rw [refOf_none h1] at hb
      have hm : ∃ m ∈ sh.nodes, m.id = id := by
        cases h2 : findId sh.nodes id with
        | some m => exact ⟨m, findId_some h2⟩
        | none => rw [refOf_none h2] at hb; exact h.ex id (by omega)
      obtain ⟨m, hm, rfl⟩ := hm
      rcases exec_node_to he hm with ⟨n, hn, hid⟩ | ⟨hc, _⟩
      · exact findId_none h1 n hn hid
      · rw [refOf_eq_refs h (h.op hc).2] at hb; omega

end GoLevel.CacheM

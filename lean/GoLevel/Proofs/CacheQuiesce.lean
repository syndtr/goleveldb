import GoLevel.Proofs.CacheZero
/-! "At least once" (C17): nothing is lost.  The clauses of the invariant that make finalisation *complete*:
* `zo` — open cache: a node whose counter is zero has a pending `mBucket.delete` for its key, or a thread in the
  zero branch of `unRefExternal` that will issue one;
* `zc` — after `Close(false)`: a node whose counter is zero has been finalised, or a thread is in the zero branch
  of `unRefExternal` / about to run `callFinalizer` for it;
* `zf` — after `Close(true)`: every node has been finalised or `Close` still has its `callFinalizer` to run;
* `lc` — after `Close`: every node still on the LRU list has its `lru.Evict` pending in `Close`.

(That every value and every delFunc number is accounted for is part of `LogOK`.) -/
namespace GoLevel.CacheM

theorem closed_mono {sh sh' : Shared} {i push evs} (he : exec sh i = some (sh', push, evs))
    (hc : sh.closed = true) : sh'.closed = true := by
  rcases exec_closed he with ⟨h, _⟩ | ⟨_, _, _, _, h, _⟩
  · rw [h, hc]
  · exact h

theorem same_of_key {ns : List Node} (hnd : (ns.map (·.key)).Nodup) {n m : Node} (hn : n ∈ ns) (hm : m ∈ ns)
    (h : n.key = m.key) : n = m := eq_of_nodup_map (·.key) hnd hn hm h

theorem ref_nonneg {g sh P} (h : InvP g sh P) (hf : sh.forced = false) {n : Node} (hn : n ∈ sh.nodes) :
    0 ≤ n.ref := by
  have := h.rc hf n hn; omega

theorem mem_step {x i : Instr} {Q : List Instr} (push : List Instr) (h : x ∈ i :: Q) (hne : x ≠ i) : x ∈ push ++ Q :=
  List.mem_append_right _ ((List.mem_cons.mp h).resolve_left hne)

theorem zo_step {g sh Q sh' i push evs} (h : InvP g sh (i :: Q))
    (he : exec sh i = some (sh', push, evs)) :
    sh'.closed = false → ∀ n ∈ sh'.nodes, n.ref = 0 →
      Instr.delz n.key ∈ push ++ Q ∨ Instr.extz n.id n.key ∈ push ++ Q := by
  intro hc' n' hn' hz
  have hso : sh.closed = false := by
    cases hc : sh.closed with
    | false => rfl
    | true => rw [closed_mono he hc] at hc'; cases hc'
  have hf : sh.forced = false := (h.op hso).2
  obtain ⟨n, hn, e⟩ := (exec_node_from he hn').resolve_right fun ⟨_, h1, _⟩ => by omega
  have ns := node_step h he hn hn' e.symm
  rw [ns.key, ← e]
  rcases ns.ref with h1 | ⟨h1, _⟩ | ⟨_, hp⟩ | rfl
  · -- the counter was zero before: the instruction pending for the node is still there, unless it is `i`
    have h0 : n.ref = 0 := h1.symm.trans hz
    rcases h.zo hso n hn h0 with hm | hm
    · rcases List.mem_cons.mp hm with rfl | hm
      · -- `mBucket.delete` of a node with a zero counter removes it
        exfalso
        cases exec_spec he
        case delzClosed hc => rw [hso] at hc; cases hc
        case delzMiss hk => exact findKey_none hk n hn rfl
        case delzRemove =>
          have hk := findKey_some ‹findKey sh.nodes _ = some _›
          exact (mem_eraseId.mp hn').2 (same_of_key h.keys hn hk.1 hk.2.symm ▸ e.symm)
        case delzBusy =>
          have hk := findKey_some ‹findKey sh.nodes _ = some _›
          exact ‹_ ≠ (0 : Int)› (same_of_key h.keys hn hk.1 hk.2.symm ▸ h0)
      · exact .inl (List.mem_append_right _ hm)
    · rcases List.mem_cons.mp hm with rfl | hm
      · cases exec_spec he
        case extzOpen => exact .inl (List.mem_append_left _ List.mem_cons_self)
        all_goals exact absurd (hso.symm.trans ‹sh.closed = true›) Bool.false_ne_true
      · exact .inr (List.mem_append_right _ hm)
  · have := ref_nonneg h hf hn; omega
  · exact (hp hz).imp (List.mem_append_left _) (List.mem_append_left _)
  · have := (h.op hso).1 _ List.mem_cons_self; simp [closedOnly] at this

theorem zc_step {g sh Q sh' i push evs} (h : InvP g sh (i :: Q))
    (he : exec sh i = some (sh', push, evs))
    (hwb : sh.rlock = 0 → ∀ j ∈ i :: Q, openOnly j = false) :
    sh'.closed = true → sh'.forced = false → ∀ n ∈ sh'.nodes, n.ref = 0 →
      (n.value = none ∧ n.delFuncs = []) ∨ Instr.extz n.id n.key ∈ push ++ Q ∨
        Instr.fin n.id false ∈ push ++ Q := by
  intro hc' hf'
  rcases exec_closed he with ⟨hc0, -⟩ | ⟨f, rfl, h0, hso, _, _, rfl, hnodes⟩
  · have hsc : sh.closed = true := hc0 ▸ hc'
    have hf := forced_back h he hf'
    have hi := h.cl hsc i List.mem_cons_self
    intro n' hn' hz
    obtain ⟨n, hn, e⟩ := closed_node_from he hsc hn'
    have ns := node_step h he hn hn' e.symm
    rw [ns.key, ← e]
    rcases ns.ref with h1 | ⟨_, ho⟩ | ⟨_, hp⟩ | rfl
    · have h0 : n.ref = 0 := h1.symm.trans hz
      rcases h.zc hsc hf n hn h0 with hv | hm | hm
      · exact .inl (ns.finalised hi hv)
      · rcases List.mem_cons.mp hm with rfl | hm
        · -- the zero branch itself: it goes on to the finaliser unless the re-check finds the counter non-zero
          cases exec_spec he
          case extzRevived _ hre =>
            simp only [refNonZero, findId_of_mem h.ids.1 hn, Bool.and_eq_true, decide_eq_true_eq] at hre
            exact absurd h0 hre.2
          case extzFin => exact .inr (.inr (List.mem_append_left _ List.mem_cons_self))
          case extzOpen hc => rw [hsc] at hc; cases hc
        · exact .inr (.inl (List.mem_append_right _ hm))
      · rcases List.mem_cons.mp hm with rfl | hm
        · exact .inl (exec_fin_node he hn rfl hn' e.symm)
        · exact .inr (.inr (List.mem_append_right _ hm))
    · rw [hi] at ho; cases ho
    · rcases hp hz with hm | hm
      · have := (exec_pushes he _ hm).openOnly hsc hi; cases this
      · exact .inr (.inl (List.mem_append_left _ hm))
    · have := h.fo hf _ List.mem_cons_self; simp [forcedOnly] at this
  · -- the step is `Close`: nobody is inside, so a zero counter has its thread in the zero branch
    rw [hnodes]
    intro n hn hz
    rcases h.zo hso n hn hz with h1 | h1
    · have := hwb h0 _ h1; cases this
    · exact Or.inr (Or.inl (mem_step _ h1 (by rintro ⟨⟩)))

theorem mem_closeInstrs_fin {ns : List Node} {n : Node} (hn : n ∈ ns) : Instr.fin n.id true ∈ closeInstrs true ns :=
  List.mem_flatMap.mpr ⟨n, hn, by simp⟩

theorem mem_closeInstrs_levict {force : Bool} {ns : List Node} {n : Node} (hn : n ∈ ns) :
    Instr.levict n.id ∈ closeInstrs force ns :=
  List.mem_flatMap.mpr ⟨n, hn, by simp⟩

theorem zf_step {g sh Q sh' i push evs} (h : InvP g sh (i :: Q))
    (he : exec sh i = some (sh', push, evs)) :
    sh'.forced = true → ∀ n ∈ sh'.nodes,
      (n.value = none ∧ n.delFuncs = []) ∨ Instr.fin n.id true ∈ push ++ Q := by
  intro hf'
  rcases exec_closed he with ⟨_, hf0⟩ | ⟨f, rfl, _, _, _, rfl, rfl, hnodes⟩
  · have hsf : sh.forced = true := hf0 ▸ hf'
    have hsc : sh.closed = true := by
      cases hc : sh.closed with
      | true => rfl
      | false => rw [(h.op hc).2] at hsf; cases hsf
    have hi := h.cl hsc i List.mem_cons_self
    intro n' hn'
    obtain ⟨n, hn, e⟩ := closed_node_from he hsc hn'
    rw [← e]
    rcases h.zf hsf n hn with hv | hm
    · exact .inl ((node_step h he hn hn' e.symm).finalised hi hv)
    · rcases List.mem_cons.mp hm with rfl | hm
      · exact .inl (exec_fin_node he hn rfl hn' e.symm)
      · exact .inr (List.mem_append_right _ hm)
  · -- `Close(true)` pushes a finaliser for every node
    rw [hnodes, hf']
    exact fun n hn => Or.inr (List.mem_append_left _ (mem_closeInstrs_fin hn))

theorem lc_step {g sh Q sh' i push evs} (h : InvP g sh (i :: Q))
    (he : exec sh i = some (sh', push, evs)) :
    sh'.closed = true → ∀ id ∈ sh'.lru.recent, Instr.levict id ∈ push ++ Q := by
  intro hc' id hid
  obtain ⟨n', hn', rfl, hl'⟩ := ((lr_step h he).2 id).mp hid
  rcases exec_closed he with ⟨hc, -⟩ | ⟨f, rfl, _, _, _, _, rfl, hnodes⟩
  · -- after `Close` nothing is put on the list: the node was listed, and its `lru.Evict` is pending
    have hsc : sh.closed = true := hc ▸ hc'
    have hi := h.cl hsc i List.mem_cons_self
    obtain ⟨n, hn, e⟩ := closed_node_from he hsc hn'
    have hl : n.lru = .inList :=
      ((node_step h he hn hn' e.symm).inList hl').resolve_right fun e' => by rw [e'] at hi; cases hi
    refine mem_step push (h.lc hsc _ ((h.lr.2 _).mpr ⟨n, hn, e, hl⟩)) ?_
    -- and it is not the instruction executed: that one takes its node off the list
    rintro rfl
    cases exec_spec he
    case levictGone hf => exact findId_none hf n hn e
    case levictOff hoff hf => exact hoff (found_unique h.ids.1 hf hn e ▸ hl)
    case levictListed => exact ((List.Nodup.mem_erase_iff h.lr.1).mp hid).1 rfl
  · exact List.mem_append_left _ (mem_closeInstrs_levict (hnodes ▸ hn'))

end GoLevel.CacheM

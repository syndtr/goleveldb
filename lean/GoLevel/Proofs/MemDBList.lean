import GoLevel.Model.MemDB
import GoLevel.Proofs.Order
/-! Sorted-list facts used by the memdb proofs (C14): `LawfulCmp` is a `StrictOrd`; the test `below`, which holds on an
initial segment of a sorted level (`below_initial`), and the level's `pred`/`succ` of a key; splitting a level around a key. -/
namespace GoLevel.MemDB

variable {cmp : Cmp}

namespace LawfulCmp
variable (hc : LawfulCmp cmp)
include hc

theorem ord : StrictOrd cmp := ⟨hc.refl, hc.eq_of, hc.gt_iff, hc.trans⟩

theorem asymm {a b : Bytes} (h : cmp a b = .lt) : cmp b a ≠ .lt := hc.ord.asymm h

theorem eq_iff (a b : Bytes) : cmp a b = .eq ↔ a = b := hc.ord.eq_iff a b

end LawfulCmp

/-- the test "below `key`" used by every search loop -/
abbrev below (cmp : Cmp) (key : Bytes) : Bytes → Bool := fun x => cmp x key == .lt

/-- last element below `key` (`prevNode`, `findLT`) -/
def pred (cmp : Cmp) (l : List Bytes) (key : Bytes) : Node := (l.takeWhile (below cmp key)).getLast?

/-- first element not below `key` (`findGE`) -/
def succ (cmp : Cmp) (l : List Bytes) (key : Bytes) : Node := (l.dropWhile (below cmp key)).head?

theorem below_iff {key x : Bytes} : below cmp key x = true ↔ cmp x key = .lt := by simp [below]

theorem sorted_split {l : List Bytes} (hs : Sorted cmp l) {k : Bytes} (hk : k ∈ l) :
    ∃ pre post, l = pre ++ k :: post ∧ (∀ x ∈ pre, cmp x k = .lt) ∧ (∀ x ∈ post, cmp k x = .lt) := by
  obtain ⟨pre, post, rfl⟩ := List.append_of_mem hk
  refine ⟨pre, post, rfl, ?_, ?_⟩
  · intro x hx
    have := (List.pairwise_append.1 hs).2.2 x hx k (by simp)
    exact this
  · intro x hx
    have h2 := (List.pairwise_append.1 hs).2.1
    exact (List.pairwise_cons.1 h2).1 x hx

theorem after_append {pre post : List Bytes} {k : Bytes} (h : ∀ x ∈ pre, x ≠ k) :
    after (pre ++ k :: post) (some k) = post := by
  induction pre with
  | nil => simp [after]
  | cons x xs ih =>
    have hx : x ≠ k := h x (by simp)
    have := ih (fun y hy => h y (by simp [hy]))
    simp only [after] at this ⊢
    simp [hx, this]

theorem below_of_mem_takeWhile {l : List Bytes} (key : Bytes) :
    ∀ x ∈ l.takeWhile (below cmp key), cmp x key = .lt :=
  fun x hx => below_iff.1 (Initial.mem_takeWhile x hx)

theorem succ_mem {l : List Bytes} {key x : Bytes} (h : succ cmp l key = some x) : x ∈ l := by
  unfold succ at h
  have := List.mem_of_mem_head? h
  exact (List.dropWhile_sublist _).subset this

theorem pred_mem {l : List Bytes} {key x : Bytes} (h : pred cmp l key = some x) : x ∈ l ∧ cmp x key = .lt := by
  unfold pred at h
  have hm := List.mem_of_getLast? h
  exact ⟨(List.takeWhile_sublist _).subset hm, below_of_mem_takeWhile key x hm⟩

theorem filter_ne_of_not_mem {l : List Bytes} {key : Bytes} (h : key ∉ l) : l.filter (· != key) = l :=
  List.filter_eq_self.2 fun _ hx => bne_iff_ne.2 fun e => h (e ▸ hx)

section
variable (hc : LawfulCmp cmp)
include hc

theorem below_down {key x y : Bytes} (hxy : cmp x y = .lt) (h : below cmp key y = true) : below cmp key x = true :=
  below_iff.2 (hc.trans _ _ _ hxy (below_iff.1 h))

/-- "below `key`" holds on an initial segment of a sorted list: what every search loop and range test relies on -/
theorem below_initial {l : List Bytes} (hs : Sorted cmp l) (key : Bytes) : Initial (below cmp key) l :=
  .of_pairwise hs fun _ _ => below_down hc

theorem not_below_of_mem_dropWhile {l : List Bytes} (hs : Sorted cmp l) (key : Bytes) :
    ∀ x ∈ l.dropWhile (below cmp key), cmp x key ≠ .lt :=
  fun x hx => by simpa [below] using (below_initial hc hs key).mem_dropWhile x hx

theorem filter_lt_eq_takeWhile {l : List Bytes} (hs : Sorted cmp l) (key : Bytes) :
    l.filter (below cmp key) = l.takeWhile (below cmp key) :=
  (below_initial hc hs key).filter_eq_takeWhile

theorem split_below {pre post : List Bytes} {key : Bytes} (hs : Sorted cmp (pre ++ key :: post)) :
    (pre ++ key :: post).takeWhile (below cmp key) = pre ∧
      (pre ++ key :: post).dropWhile (below cmp key) = key :: post := by
  have hp : ∀ x ∈ pre, below cmp key x = true :=
    fun x hx => below_iff.2 ((List.pairwise_append.1 hs).2.2 x hx key (by simp))
  rw [List.takeWhile_append_of_pos hp, List.dropWhile_append_of_pos hp]
  simp [below, hc.refl]

theorem split_mem {l : List Bytes} (hs : Sorted cmp l) {key : Bytes} (hk : key ∈ l) :
    ∃ pre post, l = pre ++ key :: post ∧ (∀ x ∈ pre, cmp x key = .lt) ∧ (∀ x ∈ post, cmp key x = .lt) ∧
      l.takeWhile (below cmp key) = pre ∧ l.dropWhile (below cmp key) = key :: post := by
  obtain ⟨pre, post, rfl, h1, h2⟩ := sorted_split hs hk
  exact ⟨pre, post, rfl, h1, h2, split_below hc hs⟩

theorem filter_ne_split {pre post : List Bytes} {key : Bytes} (h1 : ∀ x ∈ pre, cmp x key = .lt)
    (h2 : ∀ x ∈ post, cmp key x = .lt) : (pre ++ key :: post).filter (· != key) = pre ++ post := by
  rw [List.filter_append, List.filter_cons, filter_ne_of_not_mem fun h => hc.ord.irrefl _ (h1 _ h),
    filter_ne_of_not_mem fun h => hc.ord.irrefl _ (h2 _ h)]
  simp

theorem gt_of_mem_dropWhile {l : List Bytes} (hs : Sorted cmp l) {key : Bytes} (hk : key ∉ l) :
    ∀ x ∈ l.dropWhile (below cmp key), cmp key x = .lt := by
  intro x hx
  have hnl := not_below_of_mem_dropWhile hc hs key x hx
  rcases hc.ord.total x key with h | h | h
  · exact absurd h hnl
  · exact absurd (h ▸ (List.dropWhile_sublist _).subset hx) hk
  · exact h

theorem succ_of_mem {l : List Bytes} (hs : Sorted cmp l) {key : Bytes} (hk : key ∈ l) :
    succ cmp l key = some key := by
  obtain ⟨pre, post, _, _, _, _, h⟩ := split_mem hc hs hk
  simp [succ, h]

/-- `exact` of `findGE`: the successor compares equal iff the key is on the level -/
theorem succ_eq_iff {l : List Bytes} (hs : Sorted cmp l) (key : Bytes) :
    isEq cmp key (succ cmp l key) = decide (key ∈ l) := by
  by_cases hk : key ∈ l
  · simp [succ_of_mem hc hs hk, hc.refl, hk, isEq]
  · cases h : succ cmp l key with
    | none => simp [hk, isEq]
    | some x =>
      have hx := succ_mem h
      have : cmp x key ≠ .eq := fun e => hk (hc.eq_of _ _ e ▸ hx)
      simp [this, hk, isEq]

end

end GoLevel.MemDB

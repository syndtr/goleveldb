import GoLevel.Proofs.CacheQuiesce
/-! The invariant holds in every reachable state of the cache interleaving system. -/
namespace GoLevel.CacheM

theorem invP_step {g sh Q sh' i push evs} (h : InvP g sh (i :: Q))
    (he : exec sh i = some (sh', push, evs))
    (hwb : sh.rlock = 0 → ∀ j ∈ i :: Q, openOnly j = false)
    (hguard : ∀ f, i = .closeLock f → g = true → ∀ j ∈ Q, isExtz j = false) :
    InvP g sh' (push ++ Q) where
  ids := ids_step h he
  keys := keys_step h he
  rl := rl_step h he
  cl := cl_step h he hwb
  op := op_step h he
  fo := fo_step h he
  rc := rc_step h he
  ex := ex_step h he
  lr := lr_step h he
  us := us_step h he
  vl := vl_step h he
  zr := zr_step h he hguard
  fe := fe_step h he hguard
  ns := ns_step h he
  cd := cd_step h he
  zo := zo_step h he
  zc := zc_step h he hwb
  zf := zf_step h he
  lc := lc_step h he

/-- An instruction the invariant does not see: it is no `RUnlock`, owns nothing and belongs to no class. -/
def Inert (g : Bool) (j : Instr) : Prop :=
  j ≠ .runlock ∧ (∀ id, owns id j = false) ∧ openOnly j = false ∧ closedOnly j = false ∧ forcedOnly j = false ∧
    (∀ id, holdsVal id j = false) ∧ zeroRef g j = none ∧ finTarget j = none

/-- The invariant sees the pending instructions as a multiset, and does not see inert ones. -/
theorem invP_congr {g sh P P' I} (h : InvP g sh P) (hI : ∀ j ∈ I, Inert g j) (hp : P'.Perm (I ++ P)) :
    InvP g sh P' := by
  have hm : ∀ j ∈ P', j ∈ P ∨ Inert g j := fun j hj => (List.mem_append.mp (hp.mem_iff.mp hj)).symm.imp id (hI j)
  have hsub : ∀ j ∈ P, j ∈ P' := fun j hj => hp.mem_iff.mpr (List.mem_append_right _ hj)
  have ho : ∀ id, P'.countP (owns id) = P.countP (owns id) := fun id => by
    rw [hp.countP_eq, List.countP_append, List.countP_eq_zero.mpr fun j hj => by simp [(hI j hj).2.1 id], Nat.zero_add]
  exact {
    ids := h.ids
    keys := h.keys
    rl := by
      rw [h.rl, hp.count_eq, List.count_append, List.count_eq_zero.mpr fun hm => (hI _ hm).1 rfl, Nat.zero_add]
    cl := fun hcl j hj => (hm j hj).elim (h.cl hcl j) (·.2.2.1)
    op := fun hcl => ⟨fun j hj => (hm j hj).elim ((h.op hcl).1 j) (·.2.2.2.1), (h.op hcl).2⟩
    fo := fun hf j hj => (hm j hj).elim (h.fo hf j) (·.2.2.2.2.1)
    rc := fun hf n hn => by have := h.rc hf n hn; simp only [refsP, ho] at this ⊢; exact this
    ex := fun id hpos => h.ex id (by simp only [refsP, ho] at hpos ⊢; exact hpos)
    lr := h.lr
    us := h.us
    vl := fun hg hf n hn hold => h.vl hg hf n hn (hold.imp (fun h => h) (Or.imp (fun h => h) fun ⟨j, hj, hv⟩ =>
      (hm j hj).elim (⟨j, ·, hv⟩) fun hi => by rw [hi.2.2.2.2.2.1] at hv; cases hv))
    zr := fun hg hcl hf j hj id hz => (hm j hj).elim (h.zr hg hcl hf j · id hz) fun hi => by
      rw [hi.2.2.2.2.2.2.1] at hz; cases hz
    fe := fun hg hcl j hj id ht => (hm j hj).elim (h.fe hg hcl j · id ht) fun hi => by
      rw [hi.2.2.2.2.2.2.2] at ht; cases ht
    ns := h.ns
    cd := h.cd
    zo := fun hc n hn h0 => (h.zo hc n hn h0).imp (hsub _) (hsub _)
    zc := fun hc hf n hn h0 => (h.zc hc hf n hn h0).imp id (Or.imp (hsub _) (hsub _))
    zf := fun hf n hn => (h.zf hf n hn).imp id (hsub _)
    lc := fun hc id hid => hsub _ (h.lc hc id hid) }

theorem invP_perm {g sh P P'} (h : InvP g sh P) (hp : P.Perm P') : InvP g sh P' :=
  invP_congr (I := []) h (fun _ hj => nomatch hj) hp.symm

theorem startCall_inert (g : Bool) (c : Call) : ∀ j ∈ startCall c, Inert g j := by
  intro j hj
  cases c <;> simp only [startCall, List.mem_singleton] at hj <;> subst hj <;>
    simp [Inert, owns, openOnly, closedOnly, forcedOnly, zeroRef, holdsVal, finTarget]

structure Inv (g : Bool) (s : Sys) : Prop where
  core : InvP g s.sh (pending s)
  wb : ∀ t ∈ s.threads, WB t
  wa : ∀ t ∈ s.threads, WA t

theorem wb_noOpen {t : List Instr} (hw : WB t) (hr : Instr.runlock ∉ t) : ∀ j ∈ t, openOnly j = false := by
  induction t with
  | nil => intro j hj; cases hj
  | cons a t ih =>
    intro j hj
    obtain ⟨ha, ht⟩ := hw
    rcases List.mem_cons.mp hj with rfl | hj
    · cases hb : openOnly j with
      | false => rfl
      | true => exact absurd (List.mem_cons_of_mem _ (ha hb)) hr
    · exact ih ht (fun hm => hr (List.mem_cons_of_mem _ hm)) j hj

theorem pending_init (clr : Cfg) (capacity nthreads : Nat) : pending (Sys.initCfg clr capacity nthreads) = [] := by
  unfold pending Sys.initCfg
  induction nthreads with
  | zero => rfl
  | succ n ih => simp [List.replicate_succ] at ih ⊢

theorem invP_init (g : Bool) (clr : Cfg) (capacity : Nat) : InvP g (Shared.newCfg clr capacity) [] := by
  -- no node, no handle, nothing pending: every clause is void
  constructor <;> simp [Shared.newCfg, refsP]

theorem sysStep_cases {g : Bool} {s s' : Sys} {a : Act} (hs : sysStep g s a = some s') :
    (∃ t c, a = .call t c ∧ s.threads[t]? = some [] ∧ emitted s a = [] ∧
        s' = { s with threads := s.threads.set t (startCall c) }) ∨
    (∃ t i rest sh' push evs, a = .step t ∧ s.threads[t]? = some (i :: rest) ∧
        exec s.sh i = some (sh', push, evs) ∧ emitted s a = evs ∧
        s' = { sh := sh', threads := s.threads.set t (push ++ rest), log := s.log ++ evs }) := by
  cases a with
  | call t c =>
    left
    simp only [sysStep] at hs
    cases ht : s.threads[t]? with
    | none => rw [ht] at hs; cases hs
    | some l =>
      cases l with
      | cons _ _ => rw [ht] at hs; cases hs
      | nil =>
        rw [ht] at hs
        simp only [Option.some.injEq] at hs
        exact ⟨t, c, rfl, ht, rfl, hs.symm⟩
  | step t =>
    right
    simp only [sysStep] at hs
    cases ht : s.threads[t]? with
    | none => rw [ht] at hs; cases hs
    | some l =>
      cases l with
      | nil => rw [ht] at hs; cases hs
      | cons i rest =>
        rw [ht] at hs
        simp only [] at hs
        by_cases hok : stepOK g s.threads i = true
        · rw [if_pos hok] at hs
          cases he : exec s.sh i with
          | none => rw [he] at hs; cases hs
          | some r =>
            obtain ⟨sh', push, evs⟩ := r
            rw [he] at hs
            simp only [Option.some.injEq] at hs
            refine ⟨t, i, rest, sh', push, evs, rfl, ht, he, ?_, hs.symm⟩
            simp only [emitted, ht, he]
        · rw [if_neg hok] at hs; cases hs

theorem pending_call {s : Sys} {t : Nat} (c : Call) (ht : s.threads[t]? = some []) :
    (pending { s with threads := s.threads.set t (startCall c) }).Perm (startCall c ++ pending s) := by
  simpa [pending] using flatten_set_perm' s.threads t [] (startCall c) ht

theorem pending_step {s : Sys} {t : Nat} {i : Instr} {rest : List Instr} (push : List Instr) (sh' : Shared)
    (log' : List Ev) (ht : s.threads[t]? = some (i :: rest)) :
    (pending s).Perm (i :: (pending s).erase i) ∧
    (pending { sh := sh', threads := s.threads.set t (push ++ rest), log := log' }).Perm
      (push ++ (pending s).erase i) := by
  have hp1 : (pending s).Perm (i :: (pending s).erase i) :=
    List.perm_cons_erase (mem_of_getElem?_flatten s.threads t _ i ht List.mem_cons_self)
  refine ⟨hp1, List.Perm.cons_inv (a := i) ?_⟩
  exact (flatten_set_perm s.threads t i rest push ht).trans ((List.Perm.append_left _ hp1).trans List.perm_middle)

theorem forall_mem_set {α : Type} {p : α → Prop} {l : List α} {k : Nat} {x : α} (h : ∀ a ∈ l, p a) (hx : p x) :
    ∀ a ∈ l.set k x, p a := fun a ha => (List.mem_or_eq_of_mem_set ha).elim (h a) fun e => e ▸ hx

theorem Inv.noOpen {g : Bool} {s : Sys} (h : Inv g s) (h0 : s.sh.rlock = 0) : ∀ j ∈ pending s, openOnly j = false := by
  intro j hj
  obtain ⟨t', ht', hjt⟩ := List.mem_flatten.mp hj
  refine wb_noOpen (h.wb t' ht') (fun hr => ?_) j hjt
  have hc : 0 < (pending s).count .runlock := List.count_pos_iff.mpr (List.mem_flatten.mpr ⟨t', ht', hr⟩)
  rw [← h.core.rl] at hc
  omega

/-- Thread `t` executes `i`: the view the step lemmas take, `i` in front of the other pending instructions `Q`; while
no reader is inside none of them is open-only; in the guarded system `Close` takes its lock only while no thread is
in the zero branch of `unRefExternal`; and an `addDel` finds its node (the `unRefInternal` that follows it holds it). -/
theorem Inv.at_step {g : Bool} {s s' : Sys} {t : Nat} {i : Instr} {rest : List Instr} (h : Inv g s)
    (hs : sysStep g s (.step t) = some s') (ht : s.threads[t]? = some (i :: rest)) :
    ∃ Q, (pending s).Perm (i :: Q) ∧ (∀ push, (s.threads.set t (push ++ rest)).flatten.Perm (push ++ Q)) ∧
      InvP g s.sh (i :: Q) ∧ (s.sh.rlock = 0 → ∀ j ∈ i :: Q, openOnly j = false) ∧
      (∀ f, i = .closeLock f → g = true → ∀ j ∈ Q, isExtz j = false) ∧
      ∀ id d, i = .addDel id d → ∃ n ∈ s.sh.nodes, n.id = id := by
  have hp1 := (pending_step [] s.sh s.log ht).1
  refine ⟨_, hp1, fun push => (pending_step push s.sh s.log ht).2, invP_perm h.core hp1,
    fun h0 j hj => h.noOpen h0 j (hp1.mem_iff.mpr hj), ?_, fun id d hid => ?_⟩
  · rintro f rfl hg j hj
    simp only [sysStep, ht] at hs
    by_cases hok : stepOK g s.threads (.closeLock f) = true
    · simp only [stepOK, hg, Bool.not_true, Bool.false_or, noPendingExtz, List.all_eq_true] at hok
      obtain ⟨t', ht', hjt⟩ := List.mem_flatten.mp (List.mem_of_mem_erase hj)
      simpa using hok t' ht' j hjt
    · rw [if_neg hok] at hs; cases hs
  · have hup : Instr.unrefInt id ∈ pending s := mem_of_getElem?_flatten s.threads t _ _ ht
      (List.mem_cons_of_mem _ ((h.wa _ (List.mem_of_getElem? ht)).1 id d hid))
    have : 0 < (pending s).countP (owns id) := List.countP_pos_iff.mpr ⟨_, hup, by simp [owns]⟩
    exact h.core.ex id (by simp only [refsP]; omega)

theorem threads_reachable {g : Bool} {W : List Instr → Prop} (nil : W []) (call : ∀ c, W (startCall c))
    (step : ∀ {sh sh' i push evs rest}, W (i :: rest) → exec sh i = some (sh', push, evs) → W (push ++ rest))
    {s : Sys} (hr : Reachable g s) : ∀ t ∈ s.threads, W t := by
  induction hr with
  | init clr c n => intro t ht; rw [(List.mem_replicate.mp ht).2]; exact nil
  | @step s s' a hr hs ih =>
    rcases sysStep_cases hs with ⟨t, c, rfl, ht, _, rfl⟩ | ⟨t, i, rest, sh', push, evs, rfl, ht, he, _, rfl⟩
    · exact forall_mem_set ih (call c)
    · exact forall_mem_set ih (step (ih _ (List.mem_of_getElem? ht)) he)

theorem wb_reachable {g : Bool} {s : Sys} (hr : Reachable g s) : ∀ t ∈ s.threads, WB t :=
  threads_reachable trivial (fun c => by cases c <;> simp [startCall, WB, openOnly]) wb_step hr

theorem wa_reachable {g : Bool} {s : Sys} (hr : Reachable g s) : ∀ t ∈ s.threads, WA t :=
  threads_reachable trivial (fun c => by cases c <;> simp [startCall, WA]) wa_step hr

theorem inv_reachable {g : Bool} {s : Sys} (hr : Reachable g s) : Inv g s := by
  refine ⟨?_, wb_reachable hr, wa_reachable hr⟩
  induction hr with
  | init clr c n => rw [pending_init]; exact invP_init g clr c
  | @step s s' a hr hs ih =>
    rcases sysStep_cases hs with ⟨t, c, rfl, ht, _, rfl⟩ | ⟨t, i, rest, sh', push, evs, rfl, ht, he, _, rfl⟩
    · exact invP_congr ih (startCall_inert g c) (pending_call c ht)
    · obtain ⟨Q, _, hp2, hP, hno, hguard, _⟩ := Inv.at_step ⟨ih, wb_reachable hr, wa_reachable hr⟩ hs ht
      exact invP_perm (invP_step hP he hno hguard) (hp2 push).symm
end GoLevel.CacheM

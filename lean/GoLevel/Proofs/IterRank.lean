import GoLevel.Proofs.Cursor
import GoLevel.Proofs.Order
/-!
# A cursor over `xs.filter P` seen from the indices of `xs`

`rank P xs j` counts the `P`-elements before index `j`: it takes the position of the DB iterator's raw
iterator to that of the specification cursor over the visible entries (C02).
-/
namespace GoLevel
variable {α : Type}

def rank (P : α → Bool) (xs : List α) (j : Nat) : Nat := ((xs.take j).filter P).length

theorem rank_zero (P : α → Bool) (xs : List α) : rank P xs 0 = 0 := by simp [rank]

theorem rank_succ (P : α → Bool) (xs : List α) (j : Nat) (e : α) (h : xs[j]? = some e) :
    rank P xs (j + 1) = rank P xs j + (if P e then 1 else 0) := by
  simp only [rank, List.take_add_one, h, Option.toList_some, List.filter_append, List.length_append]
  by_cases hp : P e <;> simp [hp]

theorem rank_of_ge (P : α → Bool) (xs : List α) (j : Nat) (h : xs.length ≤ j) :
    rank P xs j = (xs.filter P).length := by
  simp [rank, List.take_of_length_le h]

theorem rank_gap (P : α → Bool) (xs : List α) (j j' : Nat) (hle : j ≤ j')
    (h : ∀ i e, j ≤ i → i < j' → xs[i]? = some e → P e = false) : rank P xs j' = rank P xs j := by
  obtain ⟨k, rfl⟩ := Nat.exists_eq_add_of_le hle
  induction k with
  | zero => rfl
  | succ k ih =>
    have ih' := ih (Nat.le_add_right j k) (fun i e h1 h2 => h i e h1 (Nat.lt_succ_of_lt h2))
    show rank P xs (j + k + 1) = rank P xs j
    cases hx : xs[j + k]? with
    | none =>
      have hlen := List.getElem?_eq_none_iff.1 hx
      rw [rank_of_ge P xs _ (Nat.le_succ_of_le hlen), ← rank_of_ge P xs _ hlen, ih']
    | some e =>
      rw [rank_succ P xs _ e hx, h _ e (Nat.le_add_right j k) (Nat.lt_succ_self _) hx, ih']
      rfl

theorem rank_le (P : α → Bool) (xs : List α) (j : Nat) : rank P xs j ≤ (xs.filter P).length := by
  simp only [rank]
  exact List.Sublist.length_le (List.Sublist.filter P (List.take_sublist j xs))

theorem filter_get_rank (P : α → Bool) (xs : List α) (j : Nat) (e : α) (h : xs[j]? = some e) (hp : P e = true) :
    (xs.filter P)[rank P xs j]? = some e := by
  have hj : j < xs.length := getElem?_lt h
  have hsplit : xs = xs.take j ++ e :: xs.drop (j + 1) := by
    have he : xs[j] = e := by
      rw [List.getElem?_eq_getElem hj] at h; exact Option.some.inj h
    rw [← he]
    simp
  have : xs.filter P = (xs.take j).filter P ++ e :: (xs.drop (j + 1)).filter P := by
    conv => lhs; rw [hsplit]
    rw [List.filter_append, List.filter_cons, if_pos hp]
  rw [this, rank, List.getElem?_append_right (Nat.le_refl _)]
  simp

theorem rank_lt (P : α → Bool) (xs : List α) (j : Nat) (e : α) (h : xs[j]? = some e) (hp : P e = true) :
    rank P xs j < (xs.filter P).length :=
  getElem?_lt (filter_get_rank P xs j e h hp)

namespace Cursor

theorem seek_filter (P ge : α → Bool) (xs : List α) (j : Nat)
    (hlow : ∀ i e, i < j → xs[i]? = some e → P e = true → ge e = false)
    (hhigh : ∀ i e, j ≤ i → xs[i]? = some e → P e = true → ge e = true) :
    seek (xs.filter P) ge = IndexedIter.atOr (xs.filter P).length (rank P xs j) := by
  have hsplit : xs.filter P = (xs.take j).filter P ++ (xs.drop j).filter P := by
    rw [← List.filter_append, List.take_append_drop]
  rw [hsplit]
  refine seek_append _ _ ge (fun a ha => ?_) (fun b hb => ?_)
  · obtain ⟨hm, hp⟩ := List.mem_filter.1 ha
    obtain ⟨i, hi, rfl⟩ := List.getElem_of_mem hm
    rw [List.length_take] at hi
    exact hlow i _ (Nat.lt_of_lt_of_le hi (Nat.min_le_left _ _))
      (by rw [List.getElem_take]; exact List.getElem?_eq_getElem _) hp
  · obtain ⟨hm, hp⟩ := List.mem_filter.1 hb
    obtain ⟨i, _, rfl⟩ := List.getElem_of_mem hm
    exact hhigh (j + i) _ (Nat.le_add_right j i) (by rw [List.getElem_drop]; exact List.getElem?_eq_getElem _) hp

end Cursor

end GoLevel

import GoLevel.Proofs.DurableStepFault
/-!
The invariant holds initially and along every fault-free run: it holds in every reachable state.  A fault-free step is a step
under storage faults none of which happens (`inv_step_anyfault`).
-/
namespace GoLevel.Dur

theorem inv_init (cfg : Cfg) : Inv cfg init.1 init.2 :=
  -- every clause of `Inv` evaluated on the concrete state; no record is torn, so `cfg` is never consulted
  of_decide_eq_true rfl

theorem faultsOK_of_faultFree {a : Act} (hff : a.faultFree = true) (sd : St × Disk) : a.faultsOK sd = true := by
  cases a <;> simp_all [Act.faultFree, Act.faultsOK, Act.noD10, Act.noD26] <;> (repeat' split) <;> simp

theorem inv_step {cfg : Cfg} (hg : cfg.Good) {s : St} {d : Disk} (h : Inv cfg s d) {a : Act}
    (hff : a.faultFree = true) (hlim : LimboSafe cfg s)
    {s' : St} {d' : Disk} (hs : step cfg s d a = some (s', d')) : Inv cfg s' d' := by
  have hok := faultsOK_of_faultFree hff (s, d)
  rw [Act.faultsOK, Bool.and_eq_true] at hok
  exact inv_step_anyfault hg h (Or.inl (by cases a <;> first | rfl | exact hff)) (Or.inl hok.2) hlim hs

theorem inv_run {cfg : Cfg} (hg : cfg.Good) {sd sd' : St × Disk} (h : Inv cfg sd.1 sd.2) (as : List Act)
    (hff : ∀ a ∈ as, a.faultFree = true) (hr : run cfg sd as = some sd') (hl : sd.1.limbo = none := by rfl) :
    Inv cfg sd'.1 sd'.2 ∧ sd'.1.limbo = none :=
  run_preserves (I := fun sd => Inv cfg sd.1 sd.2 ∧ sd.1.limbo = none)
    (fun _ _ _ _ _ h ha hs =>
      ⟨inv_step hg h.1 ha (Or.inl h.2) hs, step_limbo_none (faultsOK_of_faultFree ha _) h.2 hs⟩) ⟨h, hl⟩ as hff hr

theorem limbo_none_reachable {cfg : Cfg} (hg : cfg.Good) {sd : St × Disk} (h : ReachableFF cfg sd) :
    sd.1.limbo = none := by
  obtain ⟨as, hff, hr⟩ := h
  exact (inv_run hg (inv_init cfg) as hff hr).2

theorem invL_step {cfg : Cfg} (hg : cfg.Good) {s : St} {d : Disk} (h : InvL cfg s d) {a : Act}
    (hff : a.faultFree = true) {s' : St} {d' : Disk} (hs : step cfg s d a = some (s', d')) : InvL cfg s' d' :=
  ⟨inv_step hg h.1 hff h.2 hs, limboSafe_step h.2 (faultsOK_of_faultFree hff _) hs⟩

theorem inv_reachable {cfg : Cfg} (hg : cfg.Good) {sd : St × Disk} (h : ReachableFF cfg sd) : Inv cfg sd.1 sd.2 := by
  obtain ⟨as, hff, hr⟩ := h
  exact (inv_run hg (inv_init cfg) as hff hr).1

end GoLevel.Dur

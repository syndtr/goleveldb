import GoLevel.Model.IterErr
/-!
# Iterators that may fail: the contract `FailSim` and what it gives (C02 / C08)

The answers of a `FailSim` are its healthy twin's up to the first call after which `Error()` is set (`run_reported`);
where the twin simulates a cursor they are the cursor's.  `FailChild` over any error-free child is a `FailSim` (twin:
the child itself).
-/
namespace GoLevel

/-- the answers `outs` (pair shown or `none`, `Error()`) against the cursor's answers `spec`: every answer
given while `Error()` is nil is the cursor's; the first answer with an error shows nothing, and every
later answer is "nothing, the same error". -/
def Reported {α : Type} : List (Option α × Option Err) → List (Option α) → Prop
  | [], [] => True
  | (out, none) :: rest, s :: spec => out = s ∧ Reported rest spec
  | (out, some e) :: rest, _ :: _ => out = none ∧ ∀ r ∈ rest, r = (none, some e)
  | _, _ => False

/-- as `Reported`, except that the call during which the failure happened may still show a pair with a nil
`Error()`; every later answer is "nothing, the same error" -/
def ReportedLate {α : Type} : List (Option α × Option Err) → List (Option α) → Prop
  | [], [] => True
  | (out, none) :: rest, s :: spec =>
    (out = s ∧ ReportedLate rest spec) ∨ (out.isSome ∧ ∃ e, ∀ r ∈ rest, r = (none, some e))
  | (out, some e) :: rest, _ :: _ => out = none ∧ ∀ r ∈ rest, r = (none, some e)
  | _, _ => False

theorem Reported.late {α : Type} {outs : List (Option α × Option Err)} {spec : List (Option α)}
    (h : Reported outs spec) : ReportedLate outs spec := by
  induction outs generalizing spec with
  | nil => cases spec <;> simp [Reported, ReportedLate] at h ⊢
  | cons a outs ih =>
    obtain ⟨out, e⟩ := a
    cases spec with
    | nil => cases e <;> simp [Reported] at h
    | cons s spec =>
      cases e with
      | none => exact .inl ⟨h.1, ih h.2⟩
      | some e => exact h

/-- `o` has a healthy twin `sh` seen through `π`: from a healthy state (`H`) a call that leaves `Error()` nil is the
twin's call and ends healthy; a call that sets `Error()` ends failed (`F s e`), and a failed state shows nothing and
stays failed with the same error -/
structure FailSim {σ τ : Type} (o : EIterOps σ) (sh : IterOps τ) (π : σ → τ) (H : σ → Prop)
    (F : σ → Err → Prop) : Prop where
  herr   : ∀ s, H s → o.err s = none
  hcur   : ∀ s, H s → o.cur s = sh.cur (π s)
  hstep  : ∀ s cl, H s → o.err (o.toIterOps.step cl s) = none →
             H (o.toIterOps.step cl s) ∧ π (o.toIterOps.step cl s) = sh.step cl (π s)
  hfail  : ∀ s cl e, H s → o.err (o.toIterOps.step cl s) = some e → F (o.toIterOps.step cl s) e
  ferr   : ∀ s e, F s e → o.err s = some e
  masked : ∀ s e, F s e → o.cur s = none
  sticky : ∀ s e cl, F s e → F (o.toIterOps.step cl s) e

namespace FailSim
variable {σ τ : Type} {o : EIterOps σ} {sh : IterOps τ} {π : σ → τ} {H : σ → Prop} {F : σ → Err → Prop}

theorem hok (h : FailSim o sh π H F) (s : σ) (hs : H s) : o.ok s = sh.ok (π s) := by
  simp only [IterOps.ok, h.hcur s hs]

theorem nok_of_failed (h : FailSim o sh π H F) (s : σ) (e : Err) (hs : F s e) : o.ok s = false := by
  simp [IterOps.ok, h.masked _ e hs]

theorem move_cases (h : FailSim o sh π H F) (cl : Call IKey) (s : σ) (hs : H s) :
    (H (o.toIterOps.step cl s) ∧ π (o.toIterOps.step cl s) = sh.step cl (π s) ∧
      o.ok (o.toIterOps.step cl s) = sh.ok (sh.step cl (π s))) ∨
    ((∃ e, F (o.toIterOps.step cl s) e) ∧ o.ok (o.toIterOps.step cl s) = false) := by
  rcases Option.eq_none_or_eq_some (o.err (o.toIterOps.step cl s)) with he | ⟨e, he⟩
  · obtain ⟨h1, h2⟩ := h.hstep s cl hs he
    exact .inl ⟨h1, h2, by rw [h.hok _ h1, h2]⟩
  · exact .inr ⟨⟨e, h.hfail s cl e hs he⟩, h.nok_of_failed _ e (h.hfail s cl e hs he)⟩

theorem run_failed (h : FailSim o sh π H F) (cs : List (Call IKey)) (s : σ) (e : Err) (he : F s e) :
    ∀ r ∈ o.run s cs, r = (none, some e) := by
  induction cs generalizing s with
  | nil => intro r hr; cases hr
  | cons cl cs ih =>
    intro r hr
    have he' := h.sticky s e cl he
    simp only [EIterOps.run, List.mem_cons] at hr
    rcases hr with rfl | hr
    · rw [h.masked _ e he', h.ferr _ e he']
    · exact ih _ he' r hr

theorem run_reported (h : FailSim o sh π H F) (cs : List (Call IKey)) (s : σ) (hs : H s) :
    Reported (o.run s cs) (sh.run (π s) cs) := by
  induction cs generalizing s with
  | nil => trivial
  | cons cl cs ih =>
    simp only [EIterOps.run, IterOps.run]
    cases he : o.err (o.toIterOps.step cl s) with
    | none =>
      obtain ⟨hH', hπ⟩ := h.hstep s cl hs he
      rw [← hπ]
      exact ⟨h.hcur _ hH', ih _ hH'⟩
    | some e =>
      have hF := h.hfail s cl e hs he
      exact ⟨h.masked _ e hF, h.run_failed cs _ e hF⟩

/-- "no error is hidden": while `Error()` is nil the state is healthy -/
theorem run_healthy (h : FailSim o sh π H F) (cs : List (Call IKey)) (s : σ) (hs : H s)
    (hnone : ∀ r ∈ o.run s cs, r.2 = none) :
    H (cs.foldl (fun s cl => o.toIterOps.step cl s) s) := by
  induction cs generalizing s with
  | nil => exact hs
  | cons cl cs ih =>
    simp only [EIterOps.run, List.mem_cons, forall_eq_or_imp] at hnone
    exact ih _ (h.hstep s cl hs hnone.1).1 hnone.2

end FailSim

namespace FailChild
variable {σ : Type}

theorem move_healthy (f : σ → σ) (x : FailChild σ) (hx : x.err = none) (h : (move f x).err = none) :
    move f x = { x with inner := f x.inner, moves := x.moves + 1 } := by
  unfold move at h ⊢
  simp only [hx, Option.isSome_none, Bool.false_eq_true, if_false] at h ⊢
  split
  · rename_i k e hp
    rw [hp] at h
    by_cases hk : k = x.moves
    · simp [hk] at h
    · simp [hk]
  · rfl

theorem move_failed (f : σ → σ) (x : FailChild σ) (e : Err) (hx : x.err = some e) : move f x = x := by
  simp [move, hx]

theorem step_eq (o : IterOps σ) (cl : Call IKey) (x : FailChild σ) :
    (ops o).toIterOps.step cl x = move (fun s => o.step cl s) x := by
  cases cl <;> rfl

theorem failSim (o : IterOps σ) :
    FailSim (ops o) o (·.inner) (fun x => x.err = none) (fun x e => x.err = some e) where
  herr := fun _ h => h
  hfail := fun _ _ _ _ h => h
  ferr := fun _ _ h => h
  hcur := fun x h => by simp [ops, h]
  hstep := by
    intro x cl hx he
    rw [step_eq] at he ⊢
    have := move_healthy _ x hx he
    rw [this]
    exact ⟨hx, rfl⟩
  masked := fun x e h => by have h' : x.err = some e := h; simp [ops, h']
  sticky := by
    intro x e cl h
    rw [step_eq, move_failed _ x e h]
    exact h

end FailChild

theorem IterOps.noErr_failSim {σ : Type} (o : IterOps σ) :
    FailSim o.noErr o id (fun _ => True) (fun _ _ => False) where
  herr := fun _ _ => rfl
  hfail := fun _ _ _ _ h => by cases h
  ferr := fun _ _ h => h.elim
  hcur := fun _ _ => rfl
  hstep := fun s cl _ _ => ⟨trivial, by cases cl <;> rfl⟩
  masked := fun _ _ h => h.elim
  sticky := fun _ _ _ h => h

end GoLevel

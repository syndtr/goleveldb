import GoLevel.Proofs.MemArrIter
import GoLevel.Proofs.MemDBIterSim
/-! Iterator moves after a `Reset` (generation counter, repairs of D31/D32): on the ideal list with generations
(`MemDB.GIter`) and on the arrays — a positioned iterator of an older generation is exhausted in the direction of the
move, absolute moves re-position it on the new table (C14). -/

namespace GoLevel.MemDB
variable {cmp : Cmp}

/-- a positioned iterator belongs to the current generation -/
def GIter.consistent (x : GIter) (g : Nat) : Prop := x.it.node.isSome → x.gen = g

theorem GIter.step_consistent (db : DB) (g : Nat) (c : Call Bytes) (x : GIter) (h : x.consistent g) :
    (GIter.step cmp db g c x).it = Iter.step cmp db c x.it ∧ (GIter.step cmp db g c x).consistent g := by
  cases c with
  | next =>
    cases hn : x.it.node with
    | none =>
      simp only [GIter.step, Iter.step, hn, next_none hn]
      cases x.it.forward with
      | true => exact ⟨rfl, h⟩
      | false => exact ⟨rfl, fun _ => rfl⟩
    | some k =>
      have hg : x.gen = g := h (by simp [hn])
      simp only [GIter.step, hn, hg, bne_self_eq_false, Bool.false_eq_true, if_false]
      exact ⟨rfl, fun _ => rfl⟩
  | prev =>
    cases hn : x.it.node with
    | none =>
      simp only [GIter.step, Iter.step, hn, prev_none hn]
      cases x.it.forward with
      | true => exact ⟨rfl, fun _ => rfl⟩
      | false => exact ⟨rfl, h⟩
    | some k =>
      have hg : x.gen = g := h (by simp [hn])
      simp only [GIter.step, hn, hg, bne_self_eq_false, Bool.false_eq_true, if_false]
      exact ⟨rfl, fun _ => rfl⟩
  | _ => exact ⟨rfl, fun _ => rfl⟩

theorem GIter.run_consistent (db : DB) (g : Nat) : ∀ (cs : List (Call Bytes)) (x : GIter), x.consistent g →
    GIter.run cmp db g x cs = Iter.run cmp db x.it cs := by
  intro cs
  induction cs with
  | nil => intro _ _; rfl
  | cons c cs ih =>
    intro x h
    obtain ⟨h1, h2⟩ := GIter.step_consistent (cmp := cmp) db g c x h
    simp only [GIter.run, Iter.run, h1, ih _ h2]

/-- the cursor-level reading of a move on an iterator that was positioned before the last `Reset`: `Next` leaves it
at the end, `Prev` at the start, the absolute moves do what they always do -/
def staleStep {α : Type} (xs : List α) (ge : Bytes → α → Bool) : Call Bytes → Pos
  | .next => .eoi
  | .prev => .soi
  | c => Cursor.step xs ge c .soi

section
variable (hc : LawfulCmp cmp)
include hc

theorem GIter.run_unpositioned {db : DB} (h : Inv cmp db) (g : Nat) (st lm : Option Bytes) (fw : Bool) (xg : Nat)
    (cs : List (Call Bytes)) :
    GIter.run cmp db g ⟨⟨st, lm, none, fw⟩, xg⟩ cs =
      Cursor.run (SMap.slice cmp st lm db.abs) (SMap.ge cmp) (if fw then .eoi else .soi) cs :=
  (GIter.run_consistent db g cs _ (fun h => by cases h)).trans (iter_run_eq_cursor hc h st lm fw cs)

theorem GIter.run_stale {db : DB} (h : Inv cmp db) (g : Nat) (x : GIter) {k : Bytes} (hn : x.it.node = some k)
    (hg : x.gen ≠ g) (c : Call Bytes) (cs : List (Call Bytes)) :
    GIter.run cmp db g x (c :: cs) =
      let S := SMap.slice cmp x.it.start x.it.limit db.abs
      Cursor.get S (staleStep S (SMap.ge cmp) c) :: Cursor.run S (SMap.ge cmp) (staleStep S (SMap.ge cmp) c) cs := by
  obtain ⟨⟨st, lm, nd, fw⟩, xg⟩ := x
  simp only at hn hg
  subst hn
  have hgb : (xg != g) = true := by simpa using hg
  cases c with
  | next =>
    simp only [GIter.run, GIter.step, hgb, if_true, staleStep]
    rw [GIter.run_unpositioned hc h g st lm true g cs]
    simp [Iter.out, Cursor.get]
  | prev =>
    simp only [GIter.run, GIter.step, hgb, if_true, staleStep]
    rw [GIter.run_unpositioned hc h g st lm false g cs]
    simp [Iter.out, Cursor.get]
  -- an absolute move does not look at the old position: it is the move of the unpositioned iterator
  | first => exact GIter.run_unpositioned hc h g st lm false xg (.first :: cs)
  | last => exact GIter.run_unpositioned hc h g st lm false xg (.last :: cs)
  | seek key => exact GIter.run_unpositioned hc h g st lm false xg (.seek key :: cs)

end
end GoLevel.MemDB

namespace GoLevel.MemArr
open GoLevel.MemDB (LawfulCmp SMap staleStep)

variable {cmp : Cmp} {a : DB} {d : MemDB.DB} {ix : Bytes → Nat}

section
variable (hc : LawfulCmp cmp) (r : Rep cmp a d ix)
include hc r

theorem iter_run_unpositioned (ai : Iter) (h0 : ai.node = 0) (cs : List (Call Bytes)) :
    Iter.run cmp a ai cs =
      some (Cursor.run (SMap.slice cmp ai.start ai.limit d.abs) (SMap.ge cmp)
        (if ai.forward then .eoi else .soi) cs) := by
  rw [iter_run_sim hc r cs (.unpositioned a d ix h0), MemDB.iter_run_eq_cursor hc r.inv]

theorem iter_run_stale (ai : Iter) (hne : ai.node ≠ 0) (hg : ai.gen ≠ a.gen) (c : Call Bytes)
    (cs : List (Call Bytes)) :
    Iter.run cmp a ai (c :: cs) =
      some (let S := SMap.slice cmp ai.start ai.limit d.abs
            Cursor.get S (staleStep S (SMap.ge cmp) c) ::
              Cursor.run S (SMap.ge cmp) (staleStep S (SMap.ge cmp) c) cs) := by
  cases c with
  | next =>
    simp only [Iter.run, Iter.step, arr_next_pos hne, if_neg hg, arr_fill_zero, Option.bind_some, Option.bind_eq_bind]
    rw [iter_run_unpositioned hc r _ rfl cs]
    simp [Iter.out, staleStep, Cursor.get]
  | prev =>
    simp only [Iter.run, Iter.step, arr_prev_pos hne, if_neg hg, arr_fill_zero, Option.bind_some, Option.bind_eq_bind]
    rw [iter_run_unpositioned hc r _ rfl cs]
    simp [Iter.out, staleStep, Cursor.get]
  | first => exact iter_run_unpositioned hc r { ai with node := 0, forward := false } rfl (.first :: cs)
  | last => exact iter_run_unpositioned hc r { ai with node := 0, forward := false } rfl (.last :: cs)
  | seek k => exact iter_run_unpositioned hc r { ai with node := 0, forward := false } rfl (.seek k :: cs)

end

end GoLevel.MemArr

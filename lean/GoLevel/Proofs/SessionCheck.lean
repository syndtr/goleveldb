import GoLevel.Proofs.SessionRun
/-! A checker for `OpOK` on concrete operation sequences, proved sound (used for the non-vacuity examples of
C07: every hypothesis of the theorems is checked on them). -/
namespace GoLevel.Session
open GoLevel GoLevel.RefLoop

def editOKB (v : Version) (c : UCmp) (r : Edit) (U : List Nat) : Bool :=
  let nv := (v.apply c r).nums
  decide nv.Nodup && decide r.delNums.Nodup && r.delNums.all (fun x => decide (x ∈ v.nums)) &&
  (nv ++ v.nums ++ r.addNums).all (fun f =>
    decide (f ∈ nv) == decide ((f ∈ v.nums ∧ f ∉ r.delNums) ∨ f ∈ r.addNums)) &&
  r.addNums.all (fun f => decide (f ∉ U ∨ f ∈ r.delNums))

theorem editOKB_sound {v : Version} {c : UCmp} {r : Edit} {U : List Nat} (h : editOKB v c r U = true) :
    EditFacts v c r U := by
  simp only [editOKB, Bool.and_eq_true, decide_eq_true_eq, List.all_eq_true, beq_iff_eq] at h
  obtain ⟨⟨⟨⟨h1, h2⟩, h3⟩, h4⟩, h5⟩ := h
  refine ⟨h1, h2, h3, fun f => ?_, h5⟩
  by_cases hf : f ∈ (v.apply c r).nums ++ v.nums ++ r.addNums
  · exact decide_eq_decide.mp (h4 f hf)
  · simp only [List.mem_append, not_or] at hf
    constructor
    · intro h6; exact absurd h6 hf.1.1
    · rintro (h6 | h6)
      · exact absurd h6.1 hf.1.2
      · exact absurd h6 hf.2

def opOKB (s : Sess) (U : List Nat) : Op → Bool
  | .recover v => decide (s.nt = 1) && !s.manifest && decide v.nums.Nodup && v.nums.all (fun f => decide (f ∉ U))
  | .commit c r => editOKB s.lsm c r U && (s.manifest || r.deleted.isEmpty)
  | .create => s.manifest || s.lsm.nums.isEmpty
  | _ => true

theorem opOKB_sound {s : Sess} {U : List Nat} {o : Op} (h : opOKB s U o = true) : OpOK s U o := by
  cases o with
  | recover v =>
    simp only [opOKB, Bool.and_eq_true, decide_eq_true_eq, List.all_eq_true, Bool.not_eq_true'] at h
    exact ⟨h.1.1.1, h.1.1.2, h.1.2, h.2⟩
  | commit c r =>
    simp only [opOKB, Bool.and_eq_true, Bool.or_eq_true, List.isEmpty_iff] at h
    refine ⟨editOKB_sound h.1, fun hm => ?_⟩
    rcases h.2 with h2 | h2
    · rw [hm] at h2; cases h2
    · exact h2
  | create =>
    simp only [opOKB, Bool.or_eq_true, List.isEmpty_iff] at h
    intro hm
    rcases h with h | h
    · rw [hm] at h; cases h
    · exact h
  | commitFail _ _ => trivial
  | pin => trivial
  | unpin _ _ => trivial
  | close => trivial
  | expire _ => trivial

def runChecked (y : Sys) (U : List Nat) : List Op → Option (Sys × List Nat)
  | [] => some (y, U)
  | o :: os =>
    if opOKB y.sess U o then
      match y.step o with
      | some (y', rm) => runChecked y' (nextUsed U y.sess o rm) os
      | none => none
    else none

theorem runChecked_reachable {y : Sys} {U : List Nat} (h : Reachable y U) {os : List Op} {y' : Sys} {U' : List Nat}
    (hr : runChecked y U os = some (y', U')) : Reachable y' U' ∧ y.run os = some y' := by
  induction os generalizing y U with
  | nil =>
    simp only [runChecked, Option.some.injEq, Prod.mk.injEq] at hr
    obtain ⟨rfl, rfl⟩ := hr
    exact ⟨h, rfl⟩
  | cons o os ih =>
    simp only [runChecked] at hr
    split at hr
    · rename_i hok
      split at hr
      · rename_i y1 rm e
        obtain ⟨h1, h2⟩ := ih (Reachable.step h (opOKB_sound hok) e) hr
        exact ⟨h1, by simp [Sys.run, e, h2]⟩
      · cases hr
    · cases hr

def checkedFromInit (os : List Op) : Option (Sys × List Nat) :=
  match Sys.init with
  | some y => runChecked y [] os
  | none => none

theorem checkedFromInit_reachable {os : List Op} {y' : Sys} {U' : List Nat}
    (h : checkedFromInit os = some (y', U')) : Reachable y' U' := by
  simp only [checkedFromInit] at h
  split at h
  · rename_i y e
    exact (runChecked_reachable (Reachable.init e) h).1
  · cases h

end GoLevel.Session

import GoLevel.Proofs.IterDB
/-!
# `dbIter.next()`: the forward scan finds the next visible entry
-/
namespace GoLevel

/-- loop invariant of `next()` when the raw iterator stands at index `j`: for every entry from `j` on that
is not newer than `seq`, "no older-indexed entry of its user key (before `j`) is a candidate" is exactly the
test the loop applies (`dir == dirSOI || ucmp(ukey, key) > 0`) -/
def NI (c : UCmp) (es : List Entry) (seq : Nat) (j : Nat) (dir : Dir) (key : Bytes) : Prop :=
  ∀ (i : Nat) (e : Entry), j ≤ i → es[i]? = some e → e.seq ≤ seq →
    (NoEarlier es seq j e.ukey ↔ (dir = .soi ∨ c.cmp e.ukey key = .gt))

section
variable {c : UCmp} (hl : LawfulUCmp c) {es : List Entry} (hs : SortedEntries c es)
include hl hs

theorem NI_after (seq j : Nat) (e0 : Entry) (dir : Dir) (he0 : es[j]? = some e0) (hc : e0.seq ≤ seq)
    (hd : dir ≠ .soi) : NI c es seq (j + 1) dir e0.ukey := by
  intro i e hji he _
  have hle := ukey_le_idx hl hs j i e0 e (Nat.le_of_lt hji) he0 he
  constructor
  · intro hne
    refine .inr ?_
    have hneq : e0.ukey ≠ e.ukey := fun heq => Nat.not_le_of_gt (hne j e0 (Nat.lt_succ_self j) he0 heq) hc
    exact (hl.gt_iff _ _).2 (((hl.ord.le_iff _ _).1 hle).resolve_right hneq)
  · rintro (h | h)
    · exact absurd h hd
    · intro i' e' hi' he' hu
      have := ukey_le_idx hl hs i' j e' e0 (Nat.le_of_lt_succ hi') he' he0
      rw [hu] at this
      exact absurd h this

omit hl hs in
theorem NI_skip (seq j : Nat) (e0 : Entry) (dir : Dir) (key : Bytes) (he0 : es[j]? = some e0)
    (hnt : e0.seq ≤ seq → ¬ (dir = .soi ∨ c.cmp e0.ukey key = .gt)) (h : NI c es seq j dir key) :
    NI c es seq (j + 1) dir key := by
  intro i e hji he hce
  rw [← h i e (Nat.le_of_lt hji) he hce]
  constructor
  · intro hne i' e' hi' he' hu; exact hne i' e' (Nat.lt_succ_of_lt hi') he' hu
  · intro hne i' e' hi' he' hu
    rcases Nat.lt_or_ge i' j with hlt | hge
    · exact hne i' e' hlt he' hu
    · obtain rfl : i' = j := Nat.le_antisymm (Nat.le_of_lt_succ hi') hge
      rw [he0] at he'; cases he'
      -- were `e0` a candidate, the test would accept it, as it accepts its key-mate `e`
      refine Nat.lt_of_not_le (fun hc => hnt hc ?_)
      rw [hu]; exact (h i e (Nat.le_of_lt hji) he hce).1 hne

end

section
variable {σ : Type} {o : IterOps σ} {c : UCmp} {es : List Entry} {R : σ → Pos → Prop}

def landOn (o : IterOps σ) (c : UCmp) (n : Nat) (d : DBIter σ) (r : σ) : DBIter σ × Bool :=
  if o.ok r then DBIter.nextLoop o c n { d with raw := r } else ({ d with raw := r, dir := .eoi }, false)

/-- the `if !i.iter.Next() { dir = EOI; break }` tail of one loop iteration -/
def nextCont (o : IterOps σ) (c : UCmp) (n : Nat) (d : DBIter σ) : DBIter σ × Bool := landOn o c n d (o.next d.raw)

theorem nextLoop_succ (n : Nat) (d : DBIter σ) :
    DBIter.nextLoop o c (n + 1) d =
      match o.cur d.raw with
      | none => nextCont o c n d
      | some e =>
        if e.seq ≤ d.seq then
          if e.kind = Gen.keyTypeDel then nextCont o c n { d with key := e.ukey, dir := .forward }
          else if e.kind = Gen.keyTypeVal then
            if d.dir = .soi ∨ c.cmp e.ukey d.key = .gt then
              ({ d with key := e.ukey, value := e.val, dir := .forward }, true)
            else nextCont o c n d
          else nextCont o c n d
        else nextCont o c n d := by
  rfl

namespace DBIter

theorem first_eq (d : DBIter σ) (hd : d.dir ≠ .released) :
    DBIter.first o c d = (landOn o c d.fuel { d with dir := .soi } (o.first d.raw)).1 := by
  simp only [DBIter.first, landOn, if_neg hd]
  cases o.ok (o.first d.raw) <;> rfl

theorem seek_eq (k : Bytes) (d : DBIter σ) (hd : d.dir ≠ .released) :
    DBIter.seek o c k d = (landOn o c d.fuel { d with dir := .soi } (o.seek (probe k d.seq) d.raw)).1 := by
  simp only [DBIter.seek, landOn, if_neg hd, apply_ite Prod.fst]
  rfl

theorem next_eq (d : DBIter σ) (hd : d.dir = .soi ∨ d.dir = .forward) :
    DBIter.next o c d = (landOn o c d.fuel d (o.next d.raw)).1 := by
  rcases hd with hd | hd <;> simp only [DBIter.next, landOn, hd] <;> cases o.ok (o.next d.raw) <;> rfl

/-- after backward movement `Next` moves the raw iterator twice -/
theorem next_backward_eq (d : DBIter σ) (hd : d.dir = .backward) (hok : o.ok (o.next d.raw) = true) :
    DBIter.next o c d = (landOn o c d.fuel { d with raw := o.next d.raw } (o.next (o.next d.raw))).1 := by
  simp only [DBIter.next, landOn, hd, hok]
  cases o.ok (o.next (o.next d.raw)) <;> rfl

end DBIter

/-- the loop passes over `[a, J)` leaving its state as it is: what a reader at `seq` can see there is a value that
the test turns down -/
def Passed (c : UCmp) (es : List Entry) (seq a J : Nat) (dir : Dir) (key : Bytes) : Prop :=
  ∀ (i : Nat) (e : Entry), a ≤ i → i < J → es[i]? = some e → e.seq ≤ seq →
    e.kind = Gen.keyTypeVal ∧ ¬ (dir = .soi ∨ c.cmp e.ukey key = .gt)

theorem Passed.nil {seq a : Nat} {dir : Dir} {key : Bytes} : Passed c es seq a a dir key :=
  fun _ _ h1 h2 => absurd h2 (Nat.not_lt_of_le h1)

variable (hsim : Sim o c es R)
include hsim

theorem landOn_spec (n a J : Nat) (d : DBIter σ) (r : σ)
    (ih : ∀ (a J : Nat) (d : DBIter σ), es.length ≤ n + a → es.length < d.fuel → R d.raw (.at a) → a ≤ J →
      Passed c es d.seq a J d.dir d.key → NI c es d.seq J d.dir d.key →
      DBRel c R es d.seq (DBIter.nextLoop o c n d).1 (IndexedIter.atOr (visList c es d.seq).length (rk c es d.seq J)))
    (hfuel : es.length ≤ n + a) (hf : es.length < d.fuel) (hR : R r (IndexedIter.atOr es.length a)) (haJ : a ≤ J)
    (hpass : Passed c es d.seq a J d.dir d.key) (hNI : NI c es d.seq J d.dir d.key) :
    DBRel c R es d.seq (landOn o c n d r).1 (IndexedIter.atOr (visList c es d.seq).length (rk c es d.seq J)) := by
  simp only [landOn]
  by_cases ha : a < es.length
  · rw [IndexedIter.atOr_lt ha] at hR
    rw [if_pos (hsim.ok_at hR)]
    exact ih a J { d with raw := r } hfuel hf hR haJ hpass hNI
  · have hle := Nat.le_of_not_lt ha
    rw [IndexedIter.atOr_ge hle] at hR
    have hok : o.ok r = false := by rw [hsim.ok_eq _ _ hR]; rfl
    rw [hok, rk_of_ge d.seq J (Nat.le_trans hle haJ), IndexedIter.atOr_ge (Nat.le_refl _)]
    exact ⟨rfl, hf, .eoi rfl hR⟩

variable (hl : LawfulUCmp c) (hs : SortedEntries c es) (hk : ∀ e ∈ es, e.kind ≤ Gen.keyTypeVal)
include hl hs hk

/-- `next()` of db_iter.go with the raw iterator at index `a`: having passed over `[a, J)`, the loop stops on the
first visible entry at or after `J`, or runs off the end.  An entry passed over at or after `J` is not visible, so
`rk` does not move.  (`a < J` is `Next` after backward movement: the entries before the current one are newer than
`seq`, the current one has the saved key.) -/
theorem nextLoop_spec (n : Nat) : ∀ (a J : Nat) (d : DBIter σ), es.length ≤ n + a → es.length < d.fuel →
    R d.raw (.at a) → a ≤ J → Passed c es d.seq a J d.dir d.key → NI c es d.seq J d.dir d.key →
    DBRel c R es d.seq (DBIter.nextLoop o c n d).1 (IndexedIter.atOr (visList c es d.seq).length (rk c es d.seq J)) := by
  induction n with
  | zero =>
    intro a _ d hfuel _ hR
    have : a < es.length := hsim.wf _ _ hR
    omega
  | succ n ih =>
    intro a J d hfuel hf hR haJ hpass hNI
    obtain ⟨e0, he0⟩ : ∃ e0, es[a]? = some e0 := ⟨_, List.getElem?_eq_getElem (hsim.wf _ _ hR)⟩
    rw [nextLoop_succ, (hsim.cur _ _ hR).trans he0]
    simp only
    rcases Nat.lt_or_ge a J with hlt | hge
    · have hcont : DBRel c R es d.seq (nextCont o c n d).1 _ :=
        landOn_spec hsim n (a + 1) J d _ ih (by omega) hf (hsim.next _ _ hR) hlt
          (fun i e h1 => hpass i e (Nat.le_of_succ_le h1)) hNI
      by_cases hc : e0.seq ≤ d.seq
      · obtain ⟨hval, hnt⟩ := hpass a e0 (Nat.le_refl _) hlt he0 hc
        rw [if_pos hc, if_neg (fun hdel => kind_del_ne_val e0 hdel hval), if_pos hval, if_neg hnt]
        exact hcont
      · rw [if_neg hc]
        exact hcont
    obtain rfl : a = J := Nat.le_antisymm haJ hge
    have hcont : ∀ d' : DBIter σ, es.length < d'.fuel → R d'.raw (.at a) → NI c es d'.seq (a + 1) d'.dir d'.key →
        DBRel c R es d'.seq (nextCont o c n d').1 _ := fun d' hf' hR' =>
      landOn_spec hsim n (a + 1) (a + 1) d' _ ih (by omega) hf' (hsim.next _ _ hR') (Nat.le_refl _) Passed.nil
    have hskip := rk_succ_of_not hl hs d.seq a e0 he0
    by_cases hc : e0.seq ≤ d.seq
    · rw [if_pos hc]
      by_cases hdel : e0.kind = Gen.keyTypeDel
      · rw [if_pos hdel]
        rw [← hskip (fun hv => kind_del_ne_val e0 hdel hv.2.1)]
        exact hcont { d with key := e0.ukey, dir := .forward } hf hR
          (NI_after hl hs d.seq a e0 .forward he0 hc (by simp))
      · rw [if_neg hdel]
        have hval : e0.kind = Gen.keyTypeVal :=
          (kind_cases e0 (hk e0 (List.mem_of_getElem? he0))).resolve_left hdel
        rw [if_pos hval]
        by_cases htake : d.dir = .soi ∨ c.cmp e0.ukey d.key = .gt
        · rw [if_pos htake]
          have hv : Vis es d.seq a e0 := ⟨hc, hval, (hNI a e0 (Nat.le_refl _) he0 hc).2 htake⟩
          rw [IndexedIter.atOr_lt (rk_lt hl hs d.seq a e0 he0 hv)]
          exact ⟨rfl, hf, .forward rfl hR he0 hv rfl rfl⟩
        · rw [if_neg htake]
          rw [← hskip (fun hv => htake ((hNI a e0 (Nat.le_refl _) he0 hc).1 hv.2.2))]
          exact hcont d hf hR (NI_skip d.seq a e0 d.dir d.key he0 (fun _ => htake) hNI)
    · rw [if_neg hc]
      rw [← hskip (fun hv => hc hv.1)]
      exact hcont d hf hR (NI_skip d.seq a e0 d.dir d.key he0 (fun h => absurd h hc) hNI)

end
end GoLevel

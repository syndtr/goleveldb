import GoLevel.Proofs.MemArrIter
/-! One writer (`Put`, `Delete`, `Reset`) interleaved with readers and iterators over the arrays: the invariant
(C14, `concurrent_readers`).  Beside the live structure (`Rep`) the arrays hold *dead* nodes — unlinked by `Delete`
since the last `Reset`, never written again — on which an iterator may still sit and through which `Next` may walk. -/
namespace GoLevel.MemArr
open GoLevel.Gen (nKV nKey nVal nHeight nNext tMaxHeight)
open GoLevel.MemDB (Node LawfulCmp Sorted pred below ins Op Ans inR ps pl)

variable {cmp : Cmp}

/-- a node unlinked by `Delete` since the last `Reset` -/
structure Dead where
  idx : Nat
  key : Bytes
  ht : Nat

/-- node `i` carries key `k` and is live or dead -/
def Alloc (d : MemDB.DB) (ix : Bytes → Nat) (D : List Dead) (i : Nat) (k : Bytes) : Prop :=
  (k ∈ d.level0 ∧ i = ix k) ∨ ∃ r ∈ D, r.idx = i ∧ r.key = k

/-- what `fill` reads at node `i`: offsets inside the arrays, the key bytes are `k`, the value bytes were put for `k`
since the last `Reset` -/
structure NodeOK (a : DB) (puts : List (Bytes × Bytes)) (i : Nat) (k : Bytes) : Prop where
  ne : i ≠ 0
  fields : ∃ o v, a.nodeData[i]? = some o ∧ a.nodeData[i + nKey]? = some k.length ∧
    slice a.kvData o (o + k.length) = some k ∧ a.nodeData[i + nVal]? = some v.length ∧
    slice a.kvData (o + k.length) (o + k.length + v.length) = some v ∧ (k, v) ∈ puts

/-- the fields of node `r` are intact and its level-0 pointer leads to a live or dead node with a greater key (or
nowhere) -/
structure Intact (cmp : Cmp) (a : DB) (d : MemDB.DB) (ix : Bytes → Nat) (puts : List (Bytes × Bytes))
    (D : List Dead) (r : Dead) : Prop where
  lo : nNext + tMaxHeight ≤ r.idx
  hi : r.idx + nNext + r.ht ≤ a.nodeData.size
  pos : 1 ≤ r.ht
  node : NodeOK a puts r.idx r.key
  next : ∃ nx, a.nodeData[r.idx + nNext]? = some nx ∧ (nx = 0 ∨ ∃ k', Alloc d ix D nx k' ∧ cmp r.key k' = .lt)

/-- a dead node: intact, and its index range is disjoint from those of the live nodes (nobody writes into it) -/
structure DeadOK (cmp : Cmp) (a : DB) (d : MemDB.DB) (ix : Bytes → Nat) (puts : List (Bytes × Bytes))
    (D : List Dead) (r : Dead) : Prop extends Intact cmp a d ix puts D r where
  sep : ∀ k' ∈ d.level0, r.idx + nNext + r.ht ≤ ix k' ∨ ix k' + nNext + d.height k' ≤ r.idx

/-- the arrays: a representation of the ideal list `d`, every live pair was put since the last `Reset`, and the dead
nodes `D` are intact -/
structure World (cmp : Cmp) (a : DB) (d : MemDB.DB) (ix : Bytes → Nat) (D : List Dead)
    (puts : List (Bytes × Bytes)) : Prop where
  rep : Rep cmp a d ix
  allPut : ∀ k ∈ d.level0, (k, d.value k) ∈ puts
  dead : ∀ r ∈ D, DeadOK cmp a d ix puts D r

/-- the observed iterator: its bounds, its generation is not ahead of the table's, and when it is positioned in the
current generation its node is allocated, the key and value it holds are that node's key and a value put for it, inside
the range -/
structure ItOK (cmp : Cmp) (a : DB) (d : MemDB.DB) (ix : Bytes → Nat) (D : List Dead) (puts : List (Bytes × Bytes))
    (st lm : Option Bytes) (it : Iter) : Prop where
  start : it.start = st
  limit : it.limit = lm
  genle : it.gen ≤ a.gen
  cur : it.gen = a.gen → it.node ≠ 0 → ∃ k v, Alloc d ix D it.node k ∧ it.key = some k ∧ it.value = some v ∧
    (k, v) ∈ puts ∧ inR cmp st lm k = true

section
variable {a : DB} {d : MemDB.DB} {ix : Bytes → Nat} {D : List Dead} {puts : List (Bytes × Bytes)}

theorem World.nodeOK (w : World cmp a d ix D puts) {i : Nat} {k : Bytes} (h : Alloc d ix D i k) :
    NodeOK a puts i k := by
  rcases h with ⟨hk, rfl⟩ | ⟨r, hr, rfl, rfl⟩
  · have hn := w.rep.node k hk
    obtain ⟨o, o1, o2, o3⟩ := hn.off
    exact ⟨w.rep.ix_ne_zero hk, o, d.value k, o1, hn.klen, o2, hn.vlen, o3, w.allPut k hk⟩
  · exact (w.dead r hr).node

theorem World.next (w : World cmp a d ix D puts) {i : Nat} {k : Bytes} (h : Alloc d ix D i k) :
    ∃ nx, a.nodeData[i + nNext]? = some nx ∧ (nx = 0 ∨ ∃ k', Alloc d ix D nx k' ∧ cmp k k' = .lt) := by
  rcases h with ⟨hk, rfl⟩ | ⟨r, hr, rfl, rfl⟩
  · refine ⟨_, next_ptr w.rep hk, ?_⟩
    cases hh : (MemDB.after d.level0 (some k)).head? with
    | none => exact .inl rfl
    | some k' =>
      have hm := List.mem_of_mem_head? hh
      exact .inr ⟨k', .inl ⟨(after_sublist _ _).subset hm, rfl⟩, MemDB.after_gt w.rep.inv.sorted0 k k' hm⟩
  · exact (w.dead r hr).next

theorem World.pred (hc : LawfulCmp cmp) (w : World cmp a d ix D puts) (k : Bytes) :
    ∃ pv, findLT cmp a k = some pv ∧ (pv = 0 ∨ ∃ k', Alloc d ix D pv k' ∧ cmp k' k = .lt) := by
  refine ⟨_, findLT_sim w.rep k, ?_⟩
  rw [MemDB.findLT_eq hc w.rep.inv]
  cases hp : MemDB.pred cmp d.level0 k with
  | none => exact .inl rfl
  | some k' => exact .inr ⟨k', .inl ⟨(MemDB.pred_mem hp).1, rfl⟩, (MemDB.pred_mem hp).2⟩

theorem DeadOK.addr_ne {r : Dead} (ok : DeadOK cmp a d ix puts D r) {z j f : Nat} (s : Slot d ix z j)
    (hf : f ≤ nNext) : r.idx + f ≠ z + nNext + j := by
  obtain ⟨H, o, hj⟩ := s
  have := ok.lo; have := ok.pos
  rcases o with ⟨rfl, rfl⟩ | ⟨k', hk', rfl, rfl⟩
  · omega
  · have := ok.sep k' hk'; omega

/-- a node that is intact in `a`, and into which a step does not write, is a dead node after the step (this is how a
node dies, and how a dead node stays dead) -/
theorem DeadOK.of_intact {a' : DB} {d' : MemDB.DB} {ix' : Bytes → Nat} {D' : List Dead}
    {puts' : List (Bytes × Bytes)} {r : Dead} (I : Intact cmp a d ix puts D r)
    (hnd : ∀ f, f ≤ nNext → a'.nodeData[r.idx + f]? = a.nodeData[r.idx + f]?)
    (hkv : ∃ ext, a'.kvData = a.kvData ++ ext) (hsz : a.nodeData.size ≤ a'.nodeData.size)
    (hputs : ∀ p ∈ puts, p ∈ puts') (halloc : ∀ i k, Alloc d ix D i k → Alloc d' ix' D' i k)
    (hsep : ∀ k' ∈ d'.level0, r.idx + nNext + r.ht ≤ ix' k' ∨ ix' k' + nNext + d'.height k' ≤ r.idx) :
    DeadOK cmp a' d' ix' puts' D' r := by
  have e4 := nNext_eq; have e1 := nKey_eq; have e2 := nVal_eq
  obtain ⟨ext, hext⟩ := hkv
  obtain ⟨o, v, f0, f1, f2, f3, f4, f5⟩ := I.node.fields
  obtain ⟨nx, n1, n2⟩ := I.next
  have := I.hi
  refine ⟨⟨I.lo, by omega, I.pos, ⟨I.node.ne, o, v, ?_, ?_, ?_, ?_, ?_, hputs _ f5⟩, ⟨nx, ?_, ?_⟩⟩, hsep⟩
  · have := hnd 0 (by omega); simp only [Nat.add_zero] at this; rw [this]; exact f0
  · rw [hnd nKey (by omega)]; exact f1
  · rw [hext]; exact slice_append _ f2
  · rw [hnd nVal (by omega)]; exact f3
  · rw [hext]; exact slice_append _ f4
  · rw [hnd nNext (by omega)]; exact n1
  · rcases n2 with h | ⟨k', hk', hlt⟩
    · exact .inl h
    · exact .inr ⟨k', halloc _ _ hk', hlt⟩

theorem World.setPrev (w : World cmp a d ix D puts) (pn : List Nat) (hpn : pn.length = a.prevNode.length) :
    World cmp { a with prevNode := pn } d ix D puts :=
  ⟨w.rep.setPrev pn hpn, w.allPut, fun r hr =>
    DeadOK.of_intact (w.dead r hr).toIntact (fun _ _ => rfl) ⟨#[], by simp⟩ (Nat.le_refl _) (fun _ h => h) (fun _ _ h => h)
      (w.dead r hr).sep⟩

theorem World.new (ix : Bytes → Nat) : World cmp DB.new MemDB.DB.empty ix [] [] :=
  ⟨rep_new ix, by intro k hk; simp [MemDB.DB.empty, MemDB.DB.level0] at hk, by intro r hr; simp at hr⟩

theorem World.stepReset (w : World cmp a d ix D puts) :
    ∃ a', MemArr.reset a = some a' ∧ World cmp a' MemDB.DB.empty ix [] [] ∧ a'.gen = a.gen + 1 := by
  obtain ⟨a', e, r', hg⟩ := reset_sim w.rep
  exact ⟨a', e, ⟨r', by intro k hk; simp [MemDB.DB.empty, MemDB.DB.level0] at hk, by intro r hr; simp at hr⟩, hg⟩

theorem World.allPut_put (w : World cmp a d ix D puts) (key v : Bytes) (ls : List (List Bytes)) (n s u : Nat)
    {k : Bytes} (hk : k = key ∨ k ∈ d.level0) :
    (k, (MemDB.DB.mk ls ((key, v) :: d.kv.filter (·.1 != key)) n s u).value k) ∈ (key, v) :: puts := by
  by_cases hkk : k = key
  · subst hkk; rw [MemDB.value_put_self]; simp
  · rw [MemDB.value_put_other d hkk]; exact List.mem_cons_of_mem _ (w.allPut k (hk.resolve_left hkk))

theorem World.stepPutOld (hc : LawfulCmp cmp) (w : World cmp a d ix D puts) {key : Bytes} (hk : key ∈ d.level0)
    (v : Bytes) (h : Nat) :
    ∃ a', put cmp a key v h = some a' ∧ World cmp a' (putOld d key v) ix D ((key, v) :: puts) ∧ a'.gen = a.gen := by
  have e4 := nNext_eq; have e2 := nVal_eq
  obtain ⟨a', e, r', f1, f2, f3, f4⟩ := put_old_sim hc w.rep hk v h
  rw [MemDB.put_old hc w.rep.inv hk v h] at r'
  refine ⟨a', e, ⟨r', fun k hk' => w.allPut_put key v _ _ _ _ (.inr hk'), fun r hr => ?_⟩, f1⟩
  have ok := w.dead r hr
  have hs := ok.sep key hk
  have := ok.pos
  exact DeadOK.of_intact ok.toIntact (fun f hf => f4 _ (by omega) (by omega))
    ⟨key.toArray ++ v.toArray, by rw [f2, Array.append_assoc]⟩ (by omega) (fun p hp => List.mem_cons_of_mem _ hp)
    (fun _ _ hh => hh) ok.sep

theorem World.stepPutNew (hc : LawfulCmp cmp) (w : World cmp a d ix D puts) {key : Bytes} (hk : key ∉ d.level0)
    (v : Bytes) {h : Nat} (h1 : 1 ≤ h) (h2 : h ≤ tMaxHeight) :
    ∃ a' ix', put cmp a key v h = some a' ∧ World cmp a' (putNew cmp d key v h) ix' D ((key, v) :: puts) ∧
      a'.gen = a.gen ∧ ∀ i k, Alloc d ix D i k → Alloc (putNew cmp d key v h) ix' D i k := by
  obtain ⟨a', e, r', f1, f2, I⟩ := put_new_sim hc w.rep hk v h1 h2
  rw [MemDB.put_new hc w.rep.inv hk v h] at r'
  have hix : ∀ k, k ∈ d.level0 → (if k = key then a.nodeData.size else ix k) = ix k := by
    intro k hk0
    have : k ≠ key := fun e => hk (e ▸ hk0)
    simp [this]
  have hal : ∀ i k, Alloc d ix D i k →
      Alloc (putNew cmp d key v h) (fun k => if k = key then a.nodeData.size else ix k) D i k := by
    intro i k hh
    rcases hh with ⟨hk0, rfl⟩ | hdead
    · exact .inl ⟨(putNew_level0 v h1 k).2 (.inr hk0), (hix k hk0).symm⟩
    · exact .inr hdead
  refine ⟨a', _, e, ⟨r', fun k hk' => w.allPut_put key v _ _ _ _ ((putNew_level0 v h1 k).1 hk'), fun r hr => ?_⟩,
    f1, hal⟩
  have ok := w.dead r hr
  refine DeadOK.of_intact ok.toIntact ?_ ⟨key.toArray ++ v.toArray, by rw [f2, Array.append_assoc]⟩ (by rw [I.size]; omega)
    (fun p hp => List.mem_cons_of_mem _ hp) hal ?_
  · intro f hf
    exact I.same _ (by have := ok.hi; have := ok.pos; omega)
      (fun j hj => ok.addr_ne (w.rep.pth_owner key (by omega)) hf)
  · intro k' hk'
    rcases (putNew_level0 v h1 k').1 hk' with rfl | hk0
    · have : (if k' = k' then a.nodeData.size else ix k') = a.nodeData.size := by simp
      rw [this]; exact .inl ok.hi
    · rw [hix k' hk0, putNew_height_other hc w.rep hk v h1 h2 hk0]
      exact ok.sep k' hk0

theorem World.stepDelete (hc : LawfulCmp cmp) (w : World cmp a d ix D puts) {key : Bytes} (hk : key ∈ d.level0) :
    ∃ a' D', delete cmp a key = some (a', true) ∧ World cmp a' (delOld d key) ix D' puts ∧
      a'.gen = a.gen ∧ ∀ i k, Alloc d ix D i k → Alloc (delOld d key) ix D' i k := by
  have e4 := nNext_eq
  obtain ⟨a', e, r', f1, f2, U⟩ := delete_present_sim hc w.rep hk
  have hHle := w.rep.height_le key
  have hpos : 0 < d.height key := (mem_lv_iff w.rep key 0).1 (lv_zero d ▸ hk)
  let D' : List Dead := ⟨ix key, key, d.height key⟩ :: D
  have hal : ∀ i k, Alloc d ix D i k → Alloc (delOld d key) ix D' i k := by
    intro i k hh
    rcases hh with ⟨hk0, rfl⟩ | ⟨r, hr, h1, h2⟩
    · by_cases hkk : k = key
      · subst hkk; exact .inr ⟨⟨ix k, k, d.height k⟩, by simp [D'], rfl, rfl⟩
      · exact .inl ⟨(delOld_level0 k).2 ⟨hk0, hkk⟩, rfl⟩
    · exact .inr ⟨r, by simp [D', hr], h1, h2⟩
  have same_dead : ∀ {r : Dead}, DeadOK cmp a d ix puts D r → ∀ f, f ≤ nNext →
      a'.nodeData[r.idx + f]? = a.nodeData[r.idx + f]? := by
    intro r ok f hf
    exact U.same _ (fun j hj => ok.addr_ne (w.rep.pth_owner key (by omega)) hf)
  have hfk : ∀ f, f ≤ nNext → a'.nodeData[ix key + f]? = a.nodeData[ix key + f]? := by
    intro f hf
    by_cases hf4 : f < nNext
    · exact U.field w.rep hk hf4
    · -- its level-0 pointer: were it the slot written at `pth j`, `pth j` would be the node itself
      obtain rfl : f = nNext := by omega
      refine U.same _ fun j hj e => ?_
      exact pth_ne_key hc w.rep hk j
        (w.rep.slot_inj (.node hk hpos) (w.rep.pth_owner (cmp := cmp) key (i := j) (by omega)) (by omega)).1.symm
  have hsep : ∀ {R H : Nat}, (∀ k' ∈ d.level0, k' ≠ key → R + nNext + H ≤ ix k' ∨ ix k' + nNext + d.height k' ≤ R) →
      ∀ k' ∈ (delOld d key).level0, R + nNext + H ≤ ix k' ∨ ix k' + nNext + (delOld d key).height k' ≤ R := by
    intro R H h k' hk'
    obtain ⟨hk0, hne⟩ := (delOld_level0 k').1 hk'
    rw [delOld_height hc w.rep hk hne]
    exact h k' hk0 hne
  refine ⟨a', D', e, ⟨r', ?_, ?_⟩, f1, hal⟩
  · intro k hk'
    obtain ⟨hk0, hne⟩ := (delOld_level0 k).1 hk'
    have : (delOld d key).value k = d.value k := MemDB.value_filter_other d hne _ _ _ _
    rw [this]; exact w.allPut k hk0
  · intro r hr
    simp only [D', List.mem_cons] at hr
    rcases hr with rfl | hr
    · -- the node that has just died
      have hnk := w.rep.node key hk
      have hal0 : Alloc d ix D (ix key) key := .inl ⟨hk, rfl⟩
      exact DeadOK.of_intact ⟨hnk.lo, hnk.hi, hpos, w.nodeOK hal0, w.next hal0⟩ hfk ⟨#[], by rw [f2]; simp⟩
        (Nat.le_of_eq U.size.symm) (fun _ h => h) hal
        (hsep fun k' hk0 hne => w.rep.sep key hk k' hk0 (fun e => hne e.symm))
    · have ok := w.dead r hr
      exact DeadOK.of_intact ok.toIntact (same_dead ok) ⟨#[], by rw [f2]; simp⟩ (Nat.le_of_eq U.size.symm)
        (fun _ h => h) hal (hsep fun k' hk0 _ => ok.sep k' hk0)

theorem World.op (hc : LawfulCmp cmp) (w : World cmp a d ix D puts) (o : Op) (hv : o.valid) :
    ∃ a' d' ix' D' ans, step cmp a o = some (a', ans) ∧ World cmp a' d' ix' D' (putsStep puts (.op o)) ∧
      a'.gen = a.gen + (if Ev.isReset (.op o) then 1 else 0) ∧
      (Ev.isReset (.op o) = false → ∀ i k, Alloc d ix D i k → Alloc d' ix' D' i k) := by
  cases o with
  | put k v h =>
    obtain ⟨h1, h2⟩ := hv
    by_cases hk : k ∈ d.level0
    · obtain ⟨a', e, w', g⟩ := w.stepPutOld hc hk v h
      exact ⟨a', _, ix, D, .ok, by simp [step, e], w', g, fun _ _ _ hh => hh⟩
    · obtain ⟨a', ix', e, w', g, hal⟩ := w.stepPutNew hc hk v h1 h2
      exact ⟨a', _, ix', D, .ok, by simp [step, e], w', g, fun _ => hal⟩
  | delete k =>
    by_cases hk : k ∈ d.level0
    · obtain ⟨a', D', e, w', g, hal⟩ := w.stepDelete hc hk
      exact ⟨a', _, ix, D', .ok, by simp [step, e], w', g, fun _ => hal⟩
    · obtain ⟨pn', e, hl⟩ := delete_absent_sim hc w.rep hk
      exact ⟨_, d, ix, D, .notFound, by simp [step, e], w.setPrev pn' hl, rfl, fun _ _ _ h => h⟩
  | reset =>
    obtain ⟨a', e, w', g⟩ := w.stepReset
    exact ⟨a', _, ix, [], .ok, by simp [step, e], w', g, fun h => absurd h (by simp [Ev.isReset])⟩
  | _ => exact ⟨a, d, ix, D, _, step_read hc w.rep rfl, w, rfl, fun _ _ _ h => h⟩

end

end GoLevel.MemArr

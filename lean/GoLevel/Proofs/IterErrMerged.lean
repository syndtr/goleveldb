import GoLevel.Proofs.IterErrBasic
import GoLevel.Proofs.IterMerged
/-!
# `EMerged`: what a call does, seen through a projection of the children (C02 / C08)

`step_does`: for any children and either value of `strict`, looked at through a projection `π` into an error-free
twin (`ChildSim`): a call that leaves `Error()` nil did what `MergedIter` over the twins does; an error it leaves
has an `Origin`.  `π = id` gives `IterErrGenuine`; the `π` of `FailSim` children gives `EMerged.failSim`: the strict
iterator is a `FailSim` again.
-/
namespace GoLevel

/-! ## the error-free `MergedIter` over projected children -/

def MergedIter.mapIters {σ τ : Type} (π : σ → τ) (m : MergedIter σ) : MergedIter τ :=
  ⟨m.iters.map π, m.keys, m.heap, m.reverse, m.index, m.dir⟩

namespace MergedIter
variable {σ τ : Type}

/-- what the loop of `Prev`'s direction change does to a child other than the current one -/
def turn (o : IterOps σ) (key : IKey) (s : σ) : σ :=
  let s1 := o.seek key s
  if o.ok s1 then o.prev s1 else o.last s1

theorem mapIters_id (m : MergedIter σ) : m.mapIters id = m := by
  simp [mapIters]

theorem mapIters_popNext (π : σ → τ) (c : UCmp) (m : MergedIter σ) :
    (popNext c m).iters = m.iters ∧ (popNext c m).mapIters π = popNext c (m.mapIters π) := by
  simp only [popNext, pop, mapIters]
  cases m.heap <;> exact ⟨rfl, rfl⟩

theorem mapIters_popPrev (π : σ → τ) (c : UCmp) (m : MergedIter σ) :
    (popPrev c m).iters = m.iters ∧ (popPrev c m).mapIters π = popPrev c (m.mapIters π) := by
  simp only [popPrev, pop, mapIters]
  cases m.heap <;> exact ⟨rfl, rfl⟩

theorem dir_mapIters (π : σ → τ) (m : MergedIter σ) : (m.mapIters π).dir = m.dir := rfl

theorem mapIters_dir (π : σ → τ) (m : MergedIter σ) (d : Dir) :
    ({ m with dir := d } : MergedIter σ).mapIters π = { m.mapIters π with dir := d } := rfl

theorem mapIters_stepIndex (π : σ → τ) (o : IterOps σ) (sh : IterOps τ) (f : σ → σ) (f' : τ → τ)
    (m : MergedIter σ)
    (h : ∀ s, m.iters[m.index]? = some s → π (f s) = f' (π s) ∧ o.cur (f s) = sh.cur (π (f s))) :
    (stepIndex o f m).mapIters π = stepIndex sh f' (m.mapIters π) := by
  unfold stepIndex
  simp only [mapIters, List.getElem?_map]
  cases hs : m.iters[m.index]? with
  | none => simp
  | some s =>
    obtain ⟨h1, h2⟩ := h s hs
    simp only [Option.map_some, ← h1, ← h2]
    cases o.cur (f s) <;> simp [List.map_set]

theorem mapIters_cur (π : σ → τ) (o : IterOps σ) (sh : IterOps τ) (m : MergedIter σ)
    (h : ∀ s, m.iters[m.index]? = some s → o.cur s = sh.cur (π s)) :
    cur o m = cur sh (m.mapIters π) := by
  simp only [cur, mapIters, List.getElem?_map]
  cases hs : m.iters[m.index]? with
  | none => simp
  | some s =>
    cases keyAt m.keys m.index with
    | none => simp
    | some k => simp [h s hs]

end MergedIter

namespace EMerged
variable {σ τ : Type}
open MergedIter (keyAt keyOf mapIters turn)

def applyFrom (g : Nat → σ → Option σ) : Nat → List σ → List σ
  | _, [] => []
  | x, s :: rest => (g x s).getD s :: applyFrom g (x + 1) rest

theorem applyFrom_map (f : σ → σ) (x : Nat) (ss : List σ) :
    applyFrom (fun _ s => some (f s)) x ss = ss.map f := by
  induction ss generalizing x with
  | nil => rfl
  | cons s rest ih => simp [applyFrom, ih]

theorem applyFrom_mapIdx (g : Nat → σ → Option σ) (x : Nat) (ss : List σ) :
    applyFrom g x ss = ss.mapIdx fun i s => (g (x + i) s).getD s := by
  induction ss generalizing x with
  | nil => rfl
  | cons s rest ih =>
    rw [applyFrom, List.mapIdx_cons, ih]
    simp only [Nat.add_zero, List.cons.injEq, true_and]
    congr 1
    funext i s
    rw [Nat.add_assoc, Nat.add_comm 1 i]

theorem applyFrom_length (g : Nat → σ → Option σ) (x : Nat) (ss : List σ) :
    (applyFrom g x ss).length = ss.length := by
  rw [applyFrom_mapIdx, List.length_mapIdx]

theorem applyFrom_turnG (o : IterOps σ) (key : IKey) (index : Nat) (ss : List σ) :
    applyFrom (turnG o key index) 0 ss = ss.mapIdx fun x s => if x = index then s else turn o key s := by
  rw [applyFrom_mapIdx]
  congr 1
  funext x s
  simp only [Nat.zero_add, turnG]
  split <;> rfl

/-- `case iter.Move(): …; case i.iterErr(iter): return false` on the moved child `s'`: the error that makes
the method return, if any -/
def fatal (o : EIterOps σ) (strict : Bool) (s' : σ) : Option Err :=
  if o.ok s' then none
  else
    match o.err s' with
    | none => none
    | some e => if strict || !e.isCorrupted then some e else none

theorem fatal_some {o : EIterOps σ} {strict : Bool} {s' : σ} {e : Err} (h : fatal o strict s' = some e) :
    o.err s' = some e ∧ (strict = true ∨ e.isCorrupted = false) := by
  unfold fatal at h
  split at h
  · cases h
  · split at h
    · cases h
    · rename_i e' he
      split at h
      · rename_i hs; cases h; exact ⟨he, by simpa using hs⟩
      · cases h

theorem moveLoop_cons (o : EIterOps σ) (strict : Bool) (g : Nat → σ → Option σ) (x : Nat) (s : σ)
    (rest : List σ) :
    moveLoop o strict g x (s :: rest) =
      let r := moveLoop o strict g (x + 1) rest
      match g x s with
      | none => (s :: r.1, r.2.1, r.2.2)
      | some s' =>
        match fatal o strict s' with
        | some e => (s' :: rest, [e], some e)
        | none => (s' :: r.1, (if o.ok s' then [] else (o.err s').toList) ++ r.2.1, r.2.2) := by
  rw [moveLoop]
  cases g x s with
  | none => rfl
  | some s' =>
    simp only [fatal]
    by_cases hok : o.ok s' = true
    · simp [hok]
    · cases he : o.err s' with
      | none => simp [hok]
      | some e => by_cases hs : (strict || !e.isCorrupted) = true <;> simp [hok, hs]

theorem stepIndexE_eq (o : EIterOps σ) (f : σ → σ) (m : EMerged σ) :
    stepIndexE o f m =
      match m.base.iters[m.base.index]? with
      | none => m
      | some s =>
        match fatal o m.strict (f s) with
        | some e =>
          { m with base := { m.base with iters := m.base.iters.set m.base.index (f s) },
                   err := some e, errf := m.errf ++ [e] }
        | none =>
          { m with base := MergedIter.stepIndex o.toIterOps f m.base,
                   errf := m.errf ++ (if o.ok (f s) then [] else (o.err (f s)).toList) } := by
  rw [stepIndexE]
  cases m.base.iters[m.base.index]? with
  | none => rfl
  | some s =>
    simp only [fatal]
    by_cases hok : o.ok (f s) = true
    · simp [hok]
    · cases he : o.err (f s) with
      | none => simp [hok]
      | some e => by_cases hs : (m.strict || !e.isCorrupted) = true <;> simp [hok, hs]

section
variable {o : EIterOps σ} {sh : IterOps τ} {π : σ → τ} {I : σ → Prop} {strict : Bool}

/-- a loop that was not left early, seen through `π`: it did what `g'` does to the twins, provided `g'`
follows `g` on every child the loop went on past -/
theorem moveLoop_none (g : Nat → σ → Option σ) (g' : Nat → τ → Option τ)
    (hskip : ∀ x s, g x s = none → g' x (π s) = none)
    (hmove : ∀ x s s', I s → g x s = some s' → fatal o strict s' = none → I s' ∧ g' x (π s) = some (π s'))
    (x : Nat) (ss : List σ) (hI : ∀ s ∈ ss, I s) (h : (moveLoop o strict g x ss).2.2 = none) :
    (∀ s ∈ (moveLoop o strict g x ss).1, I s) ∧
    (moveLoop o strict g x ss).1.map π = applyFrom g' x (ss.map π) := by
  induction ss generalizing x with
  | nil => simp [moveLoop, applyFrom]
  | cons s rest ih =>
    have hs := hI s List.mem_cons_self
    have ih := ih (x + 1) fun t ht => hI t (List.mem_cons_of_mem _ ht)
    rw [moveLoop_cons] at h ⊢
    simp only at h ⊢
    cases hg : g x s with
    | none =>
      simp only [hg] at h ⊢
      obtain ⟨i1, i2⟩ := ih h
      exact ⟨List.forall_mem_cons.2 ⟨hs, i1⟩, by simp [applyFrom, hskip x s hg, i2]⟩
    | some s' =>
      simp only [hg] at h ⊢
      cases hf : fatal o strict s' with
      | some e => simp [hf] at h
      | none =>
        simp only [hf] at h ⊢
        obtain ⟨i1, i2⟩ := ih h
        obtain ⟨m1, m2⟩ := hmove x s s' hs hg hf
        exact ⟨List.forall_mem_cons.2 ⟨m1, i1⟩, by simp [applyFrom, m2, i2]⟩

theorem moveLoop_some (g : Nat → σ → Option σ) (x : Nat) (ss : List σ) (e : Err)
    (h : (moveLoop o strict g x ss).2.2 = some e) : ∃ s', fatal o strict s' = some e := by
  induction ss generalizing x with
  | nil => cases h
  | cons s rest ih =>
    rw [moveLoop_cons] at h
    simp only at h
    cases hg : g x s with
    | none => simp only [hg] at h; exact ih _ h
    | some s' =>
      simp only [hg] at h
      cases hf : fatal o strict s' with
      | some e' => simp only [hf, Option.some.injEq] at h; exact ⟨s', h ▸ hf⟩
      | none => simp only [hf] at h; exact ih _ h

end

def Origin (o : EIterOps σ) (m : EMerged σ) (e : Err) : Prop :=
  (e = .released ∧ m.base.dir = .released) ∨
  ((∃ s, o.err s = some e) ∧ (m.strict = true ∨ e.isCorrupted = false))

/-- the twin's move `f'` follows the child's move `f` wherever the loop goes on past the moved child -/
def Follows (o : EIterOps σ) (strict : Bool) (π : σ → τ) (I : σ → Prop) (f : σ → σ) (f' : τ → τ) : Prop :=
  ∀ s, I s → fatal o strict (f s) = none → I (f s) ∧ π (f s) = f' (π s)

/-- the children `o`, on the states satisfying `I` and seen through `π`, are followed by the error-free `sh`
in every movement the merged iterator makes -/
structure ChildSim (o : EIterOps σ) (sh : IterOps τ) (π : σ → τ) (I : σ → Prop) (strict : Bool) : Prop where
  cur  : ∀ s, I s → o.cur s = sh.cur (π s)
  step : ∀ cl, Follows o strict π I (o.toIterOps.step cl) (sh.step cl)
  turn : ∀ key, Follows o strict π I (turn o.toIterOps key) (turn sh key)

theorem ChildSim.refl (o : EIterOps σ) (strict : Bool) : ChildSim o o.toIterOps id (fun _ => True) strict :=
  ⟨fun _ _ => rfl, fun _ _ _ _ => ⟨trivial, rfl⟩, fun _ _ _ _ => ⟨trivial, rfl⟩⟩

/-- what a part of a method, taking `m` to `r`, is shown to do: `strict` is kept; if it leaves no error, every
child satisfies `I` and the projected state is `t`; an error it leaves has an `Origin` -/
structure Does (o : EIterOps σ) (π : σ → τ) (I : σ → Prop) (m r : EMerged σ) (t : MergedIter τ) : Prop where
  strict : r.strict = m.strict
  ok     : r.err = none → (∀ s ∈ r.base.iters, I s) ∧ r.base.mapIters π = t
  origin : ∀ e, r.err = some e → Origin o m e

section
variable {o : EIterOps σ} {sh : IterOps τ} {π : σ → τ} {I : σ → Prop}

theorem Does.refl {m : EMerged σ} (hm : m.err = none) (hI : ∀ s ∈ m.base.iters, I s) :
    Does o π I m m (m.base.mapIters π) :=
  ⟨rfl, fun _ => ⟨hI, rfl⟩, fun e h => by rw [hm] at h; cases h⟩

/-- `return false` with `ErrIterReleased` -/
theorem Does.released {m : EMerged σ} (hd : m.base.dir = .released) (t : MergedIter τ) :
    Does o π I m { m with err := some .released } t :=
  ⟨rfl, nofun, fun e h => .inl ⟨by cases h; rfl, hd⟩⟩

theorem Does.of_err {m r : EMerged σ} {t : MergedIter τ} (h : Does o π I m r t) {e : Err}
    (he : r.err = some e) (t' : MergedIter τ) : Does o π I m r t' :=
  ⟨h.strict, fun h' => (by rw [he] at h'; cases h'), h.origin⟩

theorem Does.of_fatal {m r : EMerged σ} {e : Err} (hf : ∃ s', fatal o m.strict s' = some e)
    (hs : r.strict = m.strict) (he : r.err = some e) (t : MergedIter τ) : Does o π I m r t := by
  refine ⟨hs, fun h => (by rw [he] at h; cases h), fun e' h => ?_⟩
  rw [he] at h; cases h
  obtain ⟨s', hf⟩ := hf
  exact .inr ⟨⟨s', (fatal_some hf).1⟩, (fatal_some hf).2⟩

theorem Does.trans {m r r' : EMerged σ} {t t' : MergedIter τ} (h : Does o π I m r t) (he : r.err = none)
    (hd : t.dir ≠ .released) (h' : Does o π I r r' t') : Does o π I m r' t' := by
  refine ⟨h'.strict.trans h.strict, h'.ok, fun e he' => ?_⟩
  -- an error of the second part is not `ErrIterReleased`: `r` is not released
  rcases h'.origin e he' with ⟨_, hr⟩ | ⟨h1, h2⟩
  · exact absurd (by rw [← (h.ok he).2]; exact hr) hd
  · exact .inr ⟨h1, by rw [← h.strict]; exact h2⟩

/-- `…; return i.next()` / `i.prev()`: unless the part before left an error, pop the heap -/
theorem Does.then_pop {m r : EMerged σ} {t : MergedIter τ} (h : Does o π I m r t)
    (pop : MergedIter σ → MergedIter σ) (pop' : MergedIter τ → MergedIter τ)
    (hp : ∀ b, (pop b).iters = b.iters ∧ (pop b).mapIters π = pop' (b.mapIters π)) :
    Does o π I m (if r.err.isSome then r else { r with base := pop r.base }) (pop' t) := by
  cases he : r.err with
  | some e => simp only [Option.isSome_some, if_true]; exact h.of_err he _
  | none =>
    simp only [Option.isSome_none, Bool.false_eq_true, if_false]
    obtain ⟨h1, h2⟩ := h.ok he
    exact ⟨h.strict, fun _ => ⟨by rw [(hp _).1]; exact h1, by rw [(hp _).2, h2]⟩, fun e h' => by cases h'⟩

theorem keys_mapIdx (hcur : ∀ s, I s → o.cur s = sh.cur (π s)) (ss : List σ) (hI : ∀ s ∈ ss, I s)
    (k : Nat → Option IKey) (index : Nat) :
    (ss.mapIdx fun x s => if x = index then k x else keyOf o.toIterOps s) =
      (ss.map π).mapIdx fun x t => if x = index then k x else keyOf sh t := by
  apply List.ext_getElem?
  intro i
  simp only [List.getElem?_mapIdx, List.getElem?_map]
  cases hs : ss[i]? with
  | none => rfl
  | some s => simp [keyOf, hcur s (hI s (List.mem_of_getElem? hs))]

variable {m : EMerged σ} (hc : ChildSim o sh π I m.strict) (hm : m.err = none) (hI : ∀ s ∈ m.base.iters, I s)
include hc hm hI

theorem resetAllE_does (rev : Bool) {f : σ → σ} {f' : τ → τ} (hf : Follows o m.strict π I f f') :
    Does o π I m (resetAllE o rev f m) (MergedIter.resetAll sh rev f' (m.base.mapIters π)) := by
  unfold resetAllE
  simp only
  cases hr : (moveLoop o m.strict (fun _ s => some (f s)) 0 m.base.iters).2.2 with
  | some e =>
    exact .of_fatal (moveLoop_some _ 0 _ e hr) (by rfl) (by rfl) _
  | none =>
    obtain ⟨i1, i2⟩ := moveLoop_none (π := π) (I := I) _ (fun _ t => some (f' t)) (fun _ _ h => by cases h)
      (fun x s s' hs hg hf' => by cases hg; exact ⟨(hf s hs hf').1, by rw [(hf s hs hf').2]⟩)
      0 m.base.iters hI hr
    rw [applyFrom_map] at i2
    refine ⟨rfl, fun _ => ⟨i1, ?_⟩, fun e h => by rw [hm] at h; cases h⟩
    have hk : (moveLoop o m.strict (fun _ s => some (f s)) 0 m.base.iters).1.map (keyOf o.toIterOps)
        = ((m.base.iters.map π).map f').map (keyOf sh) := by
      rw [← i2, List.map_map]
      exact List.map_congr_left fun s hs => by simp [keyOf, hc.cur s (i1 s hs)]
    have hl : (moveLoop o m.strict (fun _ s => some (f s)) 0 m.base.iters).1.length
        = ((m.base.iters.map π).map f').length := by rw [← i2, List.length_map]
    simp only [mapIters, MergedIter.resetAll, hk, hl, i2]

theorem stepIndexE_does {f : σ → σ} {f' : τ → τ} (hf : Follows o m.strict π I f f') :
    Does o π I m (stepIndexE o f m) (MergedIter.stepIndex sh f' (m.base.mapIters π)) := by
  rw [stepIndexE_eq]
  cases hs : m.base.iters[m.base.index]? with
  | none =>
    have : MergedIter.stepIndex sh f' (m.base.mapIters π) = m.base.mapIters π := by
      simp [MergedIter.stepIndex, mapIters, hs]
    rw [this]; exact .refl hm hI
  | some s =>
    simp only
    cases hfat : fatal o m.strict (f s) with
    | some e => exact .of_fatal ⟨_, hfat⟩ (by rfl) (by rfl) _
    | none =>
      obtain ⟨h1, h2⟩ := hf s (hI s (List.mem_of_getElem? hs)) hfat
      refine ⟨rfl, fun _ => ⟨fun t ht => ?_, ?_⟩, fun e h => by rw [hm] at h; cases h⟩
      · have ht : t ∈ (MergedIter.stepIndex o.toIterOps f m.base).iters := ht
        rw [MergedIter.stepIndex_eq f hs] at ht
        rcases List.mem_or_eq_of_mem_set ht with ht | rfl
        · exact hI t ht
        · exact h1
      · apply MergedIter.mapIters_stepIndex
        intro s0 hs0
        rw [hs] at hs0; cases hs0
        exact ⟨h2, hc.cur _ h1⟩

theorem turnBackE_does (key : IKey) :
    Does o π I m (turnBackE o key m) (MergedIter.turnBack sh key (m.base.mapIters π)) := by
  unfold turnBackE
  simp only
  cases hr : (moveLoop o m.strict (turnG o.toIterOps key m.base.index) 0 m.base.iters).2.2 with
  | some e =>
    exact .of_fatal (moveLoop_some _ 0 _ e hr) (by rfl) (by rfl) _
  | none =>
    obtain ⟨i1, i2⟩ := moveLoop_none (π := π) (I := I) _ (turnG sh key m.base.index)
      (fun x s h => by by_cases hx : x = m.base.index <;> simp [turnG, hx] at h ⊢)
      (fun x s s' hs hg hf' => by
        by_cases hx : x = m.base.index
        · simp [turnG, hx] at hg
        · simp only [turnG, hx, if_false, Option.some.injEq] at hg ⊢
          subst hg
          exact ⟨(hc.turn key s hs hf').1, (hc.turn key s hs hf').2.symm⟩)
      0 m.base.iters hI hr
    rw [applyFrom_turnG] at i2
    refine ⟨rfl, fun _ => ⟨i1, ?_⟩, fun e h => by rw [hm] at h; cases h⟩
    have hk := keys_mapIdx hc.cur _ i1 (keyAt m.base.keys) m.base.index
    have hl : (moveLoop o m.strict (turnG o.toIterOps key m.base.index) 0 m.base.iters).1.length
        = ((m.base.iters.map π).mapIdx fun x t => if x = m.base.index then t else turn sh key t).length := by
      rw [← i2, List.length_map]
    simp only [mapIters, MergedIter.turnBack, hk, hl, i2]
    rfl

/-- the body shared by `First`, `Last`, `Seek` -/
theorem reset_does (rev : Bool) (cl : Call IKey) (d : Dir)
    (pop : MergedIter σ → MergedIter σ) (pop' : MergedIter τ → MergedIter τ)
    (hp : ∀ b, (pop b).iters = b.iters ∧ (pop b).mapIters π = pop' (b.mapIters π)) :
    Does o π I m
      (if m.err.isSome then m
       else if m.base.dir = .released then { m with err := some .released }
       else if (resetAllE o rev (o.toIterOps.step cl) m).err.isSome then resetAllE o rev (o.toIterOps.step cl) m
       else { resetAllE o rev (o.toIterOps.step cl) m with
                base := pop { (resetAllE o rev (o.toIterOps.step cl) m).base with dir := d } })
      (if (m.base.mapIters π).dir = .released then m.base.mapIters π
       else pop' { MergedIter.resetAll sh rev (sh.step cl) (m.base.mapIters π) with dir := d }) := by
  simp only [hm, Option.isSome_none, Bool.false_eq_true, if_false, MergedIter.dir_mapIters]
  by_cases hd : m.base.dir = .released
  · simp only [hd, if_true]; exact .released hd _
  · simp only [hd, if_false]
    exact (resetAllE_does hc hm hI rev (hc.step cl)).then_pop (fun b => pop { b with dir := d })
      (fun t => pop' { t with dir := d }) fun b => hp { b with dir := d }

theorem first_does (c : UCmp) : Does o π I m (first o c m) (MergedIter.first sh c (m.base.mapIters π)) :=
  reset_does hc hm hI false .first .soi _ _ (MergedIter.mapIters_popNext π c)

theorem last_does (c : UCmp) : Does o π I m (last o c m) (MergedIter.last sh c (m.base.mapIters π)) :=
  reset_does hc hm hI true .last .eoi _ _ (MergedIter.mapIters_popPrev π c)

theorem seek_does (c : UCmp) (k : IKey) :
    Does o π I m (seek o c k m) (MergedIter.seek sh c k (m.base.mapIters π)) :=
  reset_does hc hm hI false (.seek k) .soi _ _ (MergedIter.mapIters_popNext π c)

theorem tailNext_does (c : UCmp) :
    Does o π I m (tailNext o c m) (MergedIter.popNext c (MergedIter.stepIndex sh sh.next (m.base.mapIters π))) :=
  (stepIndexE_does hc hm hI (hc.step .next)).then_pop _ _ (MergedIter.mapIters_popNext π c)

theorem tailPrev_does (c : UCmp) :
    Does o π I m (tailPrev o c m) (MergedIter.popPrev c (MergedIter.stepIndex sh sh.prev (m.base.mapIters π))) :=
  (stepIndexE_does hc hm hI (hc.step .prev)).then_pop _ _ (MergedIter.mapIters_popPrev π c)

theorem next_does (c : UCmp) : Does o π I m (next o c m) (MergedIter.next sh c (m.base.mapIters π)) := by
  unfold next MergedIter.next
  have hkeys : keyAt (m.base.mapIters π).keys (m.base.mapIters π).index = keyAt m.base.keys m.base.index := rfl
  rw [MergedIter.dir_mapIters, hkeys]
  cases hd : m.base.dir <;>
    simp only [hm, Option.isSome_none, Bool.false_eq_true, or_self, true_or, if_true, if_false, reduceCtorEq]
  case eoi => exact .refl hm hI
  case released => exact .released hd _
  case soi => exact first_does hc hm hI c
  case forward => exact tailNext_does hc hm hI c
  case backward =>
    cases keyAt m.base.keys m.base.index with
    | none => exact .refl hm hI
    | some key =>
      simp only
      have h1 := seek_does hc hm hI c key
      cases he : (seek o c key m).err with
      | some e => simp only [Option.isSome_some, Bool.true_or, if_true]; exact h1.of_err he _
      | none =>
        obtain ⟨a1, a2⟩ := h1.ok he
        have hv : (MergedIter.seek sh c key (m.base.mapIters π)).dir = (seek o c key m).base.dir := by
          rw [← a2]; rfl
        simp only [Option.isSome_none, Bool.false_or, hv]
        cases hval : (seek o c key m).base.dir.valid with
        | false => simp only [Bool.not_false, if_true]; exact h1
        | true =>
          simp only [Bool.not_true, Bool.false_eq_true, if_false]
          rw [← a2]
          refine h1.trans he ?_ (tailNext_does (h1.strict ▸ hc) he a1 c)
          rw [hv]; intro hr; rw [hr] at hval; cases hval

theorem prev_does (c : UCmp) : Does o π I m (prev o c m) (MergedIter.prev sh c (m.base.mapIters π)) := by
  unfold prev MergedIter.prev
  have hkeys : keyAt (m.base.mapIters π).keys (m.base.mapIters π).index = keyAt m.base.keys m.base.index := rfl
  rw [MergedIter.dir_mapIters, hkeys]
  cases hd : m.base.dir <;>
    simp only [hm, Option.isSome_none, Bool.false_eq_true, or_self, true_or, if_true, if_false, reduceCtorEq]
  case soi => exact .refl hm hI
  case released => exact .released hd _
  case eoi => exact last_does hc hm hI c
  case backward => exact tailPrev_does hc hm hI c
  case forward =>
    cases keyAt m.base.keys m.base.index with
    | none => exact .refl hm hI
    | some key =>
      simp only
      have h1 := turnBackE_does hc hm hI key
      cases he : (turnBackE o key m).err with
      | some e => simp only [Option.isSome_some, if_true]; exact h1.of_err he _
      | none =>
        obtain ⟨a1, a2⟩ := h1.ok he
        simp only [Option.isSome_none, Bool.false_eq_true, if_false]
        rw [← a2]
        refine h1.trans he ?_ (tailPrev_does (h1.strict ▸ hc) he a1 c)
        show m.base.dir ≠ .released
        rw [hd]; nofun

theorem step_does (c : UCmp) (cl : Call IKey) :
    Does o π I m ((ops o c).toIterOps.step cl m) ((MergedIter.ops sh c).step cl (m.base.mapIters π)) := by
  cases cl with
  | first => exact first_does hc hm hI c
  | last => exact last_does hc hm hI c
  | seek k => exact seek_does hc hm hI c k
  | next => exact next_does hc hm hI c
  | prev => exact prev_does hc hm hI c

end

/-! ## the strict iterator over `FailSim` children is a `FailSim`

Its healthy twin is the error-free `MergedIter` over the children's twins: while `Error()` is nil every child is
healthy (a movement the strict loop goes on past left no error) and the iterator did what the error-free one does. -/

def Healthy (Hc : σ → Prop) (m : EMerged σ) : Prop :=
  m.err = none ∧ m.strict = true ∧ ∀ s ∈ m.base.iters, Hc s

def proj (πc : σ → τ) (m : EMerged σ) : MergedIter τ := m.base.mapIters πc

section
variable {o : EIterOps σ} {sh : IterOps τ} {πc : σ → τ} {Hc : σ → Prop} {Fc : σ → Err → Prop}
  (hc : FailSim o sh πc Hc Fc)
include hc

theorem proj_dir (m : EMerged σ) : (proj πc m).dir = m.base.dir := rfl

/-- a movement that fails returns `false` with its error, which is fatal in strict mode: the loop goes on only past
a healthy child -/
theorem moved_ok (cl : Call IKey) : Follows o true πc Hc (o.toIterOps.step cl) (sh.step cl) := by
  intro s hs hf
  rcases hc.move_cases cl s hs with ⟨h1, h2, _⟩ | ⟨⟨e, hF⟩, hnok⟩
  · exact ⟨h1, h2⟩
  · simp [fatal, hnok, hc.ferr _ e hF] at hf

theorem turn_ok (key : IKey) : Follows o true πc Hc (turn o.toIterOps key) (turn sh key) := by
  intro s hs hf
  simp only [turn] at hf ⊢
  rcases hc.move_cases (.seek key) s hs with ⟨h1, h2, hok⟩ | ⟨⟨e, hF⟩, hnok⟩ <;> simp only [IterOps.step] at *
  · rw [← hok, ← h2]
    cases hk : o.ok (o.seek key s) <;> simp only [hk, if_true, Bool.false_eq_true, if_false] at hf ⊢
    · exact moved_ok hc .last _ h1 hf
    · exact moved_ok hc .prev _ h1 hf
  · -- the seek failed: the follow-up `Last` keeps the error
    have hF' : Fc (o.last (o.seek key s)) e := hc.sticky _ e .last hF
    simp [hnok, fatal, hc.nok_of_failed _ e hF', hc.ferr _ e hF'] at hf

theorem _root_.GoLevel.FailSim.childSim : ChildSim o sh πc Hc true :=
  ⟨hc.hcur, moved_ok hc, turn_ok hc⟩

end

theorem step_failed (o : EIterOps σ) (c : UCmp) (cl : Call IKey) (m : EMerged σ) (e : Err)
    (h : m.err = some e) : (ops o c).toIterOps.step cl m = m := by
  cases cl <;> simp [IterOps.step, ops, first, last, seek, next, prev, h]

theorem failSim {o : EIterOps σ} {sh : IterOps τ} {πc : σ → τ} {Hc : σ → Prop} {Fc : σ → Err → Prop}
    (hc : FailSim o sh πc Hc Fc) (c : UCmp) :
    FailSim (ops o c) (MergedIter.ops sh c) (proj πc) (Healthy Hc) (fun m e => m.err = some e) where
  herr := fun _ h => h.1
  hfail := fun _ _ _ _ h => h
  ferr := fun _ _ h => h
  hcur := fun m hm => by
    simp only [ops, cur, hm.1, Option.isSome_none, Bool.false_eq_true, if_false, proj]
    exact MergedIter.mapIters_cur _ _ _ _ fun s hs => hc.hcur s (hm.2.2 s (List.mem_of_getElem? hs))
  hstep := by
    intro m cl hm he
    have d := step_does (hm.2.1 ▸ hc.childSim) hm.1 hm.2.2 c cl
    exact ⟨⟨he, d.strict.trans hm.2.1, (d.ok he).1⟩, (d.ok he).2⟩
  masked := fun m e h => by
    have h' : m.err = some e := h
    simp [ops, cur, h']
  sticky := fun m e cl h => by
    have h' : m.err = some e := h
    rw [step_failed o c cl m e h']; exact h

end EMerged
end GoLevel

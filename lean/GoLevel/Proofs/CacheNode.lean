import GoLevel.Proofs.CacheRef
/-! What one step does to one node of the cache (C17).  `node_step` compares a node before and after a step,
field by field, and names the instruction responsible for each change (`NodeStep`); `exec_handles` says where a
caller's handle comes from, `exec_evs_fin` when a finaliser or a node's delFunc runs.  The clauses of the invariants
that speak of single nodes (`vl`, `zr`, `zo`, `zc`, `zf`, `lc`) follow from these and from `Pushes` without going
through the paths of `exec` again. -/
namespace GoLevel.CacheM

theorem same_of_id {ns : List Node} (hnd : (ns.map (·.id)).Nodup) {n m : Node} (hn : n ∈ ns) (hm : m ∈ ns)
    (h : n.id = m.id) : n = m := eq_of_nodup_map (·.id) hnd hn hm h

theorem mem_finEvents {n : Node} {f : Bool} {e : Ev} (h : e ∈ finEvents n f) :
    (∃ v, n.value = some v ∧ e = .fin n.id v f) ∨ (∃ d, d ∈ n.delFuncs ∧ e = .delf d (some n.id) f) := by
  unfold finEvents at h
  rcases List.mem_append.mp h with h | h
  · left
    cases hv : n.value with
    | none => rw [hv] at h; cases h
    | some v => rw [hv] at h; simp at h; exact ⟨v, rfl, h⟩
  · right
    obtain ⟨d, hd, rfl⟩ := List.mem_map.mp h
    exact ⟨d, hd, rfl⟩

/-- The events about node `id` that mean "the value was released / a delFunc of the node ran". -/
def isFinOf (id : Nat) : Ev → Bool
  | .fin j _ _ => j == id
  | .delf _ (some j) _ => j == id
  | _ => false

/-- A value's `Release` or a node's delFunc runs in two places: when `mBucket.delete` removes the node (its counter
is zero), and in `callFinalizer`. -/
theorem exec_evs_fin {sh sh' : Shared} {i push evs} (he : exec sh i = some (sh', push, evs)) {e : Ev} {id : Nat}
    (hev : e ∈ evs) (hfin : isFinOf id e = true) :
    (∃ k n, i = .delz k ∧ n ∈ sh.nodes ∧ n.id = id ∧ n.ref = 0) ∨ (∃ f, i = .fin id f) := by
  have hid : ∀ {n : Node} {f}, e ∈ finEvents n f → n.id = id := fun h => by
    rcases mem_finEvents h with ⟨v, _, rfl⟩ | ⟨d, _, rfl⟩ <;> simpa [isFinOf] using hfin
  cases exec_spec he <;> clear he
  case delzRemove hk h0 => exact .inl ⟨_, _, rfl, (findKey_some hk).1, hid hev, h0⟩
  case fin hf => rw [← (findId_some hf).2, hid hev]; exact .inr ⟨_, rfl⟩
  case finStale n _ hd =>
    obtain ⟨d, _, rfl⟩ := List.mem_map.mp hev
    have : n.id = id := by simpa [isFinOf] using hfin
    rw [← (findId_some hd).2, this]; exact .inr ⟨_, rfl⟩
  all_goals cases hev <;> first | exact absurd hfin Bool.false_ne_true | (rename_i h; cases h)

/-- When a finaliser or a node's delFunc runs (and the cache was not force-closed), nothing references the
node. -/
theorem fin_refs_zero {g sh Q sh' i push evs} (h : InvP g sh (i :: Q))
    (he : exec sh i = some (sh', push, evs)) (hf : sh.forced = false) (hg : Eff g sh = true ∨ sh.closed = false)
    {e : Ev} {id : Nat} (hev : e ∈ evs) (hfin : isFinOf id e = true) : refsP sh (i :: Q) id = 0 := by
  rcases exec_evs_fin he hev hfin with ⟨k, n, rfl, hn, rfl, h0⟩ | ⟨ff, rfl⟩
  · have := h.rc hf n hn; omega
  · have hclosed : sh.closed = true := by
      cases hc : sh.closed with
      | true => rfl
      | false => have := (h.op hc).1 _ List.mem_cons_self; simp [closedOnly] at this
    have hgt : Eff g sh = true := by
      rcases hg with hg | hg
      · exact hg
      · rw [hclosed] at hg; cases hg
    have hff : ff = false := by
      cases ff with
      | false => rfl
      | true => have := h.fo hf _ List.mem_cons_self; simp [forcedOnly] at this
    subst hff
    rcases Nat.eq_zero_or_pos (refsP sh (Instr.fin id false :: Q) id) with h0 | hpos
    · exact h0
    · -- something references the node: it is in the table, and its counter is not positive
      obtain ⟨m, hm, hmid⟩ := h.ex id hpos
      have hz := h.zr hgt hclosed hf _ List.mem_cons_self id (by simp [zeroRef]) m hm hmid
      have := h.rc hf m hm
      rw [hmid] at this; omega

/-- The node `n` before and `n'` after executing `i` (which pushed `push` and emitted `evs`).
* `data`: value and delFuncs stay; or an open-only instruction sets a missing value / adds a delFunc; or
  `callFinalizer` takes both out and runs them.
* `inList`: only its `Promote` puts a node on the LRU list; `banned`: a ban is for good.
* `ref`: the counter stays; `mBucket.get` or `Promote` takes a reference; an `unRef` gives one back and starts the
  zero branch when it was the last; `Close(true)` stores zero. -/
structure NodeStep (i : Instr) (push : List Instr) (evs : List Ev) (n n' : Node) : Prop where
  key : n'.key = n.key
  data : (n'.value = n.value ∧ n'.delFuncs = n.delFuncs) ∨
    (openOnly i = true ∧ ∀ v, n.value = some v → n'.value = some v) ∨
    (n'.value = none ∧ n'.delFuncs = [] ∧ ∃ f, evs = finEvents n f)
  banned : n.lru = .banned → n'.lru = .banned
  inList : n'.lru = .inList → n.lru = .inList ∨ i = .promote n.id
  ref : n'.ref = n.ref ∨ (n'.ref = n.ref + 1 ∧ openOnly i = true) ∨
    (n'.ref = n.ref - 1 ∧ (n'.ref = 0 → Instr.delz n.key ∈ push ∨ Instr.extz n.id n.key ∈ push)) ∨
    i = .zero n.id

/-- A value stays until `callFinalizer` releases it. -/
theorem NodeStep.value {i push evs n n'} (h : NodeStep i push evs n n') {v : Nat} (hv : n.value = some v) :
    n'.value = some v ∨ (n'.value = none ∧ ∃ f, Ev.fin n.id v f ∈ evs) := by
  rcases h.data with ⟨h1, _⟩ | ⟨_, h1⟩ | ⟨h1, _, f, rfl⟩
  · exact .inl (h1 ▸ hv)
  · exact .inl (h1 v hv)
  · exact .inr ⟨h1, f, by unfold finEvents; rw [hv]; exact List.mem_append_left _ List.mem_cons_self⟩

/-- Outside an open section nothing gives a finalised node a value or a delFunc again. -/
theorem NodeStep.finalised {i push evs n n'} (h : NodeStep i push evs n n') (hi : openOnly i = false)
    (hv : n.value = none ∧ n.delFuncs = []) : n'.value = none ∧ n'.delFuncs = [] := by
  rcases h.data with ⟨h2, h3⟩ | ⟨ho, _⟩ | ⟨h2, h3, _⟩
  · exact ⟨h2 ▸ hv.1, h3 ▸ hv.2⟩
  · rw [hi] at ho; cases ho
  · exact ⟨h2, h3⟩

theorem node_step {g sh Q sh' i push evs} (h : InvP g sh (i :: Q))
    (he : exec sh i = some (sh', push, evs)) {n n' : Node} (hn : n ∈ sh.nodes) (hn' : n' ∈ sh'.nodes)
    (hid : n'.id = n.id) : NodeStep i push evs n n' := by
  have hu : ∀ m ∈ sh.nodes, m.id = n.id → m = n := fun m hm h' => same_of_id h.ids.1 hm hn h'
  have same : ∀ {i push evs}, NodeStep i push evs n n := ⟨rfl, .inl ⟨rfl, rfl⟩, fun h => h, .inl, .inl rfl⟩
  -- an update touches the node with the given id, the others stay as they are
  have touched : ∀ {x : Node} {j : Nat} {f : Node → Node} {i push evs}, x ∈ upd sh.nodes j f →
      (∀ m, (f m).id = m.id) → x.id = n.id → (n.id = j → NodeStep i push evs n (f n)) → NodeStep i push evs n x := by
    intro x j f i push evs hmem hf hx hstep
    obtain ⟨m, hm, rfl⟩ := mem_upd.mp hmem
    have : m = n := hu m hm (by rw [← hx]; split <;> simp [hf])
    rw [this]; split
    · exact hstep ‹_›
    · exact same
  have found : ∀ {j : Nat} {n0 : Node}, findId sh.nodes j = some n0 → n.id = j → n0 = n :=
    fun hf e => hu _ (findId_some hf).1 ((findId_some hf).2.trans e.symm)
  -- a banned node is not on the list, so the eviction loop does not meet it
  have offList : n.lru = .banned → n.id ∉ sh.lru.recent := fun hb hm => by
    rw [inList_of_recent h hn hm] at hb; cases hb
  -- the eviction loop takes nodes off the list and touches nothing else
  have cleared : ∀ {m : Node} {ev : List Nat} {i push evs}, NodeStep i push evs n m → (n.lru = .banned → n.id ∉ ev) →
      m.id = n.id → NodeStep i push evs n (if m.id ∈ ev then { m with lru := .none } else m) := by
    intro m ev i push evs hm hoff hmn
    split
    · next hin => exact ⟨hm.key, hm.data, fun hb => absurd (hmn ▸ hin) (hoff hb), (fun hx => by cases hx), hm.ref⟩
    · exact hm
  cases exec_spec he <;> clear he
  case promoteAdmit pid n0 r hf hl _ hr =>
    obtain ⟨m1, hm1, rfl⟩ := mem_clearLru.mp hn'
    have hm1n : m1.id = n.id := by rw [← hid]; split <;> rfl
    refine cleared (touched hm1 (fun _ => rfl) hm1n fun e => ⟨rfl, .inl ⟨rfl, rfl⟩,
        (fun hb => by rw [found hf e, hb] at hl; cases hl), fun _ => .inr (by rw [e]), .inr (.inl ⟨rfl, rfl⟩)⟩)
      (fun hb hm => ?_) hm1n
    rcases List.mem_cons.mp (List.mem_reverse.mp (evicted_mem hr hm)) with h3 | h3
    · rw [found hf h3, hb] at hl; cases hl
    · exact offList hb h3
  case setcap c r hr =>
    obtain ⟨m, hm, rfl⟩ := mem_clearLru.mp hn'
    have hmn : m.id = n.id := by rw [← hid]; split <;> rfl
    rw [hu m hm hmn]
    exact cleared same (fun hb hm => offList hb (List.mem_reverse.mp (evicted_mem hr hm))) rfl
  case bgetHit | bgetDelF | bgetDel | bgetEvict =>
    exact touched hn' (fun _ => rfl) hid fun _ => ⟨rfl, .inl ⟨rfl, rfl⟩, fun h => h, .inl, .inr (.inl ⟨rfl, rfl⟩)⟩
  case setvVal hf hval =>
    exact touched hn' (fun _ => rfl) hid fun e =>
      ⟨rfl, .inr (.inl ⟨rfl, fun v hv => by rw [found hf e, hv] at hval; cases hval⟩), fun h => h, .inl, .inl rfl⟩
  case addDel =>
    exact touched hn' (fun _ => rfl) hid fun _ => ⟨rfl, .inr (.inl ⟨rfl, fun _ hv => hv⟩), fun h => h, .inl, .inl rfl⟩
  case banFree | banListed =>
    exact touched hn' (fun _ => rfl) hid fun _ =>
      ⟨rfl, .inl ⟨rfl, rfl⟩, fun _ => rfl, (fun h => by cases h), .inl rfl⟩
  case levictListed hf hl =>
    exact touched hn' (fun _ => rfl) hid fun e =>
      ⟨rfl, .inl ⟨rfl, rfl⟩, (fun hb => by rw [found hf e, hb] at hl; cases hl), (fun h => by cases h), .inl rfl⟩
  case unrefIntZero uid n0 hf hz | unrefExtZero uid n0 hf hz =>
    exact touched hn' (fun _ => rfl) hid fun e => ⟨rfl, .inl ⟨rfl, rfl⟩, fun h => h, .inl,
        .inr (.inr (.inl ⟨rfl, fun _ => by rw [found hf e]; simp [← e]⟩))⟩
  case unrefIntPos uid n0 hf hz | unrefExtPos uid n0 hf hz =>
    exact touched hn' (fun _ => rfl) hid fun e => ⟨rfl, .inl ⟨rfl, rfl⟩, fun h => h, .inl,
        .inr (.inr (.inl ⟨rfl, fun h0 => absurd (found hf e ▸ h0) hz⟩))⟩
  case fin f n0 hf =>
    exact touched hn' (fun _ => rfl) hid fun e =>
      ⟨rfl, .inr (.inr ⟨rfl, rfl, f, by rw [found hf e]⟩), fun h => h, .inl, .inl rfl⟩
  case zero =>
    exact touched hn' (fun _ => rfl) hid fun e =>
      ⟨rfl, .inl ⟨rfl, rfl⟩, fun h => h, .inl, .inr (.inr (.inr (by rw [e])))⟩
  case setvNil =>
    exact touched hn' (fun _ => rfl) hid fun _ => ⟨rfl, .inl ⟨rfl, rfl⟩, fun h => h, .inl, .inl rfl⟩
  case bgetNew =>
    rcases List.mem_cons.mp hn' with rfl | hn'
    · have := h.ids.2 n hn; simp only [] at hid; omega
    · rw [hu n' hn' hid]; exact same
  case delzRemove => rw [hu n' (mem_eraseId.mp hn').1 hid]; exact same
  -- the other paths leave the table alone
  all_goals (rw [hu n' hn' hid]; exact same)

/-- `callFinalizer` leaves a node of the table without value and delFuncs. -/
theorem exec_fin_node {sh sh' : Shared} {id f push evs} (he : exec sh (.fin id f) = some (sh', push, evs))
    {n n' : Node} (hn : n ∈ sh.nodes) (hid : n.id = id) (hn' : n' ∈ sh'.nodes) (hid' : n'.id = id) :
    n'.value = none ∧ n'.delFuncs = [] := by
  cases exec_spec he
  case fin =>
    obtain ⟨m, hm, rfl⟩ := mem_upd.mp hn'
    by_cases e : m.id = id
    · rw [if_pos e]; exact ⟨rfl, rfl⟩
    · rw [if_neg e] at hid'; exact absurd hid' e
  all_goals exact absurd hid (findId_none ‹findId sh.nodes id = none› n hn)

theorem exec_handles {sh sh' i push evs} (he : exec sh i = some (sh', push, evs)) {id : Nat}
    (h : id ∈ sh'.handles) : id ∈ sh.handles ∨ i = .retHandle id := by
  cases exec_spec he
  case retHandle => exact (List.mem_cons.mp h).symm.imp (fun h => h) fun e => by rw [e]
  case relH => exact .inl (List.mem_of_mem_erase h)
  all_goals exact .inl h

end GoLevel.CacheM

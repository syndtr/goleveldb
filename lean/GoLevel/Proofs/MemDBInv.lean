import GoLevel.Proofs.MemDBFind
/-! The searches on a table that satisfies the invariant; relinking of the towers by `Put`/`Delete` (C14). -/
namespace GoLevel.MemDB

variable {cmp : Cmp}

theorem level0_eq (db : DB) : db.level0 = bottom db.levels.reverse := by
  simp [DB.level0, bottom, List.getLast?_reverse, List.headD_eq_head?_getD]

theorem Inv.topS {db : DB} (h : Inv cmp db) : ∀ l ∈ db.levels.reverse, Sorted cmp l :=
  fun l hl => h.sorted l (List.mem_reverse.1 hl)

theorem Inv.towersSub {db : DB} (h : Inv cmp db) : db.levels.Pairwise (fun lo hi => ∀ x ∈ hi, x ∈ lo) :=
  h.towers.imp fun hsub => hsub.subset

/-- the levels from the top down, below an empty level on which the head node is the predecessor of every key -/
theorem Inv.topT {db : DB} (h : Inv cmp db) :
    ([] :: db.levels.reverse).Pairwise (fun hi lo => ∀ x ∈ hi, x ∈ lo) :=
  List.pairwise_cons.2 ⟨fun _ _ _ hx => (nomatch hx), List.pairwise_reverse.2 h.towersSub⟩

theorem Inv.topNe {db : DB} (h : Inv cmp db) : db.levels.reverse ≠ [] := by
  simpa using h.ne

theorem Inv.sorted0 {db : DB} (h : Inv cmp db) : Sorted cmp db.level0 := by
  rw [level0_eq]; exact h.topS _ (bottom_mem h.topNe)

section
variable (hc : LawfulCmp cmp)
include hc

theorem findGE_prev {db : DB} (h : Inv cmp db) (key : Bytes) :
    findGE cmp db key true =
      ⟨succ cmp db.level0 key, decide (key ∈ db.level0), db.levels.map (pred cmp · key)⟩ := by
  refine (findGEFrom_eq hc key true _ [] [] h.topS h.topT h.topNe).trans ?_
  rw [← level0_eq, succ_eq_iff hc h.sorted0]
  simp [List.map_reverse]

theorem findGE_noprev {db : DB} (h : Inv cmp db) (key : Bytes) :
    (findGE cmp db key false).node = succ cmp db.level0 key ∧
    (findGE cmp db key false).exact = decide (key ∈ db.level0) := by
  have := findGEFrom_eq hc key false _ [] [] h.topS h.topT h.topNe
  rw [← level0_eq, succ_eq_iff hc h.sorted0] at this
  exact ⟨congrArg Found.node this, congrArg Found.exact this⟩

theorem findLT_eq {db : DB} (h : Inv cmp db) (key : Bytes) : findLT cmp db key = pred cmp db.level0 key := by
  rw [level0_eq, ← bottom_top]
  exact findLTFrom_eq hc key _ [] h.topS h.topT

theorem findLast_eq {db : DB} (h : Inv cmp db) : findLast db = db.level0.getLast? := by
  rw [level0_eq, ← bottom_top]
  exact findLastFrom_eq hc _ [] h.topS h.topT

end

/-- the level after linking a node carrying `key` behind its predecessor -/
def ins (cmp : Cmp) (key : Bytes) (l : List Bytes) : List Bytes :=
  l.takeWhile (below cmp key) ++ key :: l.dropWhile (below cmp key)

theorem insertAfter_append {key p : Bytes} {init rest : List Bytes} (h : ∀ x ∈ init, x ≠ p) :
    insertAfter key (init ++ p :: rest) (some p) = init ++ p :: key :: rest := by
  induction init with
  | nil => simp [insertAfter]
  | cons x xs ih =>
    have hx : x ≠ p := h x (by simp)
    have := ih (fun y hy => h y (by simp [hy]))
    simp [insertAfter, hx, this]

theorem removeAfter_append {p k : Bytes} {init rest : List Bytes} (h : ∀ x ∈ init, x ≠ p) :
    removeAfter (init ++ p :: k :: rest) (some p) = init ++ p :: rest := by
  induction init with
  | nil => simp [removeAfter]
  | cons x xs ih =>
    have hx : x ≠ p := h x (by simp)
    have := ih (fun y hy => h y (by simp [hy]))
    simp [removeAfter, hx, this]

section
variable (hc : LawfulCmp cmp)
include hc

theorem sorted_concat_ne {init rest : List Bytes} {p : Bytes} (hs : Sorted cmp (init ++ p :: rest)) :
    ∀ x ∈ init, x ≠ p := by
  intro x hx
  exact hc.ord.ne_of_lt ((List.pairwise_append.1 hs).2.2 x hx p (by simp))

theorem insertAfter_last {pre post : List Bytes} (hs : Sorted cmp (pre ++ post)) (key : Bytes) :
    insertAfter key (pre ++ post) pre.getLast? = pre ++ key :: post := by
  rcases List.eq_nil_or_concat pre with rfl | ⟨init, p, rfl⟩
  · cases post <;> rfl
  · simp only [List.concat_eq_append, List.getLast?_concat, List.append_assoc, List.singleton_append] at hs ⊢
    exact insertAfter_append (sorted_concat_ne hc hs)

theorem removeAfter_last {pre post : List Bytes} {key : Bytes} (hs : Sorted cmp (pre ++ key :: post)) :
    removeAfter (pre ++ key :: post) pre.getLast? = pre ++ post := by
  rcases List.eq_nil_or_concat pre with rfl | ⟨init, p, rfl⟩
  · rfl
  · simp only [List.concat_eq_append, List.getLast?_concat, List.append_assoc, List.singleton_append] at hs ⊢
    exact removeAfter_append (sorted_concat_ne hc hs)

theorem insertAfter_pred {l : List Bytes} (hs : Sorted cmp l) (key : Bytes) :
    insertAfter key l (pred cmp l key) = ins cmp key l := by
  have e := List.takeWhile_append_dropWhile (p := below cmp key) (l := l)
  rw [pred, ins, ← insertAfter_last hc (e.symm ▸ hs), e]

theorem removeAfter_pred {l : List Bytes} (hs : Sorted cmp l) {key : Bytes} (hk : key ∈ l) :
    removeAfter l (pred cmp l key) = l.filter (· != key) := by
  obtain ⟨pre, post, rfl, h1, h2, htw, _⟩ := split_mem hc hs hk
  rw [pred, htw, removeAfter_last hc hs, filter_ne_split hc h1 h2]

omit hc in
theorem ins_perm (key : Bytes) (l : List Bytes) : (ins cmp key l).Perm (key :: l) :=
  List.perm_middle.trans (by rw [List.takeWhile_append_dropWhile])

omit hc in
theorem mem_ins {key x : Bytes} {l : List Bytes} : x ∈ ins cmp key l ↔ x = key ∨ x ∈ l :=
  (ins_perm key l).mem_iff.trans List.mem_cons

theorem ins_sorted {l : List Bytes} (hs : Sorted cmp l) {key : Bytes} (hk : key ∉ l) :
    Sorted cmp (ins cmp key l) := by
  unfold ins
  have hsplit := List.takeWhile_append_dropWhile (p := below cmp key) (l := l)
  have hs' : Sorted cmp (l.takeWhile (below cmp key) ++ l.dropWhile (below cmp key)) := by
    rw [hsplit]; exact hs
  obtain ⟨s1, s2, s12⟩ := List.pairwise_append.1 hs'
  refine List.pairwise_append.2 ⟨s1, List.pairwise_cons.2 ⟨gt_of_mem_dropWhile hc hs hk, s2⟩, ?_⟩
  intro a ha b hb
  simp only [List.mem_cons] at hb
  rcases hb with rfl | hb
  · exact below_of_mem_takeWhile _ a ha
  · exact s12 a ha b hb

omit hc in
theorem ins_length (key : Bytes) (l : List Bytes) : (ins cmp key l).length = l.length + 1 :=
  (ins_perm key l).length_eq

omit hc in
theorem sublist_ins (key : Bytes) (l : List Bytes) : l.Sublist (ins cmp key l) := by
  conv => lhs; rw [← List.takeWhile_append_dropWhile (p := below cmp key) (l := l)]
  exact (List.Sublist.refl _).append (List.sublist_cons_self ..)

/-- on sorted levels `ins` splits by a filter, and filters keep sublists -/
theorem ins_sublist_ins {hi lo : List Bytes} (hs : Sorted cmp lo) (h : hi.Sublist lo) (key : Bytes) :
    (ins cmp key hi).Sublist (ins cmp key lo) := by
  have ilo := below_initial hc hs key
  have ihi := ilo.sublist h
  unfold ins
  rw [← ilo.filter_eq_takeWhile, ← ilo.filter_not_eq_dropWhile, ← ihi.filter_eq_takeWhile,
    ← ihi.filter_not_eq_dropWhile]
  exact (h.filter _).append ((h.filter _).cons_cons key)

end

def linkIdeal (cmp : Cmp) (key : Bytes) : Nat → List (List Bytes) → List (List Bytes)
  | 0, ls => ls
  | h + 1, [] => [key] :: linkIdeal cmp key h []
  | h + 1, l :: ls => ins cmp key l :: linkIdeal cmp key h ls

theorem ins_nil (key : Bytes) : ins cmp key [] = [key] := by simp [ins]

theorem linkIdeal_getElem? (key : Bytes) : ∀ (h : Nat) (L : List (List Bytes)) (i : Nat),
    (linkIdeal cmp key h L)[i]? = if i < h then some (ins cmp key (L[i]?.getD [])) else L[i]? := by
  intro h
  induction h with
  | zero => intro L i; simp [linkIdeal]
  | succ h ih =>
    intro L i
    cases L with
    | nil =>
      cases i with
      | zero => simp [linkIdeal, ins_nil]
      | succ i =>
        simp only [linkIdeal, List.getElem?_cons_succ, ih [] i]
        simp
    | cons l ls =>
      cases i with
      | zero => simp [linkIdeal]
      | succ i =>
        simp only [linkIdeal, List.getElem?_cons_succ, ih ls i]
        simp

section
variable (hc : LawfulCmp cmp)
include hc

theorem linkLevels_eq (key : Bytes) : ∀ (h : Nat) (ls : List (List Bytes)), (∀ l ∈ ls, Sorted cmp l) →
    linkLevels key h ls (ls.map (pred cmp · key)) = linkIdeal cmp key h ls := by
  intro h
  induction h with
  | zero => intro ls _; simp [linkLevels, linkIdeal]
  | succ h ih =>
    intro ls hS
    cases ls with
    | nil =>
      have := ih [] (by simp)
      simp only [List.map_nil] at this
      simp [linkLevels, linkIdeal, insertAfter, this]
    | cons l ls =>
      have := ih ls (fun x hx => hS x (by simp [hx]))
      simp only [linkLevels, linkIdeal, List.map_cons, List.headD_cons, List.tail_cons]
      rw [insertAfter_pred hc (hS l (by simp)), this]

omit hc in
theorem linkIdeal_mem (key : Bytes) (h : Nat) (ls : List (List Bytes)) :
    ∀ l' ∈ linkIdeal cmp key h ls, ∃ l, (l = [] ∨ l ∈ ls) ∧ (l' = l ∨ l' = ins cmp key l) := by
  intro l' hl'
  obtain ⟨i, hi⟩ := List.getElem?_of_mem hl'
  rw [linkIdeal_getElem?] at hi
  split at hi
  · refine ⟨ls[i]?.getD [], ?_, .inr (Option.some.inj hi).symm⟩
    cases hl : ls[i]? with
    | none => exact .inl rfl
    | some l => exact .inr (List.mem_of_getElem? hl)
  · exact ⟨l', .inr (List.mem_of_getElem? hi), .inl rfl⟩

theorem linkIdeal_sorted (key : Bytes) (h : Nat) (ls : List (List Bytes))
    (hS : ∀ l ∈ ls, Sorted cmp l) (hK : ∀ l ∈ ls, key ∉ l) : ∀ l' ∈ linkIdeal cmp key h ls, Sorted cmp l' := by
  intro l' hl'
  obtain ⟨l, hl, e⟩ := linkIdeal_mem key h ls l' hl'
  have hs : Sorted cmp l ∧ key ∉ l := by
    rcases hl with rfl | hl
    · exact ⟨.nil, List.not_mem_nil⟩
    · exact ⟨hS l hl, hK l hl⟩
  rcases e with rfl | rfl
  · exact hs.1
  · exact ins_sorted hc hs.1 hs.2

theorem linkIdeal_sub_ins (key : Bytes) (h : Nat) {l : List Bytes} {ls : List (List Bytes)} (hl : Sorted cmp l)
    (hT : ∀ hi ∈ ls, hi.Sublist l) : ∀ hi ∈ linkIdeal cmp key h ls, hi.Sublist (ins cmp key l) := by
  intro hi hhi
  obtain ⟨l2, hl2, e⟩ := linkIdeal_mem key h ls hi hhi
  have hsub : l2.Sublist l := by
    rcases hl2 with rfl | hl2
    · exact List.nil_sublist _
    · exact hT l2 hl2
  rcases e with rfl | rfl
  · exact hsub.trans (sublist_ins key l)
  · exact ins_sublist_ins hc hl hsub key

theorem linkIdeal_towers (key : Bytes) : ∀ (h : Nat) (ls : List (List Bytes)), (∀ l ∈ ls, Sorted cmp l) →
    ls.Pairwise (fun lo hi => hi.Sublist lo) → (linkIdeal cmp key h ls).Pairwise (fun lo hi => hi.Sublist lo) := by
  intro h
  induction h with
  | zero => intro ls _ hT; exact hT
  | succ h ih =>
    intro ls hS hT
    cases ls with
    | nil =>
      exact List.pairwise_cons.2 ⟨ins_nil (cmp := cmp) key ▸ linkIdeal_sub_ins hc key h .nil (by simp), ih [] hS hT⟩
    | cons l ls =>
      have hT' := List.pairwise_cons.1 hT
      exact List.pairwise_cons.2 ⟨linkIdeal_sub_ins hc key h (hS l (.head _)) hT'.1,
        ih ls (fun x hx => hS x (List.mem_cons_of_mem _ hx)) hT'.2⟩

omit hc in
theorem linkIdeal_length (key : Bytes) : ∀ (h : Nat) (ls : List (List Bytes)),
    (linkIdeal cmp key h ls).length = max h ls.length := by
  intro h
  induction h with
  | zero => intro ls; simp [linkIdeal]
  | succ h ih =>
    intro ls
    cases ls with
    | nil => simp [linkIdeal, ih []]
    | cons l ls => simp [linkIdeal, ih ls]

omit hc in
theorem linkIdeal_head (key : Bytes) (h : Nat) (ls : List (List Bytes)) :
    (linkIdeal cmp key (h + 1) ls).headD [] = ins cmp key (ls.headD []) := by
  cases ls <;> simp [linkIdeal, ins_nil]

theorem unlinkLevels_eq (k : Bytes) : ∀ (ls : List (List Bytes)), (∀ l ∈ ls, Sorted cmp l) →
    ls.Pairwise (fun lo hi => ∀ x ∈ hi, x ∈ lo) →
    unlinkLevels (ls.takeWhile (·.contains k)).length ls (ls.map (pred cmp · k)) =
      ls.map (·.filter (· != k)) := by
  intro ls
  induction ls with
  | nil => intro _ _; simp [unlinkLevels]
  | cons l ls ih =>
    intro hS hT
    have hT' := List.pairwise_cons.1 hT
    by_cases hk : l.contains k = true
    · have hmem : k ∈ l := by simpa using hk
      simp only [List.takeWhile_cons, hk, if_true, List.length_cons, unlinkLevels, List.map_cons,
        List.headD_cons, List.tail_cons]
      rw [removeAfter_pred hc (hS l (by simp)) hmem, ih (fun x hx => hS x (by simp [hx])) hT'.2]
    · have hmem : k ∉ l := by simpa using hk
      have hk' : l.contains k = false := by simpa using hk
      simp only [List.takeWhile_cons, hk', List.map_cons]
      have e2 : ls.map (·.filter (· != k)) = ls := by
        conv => rhs; rw [← List.map_id ls]
        exact List.map_congr_left fun l2 hl2 => filter_ne_of_not_mem fun h => hmem (hT'.1 l2 hl2 k h)
      rw [filter_ne_of_not_mem hmem, e2]; cases ls <;> simp [unlinkLevels]

end

end GoLevel.MemDB

import GoLevel.Proofs.LocksInv
/-! Explicit runs around `compactionError` and `SetReadOnly`: the code's configuration with one `select` case of
the machine removed (each ends in a deadlock with a call pending, or lets a write through in the
persistent-error state), the run of the code's configuration that loses the write lock, and runs of the code's
configuration in which `SetReadOnly` arrives during the retry loop of a failing compaction. -/
namespace GoLevel.Locks
open CompErr

def Cfg.withM (f : MCfg → MCfg) : Cfg := { Cfg.repaired with m := f (.asCoded true) }

/-- the configuration as found (the machine gives the lock back on `closeC`, `Close` takes it with a plain send)
with `compactionError` changed by `f` -/
def Cfg.withMFound (f : MCfg → MCfg) : Cfg := { Cfg.asFound with m := f (.asCoded false) }

/-- thread 0 calls `CompactRange`, finds no overlap with the memdb, releases the write lock and sends the
table-compaction command (any configuration, any number of further threads) -/
theorem runCR (cfg : Cfg) (n : Nat) : Steps cfg (init (n + 1))
    { ws := .cwAck true .crRange false :: List.replicate n .idle, tc := .run (some 0) .work } := by
  have h := Steps.refl (cfg := cfg) (init (n + 1))
  have h := h.step (Step.startCR _ 0 rfl)
  have h := h.step (Step.selTok _ 0 .crSel .crCheck rfl rfl rfl)
  have h := h.step (Step.crNoOverlap _ 0 rfl)
  have h := h.step (Step.crRelOk _ 0 rfl)
  have h := h.step (Step.cwSendGo _ 0 true .crRange false rfl rfl (Bool.and_false _))
  exact h

/-- thread 0 calls `SetReadOnly` on a fresh DB: it takes the token, posts `ErrReadOnly` to the machine in `noerr`
and returns nil (any configuration whose `noerr` has the `compErrSetC` case) -/
theorem runSR (cfg : Cfg) (hr : recvs cfg.m .noerr = true) (n : Nat) : Steps cfg (init (n + 1))
    { ws := .ret true :: List.replicate n .idle, tok := true, ehTok := true,
      cwl := cfg.srSetsWriteLocking || roSets cfg .noerr, ro := true, ehErr := .readonly,
      eh := next cfg.m .noerr .readonly } := by
  have h := Steps.refl (cfg := cfg) (init (n + 1))
  have h := h.step (Step.startSR _ 0 rfl rfl)
  have h := h.step (Step.selTok _ 0 .srSel .srSet rfl rfl rfl)
  have h := h.step (Step.srSend _ 0 rfl hr)
  exact h

def cfgNoHaserrRO : Cfg := Cfg.withM (fun m => { m with haserrRO := false })

/-- `CompactRange` (thread 0) gave up on a table compaction that failed with a transient error; `SetReadOnly`
(thread 1) arrived during the retry loop, posted `ErrReadOnly` — the machine stayed in `haserr` — and returned
nil; the retry succeeded and posted nil: the machine is in `noerr`, `tCompaction` has parked, the token is in
`writeLockC` for `compWriteLocking` -/
def stNoHaserrRO (p : Pc) : St :=
  { ws := [.ret false, .ret true, p], tok := true, ehTok := true, ro := true, ehErr := .nil,
    eh := .noerr, tc := .parked }

theorem runNoHaserrRO_prefix : Steps cfgNoHaserrRO (init 3) (stNoHaserrRO .idle) := by
  have h := runCR cfgNoHaserrRO 2
  have h := h.step (Step.bgWorkFail _ true (some 0) rfl)
  have h := h.step (Step.bgSetErr _ true (some 0) false false rfl rfl)
  have h := h.step (Step.startSR _ 1 rfl rfl)
  have h := h.step (Step.selTok _ 1 .srSel .srSet rfl rfl rfl)
  have h := h.step (Step.srSend _ 1 rfl rfl)
  have h := h.step (Step.cwAckErr _ 0 true .crRange false rfl (Or.inl rfl))
  have h := h.step (Step.bgBackoff _ true none false rfl)
  have h := h.step (Step.bgWorkOk _ true none rfl)
  have h := h.step (Step.bgSetErr _ true none true false rfl rfl)
  have h := h.step (Step.bgLockClk _ true none rfl rfl)
  have h := h.step (Step.bgCommitOk _ true none rfl)
  have h := h.step (Step.bgSetErr _ true none true true rfl rfl)
  have h := h.step (Step.bgAck _ true none rfl)
  exact h

/-- … a later `Put` (thread 2) -/
theorem runNoHaserrRO_put : Steps cfgNoHaserrRO (init 3) (stNoHaserrRO .putSel) :=
  runNoHaserrRO_prefix.step (Step.startPut _ 2 rfl)

/-- … a later `Close` (thread 2): every goroutine has exited, the token is still in `writeLockC` -/
def stNoHaserrROClose : St :=
  { ws := [.ret false, .ret true, .clAcq], tok := true, ehTok := true, ro := true, ehErr := .nil,
    closed := true, eh := .exited, mc := .exited, tc := .exited }

theorem runNoHaserrRO_close : Steps cfgNoHaserrRO (init 3) stNoHaserrROClose := by
  have h := runNoHaserrRO_prefix
  have h := h.step (Step.startClose _ 2 rfl)
  have h := h.step (Step.clCheckTr _ 2 rfl)
  have h := h.step (Step.ehClose _ rfl rfl)
  have h := h.step (Step.bgExitIdle _ false rfl rfl)
  have h := h.step (Step.bgExitParked _ rfl rfl)
  exact h

def cfgNoNoerrRO : Cfg := Cfg.withM (fun m => { m with noerrRO := false })

/-- `SetReadOnly` returned nil, the machine took `default: goto haserr`; a later `Put` -/
def stNoNoerrRO : St :=
  { ws := [.ret true, .putSel], tok := true, ehTok := true, ro := true, ehErr := .readonly,
    eh := .haserr }

theorem runNoNoerrRO : Steps cfgNoNoerrRO (init 2) stNoNoerrRO := by
  have h := runSR cfgNoNoerrRO rfl 1
  have h := h.step (Step.startPut _ 1 rfl)
  exact h

def cfgNoNoerrRecv : Cfg := Cfg.withM (fun m => { m with noerrRecv := false })

/-- the first compaction cannot report its result; `CompactRange` waits for its ack -/
def stNoNoerrRecv : St :=
  { ws := [.cwAck true .crRange false], tc := .run (some 0) (.setErr true false) }

theorem runNoNoerrRecv : Steps cfgNoNoerrRecv (init 1) stNoNoerrRecv := by
  have h := runCR cfgNoNoerrRecv 0
  have h := h.step (Step.bgWorkOk _ true (some 0) rfl)
  exact h

def cfgNoHaserrRecv : Cfg := Cfg.withM (fun m => { m with haserrRecv := false })

/-- a compaction failed (transient), its retry succeeded but cannot report it; `SetReadOnly` (thread 1) holds the
token and cannot post `ErrReadOnly` -/
def stNoHaserrRecv : St :=
  { ws := [.ret false, .srSet], tok := true, ehTok := true, ehErr := .transient, eh := .haserr,
    tc := .run none (.setErr true false) }

theorem runNoHaserrRecv : Steps cfgNoHaserrRecv (init 2) stNoHaserrRecv := by
  have h := runCR cfgNoHaserrRecv 1
  have h := h.step (Step.bgWorkFail _ true (some 0) rfl)
  have h := h.step (Step.bgSetErr _ true (some 0) false false rfl rfl)
  have h := h.step (Step.cwAckErr _ 0 true .crRange false rfl (Or.inl rfl))
  have h := h.step (Step.bgBackoff _ true none false rfl)
  have h := h.step (Step.bgWorkOk _ true none rfl)
  have h := h.step (Step.startSR _ 1 rfl rfl)
  have h := h.step (Step.selTok _ 1 .srSel .srSet rfl rfl rfl)
  exact h

def cfgNoPerErr : Cfg := Cfg.withM (fun m => { m with hasperrPerErr := false })

/-- `SetReadOnly` returned nil; a later `Put` -/
def stRO (p : Pc) : St :=
  { ws := [.ret true, p], tok := true, ehTok := true, cwl := true, ro := true, ehErr := .readonly, eh := .hasperr }

theorem runRO : Steps Cfg.repaired (init 2) (stRO .idle) := runSR Cfg.repaired rfl 1

theorem runNoPerErr : Steps cfgNoPerErr (init 2) (stRO .putSel) :=
  (runSR cfgNoPerErr rfl 1).step (Step.startPut _ 1 rfl)

def cfgNoHasperrErr : Cfg := Cfg.withM (fun m => { m with hasperrErr := false })

/-- a `CompactRange` (thread 1) wants to send its command while `tCompaction` works on another one (thread 0);
`SetReadOnly` (thread 2) returns nil; `tCompaction` finishes, sees `compReadOnly` and parks -/
def stNoHasperrErr : St :=
  { ws := [.ret true, .cwSend true .crRange false, .ret true], tok := true, ehTok := true, cwl := true, ro := true,
    ehErr := .readonly, eh := .hasperr, tc := .parked }

theorem runNoHasperrErr : Steps cfgNoHasperrErr (init 3) stNoHasperrErr := by
  have h := runCR cfgNoHasperrErr 2
  have h := h.step (Step.startCR _ 1 rfl)
  have h := h.step (Step.selTok _ 1 .crSel .crCheck rfl rfl rfl)
  have h := h.step (Step.crNoOverlap _ 1 rfl)
  have h := h.step (Step.crRelOk _ 1 rfl)
  have h := h.step (Step.startSR _ 2 rfl rfl)
  have h := h.step (Step.selTok _ 2 .srSel .srSet rfl rfl rfl)
  have h := h.step (Step.srSend _ 2 rfl rfl)
  have h := h.step (Step.bgWorkOk _ true (some 0) rfl)
  have h := h.step (Step.bgSetErrPer _ true (some 0) false rfl rfl)
  have h := h.step (Step.bgLockClk _ true (some 0) rfl rfl)
  have h := h.step (Step.bgCommitOk _ true (some 0) rfl)
  have h := h.step (Step.bgSetErrPer _ true (some 0) true rfl rfl)
  have h := h.step (Step.bgAck _ true (some 0) rfl)
  exact h

def cfgNoHasperrClose : Cfg := Cfg.withM (fun m => { m with hasperrClose := false })
def cfgNoGiveBack : Cfg := Cfg.withMFound (fun m => { m with hasperrGivesBack := false })
def cfgNoKeep : Cfg := Cfg.withM (fun m => { m with hasperrKeepsLock := false })
/-- the machine keeps the lock and closes `compLockedC`, but `Close` still does the plain send -/
def cfgNoCloseSel : Cfg := { Cfg.repaired with closeSel := false }

/-- `SetReadOnly` returned nil; `Close` (thread 1) has closed `closeC`, both compaction goroutines have exited -/
def stROClose (e : Eh) : St :=
  { ws := [.ret true, .clAcq], tok := true, ehTok := true, cwl := true, ro := true, ehErr := .readonly, eh := e,
    closed := true, mc := .exited, tc := .exited }

/-- … then `Close` (thread 1) closes `closeC` and both compaction goroutines exit (any configuration) -/
theorem runROClose {cfg : Cfg} (h : Steps cfg (init 2) (stRO .idle)) : Steps cfg (init 2) (stROClose .hasperr) :=
  (((h.step (Step.startClose _ 1 rfl)).step (Step.clCheckTr _ 1 rfl)).step (Step.bgExitIdle _ false rfl rfl)).step
    (Step.bgExitIdle _ true rfl rfl)

theorem runNoHasperrClose : Steps cfgNoHasperrClose (init 2) (stROClose .hasperr) := runROClose (runSR _ rfl 1)

theorem runNoGiveBack : Steps cfgNoGiveBack (init 2) (stROClose .exited) :=
  (runROClose (runSR cfgNoGiveBack rfl 1)).step (Step.ehClose _ rfl rfl)

theorem runNoKeep : Steps cfgNoKeep (init 2) (stROClose .exited) :=
  (runROClose (runSR cfgNoKeep rfl 1)).step (Step.ehClose _ rfl rfl)

/-- the machine is in the `closeC` case (it closes `compLockedC` and returns: nothing `Close`'s plain send could see) -/
theorem runNoCloseSel : Steps cfgNoCloseSel (init 2) (stROClose .closing) :=
  (runROClose (runSR cfgNoCloseSel rfl 1)).step (Step.ehClose _ rfl rfl)

def cfgNoLock : Cfg := Cfg.withM (fun m => { m with hasperrLock := false })

/-- a table compaction (for thread 0's `CompactRange`) hit a corruption: the machine is in `hasperr` -/
def stCorrupt (p : Pc) (tok : Bool) : St :=
  { ws := [.ret false, p], tok := tok, ehErr := .corrupt, eh := .hasperr, tc := .exited }

theorem runCorruptOf (cfg : Cfg) (hr : recvs cfg.m .noerr = true) (he : offErr cfg.m (next cfg.m .noerr .corrupt) = true) :
    Steps cfg (init 2) { stCorrupt .idle false with eh := next cfg.m .noerr .corrupt } := by
  have h := runCR cfg 1
  have h := h.step (Step.bgWorkCorrupt _ true (some 0) rfl rfl)
  have h := h.step (Step.bgSetErrCorrupt _ true (some 0) false rfl hr)
  have h := h.step (Step.cwAckErr _ 0 true .crRange false rfl (Or.inl he))
  exact h

theorem runCorrupt : Steps Cfg.repaired (init 2) (stCorrupt .idle false) := runCorruptOf Cfg.repaired rfl rfl
theorem runCorruptNoLock : Steps cfgNoLock (init 2) (stCorrupt .idle false) := runCorruptOf cfgNoLock rfl rfl

/-- … and a `Put` (thread 1) goes through -/
theorem runNoLock_put : Steps cfgNoLock (stCorrupt .idle false) (stCorrupt (.ret true) false) := by
  have h := Steps.refl (cfg := cfgNoLock) (stCorrupt .idle false)
  have h := h.step (Step.startPut _ 1 rfl)
  have h := h.step (Step.selTok _ 1 .putSel .putFlush rfl rfl rfl)
  have h := h.step (Step.putNoWait _ 1 rfl)
  have h := h.step (Step.putJournalOk _ 1 rfl)
  have h := h.step (Step.putUnlock _ 1 true rfl)
  exact h

/-- `CompactRange` (thread 0) ran into a corruption while `SetReadOnly` (thread 1) was between its two `select`s;
`Close` (thread 2): `compactionError` took `SetReadOnly`'s token on `closeC` (it read the `compWriteLocking` that
`SetReadOnly` had set), `Close` acquired the lock and waits for the goroutines, `SetReadOnly`'s `closeC` arm took
`Close`'s token out.  A `Put` (thread 3) that started before `Close` is in its `select`. -/
def stLost : St :=
  { ws := [.ret false, .ret false, .clWait, .putSel], tok := false, closeTok := true, cwl := true, closed := true,
    ehErr := .corrupt, eh := .exited, tc := .exited }

theorem runLost : Steps Cfg.before832 (init 4) stLost := by
  have h := runCR Cfg.before832 3
  have h := h.step (Step.startPut _ 3 rfl)
  have h := h.step (Step.startSR _ 1 rfl rfl)
  have h := h.step (Step.selTok _ 1 .srSel .srSet rfl rfl rfl)
  have h := h.step (Step.bgWorkCorrupt _ true (some 0) rfl rfl)
  have h := h.step (Step.bgSetErrCorrupt _ true (some 0) false rfl rfl)
  have h := h.step (Step.cwAckErr _ 0 true .crRange false rfl (Or.inl rfl))
  have h := h.step (Step.startClose _ 2 rfl)
  have h := h.step (Step.clCheckTr _ 2 rfl)
  have h := h.step (Step.ehClose _ rfl rfl)
  have h := h.step (Step.ehTake _ rfl rfl rfl)
  have h := h.step (Step.clAcq _ 2 rfl rfl)
  have h := h.step (Step.srClosed _ 1 rfl rfl)
  exact h

/-- … and takes the `writeLockC` arm: the writer is inside `writeLocked` while `Close` owns the lock -/
theorem stepLost : Step Cfg.before832 false stLost
    { stLost with ws := [.ret false, .ret false, .clWait, .putFlush], tok := true } :=
  Step.selTok stLost 3 .putSel .putFlush rfl rfl rfl

/-- `compactionError` leaves `hasperr` without touching `writeLockC` (`compWriteLocking` is not set: it has not
taken `ErrReadOnly`), `SetReadOnly` takes its own token back, `Close` acquires the lock and keeps it -/
def stKept : St :=
  { ws := [.ret false, .ret false, .clWait, .putSel], tok := true, closeTok := true, closed := true,
    ehErr := .corrupt, eh := .exited, tc := .exited }

theorem runKept : Steps Cfg.repaired (init 4) stKept := by
  have h := runCR Cfg.repaired 3
  have h := h.step (Step.startPut _ 3 rfl)
  have h := h.step (Step.startSR _ 1 rfl rfl)
  have h := h.step (Step.selTok _ 1 .srSel .srSet rfl rfl rfl)
  have h := h.step (Step.bgWorkCorrupt _ true (some 0) rfl rfl)
  have h := h.step (Step.bgSetErrCorrupt _ true (some 0) false rfl rfl)
  have h := h.step (Step.cwAckErr _ 0 true .crRange false rfl (Or.inl rfl))
  have h := h.step (Step.startClose _ 2 rfl)
  have h := h.step (Step.clCheckTr _ 2 rfl)
  have h := h.step (Step.ehClose _ rfl rfl)
  have h := h.step (Step.srClosed _ 1 rfl rfl)
  have h := h.step (Step.clAcq _ 2 rfl rfl)
  exact h

def stRetryRO : St :=
  { ws := [.ret false, .ret true, .ret true], tok := true, closeTok := true, cwl := true, ro := true,
    ehErr := .readonly, closed := true, eh := .exited, mc := .exited, tc := .exited }

theorem runRetryRO : Steps Cfg.repaired (init 3) stRetryRO := by
  -- thread 0: CompactRange; the table compaction fails (transient) and backs off
  have h := runCR Cfg.repaired 2
  have h := h.step (Step.bgWorkFail _ true (some 0) rfl)
  have h := h.step (Step.bgSetErr _ true (some 0) false false rfl rfl)
  -- thread 1: SetReadOnly, in `haserr`: goes to `hasperr`, returns nil
  have h := h.step (Step.startSR _ 1 rfl rfl)
  have h := h.step (Step.selTok _ 1 .srSel .srSet rfl rfl rfl)
  have h := h.step (Step.srSend _ 1 rfl rfl)
  have h := h.step (Step.cwAckErr _ 0 true .crRange false rfl (Or.inl rfl))
  -- the retry succeeds, reports through `compPerErrC`, commits, `tCompaction` parks
  have h := h.step (Step.bgBackoff _ true none false rfl)
  have h := h.step (Step.bgWorkOk _ true none rfl)
  have h := h.step (Step.bgSetErrPer _ true none false rfl rfl)
  have h := h.step (Step.bgLockClk _ true none rfl rfl)
  have h := h.step (Step.bgCommitOk _ true none rfl)
  have h := h.step (Step.bgSetErrPer _ true none true rfl rfl)
  have h := h.step (Step.bgAck _ true none rfl)
  -- thread 2: Close
  have h := h.step (Step.startClose _ 2 rfl)
  have h := h.step (Step.clCheckTr _ 2 rfl)
  have h := h.step (Step.ehClose _ rfl rfl)
  have h := h.step (Step.clAcqKept _ 2 rfl rfl rfl rfl)
  have h := h.step (Step.bgExitIdle _ false rfl rfl)
  have h := h.step (Step.bgExitParked _ rfl rfl)
  have h := h.step (Step.clWait _ 2 rfl rfl rfl)
  exact h

/-- `SetReadOnly` (thread 0) returned nil; a `Put` (thread 1) started afterwards and is at its `select`; `Close`
(thread 2) closed `closeC`, `compactionError` gave its token back and exited — before `Close` takes the lock the
`Put` takes the `writeLockC` arm (all three arms of its `select` are ready but `compPerErrC`), writes and returns
nil -/
def stROWrite : St :=
  { ws := [.ret true, .ret true, .clAcq], tok := false, cwl := true, ro := true, ehErr := .readonly, eh := .exited,
    closed := true }

/-- the state of `runROWrite` just before the write takes the lock: `compactionError` has given its token back and
exited, `writeLockC` is empty, the `Put` (thread 1) and `Close` (thread 2) both want it -/
def stROGap : St :=
  { ws := [.ret true, .putSel, .clAcq], tok := false, cwl := true, ro := true, ehErr := .readonly, eh := .exited,
    closed := true }

theorem runROGap : Steps Cfg.asFound (init 3) stROGap := by
  have h := runSR Cfg.asFound rfl 2
  have h := h.step (Step.startPut _ 1 rfl)
  have h := h.step (Step.startClose _ 2 rfl)
  have h := h.step (Step.clCheckTr _ 2 rfl)
  have h := h.step (Step.ehClose _ rfl rfl)
  have h := h.step (Step.ehTake _ rfl rfl rfl)
  exact h

theorem runROWrite : Steps Cfg.asFound (init 3) stROWrite :=
  (((runROGap.step (Step.selTok _ 1 .putSel .putFlush rfl rfl rfl)).step (Step.putNoWait _ 1 rfl)).step
    (Step.putJournalOk _ 1 rfl)).step (Step.putUnlock _ 1 true rfl)

theorem stepROGap : Step Cfg.asFound false stROGap { stROGap with ws := [.ret true, .putFlush, .clAcq], tok := true } :=
  Step.selTok stROGap 1 .putSel .putFlush rfl rfl rfl

/-- `SetReadOnly` (thread 0) returned nil; a `Put` (thread 1) started afterwards and is at its `select`; `Close`
(thread 2) closed `closeC`; `compactionError` keeps the lock and closes `compLockedC`, `Close` takes that arm: the
`Put` can only return (`ErrClosed` here), `Close` returns -/
def stROKept : St :=
  { ws := [.ret true, .ret false, .ret true], tok := true, closeTok := true, cwl := true, ro := true,
    ehErr := .readonly, eh := .exited, closed := true, mc := .exited, tc := .exited }

theorem runROKept : Steps Cfg.repaired (init 3) stROKept := by
  have h := runSR Cfg.repaired rfl 2
  have h := h.step (Step.startPut _ 1 rfl)
  have h := h.step (Step.startClose _ 2 rfl)
  have h := h.step (Step.clCheckTr _ 2 rfl)
  have h := h.step (Step.ehClose _ rfl rfl)
  have h := h.step (Step.clAcqKept _ 2 rfl rfl rfl rfl)
  have h := h.step (Step.selClosed _ 1 .putSel .putFlush rfl rfl rfl)
  have h := h.step (Step.bgExitIdle _ false rfl rfl)
  have h := h.step (Step.bgExitIdle _ true rfl rfl)
  have h := h.step (Step.clWait _ 2 rfl rfl rfl)
  exact h

end GoLevel.Locks

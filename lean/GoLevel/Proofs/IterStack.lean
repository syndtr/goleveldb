import GoLevel.Proofs.IterMerged
import GoLevel.Proofs.IterIndexed
/-!
# The whole stack: `DBIter` over `MergedIter` over array / indexed children
-/
namespace GoLevel

/-- what a child of the merged raw iterator is supposed to present -/
inductive NodeSpec
  | arr (xs : List Entry)
  | idx (chs : List IdxChild)

namespace NodeSpec

def list : NodeSpec → List Entry
  | .arr xs => xs
  | .idx chs => chs.flatMap (·.es)

def OK (c : UCmp) : NodeSpec → Prop
  | .arr _ => True
  | .idx chs => IdxOK c chs

/-- the freshly created child iterator (`NewArrayIterator` / memdb / table iterator, `NewIndexedIterator`) -/
def fresh : NodeSpec → Node
  | .arr xs => .arr ⟨xs, .soi⟩
  | .idx chs => .idx (IndexedIter.new chs)

def Rel (c : UCmp) : NodeSpec → Node → Pos → Prop
  | .arr xs, s, p => ∃ a, s = .arr a ∧ ArrIter.Rel xs a p
  | .idx chs, s, p => ∃ x, s = .idx x ∧ IndexedIter.Rel c chs x p

theorem rel_fresh (c : UCmp) (sp : NodeSpec) : sp.Rel c sp.fresh .soi := by
  cases sp with
  | arr xs => exact ⟨_, rfl, rfl, rfl, trivial⟩
  | idx chs => exact ⟨_, rfl, IndexedIter.rel_new c chs⟩

theorem step_arr (c : UCmp) (cl : Call IKey) (a : ArrIter) :
    (Node.ops c).step cl (.arr a) = .arr ((ArrIter.ops c).step cl a) := by cases cl <;> rfl

theorem step_idx (c : UCmp) (cl : Call IKey) (x : IndexedIter) :
    (Node.ops c).step cl (.idx x) = .idx ((IndexedIter.ops c).step cl x) := by cases cl <;> rfl

theorem sim {c : UCmp} (hl : LawfulUCmp c) (sp : NodeSpec) (hok : sp.OK c) :
    Sim (Node.ops c) c sp.list (sp.Rel c) := by
  cases sp with
  | arr xs =>
    have h := ArrIter.sim c xs
    refine .of_step ?_ ?_ ?_
    · rintro _ p ⟨a, rfl, hr⟩; exact h.wf a p hr
    · rintro cl _ p ⟨a, rfl, hr⟩; exact ⟨_, step_arr c cl a, h.step cl a p hr⟩
    · rintro _ p ⟨a, rfl, hr⟩; exact h.cur a p hr
  | idx chs =>
    have h := IndexedIter.sim hl chs hok
    refine .of_step ?_ ?_ ?_
    · rintro _ p ⟨x, rfl, hr⟩; exact h.wf x p hr
    · rintro cl _ p ⟨x, rfl, hr⟩; exact ⟨_, step_idx c cl x, h.step cl x p hr⟩
    · rintro _ p ⟨x, rfl, hr⟩; exact h.cur x p hr

end NodeSpec

def stackRs (c : UCmp) (specs : List NodeSpec) (i : Nat) (s : Node) (p : Pos) : Prop :=
  match specs[i]? with
  | some sp => sp.Rel c s p
  | none => False

theorem stack_children_sim {c : UCmp} (hl : LawfulUCmp c) (specs : List NodeSpec)
    (hok : ∀ sp ∈ specs, sp.OK c) (i : Nat) (L : List Entry) (h : (specs.map (·.list))[i]? = some L) :
    Sim (Node.ops c) c L (stackRs c specs i) := by
  simp only [List.getElem?_map, Option.map_eq_some_iff] at h
  obtain ⟨sp, hsp, rfl⟩ := h
  have : stackRs c specs i = sp.Rel c := by
    funext s p; simp [stackRs, hsp]
  rw [this]
  exact sp.sim hl (hok sp (List.mem_of_getElem? hsp))

theorem stack_rel_new (c : UCmp) (specs : List NodeSpec) (U : List Entry) :
    MergedIter.Rel (Node.ops c) c (stackRs c specs) (specs.map (·.list)) U
      (MergedIter.new (specs.map (·.fresh))) .soi := by
  apply MergedIter.rel_new
  · simp
  · intro i s hs
    simp only [List.getElem?_map, Option.map_eq_some_iff] at hs
    obtain ⟨sp, hsp, rfl⟩ := hs
    simp only [stackRs, hsp]
    exact sp.rel_fresh c

theorem stack_sim {c : UCmp} (hl : LawfulUCmp c) (specs : List NodeSpec) (hok : ∀ sp ∈ specs, sp.OK c)
    (U : List Entry) (hU : MergeOK c (specs.map (·.list)) U) :
    Sim (MergedIter.ops (Node.ops c) c) c U
      (MergedIter.Rel (Node.ops c) c (stackRs c specs) (specs.map (·.list)) U) :=
  MergedIter.sim hl (Node.ops c) (stackRs c specs) (specs.map (·.list)) U hU (stack_children_sim hl specs hok)

theorem MergeOK.filter {c : UCmp} {Ls : List (List Entry)} {U : List Entry} (h : MergeOK c Ls U)
    (g : Entry → Bool) : MergeOK c (Ls.map (·.filter g)) (U.filter g) where
  sortedU := List.Pairwise.sublist List.filter_sublist h.sortedU
  mem := by
    intro e
    simp only [List.mem_filter, List.mem_map, h.mem]
    constructor
    · rintro ⟨⟨L, hL, he⟩, hg⟩
      exact ⟨L.filter g, ⟨L, hL, rfl⟩, List.mem_filter.2 ⟨he, hg⟩⟩
    · rintro ⟨_, ⟨L, hL, rfl⟩, he⟩
      have := List.mem_filter.1 he
      exact ⟨⟨L, hL, this.1⟩, this.2⟩
  sortedL := by
    intro L hL
    obtain ⟨L0, hL0, rfl⟩ := List.mem_map.1 hL
    exact List.Pairwise.sublist List.filter_sublist (h.sortedL L0 hL0)
  distinct := by
    intro i j Li Lj a b hij hi hj ha hb
    simp only [List.getElem?_map, Option.map_eq_some_iff] at hi hj
    obtain ⟨Li0, hi', rfl⟩ := hi
    obtain ⟨Lj0, hj', rfl⟩ := hj
    exact h.distinct i j Li0 Lj0 a b hij hi' hj' (List.mem_filter.1 ha).1 (List.mem_filter.1 hb).1

end GoLevel

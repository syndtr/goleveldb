import GoLevel.Proofs.BlockIterLayout
/-!
# `Block.build` output has the `Layout` the `blockIter` and cursor proofs need

Entry `j` starts at `offB ri kvs j` (the length of the encoding of the first `j` pairs); restart slot `r` points
at entry `rsB ri kvs r` (the length of the `r`-th restart prefix).
-/
namespace GoLevel.C13
open GoLevel BlockWriter

def offB (ri : Nat) (kvs : List KV) (j : Nat) : Nat := (enc ri (kvs.take j)).length

def rsB (ri : Nat) (kvs : List KV) (r : Nat) : Nat := ((restartPrefixes ri [] kvs).map List.length).getD r 0

theorem lastKeyD_take {kvs : List KV} {j : Nat} (h0 : 0 < j) (hj : j ≤ kvs.length) :
    lastKeyD [] (kvs.take j) = kAt kvs (j - 1) := by
  have e : j = (j - 1) + 1 := by omega
  rw [e, take_succ_kv (by omega), lastKeyD_snoc]
  simp

def shB (ri : Nat) (kvs : List KV) (j : Nat) : Nat :=
  nSharedAt ri j (lastKeyD [] (kvs.take j)) (kAt kvs j)

theorem enc_split (ri : Nat) (kvs : List KV) {j : Nat} (hj : j < kvs.length) :
    enc ri kvs = enc ri (kvs.take j) ++
      (encEntry (shB ri kvs j) (kAt kvs j) (vAt kvs j) ++ encFrom ri (j + 1) (kAt kvs j) (kvs.drop (j + 1))) := by
  have h1 : enc ri kvs = enc ri (kvs.take j ++ kvs.drop j) := by rw [List.take_append_drop]
  rw [h1, enc, encFrom_append, Nat.zero_add, List.length_take, Nat.min_eq_left (by omega), drop_kv hj]
  rfl

theorem offB_succ (ri : Nat) (kvs : List KV) {j : Nat} (hj : j < kvs.length) :
    offB ri kvs (j + 1) = offB ri kvs j + (encEntry (shB ri kvs j) (kAt kvs j) (vAt kvs j)).length := by
  unfold offB
  rw [take_succ_kv hj, enc, encFrom_append, Nat.zero_add, List.length_append, List.length_take,
    Nat.min_eq_left (by omega)]
  simp [encFrom, shB]

theorem offB_le_len (ri : Nat) (kvs : List KV) {j : Nat} (hj : j < kvs.length) :
    offB ri kvs (j + 1) ≤ (enc ri kvs).length := by
  have h := enc_split ri kvs hj
  rw [offB_succ ri kvs hj, h]
  simp only [offB, List.length_append]
  omega

theorem restartPrefixes_incr (ri : Nat) (todo : List KV) : ∀ done,
    (restartPrefixes ri done todo).Pairwise fun A B => A.length < B.length := by
  induction todo with
  | nil => intro done; simp [restartPrefixes]
  | cons a t ih =>
    intro done
    simp only [restartPrefixes]
    rw [List.pairwise_append]
    refine ⟨?_, ih _, ?_⟩
    · split <;> simp
    · intro A hA B hB
      obtain ⟨i, _, rfl, _⟩ := restartPrefixes_mem ri t _ B hB
      split at hA
      · simp at hA; subst hA; simp
      · simp at hA

theorem rsB_get (ri : Nat) (kvs : List KV) {r : Nat} (hr : r < (restartPrefixes ri [] kvs).length) :
    rsB ri kvs r = ((restartPrefixes ri [] kvs)[r]).length := by
  simp [rsB, List.getD, hr]

theorem restartsOf_length (ri : Nat) {kvs : List KV} (hne : kvs ≠ []) :
    (restartsOf ri kvs).length = (restartPrefixes ri [] kvs).length := by
  simp [restartsOf, hne]

theorem restart_facts (ri : Nat) {kvs : List KV} (hne : kvs ≠ []) {r : Nat} (hr : r < (restartsOf ri kvs).length) :
    rsB ri kvs r < kvs.length ∧ rsB ri kvs r % ri = 0 ∧ (restartsOf ri kvs)[r] = offB ri kvs (rsB ri kvs r) := by
  have hr' : r < (restartPrefixes ri [] kvs).length := by rw [← restartsOf_length ri hne]; exact hr
  obtain ⟨i, hi, he, hm⟩ := restartPrefixes_mem ri kvs [] _ (List.getElem_mem hr')
  have hl : ((restartPrefixes ri [] kvs)[r]).length = i := by rw [he]; simp; omega
  rw [rsB_get ri kvs hr', hl]
  refine ⟨hi, hl ▸ hm, ?_⟩
  simp only [restartsOf, hne, if_false, List.getElem_map, offB]
  rw [he]; rfl

theorem restartsOf_pos (ri : Nat) (kvs : List KV) : 0 < (restartsOf ri kvs).length := by
  by_cases h : kvs = []
  · simp [restartsOf, h]
  · rw [restartsOf_length ri h]
    obtain ⟨a, t, rfl⟩ := List.exists_cons_of_ne_nil h
    obtain ⟨rest, hrest⟩ := restartPrefixes_head ri a t
    rw [hrest]; simp

theorem rsB_zero (ri : Nat) (kvs : List KV) : rsB ri kvs 0 = 0 := by
  cases kvs with
  | nil => simp [rsB, restartPrefixes]
  | cons a t =>
    obtain ⟨rest, hrest⟩ := restartPrefixes_head ri a t
    simp [rsB, hrest]

theorem shB_restart (ri : Nat) {kvs : List KV} (hne : kvs ≠ []) {r : Nat} (hr : r < (restartsOf ri kvs).length) :
    shB ri kvs (rsB ri kvs r) = 0 := by
  have := (restart_facts ri hne hr).2.1
  simp [shB, nSharedAt, this]

theorem data_at (ri : Nat) (kvs : List KV) {j : Nat} (hj : j < kvs.length) (tail : Bytes) :
    (enc ri kvs ++ tail).drop (offB ri kvs j) =
      encEntry (shB ri kvs j) (kAt kvs j) (vAt kvs j) ++
        (encFrom ri (j + 1) (kAt kvs j) (kvs.drop (j + 1)) ++ tail) := by
  rw [enc_split ri kvs hj, List.append_assoc, offB, List.drop_left, List.append_assoc]

/-- the empty block: one restart point `0` and the count `1` -/
theorem layoutR_nil (ri : Nat) : layoutR (enc ri []) (restartsOf ri []) = layoutR [] [0] := by
  simp [enc, encFrom, restartsOf]

theorem layout_build (ri : Nat) (kvs : List KV) (hs : SmallKV kvs)
    (hsz : (Block.build ri kvs).length < 2 ^ 32) :
    Layout (layoutR (enc ri kvs) (restartsOf ri kvs)) kvs (offB ri kvs) (restartsOf ri kvs).length (rsB ri kvs) := by
  have hl := build_length ri kvs
  have hRpos := restartsOf_pos ri kvs
  have hentry : ∀ j, j < kvs.length →
      (layoutR (enc ri kvs) (restartsOf ri kvs)).entryAt (offB ri kvs j) =
        .ok (shB ri kvs j) ((kAt kvs j).drop (shB ri kvs j)) (vAt kvs j) (offB ri kvs (j + 1) - offB ri kvs j) := by
    intro j hj
    have hkv := hs (kAt kvs j, vAt kvs j) (List.mem_of_getElem? (getElem?_kv hj))
    have hle := offB_le_len ri kvs hj
    have hsucc := offB_succ ri kvs hj
    have hpos := encEntry_length_pos (shB ri kvs j) (kAt kvs j) (vAt kvs j)
    unfold BlockR.entryAt
    simp only [layoutR]
    have hnge : ¬ (offB ri kvs j ≥ (enc ri kvs).length) := by omega
    simp only [hnge, ↓reduceIte]
    rw [data_at ri kvs hj]
    rw [entry_encEntry (shB ri kvs j) (kAt kvs j) (vAt kvs j) _ _ (nSharedAt_le ri j _ _) hkv.1 hkv.2 (by omega)]
    simp only
    congr 1
    omega
  have hslot : ∀ r, r < (restartsOf ri kvs).length → kvs ≠ [] → rsB ri kvs r < kvs.length ∧
      (layoutR (enc ri kvs) (restartsOf ri kvs)).restartOffset r = offB ri kvs (rsB ri kvs r) := by
    intro r hr hne
    obtain ⟨hlt, _, hget⟩ := restart_facts ri hne hr
    have hle : offB ri kvs (rsB ri kvs r) < 2 ^ 32 := by
      have h1 := offB_succ ri kvs hlt
      have h2 := offB_le_len ri kvs hlt
      omega
    exact ⟨hlt, by rw [restartOffset_layout _ _ r hr (by rw [hget]; exact hle), hget]⟩
  refine
    { off0 := by simp [offB, enc, encFrom]
      offN := by show (enc ri (kvs.take kvs.length)).length = (enc ri kvs).length; rw [List.take_length]
      mono := fun j hj => by
        have := offB_succ ri kvs hj
        have := encEntry_length_pos (shB ri kvs j) (kAt kvs j) (vAt kvs j)
        omega
      entry := ?_
      value := ?_
      rlen := rfl
      rpos := hRpos
      rs0 := rsB_zero ri kvs
      rmono := ?_
      rlt := ?_
      rE := fun h => by simp [restartsOf, h]
      roff := ?_
      rkey := ?_
      rkeyE := ?_
      rcount := restartCount_layout _ _ (by omega) }
  · -- entry
    intro j hj
    refine ⟨shB ri kvs j, hentry j hj, nSharedAt_le ri j _ _, ?_, ?_⟩
    · rintro ⟨r, hr, rfl⟩
      have hne : kvs ≠ [] := by intro h; subst h; simp at hj
      exact shB_restart ri hne hr
    · intro h0
      unfold shB nSharedAt
      split
      · simp
      · rw [lastKeyD_take h0 (by omega)]
        exact ⟨spl_le_left _ _, spl_take _ _⟩
  · -- value: the last bytes of the entry
    intro j hj
    have hsucc := offB_succ ri kvs hj
    have hd := data_at ri kvs hj ((restartsOf ri kvs ++ [(restartsOf ri kvs).length]).flatMap le32)
    obtain ⟨X, hX⟩ : ∃ X, encEntry (shB ri kvs j) (kAt kvs j) (vAt kvs j) = X ++ vAt kvs j :=
      ⟨_, by simp only [encEntry, ← List.append_assoc]; rfl⟩
    have hXl := congrArg List.length hX
    rw [List.length_append] at hXl
    refine ⟨by omega, ?_⟩
    simp only [layoutR]
    rw [show offB ri kvs (j + 1) - (vAt kvs j).length = offB ri kvs j + X.length by omega, ← List.drop_drop, hd, hX,
      List.append_assoc, List.drop_left, List.take_left' rfl]
  · -- rmono
    intro r hr
    have hne : kvs ≠ [] := by
      intro h; subst h; simp [restartsOf] at hr
    rw [restartsOf_length ri hne] at hr
    rw [rsB_get ri kvs (by omega), rsB_get ri kvs hr]
    exact (List.pairwise_iff_getElem.1 (restartPrefixes_incr ri kvs [])) r (r + 1) (by omega) hr (by omega)
  · -- rlt
    exact fun r hr hne => (hslot r hr hne).1
  · -- roff
    intro r hr
    by_cases hne : kvs = []
    · subst hne
      have : r = 0 := by simp [restartsOf] at hr; omega
      subst this
      rw [layoutR_nil]
      simp [offB, enc, encFrom]
      decide
    · exact (hslot r hr hne).2
  · -- rkey
    intro r hr hne
    obtain ⟨hlt, hro⟩ := hslot r hr hne
    have hkv := hs (kAt kvs (rsB ri kvs r), vAt kvs (rsB ri kvs r)) (List.mem_of_getElem? (getElem?_kv hlt))
    have hd := data_at ri kvs hlt ((restartsOf ri kvs ++ [(restartsOf ri kvs).length]).flatMap le32)
    rw [shB_restart ri hne hr, ← hro] at hd
    exact restartKey_at _ r _ _ _ hd hkv.1 hkv.2
  · -- rkeyE
    intro he
    subst he
    rw [layoutR_nil]
    decide

end GoLevel.C13

import GoLevel.Model.Ownership
/-! Noninterference for the ownership model: when every boundary path copies, what the caller does to its buffers
cannot change what the DB returns.  `Inv` (stored and caller-owned cells are disjoint) is kept by every step, scribbles
included; `Rel` relates the scribbling run to the clean one and is kept by both kinds of step; hence equal outputs. -/
namespace GoLevel.Own

def State.storeCells (s : State) : List Cell := s.store.map (·.2.1)

def exec (c : Cfg) : State → List Op → State
  | s, [] => s
  | s, op :: ops => exec c (step c s op).1 ops

/-- stored cells and caller-owned cells are allocated, and no stored cell is caller-owned -/
structure Inv (s : State) : Prop where
  valid : ∀ c : Nat, c ∈ s.storeCells → c < s.heap.length
  ownedValid : ∀ c : Nat, c ∈ s.owned → c < s.heap.length
  disj : ∀ c ∈ s.storeCells, c ∉ s.owned

/-- `s` (caller scribbles) and `t` (caller never touches a buffer) are related -/
structure Rel (s t : State) : Prop where
  store : s.store = t.store
  owned : s.owned = t.owned
  len : s.heap.length = t.heap.length
  inv : Inv s
  same : ∀ c ∈ s.storeCells, s.read c = t.read c

@[simp] theorem alloc_heap (s : State) (b : Bytes) : (s.alloc b).1.heap = s.heap ++ [b] := rfl
@[simp] theorem alloc_store (s : State) (b : Bytes) : (s.alloc b).1.store = s.store := rfl
@[simp] theorem alloc_owned (s : State) (b : Bytes) : (s.alloc b).1.owned = s.owned := rfl
@[simp] theorem alloc_snd (s : State) (b : Bytes) : (s.alloc b).2 = s.heap.length := rfl
@[simp] theorem alloc_storeCells (s : State) (b : Bytes) : (s.alloc b).1.storeCells = s.storeCells := rfl
@[simp] theorem give_heap (s : State) (c : Nat) : (s.give c).heap = s.heap := rfl
@[simp] theorem give_store (s : State) (c : Nat) : (s.give c).store = s.store := rfl
@[simp] theorem give_owned (s : State) (c : Nat) : (s.give c).owned = s.owned ++ [c] := rfl
@[simp] theorem give_storeCells (s : State) (c : Nat) : (s.give c).storeCells = s.storeCells := rfl
@[simp] theorem give_read (s : State) (c x : Nat) : (s.give c).read x = s.read x := rfl
@[simp] theorem bind_heap (s : State) (k : Bytes) (c : Nat) : (s.bind k c).heap = s.heap := rfl
@[simp] theorem bind_owned (s : State) (k : Bytes) (c : Nat) : (s.bind k c).owned = s.owned := rfl
@[simp] theorem bind_read (s : State) (k : Bytes) (c x : Nat) : (s.bind k c).read x = s.read x := rfl
theorem bind_store (s : State) (k : Bytes) (c : Nat) :
    (s.bind k c).store = (k, c, .mem) :: s.store.filter (·.1 ≠ k) := rfl

theorem read_alloc_old (s : State) (b : Bytes) (c : Nat) (h : c < s.heap.length) :
    (s.alloc b).1.read c = s.read c := by
  simp [State.alloc, State.read, List.getD_eq_getElem?_getD, List.getElem?_append_left h]

theorem read_alloc_new (s : State) (b : Bytes) : (s.alloc b).1.read s.heap.length = b := by
  simp [State.alloc, State.read, List.getD_eq_getElem?_getD]

theorem lookup_mem {s : State} {k : Bytes} {cell : Nat} {loc : Loc} (h : s.lookup k = some (cell, loc)) :
    cell ∈ s.storeCells := by
  simp only [State.lookup, Option.map_eq_some_iff] at h
  obtain ⟨⟨k', c', l'⟩, hf, heq⟩ := h
  have hm := List.mem_of_find?_eq_some hf
  simp only [Prod.mk.injEq] at heq
  simp only [State.storeCells, List.mem_map]
  exact ⟨(k', c', l'), hm, heq.1⟩

theorem mem_bind_storeCells {s : State} {k : Bytes} {c x : Nat} (h : x ∈ (s.bind k c).storeCells) :
    x = c ∨ x ∈ s.storeCells := by
  simp only [State.storeCells, bind_store, List.map_cons, List.mem_cons, List.mem_map,
    List.mem_filter] at h
  rcases h with h | ⟨e, ⟨he, _⟩, rfl⟩
  · exact .inl h
  · exact .inr (List.mem_map.2 ⟨e, he, rfl⟩)

theorem flush_storeCells (c : Cfg) (s : State) : (step c s .flush).1.storeCells = s.storeCells := by
  simp [step, State.storeCells, List.map_map, Function.comp_def]

theorem inv_init : Inv State.init :=
  ⟨by simp [State.init, State.storeCells], by simp [State.init], by simp [State.init, State.storeCells]⟩

theorem inv_alloc {s : State} (h : Inv s) (b : Bytes) : Inv (s.alloc b).1 := by
  refine ⟨?_, ?_, ?_⟩
  · intro x hx; have := h.valid x hx; simp; omega
  · intro x hx; have := h.ownedValid x hx; simp; omega
  · intro x hx; exact h.disj x hx

theorem inv_give {s : State} (h : Inv s) {c : Nat} (hlt : c < s.heap.length) (hns : c ∉ s.storeCells) :
    Inv (s.give c) := by
  refine ⟨h.valid, ?_, ?_⟩
  · intro x hx
    simp only [give_owned, List.mem_append, List.mem_singleton] at hx
    rcases hx with hx | rfl
    · exact h.ownedValid x hx
    · exact hlt
  · intro x hx
    simp only [give_owned, List.mem_append, List.mem_singleton, not_or]
    exact ⟨h.disj x hx, fun e => hns (e ▸ hx)⟩

theorem inv_bind {s : State} (h : Inv s) (k : Bytes) {c : Nat} (hlt : c < s.heap.length) (hno : c ∉ s.owned) :
    Inv (s.bind k c) := by
  refine ⟨?_, h.ownedValid, ?_⟩
  · intro x hx
    rcases mem_bind_storeCells hx with rfl | hx
    · exact hlt
    · exact h.valid x hx
  · intro x hx
    rcases mem_bind_storeCells hx with rfl | hx
    · exact hno
    · exact h.disj x hx

/-- overwriting a cell in place (what a scribble does to the heap) -/
theorem inv_set {s : State} (h : Inv s) (cell : Nat) (b : Bytes) : Inv { s with heap := s.heap.set cell b } :=
  ⟨fun x hx => by simpa using h.valid x hx, fun x hx => by simpa using h.ownedValid x hx, h.disj⟩

theorem safe_flags {c : Cfg} (hc : c.safe = true) :
    c.putCopies = true ∧ c.memGetCopies = true ∧ c.tableGetCopies = true ∧ c.iterCopies = true := by
  simp only [Cfg.safe, Bool.and_eq_true] at hc
  exact ⟨hc.1.1.1, hc.1.1.2, hc.1.2, hc.2⟩

theorem safe_getCopies {c : Cfg} (hc : c.safe = true) (loc : Loc) : c.getCopies loc = true := by
  obtain ⟨_, hm, ht, _⟩ := safe_flags hc
  cases loc <;> simp [Cfg.getCopies, hm, ht]

theorem rel_init : Rel State.init State.init := ⟨rfl, rfl, rfl, inv_init, fun _ _ => rfl⟩

theorem rel_storeCells {s t : State} (h : Rel s t) : t.storeCells = s.storeCells := by
  simp [State.storeCells, h.store]

theorem rel_lookup {s t : State} (h : Rel s t) (k : Bytes) : t.lookup k = s.lookup k := by
  simp [State.lookup, h.store]

theorem rel_alloc {s t : State} (h : Rel s t) (b : Bytes) : Rel (s.alloc b).1 (t.alloc b).1 := by
  refine ⟨h.store, h.owned, by simp [h.len], inv_alloc h.inv b, ?_⟩
  intro x hx
  have hv := h.inv.valid x hx
  rw [read_alloc_old s b x hv, read_alloc_old t b x (h.len ▸ hv)]
  exact h.same x hx

theorem rel_give {s t : State} (h : Rel s t) {c : Nat} (hlt : c < s.heap.length) (hns : c ∉ s.storeCells) :
    Rel (s.give c) (t.give c) :=
  ⟨h.store, by simp [h.owned], h.len, inv_give h.inv hlt hns, h.same⟩

theorem rel_bind {s t : State} (h : Rel s t) (k : Bytes) {c : Nat} (hlt : c < s.heap.length)
    (hno : c ∉ s.owned) (hrd : s.read c = t.read c) : Rel (s.bind k c) (t.bind k c) := by
  refine ⟨by simp [bind_store, h.store], h.owned, h.len, inv_bind h.inv k hlt hno, ?_⟩
  intro x hx
  rcases mem_bind_storeCells hx with rfl | hx
  · exact hrd
  · exact h.same x hx

/-- the caller receives a fresh cell holding `b` -/
theorem rel_fresh {s t : State} (h : Rel s t) (b : Bytes) :
    Rel ((s.alloc b).1.give s.heap.length) ((t.alloc b).1.give t.heap.length) := by
  rw [← h.len]
  apply rel_give (rel_alloc h _)
  · simp
  · intro hm; have := h.inv.valid _ hm; omega

/-- the DB stores a fresh cell holding `b` under `k` -/
theorem rel_store {s t : State} (h : Rel s t) (k b : Bytes) :
    Rel ((s.alloc b).1.bind k s.heap.length) ((t.alloc b).1.bind k t.heap.length) := by
  have e := read_alloc_new t b
  rw [← h.len] at e ⊢
  apply rel_bind (rel_alloc h b)
  · simp
  · intro hm; have := h.inv.ownedValid _ hm; omega
  · rw [read_alloc_new, e]

theorem rel_hand_copy {s t : State} (h : Rel s t) {cell : Nat} (hm : cell ∈ s.storeCells) :
    Rel (s.hand true cell) (t.hand true cell) := by
  simp only [State.hand, if_true, alloc_snd, ← h.same cell hm]
  exact rel_fresh h _

theorem step_rel (c : Cfg) (hc : c.safe = true) (s t : State) (h : Rel s t) (op : Op) (hop : op.isScribble = false) :
    Rel (step c s op).1 (step c t op).1 ∧ (step c s op).2 = (step c t op).2 := by
  obtain ⟨hput, _, _, hit⟩ := safe_flags hc
  cases op with
  | scribble i b => simp [Op.isScribble] at hop
  | flush =>
    refine ⟨⟨by simp [step, h.store], h.owned, h.len, ⟨?_, h.inv.ownedValid, ?_⟩, ?_⟩, rfl⟩
    all_goals intro x hx; rw [flush_storeCells] at hx
    · exact h.inv.valid x hx
    · exact h.inv.disj x hx
    · exact h.same x hx
  | put k v =>
    simp only [step, hput, if_true, alloc_snd, and_true]
    exact rel_store (rel_fresh h v) k v
  | get k | iterAt k =>
    simp only [step, rel_lookup h]
    cases hl : s.lookup k with
    | none => exact ⟨h, rfl⟩
    | some p =>
      obtain ⟨cell, loc⟩ := p
      have hm := lookup_mem hl
      simp only [safe_getCopies hc, hit, h.same cell hm, and_true]
      exact rel_hand_copy h hm

/-- a scribble only touches caller-owned cells -/
theorem scribble_rel (c : Cfg) (s t : State) (h : Rel s t) (op : Op) (hop : op.isScribble = true) :
    Rel (step c s op).1 t ∧ (step c s op).2 = none := by
  obtain ⟨i, b, rfl⟩ : ∃ i b, op = .scribble i b := by cases op <;> simp_all [Op.isScribble]
  simp only [step]
  cases ho : s.owned[i]? with
  | none => exact ⟨h, rfl⟩
  | some cell =>
    have hcell : cell ∈ s.owned := List.mem_of_getElem? ho
    refine ⟨⟨h.store, h.owned, by simp [h.len], inv_set h.inv cell b, ?_⟩, rfl⟩
    intro x hx
    have hx' : x ∈ s.storeCells := hx
    have hne : cell ≠ x := fun e => h.inv.disj x hx' (e ▸ hcell)
    have := h.same x hx'
    simp only [State.read, List.getD_eq_getElem?_getD] at this ⊢
    rw [List.getElem?_set_ne hne]; exact this

theorem clean_drop (op : Op) (ops : List Op) (h : op.isScribble = true) : clean (op :: ops) = clean ops := by
  simp [clean, h]

theorem clean_keep (op : Op) (ops : List Op) (h : op.isScribble = false) : clean (op :: ops) = op :: clean ops := by
  simp [clean, h]

theorem exec_run_rel (c : Cfg) (hc : c.safe = true) (ops : List Op) :
    ∀ s t, Rel s t → Rel (exec c s ops) (exec c t (clean ops)) ∧ run c s ops = run c t (clean ops) := by
  induction ops with
  | nil => intro s t h; exact ⟨h, rfl⟩
  | cons op ops ih =>
    intro s t h
    cases hs : op.isScribble with
    | true =>
      have := scribble_rel c s t h op hs
      rw [clean_drop op ops hs, exec, run, this.2]
      exact ih _ _ this.1
    | false =>
      have := step_rel c hc s t h op hs
      rw [clean_keep op ops hs, exec, exec, run, run, this.2]
      refine ⟨(ih _ _ this.1).1, ?_⟩
      cases (step c t op).2 with
      | none => exact (ih _ _ this.1).2
      | some b => simp only; rw [(ih _ _ this.1).2]

theorem hand_copy_fresh {s : State} (h : Inv s) {cell : Nat} (hm : cell ∈ s.storeCells) :
    (s.hand true cell).owned = s.owned ++ [s.heap.length] ∧
    (s.hand true cell).store = s.store ∧
    s.heap.length ∉ (s.hand true cell).storeCells ∧
    s.heap.length ∉ s.owned ∧
    s.heap.length ≠ cell ∧
    (s.hand true cell).read s.heap.length = s.read cell ∧
    (s.hand true cell).read cell = s.read cell := by
  have hv := h.valid cell hm
  simp only [State.hand, if_true, alloc_snd, give_owned, alloc_owned, give_store, alloc_store,
    give_storeCells, alloc_storeCells, give_read, true_and]
  refine ⟨?_, ?_, ?_, read_alloc_new _ _, read_alloc_old _ _ _ hv⟩
  · intro hm'; have := h.valid _ hm'; omega
  · intro hm'; have := h.ownedValid _ hm'; omega
  · omega

/-- the invariant along a run is the `inv` component of the relation of the run to its own clean run -/
theorem inv_exec (c : Cfg) (hc : c.safe = true) (ops : List Op) (s : State) (h : Inv s) : Inv (exec c s ops) :=
  (exec_run_rel c hc ops s s ⟨rfl, rfl, rfl, h, fun _ _ => rfl⟩).1.inv

theorem put_copy_spec (c : Cfg) (hp : c.putCopies = true) {s : State} (h : Inv s) (k v : Bytes) :
    (step c s (.put k v)).1.owned = s.owned ++ [s.heap.length] ∧
    (step c s (.put k v)).1.lookup k = some (s.heap.length + 1, .mem) ∧
    (step c s (.put k v)).1.read (s.heap.length + 1) = v ∧
    s.heap.length + 1 ∉ (step c s (.put k v)).1.owned := by
  have e := read_alloc_new ((s.alloc v).1.give s.heap.length) v
  simp only [give_heap, alloc_heap, List.length_append, List.length_cons, List.length_nil] at e
  refine ⟨by simp [step, hp], by simp [step, hp, State.lookup, bind_store], ?_, ?_⟩
  · simpa [step, hp] using e
  · simp only [step, hp, if_true, bind_owned, alloc_owned, give_owned, alloc_snd, List.mem_append,
      List.mem_singleton, not_or]
    exact ⟨fun hm => by have := h.ownedValid _ hm; omega, by omega⟩

end GoLevel.Own

import GoLevel.Proofs.CacheLocksDrain
/-! The lock-level cache system (C17): `Close` gets through its locking.  A thread inside `Close`'s
locking is either enabled itself, or waits for readers that drain (`Phi`); hence NO DEADLOCK with the locks of the
code as it is. -/
namespace GoLevel.CacheL
open GoLevel.CacheM

/-- How far a thread is from having left `Close`'s locking. -/
def Phase.rank : Phase → Nat
  | .idle => 0
  | .relMu => 1
  | .relUn => 2
  | .hasBoth => 3
  | .annUn => 4
  | .hasMu => 5
  | .annMu => 6

theorem own_step_rank {ls ls' : LSys} {w : Nat} {th : LThread} (hth : ls.tl[w]? = some th)
    (hp : th.phase ≠ .idle) (hs : lstepThread ls w = some ls') :
    ∃ th', ls'.tl[w]? = some th' ∧ th'.phase.rank < th.phase.rank := by
  obtain ⟨th2, T, hth2, hT, hc⟩ := lstepThread_cases hs
  rw [hth] at hth2; cases hth2
  rcases hc with ⟨p', _, _, hl, rfl⟩ | ⟨h1, hb⟩ | ⟨h1, _⟩
  · refine ⟨_, get_set_self hth, ?_⟩
    show p'.rank < th.phase.rank
    generalize hq : th.phase = p at hl
    cases hl with
    | annMu => exact absurd hq hp
    | _ => decide
  · obtain ⟨b', _, rfl⟩ := closeBody_cases hb
    refine ⟨_, get_set_self hth, ?_⟩
    rcases h1 with ⟨h1, hu⟩ | h1
    · simp [h1, hu, Phase.rank]
    · rw [h1]; simp only []; split <;> simp [Phase.rank]
  · exact absurd h1 hp

theorem close_helpful {ls : LSys} {w : Nat} {th : LThread} (hr : LReachable ls) (huum : ls.unrefUsesMu = false)
    (hth : ls.tl[w]? = some th) (hp : th.phase ≠ .idle) :
    (∃ ls', lstepThread ls w = some ls') ∨
    (th.phase = .annMu ∧ ∃ t ls', t ≠ w ∧ lstepThread ls t = some ls' ∧ Phi .mu ls' < Phi .mu ls) ∨
    (th.phase = .annUn ∧ ∃ t ls', t ≠ w ∧ lstepThread ls t = some ls' ∧ Phi .un ls' < Phi .un ls) := by
  have hI := linv_reachable hr huum
  obtain ⟨T, hT⟩ := hI.thread_of hth
  have hk3 := (hI.thr w th T hth hT).closing hp
  have hother : ∀ {t : Nat} {th2 : LThread} {l : LockId}, ls.tl[t]? = some th2 → l ∈ th2.held → t ≠ w := by
    intro t th2 l h1 h2 heq
    subst heq; rw [hth] at h1; cases h1; rw [hk3.1] at h2; cases h2
  -- while `w` waits for `l`, a reader of `l` can move
  have hwait : ∀ l, (ls.lock l).readers ≠ 0 → ann l th.phase = true → ls.un.writer = none ∨ l = .un →
      ∃ t ls', t ≠ w ∧ lstepThread ls t = some ls' ∧ Phi l ls' < Phi l ls := by
    intro l h0 ha hun
    obtain ⟨t2, th2, hth2, hl2⟩ := cnt_pos (l := l) (tl := ls.tl) (by rw [← (hI.lk l).count]; omega)
    have hw : (ls.lock l).writer ≠ none := by rw [(hI.lk l).writer_of_ann w th hth ha]; simp
    obtain ⟨ls', h1, h2⟩ := phi_holder_dec hr huum hw hth2 hl2 hun
    exact ⟨t2, ls', hother hth2 hl2, h1, h2⟩
  cases hph : th.phase with
  | idle => exact absurd hph hp
  | relUn => left; unfold lstepThread; simp only [hth, hT, hph]; exact ⟨_, rfl⟩
  | relMu => left; unfold lstepThread; simp only [hth, hT, hph]; exact ⟨_, rfl⟩
  | hasBoth =>
    left
    obtain ⟨f, hTf⟩ := hk3.2 (by rw [hph]; rfl)
    have hr0 : ls.base.sh.rlock = 0 := by
      have hm : ls.mu.readers = 0 := (hI.lk .mu).excl w th hth (by rw [hph]; rfl)
      have hu : ls.un.readers = 0 := (hI.lk .un).excl w th hth (by rw [hph]; rfl)
      rw [hI.readers, hm, hu]
    obtain ⟨ls', hb'⟩ := en_body (th := th) (hTf ▸ hT) hr0
    exact ⟨ls', by unfold lstepThread; simp only [hth, hT, hph]; exact hb'⟩
  | hasMu =>
    left
    have hunw := hI.un_free hth (Or.inl hp) (by rw [hph]; rfl)
    unfold lstepThread
    simp only [hth, hT, hph, huum, hunw, Bool.false_eq_true, if_false, if_true]; exact ⟨_, rfl⟩
  | annUn =>
    by_cases h0 : ls.un.readers = 0
    · left; unfold lstepThread; simp only [hth, hT, hph, h0, if_true]; exact ⟨_, rfl⟩
    · exact .inr (.inr ⟨rfl, hwait .un h0 (by rw [hph]; rfl) (.inr rfl)⟩)
  | annMu =>
    by_cases h0 : ls.mu.readers = 0
    · left; unfold lstepThread; simp only [hth, hT, hph, h0, if_true]; exact ⟨_, rfl⟩
    · exact .inr (.inl ⟨rfl, hwait .mu h0 (by rw [hph]; rfl) (.inl (hI.un_free hth (Or.inl hp) (by rw [hph]; rfl)))⟩)

theorem lock_progress {ls : LSys} (hr : LReachable ls) (huum : ls.unrefUsesMu = false) (hnq : ¬ LQuiescent ls) :
    ∃ t ls', lstepThread ls t = some ls' := by
  by_cases hin : ∃ (w : Nat) (th : LThread), ls.tl[w]? = some th ∧ th.phase ≠ .idle
  · obtain ⟨w, th, hth, hp⟩ := hin
    rcases close_helpful hr huum hth hp with ⟨ls', h⟩ | ⟨_, t, ls', _, h, _⟩ | ⟨_, t, ls', _, h, _⟩
    · exact ⟨w, ls', h⟩
    · exact ⟨t, ls', h⟩
    · exact ⟨t, ls', h⟩
  -- otherwise no lock has a writer, and the next instruction of any pending call can be executed
  have hI := linv_reachable hr huum
  have hidle : ∀ (t : Nat) (th : LThread), ls.tl[t]? = some th → th.phase = .idle :=
    fun t th hth => Decidable.byContradiction fun hp => hin ⟨t, th, hth, hp⟩
  have hpend : pending ls.base ≠ [] := fun hp =>
    hnq ⟨hp, fun th hth => by obtain ⟨t, ht⟩ := List.getElem?_of_mem hth; exact hidle t th ht⟩
  obtain ⟨j, hj⟩ := List.exists_mem_of_ne_nil _ hpend
  obtain ⟨T, hTm, hjT⟩ := List.mem_flatten.mp hj
  obtain ⟨t, hT⟩ := List.getElem?_of_mem hTm
  have hlt : t < ls.tl.length := by rw [hI.len]; exact (List.getElem?_eq_some_iff.mp hT).1
  have hth : ls.tl[t]? = some ls.tl[t] := List.getElem?_eq_getElem hlt
  have hp := hidle t _ hth
  have hW : ∀ l, (ls.lock l).writer = none := fun l => by
    simpa [hp, ann_idle] using (hI.lk l).writer_eq hth fun t2 th2 _ h2 => hidle t2 th2 h2
  have hmuw : ls.mu.writer = none := hW .mu
  cases T with
  | nil => cases hjT
  | cons i rest =>
    rcases (wc_reachable (lreachable_base hr) _ hTm).head with ⟨f, rfl, _⟩ | ⟨hcl, hen⟩
    · refine ⟨t, ?_⟩
      unfold lstepThread
      simp only [hth, hT, hp, hmuw, if_true]; exact ⟨_, rfl⟩
    · obtain ⟨b', _, h'⟩ := en_idle hth hT hp hcl hen fun l _ => hW l
      exact ⟨t, _, h'⟩

theorem close_stable {ls ls' : LSys} {a : Act} {w : Nat} {th : LThread} (hr : LReachable ls)
    (huum : ls.unrefUsesMu = false) (hth : ls.tl[w]? = some th) (hp : th.phase ≠ .idle)
    (hs : lstep ls a = some ls') (ha : a ≠ .step w) :
    ls'.tl[w]? = some th ∧ Phi .mu ls' ≤ Phi .mu ls ∧ (unPhase th.phase = true → Phi .un ls' ≤ Phi .un ls) := by
  have hI := linv_reachable hr huum
  have hlw : ∀ l, ann l th.phase = true → (ls.lock l).writer ≠ none :=
    fun l ha => by rw [(hI.lk l).writer_of_ann w th hth ha]; simp
  have hmw := hlw .mu (ann_mu.mpr hp)
  exact ⟨by rw [(lstep_frame hs).2.2 w ha]; exact hth, phi_noninc hr huum hmw hmw hs,
    fun hun => phi_noninc hr huum hmw (hlw .un hun) hs⟩

end GoLevel.CacheL

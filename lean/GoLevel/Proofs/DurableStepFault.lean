import GoLevel.Proofs.DurableStepR3
import GoLevel.Proofs.DurableStepTr
/-!
Job steps whose storage operation fails (`Outcome.failNoEffect`, `Outcome.failEffect`): the invariant is preserved
for every failure of every operation, with one condition on the configuration: `Cfg.D26Repaired` (or `Act.noD26`) — a
`SetMeta` that fails after it took effect keeps the invariant only with the repaired cleanup of `newManifest`.

Covered: create / write / sync of an output table (the half-made table is dropped, the job retries; a recovery
gives up), the journal `newMem` creates in a recovery, the creation / write / sync of a new manifest and a
`SetMeta` that fails without effect (the new manifest is dropped — or kept, not current, when `GetMeta` fails as
well —, the commit is retried), the append of a record to the manifest that fails without effect
(`manifestFailed`: the retry writes a fresh manifest, the repair of D8), the removal of the old manifest (logged
only, the repair of D27), every removal of an obsolete file (logged only) — and the three operations that put the
storage *ahead of the session* (`Inv.enter_limbo_core`): the append of the record failing after it reached the file
(`inv_job_append_normal_failEffect`: a successful append, then a `Sync` failing without effect), the manifest `Sync`
failing with the record in the file, durable or not (`inv_job_sync_fault`), and `SetMeta` failing after `CURRENT` was switched (`inv_job_rotSetMeta_failEffect`).
`inv_step_anyfault` is the step theorem of the whole machine, every action and every outcome; `inv_step_faults` (every good
configuration, `Act.faultsOK`) and `inv_step_repaired` (the repaired configuration, no condition on the action) are its two
forms with the standing condition `LimboSafe` carried along (`InvL`); the fault-free `inv_step` (`DurableMain`) is its instance.
Also here: which steps write the ghost edit `St.limbo` (`step_limbo_none`), and `run_preserves`.
-/
namespace GoLevel.Dur

variable {cfg : Cfg} {s s' : St} {d d' : Disk} {j : Job} {e : MRec} {rot : Bool}

/-- the error path of a job (`failTo`): the running DB retries, with no journal to make; a recovery gives up.
    `s1` is the state the failing step leaves (it may have set `manifestFailed` and `limbo`). -/
theorem JobOK.failTo_cases (h : JobOK cfg s d j) (s1 : St) (pc : JPc) :
    s.phase = .running ∧ j.mkJournal = none ∧ failTo s1 j pc = { s1 with job := some { j with pc := pc } } ∨
    s.phase = .recovering ∧ failTo s1 j pc = Dur.giveUp s1 := by
  unfold failTo
  rcases h.kind.cases with ⟨hp, hmk, hk | hk | hk⟩ | ⟨hp, hk | hk, _⟩ <;> rw [hk]
  · exact Or.inl ⟨hp, hmk, rfl⟩
  · exact Or.inl ⟨hp, hmk, rfl⟩
  · exact Or.inl ⟨hp, hmk, rfl⟩
  · exact Or.inr ⟨hp, rfl⟩
  · exact Or.inr ⟨hp, rfl⟩

/-- the error path keeps the invariant if the retry does: a recovery that gives up instead keeps the storage it has -/
theorem Inv.failTo_of {pc : JPc} (h : Inv cfg { s with job := some { j with pc := pc } } d) : Inv cfg (failTo s j pc) d := by
  rcases (h.jobOK rfl).failTo_cases s pc with ⟨_, _, e⟩ | ⟨hph, e⟩
  · exact e ▸ h
  · exact e ▸ h.giveUp hph h.disk h.mm

/-- a failure in the table phase: the half-made table `n` is dropped; the job starts the table again, a
    recovery gives up -/
theorem inv_job_table_fault (h : Inv cfg s d) (hj : s.job = some j)
    {i : Nat} (hpc : j.pc = .tCreate i ∨ j.pc = .tWrite i ∨ j.pc = .tSync i) {n : Nat} {gs : List Grp}
    (hn : j.outs[i]? = some (n, gs)) :
    Inv cfg (failTo s j (.tCreate i)) { d with tables := d.tables.erase n } := by
  have hok := h.jobOK hj
  have hT : ∀ t, t ≠ n → lookup (d.tables.erase n) t = lookup d.tables t := by
    intro t ht; rw [lookup_erase, if_neg ht]
  have hTn : (d.tables.erase n).Pairwise (fun p q => p.1 ≠ q.1) := pairwise_erase _ h.disk.tnodup
  have hi := (hok.table_phase hpc).1
  subst hi
  refine (h.table_phase_step hj hpc hn (d.tables.erase n) hT hTn (.tCreate 0) rfl ?_
    (List.getElem?_eq_some_iff.1 hn).1 (Or.inr (Or.inr rfl))).failTo_of
  unfold OutOK
  intro hlt; exact absurd hlt (Nat.not_lt_zero _)

/-- a failing operation of the table phase is followed by the removal of the half-made table -/
theorem stepJob_table_fault {i : Nat} (hpc : j.pc = .tCreate i ∨ j.pc = .tWrite i ∨ j.pc = .tSync i) {n : Nat}
    {gs : List Grp} (hoi : j.outs[i]? = some (n, gs)) {o : Outcome} (ho : o.failed = true) :
    stepJob cfg s d j rot o = some (failTo s j (.tCreate i), { d with tables := d.tables.erase n }) := by
  rcases hpc with e | e | e <;> simp only [stepJob, e, hoi, ho, if_true]
  · rw [d.exec_remove_table n _ (Or.inl rfl)]
  · rw [d.exec_remove_table n _ (Or.inr (Or.inl ⟨gs, rfl⟩))]
  · rw [d.exec_remove_table n _ (Or.inr (Or.inr rfl))]

theorem inv_job_table_step_fault (h : Inv cfg s d) (hj : s.job = some j)
    {i : Nat} (hpc : j.pc = .tCreate i ∨ j.pc = .tWrite i ∨ j.pc = .tSync i) {o : Outcome}
    (ho : o.failed = true) (hs : stepJob cfg s d j rot o = some (s', d')) : Inv cfg s' d' := by
  cases hoi : j.outs[i]? with
  | none => rcases hpc with e | e | e <;> simp [stepJob, e, hoi] at hs
  | some ng =>
    rw [stepJob_table_fault hpc hoi ho] at hs
    cases hs
    exact inv_job_table_fault h hj hpc hoi

/-! ## removals: an error is only logged -/

/-- a removal that reports an error after it took effect is the removal -/
theorem stepJob_rm_failEffect {n : Nat} {rest : List Nat}
    (hpc : j.pc = .rmJ (n :: rest) ∨ j.pc = .rmT (n :: rest) ∨ j.pc = .rmM (n :: rest)) :
    stepJob cfg s d j rot .failEffect = stepJob cfg s d j rot .ok := by
  rcases hpc with e | e | e <;> simp [stepJob, e, Disk.exec]

/-- a removal that fails leaves the file: the job goes on to the rest of its list -/
theorem inv_job_rm_fault (h : Inv cfg s d) (hj : s.job = some j)
    {n : Nat} {rest : List Nat}
    (hpc : j.pc = .rmJ (n :: rest) ∨ j.pc = .rmT (n :: rest) ∨ j.pc = .rmM (n :: rest))
    (hs : stepJob cfg s d j rot .failNoEffect = some (s', d')) : Inv cfg s' d' := by
  have hpost : j.pc.post = true := by rcases hpc with e | e | e <;> rw [e] <;> rfl
  have hrm := (h.jobOK hj).removals
  have step : ∀ pc' : JPc, pc'.post = true →
      (∀ v, RemovalsOK s d j v → RemovalsOK { s with job := some { j with pc := pc' } } d { j with pc := pc' } v) →
      Inv cfg { s with job := some { j with pc := pc' } } d := fun pc' hpost' htail =>
    h.post_step (d' := d) hj hpost pc' hpost' rfl rfl rfl (.of_forall fun _ _ _ => rfl) (fun _ => rfl)
      h.disk.tnodup h.disk.mnodup (fun v hv => htail v (by rw [hv] at hrm; exact hrm))
  -- the obligations of the rest of the list are among those of the list
  rcases hpc with e | e | e
  all_goals
    simp only [stepJob, e, Disk.exec, Option.some.injEq, Prod.mk.injEq] at hs
    obtain ⟨rfl, rfl⟩ := hs
  · exact step _ rfl fun v hrm => hrm.tail (Or.inl rfl) e
  · exact step _ rfl fun v hrm => hrm.tail (Or.inr (Or.inl rfl)) e
  · exact step _ rfl fun v hrm => hrm.tail (Or.inr (Or.inr rfl)) e

/-! ## `newMem` inside the last commit of a recovery fails: `Open` gives up -/

theorem inv_job_mkJournal_fault (h : Inv cfg s d)
    (hj : s.job = some j) (hpc : j.pc = .mkJournal) {o : Outcome} (ho : o.failed = true)
    (hs : stepJob cfg s d j rot o = some (s', d')) : Inv cfg s' d' := by
  have hok := h.jobOK hj
  cases hn : j.mkJournal with
  | none => simp [stepJob, hpc, hn] at hs
  | some n =>
    simp only [stepJob, hpc, hn, ho, if_true, Option.some.injEq, Prod.mk.injEq] at hs
    obtain ⟨rfl, rfl⟩ := hs
    -- only the last commit of a recovery makes a journal
    have hph : s.phase = .recovering := by
      rcases hok.kind.cases with ⟨_, hmk, _⟩ | ⟨hp, _⟩
      · rw [hn] at hmk; cases hmk
      · exact hp
    obtain ⟨_, hall⟩ := hok.mkj.early hn (Or.inl hpc)
    cases o with
    | ok => cases ho
    | failNoEffect => exact h.giveUp hph h.disk h.mm
    | failEffect =>
      exact h.giveUp hph (h.disk.journal_create n hall) (h.mm.of_same rfl rfl)

/-! ## `newManifest` fails before the switch: the new manifest is dropped, the commit is retried -/

/-- the commit goes back to `append` with manifests other than the one `CURRENT` names changed -/
theorem inv_job_back_to_append (h : Inv cfg s d) (hj : s.job = some j)
    (hr : j.pc.retry = true)
    (ms : Files (LogFile MRec)) (hms : ∀ c, d.current = some c → lookup ms c = lookup d.manifests c)
    (hnd : ms.Pairwise (fun p q => p.1 ≠ q.1)) :
    Inv cfg (failTo s j .append) { d with manifests := ms } := by
  have hok := h.jobOK hj
  have hbc := JPc.bc_of_retry hr
  have hsett := hok.mirror_before hbc
  have hcm : curManifest { d with manifests := ms } = curManifest d := curManifest_other hms
  obtain ⟨e, he⟩ := hok.edit_some (JPc.not_post_of_bc hbc)
  exact (h.newManifest_step hj he hr ms hms hnd .append rfl s.nextFile (Nat.le_refl _) (hsett.congr hcm)).failTo_of

/-- the common end of the failures inside `newManifest`: manifest `m`, which `CURRENT` does not name, is gone -/
theorem inv_job_newManifest_fault (h : Inv cfg s d) (hj : s.job = some j)
    (hr : j.pc.retry = true) {m : Nat} (hmc : some m ≠ d.current) :
    Inv cfg (failTo s j .append) { d with manifests := d.manifests.erase m } := by
  apply inv_job_back_to_append h hj hr _ _ (pairwise_erase _ h.disk.mnodup)
  intro c hc
  rw [lookup_erase, if_neg (fun e => hmc (by rw [hc, e]))]

theorem JobOK.rot_mc (h : JobOK cfg s d j) {m : Nat}
    (hpc : j.pc = .rotWrite m ∨ j.pc = .rotSync m ∨ j.pc = .rotSetMeta m) : some m ≠ d.current := by
  have hpost : j.pc.post = false := by rcases hpc with e | e | e <;> rw [e] <;> rfl
  obtain ⟨e, he⟩ := h.edit_some hpost
  have hm := h.manifest_at he
  rcases hpc with e' | e' | e' <;> rw [e'] at hm <;> simp only [JobManifest] at hm <;> exact hm.2.1.1

/-- the creation of the new manifest fails -/
theorem inv_job_append_rotate_fault (h : Inv cfg s d)
    (hj : s.job = some j) (hpc : j.pc = .append)
    (hrot : rot = true ∨ s.manifestOpen = false ∨ s.manifestFailed = true) {o : Outcome} (ho : o.failed = true)
    (hs : stepJob cfg s d j rot o = some (s', d')) : Inv cfg s' d' := by
  have hok := h.jobOK hj
  obtain ⟨e, he⟩ := hok.edit_some (by rw [hpc]; rfl)
  have hc : (rot = true ∨ ¬ s.manifestOpen = true ∨ s.manifestFailed = true) := by
    rcases hrot with h1 | h1 | h1
    · exact Or.inl h1
    · exact Or.inr (Or.inl (by rw [h1]; simp))
    · exact Or.inr (Or.inr h1)
  simp only [stepJob, hpc, he, if_pos hc, ho, if_true, Option.some.injEq, Prod.mk.injEq] at hs
  obtain ⟨rfl, rfl⟩ := hs
  rw [d.exec_remove_manifest _ _ (Or.inl rfl)]
  have hcl := h.cur_lt hj
  apply inv_job_newManifest_fault h hj (by rw [hpc]; rfl)
  intro hx
  rw [← hx] at hcl
  exact Nat.lt_irrefl _ hcl

theorem stepJob_append_normal_noEffect {m : Nat}
    (hpc : j.pc = .append) (he : j.edit = some e) (hopen : s.manifestOpen = true) (hm : s.manifestFd = some m)
    (hmf : s.manifestFailed = false) :
    stepJob cfg s d j false .failNoEffect = some (failTo { s with manifestFailed := true } j .append, d) := by
  simp [stepJob, hpc, he, hopen, hm, hmf, Disk.exec, Outcome.failed]

/-- the append of the record to the manifest fails, nothing reached the file: `manifestFailed` -/
theorem inv_job_append_normal_fault (h : Inv cfg s d)
    (hj : s.job = some j) (hpc : j.pc = .append) (hopen : s.manifestOpen = true) (hmfl : s.manifestFailed = false)
    (hs : stepJob cfg s d j false .failNoEffect = some (s', d')) : Inv cfg s' d' := by
  obtain ⟨e, he⟩ := (h.jobOK hj).edit_some (by rw [hpc]; rfl)
  cases hm : s.manifestFd with
  | none => simp [stepJob, hpc, he, hopen, hm, hmfl] at hs
  | some m =>
    rw [stepJob_append_normal_noEffect hpc he hopen hm hmfl] at hs
    cases hs
    exact inv_job_back_to_append (h.set_manifestFailed true) hj (by rw [hpc]; rfl) d.manifests (fun _ _ => rfl)
      h.disk.mnodup

/-- `SetMeta` fails and `CURRENT` still names the old manifest: the cleanup removes the new one — unless its `GetMeta` fails as
    well (`rot`) and the repaired code keeps the file to be safe (not current; `manifestFailed`) -/
theorem stepJob_rotSetMeta_noEffect {m : Nat} (hpc : j.pc = .rotSetMeta m) :
    stepJob cfg s d j rot .failNoEffect =
      if (cfg.cleanupChecksCurrent && rot && cfg.cleanupKeepsWhenGetMetaFails) = true then
        some (failTo { s with manifestFailed := true } j .append, d)
      else some (failTo s j .append, { d with manifests := d.manifests.erase m }) := by
  cases rot <;> simp [stepJob, hpc, Disk.exec, Disk.apply, Outcome.failed]

/-- writing or syncing the new manifest fails, or `SetMeta` fails without effect -/
theorem inv_job_rot_fault (h : Inv cfg s d)
    (hj : s.job = some j) {m : Nat} (hpc : j.pc = .rotWrite m ∨ j.pc = .rotSync m ∨ j.pc = .rotSetMeta m)
    {o : Outcome} (ho : o.failed = true) (hnd26 : (∃ m, j.pc = .rotSetMeta m) → o = .failNoEffect)
    (hs : stepJob cfg s d j rot o = some (s', d')) : Inv cfg s' d' := by
  have hok := h.jobOK hj
  have hr : j.pc.retry = true := by rcases hpc with e | e | e <;> rw [e] <;> rfl
  obtain ⟨e, he⟩ := hok.edit_some (JPc.not_post_of_bc (JPc.bc_of_retry hr))
  have hmc := hok.rot_mc hpc
  rcases hpc with e' | e' | e'
  · simp only [stepJob, e', he, ho, if_true, Option.some.injEq, Prod.mk.injEq] at hs
    obtain ⟨rfl, rfl⟩ := hs
    rw [d.exec_remove_manifest _ _ (Or.inr (Or.inl ⟨_, rfl⟩))]
    exact inv_job_newManifest_fault h hj hr hmc
  · simp only [stepJob, e', ho, if_true, Option.some.injEq, Prod.mk.injEq] at hs
    obtain ⟨rfl, rfl⟩ := hs
    rw [d.exec_remove_manifest _ _ (Or.inr (Or.inr rfl))]
    exact inv_job_newManifest_fault h hj hr hmc
  · have hone := hnd26 ⟨m, e'⟩
    subst hone
    rw [stepJob_rotSetMeta_noEffect e'] at hs
    split at hs <;> cases hs
    · exact inv_job_back_to_append (h.set_manifestFailed true) hj hr d.manifests (fun _ _ => rfl) h.disk.mnodup
    · exact inv_job_newManifest_fault h hj hr hmc

/-- the removal of the old manifest fails: logged, the commit goes on (the repair of D27) -/
theorem inv_job_rotRemove_any (h : Inv cfg s d)
    (hj : s.job = some j) {m : Nat} (hpc : j.pc = .rotRemove m) {o : Outcome}
    (hs : stepJob cfg s d j rot o = some (s', d')) : Inv cfg s' d' := by
  cases o with
  | ok => exact inv_job_rotRemove h hj hpc hs
  | failEffect =>
    have : stepJob cfg s d j rot .failEffect = stepJob cfg s d j rot .ok := by simp [stepJob, hpc, Disk.exec]
    rw [this] at hs
    exact inv_job_rotRemove h hj hpc hs
  | failNoEffect =>
    simp only [stepJob, hpc, Option.some.injEq, Prod.mk.injEq] at hs
    obtain ⟨rfl, rfl⟩ := hs
    have key := inv_rotRemove_core h hj hpc d.manifests (fun _ _ => rfl) h.disk.mnodup
    cases hf : s.manifestFd with
    | none => exact key
    | some old => exact key

/-! ## the storage gets ahead of the session -/

/-- an admissible view of a storage that is ahead of the session: within the session's bounds; an output of the job is above it
    or already live in it -/
structure Ahead.View (s : St) (j : Job) (v : MView) : Prop where
  sq : v.sq ≤ sqCap s j
  nf : v.nf ≤ s.nextFile
  jn : s.phase = .running → v.jn ≤ s.jcur
  outs : ∀ o ∈ j.outs, v.nf ≤ o.1 ∨ o.1 ∈ v.live

/-- the storage `d'` after an operation that made the edit `e` of the job visible: journals and tables are those of `d`; the
    manifest `CURRENT` names there, `mf'`, has good admissible views within the session's bounds, the last of them the session's
    view with the edit -/
structure Ahead (cfg : Cfg) (s : St) (d d' : Disk) (j : Job) (e : MRec) (mf' : LogFile MRec) : Prop where
  journals : d'.journals = d.journals
  tables : d'.tables = d.tables
  disk : DiskOK cfg d' (must s) (issuedGrps s)
  mono : ManifestMono cfg d'
  cur : curManifest d' = some mf'
  views : ∀ k ≤ mf'.unsynced.length, Holds (viewAt cfg mf' k) (Ahead.View s j)
  last : Holds (viewAt cfg mf' mf'.unsynced.length) (MirrorE s e)
  mfd : s.manifestFd = d'.current ∨ Holds s.manifestFd fun o => Holds d'.current fun c => o < c
  curLt : Holds d'.current (· < s.nextFile)
  jn0 : Holds (viewAt cfg mf' 0) fun v0' => Holds (curManifest d) fun mf => Holds (viewAt cfg mf 0) fun v0 =>
    v0.jn ≤ v0'.jn

/-- An operation made the job's edit visible in the manifest `CURRENT` names and reported an error all the same (the
    append of the record, `SetMeta`): the session fails the commit and retries it through `newManifest`, while every
    crash image shows the edit or may show it.  The ghost `St.limbo` records the edit; `d'` is the storage after the
    operation, `mf'` the manifest `CURRENT` names there. -/
theorem Inv.enter_limbo_core (h : Inv cfg s d) (hj : s.job = some j) (he : j.edit = some e)
    (hfp : j.pc.uninstalled = true)
    (hlf : s.stJn ≤ e.jn.getD s.stJn ∧ s.stSq ≤ e.sq.getD s.stSq ∧
      ∀ t ∈ s.live, (∀ a ∈ e.added, t < a) ∧ ∀ g ∈ tableGrpsOf d t, g.fin ≤ s.stSq + 1)
    (hin : InputsOK s d { j with pc := .append } e)
    (hod : ∀ o ∈ j.outs, lookup d.tables o.1 = some ⟨o.2, true, false⟩)
    {mf' : LogFile MRec} (ha : Ahead cfg s d d' j e mf') :
    Inv cfg (failTo { s with manifestFailed := true, limbo := some e } j .append) d' := by
  obtain ⟨hjr, htb, hdisk, hmm, hcur', hviews, hlast, hmfd, hcurlt, hrel⟩ := ha
  have hok := h.jobOK hj
  obtain ⟨hjnle, hsqle, hlive⟩ := hlf
  -- a recovery gives up; a running job goes back to `append` with the edit in limbo
  rcases hok.failTo_cases { s with manifestFailed := true, limbo := some e } .append with ⟨hph, hmk, e1⟩ | ⟨hph, e1⟩ <;>
    rw [e1]
  rotate_left
  · exact h.giveUp hph hdisk hmm
  have hshape := hok.shape_at he
  have h1 := h.set_manifestFailed true
  have hrun := h1.run hph
  let j' : Job := { j with pc := .append }
  have hlv' : lastView cfg d' = viewAt cfg mf' mf'.unsynced.length := lastView_eq hcur'
  have hlimbo : LimboOK { s with manifestFailed := true, limbo := some e, job := some j' } d' := by
    unfold LimboOK
    show LimboFacts _ d' e
    refine ⟨rfl, hshape.2.1, hshape.2.2, hjnle, hsqle, fun t ht => ⟨(hlive t ht).1, ?_⟩, Or.inr rfl, Or.inl ⟨he, rfl⟩⟩
    have : tableGrpsOf d' t = tableGrpsOf d t := by unfold tableGrpsOf; rw [htb]
    rw [this]
    exact (hlive t ht).2
  obtain ⟨k1, k2, k3, k4, k5, k6, k7, k8, k9, k10, k11, k12⟩ := hok
  refine Inv.of_running hph hdisk hmm ?_ ?_ ?_
  · unfold ViewBounds
    rw [hcur']
    intro k hk
    refine (hviews k hk).imp (fun v hv => ⟨?_, hv.nf, hv.jn⟩)
    rw [seqHi_ahead (s := { s with manifestFailed := true, limbo := some e, job := some j' }) rfl rfl]
    exact hv.sq
  · exact RunOK.job_step (d' := d') hrun j' s.nextFile s.live s.stJn s.stSq s.manifestFd s.manifestOpen (some e)
      (Nat.le_refl _) hjr ⟨by
        unfold MfdOK
        simp only [St.upd, Option.map_some]
        rcases hmfd with hx | hx
        · exact Or.inl hx
        · exact Or.inr ⟨rfl, hx⟩, hrun.mfd.2⟩ hcurlt
      (fun _ _ => ⟨by
        unfold FlushPending
        show Holds' s.job _
        rw [hj]
        exact fun _ => hfp, rfl, rfl⟩)
      (by rw [hcur']; exact hrel) hlimbo
  · show JobOK cfg _ d' j'
    refine ⟨k1, k2, ?_,
      ⟨k4.1, fun _ => ?_⟩, k5, ?_, trivial, ?_, ?_, (fun hn => by
        have : j.edit = none := hn
        rw [he] at this; cases this), ?_, (fun hb => by cases hb)⟩
    · refine JobManifestOK.of_some he ?_
      show JobManifest cfg _ d' e .append
      simp only [JobManifest]
      unfold Settled
      rw [hcur']
      refine ⟨(fun _ hl => by cases hl), ?_⟩
      rw [hlv']
      exact hlast.imp (fun v hv =>
        (MirrorL.of_some (s := { s with manifestFailed := true, limbo := some e, job := some j' }) rfl).2 hv)
    · apply holds_of_some hcur'
      intro k hk
      refine (hviews k hk).imp (fun v hv => ⟨fun o ho => (hv.outs o ho).imp id (fun hin => ⟨rfl, rfl, he.symm, hin⟩),
        fun n hn => ?_⟩)
      have : j.mkJournal = some n := hn
      rw [hmk] at this; cases this
    · intro i o hio
      show OutOK d' .append i o
      unfold OutOK
      intro _
      rw [htb]
      exact holds_of_some (hod o (List.mem_of_getElem? hio)) rfl
    · exact MkJournalOK.of_none hmk
    · rw [hlv']
      exact hlast.imp (fun v _ => RemovalsOK_of_not_post (j := j') rfl)
    · show Holds' j.edit _
      rw [he]
      exact hin.transport (j' := j') rfl rfl (fun _ => rfl) (fun hb => hb) (fun _ => rfl) (fun _ t _ => by rw [htb])

theorem stepJob_rotSetMeta_failEffect_kept {m : Nat}
    (hpc : j.pc = .rotSetMeta m) (he : j.edit = some e)
    (hkeep : (cfg.cleanupChecksCurrent && (if rot then cfg.cleanupKeepsWhenGetMetaFails else true)) = true) :
    stepJob cfg s d j rot .failEffect =
      some (failTo { s with manifestFailed := true, limbo := some e } j .append, { d with current := some m }) := by
  cases rot <;> simp_all [stepJob, Disk.exec, Disk.apply, Outcome.failed]

/-- **D26**: `SetMeta` reports an error after `CURRENT` was switched to the new manifest.  The repaired cleanup of
    `newManifest` asks `GetMeta` and keeps the file `CURRENT` names (or, if `GetMeta` fails as well, keeps it to be
    safe); the commit fails (`manifestFailed`), the new manifest shows the edit: `St.limbo`. -/
theorem inv_job_rotSetMeta_failEffect (hg : cfg.Good) (h : Inv cfg s d)
    (hj : s.job = some j) {m : Nat} (hpc : j.pc = .rotSetMeta m)
    (hkeep : (cfg.cleanupChecksCurrent && (if rot then cfg.cleanupKeepsWhenGetMetaFails else true)) = true)
    (hs : stepJob cfg s d j rot .failEffect = some (s', d')) : Inv cfg s' d' := by
  have hok := h.jobOK hj
  obtain ⟨e, he⟩ := hok.edit_some (by rw [hpc]; rfl)
  rw [stepJob_rotSetMeta_failEffect_kept hpc he hkeep] at hs
  simp only [Option.some.injEq, Prod.mk.injEq] at hs
  obtain ⟨rfl, rfl⟩ := hs
  obtain ⟨x, mf, v0, hse⟩ := h.setMeta_effect hg hj hpc he
  have hcur := hse.cv.parts.cur
  have hshape := hok.shape_at he
  have hbc : j.pc.beforeCommit = true := by rw [hpc]; rfl
  have hin := hok.inputs_at he
  refine h.enter_limbo_core (d' := { d with current := some m }) hj he (JPc.uninstalled_of_bc hbc)
    ⟨hse.cv.jn, hse.cv.sq, hse.cv.live⟩
    ((hin : InputsOK s d j e).transport (j' := { j with pc := .append }) rfl rfl (fun _ => rfl) (fun _ => hbc)
      (fun _ => rfl) (fun _ _ _ => rfl))
    (hok.outs_on_disk hbc (by rw [hpc]; rfl))
    ⟨rfl, rfl, hse.disk, hse.mono, hse.cur', ?_, ?_, Or.inr ?_, hse.lt, ?_⟩
  · intro k hk'
    have : k = 0 := by simpa using hk'
    subst this
    rw [hse.view]
    refine ⟨hse.cv.sqLe, hse.nfLe, hse.cv.jcur, fun o ho => Or.inr ?_⟩
    refine mem_applyEdit.2 (Or.inr ?_)
    rw [hshape.1]
    exact List.mem_map.2 ⟨o, ho, rfl⟩
  · show Holds (viewAt cfg _ 0) _
    rw [hse.view]
    exact ⟨rfl, rfl, rfl⟩
  · exact hse.fdLt
  · rw [hse.view]
    simp only [Holds, hcur, hse.cv.parts.hv0]
    exact hse.cv.jn0

theorem stepJob_sync_fault {m : Nat} {o : Outcome}
    (hpc : j.pc = .sync) (hm : s.manifestFd = some m) (he : j.edit = some e) (ho : o.failed = true) :
    stepJob cfg s d j rot o =
      some (failTo { s with manifestFailed := true, limbo := some e } j .append, d.exec (.sync .manifest m) o) := by
  simp [stepJob, hpc, hm, ho, he]

/-- **the second shape of D10**: the `Sync` of the manifest after the append of the commit's record reports an error —
    with the record durable (`failEffect`) or not.  The commit fails (`manifestFailed`) and is retried from `append`
    through `newManifest`; the record is in the file: `St.limbo`. -/
theorem inv_job_sync_fault (h : Inv cfg s d)
    (hj : s.job = some j) (hpc : j.pc = .sync) {o : Outcome} (ho : o.failed = true)
    (hs : stepJob cfg s d j rot o = some (s', d')) : Inv cfg s' d' := by
  have hok := h.jobOK hj
  obtain ⟨e, he⟩ := hok.edit_some (by rw [hpc]; rfl)
  obtain ⟨m, mf, v0, v, nf0, hsy⟩ := h.at_sync hj hpc he
  have hcur := hsy.parts.cur
  have hfd : s.manifestFd = d.current := by rw [hsy.fd, hsy.current]
  rw [stepJob_sync_fault hpc hsy.fd he ho] at hs
  simp only [Option.some.injEq, Prod.mk.injEq] at hs
  obtain ⟨rfl, rfl⟩ := hs
  have hb := h.bounds (h.not_crashed hj)
  have hshape := hok.shape_at he
  obtain ⟨m1, m2, m3⟩ := hsy.mirror
  have hmirE : MirrorE s e v := by rw [hsy.view_eq]; exact hsy.mirror.edit e _
  have hcom := hok.committed (by rw [hpc]; rfl)
  rw [hsy.lastView] at hcom
  have hcom : ∀ o ∈ j.outs, o.1 ∈ v.live ∧ lookup d.tables o.1 = some ⟨o.2, true, false⟩ := hcom
  have hlen : mf.unsynced.length = 1 := by rw [hsy.unsynced]; rfl
  obtain ⟨v0', hv0e, hvok0, _⟩ := hsy.parts.views 0 (Nat.zero_le _)
  rw [hsy.parts.hv0] at hv0e; cases hv0e
  have hbv0 := hb.all mf hcur 0 (Nat.zero_le _) v0 hsy.parts.hv0
  have hbv := hb.all mf hcur _ (Nat.le_refl _) v hsy.viewLast
  rw [seqHi_post hj (by rw [hpc]; rfl)] at hbv0 hbv
  have hod : ∀ o ∈ j.outs, lookup d.tables o.1 = some ⟨o.2, true, false⟩ := fun o ho => (hcom o ho).2
  have hfr0' : ∀ o ∈ j.outs, v0.nf ≤ o.1 := fun o ho => hsy.fresh o.1 (by
    rw [hshape.1]; exact List.mem_map.2 ⟨o, ho, rfl⟩)
  -- whether the `Sync` took effect or not, an admissible view of the manifest is `v0` (the record lost) or `v`
  have hP0 : Ahead.View s j v0 := ⟨hbv0.1, hbv0.2.1, hbv0.2.2, fun o ho => Or.inl (hfr0' o ho)⟩
  have hPv : Ahead.View s j v := ⟨hbv.1, hbv.2.1, hbv.2.2, fun o ho => Or.inr (hcom o ho).1⟩
  have ha : ∃ mf', Ahead cfg s d (d.exec (.sync .manifest m) o) j e mf' := by
    cases o with
    | ok => cases ho
    | failNoEffect =>
      refine ⟨mf, rfl, rfl, h.disk, h.mm, hcur, fun k hk => ?_, by rw [hsy.viewLast]; exact hmirE, Or.inl hfd,
        h.cur_lt hj, ?_⟩
      · rw [hlen] at hk
        rcases Nat.eq_zero_or_pos k with hk0 | hk0
        · rw [hk0, hsy.parts.hv0]; exact hP0
        · have : k = mf.unsynced.length := by omega
          rw [this, hsy.viewLast]; exact hPv
      · simp only [Holds, hcur, hsy.parts.hv0, Nat.le_refl]
    | failEffect =>
      have hcs : curManifest { d with manifests := d.manifests.modify m (·.sync) } = some mf.sync := by
        rw [curManifest_modify hsy.current, hcur]; rfl
      refine ⟨mf.sync, rfl, rfl, h.disk.manifest_sync hsy.current, h.mm.sync hsy.current ⟨_, _, h.disk⟩, hcs,
        fun k hk => ?_, ?_, Or.inl hfd, h.cur_lt hj, ?_⟩
      · have : k = 0 := by rw [LogFile.sync_unsynced] at hk; exact Nat.le_zero.1 hk
        rw [this, viewAt_sync, hsy.viewLast]; exact hPv
      · rw [LogFile.sync_unsynced, List.length_nil, viewAt_sync, hsy.viewLast]; exact hmirE
      · rw [viewAt_sync, hsy.viewLast]
        simp only [Holds, hcur, hsy.parts.hv0]
        exact hsy.jn0
  obtain ⟨mf', ha⟩ := ha
  have hin := hok.inputs_at he
  refine h.enter_limbo_core hj he (by rw [hpc]; rfl) ⟨?_, hsy.sq, ?_⟩ (InputsOK.of_stored hin hshape.1 hod hsy.inputs) hod ha
  · have : v.jn = e.jn.getD v0.jn := by rw [hsy.view_eq]
    rw [← m2, ← this]
    exact hsy.jn0
  · exact hvok0.live_clause (s := s) (e := e) (j := j) m1 m3 hshape.1 hfr0'

theorem stepJob_append_normal_failEffect {m : Nat}
    (hpc : j.pc = .append) (he : j.edit = some e) (hopen : s.manifestOpen = true) (hm : s.manifestFd = some m)
    (hmf : s.manifestFailed = false) :
    stepJob cfg s d j false .failEffect =
      some (failTo { s with manifestFailed := true, limbo := some e } j .append,
            { d with manifests := d.manifests.modify m (·.append { e with nf := s.nextFile }) }) := by
  simp [stepJob, hpc, he, hopen, hm, hmf, Disk.exec, Disk.apply, Outcome.failed]

/-- **the first shape of D10**: the append of the commit's record to the manifest reports an error after the record
    reached the file.  The commit fails (`manifestFailed`), every crash image may show the edit: `St.limbo`.
    The storage is that after a successful append, the session that after the `Sync` that follows it has failed
    without effect: the step is the composition of the two. -/
theorem inv_job_append_normal_failEffect (hg : cfg.Good) (h : Inv cfg s d)
    (hj : s.job = some j) (hpc : j.pc = .append) (hopen : s.manifestOpen = true) (hmfl : s.manifestFailed = false)
    (hs : stepJob cfg s d j false .failEffect = some (s', d')) : Inv cfg s' d' := by
  cases he : j.edit with
  | none => simp [stepJob, hpc, he] at hs
  | some e =>
    cases hm : s.manifestFd with
    | none => simp [stepJob, hpc, he, hopen, hm, hmfl] at hs
    | some m =>
      rw [stepJob_append_normal_failEffect hpc he hopen hm hmfl] at hs
      cases hs
      have h1 := inv_job_append_normal hg h hj hpc hopen hmfl (stepJob_append_normal hg hpc he hopen hm hmfl)
      exact inv_job_sync_fault (rot := false) (o := .failNoEffect) h1 rfl rfl rfl
        (stepJob_sync_fault (j := { j with pc := .sync }) rfl hm he rfl)

/-! ## the ghost edit `St.limbo`: which steps write it, and the standing condition -/

theorem map_pair_eq_some {f : Option St} {d d' : Disk} {s' : St} :
    f.map (·, d) = some (s', d') ↔ f = some s' ∧ d = d' := by
  cases f <;> simp

theorem failTo_limbo_none {s : St} (j : Job) (pc : JPc) (h : s.limbo = none) : (failTo s j pc).limbo = none := by
  unfold failTo giveUp; split <;> first | rfl | exact h

theorem finishJob_limbo (s : St) (j : Job) : (finishJob s j).limbo = s.limbo := by
  unfold finishJob
  split <;> try rfl
  split <;> rfl

/-- A job step outside the three shapes `noD10`/`noD26` exclude never puts the storage ahead of the session.
    `stepJob` writes `limbo` in three branches only: `append` failing with effect on the open manifest, `sync` failing
    (both `noD10`), `rotSetMeta` failing with effect while the cleanup keeps the file (`noD26`); every other branch keeps
    it (`goto`, `failTo`, `finishJob`, `install`) or clears it (`giveUp`, a successful `SetMeta`, `rotRemove`). -/
theorem stepJob_limbo_none {cfg : Cfg} {s : St} {d : Disk} {j : Job} {rot : Bool} {o : Outcome}
    (hj : s.job = some j) (hl : s.limbo = none)
    (h10 : (Act.job rot o).noD10 s = true) (h26 : (Act.job rot o).noD26 s = true)
    {s' : St} {d' : Disk} (hs : stepJob cfg s d j rot o = some (s', d')) : s'.limbo = none := by
  simp only [Act.noD10, Act.noD26, hj] at h10 h26
  unfold stepJob at hs
  extract_lets goto at hs   -- keeps the 22-field state updates out of the terms `split` works on
  repeat' split at hs
  all_goals first
    | (simp only [Option.some.injEq, Prod.mk.injEq] at hs
       obtain ⟨rfl, _⟩ := hs
       first
         | exact hl
         | rfl
         | (rw [finishJob_limbo]; exact hl)
         | (apply failTo_limbo_none; first | exact hl | rfl | (simp_all; done))
         | (simp only [giveUp, install]; exact hl)
         | (simp_all; done)
         | (exfalso; cases o <;> simp_all [Outcome.failed]))
    | cases hs

/-- only a job step writes `limbo` at all -/
theorem step_limbo_none {cfg : Cfg} {s : St} {d : Disk} {a : Act} (hok : a.faultsOK (s, d) = true)
    (hl : s.limbo = none) {s' : St} {d' : Disk} (hs : step cfg s d a = some (s', d')) : s'.limbo = none := by
  cases a with
  | job rot o =>
    rw [Act.faultsOK, Bool.and_eq_true] at hok
    simp only [step] at hs
    cases hj : s.job with
    | none => rw [hj] at hs; cases hs
    | some j =>
      rw [hj] at hs
      exact stepJob_limbo_none hj hl hok.1 hok.2 hs
  | crash ch | exit => cases hs; rfl
  | flushStart | recOpen | recStep | compactStart _ | trBegin | trPut _ | trCommit =>
    obtain ⟨h1, -⟩ := map_pair_eq_some.1 hs
    simp only [flushStart, recOpen, recStep, compactStart, stepTr] at h1
    repeat' split at h1
    all_goals (cases h1 <;> exact hl)
  | trDiscard =>
    simp only [step] at hs
    split at hs
    · obtain ⟨h1, -⟩ := map_pair_eq_some.1 hs
      simp only [stepTr] at h1
      repeat' split at h1
      all_goals (cases h1 <;> exact hl)
    · simp only [trDiscardJob] at hs
      repeat' split at hs
      all_goals (cases hs <;> exact hl)
  | _ =>
    simp only [step, stepWriter] at hs
    repeat' split at hs
    all_goals (cases hs <;> exact hl)

/-- the standing condition of the state-machine proof: while the storage may be one edit ahead of the session
    (`St.limbo`), `Discard` must leave the tables of a failed commit alone (commit 5cf4e90) -/
def LimboSafe (cfg : Cfg) (s : St) : Prop := s.limbo = none ∨ cfg.discardKeepsTablesWhenUncertain = true

def InvL (cfg : Cfg) (s : St) (d : Disk) : Prop := Inv cfg s d ∧ LimboSafe cfg s

theorem limboSafe_step {cfg : Cfg} {s : St} {d : Disk} {a : Act} (hl : LimboSafe cfg s)
    (ha : a.faultsOK (s, d) = true) {s' : St} {d' : Disk} (hs : step cfg s d a = some (s', d')) : LimboSafe cfg s' :=
  hl.imp (fun hl => step_limbo_none ha hl hs) id

/-- the pcs whose step does no storage operation -/
theorem stepJob_no_op (o : Outcome)
    (hpc : j.pc = .install ∨ j.pc = .rmJ [] ∨ j.pc = .rmT [] ∨ j.pc = .rmM [] ∨ j.pc = .done ∨ j.pc = .earlyRm) :
    stepJob cfg s d j rot o = stepJob cfg s d j rot .ok := by
  rcases hpc with e | e | e | e | e | e <;> simp [stepJob, e]

/-- the repairs of D26 (commits 8a67fea, 98bd5c2) -/
def Cfg.D26Repaired (cfg : Cfg) : Prop :=
  cfg.cleanupChecksCurrent = true ∧ cfg.cleanupKeepsWhenGetMetaFails = true

/-- every step of a job preserves the invariant, whatever its storage operation answers — except, in the code before
    the repair of D26, a `SetMeta` that fails after it took effect -/
theorem inv_job_step_any (hg : cfg.Good) (h : Inv cfg s d)
    (hj : s.job = some j) {o : Outcome}
    (h26 : (Act.job rot o).noD26 s = true ∨ cfg.D26Repaired)
    (hs : stepJob cfg s d j rot o = some (s', d')) : Inv cfg s' d' := by
  simp only [Act.noD26, hj] at h26
  -- a pc without a storage operation steps as if the operation had succeeded
  have hnoop : (j.pc = .install ∨ j.pc = .rmJ [] ∨ j.pc = .rmT [] ∨ j.pc = .rmM [] ∨ j.pc = .done ∨ j.pc = .earlyRm) →
      stepJob cfg s d j rot .ok = some (s', d') := fun hp => by rw [← stepJob_no_op o hp]; exact hs
  -- a removal that fails is only logged; one that reports an error after it took effect is the removal
  have hrm : ∀ {n rest}, (j.pc = .rmJ (n :: rest) ∨ j.pc = .rmT (n :: rest) ∨ j.pc = .rmM (n :: rest)) →
      (stepJob cfg s d j rot .ok = some (s', d') → Inv cfg s' d') → Inv cfg s' d' := fun hp hok => by
    cases o with
    | ok => exact hok hs
    | failNoEffect => exact inv_job_rm_fault h hj hp hs
    | failEffect => rw [stepJob_rm_failEffect hp] at hs; exact hok hs
  cases hpc : j.pc with
  | tCreate i =>
    cases o with
    | ok => exact inv_job_tCreate h hj hpc hs
    | _ => exact inv_job_table_step_fault h hj (Or.inl hpc) rfl hs
  | tWrite i =>
    cases o with
    | ok => exact inv_job_tWrite h hj hpc hs
    | _ => exact inv_job_table_step_fault h hj (Or.inr (Or.inl hpc)) rfl hs
  | tSync i =>
    cases o with
    | ok => exact inv_job_tSync h hj hpc hs
    | _ => exact inv_job_table_step_fault h hj (Or.inr (Or.inr hpc)) rfl hs
  | mkJournal =>
    cases o with
    | ok => exact inv_job_mkJournal h hj hpc hs
    | _ => exact inv_job_mkJournal_fault h hj hpc rfl hs
  | append =>
    by_cases hr : rot = true ∨ s.manifestOpen = false ∨ s.manifestFailed = true
    · cases o with
      | ok => exact inv_job_append_rotate h hj hpc hr hs
      | _ => exact inv_job_append_rotate_fault h hj hpc hr rfl hs
    · have h1 : rot = false := by cases rot <;> simp_all
      have h2 : s.manifestOpen = true := by cases hm : s.manifestOpen <;> simp_all
      have h3 : s.manifestFailed = false := by cases hm : s.manifestFailed <;> simp_all
      subst h1
      cases o with
      | ok => exact inv_job_append_normal hg h hj hpc h2 h3 hs
      | failNoEffect => exact inv_job_append_normal_fault h hj hpc h2 h3 hs
      | failEffect => exact inv_job_append_normal_failEffect hg h hj hpc h2 h3 hs
  | earlyRm =>
    -- no job is ever at `earlyRm` (`JobManifest`): a good configuration syncs the edit before it removes the journal
    exfalso
    have hok := h.jobOK hj
    obtain ⟨e, he⟩ := hok.edit_some (by rw [hpc]; rfl)
    have := hok.manifest_at he
    simp only [hpc, JobManifest] at this
  | rotWrite m =>
    cases o with
    | ok => exact inv_job_rotWrite hg h hj hpc hs
    | _ => exact inv_job_rot_fault h hj (Or.inl hpc) rfl (fun ⟨_, hm'⟩ => nomatch hpc.symm.trans hm') hs
  | rotSync m =>
    cases o with
    | ok => exact inv_job_rotSync hg h hj hpc hs
    | _ => exact inv_job_rot_fault h hj (Or.inr (Or.inl hpc)) rfl (fun ⟨_, hm'⟩ => nomatch hpc.symm.trans hm') hs
  | rotSetMeta m =>
    rw [hpc] at h26
    simp only at h26
    cases o with
    | ok => exact inv_job_rotSetMeta hg h hj hpc hs
    | failNoEffect => exact inv_job_rot_fault h hj (Or.inr (Or.inr hpc)) rfl (fun _ => rfl) hs
    | failEffect =>
      rcases h26 with h26 | ⟨c1, c2⟩
      · simp at h26
      · exact inv_job_rotSetMeta_failEffect hg h hj hpc (by rw [c1, c2]; cases rot <;> rfl) hs
  | rotRemove m => exact inv_job_rotRemove_any h hj hpc hs
  | sync =>
    cases o with
    | ok => exact inv_job_sync h hj hpc hs
    | _ => exact inv_job_sync_fault h hj hpc rfl hs
  | install => exact inv_job_install h hj hpc (hnoop (by simp [hpc]))
  | rmJ l =>
    cases l with
    | nil => exact inv_job_rmJ_nil h hj hpc (hnoop (by simp [hpc]))
    | cons n rest => exact hrm (Or.inl hpc) (inv_job_rmJ_cons h hj hpc)
  | rmT l =>
    cases l with
    | nil => exact inv_job_rmT_nil h hj hpc (hnoop (by simp [hpc]))
    | cons n rest => exact hrm (Or.inr (Or.inl hpc)) (inv_job_rmT_cons h hj hpc)
  | rmM l =>
    cases l with
    | nil => exact inv_job_rmM_nil h hj hpc (hnoop (by simp [hpc]))
    | cons n rest => exact hrm (Or.inr (Or.inr hpc)) (inv_job_rmM_cons h hj hpc)
  | done => exact inv_job_done h hj hpc (hnoop (by simp [hpc]))

/-- every step of the machine under storage faults: every failure of every storage operation except (before the repair
    of D26) a `SetMeta` that fails with effect; `LimboSafe` is the standing condition -/
theorem inv_step_anyfault (hg : cfg.Good)
    (h : Inv cfg s d) {a : Act} (hcs : a.writerFaultFree = true ∨ cfg.consumeSeqOnJournalError = true)
    (h26 : a.noD26 s = true ∨ cfg.D26Repaired) (hlim : LimboSafe cfg s)
    (hs : step cfg s d a = some (s', d')) : Inv cfg s' d' := by
  cases a with
  | job rot o =>
    simp only [step] at hs
    cases hj : s.job with
    | none => rw [hj] at hs; cases hs
    | some j =>
      rw [hj] at hs
      exact inv_job_step_any hg h hj h26 hs
  | wAppend recs sync o =>
    refine inv_wAppend_any h (fun hf => ?_) hs
    rcases hcs with h1 | h1
    · cases o <;> simp_all [Act.writerFaultFree, Outcome.failed]
    · exact h1
  | wSync o =>
    refine inv_wSync_any h (fun hf => ?_) hs
    rcases hcs with h1 | h1
    · cases o <;> simp_all [Act.writerFaultFree, Outcome.failed]
    · exact h1
  | rotate o =>
    cases o with
    | ok => exact inv_rotate h hs
    | failEffect => exact inv_rotate_failEffect h hs
    | failNoEffect =>
      -- `Create` failed, nothing happened: `newMem` returns the error
      simp only [step, stepWriter] at hs
      split at hs
      · simp only [Outcome.failed, if_true, Disk.exec, Option.some.injEq, Prod.mk.injEq] at hs
        obtain ⟨rfl, rfl⟩ := hs
        exact h
      · cases hs
  | wApply => exact inv_wApply h hs
  | wPublish => exact inv_wPublish h hs
  | wAck => exact inv_wAck h hs
  | flushStart => obtain ⟨h1, rfl⟩ := map_pair_eq_some.1 hs; exact inv_flushStart h h1
  | crash ch => cases hs; exact inv_crash hg h ch
  | exit => cases hs; exact inv_exit h
  | recOpen => obtain ⟨h1, rfl⟩ := map_pair_eq_some.1 hs; exact inv_recOpen h h1
  | recStep => obtain ⟨h1, rfl⟩ := map_pair_eq_some.1 hs; exact inv_recStep h h1
  | compactStart inputs => obtain ⟨h1, rfl⟩ := map_pair_eq_some.1 hs; exact inv_compactStart h h1
  | trBegin | trPut _ | trCommit => obtain ⟨h1, rfl⟩ := map_pair_eq_some.1 hs; exact inv_stepTr h h1
  | trDiscard =>
    simp only [step] at hs
    split at hs
    · obtain ⟨h1, rfl⟩ := map_pair_eq_some.1 hs; exact inv_stepTr h h1
    · exact inv_trDiscardJob h hlim hs

/-- every step of the machine under storage faults: every failure of every storage operation except D10 and D26 -/
theorem inv_step_faults {cfg : Cfg} (hg : cfg.Good) {s : St} {d : Disk}
    (h : InvL cfg s d) {a : Act} (hcs : a.writerFaultFree = true ∨ cfg.consumeSeqOnJournalError = true)
    (ha : a.faultsOK (s, d) = true) {s' : St} {d' : Disk}
    (hs : step cfg s d a = some (s', d')) : InvL cfg s' d' := by
  have ha' := ha
  simp only [Act.faultsOK, Bool.and_eq_true] at ha'
  exact ⟨inv_step_anyfault hg h.1 hcs (Or.inl ha'.2) h.2 hs,
    limboSafe_step h.2 ha hs⟩

/-- the repaired configuration: D10 (commit 5cf4e90) and D26 (commits 8a67fea, 98bd5c2) -/
structure Cfg.Repaired (cfg : Cfg) : Prop where
  good : cfg.Good
  cs : cfg.consumeSeqOnJournalError = true
  d10 : cfg.discardKeepsTablesWhenUncertain = true
  d26 : cfg.D26Repaired

/-- **every step of the repaired machine, whatever its storage operation answers** -/
theorem inv_step_repaired {cfg : Cfg} (hr : cfg.Repaired) {s : St} {d : Disk}
    (h : InvL cfg s d) {a : Act} {s' : St} {d' : Disk}
    (hs : step cfg s d a = some (s', d')) : InvL cfg s' d' :=
  ⟨inv_step_anyfault hr.good h.1 (Or.inr hr.cs) (Or.inr hr.d26) h.2 hs, Or.inr hr.d10⟩

theorem run_preserves {cfg : Cfg} {I : St × Disk → Prop} {P : Act → Prop}
    (hstep : ∀ s d a s' d', I (s, d) → P a → step cfg s d a = some (s', d') → I (s', d'))
    {sd sd' : St × Disk} (h : I sd) (as : List Act) (hP : ∀ a ∈ as, P a) (hr : run cfg sd as = some sd') : I sd' := by
  induction as generalizing sd with
  | nil => cases hr; exact h
  | cons a as ih =>
    obtain ⟨s, d⟩ := sd
    simp only [run] at hr
    cases hs : step cfg s d a with
    | none => rw [hs] at hr; cases hr
    | some sd1 =>
      rw [hs] at hr
      exact ih (hstep s d a _ _ h (hP a List.mem_cons_self) hs) (fun b hb => hP b (List.mem_cons_of_mem _ hb)) hr

/-- `run_preserves` for runs whose actions are admitted by a test on the state they are taken in (`Allowed`) -/
theorem run_allowed_preserves {I : St × Disk → Prop} {P : St × Disk → Act → Bool}
    (hstep : ∀ s d a s' d', I (s, d) → P (s, d) a = true → step cfg s d a = some (s', d') → I (s', d'))
    {sd sd' : St × Disk} (h : I sd) (as : List Act)
    (hal : Allowed cfg P sd as) (hr : run cfg sd as = some sd') : I sd' := by
  induction as generalizing sd with
  | nil =>
    simp only [run] at hr
    cases hr
    exact h
  | cons a as ih =>
    simp only [run] at hr
    unfold Allowed allowed at hal
    rw [Bool.and_eq_true] at hal
    obtain ⟨ha, hrest⟩ := hal
    cases hst : step cfg sd.1 sd.2 a with
    | none => rw [hst] at hr; simp at hr
    | some sd1 =>
      rw [hst] at hr hrest
      simp only at hr hrest
      exact ih (hstep sd.1 sd.2 a sd1.1 sd1.2 h ha hst) hrest hr

theorem inv_run_faults {cfg : Cfg} (hg : cfg.Good) (hcs : cfg.consumeSeqOnJournalError = true) {sd sd' : St × Disk}
    (h : Inv cfg sd.1 sd.2) (as : List Act)
    (hal : Allowed cfg Act.faultsOK sd as) (hr : run cfg sd as = some sd') (hl : sd.1.limbo = none := by rfl) :
    Inv cfg sd'.1 sd'.2 :=
  (run_allowed_preserves (I := fun sd => InvL cfg sd.1 sd.2)
    (fun _ _ _ _ _ h ha hs => inv_step_faults hg h (Or.inr hcs) ha hs) ⟨h, Or.inl hl⟩ as hal hr).1

theorem faultsOK_of_jobFaultsOnly {sd : St × Disk} {a : Act} (h : a.jobFaultsOnly sd.1 = true) :
    a.faultsOK sd = true := by
  simp only [Act.jobFaultsOnly, Act.faultsOK, Bool.and_eq_true] at h ⊢
  exact ⟨h.1.2, h.2⟩

/-- the job faults alone (`Act.jobFaultsOnly`): no journal operation of the write path fails; no assumption on
    `consumeSeqOnJournalError` is needed -/
theorem inv_run_jobFaults {cfg : Cfg} (hg : cfg.Good) {sd sd' : St × Disk} (h : Inv cfg sd.1 sd.2)
    (as : List Act)
    (hal : Allowed cfg (fun sd a => a.jobFaultsOnly sd.1) sd as) (hr : run cfg sd as = some sd')
    (hl : sd.1.limbo = none := by rfl) : Inv cfg sd'.1 sd'.2 :=
  (run_allowed_preserves (I := fun sd => InvL cfg sd.1 sd.2) (P := fun sd a => a.jobFaultsOnly sd.1) (fun s d a _ _ h ha hs => by
    have ha' : a.jobFaultsOnly s = true := ha
    have hf := faultsOK_of_jobFaultsOnly (sd := (s, d)) ha'
    simp only [Act.jobFaultsOnly, Bool.and_eq_true] at ha'
    exact inv_step_faults hg h (Or.inl ha'.1.1) hf hs) ⟨h, Or.inl hl⟩ as hal hr).1

theorem inv_run_repaired {cfg : Cfg} (hrep : cfg.Repaired) {sd sd' : St × Disk} (h : Inv cfg sd.1 sd.2) (as : List Act)
    (hr : run cfg sd as = some sd') : Inv cfg sd'.1 sd'.2 :=
  (run_preserves (I := fun sd => InvL cfg sd.1 sd.2) (P := fun _ => True)
    (fun _ _ _ _ _ h _ hs => inv_step_repaired hrep h hs) ⟨h, Or.inr hrep.d10⟩ as (fun _ _ => trivial) hr).1

end GoLevel.Dur

import GoLevel.Proofs.CacheVal
/-! Where the guard on `Close` is used.  After `Close`, a pending `unRefExternal` zero branch / finaliser belongs to a
node whose counter is not positive (`zr`).  In the guarded system it refers to a node that is still in the (detached)
table (`fe`) — `Close` waited for the threads that were in the zero branch, and nothing is removed from the table after
`Close` — so `Node.callFinalizer` never goes through a stale pointer; with the repaired `mBucket.delete` it may, but
finds no delFuncs in a removed node (`cd`): either way no delFunc runs a second time (`ns`). -/
namespace GoLevel.CacheM

theorem zr_step {g sh Q sh' i push evs} (h : InvP g sh (i :: Q))
    (he : exec sh i = some (sh', push, evs))
    (hguard : ∀ f, i = .closeLock f → g = true → ∀ j ∈ Q, isExtz j = false) :
    Eff g sh' = true → sh'.closed = true → sh'.forced = false → ∀ j ∈ push ++ Q, ∀ id, zeroRef g j = some id →
      ∀ n ∈ sh'.nodes, n.id = id → n.ref ≤ 0 := by
  intro hg hc hf j hj id hz n' hn' hid
  rcases exec_closed he with ⟨hc0, _⟩ | ⟨f, rfl, _, hso, _, _, rfl, _⟩
  · have hsc : sh.closed = true := hc0 ▸ hc
    have hg0 : Eff g sh = true := by unfold Eff at hg ⊢; rwa [(exec_ghost he).2.1] at hg
    have hf0 := forced_back h he hf
    obtain ⟨n, hn, e⟩ := closed_node_from he hsc hn'
    -- after `Close` counters only fall
    have hle : n'.ref ≤ n.ref := by
      rcases (node_step h he hn hn' e.symm).ref with h1 | ⟨_, ho⟩ | ⟨h1, _⟩ | rfl
      · omega
      · rw [h.cl hsc i List.mem_cons_self] at ho; cases ho
      · omega
      · have := h.fo hf0 _ List.mem_cons_self; simp [forcedOnly] at this
    have old : ∀ j ∈ i :: Q, zeroRef g j = some id → n'.ref ≤ 0 := fun j hj hz => by
      have := h.zr hg0 hsc hf0 j hj id hz n hn (e.trans hid); omega
    rcases List.mem_append.mp hj with hj | hj
    · rcases (exec_pushes he j hj).zeroRef hz with h2 | ⟨m, hm, hmid, h0⟩ | ⟨k, rfl, hre⟩
      · exact old i List.mem_cons_self h2
      · rw [same_of_id (ids_step h he).1 hn' hm (hid.trans hmid.symm), h0]; exact Int.le_refl 0
      · -- the zero branch after `Close`: guarded, the counter is still zero; otherwise it has been re-checked
        cases g with
        | true => exact old _ List.mem_cons_self (by simp [zeroRef])
        | false =>
          have hrc : sh.recheck = true := by simpa [Eff] using hg0
          have hfind : findId sh.nodes id = some n := (e.trans hid) ▸ findId_of_mem h.ids.1 hn
          simp only [refNonZero, hfind, hrc, Bool.true_and, decide_eq_false_iff_not, ne_eq, Decidable.not_not] at hre
          omega
    · exact old j (List.mem_cons_of_mem _ hj) hz
  · -- the step is `Close`: nothing it pushes is a zero branch, and the guard kept the pending ones out
    exfalso
    rcases List.mem_append.mp hj with hj | hj
    · rcases mem_closeInstrs hj with ⟨_, rfl⟩ | ⟨_, rfl⟩ | ⟨_, rfl⟩ <;> cases hz
    · have h2 := (h.op hso).1 j (List.mem_cons_of_mem _ hj)
      cases j <;> simp [zeroRef, closedOnly] at hz h2
      all_goals (have := hguard _ rfl hz.1 _ hj; simp [isExtz] at this)

theorem fe_step {g sh Q sh' i push evs} (h : InvP g sh (i :: Q))
    (he : exec sh i = some (sh', push, evs))
    (hguard : ∀ f, i = .closeLock f → g = true → ∀ j ∈ Q, isExtz j = false) :
    g = true → sh'.closed = true → ∀ j ∈ push ++ Q, ∀ id, finTarget j = some id →
      ∃ n ∈ sh'.nodes, n.id = id := by
  intro hg hc' j hj id hid
  rcases exec_closed he with ⟨hc, _⟩ | ⟨f, rfl, _, hso, _, _, _, hn⟩
  · have hsc : sh.closed = true := hc ▸ hc'
    have hfe := h.fe hg hsc
    -- after `Close` nothing is removed from the table
    suffices hold : ∃ n ∈ sh.nodes, n.id = id by
      obtain ⟨n, hn, rfl⟩ := hold
      exact (exec_node_to he hn).resolve_right fun h => by rw [hsc] at h; cases h.1
    rcases List.mem_append.mp hj with hj | hj
    · rcases (exec_pushes he j hj).finTarget hid with h1 | h1
      · exact h1
      · exact hfe _ List.mem_cons_self id h1
    · exact hfe j (List.mem_cons_of_mem _ hj) id hid
  · rw [hn]
    rcases List.mem_append.mp hj with hj | hj
    · rcases (exec_pushes he j hj).finTarget hid with h1 | h1
      · exact h1
      · cases h1
    · -- `Close` waited for the threads in the zero branch; a finaliser is not pending on an open cache
      exfalso
      have h1 := hguard f rfl hg j hj
      have h2 := (h.op hso).1 j (List.mem_cons_of_mem _ hj)
      cases j <;> first | (cases h1; done) | (cases h2; done) | cases hid

/-- Clause `ns`: no `callFinalizer` runs delFuncs a second time. -/
theorem ns_step {g sh Q sh' i push evs} (h : InvP g sh (i :: Q))
    (he : exec sh i = some (sh', push, evs)) : (g = true ∨ sh'.clearDel = true) → sh'.stale = false := by
  intro hg
  obtain ⟨hcl, _, hgh⟩ := exec_ghost he
  rw [hcl] at hg
  rcases hgh with ⟨hs, _⟩ | ⟨_, hs, _⟩ | ⟨id, f, n, rfl, hn, hd, hs, _⟩
  · rw [hs]; exact h.ns hg
  · rw [hs]; exact h.ns hg
  · rcases hg with hg | hc
    · -- a guarded `callFinalizer` finds its node in the table
      have hclosed : sh.closed = true := by
        cases hc : sh.closed with
        | true => rfl
        | false => exact absurd ((h.op hc).1 _ List.mem_cons_self) (by simp [closedOnly])
      obtain ⟨n, hn', hid⟩ := h.fe hg hclosed _ List.mem_cons_self id rfl
      exact absurd hid (findId_none hn n hn')
    · -- the repaired `mBucket.delete` left no delFuncs in the node it removed
      rw [hs, h.ns (.inr hc), h.cd hc n (findId_some hd).1]; rfl

/-- Clause `cd`: with the repaired `mBucket.delete`, a node removed from its bucket has no delFuncs left. -/
theorem cd_step {g sh Q sh' i push evs} (h : InvP g sh (i :: Q))
    (he : exec sh i = some (sh', push, evs)) : sh'.clearDel = true → ∀ n ∈ sh'.dead, n.delFuncs = [] := by
  intro hc m hm
  obtain ⟨hcl, _, hgh⟩ := exec_ghost he
  rw [hcl] at hc
  rcases hgh with ⟨_, hd⟩ | ⟨n, _, hd⟩ | ⟨id, f, n, _, _, _, _, hd⟩ <;> rw [hd] at hm
  · exact h.cd hc m hm
  · rcases List.mem_cons.mp hm with rfl | hm
    · show (if sh.clearDel = true then [] else n.delFuncs) = []
      rw [if_pos hc]
    · exact h.cd hc m hm
  · obtain ⟨m0, hm0, rfl⟩ := mem_upd.mp hm
    split
    · rfl
    · exact h.cd hc m0 hm0

end GoLevel.CacheM

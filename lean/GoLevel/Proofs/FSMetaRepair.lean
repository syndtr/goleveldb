import GoLevel.Proofs.FSMetaCalm
/-!
# The repair at the end of a read-write `GetMeta`, on any directory

The directory is treated as a finite map (`Dir.get_set`, `Dir.get_del`, `FS.mem_pending`).  In a calm world
`setMeta fd` succeeds and leaves `CURRENT` = the canonical pointer to `fd`, creates no pending file and touches no
other file (`setMeta_calm`); `removeAll` then unlinks every pending file there was.  So whenever a fault-free
read-write `GetMeta` answers `fd`, it leaves a directory whose `CURRENT` names `fd`, without pending files
(`repair_calm`), on which `GetMeta` answers `fd` (`answer_settled`), also after another file has been removed:
`getMeta_repairs`, `getMeta_repairs_rm`.  The one hypothesis, `PendOK`, excludes directory entries without an inode,
which `FS.ino` would read as a default content.
-/
namespace GoLevel.FSMeta

theorem getL_delL (l : List (Name × Nat)) (n m : Name) : getL (delL l n) m = if n = m then none else getL l m := by
  induction l with
  | nil => simp [delL, getL]
  | cons x r ih =>
    obtain ⟨k, i⟩ := x
    by_cases hk : k = n <;> by_cases hm : k = m <;> by_cases hn : n = m <;> simp_all [delL, getL]

theorem Dir.get_set (d : Dir) (n : Name) (i : Nat) (m : Name) :
    (d.set n i).get m = if n = m then some i else d.get m := by
  simp only [Dir.set, Dir.get, getL, getL_delL]; split <;> rfl

theorem Dir.get_del (d : Dir) (n m : Name) : (d.del n).get m = if n = m then none else d.get m := getL_delL _ _ _

theorem FS.vdir_op (fs : FS) (o : DirOp) : (fs.op o).vdir = fs.vdir.apply o := by
  simp [FS.op, FS.vdir, List.foldl_append]

theorem mem_pendNums {l : List (Name × Nat)} {k : Nat} : k ∈ pendNums l ↔ getL l (.pend k) ≠ none := by
  induction l with
  | nil => simp [pendNums, getL]
  | cons x r ih =>
    obtain ⟨n, i⟩ := x
    cases n with
    | pend j => by_cases hj : j = k <;> simp_all [pendNums, getL, eq_comm]
    | _ => simp [pendNums, getL, ih]

theorem mem_insDesc {x y : Nat} {l : List Nat} : y ∈ insDesc x l ↔ y = x ∨ y ∈ l := by
  induction l with
  | nil => simp [insDesc]
  | cons z r ih => simp only [insDesc]; split <;> simp [ih, or_left_comm]

theorem mem_sortDesc {x : Nat} {l : List Nat} : x ∈ sortDesc l ↔ x ∈ l := by
  induction l with
  | nil => simp [sortDesc]
  | cons z r ih => simp only [sortDesc, List.foldr_cons, mem_insDesc, List.mem_cons] at ih ⊢; rw [ih]

theorem FS.mem_pending {fs : FS} {k : Nat} : k ∈ fs.pending ↔ fs.vdir.get (.pend k) ≠ none :=
  mem_sortDesc.trans mem_pendNums

theorem FS.pending_nil {fs : FS} (h : ∀ k, fs.vdir.get (.pend k) = none) : fs.pending = [] :=
  List.eq_nil_iff_forall_not_mem.2 fun k hk => FS.mem_pending.1 hk (h k)

def PendOK (fs : FS) : Prop := ∀ k j, fs.vdir.get (.pend k) = some j → j < fs.inodes.length

/-- the directory `OpenFile` leaves: the name is linked to the inode it returns (which exists, provided the inode the
    name was linked to did), no other name changes -/
theorem openEff_dir (n : Name) (fs : FS) :
    ∃ i T, openEff n fs = (.ok i, T) ∧ T.vdir.get n = some i ∧ (∀ m, m ≠ n → T.vdir.get m = fs.vdir.get m) ∧
      T.vdir.files = fs.vdir.files ∧ fs.inodes.length ≤ T.inodes.length ∧
      ((∀ j, fs.vdir.get n = some j → j < fs.inodes.length) → i < T.inodes.length) := by
  unfold openEff
  cases hg : fs.vdir.get n with
  | some i =>
    exact ⟨i, _, rfl, hg, fun _ _ => rfl, rfl, by simp [FS.setIno], fun hr => by simpa [FS.setIno] using hr i rfl⟩
  | none =>
    have hv : (⟨fs.inodes ++ [⟨.empty, .empty, true⟩], fs.ddir, fs.log ++ [.link n fs.inodes.length]⟩ : FS).vdir =
        fs.vdir.set n fs.inodes.length := FS.vdir_op fs (.link n _)
    exact ⟨_, _, rfl, by simp [hv, Dir.get_set], fun m hm => by simp [hv, Dir.get_set, Ne.symm hm],
      by rw [hv]; rfl, by simp, fun _ => by simp⟩

theorem writeFileSynced_calm (n : Name) (c : Content) {w : W} (h : Calm w) {i : Nat} {T : FS}
    (ho : openEff n w.fs = (.ok i, T)) :
    ∃ w', writeFileSynced true n c w = (.ok (), w') ∧ Calm w' ∧ w'.fs = T.setIno i fun _ => ⟨c, c, false⟩ := by
  unfold writeFileSynced
  rw [openTrunc_eq, sys_calm _ _ _ h, ho]
  simp only [write, fsync, close, if_true]
  rw [sys_calm _ _ _ (h.nxt _ _), sys_calm _ _ _ ((h.nxt _ _).nxt _ _),
    sys_calm _ _ _ (((h.nxt _ _).nxt _ _).nxt _ _)]
  exact ⟨_, rfl, (((h.nxt _ _).nxt _ _).nxt _ _).nxt _ _, by simp [setIno_setIno]⟩

/-- what a calm `setMeta fd` leaves, relative to the file system it started from -/
structure Settles (fd : FD) (fs fs' : FS) : Prop where
  cur : fs'.read .cur = some (.gen fd)
  files : fs'.vdir.files = fs.vdir.files
  pend : ∀ k, fs'.vdir.get (.pend k) ≠ none → fs.vdir.get (.pend k) ≠ none

theorem setMetaTail_calm (fd : FD) {w : W} (h : Calm w)
    (hr : ∀ j, w.fs.vdir.get (.pend fd.num) = some j → j < w.fs.inodes.length) :
    ∃ w', setMetaTail {} fd w = (.ok (), w') ∧ Calm w' ∧ Settles fd w.fs w'.fs := by
  unfold setMetaTail
  obtain ⟨i, T, ho, g1, fr, ff, _, hi⟩ := openEff_dir (.pend fd.num) w.fs
  obtain ⟨w1, e1, c1, f1⟩ := writeFileSynced_calm (.pend fd.num) (.gen fd) h ho
  have hv : (w1.fs.ino i).vol = .gen fd := by simp [f1, FS.setIno, FS.ino, hi hr]
  rw [show T.vdir = w1.fs.vdir by rw [f1]; rfl] at g1 fr ff
  simp only [e1, rename, syncDir, if_true]
  rw [sys_calm _ _ _ c1]
  simp only [g1]
  rw [sys_calm _ _ _ (c1.nxt _ _)]
  refine ⟨_, rfl, (c1.nxt _ _).nxt _ _, ?_⟩
  have key : ∀ F : FS, F.inodes = w1.fs.inodes → F.vdir = w1.fs.vdir.apply (.rename (.pend fd.num) .cur i) →
      Settles fd w.fs F := by
    intro F hI hV
    have hd : ∀ m, F.vdir.get m =
        if .cur = m then some i else if .pend fd.num = m then none else w1.fs.vdir.get m := fun m => by
      simp only [hV, Dir.apply, Dir.get_set, Dir.get_del]
    refine ⟨?_, ?_, fun k hk => ?_⟩
    · simp only [FS.read, hd, if_true, Option.map_some, FS.ino, hI]
      exact congrArg some hv
    · rw [← ff, hV]
      simp [Dir.apply, Dir.set, Dir.del]
    · by_cases h2 : fd.num = k
      · simp [hd, h2] at hk
      · rw [← fr _ (by simpa using Ne.symm h2)]
        simpa [hd, h2] using hk
  exact key _ rfl (FS.vdir_op _ _)

theorem setMeta_calm (fd : FD) {w : W} (h : Calm w) (hp : PendOK w.fs) :
    ∃ w', setMeta {} fd w = (.ok (), w') ∧ Calm w' ∧ Settles fd w.fs w'.fs := by
  unfold setMeta stat
  rw [sys_calm _ _ _ h]
  cases hg : w.fs.vdir.get .cur with
  | none => exact setMetaTail_calm fd (h.nxt _ _) (hp _)
  | some i =>
    simp only [Option.isSome_some, if_true, readFile]
    rw [sys_calm _ _ _ (h.nxt _ _)]
    simp only [nxt_fs, FS.read, hg, Option.map_some]
    by_cases hb : (w.fs.ino i).vol = .gen fd
    · simp only [hb, decide_true, Bool.and_self, if_true]
      exact ⟨_, rfl, (h.nxt _ _).nxt _ _, by simp [FS.read, hg, hb], rfl, fun _ hk => hk⟩
    · simp only [hb, decide_false, Bool.and_false, Bool.false_eq_true, if_false]
      obtain ⟨j, T, ho, _, fr, ff, hl, _⟩ := openEff_dir .bak w.fs
      obtain ⟨w1, e1, c1, f1⟩ := writeFileSynced_calm .bak (w.fs.ino i).vol
        (w := nxt .read w.fs (nxt .stat w.fs w)) ((h.nxt _ _).nxt _ _) ho
      rw [show T.vdir = w1.fs.vdir by rw [f1]; rfl] at fr ff
      rw [show T.inodes.length = w1.fs.inodes.length by simp [f1, FS.setIno]] at hl
      simp only [e1]
      obtain ⟨w2, e2, c2, s2⟩ := setMetaTail_calm fd c1
        (fun j hj => Nat.lt_of_lt_of_le (hp _ j (by rw [← hj]; exact (fr _ (by simp)).symm)) hl)
      have fr' : ∀ k, w1.fs.vdir.get (.pend k) = w.fs.vdir.get (.pend k) := fun k => fr _ (by simp)
      exact ⟨w2, e2, c2, s2.cur, s2.files.trans ff, fun k hk => by rw [← fr']; exact s2.pend k hk⟩

theorem remove_calm (n : Name) {w : W} (h : Calm w) :
    Calm (remove n w).2 ∧ (remove n w).2.fs.inodes = w.fs.inodes ∧
    (remove n w).2.fs.vdir.files = w.fs.vdir.files ∧
    ∀ m, (remove n w).2.fs.vdir.get m = if n = m then none else w.fs.vdir.get m := by
  unfold remove
  rw [sys_calm _ _ _ h]
  cases hn : w.fs.vdir.get n with
  | none =>
    refine ⟨h.nxt _ _, rfl, rfl, fun m => ?_⟩
    by_cases e : n = m
    · simp [← e, hn]
    · simp [e]
  | some j =>
    exact ⟨h.nxt _ _, rfl, by simp [FS.vdir_op, Dir.apply, Dir.del], fun m => by
      simp [FS.vdir_op, Dir.apply, Dir.get_del]⟩

theorem removeAll_calm (ns : List Name) {w : W} (h : Calm w) :
    Calm (removeAll ns w) ∧ (removeAll ns w).fs.inodes = w.fs.inodes ∧
    (removeAll ns w).fs.vdir.files = w.fs.vdir.files ∧
    ∀ m, (removeAll ns w).fs.vdir.get m = if m ∈ ns then none else w.fs.vdir.get m := by
  induction ns generalizing w with
  | nil => exact ⟨h, rfl, rfl, fun m => by simp [removeAll]⟩
  | cons n r ih =>
    obtain ⟨c1, i1, f1, g1⟩ := remove_calm n h
    obtain ⟨c, hi, hf, hg⟩ := ih c1
    refine ⟨c, hi.trans i1, hf.trans f1, fun m => ?_⟩
    simp only [removeAll, hg, g1, List.mem_cons]
    by_cases hm : m ∈ r <;> by_cases e : n = m <;> simp [hm, e, eq_comm]

/-- the descriptor `CURRENT` holds -/
def FS.names (fs : FS) : Option FD := (fs.read .cur).bind Content.parse

theorem look_ok {fs : FS} {n : Name} {fd : FD} (h : look fs n = .ok fd) :
    ∃ c, fs.read n = some c ∧ c.parse = some fd ∧ fs.vdir.files fd = true := by
  unfold look at h
  cases hr : fs.read n with
  | none => simp [hr] at h
  | some c =>
    cases hp : c.parse with
    | none => simp [hr, hp] at h
    | some x =>
      simp only [hr, hp] at h
      split at h
      · cases h; exact ⟨c, rfl, hp, by assumption⟩
      · cases h

theorem lookAll_ok {fs : FS} {ns : List Name} {lc : Bool} {c : Name × FD} (h : lookAll fs ns lc = .ok c) :
    look fs c.1 = .ok c.2 := by
  induction ns generalizing lc with
  | nil => simp [lookAll] at h
  | cons n r ih =>
    unfold lookAll at h
    split at h
    · cases h; assumption
    · exact ih h
    · exact ih h
    · cases h

theorem choose_some {cfg : Cfg} {P C : Except Err (Name × FD)} {c : Name × FD} (h : choose cfg P C = some c) :
    P = .ok c ∨ C = .ok c := by
  unfold choose at h
  split at h
  · split at h <;> cases h <;> simp
  · cases h; simp
  · cases h; simp
  · cases h

theorem answer_ok {cfg : Cfg} {fs : FS} {fd : FD} (h : answer cfg fs = .ok fd) :
    ∃ c, choose cfg (pendAns fs) (curAns fs) = some c ∧ c.2 = fd := by
  unfold answer at h
  split at h
  · cases h; exact ⟨_, by assumption, rfl⟩
  · split at h <;> cases h

theorem answer_settled (cfg : Cfg) {fs : FS} {fd : FD} (hn : fs.names = some fd) (hp : fs.pending = [])
    (hf : fs.vdir.files fd = true) : answer cfg fs = .ok fd := by
  have hc : curAns fs = .ok (.cur, fd) := by
    unfold FS.names at hn
    cases hr : fs.read .cur with
    | none => simp [hr] at hn
    | some c =>
      have : c.parse = some fd := by simpa [hr] using hn
      simp [curAns, lookAll, look, hr, this, hf]
  simp [answer, pendAns, hp, hc, choose]

/-- `CURRENT` readable and one pending file: the pending file wins when it is readable and has the greater number -/
theorem answer_one_pending {fs : FS} {fa : FD} {ca : Bool} {n : Nat} {v : Content}
    (hc : fs.read .cur = some (.ptr fa ca)) (hf : fs.vdir.files fa = true) (hp : fs.pending = [n])
    (hv : fs.read (.pend n) = some v) :
    answer {} fs = .ok (match v.parse with
      | some fb => if fs.vdir.files fb = true ∧ fa.num < fb.num then fb else fa
      | none => fa) := by
  rw [answer_of_cur (c := (.cur, fa)) (by simp [curAns, lookAll, look, hc, hf, Content.parse])]
  cases hpv : v.parse with
  | none => simp [pendAns, hp, lookAll, look, hv, hpv]
  | some fb => by_cases hfb : fs.vdir.files fb = true <;> simp [pendAns, hp, lookAll, look, hv, hpv, hfb]

theorem repair_calm {fs : FS} (hp : PendOK fs) {fd : FD} (ha : answer {} fs = .ok fd) :
    (after {} false fs).names = some fd ∧ (after {} false fs).pending = [] ∧
    (after {} false fs).vdir.files = fs.vdir.files ∧ fs.vdir.files fd = true := by
  obtain ⟨w', f', c', e⟩ := getMeta_calm {} false (fs := fs) rfl (calm_of fs)
  obtain ⟨c, hc, rfl⟩ := answer_ok ha
  have hl : look fs c.1 = .ok c.2 := by
    rcases choose_some hc with h | h
    · unfold pendAns at h
      split at h
      · cases h
      · exact lookAll_ok h
    · exact lookAll_ok h
  obtain ⟨b, hr, hb, hf⟩ := look_ok hl
  unfold after
  rw [e]
  simp only [hc]
  unfold repair
  split
  · obtain ⟨w2, e2, c2, s2⟩ := setMeta_calm c.2 c' (by rwa [f'])
    rw [e2]
    simp only
    obtain ⟨_, hi, hfl, hg⟩ := removeAll_calm (fs.pending.map .pend) c2
    refine ⟨?_, FS.pending_nil fun k => ?_, by rw [hfl, s2.files, f'], hf⟩
    · have hrd : (removeAll (fs.pending.map .pend) w2).fs.read .cur = w2.fs.read .cur := by
        simp only [FS.read, FS.ino, hg, hi]; simp
      rw [FS.names, hrd, s2.cur]; rfl
    · rw [hg]
      split
      · rfl
      · rename_i hk
        refine Classical.byContradiction fun hne => hk ?_
        have := s2.pend k hne
        rw [f'] at this
        exact List.mem_map.2 ⟨k, FS.mem_pending.2 this, rfl⟩
  · rename_i hno
    have hno : c.1 = .cur ∧ fs.pending = [] := by simpa using hno
    rw [f']
    refine ⟨?_, hno.2, rfl, hf⟩
    rw [hno.1] at hr
    rw [FS.names, hr]; exact hb

/-- the statement of `C04FS.getmeta_repairs_partial` for every directory -/
theorem getMeta_repairs {fs : FS} (hp : PendOK fs) {fd : FD} (h : ask {} false fs = .ok fd) :
    (after {} false fs).names = some fd ∧ (after {} false fs).pending = [] ∧
    ∀ ro, ask {} ro (after {} false fs) = .ok fd := by
  obtain ⟨hn, hpe, hfl, hf⟩ := repair_calm hp (by rwa [ask_eq] at h)
  exact ⟨hn, hpe, fun ro => by rw [ask_eq]; exact answer_settled _ hn hpe (by rwa [hfl])⟩

/-- … and keeps answering `fd` when another file is then removed (`Storage.Remove`: the session's cleanup) -/
theorem getMeta_repairs_rm {fs : FS} (hp : PendOK fs) {fd fd' : FD} (h : ask {} false fs = .ok fd) (hne : fd ≠ fd')
    (ro : Bool) : ask {} ro (rmFile fd' (W.of (after {} false fs))).2.fs = .ok fd := by
  obtain ⟨hn, hpe, hfl, hf⟩ := repair_calm hp (by rwa [ask_eq] at h)
  have e : (rmFile fd' (W.of (after {} false fs))).2.fs = (after {} false fs).op (.rm fd') := by
    rw [rmFile, sys_calm _ _ _ (calm_of _)]; rfl
  rw [ask_eq, e]
  generalize after {} false fs = g at hn hpe hfl
  have hv : (g.op (.rm fd')).vdir = { g.vdir with files := fun x => if x = fd' then false else g.vdir.files x } :=
    FS.vdir_op _ _
  have hi : (g.op (.rm fd')).inodes = g.inodes := rfl
  refine answer_settled _ ?_ ?_ ?_
  · simpa [FS.names, FS.read, FS.ino, Dir.get, hv, hi] using hn
  · simpa [FS.pending, hv] using hpe
  · simpa [hv, hne, hfl] using hf

end GoLevel.FSMeta

import GoLevel.Model.Durable
/-!
# The invariant of the durable state machine

`Inv cfg s d`, inductive for the whole machine also under storage faults (`St.limbo`, `JournalHolds`, `OrphanOK`).
Everything here is a decidable proposition over lists, so that it can also be *run* on explored states.
-/
namespace GoLevel.Dur

def Holds {α : Type} (o : Option α) (P : α → Prop) : Prop :=
  match o with
  | none => False
  | some a => P a

instance {α : Type} (o : Option α) (P : α → Prop) [DecidablePred P] : Decidable (Holds o P) := by
  unfold Holds; cases o <;> infer_instance

def Holds' {α : Type} (o : Option α) (P : α → Prop) : Prop :=
  match o with
  | none => True
  | some a => P a

instance {α : Type} (o : Option α) (P : α → Prop) [DecidablePred P] : Decidable (Holds' o P) := by
  unfold Holds'; cases o <;> infer_instance

theorem holds_iff {α : Type} {o : Option α} {P : α → Prop} : Holds o P ↔ ∃ a, o = some a ∧ P a := by
  cases o <;> simp [Holds]

theorem holds_some {α : Type} {o : Option α} {P : α → Prop} {a : α} (h : Holds o P) (e : o = some a) : P a := by
  subst e; exact h

theorem holds_of_some {α : Type} {o : Option α} {P : α → Prop} {a : α} (e : o = some a) (h : P a) : Holds o P := by
  subst e; exact h

theorem Holds.imp {α : Type} {o : Option α} {P Q : α → Prop} (h : Holds o P) (f : ∀ a, P a → Q a) : Holds o Q := by
  cases o with
  | none => exact h
  | some a => exact f a h

theorem Holds'.imp {α : Type} {o : Option α} {P Q : α → Prop} (h : Holds' o P) (f : ∀ a, P a → Q a) : Holds' o Q := by
  cases o with
  | none => trivial
  | some a => exact f a h

def Disj (g h : Grp) : Prop := g = h ∨ g.fin ≤ h.seq ∨ h.fin ≤ g.seq

instance (g h : Grp) : Decidable (Disj g h) := by unfold Disj; infer_instance

/-- a journal's records as the recovery loop wants them: non-empty groups, each starting no lower than
    where the previous one ended -/
def AscFrom : Nat → List Grp → Prop
  | _, [] => True
  | s, g :: gs => s ≤ g.seq ∧ g.recs ≠ [] ∧ AscFrom g.fin gs

instance : (s : Nat) → (l : List Grp) → Decidable (AscFrom s l)
  | _, [] => isTrue trivial
  | s, g :: gs =>
    have := instDecidableAscFrom g.fin gs
    by unfold AscFrom; infer_instance

def curManifest (d : Disk) : Option (LogFile MRec) := d.current.bind (lookup d.manifests)

/-- what `session.recover` would establish if exactly `k` of the unsynced records were on disk -/
def viewAt (cfg : Cfg) (mf : LogFile MRec) (k : Nat) : Option MView :=
  (replayM cfg (mf.synced ++ mf.unsynced.take k)).view?

def tableGrpsOf (d : Disk) (t : Nat) : List Grp := ((lookup d.tables t).map (·.grps)).getD []

def liveGrps (d : Disk) (v : MView) : List Grp := v.live.flatMap (tableGrpsOf d)

/-- the journal files `recoverJournal` would replay under a view -/
def relJournals (d : Disk) (jn : Nat) : Files (LogFile Grp) := d.journals.filter (jn ≤ ·.1)

def issuedGrps (s : St) : List Grp := s.issued.map (·.grp)

/-- the groups that must survive a crash: acknowledged with `Sync`, or synced and about to be
    acknowledged -/
def must (s : St) : List Grp :=
  ((s.issued.filter fun i => i.status = .acked ∧ i.grp.sync = true).map (·.grp)) ++
  (match s.w with
   | .synced g | .applied g | .published g => if g.sync then [g] else []
   | _ => [])

/-- everything `Open` needs of one manifest view.  A record in a journal the view replays may lie below the view's
    sequence number (the record of a failed write, overtaken by the commit of a transaction): `recoverJournal`
    skips it (`replayJ`), so it must not be one that has to survive (`jseq`); whatever is in those journals is
    disjoint from what the tables hold (`tj`). -/
structure ViewOK (d : Disk) (must issued : List Grp) (v : MView) : Prop where
  tables : ∀ t ∈ v.live, t < v.nf ∧ Holds (lookup d.tables t) fun tf => tf.synced = true ∧ tf.bad = false
  tseq : ∀ g ∈ liveGrps d v, g.fin ≤ v.sq + 1 ∧ g ∈ issued ∧ g.recs ≠ []
  tdisj : ∀ g ∈ liveGrps d v, ∀ h ∈ liveGrps d v, Disj g h
  jseq : ∀ p ∈ relJournals d v.jn, ∀ g ∈ p.2.all, (v.sq ≤ g.seq ∨ g ∉ must) ∧ g ∈ issued
  tj : ∀ g ∈ liveGrps d v, ∀ p ∈ relJournals d v.jn, ∀ h ∈ p.2.all, Disj g h
  cover : ∀ g ∈ must, g ∈ liveGrps d v ∨ ∃ p ∈ relJournals d v.jn, g ∈ p.2.synced
  /-- the journal number was allocated before the record's next-file number was read -/
  jnf : v.jn < v.nf

instance (d : Disk) (must issued : List Grp) (v : MView) : Decidable (ViewOK d must issued v) :=
  decidable_of_iff _
    ⟨fun ⟨a, b, c, e, f, g, h⟩ => ⟨a, b, c, e, f, g, h⟩,
     fun h => And.intro h.tables <| And.intro h.tseq <| And.intro h.tdisj <| And.intro h.jseq <| And.intro h.tj <|
       And.intro h.cover h.jnf⟩

/-- the disk as every crash image must find it -/
structure DiskOK (cfg : Cfg) (d : Disk) (must issued : List Grp) : Prop where
  jsorted : d.journals.Pairwise (fun p q => p.1 < q.1)
  tnodup : d.tables.Pairwise (fun p q => p.1 ≠ q.1)
  mnodup : d.manifests.Pairwise (fun p q => p.1 ≠ q.1)
  /-- `CURRENT` names a manifest; every admissible prefix of it is a good view; the journal number never
      decreases along it; the journals relevant for the oldest admissible view are well ordered -/
  range : Holds (curManifest d) fun mf => Holds (viewAt cfg mf 0) fun v0 =>
    (∀ k ≤ mf.unsynced.length, Holds (viewAt cfg mf k) fun v => ViewOK d must issued v ∧ v0.jn ≤ v.jn) ∧
    (∀ p ∈ relJournals d v0.jn, AscFrom 0 p.2.all) ∧
    (∀ p ∈ relJournals d v0.jn, ∀ q ∈ relJournals d v0.jn, p.1 < q.1 →
      ∀ g ∈ p.2.all, ∀ h ∈ q.2.all, g.fin ≤ h.seq)

instance (cfg : Cfg) (d : Disk) (must issued : List Grp) : Decidable (DiskOK cfg d must issued) :=
  decidable_of_iff _
    ⟨fun ⟨a, b, c, e⟩ => ⟨a, b, c, e⟩,
     fun h => And.intro h.jsorted <| And.intro h.tnodup <| And.intro h.mnodup h.range⟩


/-- the view of the whole current manifest (what the running process has written) -/
def lastView (cfg : Cfg) (d : Disk) : Option MView :=
  (curManifest d).bind fun mf => viewAt cfg mf mf.unsynced.length

/-- the group the writer has journalled but not yet put into the memdb -/
def inflight : WPc → List Grp
  | .appended g => [g]
  | .synced g => [g]
  | _ => []

/-- the view the session holds in memory equals the manifest's -/
def Mirror (s : St) (v : MView) : Prop := v.live = s.live ∧ v.jn = s.stJn ∧ v.sq = s.stSq

/-- … or it is the manifest's view once the job's edit has been installed -/
def MirrorE (s : St) (e : MRec) (v : MView) : Prop :=
  v.live = applyEdit s.live e ∧ v.jn = e.jn.getD s.stJn ∧ v.sq = e.sq.getD s.stSq

/-- … or, between a commit that failed after its edit reached the manifest `CURRENT` names and the next successful
    `newManifest`, that view is one edit (`St.limbo`) ahead of the session -/
def MirrorL (s : St) (v : MView) : Prop :=
  match s.limbo with
  | none => Mirror s v
  | some u => MirrorE s u v

instance (s : St) (v : MView) : Decidable (Mirror s v) := by unfold Mirror; infer_instance
instance (s : St) (e : MRec) (v : MView) : Decidable (MirrorE s e v) := by unfold MirrorE; infer_instance
instance (s : St) (v : MView) : Decidable (MirrorL s v) := by unfold MirrorL; split <;> infer_instance

/-- the view of the manifest `CURRENT` names is `P`; if this process has written it (`manifestOpen`), it has
    no unsynced tail (the manifest inherited from a previous process may have one after a clean exit) -/
def Settled (cfg : Cfg) (s : St) (d : Disk) (P : MView → Prop) : Prop :=
  Holds (curManifest d) fun mf => (s.manifestOpen = true → s.limbo = none → mf.unsynced = []) ∧ Holds (lastView cfg d) P

instance (cfg : Cfg) (s : St) (d : Disk) (P : MView → Prop) [DecidablePred P] : Decidable (Settled cfg s d P) := by
  unfold Settled; infer_instance

def outsGrps (j : Job) : List Grp := j.outs.flatMap (·.2)

def JPc.beforeCommit : JPc → Bool
  | .tCreate _ | .tWrite _ | .tSync _ | .mkJournal | .append | .rotWrite _ | .rotSync _ | .rotSetMeta _ => true
  | _ => false

def JPc.tablesDone : JPc → Bool
  | .tCreate _ | .tWrite _ | .tSync _ => false
  | _ => true

def JPc.post : JPc → Bool
  | .rmJ _ | .rmT _ | .rmM _ | .done => true
  | _ => false

/-- a transaction's edit is in the manifest, `db.setSeq(tr.seq)` is still to come -/
def TrWindow (s : St) : Prop :=
  Holds s.job fun j => j.kind = .tr ∧ (j.pc.beforeCommit = false ∨ s.limbo.isSome = true)

instance (s : St) : Decidable (TrWindow s) := by unfold TrWindow; infer_instance

/-- the sequence number the edit of job `j` may carry: `db.seq`, for a transaction its own last number -/
def sqCap (s : St) (j : Job) : Nat :=
  if j.kind = .tr then (match s.tr with | some g => g.fin - 1 | none => s.seq) else s.seq

/-- the largest sequence number a manifest record can carry: `db.seq`, except between the commit of a
    transaction and its `setSeq` -/
def seqHi (s : St) : Nat :=
  match s.job with
  | some j => if j.pc.beforeCommit = false ∨ s.limbo.isSome = true then sqCap s j else s.seq
  | none => s.seq

def ViewBounds (cfg : Cfg) (s : St) (d : Disk) : Prop :=
  Holds (curManifest d) fun mf => ∀ k ≤ mf.unsynced.length, Holds (viewAt cfg mf k) fun v =>
    v.sq ≤ seqHi s ∧ v.nf ≤ s.nextFile ∧ (s.phase = .running → v.jn ≤ s.jcur)

instance (cfg : Cfg) (s : St) (d : Disk) : Decidable (ViewBounds cfg s d) := by unfold ViewBounds; infer_instance

/-- the session's manifest descriptor is `CURRENT`, except between `SetMeta` and the adoption of the new
    manifest -/
def MfdOK (s : St) (d : Disk) : Prop :=
  match s.job.map (·.pc) with
  | some (JPc.rotRemove m) => d.current = some m
  | _ => s.manifestFd = d.current ∨
      (s.limbo.isSome = true ∧ Holds s.manifestFd fun o => Holds d.current fun c => o < c)

instance (s : St) (d : Disk) : Decidable (MfdOK s d) := by unfold MfdOK; split <;> infer_instance

def NoCommitYet (s : St) : Prop := Holds' s.job fun j => j.pc.beforeCommit = true

instance (s : St) : Decidable (NoCommitYet s) := by unfold NoCommitYet; infer_instance

/-- the session has not installed the job's edit: it is not in the manifest, or in the file but not yet synced (a
    failing `Sync` takes the job back to `append`) -/
def JPc.uninstalled : JPc → Bool
  | .sync => true
  | pc => pc.beforeCommit

theorem JPc.uninstalled_of_bc {pc : JPc} (h : pc.beforeCommit = true) : pc.uninstalled = true := by
  cases pc <;> first | rfl | cases h

/-- no memdb flush has installed its edit (a table compaction does not count: its edit changes neither the journal nor
    the sequence number): the frozen journal is still there, the session's numbers are at or below it -/
def FlushPending (s : St) : Prop := Holds' s.job fun j => j.kind = .flush → j.pc.uninstalled = true

instance (s : St) : Decidable (FlushPending s) := by unfold FlushPending; infer_instance

theorem NoCommitYet.of_nojob {s : St} (hj : s.job = none) : NoCommitYet s := by
  unfold NoCommitYet; rw [hj]; trivial

theorem NoCommitYet.of_job {s : St} {j : Job} (hj : s.job = some j) (hbc : j.pc.beforeCommit = true) : NoCommitYet s := by
  unfold NoCommitYet; rw [hj]; exact hbc

theorem NoCommitYet.flushPending {s : St} (h : NoCommitYet s) : FlushPending s := by
  unfold NoCommitYet at h; unfold FlushPending
  cases hj : s.job with
  | none => trivial
  | some j => rw [hj] at h; exact fun _ => JPc.uninstalled_of_bc h

def WSeqOK (s : St) : Prop :=
  match s.w with
  | .idle => ∀ h ∈ s.mem, h.fin ≤ s.seq + 1
  | .appended g | .synced g =>
    g.seq = s.seq + 1 ∧ g.recs ≠ [] ∧ g ∈ issuedGrps s ∧ ∀ h ∈ s.mem, h.fin ≤ s.seq + 1
  | .applied g => g.seq = s.seq + 1 ∧ g.recs ≠ [] ∧ ∀ h ∈ s.mem, h = g ∨ h.fin ≤ s.seq + 1
  | .published _ => ∀ h ∈ s.mem, h.fin ≤ s.seq + 1

instance (s : St) : Decidable (WSeqOK s) := by unfold WSeqOK; split <;> infer_instance

/-- a journal file holds the groups `content` (the write buffer whose journal it is); it may hold more: the
    record of a write whose journal `Write`/`Sync` failed may have reached the file.  Such a record is never one
    that must survive, and it ends at or below `bound + 1` (its sequence numbers are consumed).  As long as no
    journal operation of the write path has failed (ghost `St.everFailed`) the file holds exactly `content`. -/
def JournalHolds (s : St) (jf : LogFile Grp) (content : List Grp) (bound : Nat) : Prop :=
  (∀ g ∈ content, g ∈ jf.all) ∧ (∀ g ∈ jf.all, g ∈ must s → g ∈ content) ∧
  (∀ g ∈ jf.all, g ∈ content ∨ g.fin ≤ bound + 1) ∧
  (s.everFailed = false → ∀ g ∈ jf.all, g ∈ content)

instance (s : St) (jf : LogFile Grp) (content : List Grp) (bound : Nat) : Decidable (JournalHolds s jf content bound) := by
  unfold JournalHolds; infer_instance

/-- a journal file nobody holds any more (its removal failed) has at most records of failed writes -/
def Stale0 (s : St) (jf : LogFile Grp) : Prop := ∀ g ∈ jf.all, g ∉ must s ∧ g.fin ≤ s.seq + 1

instance (s : St) (jf : LogFile Grp) : Decidable (Stale0 s jf) := by unfold Stale0; infer_instance

def Stale (s : St) (jf : LogFile Grp) : Prop :=
  Stale0 s jf ∧ (s.everFailed = false → jf.all = [])

instance (s : St) (jf : LogFile Grp) : Decidable (Stale s jf) := by unfold Stale; infer_instance

/-- the frozen buffer is the content of the frozen journal, and older than the current journal -/
def FrozenFacts (cfg : Cfg) (s : St) (d : Disk) (fz : List Grp) (jf : Nat) : Prop :=
  jf < s.jcur ∧ s.frozenSeq ≤ s.seq ∧ (∀ g ∈ fz, g.fin ≤ s.frozenSeq + 1) ∧
  (∀ p ∈ d.journals, p.1 = s.jcur → ∀ g ∈ p.2.all, s.frozenSeq < g.seq) ∧
  (∀ p ∈ d.journals, p.1 = jf → JournalHolds s p.2 fz s.frozenSeq) ∧
  (FlushPending s → (∃ p ∈ d.journals, p.1 = jf) ∧ s.stJn ≤ jf ∧ s.stSq ≤ s.frozenSeq)

instance (cfg : Cfg) (s : St) (d : Disk) (fz : List Grp) (jf : Nat) : Decidable (FrozenFacts cfg s d fz jf) := by
  unfold FrozenFacts; infer_instance

def FrozenOK (cfg : Cfg) (s : St) (d : Disk) : Prop :=
  match s.frozen, s.jfrozen with
  | none, none => True
  | some fz, some jf => FrozenFacts cfg s d fz jf
  | _, _ => False

instance (cfg : Cfg) (s : St) (d : Disk) : Decidable (FrozenOK cfg s d) := by
  unfold FrozenOK; split <;> infer_instance

theorem frozenOK_iff {cfg : Cfg} {s : St} {d : Disk} : FrozenOK cfg s d ↔
    (s.frozen = none ∧ s.jfrozen = none) ∨
    ∃ fz jf, s.frozen = some fz ∧ s.jfrozen = some jf ∧ FrozenFacts cfg s d fz jf := by
  unfold FrozenOK
  cases h1 : s.frozen <;> cases h2 : s.jfrozen <;> simp

/-- an open transaction holds the write lock; `OpenTransaction` has flushed the write buffer; the transaction's
    entries are numbered from `db.seq + 1` -/
def TrOK (s : St) : Prop :=
  Holds' s.tr fun g => s.w = .idle ∧ s.mem = [] ∧ s.frozen = none ∧ g.seq = s.seq + 1 ∧ g.sync = true

instance (s : St) : Decidable (TrOK s) := by unfold TrOK; infer_instance

def JPc.retry : JPc → Bool
  | .append | .rotWrite _ | .rotSync _ | .rotSetMeta _ => true
  | _ => false

/-- the edit of a transaction that was discarded after its commit had failed: one table with one group, reported
    as failed, its sequence numbers consumed, below the outputs of any later job -/
def OrphanOK (s : St) (d : Disk) (u : MRec) : Prop :=
  u.deleted = [] ∧ u.jn = none ∧ Holds u.added.head? fun t => u.added = [t] ∧ t < s.nextFile ∧
    Holds (lookup d.tables t) fun tf => tf.synced = true ∧ tf.bad = false ∧ Holds tf.grps.head? fun g =>
      tf.grps = [g] ∧ u.sq = some (g.fin - 1) ∧ g ∉ must s ∧ g.recs ≠ [] ∧ g.fin ≤ s.seq + 1 ∧
      Holds' s.job fun j => ∀ o ∈ j.outs, t < o.1

instance (s : St) (d : Disk) (u : MRec) : Decidable (OrphanOK s d u) := by unfold OrphanOK; infer_instance

/-- what is known while the storage is one edit (`u = s.limbo`) ahead of the session: the session's tables lie below
    what the edit adds and their groups below the session's sequence number; the edit is that of the job that is
    retrying its commit, or that of a discarded transaction -/
def LimboFacts (s : St) (d : Disk) (u : MRec) : Prop :=
  s.manifestFailed = true ∧ u.torn = false ∧ u.snapshot = false ∧
    s.stJn ≤ u.jn.getD s.stJn ∧ s.stSq ≤ u.sq.getD s.stSq ∧
    (∀ t ∈ s.live, (∀ a ∈ u.added, t < a) ∧ ∀ g ∈ tableGrpsOf d t, g.fin ≤ s.stSq + 1) ∧
    (Holds' s.job fun j => j.edit = none ∨ j.pc.beforeCommit = true) ∧
    ((Holds s.job fun j => j.edit = some u ∧ j.pc.retry = true) ∨ OrphanOK s d u)

instance (s : St) (d : Disk) (u : MRec) : Decidable (LimboFacts s d u) := by unfold LimboFacts; infer_instance

def LimboOK (s : St) (d : Disk) : Prop := Holds' s.limbo (LimboFacts s d)

instance (s : St) (d : Disk) : Decidable (LimboOK s d) := by unfold LimboOK; infer_instance

structure RunOK (cfg : Cfg) (s : St) (d : Disk) : Prop where
  norecov : s.recov = none ∧ TrOK s
  mfd : MfdOK s d ∧ s.manifestOpen = true
  /-- the current journal holds the groups of the write buffer, plus the one in flight (and possibly records of
      failed writes) -/
  jcur : Holds (lookup d.journals s.jcur) fun jf => JournalHolds s jf (s.mem ++ inflight s.w) s.seq
  /-- the current journal has the largest number — except for empty journals a failed `Create` of `newMem` left
      behind (`reuseFileNum` hands their number back: they lie at or above `nextFile` until a table, a manifest or
      the next journal takes the number) -/
  jmax : s.jcur < s.nextFile ∧ ∀ p ∈ d.journals, p.1 ≤ s.jcur ∨ p.2.all = []
  nums : (∀ p ∈ d.journals, p.1 < s.nextFile ∨ p.1 = s.nextFile ∧ p.2.all = []) ∧ Holds d.current (· < s.nextFile)
  wseq : WSeqOK s
  frozen : FrozenOK cfg s d
  /-- only the frozen and the current journal can be relevant -/
  rel : Holds (curManifest d) fun mf => Holds (viewAt cfg mf 0) fun v0 =>
    ∀ p ∈ d.journals, v0.jn ≤ p.1 → p.1 = s.jcur ∨ some p.1 = s.jfrozen ∨ Stale s p.2
  nojob : s.job = none → Settled cfg s d (MirrorL s)
  limbo : LimboOK s d

instance (cfg : Cfg) (s : St) (d : Disk) : Decidable (RunOK cfg s d) :=
  decidable_of_iff _
    ⟨fun ⟨a, b, c, e, f, g, h, i, k, l⟩ => ⟨a, b, c, e, f, g, h, i, k, l⟩,
     fun h => And.intro h.norecov <| And.intro h.mfd <| And.intro h.jcur <| And.intro h.jmax <| And.intro h.nums <|
       And.intro h.wseq <| And.intro h.frozen <| And.intro h.rel <| And.intro h.nojob h.limbo⟩

/-- the recovery memdb is the content of the journal replayed last -/
def MdbOK (s : St) (d : Disk) (r : Recov) : Prop :=
  match r.ofd with
  | some o => (∀ p ∈ d.journals, p.1 = o → (∀ g ∈ r.mdb, g ∈ p.2.all) ∧ ∀ g ∈ p.2.all, g ∈ r.mdb ∨ g ∉ must s) ∧
      (∀ g ∈ r.mdb, g.fin ≤ s.seq) ∧
      (NoCommitYet s → ((∃ p ∈ d.journals, p.1 = o) ∨ r.mdb = []) ∧ ∀ g ∈ r.mdb, s.stSq ≤ g.seq)
  | none => r.mdb = []

instance (s : St) (d : Disk) (r : Recov) : Decidable (MdbOK s d r) := by unfold MdbOK; split <;> infer_instance

structure RecOK (cfg : Cfg) (s : St) (d : Disk) (r : Recov) : Prop where
  mfd : MfdOK s d
  idle : s.w = .idle ∧ s.frozen = none ∧ s.tr = none ∧ s.limbo = none
  todoSorted : r.todo.Pairwise (· < ·)
  ofdLt : ∀ o, r.ofd = some o → ∀ n ∈ r.todo, o < n
  nums : (∀ p ∈ d.journals, p.1 < s.nextFile) ∧ Holds d.current (· < s.nextFile) ∧ ∀ n ∈ r.todo, n < s.nextFile
  /-- the journals still to come start at `db.seq` or above -/
  todoSeq : ∀ p ∈ d.journals, p.1 ∈ r.todo → ∀ g ∈ p.2.all, s.seq ≤ g.seq ∨ g ∉ must s
  mdb : MdbOK s d r
  view : NoCommitYet s → Settled cfg s d fun v => Mirror s v ∧ (∀ o, r.ofd = some o → v.jn ≤ o)
  /-- every journal the last view would replay is still to come, the one replayed last, or empty; the
      journals still to come are ones the last view replays -/
  rel : Holds (lastView cfg d) fun v =>
    (∀ p ∈ d.journals, v.jn ≤ p.1 → p.1 ∈ r.todo ∨ some p.1 = r.ofd ∨ p.2.all = []) ∧ ∀ n ∈ r.todo, v.jn ≤ n
  /-- `markFileNum`: the journal replayed last has a number below the next file number -/
  ofdNf : ∀ o, r.ofd = some o → o < s.nextFile

instance (cfg : Cfg) (s : St) (d : Disk) (r : Recov) : Decidable (RecOK cfg s d r) :=
  decidable_of_iff _
    ⟨fun ⟨a, b, c, e, f, g, h, i, k, l⟩ => ⟨a, b, c, e, f, g, h, i, k, l⟩,
     fun h => And.intro h.mfd <| And.intro h.idle <| And.intro h.todoSorted <| And.intro h.ofdLt <| And.intro h.nums <|
       And.intro h.todoSeq <| And.intro h.mdb <| And.intro h.view <| And.intro h.rel h.ofdNf⟩

/-- what a job at `pc` knows about the manifest tail and the session mirror; `e` is its edit -/
def JobManifest (cfg : Cfg) (s : St) (d : Disk) (e : MRec) : JPc → Prop
  | .tCreate _ | .tWrite _ | .tSync _ | .mkJournal | .append => Settled cfg s d (MirrorL s)
  | .earlyRm => False
  | .rotWrite m =>
    Settled cfg s d (MirrorL s) ∧ (some m ≠ d.current ∧ Holds d.current (· < m)) ∧ m < s.nextFile ∧ lookup d.manifests m = some ⟨[], []⟩
  | .rotSync m =>
    Settled cfg s d (MirrorL s) ∧ (some m ≠ d.current ∧ Holds d.current (· < m)) ∧ m < s.nextFile ∧
    Holds (lookup d.manifests m) fun mf => Holds mf.unsynced.head? fun r =>
      mf = ⟨[], [{ snapshotRec cfg s e with nf := r.nf }]⟩ ∧ m < r.nf ∧ r.nf ≤ s.nextFile ∧
      (∀ t ∈ applyEdit s.live e, t < r.nf) ∧ e.jn.getD s.stJn < r.nf
  | .rotSetMeta m =>
    Settled cfg s d (MirrorL s) ∧ (some m ≠ d.current ∧ Holds d.current (· < m)) ∧ m < s.nextFile ∧
    Holds (lookup d.manifests m) fun mf => Holds mf.synced.head? fun r =>
      mf = ⟨[{ snapshotRec cfg s e with nf := r.nf }], []⟩ ∧ m < r.nf ∧ r.nf ≤ s.nextFile ∧
      (∀ t ∈ applyEdit s.live e, t < r.nf) ∧ e.jn.getD s.stJn < r.nf
  | .rotRemove m => d.current = some m ∧ s.manifestFd ≠ some m ∧
    Holds (curManifest d) fun mf => mf.unsynced = [] ∧ Holds (lastView cfg d) (MirrorE s e)
  | .sync =>
    -- the record is in the file, not yet synced; the last three clauses are what a retry after a failing `Sync` needs
    -- again at `append` (there they are part of `JobOK.fresh`, `LimboFacts` and `InputsOK`)
    s.manifestOpen = true ∧
    (Holds (curManifest d) fun mf => (Holds mf.unsynced.head? fun r => mf.unsynced = [{ e with nf := r.nf }] ∧
        r.nf ≤ s.nextFile) ∧ Holds (viewAt cfg mf 0) fun v0 => Mirror s v0 ∧ ∀ a ∈ e.added, v0.nf ≤ a) ∧
    s.stSq ≤ e.sq.getD s.stSq ∧
    (e.jn = none → e.sq = none → (∀ t ∈ e.deleted, t ∈ s.live) ∧
      e.added.flatMap (tableGrpsOf d) = e.deleted.flatMap (tableGrpsOf d))
  | .install => s.manifestOpen = true ∧ Settled cfg s d (MirrorE s e)
  | .rmJ _ | .rmT _ | .rmM _ | .done =>
    s.manifestOpen = true ∧ Settled cfg s d (MirrorL s) ∧ ∀ x, e.jn = some x → s.stJn = x

instance (cfg : Cfg) (s : St) (d : Disk) (e : MRec) (pc : JPc) : Decidable (JobManifest cfg s d e pc) := by
  cases pc <;> simp only [JobManifest] <;> infer_instance

/-- the obligations of a job's edit `e` relative to the last view `v` of the manifest, while the edit is
    not yet there; `e.jn`/`e.sq` may be absent (table compaction): the view keeps its numbers -/
structure EditOK (s : St) (d : Disk) (j : Job) (e : MRec) (v : MView) : Prop where
  shape : e.added = j.outs.map (·.1) ∧ e.torn = false ∧ e.snapshot = false
  /-- deleted tables are live, and their groups are contained in the output tables -/
  dels : (∀ t ∈ e.deleted, t ∈ v.live) ∧ ∀ g ∈ e.deleted.flatMap (tableGrpsOf d), g ∈ outsGrps j
  /-- journals the new view skips are contained in the output tables -/
  skip : ∀ p ∈ d.journals, v.jn ≤ p.1 → p.1 < e.jn.getD v.jn → ∀ g ∈ p.2.all, g ∈ must s → g ∈ outsGrps j
  outs : ∀ g ∈ outsGrps j, g.fin ≤ e.sq.getD v.sq + 1 ∧ g ∈ issuedGrps s ∧ g.recs ≠ [] ∧
    (∀ h ∈ liveGrps d v, Disj g h) ∧ ∀ h ∈ outsGrps j, Disj g h
  keep : ∀ p ∈ d.journals, e.jn.getD v.jn ≤ p.1 → ∀ g ∈ p.2.all,
    (e.sq.getD v.sq ≤ g.seq ∨ g ∉ must s) ∧ ∀ h ∈ outsGrps j, Disj h g
  mono : v.jn ≤ e.jn.getD v.jn ∧ v.sq ≤ e.sq.getD v.sq ∧ e.sq.getD v.sq ≤ sqCap s j ∧
    (s.phase = .running → e.jn.getD v.jn ≤ s.jcur) ∧ e.jn.getD v.jn < s.nextFile
  fresh : ∀ o ∈ j.outs, v.nf ≤ o.1 ∧ o.1 < s.nextFile

set_option synthInstance.maxSize 2000 in
set_option synthInstance.maxHeartbeats 200000 in
instance (s : St) (d : Disk) (j : Job) (e : MRec) (v : MView) : Decidable (EditOK s d j e v) :=
  decidable_of_iff
    ((e.added = j.outs.map (·.1) ∧ e.torn = false ∧ e.snapshot = false) ∧
     ((∀ t ∈ e.deleted, t ∈ v.live) ∧ ∀ g ∈ e.deleted.flatMap (tableGrpsOf d), g ∈ outsGrps j) ∧
     (∀ p ∈ d.journals, v.jn ≤ p.1 → p.1 < e.jn.getD v.jn → ∀ g ∈ p.2.all, g ∈ must s → g ∈ outsGrps j) ∧
     (∀ g ∈ outsGrps j, g.fin ≤ e.sq.getD v.sq + 1 ∧ g ∈ issuedGrps s ∧ g.recs ≠ [] ∧
        (∀ h ∈ liveGrps d v, Disj g h) ∧ ∀ h ∈ outsGrps j, Disj g h) ∧
     (∀ p ∈ d.journals, e.jn.getD v.jn ≤ p.1 → ∀ g ∈ p.2.all,
        (e.sq.getD v.sq ≤ g.seq ∨ g ∉ must s) ∧ ∀ h ∈ outsGrps j, Disj h g) ∧
     (v.jn ≤ e.jn.getD v.jn ∧ v.sq ≤ e.sq.getD v.sq ∧ e.sq.getD v.sq ≤ sqCap s j ∧
        (s.phase = .running → e.jn.getD v.jn ≤ s.jcur) ∧ e.jn.getD v.jn < s.nextFile) ∧
     (∀ o ∈ j.outs, v.nf ≤ o.1 ∧ o.1 < s.nextFile))
    ⟨fun ⟨a, a', b, c, e, f, g⟩ => ⟨a, a', b, c, e, f, g⟩, fun ⟨a, a', b, c, e, f, g⟩ => ⟨a, a', b, c, e, f, g⟩⟩

/-- what ties a job to the thread that spawned it -/
def JobKindOK (s : St) (j : Job) : Prop :=
  match j.kind with
  | .flush => s.phase = .running ∧
      match s.frozen, s.jfrozen, j.edit with
      | some fz, some jf, some e => j.outs = [(e.added.headD 0, fz)] ∧ e.jn = some s.jcur ∧
          e.sq = some s.frozenSeq ∧ j.rmJournals = [jf] ∧ j.mkJournal = none ∧ fz ≠ []
      | some fz, some jf, none => fz = [] ∧ j.outs = [] ∧ j.rmJournals = [jf] ∧ j.mkJournal = none
      | _, _, _ => False
  | .recovMid => s.phase = .recovering ∧ j.mkJournal = none ∧
      Holds s.recov fun r => Holds r.ofd fun o => j.rmJournals = [o] ∧
        (j.outs = [] ∧ r.mdb = [] ∨ j.outs = [(j.outs.head?.map (·.1) |>.getD 0, r.mdb)]) ∧
        Holds r.todo.head? fun n => Holds j.edit fun e => e.jn = some n ∧ e.sq = some s.seq
  | .recovFinal => s.phase = .recovering ∧
      Holds s.recov fun r => r.todo = [] ∧ (j.rmJournals = r.ofd.toList ∧ ∀ o ∈ j.rmJournals, Holds j.mkJournal (o < ·)) ∧
        (j.outs = [] ∧ r.mdb = [] ∨ j.outs = [(j.outs.head?.map (·.1) |>.getD 0, r.mdb)]) ∧
        Holds j.mkJournal fun n => Holds j.edit fun e => e.jn = some n ∧ e.sq = some s.seq
  | .compaction => s.phase = .running ∧ j.mkJournal = none ∧ j.rmJournals = [] ∧ j.edit.isSome
  | .tr => s.phase = .running ∧ j.mkJournal = none ∧ j.rmJournals = [] ∧ j.rmTables = [] ∧
      Holds s.tr fun g => Holds j.edit fun e => e.jn = none ∧ e.sq = some (g.fin - 1) ∧
        j.outs = [(e.added.headD 0, [g])] ∧ g.recs ≠ [] ∧ g ∈ issuedGrps s

instance (s : St) (j : Job) : Decidable (JobKindOK s j) := by
  unfold JobKindOK; split
  · refine @instDecidableAnd _ _ _ ?_; split <;> infer_instance
  all_goals infer_instance

def OutOK (d : Disk) (pc : JPc) (i : Nat) (o : Nat × List Grp) : Prop :=
  match pc with
  | .tCreate i' => i < i' → Holds (lookup d.tables o.1) fun tf => tf = ⟨o.2, true, false⟩
  | .tWrite i' => (i < i' → Holds (lookup d.tables o.1) fun tf => tf = ⟨o.2, true, false⟩) ∧
      (i = i' → Holds (lookup d.tables o.1) fun tf => tf.bad = false)
  | .tSync i' => (i < i' → Holds (lookup d.tables o.1) fun tf => tf = ⟨o.2, true, false⟩) ∧
      (i = i' → Holds (lookup d.tables o.1) fun tf => tf.grps = o.2 ∧ tf.bad = false)
  | pc => pc.beforeCommit = true → Holds (lookup d.tables o.1) fun tf => tf = ⟨o.2, true, false⟩

instance (d : Disk) (pc : JPc) (i : Nat) (o : Nat × List Grp) : Decidable (OutOK d pc i o) := by
  unfold OutOK; split <;> infer_instance

def PcIdxOK (j : Job) : Prop :=
  match j.pc with
  | .tCreate i | .tWrite i | .tSync i => i < j.outs.length
  | _ => True

instance (j : Job) : Decidable (PcIdxOK j) := by unfold PcIdxOK; split <;> infer_instance

/-- pending removals only concern files no admissible view needs -/
def RemovalsOK (s : St) (d : Disk) (j : Job) (v : MView) : Prop :=
  match j.pc with
  | .rmJ rest => (∀ n ∈ rest, (n < v.jn ∨ (n < s.jcur ∧ ∀ p ∈ d.journals, p.1 = n → Stale0 s p.2)) ∧
        ∀ x, j.mkJournal = some x → n < x) ∧
      (∀ t ∈ j.rmTables, t ∉ v.live) ∧ (j.kind = .compaction ∨ j.kind = .tr → rest = []) ∧
      (j.edit = none → ∀ n ∈ rest, n ∈ j.rmJournals)
  | .rmT rest => (∀ t ∈ rest, t ∉ v.live) ∧ (j.edit = none → rest = [])
  | .rmM rest => ∀ m ∈ rest, some m ≠ d.current
  | _ => True

instance (s : St) (d : Disk) (j : Job) (v : MView) : Decidable (RemovalsOK s d j v) := by
  unfold RemovalsOK; split <;> infer_instance

/-- the journal `newMem` makes for the final commit of a recovery -/
def MkJournalOK (s : St) (d : Disk) (j : Job) : Prop :=
  match j.mkJournal with
  | none => True
  | some n =>
    n < s.nextFile ∧
    if j.pc = .mkJournal ∨ j.pc.tablesDone = false then ∀ p ∈ d.journals, p.1 < n
    else s.jcur = n ∧ (∃ p ∈ d.journals, p.1 = n) ∧ ∀ p ∈ d.journals, p.1 < n ∨ p.1 = n ∧ p.2.all = []

instance (s : St) (d : Disk) (j : Job) : Decidable (MkJournalOK s d j) := by
  unfold MkJournalOK; split <;> infer_instance

def JobManifestOK (cfg : Cfg) (s : St) (d : Disk) (j : Job) : Prop :=
  match j.edit with
  | some e => JobManifest cfg s d e j.pc
  | none => Settled cfg s d (MirrorL s)

instance (cfg : Cfg) (s : St) (d : Disk) (j : Job) : Decidable (JobManifestOK cfg s d j) := by
  unfold JobManifestOK; split <;> infer_instance

def InputsOK (s : St) (d : Disk) (j : Job) (e : MRec) : Prop :=
  if j.kind = .compaction then
    e.jn = none ∧ e.sq = none ∧ e.deleted = j.rmTables ∧ (∀ t ∈ e.deleted, ∀ o ∈ j.outs, t < o.1) ∧
    (j.pc.beforeCommit = true → (∀ t ∈ e.deleted, t ∈ s.live) ∧ outsGrps j = e.deleted.flatMap (tableGrpsOf d))
  else e.deleted = [] ∧ (j.kind ≠ .tr → e.jn.isSome) ∧ e.sq.isSome

instance (s : St) (d : Disk) (j : Job) (e : MRec) : Decidable (InputsOK s d j e) := by
  unfold InputsOK; split <;> infer_instance

structure JobOK (cfg : Cfg) (s : St) (d : Disk) (j : Job) : Prop where
  one : j.outs.length ≤ 1 ∧ (j.rmTables = [] ∨ j.kind = .recovFinal ∨ j.kind = .compaction)
  kind : JobKindOK s j
  manifest : JobManifestOK cfg s d j
  /-- output table numbers are unused and above everything an admissible view knows -/
  fresh : (∀ o ∈ j.outs, o.1 < s.nextFile) ∧ (j.pc.beforeCommit = true →
    Holds (curManifest d) fun mf => ∀ k ≤ mf.unsynced.length, Holds (viewAt cfg mf k) fun v =>
      (∀ o ∈ j.outs, v.nf ≤ o.1 ∨ (j.pc.retry = true ∧ s.limbo.isSome = true ∧ s.limbo = j.edit ∧ o.1 ∈ v.live)) ∧ ∀ n, j.mkJournal = some n → v.nf ≤ n)
  shape : Holds' j.edit fun e => e.added = j.outs.map (·.1) ∧ e.torn = false ∧ e.snapshot = false
  tables : ∀ i o, j.outs[i]? = some o → OutOK d j.pc i o
  pcIdx : PcIdxOK j
  mkj : MkJournalOK s d j
  removals : Holds (lastView cfg d) (RemovalsOK s d j)
  /-- a job without an edit (an empty frozen memdb is dropped) only removes -/
  noedit : j.edit = none → j.pc.post = true
  /-- only a table compaction deletes tables: its inputs, which are live until the commit and whose groups
      are exactly those of its output; its edit carries neither a journal nor a sequence number -/
  inputs : Holds' j.edit fun e => InputsOK s d j e
  /-- once the edit is in the manifest the output tables are live in its last view and stay on disk -/
  committed : j.pc.beforeCommit = false → Holds (lastView cfg d) fun v =>
    ∀ o ∈ j.outs, o.1 ∈ v.live ∧ lookup d.tables o.1 = some ⟨o.2, true, false⟩

set_option synthInstance.maxSize 2000 in
set_option synthInstance.maxHeartbeats 200000 in
instance (cfg : Cfg) (s : St) (d : Disk) (j : Job) : Decidable (JobOK cfg s d j) :=
  -- `tables` quantifies over the indices of `j.outs` only
  decidable_of_iff _
    ⟨fun ⟨a, b, c, e, e', f, g, h, i, k', l, m⟩ => ⟨a, b, c, e, e',
        fun k o hk => f k (List.mem_range.2 (List.getElem?_eq_some_iff.1 hk).1) o hk, g, h, i, k', l, m⟩,
     fun h => And.intro h.one <| And.intro h.kind <| And.intro h.manifest <| And.intro h.fresh <| And.intro h.shape <|
       And.intro (fun k (_ : k ∈ List.range j.outs.length) o hk => h.tables k o hk) <| And.intro h.pcIdx <|
       And.intro h.mkj <| And.intro h.removals <| And.intro h.noedit <| And.intro h.inputs h.committed⟩

/-- sequence number and next-file number never decrease along the admissible views of the current manifest,
    and the manifest's own number lies below every recorded next-file number -/
def ManifestMono (cfg : Cfg) (d : Disk) : Prop :=
  Holds (curManifest d) fun mf => Holds d.current fun m => ∀ k ≤ mf.unsynced.length,
    Holds (viewAt cfg mf k) fun v => m < v.nf ∧ ∀ i ≤ k, Holds (viewAt cfg mf i) fun u => u.sq ≤ v.sq ∧ u.nf ≤ v.nf

instance (cfg : Cfg) (d : Disk) : Decidable (ManifestMono cfg d) := by unfold ManifestMono; infer_instance

structure Inv (cfg : Cfg) (s : St) (d : Disk) : Prop where
  disk : DiskOK cfg d (must s) (issuedGrps s)
  mm : ManifestMono cfg d
  bounds : s.phase ≠ .crashed → ViewBounds cfg s d
  run : s.phase = .running → RunOK cfg s d
  recov : s.phase = .recovering → Holds s.recov (RecOK cfg s d)
  crashed : s.phase = .crashed → s.job = none ∧ s.w = .idle ∧ s.frozen = none ∧ s.tr = none ∧ s.limbo = none
  job : Holds' s.job (JobOK cfg s d)

instance (cfg : Cfg) (s : St) (d : Disk) : Decidable (Inv cfg s d) :=
  decidable_of_iff _
    ⟨fun ⟨a, a', b, c, e, f, g⟩ => ⟨a, a', b, c, e, f, g⟩,
     fun h => And.intro h.disk <| And.intro h.mm <| And.intro h.bounds <| And.intro h.run <| And.intro h.recov <|
       And.intro h.crashed h.job⟩

end GoLevel.Dur

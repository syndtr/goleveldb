import GoLevel.Proofs.DurableStepW
/-!
`rotate` (`DB.newMem` on the write path) and the spawning of a job (`flushStart`, `compactStart`) preserve the
invariant.  `rotate` creates a journal (`Inv.create_journal`: this much also happens when `Create` reports an error
after it took effect) and then adopts it.  A spawn leaves everything but the job's own clauses alone (`Inv.spawn`);
those clauses are `JobOK.spawned`, also for a transaction's commit and the commits of a recovery.
-/
namespace GoLevel.Dur

variable {cfg : Cfg} {s s' : St} {d d' : Disk} {j : Job} {e : MRec}

/-- in the running phase a job without a frozen buffer is a table compaction -/
theorem Inv.job_of_nofrozen (h : Inv cfg s d) (hph : s.phase = .running)
    (hf : s.frozen = none) (htr : s.tr = none) (hj : s.job = some j) : j.kind = .compaction := by
  have hk := (h.jobOK hj).kind
  rcases hk.cases with ⟨_, _, hkk | hkk | hkk⟩ | ⟨hp, _⟩
  · obtain ⟨_, _, hfl⟩ := hk.flush hkk
    cases hf.symm.trans hfl.frozen
  · exact hkk
  · exact absurd hkk (hk.not_tr htr)
  · rw [hph] at hp; cases hp

theorem LimboOK.orphan_of_nojob (h : LimboOK s d) (hj : s.job = none) {u : MRec}
    (hu : s.limbo = some u) : OrphanOK s d u :=
  (h.get hu).owner.resolve_left fun h1 => by rw [hj] at h1; exact h1

theorem MirrorL.ge (hl : LimboOK s d) {v : MView} (h : MirrorL s v) :
    s.stJn ≤ v.jn ∧ s.stSq ≤ v.sq := by
  cases hu : s.limbo with
  | none =>
    have h := (MirrorL.of_none hu).1 h
    exact ⟨Nat.le_of_eq h.2.1.symm, Nat.le_of_eq h.2.2.symm⟩
  | some u =>
    obtain ⟨_, m2, m3⟩ : MirrorE s u v := (MirrorL.of_some hu).1 h
    exact ⟨by rw [m2]; exact (hl.get hu).jnLe, by rw [m3]; exact (hl.get hu).sqLe⟩

/-- the session's tables are live in a view that mirrors it, also when that view is ahead by the edit of a discarded
    transaction: such an edit deletes nothing and adds a table above the session's -/
theorem MirrorL.live (hl : LimboOK s d) (ho : ∀ u, s.limbo = some u → OrphanOK s d u) {v : MView}
    (h : MirrorL s v) : ∀ t ∈ s.live, t ∈ v.live := by
  intro t ht
  cases hu : s.limbo with
  | none => rw [((MirrorL.of_none hu).1 h).1]; exact ht
  | some u =>
    rw [((MirrorL.of_some hu).1 h).1, mem_applyEdit]
    refine Or.inl ⟨ht, by rw [(ho u hu).1]; exact List.not_mem_nil, fun ha => ?_⟩
    have := ((hl.get hu).live t ht).1 t ha
    omega

/-- while no job runs the session's tables have numbers below the next file number: they are live in the last view -/
theorem Inv.live_lt (h : Inv cfg s d) (hph : s.phase = .running) (hjob : s.job = none) :
    ∀ t ∈ s.live, t < s.nextFile := by
  intro t ht
  have hrun := h.run hph
  obtain ⟨mf, _, vl, hparts, hlv, hvl, hok, _⟩ := h.disk.last
  have hl := MirrorL.live hrun.limbo (fun u hu => hrun.limbo.orphan_of_nojob hjob hu) ((hrun.nojob hjob).view hlv) t ht
  exact Nat.lt_of_lt_of_le (hok.tables t hl).1 ((h.bounds_of hph).all mf hparts.cur _ (Nat.le_refl _) vl hvl).2.1

/-- with no transaction open and at most a table compaction running the session is not ahead of the DB: its
    journal number is at most the current journal's, its sequence number at most `db.seq` -/
theorem Inv.sess_bounds (h : Inv cfg s d) (hph : s.phase = .running)
    (hjob : ∀ j, s.job = some j → j.kind = .compaction) : s.stJn ≤ s.jcur ∧ s.stSq ≤ s.seq := by
  have hrun := h.run hph
  have hb := h.bounds_of hph
  have hntw : ¬ TrWindow s := by
    cases hj : s.job with
    | none => exact not_trWindow_of_nojob hj
    | some j => exact not_trWindow_of_kind hj (by rw [hjob j hj]; exact fun hx => nomatch hx)
  -- some admissible view is not behind the session
  have key : ∃ mf k v, curManifest d = some mf ∧ k ≤ mf.unsynced.length ∧ viewAt cfg mf k = some v ∧
      s.stJn ≤ v.jn ∧ s.stSq ≤ v.sq := by
    obtain ⟨mf, v0, vl, hparts, hlv, hvl, _, _⟩ := h.disk.last
    have hlast : ∀ P : MView → Prop, Holds (lastView cfg d) P → P vl := fun P hP => by rw [hlv] at hP; exact hP
    have ofL : MirrorL s vl → ∃ mf k v, curManifest d = some mf ∧ k ≤ mf.unsynced.length ∧
        viewAt cfg mf k = some v ∧ s.stJn ≤ v.jn ∧ s.stSq ≤ v.sq := fun hm =>
      ⟨mf, _, vl, hparts.cur, Nat.le_refl _, hvl, hm.ge hrun.limbo⟩
    have ofS : ∀ P, Settled cfg s d P → P vl := fun P hs => hs.view hlv
    cases hj : s.job with
    | none => exact ofL (ofS _ (hrun.nojob hj))
    | some j =>
      have hk := hjob j hj
      have hok := h.jobOK hj
      obtain ⟨e, he⟩ := (hok.kind.compaction hk).edit
      have hin := hok.inputs_at he
      unfold InputsOK at hin
      rw [if_pos hk] at hin
      have ofE : MirrorE s e vl → ∃ mf k v, curManifest d = some mf ∧ k ≤ mf.unsynced.length ∧
          viewAt cfg mf k = some v ∧ s.stJn ≤ v.jn ∧ s.stSq ≤ v.sq := fun hm =>
        ⟨mf, _, vl, hparts.cur, Nat.le_refl _, hvl, by rw [hm.2.1, hin.1]; exact Nat.le_refl _,
          by rw [hm.2.2, hin.2.1]; exact Nat.le_refl _⟩
      have hman := hok.manifest_at he
      cases hpc : j.pc <;> rw [hpc] at hman <;> simp only [JobManifest] at hman
      case tCreate => exact ofL (ofS _ hman)
      case tWrite => exact ofL (ofS _ hman)
      case tSync => exact ofL (ofS _ hman)
      case mkJournal => exact ofL (ofS _ hman)
      case append => exact ofL (ofS _ hman)
      case rotWrite => exact ofL (ofS _ hman.1)
      case rotSync => exact ofL (ofS _ hman.1)
      case rotSetMeta => exact ofL (ofS _ hman.1)
      case rotRemove =>
        have := (holds_some hman.2.2 hparts.cur).2
        exact ofE (hlast _ this)
      case sync =>
        have := (holds_some hman.2.1 hparts.cur).2
        rw [hparts.hv0] at this
        have hm : Mirror s v0 := this.1
        exact ⟨mf, 0, v0, hparts.cur, Nat.zero_le _, hparts.hv0, Nat.le_of_eq hm.2.1.symm, Nat.le_of_eq hm.2.2.symm⟩
      case install => exact ofE (ofS _ hman.2)
      case rmJ => exact ofL (ofS _ hman.2.1)
      case rmT => exact ofL (ofS _ hman.2.1)
      case rmM => exact ofL (ofS _ hman.2.1)
      case done => exact ofL (ofS _ hman.2.1)
  obtain ⟨mf, k, v, hc, hk, hv, h1, h2⟩ := key
  have hbv := hb.all mf hc k hk v hv
  rw [seqHi_eq hntw] at hbv
  exact ⟨Nat.le_trans h1 (hbv.2.2 hph), Nat.le_trans h2 hbv.1⟩

/-- the snapshot record does not depend on the next-file counter once its `nf` is fixed -/
theorem snapshotRec_nf (cfg : Cfg) (s s' : St) (e : MRec) (x : Nat) (h1 : s'.manifestOpen = s.manifestOpen)
    (h2 : s'.stJn = s.stJn) (h3 : s'.stSq = s.stSq) (h4 : s'.live = s.live) :
    ({ snapshotRec cfg s' e with nf := x } : MRec) = { snapshotRec cfg s e with nf := x } := by
  simp only [snapshotRec, h1, h2, h3, h4]

/-- a table compaction is not disturbed by `newMem` on the write path: a new (highest) journal, the next
    file number moves on -/
theorem JobOK.rotate {cfg : Cfg} {s : St} {d : Disk} {j : Job} (h : JobOK cfg s d j) (hk : j.kind = .compaction)
    (hjlt : s.jcur < s.nextFile) (hnd : d.journals.Pairwise (fun p q => p.1 ≠ q.1)) :
    JobOK cfg { s with nextFile := s.nextFile + 1, frozen := some s.mem, mem := [], jfrozen := some s.jcur,
                       jcur := s.nextFile, frozenSeq := s.seq }
      { d with journals := d.journals.set s.nextFile ⟨[], []⟩ } j := by
  obtain ⟨h1, h2, h3, h4, h5, h6, h7, h8, h9, h10, h11, h12⟩ := h
  have hmk := (h2.compaction hk).mkJournal
  refine ⟨h1, ?_, ?_, ⟨fun o ho => Nat.lt_succ_of_lt (h4.1 o ho), h4.2⟩, h5, h6, h7, ?_, ?_, h10, h11, h12⟩
  · unfold JobKindOK at h2 ⊢; rw [hk] at h2 ⊢; exact h2
  · unfold JobManifestOK at h3 ⊢
    cases he : j.edit with
    | none => rw [he] at h3; exact h3
    | some e =>
      rw [he] at h3
      simp only at h3 ⊢
      cases hpc : j.pc <;> rw [hpc] at h3 <;> simp only [JobManifest] at h3 ⊢
      all_goals first
        | exact h3
        | skip
      · -- rotWrite
        obtain ⟨a, b, c, e'⟩ := h3
        exact ⟨a, b, Nat.lt_succ_of_lt c, e'⟩
      · -- rotSync
        obtain ⟨a, b, c, e'⟩ := h3
        refine ⟨a, b, Nat.lt_succ_of_lt c, e'.imp (fun mf hmf => hmf.imp (fun r hr => ?_))⟩
        exact ⟨hr.1.trans (by simp [snapshotRec]), hr.2.1, Nat.le_succ_of_le hr.2.2.1, hr.2.2.2⟩
      · -- rotSetMeta
        obtain ⟨a, b, c, e'⟩ := h3
        refine ⟨a, b, Nat.lt_succ_of_lt c, e'.imp (fun mf hmf => hmf.imp (fun r hr => ?_))⟩
        exact ⟨hr.1.trans (by simp [snapshotRec]), hr.2.1, Nat.le_succ_of_le hr.2.2.1, hr.2.2.2⟩
      · -- sync
        obtain ⟨a, b, c⟩ := h3
        refine ⟨a, b.imp (fun mf hmf => ⟨hmf.1.imp (fun r hr => ⟨hr.1, Nat.le_succ_of_le hr.2⟩), hmf.2⟩), c⟩
  · exact MkJournalOK.of_none hmk
  · refine h9.imp fun v hv => hv.of_journals rfl (Nat.le_of_lt hjlt) fun n hn p hp hpn => ?_
    rcases (mem_set hnd).1 hp with rfl | ⟨hp0, _⟩
    · simp only at hpn; omega
    · exact ⟨p, hp0, hpn, id⟩

/-- `Create` of the journal `newMem` asks for — a new file, or the truncation of an empty one a failed `Create` left
    behind — while the session has not adopted it: the file is empty and lies above the current journal, so a later
    `Open` replays it last, and finds nothing -/
theorem Inv.create_journal (h : Inv cfg s d) (hph : s.phase = .running) (hfz : s.frozen = none) (htr : s.tr = none) :
    Inv cfg s { d with journals := d.journals.set s.nextFile ⟨[], []⟩ } := by
  obtain ⟨r1, r2, r3, r4, r5, r6, r7, r8, r9, r10⟩ := h.run hph
  have hjlt : s.jcur < s.nextFile := r4.1
  have hnd := sorted_nodup h.disk.jsorted
  refine Inv.of_running hph (DiskOK.journal_create' h.disk s.nextFile r5.1) (h.mm.of_same rfl rfl)
    ((h.bounds_of hph).of_same rfl (Nat.le_refl _) (Nat.le_refl _) (fun _ => ⟨hph, Nat.le_refl _⟩))
    ⟨r1, r2, ?_, ⟨r4.1, fun p hp => ?_⟩, ⟨fun p hp => ?_, r5.2⟩, r6, ?_, ?_, r9,
      r10.frame rfl rfl rfl rfl rfl rfl rfl (Nat.le_refl _) (fun g hg => Or.inl hg)⟩ ?_
  · show Holds (lookup (d.journals.set s.nextFile ⟨[], []⟩) s.jcur) _
    rw [lookup_set, if_neg (Nat.ne_of_lt hjlt)]
    exact r3
  · rcases (mem_set hnd).1 hp with rfl | ⟨hp0, _⟩
    · exact Or.inr rfl
    · exact r4.2 p hp0
  · rcases (mem_set hnd).1 hp with rfl | ⟨hp0, _⟩
    · exact Or.inr ⟨rfl, rfl⟩
    · exact r5.1 p hp0
  · exact r7.imp rfl rfl fun _ _ h1 _ _ => by rw [hfz] at h1; cases h1
  · refine r8.imp (fun mf hmf => hmf.imp (fun v0 hv0 p hp hjn => ?_))
    rcases (mem_set hnd).1 hp with rfl | ⟨hp0, _⟩
    · exact Or.inr (Or.inr ⟨fun x hx => (by cases hx), fun _ => rfl⟩)
    · exact hv0 p hp0 hjn
  · show Holds' s.job _
    cases hj : s.job with
    | none => trivial
    | some j =>
      obtain ⟨h1, h2, h3, h4, h5, h6, h7, h8, h9, h10, h11, h12⟩ := h.jobOK hj
      have hmk := (h2.compaction (h.job_of_nofrozen hph hfz htr hj)).mkJournal
      refine ⟨h1, h2, h3, h4, h5, h6, h7, MkJournalOK.of_none hmk, ?_, h10, h11, h12⟩
      refine h9.imp fun v hv => hv.of_journals rfl (Nat.le_refl _) fun n hn p hp hpn => ?_
      rcases (mem_set hnd).1 hp with rfl | ⟨hp0, _⟩
      · simp only at hpn; omega
      · exact ⟨p, hp0, hpn, id⟩

/-- `newMem` whose `Create` reports an error although the file was made: the file number is handed back
    (`reuseFileNum`), an empty journal with that number stays behind; the next `newMem` truncates and adopts it -/
theorem inv_rotate_failEffect (h : Inv cfg s d)
    (hs : stepWriter cfg s d (.rotate .failEffect) = some (s', d')) : Inv cfg s' d' := by
  simp only [stepWriter, Disk.exec, Disk.apply] at hs
  split at hs
  · rename_i hg
    simp only [Outcome.failed, if_true, Option.some.injEq, Prod.mk.injEq] at hs
    obtain ⟨rfl, rfl⟩ := hs
    exact h.create_journal hg.1 hg.2.2.1 hg.2.2.2
  · cases hs

/-- `newMem`: the journal is created, then the session adopts it.  What is said of the journals follows from what
    `Inv.create_journal` leaves: the new file is empty, every other one lies below it. -/
theorem inv_rotate {cfg : Cfg} {s : St} {d : Disk} (h : Inv cfg s d) {s' : St} {d' : Disk}
    (hs : stepWriter cfg s d (.rotate .ok) = some (s', d')) : Inv cfg s' d' := by
  simp only [stepWriter, Disk.exec, Disk.apply] at hs
  split at hs
  · rename_i hg
    obtain ⟨hph, hq, hfz, htr⟩ := hg
    simp only [Outcome.failed, Bool.false_eq_true, if_false, Option.some.injEq, Prod.mk.injEq] at hs
    obtain ⟨rfl, rfl⟩ := hs
    have h1 := h.create_journal hph hfz htr
    have hjob := fun j => h.job_of_nofrozen (j := j) hph hfz htr
    have hntw := h.not_trWindow_of_tr_none htr
    obtain ⟨r1, r2, r3, r4, r5, r6, r7, r8, r9, r10⟩ := h1.run hph
    have hnd := sorted_nodup h1.disk.jsorted
    obtain ⟨jf, hjf, hall⟩ := holds_iff.1 r3
    rw [WPc.inflight_of_quiet hq, List.append_nil] at hall
    have hjfz : s.jfrozen = none := r7.jfrozen_none hfz
    have hemp : ∀ p ∈ d.journals.set s.nextFile ⟨[], []⟩, p.1 = s.nextFile → p.2.all = [] := fun p hp hpn =>
      (r5.1 p hp).elim (fun k => absurd hpn (Nat.ne_of_lt k)) (·.2)
    refine Inv.of_running hph h1.disk h1.mm
      ((h1.bounds_of hph).of_same rfl (seqHi_le_of_not_window hntw hntw (Nat.le_refl _)) (Nat.le_succ _)
        (fun _ => ⟨hph, Nat.le_of_lt r4.1⟩))
      ⟨⟨r1.1, by unfold TrOK; show Holds' s.tr _; rw [htr]; trivial⟩, r2, ?_,
        ⟨Nat.lt_succ_self _, fun p hp => (r5.1 p hp).imp Nat.le_of_lt (·.2)⟩,
        ⟨nums_le r5.1 (Nat.le_succ _), r5.2.imp (fun m hm => Nat.lt_succ_of_lt hm)⟩,
        WSeqOK.of_quiet hq (fun x hx => nomatch hx), ?_, ?_, r9,
        r10.frame rfl rfl rfl rfl rfl rfl rfl (Nat.le_refl _) (fun g hg => Or.inl hg) (Nat.le_succ _)⟩ ?_
    · show Holds (lookup (d.journals.set s.nextFile ⟨[], []⟩) s.nextFile) _
      rw [lookup_set, if_pos rfl]
      show JournalHolds _ (⟨[], []⟩ : LogFile Grp) ([] ++ inflight s.w) s.seq
      rw [WPc.inflight_of_quiet hq]
      exact ⟨fun x hx => (by cases hx), fun x hx _ => (by cases hx), fun x hx => (by cases hx),
        fun _ x hx => (by cases hx)⟩
    · refine frozenOK_iff.2 (Or.inr ⟨s.mem, s.jcur, rfl, rfl, r4.1, Nat.le_refl _, r6.mem_of_quiet hq, ?_, ?_, ?_⟩)
      · intro p hp hpn g hg
        rw [hemp p hp hpn] at hg; cases hg
      · intro p hp hpn
        have : lookup (d.journals.set s.nextFile ⟨[], []⟩) p.1 = some p.2 := lookup_of_mem hnd (by cases p; exact hp)
        rw [hpn, hjf] at this
        cases this
        exact hall
      · exact fun _ => ⟨⟨(s.jcur, jf), lookup_some_mem hjf, rfl⟩, h.sess_bounds hph hjob⟩
    · refine r8.imp (fun mf hmf => hmf.imp (fun v0 hv0 p hp hjn => ?_))
      rcases hv0 p hp hjn with k | k | k
      · exact Or.inr (Or.inl (by rw [k]))
      · rw [hjfz] at k; cases k
      · exact Or.inr (Or.inr k)
    · show Holds' s.job _
      cases hj : s.job with
      | none => trivial
      | some j =>
        have := (h.jobOK hj).rotate (hjob j hj) r4.1 (sorted_nodup h.disk.jsorted)
        rw [hj] at this
        exact this
  · cases hs

/-- the job clauses of a job just spawned: at most one output table, which takes the next file number; the pc is an early
    one (the first of the table phase if there is a table); nothing is written or removed yet.  What ties the job to its
    thread (kind, inputs, the journal it makes) is the caller's. -/
theorem JobOK.spawned (h : Inv cfg s d) (hph : s.phase ≠ .crashed) (i' : List Issue) (nf' : Nat) {j' : Job}
    (hlen : j'.outs.length ≤ 1) (houts : ∀ o ∈ j'.outs, o.1 = s.nextFile ∧ o.1 < nf')
    (hpc : j'.pc.early = true) (htab : j'.pc = .tCreate 0 ∧ j'.outs ≠ [] ∨ j'.outs = [] ∧ j'.pc.tablesDone = true)
    (he : j'.edit = some e) (hsh : e.added = j'.outs.map (·.1) ∧ e.torn = false ∧ e.snapshot = false)
    (hone : j'.rmTables = [] ∨ j'.kind = .recovFinal ∨ j'.kind = .compaction)
    (hmk : MkJournalOK { s with nextFile := nf', issued := i', job := some j' } d j')
    (hmkf : ∀ n, j'.mkJournal = some n → s.nextFile ≤ n)
    (hsett : Settled cfg s d (MirrorL s))
    (hkind : JobKindOK { s with nextFile := nf', issued := i', job := some j' } j')
    (hin : InputsOK { s with nextFile := nf', issued := i', job := some j' } d j' e) :
    JobOK cfg { s with nextFile := nf', issued := i', job := some j' } d j' := by
  have hb := h.bounds hph
  obtain ⟨mf, v0, vl, hparts, hlv, hvl, _, _⟩ := h.disk.last
  have hbc := early_beforeCommit hpc
  refine ⟨⟨hlen, hone⟩, hkind, ?_, ⟨fun o ho => (houts o ho).2, fun _ => ?_⟩, ?_, ?_, ?_, hmk, ?_,
    (fun hc => by rw [he] at hc; cases hc), ?_, (fun hc => by rw [hbc] at hc; cases hc)⟩
  · unfold JobManifestOK
    rw [he]
    simp only
    rw [JobManifest_early hpc]
    exact hsett
  · apply holds_of_some hparts.cur
    intro k hk
    obtain ⟨v, hv, _, _⟩ := hparts.views k hk
    apply holds_of_some hv
    have hbk := (hb.all mf hparts.cur k hk v hv).2.1
    exact ⟨fun o ho => Or.inl (by rw [(houts o ho).1]; exact hbk), fun n hn => Nat.le_trans hbk (hmkf n hn)⟩
  · rw [he]
    exact hsh
  · intro i o hio
    unfold OutOK
    rcases htab with ⟨h1, _⟩ | ⟨h1, _⟩
    · rw [h1]
      intro hlt; exact absurd hlt (Nat.not_lt_zero _)
    · rw [h1] at hio; simp at hio
  · rcases htab with ⟨h1, h2⟩ | ⟨_, h1⟩
    · unfold PcIdxOK
      rw [h1]
      exact List.length_pos_iff.2 h2
    · exact PcIdxOK_of_tablesDone h1
  · rw [hlv]
    exact early_not_rm hpc
  · rw [he]
    exact hin

/-- a job is spawned in the running DB (a flush of the frozen buffer, a table compaction, the commit of a transaction).  Nothing but the job's own
    clauses looks at it, except that its output tables take file numbers from `nextFile` on. -/
theorem Inv.spawn (h : Inv cfg s d) (hph : s.phase = .running) (hj : s.job = none) {j' : Job} {nf' : Nat}
    (hnf : s.nextFile ≤ nf') (hhi : s.seq ≤ seqHi { s with job := some j', nextFile := nf' })
    (houts : ∀ o ∈ j'.outs, s.nextFile ≤ o.1) (hbc : j'.edit = none ∨ j'.pc.beforeCommit = true)
    (hjob : JobOK cfg { s with job := some j', nextFile := nf' } d j') :
    Inv cfg { s with job := some j', nextFile := nf' } d := by
  obtain ⟨r1, r2, r3, r4, r5, r6, r7, r8, r9, r10⟩ := h.run hph
  have hfp : FlushPending s := (NoCommitYet.of_nojob hj).flushPending
  have hpc : ∀ m, j'.pc ≠ .rotRemove m := fun m hm => by
    have := hbc.imp hjob.noedit id
    rw [hm] at this
    exact this.elim (fun k => nomatch k) (fun k => nomatch k)
  exact Inv.of_running hph h.disk h.mm
    ((h.bounds_of hph).of_same rfl (by rw [seqHi_eq (not_trWindow_of_nojob hj)]; exact hhi) hnf
      fun _ => ⟨hph, Nat.le_refl _⟩)
    ⟨r1, ⟨r2.1.transport (by rw [hj]; exact fun m hm => nomatch hm) (fun m hm => hpc m (Option.some.inj hm)) rfl rfl rfl,
        r2.2⟩, r3, ⟨Nat.lt_of_lt_of_le r4.1 hnf, r4.2⟩,
      ⟨nums_le r5.1 hnf, r5.2.imp fun m hm => Nat.lt_of_lt_of_le hm hnf⟩, r6,
      r7.imp rfl rfl fun _ _ _ _ ⟨f1, f2, f3, f4, f5, f6⟩ => ⟨f1, f2, f3, f4, f5, fun _ => f6 hfp⟩, r8,
      (fun hc => nomatch hc),
      r10.mono rfl rfl rfl rfl rfl (fun _ _ => rfl) (fun _ => hbc) fun _ k =>
        k.elim (fun k => by rw [hj] at k; exact absurd k id) fun k => .inr <|
          k.mono hnf (Nat.le_refl _) (fun _ hg => Or.inl hg) (fun _ _ _ _ => rfl)
            fun t hlt _ o ho => Nat.lt_of_lt_of_le hlt (houts o ho)⟩
    hjob

theorem inv_flushStart {cfg : Cfg} {s : St} {d : Disk} (h : Inv cfg s d) {s' : St}
    (hs : flushStart s = some s') : Inv cfg s' d := by
  unfold flushStart at hs
  split at hs
  · rename_i hg
    obtain ⟨hph, hjob⟩ := hg
    have hrun := h.run hph
    split at hs
    · rename_i fz jf hfz hjf
      split at hs
      · -- empty frozen buffer: only `dropFrozenMem`
        rename_i hemp
        have hfz0 : fz = [] := by simpa using hemp
        obtain ⟨f1, f2, _, _, f5, _⟩ := hrun.frozen.get hfz hjf
        obtain ⟨_, _, vl, _, hlv, _, _, _⟩ := h.disk.last
        simp only [Option.some.injEq] at hs
        subst hs
        refine h.spawn hph hjob (Nat.le_refl _) (by rw [seqHi_eq]; exact Nat.le_refl _; exact not_trWindow_of_kind rfl nofun)
          (fun o ho => nomatch ho) (Or.inl rfl)
          ⟨⟨Nat.zero_le _, Or.inl rfl⟩, ?_, hrun.nojob hjob,
            ⟨fun o ho => absurd ho List.not_mem_nil, fun hc => absurd hc (by simp [JPc.beforeCommit])⟩, trivial,
            fun i o hi => absurd hi (by simp), trivial, trivial, ?_, fun _ => rfl, trivial,
            (fun _ => by rw [hlv]; exact fun o ho => absurd ho List.not_mem_nil)⟩
        · show JobKindOK _ _
          simp [JobKindOK, hph, hfz, hjf, hfz0]
        · rw [hlv]
          simp only [Holds]
          unfold RemovalsOK
          refine ⟨fun n hn => ?_, fun t ht => (by cases ht), fun hk => (by rcases hk with hk | hk <;> cases hk),
            fun _ n hn => hn⟩
          simp only [List.mem_singleton] at hn
          subst hn
          exact ⟨Or.inr ⟨f1, fun p hp hpn => ((hfz0 ▸ f5 p hp hpn).stale f2).1⟩, fun x hx => by cases hx⟩
      · -- a table for the frozen buffer
        rename_i hne
        have hfzne : fz ≠ [] := by simpa using hne
        simp only [Option.some.injEq] at hs
        subst hs
        exact h.spawn hph hjob (Nat.le_succ _) (by rw [seqHi_eq]; exact Nat.le_refl _; exact not_trWindow_of_kind rfl nofun)
          (fun o ho => by obtain rfl := List.mem_singleton.1 ho; exact Nat.le_refl _) (Or.inr rfl)
          (JobOK.spawned h (by rw [hph]; decide) s.issued (s.nextFile + 1) (Nat.le_refl _)
            (fun o ho => by obtain rfl := List.mem_singleton.1 ho; exact ⟨rfl, Nat.lt_succ_self _⟩) rfl
            (Or.inl ⟨rfl, List.cons_ne_nil _ _⟩) rfl ⟨rfl, rfl, rfl⟩ (Or.inl rfl) (MkJournalOK.of_none rfl)
            (fun n hn => nomatch hn) (hrun.nojob hjob)
            (by simp [JobKindOK, hph, hfz, hjf, hfzne]) (by simp [InputsOK]))
    · cases hs
  · cases hs

/-- spawning a table compaction: the inputs are live tables, the output table is their content -/
theorem inv_compactStart {cfg : Cfg} {s : St} {d : Disk} (h : Inv cfg s d) {inputs : List Nat} {s' : St}
    (hs : compactStart s d inputs = some s') : Inv cfg s' d := by
  unfold compactStart at hs
  split at hs
  · rename_i hg
    obtain ⟨hph, hjob, hne, hnd, hall⟩ := hg
    simp only [Option.some.injEq] at hs
    subst hs
    have hlive : ∀ t ∈ inputs, t ∈ s.live := by
      intro t ht
      have := List.all_eq_true.1 hall t ht
      simpa using this
    refine h.spawn hph hjob (Nat.le_succ _) (by rw [seqHi_eq]; exact Nat.le_refl _; exact not_trWindow_of_kind rfl nofun)
      (fun o ho => by obtain rfl := List.mem_singleton.1 ho; exact Nat.le_refl _) (Or.inr rfl)
      (JobOK.spawned h (by rw [hph]; decide) s.issued (s.nextFile + 1) (Nat.le_refl _)
        (fun o ho => by obtain rfl := List.mem_singleton.1 ho; exact ⟨rfl, Nat.lt_succ_self _⟩) rfl
        (Or.inl ⟨rfl, List.cons_ne_nil _ _⟩) rfl ⟨rfl, rfl, rfl⟩ (Or.inr (Or.inr rfl))
        (MkJournalOK.of_none rfl) (fun n hn => nomatch hn) ((h.run hph).nojob hjob)
        (by simp [JobKindOK, hph]) ?_)
    show InputsOK _ d _ _
    unfold InputsOK
    rw [if_pos rfl]
    refine ⟨rfl, rfl, rfl, fun t ht o ho => ?_, fun _ => ⟨hlive, ?_⟩⟩
    · obtain rfl := List.mem_singleton.1 ho
      exact h.live_lt hph hjob t (hlive t ht)
    · simp only [outsGrps, List.flatMap_cons, List.flatMap_nil, List.append_nil]
      rfl
  · cases hs

end GoLevel.Dur

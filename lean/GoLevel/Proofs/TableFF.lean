import GoLevel.Proofs.TableF
import GoLevel.Proofs.FilterR
/-! C13(f), table level: a filtered lookup of a stored key is never answered "absent". -/
namespace GoLevel.C13
open GoLevel BlockWriter TableWriter

theorem histOf_fblocks_mem (cfg : TableCfg) (c : List KV) (rest : List (List KV)) : ∀ (csL : List (List KV)) (s : Nat),
    (s + (dataBytes cfg csL).length, keysOf c) ∈ histOf s (fblocks cfg s (csL ++ c :: rest)) := by
  intro csL
  induction csL with
  | nil => intro s; simp [fblocks, histOf, dataBytes]
  | cons a t ih =>
    intro s
    simp only [List.cons_append, fblocks, histOf, dataBytes_cons, List.length_append, List.mem_cons]
    right
    have := ih (s + (blockBytes cfg a).length)
    rw [Nat.add_assoc] at this
    exact this

theorem monoEnds_fblocks (cfg : TableCfg) : ∀ (cs : List (List KV)) (s : Nat), MonoEnds s (fblocks cfg s cs) := by
  intro cs
  induction cs with
  | nil => intro s; trivial
  | cons c rest ih => intro s; exact ⟨by omega, ih _⟩

theorem find?_ge_of_mem {cmp : Bytes → Bytes → Ordering} (hc : LawfulCmp cmp) (kvs : List KV)
    (hsorted : StrictSorted cmp kvs) (kv : KV) (hm : kv ∈ kvs) :
    kvs.find? (fun e => cmp e.1 kv.1 != .lt) = some kv := by
  obtain ⟨A, B, rfl⟩ := List.append_of_mem hm
  have hA : ∀ a ∈ A, cmp a.1 kv.1 = .lt := fun a ha =>
    (List.pairwise_append.mp hsorted).2.2 a ha kv (List.mem_cons_self ..)
  rw [List.find?_append, find?_none_of_all_lt kv.1 A hA]
  simp [hc.refl]

/-- C13(f) on the shape level: a filtered `find` of a stored key returns that pair -/
theorem find_filtered_stored (cfg : TableCfg) (pol : FilterPolicy) (hf : cfg.filter = some pol)
    (hcfg : CfgOK cfg)
    (hlaw : LawfulFilter pol) (hgen : GenNonempty pol) (hlg : cfg.filterBaseLg < 256)
    (cs : List (List KV)) (hok : ChunksOK cfg cs [])
    (hsz : (tableFile cfg cs (some (filterOf cfg pol cs))).length < 2 ^ 32) (v : Bool)
    (kv : KV) (hm : kv ∈ cs.flatten) :
    ∃ t, Table.open cfg v (tableFile cfg cs (some (filterOf cfg pol cs))) = some t ∧ t.find kv.1 true = .ok kv := by
  obtain ⟨segs, hb, hfwd, _⟩ := filter_partition_writer pol cfg.filterBaseLg (fblocks cfg 0 cs) (monoEnds_fblocks cfg cs 0)
  have hbe : filterOf cfg pol cs = filterBlockBytes pol cfg.filterBaseLg segs := hb
  have hfb : (some (filterOf cfg pol cs)).isSome = cfg.filter.isSome := by simp [hf]
  obtain ⟨t, ho, hr, _, hfilt⟩ := open_reads cfg hcfg.ck cs _ hfb hsz v
  refine ⟨t, ho, ?_⟩
  have hsorted : StrictSorted cfg.cmp cs.flatten := by simpa using hok.sorted
  -- the answer from where the index seek lands
  obtain ⟨csL, csR, hsplit, htw, hhd, hseek⟩ := hr.index_seek hcfg (.inr hok) kv.1
  have hall := all_of_takeWhile_eq htw
  have hft : findTail cfg.cmp kv.1 csR = .ok kv := by
    rw [findTail_spec hcfg kv.1 csL csR (hsplit ▸ hok) hall hhd, ← hsplit,
      find?_ge_of_mem hcfg.cmp cs.flatten hsorted kv hm]
    rfl
  rw [← hft]
  -- the filter block
  have hflatsz : (flat pol segs).length < 2 ^ 32 := by
    have := hsz
    rw [tableFile_eq, hbe] at this
    simp only [filterSection, filterBlockBytes, List.length_append, withTrailer_length] at this
    omega
  have hrf : readFilterBlock cfg.cksum (tableFile cfg cs (some (filterOf cfg pol cs)))
      ⟨(dataBytes cfg cs).length, (filterOf cfg pol cs).length⟩ =
      some ⟨filterBlockBytes pol cfg.filterBaseLg segs, (flat pol segs).length, cfg.filterBaseLg, segs.length⟩ := by
    rw [tableFile_eq]
    simp only [filterSection, List.append_assoc, hbe]
    exact readFilterBlock_at hcfg.ck _ _ pol _ segs hlg hflatsz
  simp only [hf, hrf, Option.map_some] at hfilt
  -- it is asked about the chunk the seek landed on
  refine hr.find_at hcfg.cmp hcfg.ck (sorted_chunk cs hsorted) kv.1 csL csR hsplit hseek true
    fun _ pol' fbr hfl c rest hcsR => ?_
  obtain ⟨rfl, rfl⟩ := Prod.mk.inj (Option.some.inj (hfilt.symm.trans hfl))
  subst hcsR
  -- which holds the key
  have hokS : ChunksOK cfg (csL ++ c :: rest) [] := hsplit ▸ hok
  have hinc : kv ∈ c := by
    rw [hsplit, List.flatten_append, List.flatten_cons] at hm
    rcases List.mem_append.mp hm with h1 | h1
    · have := all_of_ix_all hcfg _ (lt_down hcfg.cmp kv.1) [] csL (c :: rest) 0 hokS hall kv h1
      simp [hcfg.cmp.refl] at this
    · rcases List.mem_append.mp h1 with h2 | h2
      · exact h2
      · have h3 := (hokS.right.head hcfg).2 kv (by simp only [List.append_nil]; exact h2)
        have h4 := hhd _ (by simp only [ixE, List.head?_cons]; rfl)
        simp only [List.append_nil] at h3
        simp [h3] at h4
  have hkin : kv.1 ∈ keysOf c := List.mem_map.mpr ⟨kv, hinc, rfl⟩
  have hhist := histOf_fblocks_mem cfg c rest csL 0
  rw [← hsplit, Nat.zero_add] at hhist
  obtain ⟨hlt, hmem⟩ := hfwd _ hhist kv.1 hkin
  have hsegne := List.ne_nil_of_mem hmem
  rw [contains_written pol cfg.filterBaseLg segs hflatsz _ kv.1 hlt (by rw [segBytes_ne _ _ hsegne]; exact hgen _ hsegne),
    segBytes_ne _ _ hsegne]
  exact hlaw _ _ hmem

end GoLevel.C13

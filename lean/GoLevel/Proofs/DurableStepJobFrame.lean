import GoLevel.Proofs.DurableStepRot
/-!
Steps of a job, the common frame: how the phase facts (`RunOK`, `RecOK`) and the clauses of `JobOK` carry over a step
that moves the pc, and the table phase (`tCreate`, `tWrite`, `tSync`).

A step of a job is proved through the frame of its shape; a frame asks only for what varies within the shape.
* `Inv.table_phase_step` (here): only the output table being made changes, which no admissible view lists.
* `Inv.newManifest_step` (`DurableStepJobCommit`): only manifests other than the one `CURRENT` names change; the pc stays
  among those of the retry of a commit.
* `Inv.commit_step` (`DurableStepJobCommit`): the commit itself, `append`, `sync`, `rotSetMeta`, `rotRemove`, `install` — the
  edit is in the manifest `CURRENT` names or gets there; journals and tables stay, the admissible views change.
* `Inv.post_step` (`DurableStepJobPost`): the removal of a table or manifest no admissible view needs, and the moves from one
  removal loop to the next.
A job starts with the clauses `JobOK.spawned` gives it (`DurableStepRot`).
The failing outcomes of these steps go through the same frames (`DurableStepFault`).  On their own stand `mkJournal` and the
removal of a journal (the journals change), the end of a job (`inv_done_*`) and the storage getting ahead of the session
(`Inv.enter_limbo_core`).
-/
namespace GoLevel.Dur

variable {cfg : Cfg} {s s' : St} {d d' : Disk} {j : Job} {e : MRec} {rot : Bool}

/-- the fields of the state a job step may change -/
def St.upd (s : St) (j' : Job) (nf' : Nat) (l' : List Nat) (a' b' : Nat) (m' : Option Nat) (o' : Bool) : St :=
  { s with job := some j', nextFile := nf', live := l', stJn := a', stSq := b', manifestFd := m', manifestOpen := o' }

theorem RunOK.job_step (h : RunOK cfg s d)
    (j' : Job) (nf' : Nat) (l' : List Nat) (a' b' : Nat) (m' : Option Nat) (o' : Bool) (lb : Option MRec)
    (hnf : s.nextFile ≤ nf') (hj : d'.journals = d.journals)
    (hmfd : MfdOK ({ s.upd j' nf' l' a' b' m' o' with limbo := lb }) d' ∧ o' = true)
    (hcur : Holds d'.current (· < nf'))
    (hnc : s.frozen ≠ none → FlushPending ({ s.upd j' nf' l' a' b' m' o' with limbo := lb }) → FlushPending s ∧ a' = s.stJn ∧ b' = s.stSq)
    (hrel : Holds (curManifest d') fun mf' => Holds (viewAt cfg mf' 0) fun v0' =>
      Holds (curManifest d) fun mf => Holds (viewAt cfg mf 0) fun v0 => v0.jn ≤ v0'.jn)
    (hlimbo : LimboOK ({ s.upd j' nf' l' a' b' m' o' with limbo := lb }) d') :
    RunOK cfg ({ s.upd j' nf' l' a' b' m' o' with limbo := lb }) d' := by
  obtain ⟨r1, r2, r3, r4, r5, r6, r7, r8, r9, _⟩ := h
  refine ⟨r1, hmfd, by rw [hj]; exact r3, by rw [hj]; exact ⟨Nat.lt_of_lt_of_le r4.1 hnf, r4.2⟩,
    ⟨by rw [hj]; exact nums_le r5.1 hnf, hcur⟩, r6, ?_, ?_, (fun hc => by cases hc), hlimbo⟩
  · refine r7.imp rfl rfl fun fz jf h1 _ ⟨f1, f2, f3, f4, f5, f6⟩ =>
      ⟨f1, f2, f3, by rw [hj]; exact f4, by rw [hj]; exact f5, fun hn => ?_⟩
    obtain ⟨hn', ea, eb⟩ := hnc (by rw [h1]; exact fun hx => nomatch hx) hn
    obtain ⟨hp, hv⟩ := f6 hn'
    rw [hj]
    refine ⟨hp, ?_⟩
    show a' ≤ jf ∧ b' ≤ s.frozenSeq
    rw [ea, eb]
    exact hv
  · refine hrel.imp (fun mf' hmf' => hmf'.imp (fun v0' hv0' p hp hjn => ?_))
    obtain ⟨mf, hmf, hv0'⟩ := holds_iff.1 hv0'
    obtain ⟨v0, hv0, hle⟩ := holds_iff.1 hv0'
    rw [hj] at hp
    have q1 := holds_some r8 hmf
    have q2 := holds_some q1 hv0
    exact q2 p hp (Nat.le_trans hle hjn)

theorem RecOK.job_step {r : Recov} (h : RecOK cfg s d r)
    (j' : Job) (nf' : Nat) (l' : List Nat) (a' b' : Nat) (m' : Option Nat) (o' : Bool)
    (hnf : s.nextFile ≤ nf') (hj : d'.journals = d.journals)
    (hmfd : MfdOK (s.upd j' nf' l' a' b' m' o') d')
    (hcur : Holds d'.current (· < nf'))
    (hnc : j'.pc.beforeCommit = true → NoCommitYet s ∧ curManifest d' = curManifest d ∧
      l' = s.live ∧ a' = s.stJn ∧ b' = s.stSq ∧ o' = s.manifestOpen)
    (hlast : Holds (lastView cfg d') fun v' => Holds (lastView cfg d) fun v =>
      v.jn ≤ v'.jn ∧ ∀ n ∈ r.todo, v'.jn ≤ n) :
    RecOK cfg (s.upd j' nf' l' a' b' m' o') d' r := by
  obtain ⟨r1, r2, r3, r4, r5, r6, r7, r8, r9, r10⟩ := h
  refine ⟨hmfd, r2, r3, r4, ⟨by rw [hj]; exact fun p hp => Nat.lt_of_lt_of_le (r5.1 p hp) hnf, hcur,
      fun n hn => Nat.lt_of_lt_of_le (r5.2.2 n hn) hnf⟩,
    by rw [hj]; exact r6, ?_, ?_, ?_, fun o ho => Nat.lt_of_lt_of_le (r10 o ho) hnf⟩
  · unfold MdbOK at r7 ⊢
    split
    · rename_i o ho
      rw [ho] at r7
      simp only at r7
      refine ⟨by rw [hj]; exact r7.1, r7.2.1, fun hn => ?_⟩
      rw [hj]
      have hbc : j'.pc.beforeCommit = true := hn
      obtain ⟨hn', _, _, _, hb, _⟩ := hnc hbc
      have := r7.2.2 hn'
      exact ⟨this.1, by rw [hb]; exact this.2⟩
    · rename_i ho; rw [ho] at r7; exact r7
  · intro hn
    have hbc : j'.pc.beforeCommit = true := hn
    obtain ⟨hn', hcm, rfl, rfl, rfl, rfl⟩ := hnc hbc
    exact (r8 hn').congr hcm
  · obtain ⟨v', hv', hl⟩ := holds_iff.1 hlast
    obtain ⟨v, hv, hle, htg⟩ := holds_iff.1 hl
    refine holds_of_some hv' ⟨fun p hp hjn => ?_, htg⟩
    rw [hj] at hp
    exact (holds_some r9 hv).1 p hp (Nat.le_trans hle hjn)

theorem flushPending_of_step {j j' : Job} {nf' : Nat} {l' : List Nat} {a' b' : Nat} {m' : Option Nat}
    {o' : Bool} (hj : s.job = some j) (hk : j'.kind = j.kind)
    (hpc : j.kind = .flush → j.pc.uninstalled = false → j'.pc.uninstalled = false)
    (h : FlushPending (s.upd j' nf' l' a' b' m' o')) : FlushPending s := by
  unfold FlushPending at h ⊢
  rw [hj]
  intro hf
  have h' : j'.kind = .flush → j'.pc.uninstalled = true := h
  have := h' (by rw [hk]; exact hf)
  cases hb : j.pc.uninstalled with
  | true => rfl
  | false => rw [hpc hf hb] at this; cases this

/-- the phase facts under a step that only moves the pc of the job (and may take file numbers) -/
theorem phase_frame (h : Inv cfg s d) (hj : s.job = some j) (pc' : JPc) (nf' : Nat)
    (hnf : s.nextFile ≤ nf') (hjr : d'.journals = d.journals) (hc : d'.current = d.current)
    (hcm : curManifest d' = curManifest d)
    (hpc : ∀ m, pc' ≠ .rotRemove m) (hnr : ∀ m, j.pc ≠ .rotRemove m)
    (hbc : pc'.beforeCommit = true → j.pc.beforeCommit = true)
    (hun : j.kind = .flush → j.pc.uninstalled = false → pc'.uninstalled = false)
    (hlimbo : s.phase = .running → LimboOK { s with job := some { j with pc := pc' }, nextFile := nf' } d') :
    (s.phase = .running → RunOK cfg { s with job := some { j with pc := pc' }, nextFile := nf' } d') ∧
    (s.phase = .recovering → Holds s.recov (RecOK cfg { s with job := some { j with pc := pc' }, nextFile := nf' } d')) := by
  have hmfd0 : MfdOK s d → MfdOK { s with job := some { j with pc := pc' }, nextFile := nf' } d' := fun hm =>
    hm.transport (by rw [hj]; intro m hm'; exact hnr m (Option.some.inj hm'))
      (by intro m hm'; exact hpc m (Option.some.inj hm')) rfl hc rfl
  obtain ⟨mf0, v0, vl, hparts, hlast, _, _, _⟩ := h.disk.last
  constructor
  · intro hph
    have hrun := h.run hph
    exact hrun.job_step { j with pc := pc' } nf' s.live s.stJn s.stSq s.manifestFd s.manifestOpen s.limbo hnf hjr
      ⟨hmfd0 hrun.mfd.1, hrun.mfd.2⟩ (by rw [hc]; exact hrun.nums.2.imp (fun m hm => Nat.lt_of_lt_of_le hm hnf))
      (fun _ hfp => ⟨flushPending_of_step (j' := { j with pc := pc' }) hj rfl hun hfp, rfl, rfl⟩)
      (by
        rw [hcm]
        exact holds_of_some hparts.cur (holds_of_some hparts.hv0 (holds_of_some hparts.cur
          (holds_of_some hparts.hv0 (Nat.le_refl _)))))
      (hlimbo hph)
  · intro hph
    have hrec := h.recov hph
    refine hrec.imp (fun r hr => ?_)
    have hlv : lastView cfg d' = lastView cfg d := lastView_congr hcm
    exact hr.job_step { j with pc := pc' } nf' s.live s.stJn s.stSq s.manifestFd s.manifestOpen hnf hjr (hmfd0 hr.mfd)
      (by rw [hc]; exact hr.nums.2.1.imp (fun m hm => Nat.lt_of_lt_of_le hm hnf))
      (fun hb => ⟨.of_job hj (hbc hb), hcm, rfl, rfl, rfl, rfl⟩)
      (by rw [hlv]; exact holds_of_some hlast (holds_of_some hlast ⟨Nat.le_refl _, (holds_some hr.rel hlast).2⟩))

theorem JobKindOK.transport {j j' : Job} (h : JobKindOK s j)
    (h1 : s'.phase = s.phase) (h2 : s'.frozen = s.frozen) (h3 : s'.jfrozen = s.jfrozen)
    (h4 : j.kind = .flush → s'.jcur = s.jcur)
    (h5 : s'.frozenSeq = s.frozenSeq) (h6 : s'.recov = s.recov) (h7 : s'.seq = s.seq)
    (k1 : j'.kind = j.kind) (k2 : j'.edit = j.edit) (k3 : j'.outs = j.outs) (k4 : j'.rmJournals = j.rmJournals)
    (k5 : j'.mkJournal = j.mkJournal)
    (h8 : s'.tr = s.tr) (h9 : s'.issued = s.issued) (k7 : j.kind = .tr → j'.rmTables = j.rmTables) :
    JobKindOK s' j' := by
  have h9' : issuedGrps s' = issuedGrps s := by unfold issuedGrps; rw [h9]
  unfold JobKindOK at h ⊢
  rw [k1, h1, h2, h3, h5, h6, h7, k2, k3, k4, k5, h8, h9']
  cases hk : j.kind <;> rw [hk] at h <;> simp only at h ⊢
  · rw [h4 hk]; exact h
  · exact h
  · exact h
  · exact h
  · rw [k7 hk]; exact h

theorem MkJournalOK.transport {j j' : Job} (h : MkJournalOK s d j)
    (h1 : s.nextFile ≤ s'.nextFile) (h2 : s'.jcur = s.jcur) (h3 : d'.journals = d.journals)
    (k1 : j'.mkJournal = j.mkJournal)
    (k2 : (j'.pc = .mkJournal ∨ j'.pc.tablesDone = false) ↔ (j.pc = .mkJournal ∨ j.pc.tablesDone = false)) :
    MkJournalOK s' d' j' := by
  unfold MkJournalOK at h ⊢
  rw [k1, h2, h3]
  split
  · trivial
  · rename_i n hn
    rw [hn] at h
    simp only at h
    refine ⟨Nat.lt_of_lt_of_le h.1 h1, ?_⟩
    have h' := h.2
    by_cases hc : j.pc = .mkJournal ∨ j.pc.tablesDone = false
    · rw [if_pos hc] at h'; rw [if_pos (k2.2 hc)]; exact h'
    · rw [if_neg hc] at h'; rw [if_neg (fun x => hc (k2.1 x))]; exact h'

theorem InputsOK.transport {j j' : Job} (h : InputsOK s d j e)
    (hk : j'.kind = j.kind) (ho : j'.outs = j.outs) (hrm : j.kind = .compaction → j'.rmTables = j.rmTables)
    (hbc : j'.pc.beforeCommit = true → j.pc.beforeCommit = true) (hl : j'.pc.beforeCommit = true → s'.live = s.live)
    (hT : j'.pc.beforeCommit = true → ∀ t, (∀ o ∈ j.outs, t ≠ o.1) → lookup d'.tables t = lookup d.tables t) :
    InputsOK s' d' j' e := by
  unfold InputsOK at h ⊢
  rw [hk]
  split
  · rename_i hc
    rw [if_pos hc] at h
    obtain ⟨a, b, c, dlt, f⟩ := h
    refine ⟨a, b, by rw [hrm hc]; exact c, by rw [ho]; exact dlt, fun hb => ?_⟩
    obtain ⟨f1, f2⟩ := f (hbc hb)
    refine ⟨by rw [hl hb]; exact f1, ?_⟩
    have : outsGrps j' = outsGrps j := by unfold outsGrps; rw [ho]
    rw [this, f2]
    exact (liveGrps_congr (d := d) (d' := d') (v := ⟨e.deleted, 0, 0, 0⟩)
      (fun t ht => hT hb t (fun o ho' hc' => by have := dlt t ht o ho'; omega))).symm
  · rename_i hc
    rw [if_neg hc] at h
    exact h

/-- the clauses of `JobOK` under a step from a pc behind the tables to another such pc that keeps the journals; if the new
    pc is still before the commit, the ghost edit, the session's tables, the table files and the manifest `CURRENT` names
    stay as well (`hb`) -/
theorem JobOK.late_next (h : JobOK cfg s d j)
    (hlate : j.pc ≠ .mkJournal ∧ j.pc.tablesDone = true) (j' : Job)
    (hj' : j'.kind = j.kind ∧ j'.outs = j.outs ∧ j'.mkJournal = j.mkJournal ∧ j'.edit = j.edit ∧
      j'.rmJournals = j.rmJournals)
    (hlate' : j'.pc ≠ .mkJournal ∧ j'.pc.tablesDone = true)
    (nf' : Nat) (l' : List Nat) (a' b' : Nat) (m' : Option Nat) (o' : Bool) (lb : Option MRec)
    (hb : j'.pc.beforeCommit = true → j.pc.beforeCommit = true ∧ lb = s.limbo ∧ l' = s.live ∧ d'.tables = d.tables ∧
      curManifest d' = curManifest d)
    (hnf : s.nextFile ≤ nf') (hj : d'.journals = d.journals)
    (hone : j'.rmTables = [] ∨ j'.kind = .recovFinal ∨ j'.kind = .compaction)
    (hman : JobManifestOK cfg { s.upd j' nf' l' a' b' m' o' with limbo := lb } d' j')
    (hrm : Holds (lastView cfg d') (RemovalsOK { s.upd j' nf' l' a' b' m' o' with limbo := lb } d' j'))
    (hne : j.edit = none → j'.pc.post = true)
    (hrmT : j.kind = .compaction ∨ j.kind = .tr → j'.rmTables = j.rmTables)
    (hcom : j'.pc.beforeCommit = false → Holds (lastView cfg d') fun v =>
      ∀ o ∈ j.outs, o.1 ∈ v.live ∧ lookup d'.tables o.1 = some ⟨o.2, true, false⟩) :
    JobOK cfg { s.upd j' nf' l' a' b' m' o' with limbo := lb } d' j' := by
  obtain ⟨h1, h2, h3, h4, h5, h6, h7, h8, h9, h10, h11, h12⟩ := h
  obtain ⟨k1, k2, k3, k4, k5⟩ := hj'
  refine ⟨⟨by rw [k2]; exact h1.1, hone⟩, ?_, hman, ⟨?_, ?_⟩, ?_, ?_, ?_, ?_, hrm, (by rw [k4]; exact hne), ?_,
    (by rw [k2]; exact hcom)⟩
  rotate_right
  · rw [k4]
    exact Holds'.imp (o := j.edit) h11 (fun e he0 => he0.transport k1 k2 (fun hk => hrmT (Or.inl hk))
      (fun x => (hb x).1) (fun x => (hb x).2.2.1) (fun x t _ => by rw [(hb x).2.2.2.1]))
  · exact h2.transport rfl rfl rfl (fun _ => rfl) rfl rfl rfl k1 k4 k2 k5 k3 rfl rfl (fun hk => hrmT (Or.inr hk))
  · rw [k2]; exact fun o ho => Nat.lt_of_lt_of_le (h4.1 o ho) hnf
  · intro x
    obtain ⟨hb1, rfl, _, _, hcm⟩ := hb x
    rw [hcm, k2, k3]
    have hret := JPc.retry_of_late hlate'.1 hlate'.2 x
    refine (h4.2 hb1).imp (fun mf hmf k hk => (hmf k hk).imp (fun v hv => ⟨fun o ho => ?_, hv.2⟩))
    rcases hv.1 o ho with h0 | h0
    · exact Or.inl h0
    · exact Or.inr ⟨hret, h0.2.1, by rw [k4]; exact h0.2.2.1, h0.2.2.2⟩
  · rw [k4, k2]; exact h5
  · intro i o hio
    rw [k2] at hio
    have := h6 i o hio
    rw [OutOK_of_tablesDone hlate.2] at this
    rw [OutOK_of_tablesDone hlate'.2]
    intro x
    rw [(hb x).2.2.2.1]
    exact this (hb x).1
  · exact PcIdxOK_of_tablesDone hlate'.2
  · apply h8.transport (s' := { s.upd j' nf' l' a' b' m' o' with limbo := lb }) hnf rfl hj k3
    exact iff_of_false (JPc.not_early_of_late hlate') (JPc.not_early_of_late hlate)

theorem Inv.not_crashed (h : Inv cfg s d) (hj : s.job = some j) :
    s.phase ≠ .crashed := by
  intro hc
  have := (h.crashed hc).1
  rw [hj] at this
  cases this

/-- while a job runs the DB is running or recovering: the clauses of that phase hold -/
theorem Inv.job_phase (h : Inv cfg s d) (hj : s.job = some j) :
    RunOK cfg s d ∨ ∃ r, s.recov = some r ∧ RecOK cfg s d r := by
  rcases hp : s.phase with _ | _ | _
  · exact absurd hp (h.not_crashed hj)
  · exact .inr (h.recOK hp)
  · exact .inl (h.run hp)

theorem Inv.seq_le_sqCap (h : Inv cfg s d) (hj : s.job = some j) :
    s.seq ≤ sqCap s j := by
  by_cases hk : j.kind = .tr
  · obtain ⟨g, _, ht⟩ := (h.jobOK hj).kind.tr hk
    rw [sqCap_tr hk ht.tr]
    have h1 := ((h.run ht.phase).tr_open ht.tr).2.2.2.1
    have h3 := Grp.seq_lt_fin ht.recs
    omega
  · rw [sqCap_of_ne_tr hk]
    exact Nat.le_refl _

theorem Inv.seqHi_step (h : Inv cfg s d) {j j' : Job} (hj : s.job = some j)
    (hj' : s'.job = some j') (htr : s'.tr = s.tr) (hseq : s'.seq = s.seq) (hk : j'.kind = j.kind)
    (hpc : j'.pc.beforeCommit = true → j.pc.beforeCommit = true) (hl : s'.limbo = s.limbo := by rfl) :
    seqHi s ≤ seqHi s' := by
  have hcap := h.seq_le_sqCap hj
  have hc : sqCap s' j' = sqCap s j := by unfold sqCap; rw [hk, htr, hseq]
  unfold seqHi
  rw [hj, hj']
  simp only [hl, hc, hseq]
  cases hb' : j'.pc.beforeCommit with
  | true =>
    rw [hpc hb']
    exact Nat.le_refl _
  | false =>
    simp only [true_or, if_true]
    split
    · exact Nat.le_refl _
    · exact hcap

/-- the invariant looks at `session.manifestFailed` only through the ghost edit: it is set while the storage is
    ahead of the session -/
theorem Inv.set_manifestFailed (h : Inv cfg s d) (b : Bool)
    (hb : s.limbo.isSome = true → b = true := by intro hx; first | rfl | cases hx) :
    Inv cfg { s with manifestFailed := b } d := by
  obtain ⟨h1, h2, h3, h4, h5, h6, h7⟩ := h
  refine ⟨h1, h2, h3, fun hr => ?_, fun hr => ?_, h6, ?_⟩
  · obtain ⟨r1, r2, r3, r4, r5, r6, r7, r8, r9, r10⟩ := h4 hr
    refine ⟨r1, r2, r3, r4, r5, r6, r7, r8, r9, ?_⟩
    unfold LimboOK at r10 ⊢
    cases hu : s.limbo with
    | none => trivial
    | some u =>
      rw [hu] at r10
      obtain ⟨_, k⟩ : LimboFacts s d u := r10
      exact ⟨hb (by rw [hu]; rfl), k⟩
  · have := h5 hr
    show Holds s.recov _
    refine this.imp (fun r hr' => ?_)
    obtain ⟨r1, r2, r3, r4, r5, r6, r7, r8, r9, r10⟩ := hr'
    exact ⟨r1, r2, r3, r4, r5, r6, r7, r8, r9, r10⟩
  · show Holds' s.job _
    refine Holds'.imp (o := s.job) h7 (fun j hj => ?_)
    obtain ⟨j1, j2, j3, j4, j5, j6, j7, j8, j9, j10, j11, j12⟩ := hj
    exact ⟨j1, j2, j3, j4, j5, j6, j7, j8, j9, j10, j11, j12⟩

theorem JobOK.mirror_before (h : JobOK cfg s d j)
    (hbc : j.pc.beforeCommit = true) : Settled cfg s d (MirrorL s) := by
  have hm := h.manifest
  unfold JobManifestOK at hm
  cases he : j.edit with
  | none => rw [he] at hm; exact hm
  | some e =>
    rw [he] at hm
    simp only at hm
    cases hpc : j.pc <;> rw [hpc] at hm hbc <;> simp only [JobManifest, JPc.beforeCommit] at hm hbc
    all_goals first
      | exact hm
      | exact hm.1
      | cases hbc
      | exact absurd hm id

/-- the limbo facts under a step of the table phase of a job (its pc is not one of the retry of a commit, so the
    ghost edit, if any, is a discarded transaction's): table `n`, an output of the job, changes -/
theorem LimboOK.table_step (h : LimboOK s d) (hj : s.job = some j)
    (hnret : j.pc.retry = false) {n : Nat} (hn : ∃ gs, (n, gs) ∈ j.outs) (hlive : ∀ t ∈ s.live, t ≠ n)
    (T' : Files TableFile) (hT : ∀ t, t ≠ n → lookup T' t = lookup d.tables t) (pc' : JPc)
    (hbc' : j.edit = none ∨ pc'.beforeCommit = true) :
    LimboOK { s with job := some { j with pc := pc' } } { d with tables := T' } := by
  refine h.mono rfl rfl rfl rfl rfl (fun t ht => ?_) (fun _ => hbc') fun u k => k.elim (fun k => ?_) fun k => .inr ?_
  · unfold tableGrpsOf
    show ((lookup T' t).map _).getD [] = _
    rw [hT t (hlive t ht)]
  · rw [hj] at k
    have : j.pc.retry = true := k.2
    rw [hnret] at this; cases this
  · refine k.mono (Nat.le_refl _) (Nat.le_refl _) (fun _ hg => Or.inl hg) (fun t _ _ h9 => hT t ?_)
      (fun _ _ h9 => by rw [hj] at h9; exact h9)
    -- the orphan's table lies below the job's outputs
    rw [hj] at h9
    obtain ⟨gs, hgs⟩ := hn
    have := h9 (n, gs) hgs
    simp only at this
    omega

/-- in the table phase the single output table is the one being made -/
theorem JobOK.table_phase (h : JobOK cfg s d j) {i : Nat}
    (hpc : j.pc = .tCreate i ∨ j.pc = .tWrite i ∨ j.pc = .tSync i) :
    i = 0 ∧ ∃ o, j.outs = [o] ∧ j.outs[i]? = some o ∧ j.edit.isSome := by
  have hidx : i < j.outs.length := by
    have := h.pcIdx
    unfold PcIdxOK at this
    rcases hpc with e | e | e <;> rw [e] at this <;> exact this
  have hlen := h.one.1
  have hi : i = 0 := by omega
  subst hi
  cases ho : j.outs with
  | nil => rw [ho] at hidx; simp at hidx
  | cons o os =>
    have : os = [] := by
      rw [ho] at hlen
      simp only [List.length_cons] at hlen
      exact List.length_eq_zero_iff.1 (by omega)
    subst this
    refine ⟨rfl, o, rfl, rfl, ?_⟩
    -- a job without an edit has no outputs
    cases he : j.edit with
    | some e => rfl
    | none => have := (h.kind.of_noedit he).2.2.1; rw [ho] at this; cases this

theorem tablesDone_of_not_table {pc : JPc} (h : ∀ i, pc ≠ .tCreate i ∧ pc ≠ .tWrite i ∧ pc ≠ .tSync i) :
    pc.tablesDone = true := by
  cases pc <;> simp_all [JPc.tablesDone]

/-- a step inside the table phase; what varies is how the output table stands at the new pc -/
theorem Inv.table_phase_step (h : Inv cfg s d) (hj : s.job = some j) {i : Nat}
    (hpc : j.pc = .tCreate i ∨ j.pc = .tWrite i ∨ j.pc = .tSync i) {n : Nat} {gs : List Grp}
    (hoi : j.outs[i]? = some (n, gs)) (T' : Files TableFile) (hT : ∀ t, t ≠ n → lookup T' t = lookup d.tables t)
    (hTn : T'.Pairwise (fun p q => p.1 ≠ q.1)) (pc' : JPc) (he' : pc'.early = true)
    (hout : OutOK { d with tables := T' } pc' 0 (n, gs))
    (hidx : PcIdxOK { j with pc := pc' })
    (hmk : j.mkJournal = none ∨ pc' = .mkJournal ∨ pc'.tablesDone = false) :
    Inv cfg { s with job := some { j with pc := pc' } } { d with tables := T' } := by
  have hok := h.jobOK hj
  obtain ⟨rfl, o, ho, hoi', hed⟩ := hok.table_phase hpc
  rw [hoi] at hoi'; cases hoi'
  have he : j.pc.early = true := by rcases hpc with e | e | e <;> rw [e] <;> rfl
  have hnret : j.pc.retry = false := by rcases hpc with e | e | e <;> rw [e] <;> rfl
  have hmem : (n, gs) ∈ j.outs := by rw [ho]; exact List.mem_singleton.2 rfl
  have hbc := early_beforeCommit he
  have hnr : ∀ m, j.pc ≠ .rotRemove m := by intro m hm; rw [hm] at he; cases he
  have hpc' : ∀ m, pc' ≠ .rotRemove m := by intro m hm; rw [hm] at he'; cases he'
  have hbc' : j.edit = none ∨ pc'.beforeCommit = true := Or.inr (early_beforeCommit he')
  -- everything but the `job` clause: only table `n` changes, which no admissible view lists
  suffices hjob : JobOK cfg { s with job := some { j with pc := pc' } } { d with tables := T' } { j with pc := pc' } by
    have hph := h.not_crashed hj
    have hb := h.bounds hph
    have hnv : AllViews cfg d fun v => ∀ t ∈ v.live, t ≠ n := fun mf hc k hk v hv t ht e =>
      h.outs_not_live hj hbc (Or.inl hnret) mf hc k hk v hv (n, gs) hmem (e ▸ ht)
    have hpf := phase_frame (d' := { d with tables := T' }) h hj pc' s.nextFile (Nat.le_refl _) rfl rfl rfl
      hpc' hnr (fun _ => hbc) (fun _ hb => by rw [JPc.uninstalled_of_bc hbc] at hb; cases hb)
      (fun hr => by
        have hrun := h.run hr
        refine hrun.limbo.table_step hj hnret ⟨gs, hmem⟩ ?_ T' hT pc' hbc'
        -- the session's tables are live in the last view of the manifest
        intro t ht
        obtain ⟨mf, _, vl, hparts, hlv, hvl, _⟩ := h.disk.last
        refine hnv mf hparts.cur _ (Nat.le_refl _) vl hvl t ?_
        refine MirrorL.live hrun.limbo (fun u hu => ?_) ((hok.mirror_before hbc).view hlv) t ht
        exact (hrun.limbo.get hu).owner.resolve_left fun k => by
          rw [hj] at k
          have : j.pc.retry = true := k.2
          rw [hnret] at this; cases this)
    constructor
    · apply h.disk.frame (d' := { d with tables := T' }) rfl rfl _ hTn h.disk.mnodup (fun _ hx => hx) (fun _ hx => hx)
      intro mf hc k hk v hv t ht
      exact hT t (hnv mf hc k hk v hv t ht)
    · exact h.mm.of_same rfl rfl
    · intro _
      exact hb.of_same rfl (h.seqHi_step hj rfl rfl rfl rfl (fun _ => hbc)) (Nat.le_refl _)
        (fun hr => ⟨hr, Nat.le_refl _⟩)
    · exact hpf.1
    · exact hpf.2
    · intro hc; exact absurd hc hph
    · exact hjob
  -- the clauses of `JobOK` at the new pc: all but the table clause carry over as they stand within the early pcs
  obtain ⟨e, hje⟩ := Option.isSome_iff_exists.1 hed
  have hman := hok.manifest_at hje
  rw [JobManifest_early he] at hman
  obtain ⟨h1, h2, h3, h4, h5, h6, h7, h8, h9, h10, h11, h12⟩ := hok
  refine ⟨h1, h2, ?_, ?_, h5, ?_, hidx, ?_, ?_, (fun hn => nomatch hje.symm.trans hn), ?_, (fun hb => by
    have hb' : pc'.beforeCommit = false := hb
    rw [early_beforeCommit he'] at hb'; cases hb')⟩
  rotate_right
  · exact Holds'.imp (o := j.edit) h11 (fun e he0 => he0.transport rfl rfl (fun _ => rfl)
      (fun _ => early_beforeCommit he) (fun _ => rfl) (fun _ t ht => hT t (ht (n, gs) hmem)))
  · refine JobManifestOK.of_some (j := { j with pc := pc' }) hje ?_
    rw [JobManifest_early he']
    exact hman
  · refine ⟨h4.1, fun _ => ?_⟩
    have := h4.2 (early_beforeCommit he)
    show Holds (curManifest d) _
    refine this.imp (fun mf hmf k hk => (hmf k hk).imp (fun v hv => ⟨fun o ho => ?_, hv.2⟩))
    rcases hv.1 o ho with h0 | h0
    · exact Or.inl h0
    · rw [hnret] at h0; exact absurd h0.1 (by simp)
  · intro i o' hio
    show OutOK _ pc' i o'
    have hio' : ([(n, gs)] : List (Nat × List Grp))[i]? = some o' := by rw [← ho]; exact hio
    cases i with
    | zero =>
      simp only [List.getElem?_cons_zero, Option.some.injEq] at hio'
      subst hio'
      exact hout
    | succ k => simp at hio'
  · rcases hmk with hmk | hmk
    · exact MkJournalOK.of_none hmk
    · exact h8.transport (Nat.le_refl _) rfl rfl rfl
        ⟨fun _ => Or.inr (by rcases hpc with e | e | e <;> rw [e] <;> rfl), fun _ => hmk⟩
  · exact h9.imp (fun v _ => early_not_rm (by exact he'))

theorem inv_job_tCreate (h : Inv cfg s d) (hj : s.job = some j) {i : Nat}
    (hpc : j.pc = .tCreate i)
    (hs : stepJob cfg s d j rot .ok = some (s', d')) : Inv cfg s' d' := by
  obtain ⟨rfl, o, ho, hoi, hed⟩ := (h.jobOK hj).table_phase (Or.inl hpc)
  obtain ⟨n, gs⟩ := o
  simp only [stepJob, hpc, hoi, Disk.exec, Disk.apply, Outcome.failed, Bool.false_eq_true, if_false,
    Option.some.injEq, Prod.mk.injEq] at hs
  obtain ⟨rfl, rfl⟩ := hs
  refine h.table_phase_step hj (Or.inl hpc) hoi (d.tables.set n {}) (fun t ht => by rw [lookup_set, if_neg ht])
    (nodup_set h.disk.tnodup _ _) (.tWrite 0) rfl ?_ (List.getElem?_eq_some_iff.1 hoi).1
    (Or.inr (Or.inr rfl))
  unfold OutOK
  refine ⟨fun hlt => absurd hlt (Nat.lt_irrefl _), fun _ => ?_⟩
  show Holds (lookup (d.tables.set n {}) n) _
  rw [lookup_set, if_pos rfl]
  rfl

theorem inv_job_tWrite (h : Inv cfg s d) (hj : s.job = some j) {i : Nat}
    (hpc : j.pc = .tWrite i)
    (hs : stepJob cfg s d j rot .ok = some (s', d')) : Inv cfg s' d' := by
  have hok := h.jobOK hj
  obtain ⟨rfl, o, ho, hoi, hed⟩ := hok.table_phase (Or.inr (Or.inl hpc))
  obtain ⟨n, gs⟩ := o
  simp only [stepJob, hpc, hoi, Disk.exec, Disk.apply, Outcome.failed, Bool.false_eq_true, if_false,
    Option.some.injEq, Prod.mk.injEq] at hs
  obtain ⟨rfl, rfl⟩ := hs
  have hcur := hok.tables 0 (n, gs) hoi
  unfold OutOK at hcur
  rw [hpc] at hcur
  obtain ⟨tf, htf, hbad⟩ := holds_iff.1 (hcur.2 rfl)
  refine h.table_phase_step hj (Or.inr (Or.inl hpc)) hoi (d.tables.modify n fun t => { t with grps := gs })
    (fun t ht => by rw [lookup_modify, if_neg ht]) (pairwise_keys_modify (R := (· ≠ ·)) _ _ h.disk.tnodup) (.tSync 0) rfl
    ?_ (List.getElem?_eq_some_iff.1 hoi).1 (Or.inr (Or.inr rfl))
  unfold OutOK
  refine ⟨fun hlt => absurd hlt (Nat.lt_irrefl _), fun _ => ?_⟩
  simp only [lookup_modify, if_true, htf, Option.map_some, Holds]
  exact ⟨trivial, hbad⟩

theorem inv_job_tSync (h : Inv cfg s d) (hj : s.job = some j) {i : Nat}
    (hpc : j.pc = .tSync i)
    (hs : stepJob cfg s d j rot .ok = some (s', d')) : Inv cfg s' d' := by
  have hok := h.jobOK hj
  obtain ⟨rfl, o, ho, hoi, hed⟩ := hok.table_phase (Or.inr (Or.inr hpc))
  obtain ⟨n, gs⟩ := o
  have hlen : ¬ (0 + 1 < j.outs.length) := by rw [ho]; simp
  simp only [stepJob, hpc, hoi, Disk.exec, Disk.apply, Outcome.failed, Bool.false_eq_true, if_false,
    Option.some.injEq, Prod.mk.injEq, hlen] at hs
  obtain ⟨rfl, rfl⟩ := hs
  have hcur := hok.tables 0 (n, gs) hoi
  unfold OutOK at hcur
  rw [hpc] at hcur
  obtain ⟨tf, htf, hgr, hbad⟩ := holds_iff.1 (hcur.2 rfl)
  have haft : j.afterTables = .mkJournal ∨ j.afterTables = .append := by
    unfold Job.afterTables
    by_cases hm : j.mkJournal.isSome = true
    · rw [if_pos hm]; exact Or.inl rfl
    · rw [if_neg hm, if_pos hed]; exact Or.inr rfl
  refine h.table_phase_step hj (Or.inr (Or.inr hpc)) hoi (d.tables.modify n fun t => { t with synced := true })
    (fun t ht => by rw [lookup_modify, if_neg ht]) (pairwise_keys_modify (R := (· ≠ ·)) _ _ h.disk.tnodup) j.afterTables
    (by rcases haft with e | e <;> rw [e] <;> rfl) ?_
    (by unfold PcIdxOK; rcases haft with e | e <;> rw [e] <;> trivial) ?_
  · have key : Holds (lookup (d.tables.modify n fun t => { t with synced := true }) n)
        fun tf => tf = ⟨gs, true, false⟩ := by
      simp only [lookup_modify, if_true, htf, Option.map_some, Holds]
      cases tf
      simp_all
    unfold OutOK
    rcases haft with e | e <;> rw [e] <;> exact fun _ => key
  · unfold Job.afterTables
    cases hm : j.mkJournal with
    | none => exact Or.inl rfl
    | some x => exact Or.inr (Or.inl rfl)

end GoLevel.Dur

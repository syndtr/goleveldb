import GoLevel.Proofs.TableF
/-! C13: content of a range-restricted iterator (`NewIterator(&util.Range{Start, Limit})`) on a written table. -/
namespace GoLevel.C13
open GoLevel BlockWriter TableWriter TableR

theorem mapLast_id {α : Type} (f : α → α) : ∀ l : List α, (∀ c ∈ l, f c = c) → mapLast f l = l := by
  intro l
  induction l with
  | nil => intro _; rfl
  | cons a t ih =>
    intro h
    cases t with
    | nil => simp [mapLast, h a (List.mem_cons_self ..)]
    | cons b t' =>
      simp only [mapLast]
      rw [ih (fun c hc => h c (List.mem_cons_of_mem _ hc))]

theorem mapLast_snoc {α : Type} (f : α → α) (c : α) : ∀ l : List α, mapLast f (l ++ [c]) = l ++ [f c] := by
  intro l
  induction l with
  | nil => rfl
  | cons a t ih =>
    cases t with
    | nil => simp [mapLast]
    | cons b t' =>
      show a :: mapLast f (b :: t' ++ [c]) = a :: (b :: t' ++ [f c])
      rw [ih]

theorem mapEnds_cons {α : Type} (f : α → α) (c : α) (r : List α) : mapEnds f (c :: r) = f c :: mapLast f r := by
  cases r <;> rfl

theorem mapEnds_id {α : Type} (f : α → α) (l : List α) (h : ∀ c ∈ l, f c = c) : mapEnds f l = l := by
  cases l with
  | nil => rfl
  | cons a t => rw [mapEnds_cons, h a (List.mem_cons_self ..), mapLast_id f _ fun c hc => h c (List.mem_cons_of_mem _ hc)]

/-- `indexIter.Get` hands the slice to the first and to the last data block only.  On the blocks `B ++ C.take 1` that
is the slice applied to every block, provided it leaves the blocks of `B` behind the first as they are. -/
theorem mapEnds_eq_map {α : Type} (f : α → α) (B C : List α) (h : ∀ c ∈ B.tail, f c = c) :
    mapEnds f (B ++ C.take 1) = (B ++ C.take 1).map f := by
  have hl : ∀ B' : List α, (∀ c ∈ B', f c = c) → mapLast f (B' ++ C.take 1) = (B' ++ C.take 1).map f := by
    intro B' h'
    rw [List.map_append, List.map_congr_left (g := id) h', List.map_id]
    cases C with
    | nil => simpa using mapLast_id f B' h'
    | cons c R => exact mapLast_snoc f c B'
  cases B with
  | nil => cases C <;> rfl
  | cons b B' => rw [List.cons_append, mapEnds_cons, hl B' h]; rfl

/-- "below `Start`" (nothing is, without a start) -/
def belowStart (cmp : Bytes → Bytes → Ordering) (start : Option Bytes) : KV → Bool :=
  match start with
  | none => fun _ => false
  | some s => fun e => cmp e.1 s == .lt

/-- "below `Limit`" (everything is, without a limit) -/
def belowLimit (cmp : Bytes → Bytes → Ordering) (limit : Option Bytes) : KV → Bool :=
  match limit with
  | none => fun _ => true
  | some l => fun e => cmp e.1 l == .lt

theorem belowStart_down {cmp : Bytes → Bytes → Ordering} (hc : LawfulCmp cmp) (start : Option Bytes) :
    DownClosed cmp (belowStart cmp start) := by
  intro a b hab hb
  cases start with
  | none => simp [belowStart] at hb
  | some s => exact lt_down hc s a b hab hb

theorem belowLimit_down {cmp : Bytes → Bytes → Ordering} (hc : LawfulCmp cmp) (limit : Option Bytes) :
    DownClosed cmp (belowLimit cmp limit) := by
  intro a b hab hb
  cases limit with
  | none => rfl
  | some s => exact lt_down hc s a b hab hb

theorem sliceBlock_eq (cmp : Bytes → Bytes → Ordering) (start limit : Option Bytes) (es : List KV) :
    sliceBlock cmp start limit es = (es.dropWhile (belowStart cmp start)).takeWhile (belowLimit cmp limit) := by
  cases start <;> cases limit <;> simp [sliceBlock, belowStart, belowLimit, dropWhile_false, takeWhile_true]

theorem sliceIndex_eq (cmp : Bytes → Bytes → Ordering) (start limit : Option Bytes) (ix : List KV) :
    sliceIndex cmp start limit ix =
      (ix.dropWhile (belowStart cmp start)).takeWhile (belowLimit cmp limit) ++
        ((ix.dropWhile (belowStart cmp start)).dropWhile (belowLimit cmp limit)).take 1 := by
  cases start <;> cases limit <;>
    simp [sliceIndex, belowStart, belowLimit, dropWhile_false, takeWhile_true, dropWhile_true]

theorem blocksOf_append (t : TableR) : ∀ (l1 l2 : List KV),
    t.blocksOf (l1 ++ l2) = match t.blocksOf l1, t.blocksOf l2 with
      | some a, some b => some (a ++ b)
      | _, _ => none := by
  intro l1
  induction l1 with
  | nil => intro l2; cases h : t.blocksOf l2 <;> simp [TableR.blocksOf, h]
  | cons e rest ih =>
    intro l2
    obtain ⟨k, hv⟩ := e
    simp only [List.cons_append, TableR.blocksOf]
    cases BH.decode hv with
    | none => rfl
    | some p =>
      obtain ⟨bh, n⟩ := p
      simp only
      cases t.dataBlock bh with
      | none => rfl
      | some db =>
        simp only
        rw [ih l2]
        cases db.entries <;> cases t.blocksOf rest <;> cases t.blocksOf l2 <;> rfl

/-- `start ≤ key < limit` (an absent bound is no constraint) -/
def inRange (cmp : Bytes → Bytes → Ordering) (start limit : Option Bytes) (e : KV) : Bool :=
  !belowStart cmp start e && belowLimit cmp limit e

theorem DownClosed.initial {cmp : Bytes → Bytes → Ordering} {P : KV → Bool} (hP : DownClosed cmp P)
    {l : List KV} (hs : StrictSorted cmp l) : Initial P l :=
  .of_pairwise hs fun a b h => hP a b (StrictOrd.le_of_lt h)

/-- the chunks `A` lie below the start, those of `B` below the limit; slicing the first and the last of
`B ++ C.take 1` yields the pairs in range: on a sorted chunk the slice is a filter, and the filter keeps all of a
chunk strictly between the two and nothing of `A` and of the chunks behind the first of `C` -/
theorem range_flat (Ps Pl : KV → Bool) (A B C : List (List KV))
    (hPs : Initial Ps (A ++ (B ++ C)).flatten) (hPl : Initial Pl (A ++ (B ++ C)).flatten)
    (hA : ∀ kv ∈ A.flatten, Ps kv = true)
    (hB : ∀ kv ∈ B.flatten, Pl kv = true)
    (hS : ∀ c0 rest, B ++ C = c0 :: rest → ∀ kv ∈ rest.flatten, Ps kv = false)
    (hL : ∀ cl R, C = cl :: R → ∀ kv ∈ R.flatten, Pl kv = false) :
    (mapEnds (fun es => (es.dropWhile Ps).takeWhile Pl) (B ++ C.take 1)).flatten =
      (A ++ (B ++ C)).flatten.filter fun x => !Ps x && Pl x := by
  have hf : ∀ c ∈ A ++ (B ++ C), (c.dropWhile Ps).takeWhile Pl = c.filter fun x => !Ps x && Pl x := fun c hc =>
    Initial.slice_eq_filter (hPs.sublist (List.sublist_flatten_of_mem hc)) (hPl.sublist (List.sublist_flatten_of_mem hc))
  have hmid : ∀ c ∈ B.tail, (c.dropWhile Ps).takeWhile Pl = c := by
    intro c hc
    cases B with
    | nil => cases hc
    | cons b B' =>
      rw [hf c (by simp [show c ∈ B' from hc]), List.filter_eq_self]
      intro x hx
      rw [hS b (B' ++ C) rfl x (List.mem_flatten.2 ⟨c, List.mem_append_left _ hc, hx⟩),
        hB x (List.mem_flatten.2 ⟨c, List.mem_cons_of_mem _ hc, hx⟩)]
      rfl
  have hfirst : A.flatten.filter (fun x => !Ps x && Pl x) = [] :=
    List.filter_eq_nil_iff.2 fun x hx => by simp [hA x hx]
  have hlast : (C.drop 1).flatten.filter (fun x => !Ps x && Pl x) = [] := by
    cases C with
    | nil => rfl
    | cons cl R => exact List.filter_eq_nil_iff.2 fun x hx => by simp [hL cl R rfl x hx]
  rw [mapEnds_eq_map _ B C hmid, List.map_congr_left fun c hc => hf c (List.mem_append_right _
      (List.mem_append.2 ((List.mem_append.1 hc).imp_right List.mem_of_mem_take))), ← List.filter_flatten]
  conv => rhs; rw [← List.take_append_drop 1 C]
  simp only [List.flatten_append, List.filter_append, hfirst, hlast, List.append_nil, List.nil_append]

theorem ixE_take1 (cfg : TableCfg) (C : List (List KV)) (off : Nat) :
    (ixE cfg off C []).take 1 = ixE cfg off (C.take 1) ((C.drop 1).flatten ++ []) := by
  cases C with
  | nil => rfl
  | cons c R => simp [ixE]

theorem Reads.range {cfg : TableCfg} {cs : List (List KV)} {t : TableR} (hr : Reads cfg cs t)
    (hcfg : CfgOK cfg)
    (hshape : cs = [[]] ∨ ChunksOK cfg cs []) (start limit : Option Bytes) :
    t.entriesInRange start limit = some (cs.flatten.filter (inRange cfg.cmp start limit)) := by
  unfold TableR.entriesInRange
  rw [hr.index.entries]
  simp only [hr.cmp]
  rw [sliceIndex_eq]
  obtain ⟨A, cs1, hs1, htwA, hdwA, hhdA⟩ := ixE_split cfg (belowStart cfg.cmp start) [] cs 0
  obtain ⟨B, C, hs2, htwB, hdwB, hhdB⟩ := ixE_split cfg (belowLimit cfg.cmp limit) [] cs1
    (0 + (dataBytes cfg A).length)
  have hallA := all_of_takeWhile_eq htwA
  have hallB := all_of_takeWhile_eq htwB
  rw [hdwA, htwB, hdwB, ixE_take1, blocksOf_append]
  have hb1 := hr.blocksOf_ixE hcfg.ck (C.flatten ++ []) B A C (by rw [hs1, hs2])
  have hb2 := hr.blocksOf_ixE hcfg.ck ((C.drop 1).flatten ++ []) (C.take 1) (A ++ B) (C.drop 1)
    (by rw [hs1, hs2, List.take_append_drop, List.append_assoc])
  rw [dataBytes_append, List.length_append] at hb2
  simp only [Nat.zero_add] at hb1 hb2 ⊢
  rw [hb1, hb2]
  simp only
  rw [show sliceBlock cfg.cmp start limit = _ from funext (sliceBlock_eq cfg.cmp start limit)]
  rw [hs1, hs2]
  congr 1
  rcases hshape with hempty | hok
  · -- the empty table has no pairs, so the conditions of `range_flat` are void
    have hnil : (A ++ (B ++ C)).flatten = [] := by rw [← hs2, ← hs1, hempty]; rfl
    have hno : ∀ kv, kv ∉ (A ++ (B ++ C)).flatten := by rw [hnil]; simp
    refine range_flat _ _ A B C (hnil ▸ .nil) (hnil ▸ .nil) (fun kv h => absurd ?_ (hno kv))
      (fun kv h => absurd ?_ (hno kv)) (fun c0 rest e kv h => absurd ?_ (hno kv)) (fun cl R e kv h => absurd ?_ (hno kv))
    · simp [h]
    · simp [h]
    · rw [e]; simp [h]
    · rw [e]; simp [h]
  · have hok1 : ChunksOK cfg (A ++ cs1) [] := hs1 ▸ hok
    have hokcs1 : ChunksOK cfg (B ++ C) [] := hs2 ▸ hok1.right
    have hsorted : StrictSorted cfg.cmp (A ++ (B ++ C)).flatten := by
      have := hok.sorted; rwa [List.append_nil, hs1, hs2] at this
    have hPs := belowStart_down hcfg.cmp start
    have hPl := belowLimit_down hcfg.cmp limit
    refine range_flat _ _ A B C (hPs.initial hsorted) (hPl.initial hsorted) ?_ ?_ ?_ ?_
    · exact all_of_ix_all hcfg _ hPs [] A cs1 0 hok1 hallA
    · exact all_of_ix_all hcfg _ hPl [] B C _ hokcs1 hallB
    · exact fun c0 rest hbc kv hkv =>
        none_after_head hcfg _ hPs [] _ _ hokcs1 (hs2 ▸ hhdA) c0 rest hbc kv (List.mem_append_left _ hkv)
    · exact fun cl R hcl kv hkv =>
        none_after_head hcfg _ hPl [] _ _ hokcs1.right hhdB cl R hcl kv (List.mem_append_left _ hkv)

theorem sliceBlock_sorted {cmp : Bytes → Bytes → Ordering} (hc : LawfulCmp cmp) (start limit : Option Bytes)
    (l : List KV) (hs : StrictSorted cmp l) :
    sliceBlock cmp start limit l = l.filter (inRange cmp start limit) := by
  rw [sliceBlock_eq]
  exact Initial.slice_eq_filter ((belowStart_down hc start).initial hs) ((belowLimit_down hc limit).initial hs)

end GoLevel.C13

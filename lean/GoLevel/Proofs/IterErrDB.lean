import GoLevel.Proofs.IterErrBasic
import GoLevel.Proofs.IterDBPrev
/-!
# `EDBIter` over a raw iterator that may fail (C02 / C08)

`DBIter.step_couple`: one call of the error-free `DBIter` over a `FailSim` raw iterator either leaves it healthy and
did what the same call does over the twin, or leaves it failed — and then, unless the call ended in `prev()`, it
returned `false`.  Every raw movement has one shape (`move_then`).
-/
namespace GoLevel

def DBIter.mapRaw {σ τ : Type} (π : σ → τ) (d : DBIter σ) : DBIter τ :=
  ⟨π d.raw, d.seq, d.dir, d.key, d.value, d.fuel⟩

namespace DBIter
variable {σ τ : Type} {o : EIterOps σ} {sh : IterOps τ} {π : σ → τ} {H : σ → Prop} {F : σ → Err → Prop}

theorem backLoop_succ (p : IterOps σ) (c : UCmp) (n : Nat) (d : DBIter σ) :
    backLoop p c (n + 1) d =
      match p.cur (p.prev d.raw) with
      | none => ({ d with raw := p.prev d.raw }, false)
      | some e =>
        if c.cmp e.ukey d.key = .lt then ({ d with raw := p.prev d.raw }, true)
        else backLoop p c n { d with raw := p.prev d.raw } := rfl

/-- the result `r` of a loop over `o` against the result `r'` of the same loop over the twin: the raw iterator is
healthy and `r` is `r'` seen through `π`, or the raw iterator has failed and `bad r` -/
def Coupled (π : σ → τ) (H : σ → Prop) (F : σ → Err → Prop) (bad : DBIter σ × Bool → Prop)
    (r : DBIter σ × Bool) (r' : DBIter τ × Bool) : Prop :=
  (H r.1.raw ∧ (mapRaw π r.1, r.2) = r') ∨ ((∃ e, F r.1.raw e) ∧ bad r)

def CoupledD (π : σ → τ) (H : σ → Prop) (F : σ → Err → Prop) (bad : DBIter σ → Prop) (x : DBIter σ) (x' : DBIter τ) :
    Prop :=
  (H x.raw ∧ mapRaw π x = x') ∨ ((∃ e, F x.raw e) ∧ bad x)

theorem ite_rel {α β : Type} {P : α → β → Prop} {p : Prop} [Decidable p] {a b : α} {a' b' : β}
    (h1 : p → P a a') (h2 : ¬ p → P b b') : P (if p then a else b) (if p then a' else b') := by
  split
  · exact h1 ‹_›
  · exact h2 ‹_›

section
variable (hf : FailSim o sh π H F) (c : UCmp)
include hf

/-- the shape every raw movement of `dbIter` has: move the raw iterator with `cl`; on `true` go on with `K`, on
`false` stop with `stop`.  If going on and stopping are coupled with their twins (`Good`) or end badly (`Bad`),
and stopping on a failed raw iterator is bad, so is the whole. -/
theorem move_then {ρ ρ' : Type} (Good : ρ → ρ' → Prop) (Bad : ρ → Prop) (cl : Call IKey)
    (K stop : DBIter σ → ρ) (K' stop' : DBIter τ → ρ')
    (hK : ∀ d1, H d1.raw → Good (K d1) (K' (mapRaw π d1)) ∨ Bad (K d1))
    (hstop : ∀ d1, H d1.raw → Good (stop d1) (stop' (mapRaw π d1)))
    (hbad : ∀ d1 e, F d1.raw e → Bad (stop d1)) (d : DBIter σ) (hH : H d.raw) :
    Good (if o.ok (o.toIterOps.step cl d.raw) then K { d with raw := o.toIterOps.step cl d.raw }
        else stop { d with raw := o.toIterOps.step cl d.raw })
      (if sh.ok (sh.step cl (π d.raw)) then K' { mapRaw π d with raw := sh.step cl (π d.raw) }
        else stop' { mapRaw π d with raw := sh.step cl (π d.raw) }) ∨
    Bad (if o.ok (o.toIterOps.step cl d.raw) then K { d with raw := o.toIterOps.step cl d.raw }
        else stop { d with raw := o.toIterOps.step cl d.raw }) := by
  rcases hf.move_cases cl d.raw hH with ⟨h1, h2, hok⟩ | ⟨⟨e, hF⟩, hok⟩
  · have hm : ({ mapRaw π d with raw := sh.step cl (π d.raw) } : DBIter τ) =
        mapRaw π { d with raw := o.toIterOps.step cl d.raw } := by simp only [mapRaw, h2]
    rw [hok, hm]
    cases sh.ok (sh.step cl (π d.raw)) with
    | true => exact hK _ h1
    | false => exact .inl (hstop _ h1)
  · rw [hok]
    exact .inr (hbad _ e hF)

theorem nextLoop_couple (n : Nat) : ∀ d : DBIter σ, H d.raw →
    Coupled π H F (fun r => r.1.dir = .eoi) (nextLoop o.toIterOps c n d) (nextLoop sh c n (mapRaw π d)) := by
  induction n with
  | zero => intro d hH; exact .inl ⟨hH, rfl⟩
  | succ n ih =>
    intro d hH
    rw [nextLoop_succ, nextLoop_succ, show o.cur d.raw = sh.cur (mapRaw π d).raw from hf.hcur _ hH]
    have hc : ∀ d : DBIter σ, H d.raw →
        Coupled π H F (fun r => r.1.dir = .eoi) (nextCont o.toIterOps c n d) (nextCont sh c n (mapRaw π d)) :=
      move_then hf (fun (r : DBIter σ × Bool) r' => H r.1.raw ∧ (mapRaw π r.1, r.2) = r')
        (fun r => (∃ e, F r.1.raw e) ∧ r.1.dir = .eoi)
        .next (nextLoop o.toIterOps c n) (fun d => ({ d with dir := .eoi }, false))
        (nextLoop sh c n) (fun d => ({ d with dir := .eoi }, false))
        ih (fun _ h => ⟨h, rfl⟩) (fun _ e h => ⟨⟨e, h⟩, rfl⟩)
    cases sh.cur (mapRaw π d).raw with
    | none => exact hc d hH
    | some e =>
      -- both sides run down the same ladder of tests on `e` and the saved key
      exact ite_rel (P := Coupled π H F _)
        (fun _ => ite_rel (P := Coupled π H F _) (fun _ => hc { d with key := e.ukey, dir := .forward } hH)
          (fun _ => ite_rel (P := Coupled π H F _)
            (fun _ => ite_rel (P := Coupled π H F _) (fun _ => .inl ⟨hH, rfl⟩) (fun _ => hc d hH))
            (fun _ => hc d hH)))
        (fun _ => hc d hH)

theorem prevLoop_couple (n : Nat) : ∀ (del : Bool) (d : DBIter σ), H d.raw →
    Coupled π H F (fun _ => True) (prevLoop o.toIterOps c n del d) (prevLoop sh c n del (mapRaw π d)) := by
  induction n with
  | zero => intro del d hH; exact .inl ⟨hH, rfl⟩
  | succ n ih =>
    intro del d hH
    rw [prevLoop_succ, prevLoop_succ, show o.cur d.raw = sh.cur (mapRaw π d).raw from hf.hcur _ hH]
    have hc : ∀ (del : Bool) (d : DBIter σ), H d.raw →
        Coupled π H F (fun _ => True) (prevCont o.toIterOps c n del d) (prevCont sh c n del (mapRaw π d)) := fun del =>
      move_then hf (fun (r : DBIter σ × Bool) r' => H r.1.raw ∧ (mapRaw π r.1, r.2) = r')
        (fun r => (∃ e, F r.1.raw e) ∧ True)
        .prev (prevLoop o.toIterOps c n del) (fun d => (d, del)) (prevLoop sh c n del) (fun d => (d, del))
        (ih del) (fun _ h => ⟨h, rfl⟩) (fun _ e h => ⟨⟨e, h⟩, trivial⟩)
    cases sh.cur (mapRaw π d).raw with
    | none => exact hc del d hH
    | some e =>
      exact ite_rel (P := Coupled π H F _)
        (fun _ => ite_rel (P := Coupled π H F _) (fun _ => .inl ⟨hH, rfl⟩)
          (fun _ => ite_rel (P := Coupled π H F _) (fun _ => hc true d hH)
            (fun _ => hc false { d with key := e.ukey, value := e.val } hH)))
        (fun _ => hc del d hH)

omit hf in
theorem prevEnd_map (P : DBIter σ × Bool) :
    mapRaw π (prevEnd P) = prevEnd (mapRaw π P.1, P.2) ∧ (prevEnd P).raw = P.1.raw := by
  obtain ⟨p, b⟩ := P
  cases b <;> exact ⟨rfl, rfl⟩

theorem prevScan_couple (d : DBIter σ) (hH : H d.raw) :
    (H (prevScan o.toIterOps c d).raw ∧ mapRaw π (prevScan o.toIterOps c d) = prevScan sh c (mapRaw π d)) ∨
    (∃ e, F (prevScan o.toIterOps c d).raw e) := by
  rw [prevScan_eq, prevScan_eq, show o.toIterOps.ok d.raw = sh.ok (mapRaw π d).raw from hf.hok _ hH]
  cases sh.ok (mapRaw π d).raw with
  | false => exact .inl ⟨hH, rfl⟩
  | true =>
    simp only [if_true]
    obtain ⟨f1, f2⟩ := prevEnd_map (π := π) (prevLoop o.toIterOps c d.fuel true { d with dir := .backward })
    rw [f1, f2]
    rcases prevLoop_couple hf c d.fuel true { d with dir := .backward } hH with ⟨h1, h2⟩ | ⟨h2, _⟩
    · exact .inl ⟨h1, by rw [h2]; rfl⟩
    · exact .inr h2

theorem backLoop_couple (n : Nat) : ∀ d : DBIter σ, H d.raw →
    Coupled π H F (fun r => r.2 = false) (backLoop o.toIterOps c n d) (backLoop sh c n (mapRaw π d)) := by
  induction n with
  | zero => intro d hH; exact .inl ⟨hH, by first | rfl | trivial⟩
  | succ n ih =>
    intro d hH
    rw [backLoop_succ, backLoop_succ]
    rcases hf.move_cases .prev d.raw hH with ⟨h1, h2, _⟩ | ⟨⟨e, hF⟩, _⟩ <;> simp only [IterOps.step] at *
    · rw [show o.cur (o.prev d.raw) = sh.cur (sh.prev (mapRaw π d).raw) by rw [hf.hcur _ h1, h2]; rfl]
      cases sh.cur (sh.prev (mapRaw π d).raw) with
      | none => exact .inl ⟨h1, by simp [mapRaw, h2]⟩
      | some e =>
        simp only
        rw [show (mapRaw π d).key = d.key from rfl]
        by_cases h3 : c.cmp e.ukey d.key = .lt
        · simp only [h3, if_true]
          exact .inl ⟨h1, by simp [mapRaw, h2]⟩
        · simp only [h3, if_false]
          have := ih { d with raw := o.prev d.raw } h1
          rwa [show mapRaw π { d with raw := o.prev d.raw } = { mapRaw π d with raw := sh.prev (mapRaw π d).raw } by
            simp only [mapRaw, h2]] at this
    · simp only [hf.masked _ e hF]
      exact .inr ⟨⟨e, hF⟩, rfl⟩

omit hf c in
theorem ite_bnot {α : Type} (b : Bool) (x y : α) : (if (!b) = true then x else y) = if b = true then y else x := by
  cases b <;> rfl

theorem step_couple (cl : Call Bytes) (d : DBIter σ) (hH : H d.raw) :
    CoupledD π H F (fun x => EDBIter.viaPrev cl = false → x.dir.valid = false)
      (step o.toIterOps c cl d) (step sh c cl (mapRaw π d)) := by
  have hdir : (mapRaw π d).dir = d.dir := rfl
  -- every case is a raw movement followed by a scan (`K`) or a stop at an end
  have go := fun (nv : Prop) => move_then hf (fun (x : DBIter σ) x' => H x.raw ∧ mapRaw π x = x')
    (fun x => (∃ e, F x.raw e) ∧ (nv → x.dir.valid = false))
  have scan : ∀ d1 : DBIter σ, H d1.raw → CoupledD π H F (fun x => True → x.dir.valid = false)
      (nextLoop o.toIterOps c d1.fuel d1).1 (nextLoop sh c d1.fuel (mapRaw π d1)).1 := by
    intro d1 h1
    rcases nextLoop_couple hf c d1.fuel d1 h1 with ⟨h1, h2⟩ | ⟨h1, h2⟩
    · exact .inl ⟨h1, congrArg Prod.fst h2⟩
    · exact .inr ⟨h1, fun _ => by rw [h2]; rfl⟩
  have back : ∀ d1 : DBIter σ, H d1.raw → CoupledD π H F (fun x => False → x.dir.valid = false)
      (prevScan o.toIterOps c d1) (prevScan sh c (mapRaw π d1)) :=
    fun d1 h1 => (prevScan_couple hf c d1 h1).imp id (fun h => ⟨h, False.elim⟩)
  have toLast := go False .last (prevScan o.toIterOps c) (fun d1 => { d1 with dir := .soi })
      (prevScan sh c) (fun d1 => { d1 with dir := .soi }) back (fun _ h => ⟨h, rfl⟩) (fun _ e h => ⟨⟨e, h⟩, False.elim⟩)
  have fwd := fun (cl : Call IKey) (K : DBIter σ → DBIter σ) (K' : DBIter τ → DBIter τ) hK =>
    go True cl K (fun d1 => { d1 with dir := .eoi }) K' (fun d1 => { d1 with dir := .eoi }) hK
      (fun _ h => ⟨h, rfl⟩) (fun _ e h => ⟨⟨e, h⟩, fun _ => rfl⟩)
  -- `First`, `Seek`, `Next` move the raw iterator and scan from where it lands (`landOn`, here in its `if` form)
  have land := fun (cl : Call IKey) =>
    fwd cl (fun d1 => (nextLoop o.toIterOps c d1.fuel d1).1) (fun d1 => (nextLoop sh c d1.fuel d1).1) scan
  cases cl with
  | first =>
    by_cases hrel : d.dir = .released
    · simp only [step, first, hdir, hrel, if_true]; exact .inl ⟨hH, rfl⟩
    · simp only [step, first, hdir, hrel, if_false, EDBIter.viaPrev]
      exact land .first { d with dir := .soi } hH
  | seek k =>
    by_cases hrel : d.dir = .released
    · simp only [step, seek, hdir, hrel, if_true]; exact .inl ⟨hH, rfl⟩
    · simp only [step, seek, hdir, hrel, if_false, EDBIter.viaPrev]
      exact land (.seek (mkIKey k d.seq Gen.keyTypeSeek)) { d with dir := .soi } hH
  | next =>
    by_cases hend : d.dir = .eoi ∨ d.dir = .released
    · simp only [step, next, hdir, hend, if_true]; exact .inl ⟨hH, rfl⟩
    · simp only [step, next, hdir, hend, if_false, EDBIter.viaPrev, ite_bnot]
      by_cases hb : d.dir = .backward
      · simp only [if_pos hb]
        exact fwd .next
          (fun d1 => if o.ok (o.next d1.raw) then (nextLoop o.toIterOps c d1.fuel { d1 with raw := o.next d1.raw }).1
            else { d1 with raw := o.next d1.raw, dir := .eoi })
          (fun d1 => if sh.ok (sh.next d1.raw) then (nextLoop sh c d1.fuel { d1 with raw := sh.next d1.raw }).1
            else { d1 with raw := sh.next d1.raw, dir := .eoi })
          (land .next) d hH
      · simp only [if_neg hb]
        exact land .next d hH
  | last =>
    by_cases hrel : d.dir = .released
    · simp only [step, last, hdir, hrel, if_true]; exact .inl ⟨hH, rfl⟩
    · simp only [step, last, hdir, hrel, if_false, EDBIter.viaPrev, Bool.true_eq_false]
      exact toLast d hH
  | prev =>
    simp only [step, EDBIter.viaPrev, Bool.true_eq_false]
    cases hd : d.dir with
    | soi => simp only [prev, hdir, hd]; exact .inl ⟨hH, rfl⟩
    | released => simp only [prev, hdir, hd]; exact .inl ⟨hH, rfl⟩
    | eoi =>
      simp only [prev, hdir, hd, last, reduceCtorEq, if_false]
      exact toLast d hH
    | backward =>
      simp only [prev, hdir, hd]
      exact back d hH
    | forward =>
      rw [prev_forward_eq d hd, prev_forward_eq (mapRaw π d) hd]
      rcases backLoop_couple hf c d.fuel d hH with ⟨b1, b2⟩ | ⟨b1, b2⟩
      · rw [show (mapRaw π d).fuel = d.fuel from rfl, ← b2]
        simp only
        cases hfound : (backLoop o.toIterOps c d.fuel d).2 with
        | false => exact .inl ⟨b1, rfl⟩
        | true => exact back _ b1
      · simp only [b2, Bool.false_eq_true, if_false]
        exact .inr ⟨b1, False.elim⟩

end
end DBIter
end GoLevel

import GoLevel.Proofs.DurableInv
/-!
Lemmas about numbered files (`Files`): `lookup` through `set`, `modify`, `erase` and a map of the contents.
-/
namespace GoLevel.Dur

section files
variable {α : Type}

@[simp] theorem lookup_nil (n : Nat) : lookup ([] : Files α) n = none := rfl

theorem lookup_cons (p : Nat × α) (m : Files α) (n : Nat) :
    lookup (p :: m) n = if p.1 = n then some p.2 else lookup m n := by
  unfold lookup
  by_cases h : p.1 = n <;> simp [h]

theorem lookup_map_snd {β : Type} (m : Files α) (F : Nat → α → β) (n : Nat) :
    lookup (m.map fun p => (p.1, F p.1 p.2)) n = (lookup m n).map (F n) := by
  induction m with
  | nil => rfl
  | cons p m ih => rw [List.map_cons, lookup_cons, lookup_cons, ih]; split <;> simp_all

theorem map_snd_id (m : Files α) (F : Nat → α → α) (h : ∀ p ∈ m, F p.1 p.2 = p.2) :
    (m.map fun p => (p.1, F p.1 p.2)) = m := by
  induction m with
  | nil => rfl
  | cons p m ih =>
    rw [List.map_cons, ih (fun q hq => h q (List.mem_cons_of_mem _ hq)), h p List.mem_cons_self]

theorem nums_map_snd {β : Type} (m : Files α) (g : Nat → α → β) :
    Files.nums (m.map fun p => (p.1, g p.1 p.2)) = m.nums := by
  simp [Files.nums, List.map_map, Function.comp_def]

theorem lookup_some_mem {m : Files α} {n : Nat} {a : α} (h : lookup m n = some a) : (n, a) ∈ m := by
  induction m with
  | nil => simp at h
  | cons p m ih =>
    rw [lookup_cons] at h
    split at h
    · next e => cases h; cases e; exact List.mem_cons_self
    · exact List.mem_cons_of_mem _ (ih h)

theorem lookup_of_mem {m : Files α} (hn : m.Pairwise (fun p q => p.1 ≠ q.1)) {n : Nat} {a : α}
    (h : (n, a) ∈ m) : lookup m n = some a := by
  induction m with
  | nil => simp at h
  | cons p m ih =>
    rw [List.pairwise_cons] at hn
    rw [lookup_cons]
    rcases List.mem_cons.1 h with rfl | h'
    · simp
    · rw [if_neg (hn.1 _ h'), ih hn.2 h']

theorem lookup_none_iff {m : Files α} {n : Nat} : lookup m n = none ↔ ∀ p ∈ m, p.1 ≠ n := by
  induction m with
  | nil => simp
  | cons p m ih => rw [lookup_cons]; by_cases hp : p.1 = n <;> simp [hp, ih]

theorem lookup_isSome_iff {m : Files α} {n : Nat} : (lookup m n).isSome ↔ n ∈ m.nums := by
  cases h : lookup m n with
  | none =>
    simp only [Option.isSome_none, Bool.false_eq_true, false_iff, Files.nums, List.mem_map, not_exists, not_and]
    exact fun p hp => lookup_none_iff.1 h p hp
  | some a =>
    simp only [Option.isSome_some, true_iff, Files.nums, List.mem_map]
    exact ⟨_, lookup_some_mem h, rfl⟩

theorem sorted_nodup {m : Files α} (h : m.Pairwise (fun p q => p.1 < q.1)) : m.Pairwise (fun p q => p.1 ≠ q.1) :=
  h.imp (fun hlt => Nat.ne_of_lt hlt)

theorem mem_modify {m : Files α} {n : Nat} {f : α → α} {q : Nat × α} :
    q ∈ m.modify n f ↔ ∃ p ∈ m, q = if p.1 = n then (p.1, f p.2) else p := by
  simp only [Files.modify, List.mem_map]
  constructor
  · rintro ⟨p, hp, rfl⟩; exact ⟨p, hp, rfl⟩
  · rintro ⟨p, hp, rfl⟩; exact ⟨p, hp, rfl⟩

theorem mem_modify_ne {m : Files α} {n : Nat} {f : α → α} {q : Nat × α} (h : q ∈ m.modify n f)
    (hn : q.1 ≠ n) : q ∈ m := by
  obtain ⟨p, hp, rfl⟩ := mem_modify.1 h
  split at hn
  · exact absurd (by assumption) hn
  · rwa [if_neg (by assumption)]

abbrev St.wr (s : St) (w' : WPc) (i' : List Issue) (h' : Nat) (m' : List Grp) (q' : Nat) (ef' : Bool) : St :=
  { s with w := w', issued := i', hi := h', mem := m', seq := q', everFailed := ef' }

theorem modify_keys (m : Files α) (n : Nat) (f : α → α) : (m.modify n f).map (·.1) = m.map (·.1) := by
  simp only [Files.modify, List.map_map]
  apply List.map_congr_left
  intro p _
  simp only [Function.comp]
  split <;> rfl

theorem pairwise_keys_modify {R : Nat → Nat → Prop} {m : Files α} (n : Nat) (f : α → α)
    (h : m.Pairwise (fun p q => R p.1 q.1)) : (m.modify n f).Pairwise (fun p q => R p.1 q.1) := by
  have h' : (m.map (·.1)).Pairwise R := List.pairwise_map.2 h
  rw [← modify_keys m n f] at h'
  exact List.pairwise_map.1 h'

theorem lookup_modify (m : Files α) (n k : Nat) (f : α → α) :
    lookup (m.modify n f) k = if k = n then (lookup m k).map f else lookup m k := by
  induction m with
  | nil => simp [Files.modify]
  | cons p m ih =>
    have : Files.modify (p :: m) n f = (if p.1 = n then (p.1, f p.2) else p) :: Files.modify m n f := rfl
    rw [this, lookup_cons, lookup_cons, ih]
    grind

theorem modify_id (m : Files α) (n : Nat) : m.modify n id = m := by
  unfold Files.modify
  conv => rhs; rw [← List.map_id m]
  exact List.map_congr_left fun p _ => by split <;> rfl

theorem mem_erase {m : Files α} {n : Nat} {q : Nat × α} : q ∈ m.erase n ↔ q ∈ m ∧ q.1 ≠ n := by
  simp [Files.erase]

theorem pairwise_erase {R : Nat × α → Nat × α → Prop} {m : Files α} (n : Nat) (h : m.Pairwise R) :
    (m.erase n).Pairwise R := h.filter _

theorem lookup_erase (m : Files α) (n k : Nat) :
    lookup (m.erase n) k = if k = n then none else lookup m k := by
  induction m with
  | nil => simp [Files.erase]
  | cons p m ih =>
    simp only [Files.erase, List.filter_cons] at ih ⊢
    split <;> simp only [lookup_cons, ih] <;> grind

theorem set_of_fresh {m : Files α} {n : Nat} (a : α) (h : ∀ p ∈ m, p.1 ≠ n) : m.set n a = m ++ [(n, a)] := by
  induction m with
  | nil => rfl
  | cons p m ih =>
    simp only [Files.set, if_neg (h p List.mem_cons_self), List.cons_append,
      ih fun q hq => h q (List.mem_cons_of_mem _ hq)]

/-- writing to a file just created: it is the last in the listing, and the only one with its number -/
theorem set_modify_fresh {m : Files α} {n : Nat} (h : ∀ p ∈ m, p.1 ≠ n) (a : α) (f : α → α) :
    (m.set n a).modify n f = m.set n (f a) := by
  rw [set_of_fresh _ h, set_of_fresh _ h]
  simp only [Files.modify, List.map_append, List.map_cons, List.map_nil, if_true]
  rw [List.map_congr_left fun p hp => if_neg (h p hp), List.map_id']

theorem set_same {m : Files α} (hn : m.Pairwise (fun p q => p.1 ≠ q.1)) {n : Nat} {a : α}
    (h : (n, a) ∈ m) : m.set n a = m := by
  induction m with
  | nil => cases h
  | cons p ps ih =>
    rw [List.pairwise_cons] at hn
    simp only [Files.set]
    rcases List.mem_cons.1 h with rfl | h1
    · simp
    · rw [if_neg (fun e => hn.1 _ h1 e), ih hn.2 h1]

theorem Files.erase_set (m : Files α) (n : Nat) (a : α) : (m.set n a).erase n = m.erase n := by
  induction m with
  | nil => simp [Files.set, Files.erase]
  | cons p m ih =>
    unfold Files.erase at ih ⊢
    simp only [Files.set]
    split
    · next e => rw [List.filter_cons_of_neg (by simp), List.filter_cons_of_neg (by simp [e])]
    · next e => rw [List.filter_cons_of_pos (by simp [e]), List.filter_cons_of_pos (by simp [e]), ih]

theorem Files.erase_modify (m : Files α) (n : Nat) (f : α → α) : (m.modify n f).erase n = m.erase n := by
  induction m with
  | nil => rfl
  | cons p m ih =>
    unfold Files.erase Files.modify at ih ⊢
    rw [List.map_cons]
    by_cases h : p.1 = n
    · rw [if_pos h, List.filter_cons_of_neg (by simp [h]), List.filter_cons_of_neg (by simp [h]), ih]
    · rw [if_neg h, List.filter_cons_of_pos (by simp [h]), List.filter_cons_of_pos (by simp [h]), ih]

theorem erase_head_sorted {o : Nat} {fo : α} {J : Files α}
    (hs : ((o, fo) :: J).Pairwise (fun p q => p.1 < q.1)) : Files.erase ((o, fo) :: J) o = J := by
  rw [List.pairwise_cons] at hs
  unfold Files.erase
  rw [List.filter_cons]
  simp only [ne_eq, not_true_eq_false, decide_false, Bool.false_eq_true, if_false]
  apply List.filter_eq_self.2
  intro p hp
  have := hs.1 p hp
  simp only at this
  simp; omega

theorem lookup_set (m : Files α) (n k : Nat) (a : α) :
    lookup (m.set n a) k = if k = n then some a else lookup m k := by
  induction m with
  | nil => simp only [Files.set, lookup_cons, lookup_nil]; grind
  | cons p m ih => simp only [Files.set]; split <;> simp only [lookup_cons, ih] <;> grind

theorem mem_set {m : Files α} (hn : m.Pairwise (fun p q => p.1 ≠ q.1)) {n : Nat} {a : α} {q : Nat × α} :
    q ∈ m.set n a ↔ q = (n, a) ∨ (q ∈ m ∧ q.1 ≠ n) := by
  induction m with
  | nil => simp [Files.set]
  | cons p m ih =>
    rw [List.pairwise_cons] at hn
    simp only [Files.set]
    split
    · next e => subst e; simp only [List.mem_cons]; grind
    · simp only [List.mem_cons, ih hn.2]; grind

theorem set_nums_of_mem {m : Files α} {n : Nat} (a : α) (h : n ∈ m.nums) : (m.set n a).nums = m.nums := by
  induction m with
  | nil => cases h
  | cons p m ih =>
    obtain ⟨j, b⟩ := p
    by_cases hj : j = n
    · simp [Files.set, hj, Files.nums]
    · have h' : n ∈ Files.nums m := by
        simp only [Files.nums, List.map_cons, List.mem_cons] at h
        rcases h with h | h
        · exact absurd h.symm hj
        · exact h
      have := ih h'
      simp only [Files.nums] at this ⊢
      simp [Files.set, hj, this]

theorem mem_set_imp {m : Files α} {n : Nat} {a : α} {q : Nat × α} (h : q ∈ m.set n a) : q = (n, a) ∨ q ∈ m := by
  induction m with
  | nil => simp [Files.set] at h; exact Or.inl h
  | cons p m ih =>
    obtain ⟨j, b⟩ := p
    by_cases hj : j = n
    · simp only [Files.set, hj, if_true, List.mem_cons] at h
      rcases h with h | h
      · exact Or.inl h
      · exact Or.inr (List.mem_cons_of_mem _ h)
    · simp only [Files.set, hj, if_false, List.mem_cons] at h
      rcases h with h | h
      · exact Or.inr (h ▸ List.mem_cons_self)
      · rcases ih h with h | h
        · exact Or.inl h
        · exact Or.inr (List.mem_cons_of_mem _ h)

theorem nodup_set {m : Files α} (hn : m.Pairwise (fun p q => p.1 ≠ q.1)) (n : Nat) (a : α) :
    (m.set n a).Pairwise (fun p q => p.1 ≠ q.1) := by
  induction m with
  | nil => simp [Files.set]
  | cons p m ih =>
    rw [List.pairwise_cons] at hn
    simp only [Files.set]
    split
    · next e => subst e; exact List.pairwise_cons.2 ⟨fun q hq => hn.1 q hq, hn.2⟩
    · next e =>
      refine List.pairwise_cons.2 ⟨fun q hq => ?_, ih hn.2⟩
      rcases (mem_set hn.2).1 hq with rfl | ⟨h1, _⟩
      · exact e
      · exact hn.1 q h1

theorem sorted_set_fresh {m : Files α} (hs : m.Pairwise (fun p q => p.1 < q.1)) {n : Nat} (a : α)
    (h : ∀ p ∈ m, p.1 < n) : (m.set n a).Pairwise (fun p q => p.1 < q.1) := by
  rw [set_of_fresh a (fun p hp => Nat.ne_of_lt (h p hp))]
  rw [List.pairwise_append]
  refine ⟨hs, by simp, ?_⟩
  intro p hp q hq
  simp only [List.mem_singleton] at hq
  subst hq
  exact h p hp

end files

section logfile
variable {ρ : Type} (f : LogFile ρ) (r : ρ)

theorem LogFile.append_all : (f.append r).all = f.all ++ [r] := by
  simp only [LogFile.append, LogFile.all, List.append_assoc]

theorem LogFile.sync_all : f.sync.all = f.all := by simp only [LogFile.sync, LogFile.all, List.append_nil]

theorem LogFile.append_unsynced_length : (f.append r).unsynced.length = f.unsynced.length + 1 := by
  simp only [LogFile.append, List.length_append, List.length_singleton]

theorem LogFile.sync_unsynced : f.sync.unsynced = [] := rfl

end logfile

theorem crashLog_all {ρ : Type} (k : Nat) (f : LogFile ρ) :
    (crashLog k f).all = f.synced ++ f.unsynced.take k ∧ (crashLog k f).synced = f.synced ++ f.unsynced.take k ∧
    f.all = (crashLog k f).all ++ f.unsynced.drop k := by
  simp [crashLog, LogFile.all, List.append_assoc]

theorem crashLog_durable {ρ : Type} (k : Nat) (f : LogFile ρ) (h : f.unsynced = []) : crashLog k f = f := by
  cases f with
  | mk s u => simp only at h; subst h; simp [crashLog]

theorem crashManifest_durable (k : Nat) (torn : Bool) (f : LogFile MRec) (h : f.unsynced = []) :
    crashManifest k torn f = f := by
  unfold crashManifest
  rw [h]
  cases torn <;> simp only [List.drop_nil] <;> exact crashLog_durable k f h

theorem mem_crashLog_all {ρ : Type} {j : Nat} {f : LogFile ρ} {r : ρ} (h : r ∈ (crashLog j f).all) : r ∈ f.all :=
  (crashLog_all j f).2.2 ▸ List.mem_append_left _ h

theorem logFile_of_all_nil {ρ : Type} {jf : LogFile ρ} (h : jf.all = []) : jf = ⟨[], []⟩ := by
  obtain ⟨a, b⟩ := jf
  simp only [LogFile.all, List.append_eq_nil_iff] at h
  obtain ⟨rfl, rfl⟩ := h
  rfl

end GoLevel.Dur

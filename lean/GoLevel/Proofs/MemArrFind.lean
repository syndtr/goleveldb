import GoLevel.Proofs.MemArrBasic
/-! The search loops over `nodeData` (`findGE`, `findLT`, `findLast` of `Model/MemArr.lean`) simulate the searches
of the ideal skip list: following next pointers = walking the ideal level (C14).  No ordering argument is needed
here — the loops are compared step by step with `MemDB.findGEFrom`/`findLTFrom`/`findLastFrom`; the fuel
`nodeData.size` suffices because every iteration either advances on a level or leaves it. -/
namespace GoLevel.MemArr
open GoLevel.Gen (nKV nKey nVal nHeight nNext tMaxHeight)
open GoLevel.MemDB (Node Found walkGE walkLT walkLast isEq findGEFrom findLTFrom findLastFrom)

variable {cmp : Cmp}

/-- iterations the loops need for the levels `T`: one per node plus one to leave each level -/
def lvlFuel (T : List (List Bytes)) : Nat := (T.map (·.length + 1)).sum

theorem lvlFuel_eq (T : List (List Bytes)) : lvlFuel T = (T.map List.length).sum + T.length := by
  induction T with
  | nil => simp [lvlFuel]
  | cons l ls ih => simp only [lvlFuel, List.map_cons, List.sum_cons, List.length_cons] at ih ⊢; omega

theorem take_succ_reverse (L : List (List Bytes)) (h : Nat) (hh : h < L.length) :
    (L.take (h + 1)).reverse = L[h] :: (L.take h).reverse := by
  rw [List.take_succ_eq_append_getElem hh]; simp

theorem after_sublist (l : List Bytes) (e : Node) : (MemDB.after l e).Sublist l := by
  cases e with
  | none => exact List.Sublist.refl _
  | some k => exact (List.drop_sublist _ _).trans (List.dropWhile_sublist _)

/-- the node at which a level is entered lies on it (or is the head) -/
def EntryOn (l : List Bytes) (e : Node) : Prop := e = none ∨ ∃ n, e = some n ∧ n ∈ l

theorem Links.enter {a : DB} {L : List (List Bytes)} {ix : Bytes → Nat} (lk : Links a L ix)
    {h : Nat} (hh : h < L.length) {e : Node} (he : EntryOn L[h] e) {fuel : Nat}
    (hf : lvlFuel (L.take (h + 1)) ≤ fuel) :
    Chain a.nodeData ix h 0 (nix ix e) (MemDB.after L[h] e) ∧ (∀ x ∈ MemDB.after L[h] e, x ∈ L[h]) ∧
      (MemDB.after L[h] e).length + 1 + lvlFuel (L.take h) ≤ fuel := by
  have hlen := (after_sublist L[h] e).length_le
  have hfuel : lvlFuel (L.take (h + 1)) = lvlFuel (L.take h) + (L[h].length + 1) := by
    unfold lvlFuel
    rw [List.take_succ_eq_append_getElem hh, List.map_append, List.sum_append]
    simp
  refine ⟨?_, (after_sublist L[h] e).subset, by omega⟩
  rcases he with rfl | ⟨k, rfl, hk⟩
  · exact lk.chain h hh
  · exact (lk.chain h hh).after hk

theorem Links.entry_down {a : DB} {L : List (List Bytes)} {ix : Bytes → Nat} (lk : Links a L ix)
    {h : Nat} (hh : h + 1 < L.length) {e : Node} (he : EntryOn L[h + 1] e) : EntryOn L[h] e := by
  rcases he with rfl | ⟨k, rfl, hk⟩
  · exact .inl rfl
  · exact .inr ⟨k, rfl, lk.down h hh k hk⟩

/-- the rest of one round of the ideal `findGEFrom` once the walk along the level has stopped at `w` -/
def contGE (cmp : Cmp) (key : Bytes) (prev : Bool) (lower : List (List Bytes)) (w : Node × Node)
    (acc : List Node) : Found :=
  let eq := isEq cmp key w.2
  let acc' := if prev then w.1 :: acc else acc
  if !prev && eq then ⟨w.2, true, acc'⟩
  else if lower.isEmpty then ⟨w.2, eq, acc'⟩
  else findGEFrom cmp key prev lower w.1 acc'

theorem findGEFrom_cons (key : Bytes) (prev : Bool) (lvl : List Bytes) (lower : List (List Bytes)) (node : Node)
    (acc : List Node) :
    findGEFrom cmp key prev (lvl :: lower) node acc =
      contGE cmp key prev lower (walkGE cmp key (MemDB.after lvl node) node) acc := rfl

/-- the part of the loop body of `findGE` that runs when `cmp >= 0` -/
def geStop (cmp : Cmp) (a : DB) (key : Bytes) (prev : Bool) (fuel node h : Nat) (pn : List Nat) (next : Nat)
    (c : Ordering) : Option (Nat × Bool × List Nat) := do
  let pn' ← if prev then setAt pn h node else some pn
  if !prev && c == .eq then some (next, true, pn')
  else if h = 0 then some (next, c == .eq, pn')
  else findGELoop cmp a key prev fuel node (h - 1) pn'

theorem findGELoop_succ (a : DB) (key : Bytes) (prev : Bool) (fuel node h : Nat) (pn : List Nat) :
    findGELoop cmp a key prev (fuel + 1) node h pn = (do
      let next ← a.nodeData[node + nNext + h]?
      let c ← if next != 0 then (a.nodeKey next).map (cmp · key) else some Ordering.gt
      if c = .lt then findGELoop cmp a key prev fuel next h pn
      else geStop cmp a key prev fuel node h pn next c) := rfl

/-- what a run of the `findGE` loop from level `h` delivers, compared with the ideal result `F` (started with the path
`acc`): the same node, the same `exact`; when `prev` is set the ideal run has put `h+1` entries in front of `acc`, they
are the entries `0..h` of `prevNode`, and the entries above `h` are untouched -/
def GEPost (ix : Bytes → Nat) (F : Found) (acc : List Node) (prev : Bool) (h : Nat) (pn : List Nat)
    (r : Option (Nat × Bool × List Nat)) : Prop :=
  ∃ pn', r = some (nix ix F.node, F.exact, pn') ∧ pn'.length = pn.length ∧
    (prev = true → ∃ news, F.prev = news ++ acc ∧ news.length = h + 1 ∧ pn' = news.map (nix ix) ++ pn.drop (h + 1))

section
variable {a : DB} {L : List (List Bytes)} {ix : Bytes → Nat}

theorem stop_sim (key : Bytes) (prev : Bool) (h : Nat) (hh : h < L.length)
    (low : h ≠ 0 → ∀ (e : Node) (acc : List Node) (pn : List Nat) (fuel : Nat), EntryOn L[h] e →
      h - 1 < pn.length → lvlFuel (L.take h) ≤ fuel →
      GEPost ix (findGEFrom cmp key prev (L.take h).reverse e acc) acc prev (h - 1) pn
        (findGELoop cmp a key prev fuel (nix ix e) (h - 1) pn))
    (e w2 : Node) (ord : Ordering) (hord : (ord == .eq) = isEq cmp key w2) (acc : List Node) (pn : List Nat)
    (fuel : Nat) (he : EntryOn L[h] e) (hpn : h < pn.length) (hf : lvlFuel (L.take h) ≤ fuel) :
    GEPost ix (contGE cmp key prev (L.take h).reverse (e, w2) acc) acc prev h pn
      (geStop cmp a key prev fuel (nix ix e) h pn (nix ix w2) ord) := by
  have hemp : (L.take h).reverse.isEmpty = decide (h = 0) := by
    cases h with
    | zero => simp
    | succ n => cases L <;> simp at hh ⊢
  unfold contGE geStop
  cases prev with
  | false =>
    simp only [Bool.not_false, Bool.true_and, Bool.false_eq_true, if_false, Option.bind_some, 
      Option.bind_eq_bind, hord, hemp]
    by_cases heq : isEq cmp key w2 = true
    · simp only [heq, if_true]
      exact ⟨pn, rfl, rfl, fun hp => absurd hp (by simp)⟩
    · simp only [heq, if_false, Bool.false_eq_true]
      by_cases h0 : h = 0
      · simp only [h0, decide_true, if_true]
        refine ⟨pn, ?_, rfl, fun hp => absurd hp (by simp)⟩
        simp []
      · simp only [h0, decide_false, Bool.false_eq_true, if_false]
        obtain ⟨pn', h1, h2, _⟩ := low h0 e acc pn fuel he (by omega) hf
        exact ⟨pn', h1, h2, fun hp => absurd hp (by simp)⟩
  | true =>
    simp only [Bool.not_true, Bool.false_and, Bool.false_eq_true, if_false, if_true, setAt_some _ hpn,
      Option.bind_some, Option.bind_eq_bind, hord, hemp]
    by_cases h0 : h = 0
    · subst h0
      simp only [decide_true, if_true]
      refine ⟨pn.set 0 (nix ix e), rfl, by simp, fun _ => ⟨[e], rfl, rfl, ?_⟩⟩
      cases pn with
      | nil => exact absurd hpn (by simp)
      | cons p ps => rfl
    · simp only [h0, decide_false, Bool.false_eq_true, if_false]
      obtain ⟨pn', h1, h2, h4⟩ := low h0 e (e :: acc) (pn.set h (nix ix e)) fuel he (by simp; omega) hf
      obtain ⟨news, hn1, hn2, h4a⟩ := h4 rfl
      refine ⟨pn', h1, by simpa using h2, fun _ => ⟨news ++ [e], by rw [hn1]; simp, by simp; omega, ?_⟩⟩
      -- entry `h` was written before the descent, which left it alone
      rw [h4a, Nat.sub_add_cancel (by omega), List.drop_eq_getElem_cons (by simpa using hpn), List.getElem_set_self,
        List.drop_set_of_lt (by omega)]
      simp

theorem level_sim (lk : Links a L ix) (key : Bytes) (prev : Bool) (h : Nat) (hh : h < L.length)
    (low : h ≠ 0 → ∀ (e : Node) (acc : List Node) (pn : List Nat) (fuel : Nat), EntryOn L[h] e →
      h - 1 < pn.length → lvlFuel (L.take h) ≤ fuel →
      GEPost ix (findGEFrom cmp key prev (L.take h).reverse e acc) acc prev (h - 1) pn
        (findGELoop cmp a key prev fuel (nix ix e) (h - 1) pn))
    (e : Node) (acc : List Node) (pn : List Nat) (fuel : Nat) (he : EntryOn L[h] e) (hpn : h < pn.length)
    (hf : lvlFuel (L.take (h + 1)) ≤ fuel) :
    GEPost ix (findGEFrom cmp key prev (L.take (h + 1)).reverse e acc) acc prev h pn
      (findGELoop cmp a key prev fuel (nix ix e) h pn) := by
  obtain ⟨c1, c2, c3⟩ := lk.enter hh he hf
  rw [take_succ_reverse L h hh, findGEFrom_cons]
  clear hf
  generalize MemDB.after L[h] e = c at c1 c2 c3
  induction c generalizing e fuel with
  | nil =>
    obtain ⟨fuel, rfl⟩ : ∃ f, fuel = f + 1 := ⟨fuel - 1, by omega⟩
    have hnext : a.nodeData[nix ix e + nNext + h]? = some 0 := c1
    rw [findGELoop_succ]
    simp only [hnext, Option.bind_some, Option.bind_eq_bind, bne_self_eq_false, Bool.false_eq_true, if_false,
      reduceCtorEq, walkGE]
    have := stop_sim (cmp := cmp) (a := a) (ix := ix) key prev h hh low e none .gt (by simp [isEq]) acc pn fuel he hpn
      (by omega)
    simpa using this
  | cons x xs ih =>
    obtain ⟨fuel, rfl⟩ : ∃ f, fuel = f + 1 := ⟨fuel - 1, by omega⟩
    have hx := lk.key h hh x (c2 x (by simp))
    have hne : (ix x != 0) = true := by simpa using hx.1
    rw [findGELoop_succ]
    simp only [c1.1, Option.bind_some, Option.bind_eq_bind, hne, if_true, hx.2, Option.map_some]
    by_cases hlt : cmp x key = .lt
    · simp only [hlt, if_true, walkGE]
      have := ih (some x) fuel (.inr ⟨x, rfl, c2 x (by simp)⟩) c1.2 (fun y hy => c2 y (by simp [hy]))
        (by simp only [List.length_cons] at c3; omega)
      simpa using this
    · simp only [hlt, if_false, walkGE]
      have := stop_sim (cmp := cmp) (a := a) (ix := ix) key prev h hh low e (some x) (cmp x key) (by simp [isEq])
        acc pn fuel he hpn (by simp only [List.length_cons] at c3; omega)
      simpa using this

theorem findGELoop_sim (lk : Links a L ix) (key : Bytes) (prev : Bool) :
    ∀ (h : Nat) (hh : h < L.length) (e : Node) (acc : List Node) (pn : List Nat) (fuel : Nat),
      EntryOn L[h] e → h < pn.length → lvlFuel (L.take (h + 1)) ≤ fuel →
      GEPost ix (findGEFrom cmp key prev (L.take (h + 1)).reverse e acc) acc prev h pn
        (findGELoop cmp a key prev fuel (nix ix e) h pn) := by
  intro h
  induction h with
  | zero => exact fun hh => level_sim lk key prev 0 hh (fun h0 => absurd rfl h0)
  | succ n ih =>
    exact fun hh => level_sim lk key prev (n + 1) hh (fun _ e' acc' pn' fuel' he' hpn' hf' =>
      ih (by omega) e' acc' pn' fuel' (lk.entry_down hh he') hpn' hf')

/-- A search loop that reads `next := nodeData[node+nNext+h]`, moves on to `next` while the key there passes `adv`, and
otherwise goes one level down (returning `node` on level 0) computes `frm`, the ideal descent that follows each level by
`walk`.  The fuel: one iteration per node passed plus one per level left. -/
theorem descend_sim (lk : Links a L ix) {lp : Nat → Nat → Nat → Option Nat} {adv : Bytes → Bool}
    {walk : List Bytes → Node → Node} {frm : List (List Bytes) → Node → Node}
    (stop0 : ∀ fuel node h, a.nodeData[node + nNext + h]? = some 0 →
      lp (fuel + 1) node h = if h = 0 then some node else lp fuel node (h - 1))
    (stepx : ∀ fuel node h x, a.nodeData[node + nNext + h]? = some (ix x) → ix x ≠ 0 → a.nodeKey (ix x) = some x →
      lp (fuel + 1) node h = if adv x then lp fuel (ix x) h else if h = 0 then some node else lp fuel node (h - 1))
    (walk_nil : ∀ e, walk [] e = e)
    (walk_cons : ∀ x xs e, walk (x :: xs) e = if adv x then walk xs (some x) else e)
    (frm_nil : ∀ e, frm [] e = e)
    (frm_cons : ∀ lvl lower e, frm (lvl :: lower) e = frm lower (walk (MemDB.after lvl e) e)) :
    ∀ (h : Nat) (hh : h < L.length) (e : Node) (fuel : Nat), EntryOn L[h] e → lvlFuel (L.take (h + 1)) ≤ fuel →
      lp fuel (nix ix e) h = some (nix ix (frm (L.take (h + 1)).reverse e)) := by
  have level : ∀ (h : Nat) (hh : h < L.length),
      (∀ (e : Node) (fuel : Nat), EntryOn L[h] e → lvlFuel (L.take h) ≤ fuel →
        (if h = 0 then some (nix ix e) else lp fuel (nix ix e) (h - 1)) =
          some (nix ix (frm (L.take h).reverse e))) →
      ∀ (e : Node) (fuel : Nat), EntryOn L[h] e → lvlFuel (L.take (h + 1)) ≤ fuel →
        lp fuel (nix ix e) h = some (nix ix (frm (L.take (h + 1)).reverse e)) := by
    intro h hh hstop e fuel he hf
    obtain ⟨c1, c2, c3⟩ := lk.enter hh he hf
    rw [take_succ_reverse L h hh, frm_cons]
    clear hf
    generalize MemDB.after L[h] e = c at c1 c2 c3
    induction c generalizing e fuel with
    | nil =>
      obtain ⟨fuel, rfl⟩ : ∃ f, fuel = f + 1 := ⟨fuel - 1, by omega⟩
      rw [stop0 fuel _ h c1, walk_nil]
      exact hstop e fuel he (by omega)
    | cons x xs ih =>
      obtain ⟨fuel, rfl⟩ : ∃ f, fuel = f + 1 := ⟨fuel - 1, by omega⟩
      have hx := lk.key h hh x (c2 x (by simp))
      have hf' : xs.length + 1 + lvlFuel (L.take h) ≤ fuel := by simp only [List.length_cons] at c3; omega
      rw [stepx fuel _ h x c1.1 hx.1 hx.2, walk_cons]
      by_cases hadv : adv x = true
      · simp only [hadv, if_true]
        exact ih (some x) fuel (.inr ⟨x, rfl, c2 x (by simp)⟩) c1.2 (fun y hy => c2 y (by simp [hy])) hf'
      · simp only [hadv, if_false, Bool.false_eq_true]
        exact hstop e fuel he (by omega)
  intro h
  induction h with
  | zero => exact fun hh => level 0 hh (fun e _ _ _ => by simp [frm_nil])
  | succ n ih =>
    exact fun hh => level (n + 1) hh (fun e fuel he hf => ih (by omega) e fuel (lk.entry_down hh he) hf)

theorem findLTLoop_sim (lk : Links a L ix) (key : Bytes) :
    ∀ (h : Nat) (hh : h < L.length) (e : Node) (fuel : Nat),
      EntryOn L[h] e → lvlFuel (L.take (h + 1)) ≤ fuel →
      findLTLoop cmp a key fuel (nix ix e) h = some (nix ix (findLTFrom cmp key (L.take (h + 1)).reverse e)) := by
  refine descend_sim lk (adv := fun x => cmp x key == .lt) ?_ ?_ (fun _ => rfl) ?_ (fun _ => rfl) (fun _ _ _ => rfl)
  · intro fuel node h hnext
    -- `nodeData[next]` is read before `next == 0` is tested: it is the head's first field
    have hlt := (Array.getElem?_eq_some_iff.1 hnext).1
    have hw := Array.getElem?_eq_getElem (show 0 < a.nodeData.size by omega)
    simp [findLTLoop, hnext, hw]
  · intro fuel node h x hnext hx0 hkey
    unfold DB.nodeKey at hkey
    simp only [Option.bind_eq_bind, Option.bind_eq_some_iff] at hkey
    obtain ⟨o, h1, kl, h2, h3⟩ := hkey
    by_cases hlt : cmp x key = .lt <;> simp [findLTLoop, hnext, h1, h2, h3, hx0, hlt]
  · intro x xs e
    by_cases hlt : cmp x key = .lt <;> simp [walkLT, hlt]

theorem findLastLoop_sim (lk : Links a L ix) :
    ∀ (h : Nat) (hh : h < L.length) (e : Node) (fuel : Nat),
      EntryOn L[h] e → lvlFuel (L.take (h + 1)) ≤ fuel →
      findLastLoop a fuel (nix ix e) h = some (nix ix (findLastFrom (L.take (h + 1)).reverse e)) := by
  refine descend_sim lk (adv := fun _ => true) ?_ ?_ (fun _ => rfl) (fun _ _ _ => rfl) (fun _ => rfl)
    (fun _ _ _ => rfl)
  · intro fuel node h hnext; simp [findLastLoop, hnext]
  · intro fuel node h x hnext hx0 _; simp [findLastLoop, hnext, hx0]

end

section
variable {a : DB} {d : MemDB.DB} {ix : Bytes → Nat}

theorem Rep.fuel_ok (r : Rep cmp a d ix) : lvlFuel d.levels ≤ a.nodeData.size := by
  have h1 := r.fuel
  have h2 := r.inv.height
  rw [lvlFuel_eq]
  omega

theorem Rep.mh_pos (r : Rep cmp a d ix) : 1 ≤ a.maxHeight :=
  r.mh ▸ List.length_pos_iff.2 r.inv.ne

theorem Rep.top_level (r : Rep cmp a d ix) :
    a.maxHeight - 1 < d.levels.length ∧ d.levels.take (a.maxHeight - 1 + 1) = d.levels ∧
      lvlFuel (d.levels.take (a.maxHeight - 1 + 1)) ≤ a.nodeData.size := by
  have hpos := r.mh_pos
  have ht : d.levels.take (a.maxHeight - 1 + 1) = d.levels := by
    rw [Nat.sub_add_cancel hpos, r.mh, List.take_length]
  exact ⟨by rw [← r.mh]; omega, ht, by rw [ht]; exact r.fuel_ok⟩

theorem findGE_sim (r : Rep cmp a d ix) (key : Bytes) (prev : Bool) :
    GEPost ix (MemDB.findGE cmp d key prev) [] prev (a.maxHeight - 1) a.prevNode (findGE cmp a key prev) := by
  obtain ⟨hh, ht, hf⟩ := r.top_level
  have := findGELoop_sim (cmp := cmp) r.links key prev (a.maxHeight - 1) hh none [] a.prevNode a.nodeData.size
    (.inl rfl) (by rw [r.pn]; have := r.inv.height; omega) hf
  rwa [ht] at this

theorem findLT_sim (r : Rep cmp a d ix) (key : Bytes) :
    findLT cmp a key = some (nix ix (MemDB.findLT cmp d key)) := by
  obtain ⟨hh, ht, hf⟩ := r.top_level
  have := findLTLoop_sim (cmp := cmp) r.links key (a.maxHeight - 1) hh none a.nodeData.size (.inl rfl) hf
  rwa [ht] at this

theorem findLast_sim (r : Rep cmp a d ix) : findLast a = some (nix ix (MemDB.findLast d)) := by
  obtain ⟨hh, ht, hf⟩ := r.top_level
  have := findLastLoop_sim r.links (a.maxHeight - 1) hh none a.nodeData.size (.inl rfl) hf
  rwa [ht] at this

end

end GoLevel.MemArr

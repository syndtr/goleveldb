import GoLevel.Proofs.BlockIterNext
/-!
# `blockIter.Prev` over a well-formed block: `block.restartIndex`, the cache-building loop, `prevBuild`

All three ways `Prev` has of stepping over a restart point (from the end, after a change of direction, at the
end of a restart range) go through `prevBuild`; `prevBuild_lands` says where that lands.
-/
namespace GoLevel.C13
open GoLevel

variable {b : BlockR} {kvs : List KV} {off : Nat → Nat} {R : Nat} {rs : Nat → Nat}

theorem restartIndex_spec (L : Layout b kvs off R rs) {r q1 c : Nat} (hr : r < q1) (hq1 : q1 ≤ R)
    (hc : c ≤ kvs.length) (hrc : rs r ≤ c) :
    ∃ q, b.restartIndex r q1 (off c) = some q ∧ r ≤ q ∧ q < q1 ∧ rs q ≤ c ∧ (q + 1 < q1 → c < rs (q + 1)) := by
  obtain ⟨s, hs, hsn, hfalse, htrue⟩ := sortSearch_spec
    (fun i => some (decide (b.restartOffset (r + i) > off c))) (fun i => decide (rs (r + i) > c)) (q1 - r)
    (by
      intro h hh
      have hlt : r + h < R := by omega
      rw [L.roff _ hlt]
      congr 1
      have := L.off_lt_iff hc (L.rs_le_len hlt)
      simp only [gt_iff_lt, decide_eq_decide]
      exact this)
  obtain ⟨s, rfl⟩ : ∃ s', s = s' + 1 := by
    refine ⟨s - 1, (Nat.succ_pred_eq_of_pos (Nat.pos_of_ne_zero fun h0 => ?_)).symm⟩
    subst h0
    have := htrue (by omega)
    simp at this
    omega
  refine ⟨r + s, ?_, by omega, by omega, ?_, ?_⟩
  · unfold BlockR.restartIndex
    rw [hs]
    simp only
    rw [if_neg (by omega), show s + 1 + r - 1 = r + s by omega]
  · simpa using hfalse (Nat.succ_pos s)
  · intro hq
    simpa [Nat.add_assoc] using htrue (by omega)

/-- from entry `j` (restart entry `m ≤ j`) up to the target entry `c`.  `s` stands for `max m lo`, the first entry
that gets a node, through the three facts `hms`, `hls`, `hsm` (cheaper for `omega` than `max`); the hypotheses
after `hoff` say what the iterator holds when the pass for entry `j` starts -/
theorem prevLoop_ok (L : Layout b kvs off R rs) (lo c m s : Nat) (hc : c < kvs.length) (hlo : lo ≤ c)
    (hms : m ≤ s) (hls : lo ≤ s) (hsm : s = m ∨ s = lo) :
    ∀ (fuel : Nat) (it : BIter) (j : Nat), c + 1 - j < fuel → m ≤ j → j ≤ c →
      it.offsetRealStart = off lo → it.offset = off (c + 1) → KeyOK kvs R rs j it.key →
      (s < j → it.key = kAt kvs (j - 1)) →
      it.value = (if j ≤ s then none else some (vAt kvs (j - 1))) →
      it.prevNode = off m :: cNodes kvs off s (j - 1 - s) →
      it.prevKeys = cKeys kvs s (j - 1 - s) →
      BIter.prevLoop b fuel (off j) it = some (off (c + 1),
        { it with key := kAt kvs c, value := some (vAt kvs c),
                  prevNode := off m :: cNodes kvs off s (c - s),
                  prevKeys := cKeys kvs s (c - s) }) := by
  intro fuel
  induction fuel with
  | zero => intro it j hf; omega
  | succ fuel ih =>
    intro it j hf hm hj hreal hoff hk hkey hval hnode hkeys
    obtain ⟨sh, he, hsh, hdec⟩ := L.decode (by omega : j < kvs.length) hk
    have hsucc := L.off_succ (by omega : j < kvs.length)
    -- the iterator after the pass for entry `j`; `hrest`: what the loop does from there
    let it1 : BIter :=
      { it with key := kAt kvs j, value := if lo ≤ j then some (vAt kvs j) else none,
                prevNode := off m :: cNodes kvs off s (j - s), prevKeys := cKeys kvs s (j - s) }
    have hrest : ∀ X : BIter, X = it1 →
        (if off (j + 1) ≥ it.offset then
            (if off (j + 1) ≠ it.offset then none else some (off (j + 1), X))
          else BIter.prevLoop b fuel (off (j + 1)) X) = some (off (c + 1),
        { it with key := kAt kvs c, value := some (vAt kvs c),
                  prevNode := off m :: cNodes kvs off s (c - s), prevKeys := cKeys kvs s (c - s) }) := by
      intro X hX
      subst hX
      by_cases hlast : j = c
      · subst hlast
        rw [if_pos (by rw [hoff]; exact Nat.le_refl _), if_neg (by rw [hoff]; simp)]
        simp only [it1, if_pos hlo]
      · have hnt : ¬ (off (j + 1) ≥ it.offset) := by
          rw [hoff]; have := L.off_lt (i := j + 1) (j := c + 1) (by omega) (by omega); omega
        rw [if_neg hnt]
        exact ih it1 (j + 1) (by omega) (by omega) (by omega) hreal hoff (Or.inr ⟨by omega, by simp [it1]⟩)
          (fun _ => by simp [it1])
          (by show (if lo ≤ j then some (vAt kvs j) else none) = _
              rw [Nat.add_sub_cancel]
              by_cases h : lo ≤ j
              · rw [if_pos h, if_neg (by omega)]
              · rw [if_neg h, if_pos (by omega)])
          (by rw [Nat.add_sub_cancel]) (by rw [Nat.add_sub_cancel])
    by_cases hjs : s < j
    · -- a further entry of the slice: the previous one gets its node
      have hge : off j ≥ it.offsetRealStart := by rw [hreal]; exact L.off_le (by omega) (by omega)
      have hv : it.value = some (vAt kvs (j - 1)) := by rw [hval, if_neg (by omega)]
      have e : j - s = (j - 1 - s) + 1 := by omega
      have e2 : s + (j - 1 - s) = j - 1 := by omega
      have e3 : j - 1 + 1 = j := by omega
      rw [BIter.prevLoop, he]
      simp only [if_pos hge, hv, if_neg hsh, hdec, hsucc]
      refine hrest _ ?_
      simp only [it1, if_pos (show lo ≤ j by omega), e, cNodes, cKeys, e2, e3, hnode, hkeys, hkey hjs,
        List.cons_append]
    · -- before the slice or on its first entry: nothing to record yet
      have hv : it.value = none := by rw [hval, if_pos (by omega)]
      have e0 : j - s = 0 := by omega
      have e1 : j - 1 - s = 0 := by omega
      rw [e1] at hnode hkeys
      by_cases hge : lo ≤ j
      · have hge' : off j ≥ it.offsetRealStart := by rw [hreal]; exact L.off_le hge (by omega)
        rw [BIter.prevLoop, he]
        simp only [if_pos hge', hv, if_neg hsh, hdec, hsucc]
        refine hrest _ ?_
        simp only [it1, if_pos hge, e0]
        rw [← hnode, ← hkeys]
      · have hnge : ¬ (off j ≥ it.offsetRealStart) := by
          rw [hreal]; have := L.off_lt (i := j) (j := lo) (by omega) (by omega); omega
        rw [BIter.prevLoop, he]
        simp only [if_neg hnge, if_neg hsh, hdec, hsucc]
        refine hrest _ ?_
        simp only [it1, if_neg hge, e0]
        rw [← hnode, ← hkeys, ← hv]

/-- the iterator stands at the start of entry `c`, the one behind the target; from restart slot `ri`, or the slot before
when `ri` points at `c` itself -/
theorem prevBuild_lands (L : Layout b kvs off R rs) {lo hi q0 q1 : Nat} (S : SliceCfg kvs R rs lo hi q0 q1)
    {it : BIter} (hcfg : HasCfg off rs it lo hi q0 q1) (herr : it.err = none) (hdir : it.dir = .backward)
    {ri i c : Nat} (hc : lo + i + 1 = c) (hoff : it.offset = off c) (ht : c ≤ hi) (hr0 : q0 ≤ ri) (hr1 : ri < q1)
    (hle : rs ri ≤ c) (hnode : it.prevNode = []) (hkeys : it.prevKeys = []) :
    Rel kvs off rs lo hi q0 q1 (BIter.prevBuild b ri it).2 (.at i) ∧ (BIter.prevBuild b ri it).1 = true := by
  subst hc
  have hin := S.hin
  have hq1R := S.q1R
  have hri : ri < R := by omega
  have hro : b.restartOffset ri = off (rs ri) := L.roff ri hri
  obtain ⟨q, hq, hnot, hq0, hq1, hqt⟩ : ∃ q, (if b.restartOffset ri = it.offset then ri - 1 else ri) = q ∧
      ¬ (b.restartOffset ri = it.offset ∧ ri = 0) ∧ q0 ≤ q ∧ q < q1 ∧ rs q ≤ lo + i := by
    rw [hro, hoff]
    by_cases h : rs ri = lo + i + 1
    · -- slot `q0` points at or before `lo`, so a slot pointing at entry `lo + i + 1` has a predecessor in the slice
      have := S.q0lo
      have hgt : q0 < ri := Nat.lt_of_le_of_ne hr0 fun h0 => by subst h0; omega
      have := L.rs_lt (p := ri - 1) (q := ri) (by omega) hri
      exact ⟨ri - 1, if_pos (by rw [h]), by omega, by omega, by omega, by omega⟩
    · have hne : ¬ off (rs ri) = off (lo + i + 1) := fun e => h (L.off_inj (L.rs_le_len hri) (by omega) e)
      exact ⟨ri, if_neg hne, fun e => hne e.1, hr0, hr1, by omega⟩
  have hloop := prevLoop_ok L lo (lo + i) (rs q) (max (rs q) lo) (by omega) (Nat.le_add_right _ _) (by omega)
    (by omega) (by omega) (b.restartsOffset + 1)
    { it with key := [], value := none, prevNode := it.prevNode ++ [off (rs q)] } (rs q)
    (by have := L.fuel_ok (j := lo + i + 1) (by omega); omega) (Nat.le_refl _) hqt hcfg.real hoff (Or.inl ⟨q, by omega, rfl⟩) (by intro h; omega)
    (by simp only; rw [if_pos (by omega)])
    (by simp only [hnode, List.nil_append]
        have e : rs q - 1 - max (rs q) lo = 0 := by omega
        rw [e]; rfl)
    (by simp only [hkeys]
        have e : rs q - 1 - max (rs q) lo = 0 := by omega
        rw [e]; rfl)
  unfold BIter.prevBuild
  simp only [if_neg hnot, hq, L.roff q (by omega)]
  rw [hloop]
  exact ⟨⟨hcfg.congr rfl rfl rfl rfl rfl, herr, ht, Or.inr ⟨hdir, rfl, rfl, rfl, hq0, hq1, hqt, rfl, rfl⟩⟩, rfl⟩

theorem pop_lists (pre : List Nat) (x y z : Nat) :
    (pre ++ [x, y, z]).drop ((pre ++ [x, y, z]).length - 3) = [x, y, z] ∧
    (pre ++ [x, y, z]).take ((pre ++ [x, y, z]).length - 3) = pre ∧
    ¬ ((pre ++ [x, y, z]).length < 3) := by
  have e : (pre ++ [x, y, z]).length - 3 = pre.length := by simp
  rw [e]
  exact ⟨List.drop_left' rfl, List.take_left' rfl, by simp⟩

theorem prev_pop (L : Layout b kvs off R rs) {it : BIter} {lo q0 q1 c : Nat} (hc : c + 1 < kvs.length)
    (herr : it.err = none) (f : Bwd kvs off rs it lo q0 q1 (c + 1)) (hs : max (rs it.restartIndex) lo ≤ c) :
    BIter.prev b it = (true,
      { it with prevNode := off (rs it.restartIndex) ::
                  cNodes kvs off (max (rs it.restartIndex) lo) (c - max (rs it.restartIndex) lo)
                key := kAt kvs c
                prevKeys := cKeys kvs (max (rs it.restartIndex) lo) (c - max (rs it.restartIndex) lo)
                value := some (vAt kvs c)
                offset := off (c + 1) }) := by
  generalize hsd : max (rs it.restartIndex) lo = s at hs
  have e : c + 1 - s = (c - s) + 1 := by omega
  have e2 : s + (c - s) = c := by omega
  have hn : it.prevNode = (off (rs it.restartIndex) :: cNodes kvs off s (c - s)) ++
      [(cKeys kvs s (c - s)).length, off (c + 1) - (vAt kvs c).length, (vAt kvs c).length] := by
    rw [f.node, hsd, e, cNodes, e2]; rfl
  have hk : it.prevKeys = cKeys kvs s (c - s) ++ kAt kvs c := by
    rw [f.keys, hsd, e, cKeys, e2]
  obtain ⟨hd, ht, hl3⟩ := pop_lists (off (rs it.restartIndex) :: cNodes kvs off s (c - s))
    (cKeys kvs s (c - s)).length (off (c + 1) - (vAt kvs c).length) (vAt kvs c).length
  have hl1 : ¬ (it.prevNode.length = 1) := by rw [hn]; simp
  obtain ⟨hvl, hval⟩ := L.value c (by omega)
  unfold BIter.prev
  rw [if_neg (by rw [herr, f.dir]; simp), if_neg (by rw [f.dir]; simp), if_neg (by rw [f.dir]; simp),
    if_neg (by rw [f.dir]; simp), if_neg hl1, if_neg (by rw [hn]; exact hl3)]
  simp only [hn, hd, ht, hk, List.getD_cons_zero, List.getD_cons_succ, List.drop_left, List.take_left]
  have e4 : off (c + 1) - (vAt kvs c).length + (vAt kvs c).length = off (c + 1) := by omega
  have e5 : off (c + 1) - (off (c + 1) - (vAt kvs c).length) = (vAt kvs c).length := by omega
  rw [e4, e5, hval]

theorem rel_prev (L : Layout b kvs off R rs) {lo hi q0 q1 : Nat} (S : SliceCfg kvs R rs lo hi q0 q1)
    {α : Type} (xs : List α) (hlen : xs.length = hi - lo) {it : BIter} {p : Pos}
    (h : Rel kvs off rs lo hi q0 q1 it p) :
    Rel kvs off rs lo hi q0 q1 (BIter.prev b it).2 (Cursor.prev xs p) ∧
      (BIter.prev b it).1 = posOk (Cursor.prev xs p) := by
  obtain ⟨hcfg, herr, hpos⟩ := h
  have hin := S.hin
  have h01 := S.q01
  have hq1R := S.q1R
  cases p with
  | soi =>
    rw [prev_soi hpos.1]
    exact ⟨⟨hcfg, herr, hpos⟩, rfl⟩
  | eoi =>
    obtain ⟨hd, hn, hk⟩ := hpos
    simp only [Cursor.prev, Cursor.last_eq, Cursor.before, hlen]
    rw [prev_eoi herr hd]
    by_cases hlt : lo < hi
    · have hne : ¬ (it.offsetLimit = it.offsetRealStart) := by
        rw [hcfg.limit, hcfg.real]; have := L.off_lt hlt hin; omega
      rw [if_neg hne, if_neg (by rw [hcfg.riLimit]; omega), if_neg (by omega)]
      exact prevBuild_lands L S (it := { it with restartIndex := it.riLimit, offset := it.offsetLimit, dir := .backward })
        (hcfg.congr rfl rfl rfl rfl rfl) herr rfl (by omega : lo + (hi - lo - 1) + 1 = hi) hcfg.limit (Nat.le_refl hi)
        (by rw [hcfg.riLimit]; omega) (by rw [hcfg.riLimit]; omega) (by rw [hcfg.riLimit]; exact S.q1hi) hn hk
    · have he : hi = lo := by have := S.lohi; omega
      rw [if_pos (by rw [hcfg.limit, hcfg.real, he]), if_pos (by omega)]
      exact ⟨⟨hcfg.congr rfl rfl rfl rfl rfl, herr, rfl, hn, hk⟩, rfl⟩
  | «at» i =>
    obtain ⟨hi', hfb⟩ := hpos
    simp only [Cursor.prev]
    rcases hfb with f | f
    · -- change of direction
      rw [prev_fwd herr f.dir]
      by_cases hi0 : i = 0
      · subst hi0
        rw [if_pos (by rw [f.prevOffset, hcfg.real]; rfl), if_pos rfl]
        exact ⟨⟨hcfg.congr rfl rfl rfl rfl rfl, herr, rfl, f.node, f.keys⟩, rfl⟩
      · have hne : ¬ (it.prevOffset = it.offsetRealStart) := by
          rw [f.prevOffset, hcfg.real]
          have := L.off_lt (i := lo) (j := lo + i) (by omega) (by omega); omega
        obtain ⟨q, hq, hrq, hq1, hqc, _⟩ := restartIndex_spec L f.rhi hq1R (by omega : lo + i ≤ kvs.length) f.rc
        rw [← hcfg.riLimit, ← f.prevOffset] at hq
        rw [if_neg hne, if_neg hi0, hq]
        exact prevBuild_lands L S (it := { it with offset := it.prevOffset, dir := .backward })
          (hcfg.congr rfl rfl rfl rfl rfl) herr rfl (by omega : lo + (i - 1) + 1 = lo + i) f.prevOffset
          (Nat.le_of_lt hi') (Nat.le_trans f.rlo hrq) hq1 hqc f.node f.keys
    · -- already moving backward
      have hrR : it.restartIndex < R := Nat.lt_of_lt_of_le f.rhi hq1R
      by_cases hs : max (rs it.restartIndex) lo < lo + i
      · -- from the cache
        obtain ⟨i, rfl⟩ : ∃ i', i = i' + 1 := ⟨i - 1, by omega⟩
        rw [prev_pop (c := lo + i) L (by omega) herr f (by omega), if_neg (Nat.succ_ne_zero i), Nat.add_sub_cancel]
        exact ⟨⟨hcfg.congr rfl rfl rfl rfl rfl, herr, by omega, Or.inr
          ⟨f.dir, rfl, rfl, rfl, f.rlo, f.rhi, by show rs it.restartIndex ≤ _; omega, rfl, rfl⟩⟩, rfl⟩
      · -- the end of a restart range
        have hc : max (rs it.restartIndex) lo = lo + i := by have := f.rc; omega
        have hn1 := f.node
        have hk0 := f.keys
        rw [hc, Nat.sub_self] at hn1 hk0
        rw [prev_bwd_end herr f.dir (by rw [hn1]; rfl)]
        rcases S.start_cases f.rlo hrR with ⟨hr0, hm⟩ | ⟨hgt, hlo, hm⟩
        · rw [if_pos (hr0.trans hcfg.riStart.symm), if_pos (by omega : i = 0)]
          exact ⟨⟨hcfg.congr rfl rfl rfl rfl rfl, herr, rfl, rfl, hk0⟩, rfl⟩
        · rw [if_neg (by rw [hcfg.riStart]; omega), if_neg (by omega), if_neg (by omega : ¬ i = 0)]
          exact prevBuild_lands L S
            (it := { it with offset := it.prevNode.headD 0, prevNode := [], restartIndex := it.restartIndex - 1 })
            (hcfg.congr rfl rfl rfl rfl rfl) herr f.dir (by omega : lo + (i - 1) + 1 = lo + i)
            (by show it.prevNode.headD 0 = _; rw [hn1, ← hc, hm]; rfl) (Nat.le_of_lt hi')
            (by omega) (by have := f.rhi; omega)
            (by have := L.rs_lt (p := it.restartIndex - 1) (q := it.restartIndex) (by omega) hrR; omega) rfl hk0

end GoLevel.C13

import GoLevel.Proofs.CacheTableBasic
/-! Hash table of the cache (C17): the chain of heads.  `vnodes hs i` is what bucket `i` of the newest
head holds *or would hold once initialised* (split / merge of the predecessor's buckets, recursively); every such
bucket is sorted and holds the nodes its index selects (`vnodes_ok`), and `mBucket.freeze` / `mHead.initBucket` give an
initialised bucket exactly that content (`initBucket_ok`). -/
namespace GoLevel.CacheT

def HeadOK (h : Head) : Prop := ∃ k, h.buckets.length = 2 ^ k ∧ h.mask = 2 ^ k - 1

theorem HeadOK.pos {h : Head} (hk : HeadOK h) : 0 < h.buckets.length := by
  obtain ⟨k, h1, _⟩ := hk; rw [h1]; exact Nat.pow_pos (by decide)

theorem HeadOK.mask_eq {h : Head} (hk : HeadOK h) : h.mask = h.buckets.length - 1 := by
  obtain ⟨k, h1, h2⟩ := hk; rw [h1, h2]

theorem land_mask {h : Head} (hk : HeadOK h) (x : Nat) : x &&& h.mask = x % h.buckets.length := by
  obtain ⟨k, h1, h2⟩ := hk
  rw [h1, h2]; exact Nat.and_two_pow_sub_one_eq_mod x k

def vnodes : List Head → Nat → List TNode
  | [], _ => []
  | h :: ps, i =>
    if h.buckets.length ≤ i then []
    else if (h.bucket i).state ≠ .uninit then (h.bucket i).nodes
    else match ps with
      | [] => []
      | p :: _ =>
        if h.mask > p.mask then (vnodes ps (i &&& p.mask)).filter fun x => x.hash &&& h.mask == i
        else sortNodes (vnodes ps i ++ vnodes ps (i + h.buckets.length))

def BucketOK (hashfn : Nat → Nat → Nat) (len i : Nat) (l : List TNode) : Prop :=
  Sorted l ∧ ∀ x ∈ l, x.hash = hashfn x.ns x.key ∧ x.hash % len = i

/-- Heads newest first. -/
def WFChain (hashfn : Nat → Nat → Nat) : List Head → Prop
  | [] => False
  | h :: ps =>
    HeadOK h ∧
    (∀ i, i < h.buckets.length → (h.bucket i).state ≠ .uninit →
      BucketOK hashfn h.buckets.length i (h.bucket i).nodes) ∧
    match ps with
    | [] => ∀ i, i < h.buckets.length → (h.bucket i).state ≠ .uninit
    | p :: _ =>
      (h.buckets.length = 2 * p.buckets.length ∨ p.buckets.length = 2 * h.buckets.length) ∧ WFChain hashfn ps

theorem WFChain.headOK {hashfn h ps} (hw : WFChain hashfn (h :: ps)) : HeadOK h := hw.1

theorem WFChain.tail {hashfn h p ps} (hw : WFChain hashfn (h :: p :: ps)) : WFChain hashfn (p :: ps) := hw.2.2.2

theorem WFChain.ratio {hashfn h p ps} (hw : WFChain hashfn (h :: p :: ps)) :
    h.buckets.length = 2 * p.buckets.length ∨ p.buckets.length = 2 * h.buckets.length := hw.2.2.1

/-- `h.mask > p.mask`: the head was created by a grow; else by a shrink. -/
theorem grow_or_shrink {hashfn h p ps} (hw : WFChain hashfn (h :: p :: ps)) :
    (h.mask > p.mask ∧ h.buckets.length = 2 * p.buckets.length) ∨
    (¬ h.mask > p.mask ∧ p.buckets.length = 2 * h.buckets.length) := by
  have h1 := hw.headOK.mask_eq
  have h2 := hw.tail.headOK.mask_eq
  have h3 := hw.headOK.pos
  have h4 := hw.tail.headOK.pos
  have := hw.ratio
  by_cases hg : h.mask > p.mask
  · exact Or.inl ⟨hg, by omega⟩
  · exact Or.inr ⟨hg, by omega⟩

theorem mod_double_left {x s i : Nat} (h : x % (2 * s) = i) : x % s = i % s := by
  rw [← h, Nat.mod_mod_of_dvd x (Nat.dvd_mul_left s 2)]

theorem keyNe_of_sorted {l : List TNode} (hs : Sorted l) :
    l.Pairwise fun a b => ¬ (a.ns = b.ns ∧ a.key = b.key) :=
  List.Pairwise.imp (fun {a b} h => by rw [less_iff] at h; omega) hs

theorem vnodes_init {h : Head} {ps : List Head} {i : Nat} (hi : i < h.buckets.length)
    (hst : (h.bucket i).state ≠ .uninit) : vnodes (h :: ps) i = (h.bucket i).nodes := by
  unfold vnodes; rw [if_neg (by omega), if_pos hst]

theorem vnodes_uninit_grow {h p : Head} {rest : List Head} {i : Nat} (hi : i < h.buckets.length)
    (hst : (h.bucket i).state = .uninit) (hg : h.mask > p.mask) :
    vnodes (h :: p :: rest) i =
      (vnodes (p :: rest) (i &&& p.mask)).filter fun x => x.hash &&& h.mask == i := by
  rw [vnodes]; simp [hst, hg, Nat.not_le.mpr hi]

theorem vnodes_uninit_shrink {h p : Head} {rest : List Head} {i : Nat} (hi : i < h.buckets.length)
    (hst : (h.bucket i).state = .uninit) (hg : ¬ h.mask > p.mask) :
    vnodes (h :: p :: rest) i =
      sortNodes (vnodes (p :: rest) i ++ vnodes (p :: rest) (i + h.buckets.length)) := by
  rw [vnodes]; simp [hst, hg, Nat.not_le.mpr hi]

/-- What lazy initialisation will put into bucket `i` of a head that a resize pushed: the nodes of the predecessor's
(virtual) buckets whose hash selects `i`, whether the table grew (one bucket split) or shrank (two merged). -/
theorem mem_vnodes_uninit {hashfn : Nat → Nat → Nat} {h p : Head} {rest : List Head} {i : Nat}
    (hw : WFChain hashfn (h :: p :: rest)) (hi : i < h.buckets.length) (hst : (h.bucket i).state = .uninit)
    (hold : ∀ j, j < p.buckets.length → ∀ x ∈ vnodes (p :: rest) j, x.hash % p.buckets.length = j) (x : TNode) :
    x ∈ vnodes (h :: p :: rest) i ↔
      (∃ j, j < p.buckets.length ∧ x ∈ vnodes (p :: rest) j) ∧ x.hash % h.buckets.length = i := by
  have hppos := hw.tail.headOK.pos
  rcases grow_or_shrink hw with ⟨hg, hlen⟩ | ⟨hg, hlen⟩
  · rw [vnodes_uninit_grow hi hst hg, List.mem_filter, land_mask hw.tail.headOK, land_mask hw.headOK, beq_iff_eq]
    refine ⟨fun ⟨hx, hxi⟩ => ⟨⟨_, Nat.mod_lt _ hppos, hx⟩, hxi⟩, fun ⟨⟨j, hj, hx⟩, hxi⟩ => ⟨?_, hxi⟩⟩
    have := hold j hj x hx
    rw [← hxi, hlen, Nat.mod_mod_of_dvd _ (Nat.dvd_mul_left _ 2), this]; exact hx
  · rw [vnodes_uninit_shrink hi hst hg, mem_sortNodes, List.mem_append]
    constructor
    · rintro (hx | hx)
      · have := hold i (by omega) x hx
        rw [hlen] at this
        exact ⟨⟨i, by omega, hx⟩, by rw [mod_double_left this, Nat.mod_eq_of_lt hi]⟩
      · have := hold _ (by omega) x hx
        rw [hlen] at this
        exact ⟨⟨_, by omega, hx⟩, by rw [mod_double_left this, Nat.add_mod_right, Nat.mod_eq_of_lt hi]⟩
    · rintro ⟨⟨j, hj, hx⟩, hxi⟩
      have := hold j hj x hx
      rw [hlen] at this hj
      have hji := mod_double_left this
      rw [hxi] at hji
      by_cases hjs : j < h.buckets.length
      · rw [Nat.mod_eq_of_lt hjs] at hji; exact .inl (hji ▸ hx)
      · rw [Nat.mod_eq_sub_mod (by omega), Nat.mod_eq_of_lt (by omega)] at hji
        exact .inr ((show j = i + h.buckets.length by omega) ▸ hx)

theorem vnodes_ok {hashfn : Nat → Nat → Nat} {h : Head} {ps : List Head} (hw : WFChain hashfn (h :: ps)) {i : Nat}
    (hi : i < h.buckets.length) : BucketOK hashfn h.buckets.length i (vnodes (h :: ps) i) := by
  induction ps generalizing h i with
  | nil => rw [vnodes_init hi (hw.2.2 i hi)]; exact hw.2.1 i hi (hw.2.2 i hi)
  | cons p rest ih =>
    by_cases hst : (h.bucket i).state ≠ .uninit
    · rw [vnodes_init hi hst]; exact hw.2.1 i hi hst
    · have hst' : (h.bucket i).state = .uninit := by simpa using hst
      have hb := fun j (hj : j < p.buckets.length) => ih hw.tail hj
      have hpos := hw.headOK.pos
      refine ⟨?_, fun x hx => ?_⟩
      · rcases grow_or_shrink hw with ⟨hg, hlen⟩ | ⟨hg, hlen⟩
        · rw [vnodes_uninit_grow hi hst' hg]
          exact List.Pairwise.filter _ (hb _ (by rw [land_mask hw.tail.headOK]; exact Nat.mod_lt _ hw.tail.headOK.pos)).1
        · -- two buckets of the predecessor hold no common key: a key has one hash
          rw [vnodes_uninit_shrink hi hst' hg]
          refine sorted_sortNodes (List.pairwise_append.mpr ⟨keyNe_of_sorted (hb i (by omega)).1,
            keyNe_of_sorted (hb _ (by omega)).1, fun a ha b hb' heq => ?_⟩)
          have h1 := (hb i (by omega)).2 a ha
          have h2 := (hb (i + h.buckets.length) (by omega)).2 b hb'
          have : a.hash = b.hash := by rw [h1.1, h2.1, heq.1, heq.2]
          rw [this] at h1
          omega
      · obtain ⟨⟨j, hj, hxj⟩, hxi⟩ :=
          (mem_vnodes_uninit hw hi hst' (fun j hj x hx => ((hb j hj).2 x hx).2) x).mp hx
        exact ⟨((hb j hj).2 x hxj).1, hxi⟩

theorem bucket_of_set {h h' : Head} {i : Nat} {b' : Bucket} (hb : h'.buckets = h.buckets.set i b')
    (hi : i < h.buckets.length) (j : Nat) : h'.bucket j = if j = i then b' else h.bucket j := by
  unfold Head.bucket
  rw [hb]
  simp only [List.getD_eq_getElem?_getD, List.getElem?_set]
  by_cases hij : i = j
  · subst hij; simp [hi]
  · have : ¬ j = i := fun h => hij h.symm
    simp [hij, this]

@[simp] theorem length_setBucket (h : Head) (i : Nat) (b : Bucket) :
    (h.setBucket i b).buckets.length = h.buckets.length := by
  unfold Head.setBucket; simp

@[simp] theorem mask_setBucket (h : Head) (i : Nat) (b : Bucket) : (h.setBucket i b).mask = h.mask := rfl

/-- Two chains are seen alike from a newer head: same virtual buckets, same size of the first head. -/
def Equiv (hs' hs : List Head) : Prop :=
  (∀ j, vnodes hs' j = vnodes hs j) ∧
  hs'.head?.map (fun h => (h.mask, h.buckets.length)) = hs.head?.map (fun h => (h.mask, h.buckets.length))

theorem Equiv.refl (hs : List Head) : Equiv hs hs := ⟨fun _ => rfl, rfl⟩

theorem Equiv.trans {a b c : List Head} (h1 : Equiv a b) (h2 : Equiv b c) : Equiv a c :=
  ⟨fun j => (h1.1 j).trans (h2.1 j), h1.2.trans h2.2⟩

theorem Equiv.nil {hs' : List Head} (he : Equiv hs' []) : hs' = [] := by
  cases hs' with
  | nil => rfl
  | cons _ _ => have := he.2; simp at this

theorem Equiv.head {hs' : List Head} {h : Head} {ps : List Head} (he : Equiv hs' (h :: ps)) :
    ∃ h' ps', hs' = h' :: ps' ∧ h'.mask = h.mask ∧ h'.buckets.length = h.buckets.length := by
  cases hs' with
  | nil => have := he.2; simp at this
  | cons h' ps' =>
    have := he.2
    simp only [List.head?_cons, Option.map_some, Option.some.injEq, Prod.mk.injEq] at this
    exact ⟨h', ps', rfl, this.1, this.2⟩

theorem equiv_cons {a : Head} {ps' ps : List Head} (he : Equiv ps' ps) : Equiv (a :: ps') (a :: ps) := by
  refine ⟨fun j => ?_, rfl⟩
  cases ps with
  | nil => rw [he.nil]
  | cons p rest =>
    obtain ⟨p', rest', rfl, hm, _⟩ := he.head
    unfold vnodes
    simp only [hm, he.1]

theorem wf_congr_tail {hashfn : Nat → Nat → Nat} {h : Head} {ps' ps : List Head}
    (hw : WFChain hashfn (h :: ps)) (he : Equiv ps' ps) (hw' : WFChain hashfn ps') :
    WFChain hashfn (h :: ps') := by
  cases ps with
  | nil => rw [he.nil]; exact hw
  | cons p rest =>
    obtain ⟨p', rest', rfl, _, hl⟩ := he.head
    exact ⟨hw.1, hw.2.1, hl ▸ hw.ratio, hw'⟩

theorem wf_head {hashfn : Nat → Nat → Nat} {h h' : Head} {ps : List Head} (hw : WFChain hashfn (h :: ps))
    (hm : h'.mask = h.mask) (hl : h'.buckets.length = h.buckets.length)
    (hb : ∀ j, j < h.buckets.length → (h'.bucket j).state ≠ .uninit →
      BucketOK hashfn h.buckets.length j (h'.bucket j).nodes)
    (hu : ∀ j, (h.bucket j).state ≠ .uninit → (h'.bucket j).state ≠ .uninit) :
    WFChain hashfn (h' :: ps) := by
  have hok : HeadOK h' := by
    obtain ⟨k, h1, h2⟩ := hw.1
    exact ⟨k, by rw [hl, h1], by rw [hm, h2]⟩
  refine ⟨hok, fun i hi hst => by rw [hl] at hi ⊢; exact hb i hi hst, ?_⟩
  cases ps with
  | nil => intro i hi; rw [hl] at hi; exact hu i (hw.2.2 i hi)
  | cons p rest => rw [hl]; exact hw.2.2

theorem set_bucket {hashfn : Nat → Nat → Nat} {h h2 : Head} {ps : List Head} {i : Nat} {b : Bucket}
    (hw : WFChain hashfn (h :: ps)) (hi : i < h.buckets.length) (hm : h2.mask = h.mask)
    (hb : h2.buckets = h.buckets.set i b) (hst : b.state ≠ .uninit)
    (hok : BucketOK hashfn h.buckets.length i b.nodes) :
    WFChain hashfn (h2 :: ps) ∧ ∀ j, vnodes (h2 :: ps) j = if j = i then b.nodes else vnodes (h :: ps) j := by
  have hl : h2.buckets.length = h.buckets.length := by rw [hb]; simp
  have hset := bucket_of_set hb hi
  refine ⟨wf_head hw hm hl (fun j hj hstj => ?_) (fun j hj => ?_), fun j => ?_⟩
  · rw [hset] at hstj ⊢
    split
    · rename_i hc; rw [hc]; exact hok
    · rename_i hc; rw [if_neg hc] at hstj; exact hw.2.1 j hj hstj
  · rw [hset]; split
    · exact hst
    · exact hj
  · conv => lhs; unfold vnodes
    rw [hl, hm, hset]
    by_cases hji : j = i
    · rw [if_pos hji, if_pos hji, if_neg (by omega), if_pos hst]
    · rw [if_neg hji, if_neg hji]; conv => rhs; unfold vnodes

/-- If the new bucket holds the bucket's virtual content, nothing that is visible changes: `mBucket.freeze` and
`mHead.initBucket` both do this. -/
theorem set_virtual {hashfn : Nat → Nat → Nat} {h : Head} {ps : List Head} {i : Nat} {b : Bucket}
    (hw : WFChain hashfn (h :: ps)) (hi : i < h.buckets.length) (hb : b.state ≠ .uninit)
    (hn : b.nodes = vnodes (h :: ps) i) :
    WFChain hashfn (h.setBucket i b :: ps) ∧ Equiv (h.setBucket i b :: ps) (h :: ps) := by
  obtain ⟨hw2, hv⟩ := set_bucket (h2 := h.setBucket i b) hw hi rfl rfl hb (hn ▸ vnodes_ok hw hi)
  refine ⟨hw2, fun j => ?_, by simp⟩
  rw [hv]; split
  · rename_i hc; rw [hc, hn]
  · rfl

theorem freeze_ok {hashfn : Nat → Nat → Nat} {p : Head} {rest : List Head} {i : Nat}
    (hw : WFChain hashfn (p :: rest)) (hi : i < p.buckets.length) (hst : (p.bucket i).state ≠ .uninit) :
    ∃ p', freeze (p :: rest) i = (p' :: rest, vnodes (p :: rest) i, false) ∧ WFChain hashfn (p' :: rest) ∧
      Equiv (p' :: rest) (p :: rest) := by
  rw [vnodes_init hi hst]
  cases hs : (p.bucket i).state with
  | uninit => exact absurd hs hst
  | frozen => simp only [freeze, hs]; exact ⟨p, rfl, hw, Equiv.refl _⟩
  | init =>
    simp only [freeze, hs]
    exact ⟨_, rfl, set_virtual (b := { p.bucket i with state := .frozen }) hw hi (by simp) (vnodes_init hi hst).symm⟩

/-- `set_virtual` over a tail that was itself replaced by one seen alike: what `mHead.initBucket` does to an
uninitialised bucket after it has initialised and frozen the predecessor's. -/
theorem init_chain {hashfn : Nat → Nat → Nat} {h : Head} {ps ps' : List Head} {i : Nat} {b : Bucket}
    (hw : WFChain hashfn (h :: ps)) (hi : i < h.buckets.length) (he : Equiv ps' ps)
    (hw' : WFChain hashfn ps') (hb : b.state ≠ .uninit) (hn : b.nodes = vnodes (h :: ps) i) :
    WFChain hashfn (h.setBucket i b :: ps') ∧ Equiv (h.setBucket i b :: ps') (h :: ps) := by
  have := set_virtual (wf_congr_tail hw he hw') hi hb (hn.trans ((equiv_cons he).1 i).symm)
  exact ⟨this.1, this.2.trans (equiv_cons he)⟩

theorem Equiv.len {h' h : Head} {ps' ps : List Head} (he : Equiv (h' :: ps') (h :: ps)) :
    h'.buckets.length = h.buckets.length := by
  have := he.2; simp at this; exact this.2

theorem initBucketF_ok {hashfn : Nat → Nat → Nat} : ∀ fuel h ps, WFChain hashfn (h :: ps) → (h :: ps).length ≤ fuel →
    ∀ i, i < h.buckets.length →
      ∃ h' ps', initBucketF fuel (h :: ps) i = (h' :: ps', false) ∧ ps'.length = ps.length ∧
        (h'.bucket i).state ≠ .uninit ∧ (∀ j, (h'.bucket j).state = .frozen → (h.bucket j).state = .frozen) ∧
        WFChain hashfn (h' :: ps') ∧ Equiv (h' :: ps') (h :: ps) := by
  intro fuel
  induction fuel with
  | zero => intro h ps _ hl; simp at hl
  | succ fuel ih =>
    intro h ps hw hl i hi
    -- `p.initBucket(j).freeze()`: the bucket's virtual content, and a chain that is seen like the old one
    have thaw : ∀ p rest j, WFChain hashfn (p :: rest) → (p :: rest).length ≤ fuel → j < p.buckets.length →
        ∃ p2 ps2, (initBucketF fuel (p :: rest) j).2 = false ∧
          freeze (initBucketF fuel (p :: rest) j).1 j = (p2 :: ps2, vnodes (p :: rest) j, false) ∧
          ps2.length = rest.length ∧ WFChain hashfn (p2 :: ps2) ∧ Equiv (p2 :: ps2) (p :: rest) := by
      intro p rest j hwp hfuel hj
      obtain ⟨p1, ps1, h1, hl1, hs1, _, hw1, he1⟩ := ih p rest hwp hfuel j hj
      obtain ⟨p2, hf, hw2, he2⟩ := freeze_ok hw1 (he1.len ▸ hj) hs1
      exact ⟨p2, ps1, by rw [h1], by rw [h1, hf, he1.1], hl1, hw2, he2.trans he1⟩
    simp only [initBucketF]
    rw [if_neg (by omega)]
    by_cases hst : (h.bucket i).state ≠ .uninit
    · rw [if_pos hst]
      exact ⟨h, ps, rfl, rfl, hst, fun _ hj => hj, hw, Equiv.refl _⟩
    · rw [if_neg hst]
      have hst' : (h.bucket i).state = .uninit := by simpa using hst
      cases ps with
      | nil => exact absurd (hw.2.2 i hi) hst
      | cons p rest =>
        simp only []
        have hwp := hw.tail
        have hpos := hw.headOK.pos
        have hppos := hwp.headOK.pos
        have hfuel : (p :: rest).length ≤ fuel := by simp at hl ⊢; omega
        have hset : ∀ j, ((h.setBucket i { nodes := vnodes (h :: p :: rest) i, state := .init }).bucket j).state = .frozen →
            (h.bucket j).state = .frozen := by
          intro j; rw [bucket_of_set rfl hi]; split
          · intro hc; cases hc
          · exact fun hc => hc
        rcases grow_or_shrink hw with ⟨hg, _⟩ | ⟨hg, hlen⟩
        · rw [if_pos hg]
          obtain ⟨p2, ps2, hb, hf, hl2, hw2, he2⟩ := thaw p rest (i &&& p.mask) hwp hfuel
            (by rw [land_mask hwp.headOK]; exact Nat.mod_lt _ hppos)
          rw [hb, hf, ← vnodes_uninit_grow hi hst' hg]
          exact ⟨_, _, rfl, by simp [hl2], by rw [bucket_of_set rfl hi, if_pos rfl]; simp, hset,
            init_chain hw hi he2 hw2 (by simp) rfl⟩
        · rw [if_neg hg]
          obtain ⟨p2, ps2, hb, hf, hl2, hw2, he2⟩ := thaw p rest i hwp hfuel (by omega)
          rw [hb, hf]
          simp only []
          obtain ⟨p4, ps4, hb4, hf4, hl4, hw4, he4⟩ := thaw p2 ps2 (i + h.buckets.length) hw2
            (by simp at hfuel ⊢; omega) (by rw [he2.len]; omega)
          rw [hb4, hf4, he2.1, ← vnodes_uninit_shrink hi hst' hg]
          exact ⟨_, _, rfl, by simp [hl4, hl2], by rw [bucket_of_set rfl hi, if_pos rfl]; simp, hset,
            init_chain hw hi (he4.trans he2) hw4 (by simp) rfl⟩

theorem initBucket_ok {hashfn : Nat → Nat → Nat} {h : Head} {ps : List Head} (hw : WFChain hashfn (h :: ps))
    {i : Nat} (hi : i < h.buckets.length) :
    ∃ h' ps', initBucket (h :: ps) i = (h' :: ps', false) ∧
      (h'.bucket i).state ≠ .uninit ∧ (∀ j, (h'.bucket j).state = .frozen → (h.bucket j).state = .frozen) ∧
      WFChain hashfn (h' :: ps') ∧ Equiv (h' :: ps') (h :: ps) := by
  obtain ⟨h', ps', h1, _, hr⟩ := initBucketF_ok (h :: ps).length h ps hw (Nat.le_refl _) i hi
  exact ⟨h', ps', h1, hr⟩

end GoLevel.CacheT

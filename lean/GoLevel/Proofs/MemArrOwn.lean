import GoLevel.Proofs.MemArrRead
/-! Which pointer slots of `nodeData` belong to whom (head / live nodes), relinking one chain (`chain_splice`), `Rep` read
level by level through `lv` (every level below `tMaxHeight`, empty above the list's height: chains, cells, search path),
and the tower heights of the ideal list after `Put`/`Delete` — the shared part of the `Put` and `Delete` simulations (C14). -/
namespace GoLevel.MemArr
open GoLevel.Gen (nKV nKey nVal nHeight nNext tMaxHeight)
open GoLevel.MemDB (Node LawfulCmp Sorted pred below ins)

variable {cmp : Cmp} {a : DB} {d : MemDB.DB} {ix : Bytes → Nat}

/-- Relinking one level.  The cells `frm :: (pre ++ post).map ix` are distinct and keep their pointers, except the last
cell of `pre`: from there the old array runs through `mid` to where `post` starts, the new one through `mid'`.
`Put` is `mid = []`, `mid' = [key]`; `Delete` is `mid = [key]`, `mid' = []`. -/
theorem chain_splice {nd nd' : Array Nat} {ix ix' : Bytes → Nat} {i : Nat} {mid mid' post : List Bytes} :
    ∀ (pre : List Bytes) (frm : Nat), Chain nd ix i 0 frm (pre ++ (mid ++ post)) →
      (∀ k ∈ pre ++ post, ix' k = ix k) →
      (∀ S, Chain nd ix i S ((pre.map ix).getLastD frm) mid → Chain nd' ix' i S ((pre.map ix).getLastD frm) mid') →
      (∀ z, z ∈ frm :: (pre ++ post).map ix → z ≠ (pre.map ix).getLastD frm →
        nd'[z + nNext + i]? = nd[z + nNext + i]?) →
      (frm :: (pre ++ post).map ix).Nodup →
      Chain nd' ix' i 0 frm (pre ++ (mid' ++ post)) := by
  intro pre
  induction pre with
  | nil =>
    intro frm hc hix hM hU hN
    simp only [List.map_nil, List.getLastD_nil, List.nil_append] at *
    cases post with
    | nil => rw [List.append_nil] at hc ⊢; exact hM 0 hc
    | cons q qs =>
      obtain ⟨c1, c2⟩ := chain_append.1 hc
      rw [chain_append, hix q (by simp)]
      exact ⟨hM _ c1, c2.frame (fun k hk => hix k (by simp [hk])) (fun z hz =>
        hU z (List.mem_cons_of_mem _ hz) (fun e => (List.nodup_cons.1 hN).1 (e ▸ hz)))⟩
  | cons t ts ih =>
    intro frm hc hix hM hU hN
    simp only [List.map_cons, List.getLastD_cons, List.cons_append] at *
    have hN' := List.nodup_cons.1 hN
    have hfne : frm ≠ (ts.map ix).getLastD (ix t) := fun e => hN'.1 (by
      have := List.getLastD_mem_cons (l := ts.map ix) (a := ix t)
      rw [e]; simp only [List.mem_cons, List.map_append, List.mem_append] at this ⊢
      exact this.imp_right .inl)
    refine ⟨by rw [hU frm (by simp) hfne, hix t (by simp)]; exact hc.1, ?_⟩
    rw [hix t (by simp)]
    exact ih (ix t) hc.2 (fun k hk => hix k (by simp [hk])) hM
      (fun z hz hne => hU z (List.mem_cons_of_mem _ hz) hne) hN'.2

theorem getLastD_map_nix (ix : Bytes → Nat) (l : List Bytes) : (l.map ix).getLastD 0 = nix ix l.getLast? := by
  rw [List.getLastD_eq_getLast?, List.getLast?_map]
  cases l.getLast? <;> rfl

/-- `z` is the index of the head (`H = tMaxHeight` pointers) or of a live node (`H` = its tower height) -/
def Owner (d : MemDB.DB) (ix : Bytes → Nat) (z H : Nat) : Prop :=
  (z = 0 ∧ H = tMaxHeight) ∨ ∃ k ∈ d.level0, z = ix k ∧ H = d.height k

/-- node `z` (the head or a live node) has a pointer of level `i` -/
def Slot (d : MemDB.DB) (ix : Bytes → Nat) (z i : Nat) : Prop := ∃ H, Owner d ix z H ∧ i < H

theorem Slot.node {k : Bytes} (hk : k ∈ d.level0) {i : Nat} (hi : i < d.height k) : Slot d ix (ix k) i :=
  ⟨_, .inr ⟨k, hk, rfl, rfl⟩, hi⟩

theorem Rep.slot_inj (r : Rep cmp a d ix) {z z' i j : Nat} (s : Slot d ix z i) (s' : Slot d ix z' j)
    (e : z + i = z' + j) : z = z' ∧ i = j := by
  obtain ⟨H, o, hi⟩ := s
  obtain ⟨H', o', hj⟩ := s'
  rcases o with ⟨rfl, rfl⟩ | ⟨k, hk, rfl, rfl⟩ <;> rcases o' with ⟨rfl, rfl⟩ | ⟨k', hk', rfl, rfl⟩
  · omega
  · have := (r.node k' hk').lo; omega
  · have := (r.node k hk).lo; omega
  · by_cases hkk : k = k'
    · subst hkk; omega
    · have := r.sep k hk k' hk' hkk; omega

theorem Rep.field_ne_slot (r : Rep cmp a d ix) {k : Bytes} (hk : k ∈ d.level0) {f : Nat} (hf : f < nNext)
    {z' j : Nat} (s' : Slot d ix z' j) : ix k + f ≠ z' + nNext + j := by
  obtain ⟨H', o', hj⟩ := s'
  rcases o' with ⟨rfl, rfl⟩ | ⟨k', hk', rfl, rfl⟩
  · have := (r.node k hk).lo; omega
  · by_cases hkk : k = k'
    · subst hkk; omega
    · have := r.sep k hk k' hk' hkk; omega

theorem Rep.owner_lt (r : Rep cmp a d ix) {z i : Nat} (s : Slot d ix z i) : z + nNext + i < a.nodeData.size := by
  obtain ⟨H, o, hi⟩ := s
  rcases o with ⟨rfl, rfl⟩ | ⟨k, hk, rfl, rfl⟩
  · have := r.fuel; omega
  · have := (r.node k hk).hi; omega

theorem Rep.top_ne_slot (r : Rep cmp a d ix) {h : Nat} (hh : h < tMaxHeight) {z' H' j : Nat}
    (o' : Owner d ix z' H') (hj : j < H') (hne : j ≠ h) : nNext + h ≠ z' + nNext + j := by
  rcases o' with ⟨rfl, rfl⟩ | ⟨k', hk', rfl, rfl⟩
  · omega
  · have := (r.node k' hk').lo; omega

theorem Rep.ix_inj (r : Rep cmp a d ix) {k k' : Bytes} (hk : k ∈ d.level0) (hk' : k' ∈ d.level0)
    (e : ix k = ix k') : k = k' := by
  by_cases hkk : k = k'
  · exact hkk
  · have := r.sep k hk k' hk' hkk
    have e4 := nNext_eq
    omega

/-- `prevNode[i]` after `findGE(key, true)`, as a node of the ideal list: the predecessor of `key` on level `i`, the
head above the list's height -/
def pth (cmp : Cmp) (d : MemDB.DB) (key : Bytes) (i : Nat) : Node := pred cmp (lv d.levels i) key

theorem pth_ge (d : MemDB.DB) (key : Bytes) {i : Nat} (hi : d.levels.length ≤ i) : pth cmp d key i = none := by
  rw [pth, lv_ge hi]; rfl

/-- `Rep`'s clauses `top` and `chain` as one: the chain of every level below `tMaxHeight`, read with `lv` -/
theorem Rep.chain_lv (r : Rep cmp a d ix) {i : Nat} (hi : i < tMaxHeight) :
    Chain a.nodeData ix i 0 0 (lv d.levels i) := by
  by_cases hl : i < d.levels.length
  · rw [lv_lt hl]; exact r.chain i hl
  · rw [lv_ge (by omega)]
    show a.nodeData[0 + nNext + i]? = some 0
    rw [Nat.zero_add]; exact r.top i (by omega) hi

theorem mem_lv_iff (r : Rep cmp a d ix) (k : Bytes) (i : Nat) : k ∈ lv d.levels i ↔ i < d.height k :=
  mem_lv_height r.inv.towersSub i

theorem Rep.sorted_lv (r : Rep cmp a d ix) (i : Nat) :
    Sorted cmp (lv d.levels i) := by
  by_cases hl : i < d.levels.length
  · rw [lv_lt hl]; exact r.inv.sorted _ (List.getElem_mem hl)
  · rw [lv_ge (by omega)]; exact List.Pairwise.nil

theorem Rep.nodup_lv (hc : LawfulCmp cmp) (r : Rep cmp a d ix) (i : Nat) :
    (0 :: (lv d.levels i).map ix).Nodup := by
  refine List.nodup_cons.2 ⟨fun hm => ?_, ?_⟩
  · obtain ⟨k, hk, e⟩ := List.mem_map.1 hm
    exact r.ix_ne_zero (r.lv_sub0 hk) e
  · unfold List.Nodup
    rw [List.pairwise_map]
    exact (r.sorted_lv i).imp_of_mem fun hx hy hlt e => hc.ord.ne_of_lt hlt (r.ix_inj (r.lv_sub0 hx) (r.lv_sub0 hy) e)

/-- the converse of `Rep.chain_lv` -/
theorem top_chain_of_lv {nd : Array Nat} {ix : Bytes → Nat} {L : List (List Bytes)} (hL : L.length ≤ tMaxHeight)
    (h : ∀ i, i < tMaxHeight → Chain nd ix i 0 0 (lv L i)) :
    (∀ i, L.length ≤ i → i < tMaxHeight → nd[nNext + i]? = some 0) ∧
      ∀ i (hi : i < L.length), Chain nd ix i 0 0 L[i] :=
  ⟨fun i hge hlt => by have := h i hlt; rwa [lv_ge hge, Chain, Nat.zero_add] at this,
    fun i hi => by rw [← lv_lt hi]; exact h i (by omega)⟩

theorem Rep.height_le (r : Rep cmp a d ix) (k : Bytes) : d.height k ≤ tMaxHeight :=
  Nat.le_trans (height_le_length d k) r.inv.height

theorem Rep.cell_owner (r : Rep cmp a d ix) {i : Nat} (hi : i < tMaxHeight)
    {z : Nat} (hz : z ∈ 0 :: (lv d.levels i).map ix) : Slot d ix z i := by
  simp only [List.mem_cons, List.mem_map] at hz
  rcases hz with rfl | ⟨k, hk, rfl⟩
  · exact ⟨tMaxHeight, .inl ⟨rfl, rfl⟩, hi⟩
  · exact .node (r.lv_sub0 hk) ((mem_lv_iff r k i).1 hk)

theorem Rep.pth_owner (r : Rep cmp a d ix) (key : Bytes) {i : Nat}
    (hi : i < tMaxHeight) : Slot d ix (nix ix (pth cmp d key i)) i := by
  apply r.cell_owner hi
  cases h : pth cmp d key i with
  | none => simp
  | some q => simp only [nix_some, List.mem_cons, List.mem_map]; exact .inr ⟨q, (MemDB.pred_mem h).1, rfl⟩

theorem Rep.slot_off_path (r : Rep cmp a d ix) (key : Bytes)
    {z i : Nat} (s : Slot d ix z i) {K : Nat} (hK : K ≤ tMaxHeight)
    (hne : i < K → z ≠ nix ix (pth cmp d key i)) {j : Nat} (hj : j < K) :
    z + nNext + i ≠ nix ix (pth cmp d key j) + nNext + j := by
  intro e
  obtain ⟨ez, eij⟩ := r.slot_inj s (r.pth_owner (cmp := cmp) key (i := j) (by omega)) (by omega)
  subst eij
  exact hne hj ez

theorem findGE_path (hc : LawfulCmp cmp) (r : Rep cmp a d ix) (key : Bytes) :
    ∃ node pn, findGE cmp a key true = some (node, decide (key ∈ d.level0), pn) ∧ (key ∈ d.level0 → node = ix key) ∧
      pn.length = tMaxHeight ∧ ∀ j, j < a.maxHeight → pn[j]? = some (nix ix (pth cmp d key j)) := by
  obtain ⟨pn, g1, glen, g4⟩ := findGE_sim r key true
  obtain ⟨news, hp, hnl, g5⟩ := g4 rfl
  rw [MemDB.findGE_prev hc r.inv key] at g1 hp
  rw [List.append_nil] at hp
  exact ⟨_, pn, g1, fun hk => by rw [MemDB.succ_of_mem hc r.inv.sorted0 hk]; rfl, by rw [glen, r.pn],
    fun j hj => by
      have hj' : j < d.levels.length := r.mh ▸ hj
      rw [g5, List.getElem?_append_left (by rw [List.length_map]; omega), ← hp, List.map_map,
        List.getElem?_map, List.getElem?_eq_getElem hj', pth, lv_lt hj']
      rfl⟩

theorem height_unique {L : List (List Bytes)} {k : Bytes}
    (hT : L.Pairwise (fun lo hi => ∀ x ∈ hi, x ∈ lo)) {H : Nat} (hiff : ∀ i, k ∈ lv L i ↔ i < H) :
    (L.takeWhile (·.contains k)).length = H := by
  have h : ∀ i, i < (L.takeWhile (·.contains k)).length ↔ i < H := fun i => (mem_lv_height hT i).symm.trans (hiff i)
  exact Nat.le_antisymm (Nat.le_of_not_lt fun hlt => Nat.lt_irrefl _ ((h H).1 hlt))
    (Nat.le_of_not_lt fun hlt => Nat.lt_irrefl _ ((h _).2 hlt))

theorem linkIdeal_sum (key : Bytes) : ∀ (h : Nat) (L : List (List Bytes)),
    ((MemDB.linkIdeal cmp key h L).map List.length).sum = (L.map List.length).sum + h := by
  intro h
  induction h with
  | zero => intro L; simp [MemDB.linkIdeal]
  | succ h ih =>
    intro L
    cases L with
    | nil => simp only [MemDB.linkIdeal, List.map_cons, List.sum_cons, ih []]; simp; omega
    | cons l ls =>
      simp only [MemDB.linkIdeal, List.map_cons, List.sum_cons, ih ls, MemDB.ins_length]
      omega

theorem filter_sum_le (key : Bytes) (L : List (List Bytes)) :
    ((L.map (·.filter (· != key))).map List.length).sum ≤ (L.map List.length).sum := by
  induction L with
  | nil => simp
  | cons l ls ih =>
    simp only [List.map_cons, List.sum_cons]
    have := List.length_filter_le (· != key) l
    omega

end GoLevel.MemArr

import GoLevel.Proofs.WriteProtoExec
/-! A reachable state stays reachable when an idle, fresh thread is appended (the trace validator allocates a thread
per `call`). -/
namespace GoLevel.WP

def addT (s : St) (th : Thread) : St := { s with ws := s.ws ++ [th] }

theorem get_app (ws : List Thread) (th : Thread) (i : Nat) (w : Thread) (h : ws[i]? = some w) :
    (ws ++ [th])[i]? = some w := by
  rw [List.getElem?_append_left (List.getElem?_eq_some_iff.mp h).1]; exact h

theorem set_app (ws : List Thread) (th : Thread) (i : Nat) (w v : Thread) (h : ws[i]? = some w) :
    ws.set i v ++ [th] = (ws ++ [th]).set i v :=
  (List.set_append_left _ _ (List.getElem?_eq_some_iff.mp h).1).symm

theorem set2_app (ws : List Thread) (th : Thread) (i j : Nat) (w l v u : Thread) (hi : ws[i]? = some w)
    (hj : ws[j]? = some l) : set2 ws j u i v ++ [th] = set2 (ws ++ [th]) j u i v := by
  unfold set2
  rw [← set_app ws th j l u hj]
  exact (List.set_append_left _ _ (by rw [List.length_set]; exact (List.getElem?_eq_some_iff.mp hi).1)).symm

/-- the rewritten records sit below the appended thread, so the same constructor applies, with the same guards -/
theorem step_append (s t : St) (th : Thread) (h : Step s t) : Step (addT s th) (addT t th) := by
  cases h with
  | releaseLost j l m r hj hp hc hr =>
    simp only [addT]; rw [set_app _ _ _ _ _ hj]
    exact Step.releaseLost _ j l m r (get_app _ _ _ _ hj) hp hc hr
  | _ =>
    simp only [addT]
    first
    | rw [set_app _ _ _ _ _ ‹_›]; constructor <;> first | assumption | exact get_app _ _ _ _ ‹_›
    | rw [set2_app _ _ _ _ _ _ _ _ ‹_› ‹_›]; constructor <;> first | assumption | exact get_app _ _ _ _ ‹_›

theorem steps_append (s t : St) (th : Thread) (h : Steps s t) : Steps (addT s th) (addT t th) :=
  h.keeps (P := fun u => Steps (addT s th) (addT u th)) (fun _ _ h ih => .tail ih (step_append _ _ th h)) (.refl _)

theorem reachable_append (s : St) (th : Thread) (hf : th.fresh) (h : Reachable s) : Reachable (addT s th) := by
  obtain ⟨s0, ⟨h0, h1, h2, h3⟩, hs⟩ := h
  refine ⟨addT s0 th, ⟨h0, h1, h2, ?_⟩, steps_append s0 s th hs⟩
  intro w hw
  simp only [addT, List.mem_append, List.mem_singleton] at hw
  rcases hw with hw | rfl
  · exact h3 w hw
  · exact hf

theorem reachable_steps (s t : St) (h : Reachable s) (hs : Steps s t) : Reachable t := by
  obtain ⟨s0, h0, h1⟩ := h
  exact ⟨s0, h0, Steps.trans h1 hs⟩

end GoLevel.WP

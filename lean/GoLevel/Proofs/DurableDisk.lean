import GoLevel.Proofs.DurableRead
/-! `DiskOK` is preserved by a crash and by the storage operations on tables, other manifests and journals.  A view
stays good if every record it finds in its journals was there before or lies above everything the view knows. -/
namespace GoLevel.Dur

/-- `P` holds of every admissible view: what `session.recover` makes of the manifest `CURRENT` names with any prefix of its
    unsynced records on disk -/
def AllViews (cfg : Cfg) (d : Disk) (P : MView → Prop) : Prop :=
  ∀ mf, curManifest d = some mf → ∀ k ≤ mf.unsynced.length, ∀ v, viewAt cfg mf k = some v → P v

theorem AllViews.of_forall {cfg : Cfg} {d : Disk} {P : MView → Prop} (h : ∀ v, P v) : AllViews cfg d P :=
  fun _ _ _ _ v _ => h v

theorem AllViews.single {cfg : Cfg} {d : Disk} {P : MView → Prop} {mf : LogFile MRec} {v : MView}
    (hc : curManifest d = some mf) (hu : mf.unsynced = []) (hv : viewAt cfg mf 0 = some v) (h : P v) : AllViews cfg d P := by
  intro mf1 hc1 k hk v1 hv1
  rw [hc] at hc1; cases hc1
  obtain rfl : k = 0 := by simpa [hu] using hk
  rw [hv] at hv1; cases hv1
  exact h

theorem liveGrps_congr {d d' : Disk} {v : MView} (h : ∀ t ∈ v.live, lookup d'.tables t = lookup d.tables t) :
    liveGrps d' v = liveGrps d v := by
  unfold liveGrps
  rw [List.flatMap_def, List.flatMap_def, List.map_congr_left fun t ht => by unfold tableGrpsOf; rw [h t ht]]
  rfl

theorem ViewOK.of_journals {d d' : Disk} {must must' issued issued' : List Grp} {v : MView}
    (h : ViewOK d must issued v) (ht : ∀ t ∈ v.live, lookup d'.tables t = lookup d.tables t)
    (hj : ∀ q ∈ relJournals d' v.jn, ∀ x ∈ q.2.all, (∃ p ∈ relJournals d v.jn, x ∈ p.2.all) ∨
      (v.sq ≤ x.seq ∧ x ∈ issued' ∧ ∀ g ∈ liveGrps d v, g.fin ≤ x.seq))
    (hm : ∀ x ∈ must', x ∈ must ∨ ∀ p ∈ relJournals d v.jn, x ∈ p.2.all → v.sq ≤ x.seq) (hi : ∀ g ∈ issued, g ∈ issued')
    (hc : ∀ x ∈ must', x ∈ liveGrps d v ∨ ∃ q ∈ relJournals d' v.jn, x ∈ q.2.synced) :
    ViewOK d' must' issued' v := by
  have hl := liveGrps_congr (d := d) (d' := d') (v := v) ht
  refine ⟨fun t htl => by rw [ht t htl]; exact h.tables t htl, fun g hg => ?_, by rw [hl]; exact h.tdisj,
    fun q hq x hx => ?_, fun g hg q hq x hx => ?_, by rw [hl]; exact hc, h.jnf⟩
  · rw [hl] at hg
    exact ⟨(h.tseq g hg).1, hi g (h.tseq g hg).2.1, (h.tseq g hg).2.2⟩
  · rcases hj q hq x hx with ⟨p, hp, hxp⟩ | ⟨h1, h2, _⟩
    · refine ⟨?_, hi x (h.jseq p hp x hxp).2⟩
      by_cases hxm : x ∈ must'
      · exact (hm x hxm).elim (fun hx' => (h.jseq p hp x hxp).1.imp id (absurd hx')) fun k => .inl (k p hp hxp)
      · exact Or.inr hxm
    · exact ⟨Or.inl h1, h2⟩
  · rw [hl] at hg
    rcases hj q hq x hx with ⟨p, hp, hxp⟩ | ⟨_, _, h3⟩
    · exact h.tj g hg p hp x hxp
    · exact Or.inr (Or.inl (h3 g hg))

theorem ViewOK.of_same {d d' : Disk} {must must' issued issued' : List Grp} {v : MView}
    (h : ViewOK d must issued v) (hj : relJournals d' v.jn = relJournals d v.jn)
    (ht : ∀ t ∈ v.live, lookup d'.tables t = lookup d.tables t)
    (hm : ∀ g ∈ must', g ∈ must) (hi : ∀ g ∈ issued, g ∈ issued') : ViewOK d' must' issued' v :=
  h.of_journals ht (fun q hq _ hx => .inl ⟨q, hj ▸ hq, hx⟩) (fun x hx => .inl (hm x hx)) hi
    (fun x hx => hj ▸ h.cover x (hm x hx))

theorem DiskOK.map_views {cfg : Cfg} {d : Disk} {must must' issued issued' : List Grp} (h : DiskOK cfg d must issued)
    (hf : AllViews cfg d fun v => ViewOK d must issued v → ViewOK d must' issued' v) : DiskOK cfg d must' issued' := by
  obtain ⟨mf, v0, hp⟩ := h.parts
  refine .of_parts h.jsorted h.tnodup h.mnodup ⟨hp.cur, hp.hv0, fun k hk => ?_, hp.jasc, hp.jord⟩
  obtain ⟨v, hv, hok, hmono⟩ := hp.views k hk
  exact ⟨v, hv, hf mf hp.cur k hk v hv hok, hmono⟩

theorem DiskOK.mono {cfg : Cfg} {d : Disk} {must must' issued issued' : List Grp} (h : DiskOK cfg d must issued)
    (hm : ∀ g ∈ must', g ∈ must) (hi : ∀ g ∈ issued, g ∈ issued') : DiskOK cfg d must' issued' :=
  h.map_views fun _ _ _ _ _ _ hok => hok.of_same rfl (fun _ _ => rfl) hm hi

/-- the manifest current afterwards has good admissible views, and its oldest view replays no journal that the
    oldest view so far (`v0`) skipped -/
theorem DiskOK.of_manifest {cfg : Cfg} {d d' : Disk} {must must' issued issued' : List Grp} {mf mf' : LogFile MRec}
    {v0 v0' : MView} (h : DiskOK cfg d must issued) (hp : DiskOK.Parts cfg d must issued mf v0)
    (hj : d'.journals = d.journals)
    (htn : d'.tables.Pairwise (fun p q => p.1 ≠ q.1)) (hmn : d'.manifests.Pairwise (fun p q => p.1 ≠ q.1))
    (hcur : curManifest d' = some mf') (hv0 : viewAt cfg mf' 0 = some v0')
    (hviews : ∀ k ≤ mf'.unsynced.length, ∃ v, viewAt cfg mf' k = some v ∧ ViewOK d must issued v ∧ v0'.jn ≤ v.jn ∧
      ∀ t ∈ v.live, lookup d'.tables t = lookup d.tables t)
    (hle : v0.jn ≤ v0'.jn) (hm : ∀ g ∈ must', g ∈ must) (hi : ∀ g ∈ issued, g ∈ issued') :
    DiskOK cfg d' must' issued' := by
  have hrel : ∀ jn, relJournals d' jn = relJournals d jn := fun jn => by unfold relJournals; rw [hj]
  refine .of_parts (hj ▸ h.jsorted) htn hmn ⟨hcur, hv0, fun k hk => ?_, ?_, ?_⟩
  · obtain ⟨v, hv, hok, hvle, ht⟩ := hviews k hk
    exact ⟨v, hv, hok.of_same (hrel _) ht hm hi, hvle⟩
  · rw [hrel]; exact fun p hpr => hp.jasc p (relJournals_mono hle hpr)
  · rw [hrel]; exact fun p hpr q hqr => hp.jord p (relJournals_mono hle hpr) q (relJournals_mono hle hqr)

theorem DiskOK.frame {cfg : Cfg} {d d' : Disk} {must must' issued issued' : List Grp}
    (h : DiskOK cfg d must issued) (hcur : curManifest d' = curManifest d) (hj : d'.journals = d.journals)
    (ht : AllViews cfg d fun v => ∀ t ∈ v.live, lookup d'.tables t = lookup d.tables t)
    (htn : d'.tables.Pairwise (fun p q => p.1 ≠ q.1)) (hmn : d'.manifests.Pairwise (fun p q => p.1 ≠ q.1))
    (hm : ∀ g ∈ must', g ∈ must) (hi : ∀ g ∈ issued, g ∈ issued') : DiskOK cfg d' must' issued' := by
  obtain ⟨mf, v0, hp⟩ := h.parts
  refine h.of_manifest hp hj htn hmn (hcur ▸ hp.cur) hp.hv0 (fun k hk => ?_) (Nat.le_refl _) hm hi
  obtain ⟨v, hv, hok, hle⟩ := hp.views k hk
  exact ⟨v, hv, hok, hle, ht mf hp.cur k hk v hv⟩

/-- every journal keeps a prefix of its records: the order of the relevant journals is kept -/
theorem journals_prefix {d d' : Disk} {jn : Nat}
    (hsub : ∀ q ∈ d'.journals, q.2.all = [] ∨ ∃ p ∈ d.journals, p.1 = q.1 ∧ ∃ r, p.2.all = q.2.all ++ r)
    (hasc : ∀ p ∈ relJournals d jn, AscFrom 0 p.2.all)
    (hord : ∀ p ∈ relJournals d jn, ∀ q ∈ relJournals d jn, p.1 < q.1 → ∀ g ∈ p.2.all, ∀ h ∈ q.2.all, g.fin ≤ h.seq) :
    (∀ p ∈ relJournals d' jn, AscFrom 0 p.2.all) ∧
    ∀ p ∈ relJournals d' jn, ∀ q ∈ relJournals d' jn, p.1 < q.1 → ∀ g ∈ p.2.all, ∀ h ∈ q.2.all, g.fin ≤ h.seq := by
  have hrel : ∀ q ∈ relJournals d' jn, q.2.all = [] ∨
      ∃ p ∈ relJournals d jn, p.1 = q.1 ∧ ∃ r, p.2.all = q.2.all ++ r := fun q hq =>
    (hsub q (mem_relJournals.1 hq).1).imp id fun ⟨p, hp, e, hr⟩ =>
      ⟨p, mem_relJournals.2 ⟨hp, e ▸ (mem_relJournals.1 hq).2⟩, e, hr⟩
  refine ⟨fun q hq => ?_, fun q hq q' hq' hlt x hx y hy => ?_⟩
  · rcases hrel q hq with e | ⟨p, hp, _, r, e⟩
    · rw [e]; trivial
    · exact (e ▸ hasc p hp).of_append_left
  · rcases hrel q hq with e | ⟨p, hp, e1, r, e⟩
    · rw [e] at hx; cases hx
    · rcases hrel q' hq' with e' | ⟨p', hp', e1', r', e'⟩
      · rw [e'] at hy; cases hy
      · exact hord p hp p' hp' (by omega) x (e ▸ List.mem_append_left _ hx) y (e' ▸ List.mem_append_left _ hy)

theorem crashManifest_view (cfg : Cfg) (hc : cfg.failedRecordLeavesNoTrace = true) (k : Nat) (torn : Bool)
    (mf : LogFile MRec) :
    (crashManifest k torn mf).unsynced = [] ∧
    viewAt cfg (crashManifest k torn mf) 0 = viewAt cfg mf (min k mf.unsynced.length) := by
  have hmin : mf.unsynced.take (min k mf.unsynced.length) = mf.unsynced.take k := by
    rw [List.take_eq_take_iff]; simp
  unfold crashManifest
  cases torn with
  | false =>
    simp only [crashLog, viewAt, List.take_zero, List.append_nil, hmin, and_self]
  | true =>
    cases hd : mf.unsynced.drop k with
    | nil => simp only [crashLog, viewAt, List.take_zero, List.append_nil, hmin, and_self]
    | cons r rs =>
      simp only [viewAt, List.take_zero, List.append_nil, hmin, true_and]
      rw [replayM_snoc]
      simp [MAcc.step, hc]

/-- after a crash `CURRENT` names a manifest without unsynced tail, whose one view was admissible before -/
theorem curManifest_crash {cfg : Cfg} (hn : cfg.failedRecordLeavesNoTrace = true) (ch : CrashChoice) {d : Disk}
    {mf : LogFile MRec} (h : curManifest d = some mf) :
    ∃ m mf', d.current = some m ∧ curManifest (crashWith ch d) = some mf' ∧ mf'.unsynced = [] ∧
      viewAt cfg mf' 0 = viewAt cfg mf (min (ch.cutM m) mf.unsynced.length) := by
  obtain ⟨m, hc, hm⟩ := curManifest_some h
  refine ⟨m, _, hc, ?_, crashManifest_view cfg hn (ch.cutM m) (ch.tornM m) mf⟩
  show d.current.bind (lookup (d.manifests.map fun p => (p.1, crashManifest (ch.cutM p.1) (ch.tornM p.1) p.2))) = _
  rw [hc, Option.bind_some, lookup_map_snd d.manifests (fun n f => crashManifest (ch.cutM n) (ch.tornM n) f) m, hm]
  rfl

theorem crashTable_synced (keep : Bool) (t : TableFile) (h : t.synced = true) : crashTable keep t = t := by
  simp [crashTable, h]

theorem mem_crash_journals {ch : CrashChoice} {d : Disk} {p' : Nat × LogFile Grp} :
    p' ∈ (crashWith ch d).journals ↔ ∃ p ∈ d.journals, p' = (p.1, crashLog (ch.cutJ p.1) p.2) := by
  simp only [crashWith, List.mem_map]
  constructor
  · rintro ⟨⟨n, f⟩, hp, rfl⟩; exact ⟨(n, f), hp, rfl⟩
  · rintro ⟨⟨n, f⟩, hp, rfl⟩; exact ⟨(n, f), hp, rfl⟩

theorem DiskOK.crash {cfg : Cfg} (hc : cfg.failedRecordLeavesNoTrace = true) {d : Disk} {must issued : List Grp}
    (h : DiskOK cfg d must issued) (ch : CrashChoice) : DiskOK cfg (crashWith ch d) must issued := by
  obtain ⟨mf, v0, hp⟩ := h.parts
  obtain ⟨m, mf', _, hcur, hu, hview⟩ := curManifest_crash hc ch hp.cur
  obtain ⟨v, hv, hok, hmono⟩ := hp.views (min (ch.cutM m) mf.unsynced.length) (Nat.min_le_right _ _)
  have hsub : ∀ q ∈ (crashWith ch d).journals,
      q.2.all = [] ∨ ∃ p ∈ d.journals, p.1 = q.1 ∧ ∃ r, p.2.all = q.2.all ++ r := fun q hq => by
    obtain ⟨p, hp', rfl⟩ := mem_crash_journals.1 hq
    exact .inr ⟨p, hp', rfl, _, (crashLog_all _ _).2.2⟩
  -- the live tables are synced: untouched
  have htab : ∀ t ∈ v.live, lookup (crashWith ch d).tables t = lookup d.tables t := by
    intro t ht
    obtain ⟨tf, e, hsy, _⟩ := holds_iff.1 (hok.tables t ht).2
    show lookup (d.tables.map fun p => (p.1, crashTable (ch.keepT p.1) p.2)) t = _
    rw [lookup_map_snd d.tables (fun n t => crashTable (ch.keepT n) t) t, e, Option.map_some,
      crashTable_synced _ tf hsy]
  obtain ⟨ja, jo⟩ := journals_prefix (jn := v.jn) hsub (fun p hp' => hp.jasc p (relJournals_mono hmono hp'))
    (fun p hp' q hq => hp.jord p (relJournals_mono hmono hp') q (relJournals_mono hmono hq))
  refine .of_parts (mf := mf') (v0 := v) (List.pairwise_map.2 h.jsorted)
    (List.pairwise_map.2 h.tnodup) (List.pairwise_map.2 h.mnodup) ⟨hcur, by rw [hview, hv], fun k hk => ?_, ja, jo⟩
  obtain rfl : k = 0 := by simpa [hu] using hk
  refine ⟨v, by rw [hview, hv], hok.of_journals htab (fun q hq x hx => ?_) (fun x hx => .inl hx) (fun _ h => h)
    (fun x hx => (hok.cover x hx).imp id fun ⟨p, hp', hxp⟩ => ?_), Nat.le_refl _⟩
  · obtain ⟨p, hp', rfl⟩ := mem_crash_journals.1 (mem_relJournals.1 hq).1
    exact .inl ⟨p, mem_relJournals.2 ⟨hp', (mem_relJournals.1 hq).2⟩, mem_crashLog_all hx⟩
  · exact ⟨_, mem_relJournals.2 ⟨mem_crash_journals.2 ⟨p, (mem_relJournals.1 hp').1, rfl⟩, (mem_relJournals.1 hp').2⟩,
      (crashLog_all (ch.cutJ p.1) p.2).2.1 ▸ List.mem_append_left _ hxp⟩

/-- each journal keeps a prefix of its records; the caller says where the must-survive groups are now -/
theorem DiskOK.of_journals {cfg : Cfg} {d : Disk} {js : Files (LogFile Grp)} {must must' issued issued' : List Grp}
    (h : DiskOK cfg d must issued) (hs : js.Pairwise (fun p q => p.1 < q.1))
    (hsub : ∀ q ∈ js, q.2.all = [] ∨ ∃ p ∈ d.journals, p.1 = q.1 ∧ ∃ r, p.2.all = q.2.all ++ r)
    (hm : ∀ x ∈ must', x ∈ must ∨ AllViews cfg d fun v => v.sq ≤ x.seq)
    (hi : ∀ x ∈ issued, x ∈ issued')
    (hc : AllViews cfg d fun v => ViewOK d must issued v →
      ∀ x ∈ must', x ∈ liveGrps d v ∨ ∃ q ∈ js, v.jn ≤ q.1 ∧ x ∈ q.2.synced) :
    DiskOK cfg { d with journals := js } must' issued' := by
  obtain ⟨mf, v0, hp⟩ := h.parts
  obtain ⟨ja, jo⟩ := journals_prefix (d' := { d with journals := js }) (jn := v0.jn) hsub hp.jasc hp.jord
  refine .of_parts hs h.tnodup h.mnodup ⟨hp.cur, hp.hv0, fun k hk => ?_, ja, jo⟩
  obtain ⟨v, hv, hok, hmono⟩ := hp.views k hk
  refine ⟨v, hv, hok.of_journals (fun _ _ => rfl) (fun q hq x hx => .inl ?_)
    (fun x hx => (hm x hx).imp id fun hx' _ _ _ => hx' mf hp.cur k hk v hv) hi
    (fun x hx => (hc mf hp.cur k hk v hv hok x hx).imp id fun ⟨q, hq, hjn, hxq⟩ => ⟨q, mem_relJournals.2 ⟨hq, hjn⟩, hxq⟩),
    hmono⟩
  rcases hsub q (mem_relJournals.1 hq).1 with e | ⟨p, hp', e, r, er⟩
  · rw [e] at hx; cases hx
  · exact ⟨p, mem_relJournals.2 ⟨hp', e ▸ (mem_relJournals.1 hq).2⟩, er ▸ List.mem_append_left _ hx⟩

/-- `Sync` of journal `n`: groups of that journal may join the must-survive set if no admissible view
    skips the journal -/
theorem DiskOK.journal_sync {cfg : Cfg} {d : Disk} {must must' issued issued' : List Grp}
    (h : DiskOK cfg d must issued) (n : Nat)
    (hm : ∀ x ∈ must', x ∈ must ∨
      ((∃ p ∈ d.journals, p.1 = n ∧ x ∈ p.2.all) ∧ AllViews cfg d fun v => v.jn ≤ n ∧ v.sq ≤ x.seq))
    (hi : ∀ x ∈ issued, x ∈ issued') :
    DiskOK cfg { d with journals := d.journals.modify n (·.sync) } must' issued' := by
  have hmem : ∀ p ∈ d.journals, (if p.1 = n then (p.1, p.2.sync) else p) ∈ d.journals.modify n (·.sync) :=
    fun p hp => mem_modify.2 ⟨p, hp, rfl⟩
  refine h.of_journals (pairwise_keys_modify (R := (· < ·)) n (·.sync) h.jsorted) (fun q hq => ?_)
    (fun x hx => (hm x hx).imp id fun hx' mf hmf k hk v hv => (hx'.2 mf hmf k hk v hv).2) hi
    (fun mf hmf k hk v hv hok x hx => ?_)
  · obtain ⟨p, hp, rfl⟩ := mem_modify.1 hq
    refine .inr ⟨p, hp, by split <;> rfl, [], ?_⟩
    split
    · show p.2.all = p.2.sync.all ++ []
      rw [List.append_nil, LogFile.sync_all]
    · exact (List.append_nil _).symm
  · rcases hm x hx with hx' | ⟨⟨p, hp, hpn, hxp⟩, hjn⟩
    · refine (hok.cover x hx').imp id fun ⟨p, hpr, hxp⟩ => ⟨_, hmem p (mem_relJournals.1 hpr).1, ?_, ?_⟩
      · split <;> exact (mem_relJournals.1 hpr).2
      · split
        · exact List.mem_append_left _ hxp
        · exact hxp
    · exact .inr ⟨_, hmem p hp, by rw [if_pos hpn, hpn]; exact (hjn mf hmf k hk v hv).1, by rw [if_pos hpn]; exact hxp⟩

/-- `Create` of journal `n`: a new, empty journal with the largest number, or the truncation of the empty
    journal a failed `Create` left behind -/
theorem DiskOK.journal_create' {cfg : Cfg} {d : Disk} {must issued : List Grp}
    (h : DiskOK cfg d must issued) (n : Nat) (hn : ∀ p ∈ d.journals, p.1 < n ∨ p.1 = n ∧ p.2.all = []) :
    DiskOK cfg { d with journals := d.journals.set n ⟨[], []⟩ } must issued := by
  by_cases hex : ∃ p ∈ d.journals, p.1 = n
  · -- journal `n` is there and empty: the truncation changes nothing
    obtain ⟨p, hp, hpn⟩ := hex
    have hall : p.2.all = [] := (hn p hp).elim (fun h1 => absurd hpn (Nat.ne_of_lt h1)) (·.2)
    have hp' : (n, (⟨[], []⟩ : LogFile Grp)) ∈ d.journals := by
      rw [← hpn, ← logFile_of_all_nil hall]; exact hp
    rw [set_same (sorted_nodup h.jsorted) hp']
    exact h
  · have hlt : ∀ p ∈ d.journals, p.1 < n := fun p hp =>
      (hn p hp).elim id fun h1 => absurd ⟨p, hp, h1.1⟩ hex
    have hset : d.journals.set n ⟨[], []⟩ = d.journals ++ [(n, ⟨[], []⟩)] :=
      set_of_fresh _ (fun p hp => Nat.ne_of_lt (hlt p hp))
    refine h.of_journals (sorted_set_fresh h.jsorted ⟨[], []⟩ hlt) (fun q hq => ?_) (fun x hx => .inl hx)
      (fun _ h => h) (fun mf hmf k hk v hv hok x hx => (hok.cover x hx).imp id fun ⟨p, hpr, hxp⟩ =>
        ⟨p, by rw [hset]; exact List.mem_append_left _ (mem_relJournals.1 hpr).1, (mem_relJournals.1 hpr).2, hxp⟩)
    rw [hset, List.mem_append, List.mem_singleton] at hq
    rcases hq with hq | rfl
    · exact .inr ⟨q, hq, rfl, [], (List.append_nil _).symm⟩
    · exact .inl rfl

theorem DiskOK.journal_create {cfg : Cfg} {d : Disk} {must issued : List Grp}
    (h : DiskOK cfg d must issued) (n : Nat) (hn : ∀ p ∈ d.journals, p.1 < n) :
    DiskOK cfg { d with journals := d.journals.set n ⟨[], []⟩ } must issued :=
  h.journal_create' n fun p hp => .inl (hn p hp)

theorem DiskOK.journal_remove {cfg : Cfg} {d : Disk} {must issued : List Grp}
    (h : DiskOK cfg d must issued) (n : Nat)
    (hn : AllViews cfg d fun v => n < v.jn ∨ ∀ p ∈ d.journals, p.1 = n → ∀ g ∈ p.2.all, g ∉ must) :
    DiskOK cfg { d with journals := d.journals.erase n } must issued := by
  refine h.of_journals (pairwise_erase n h.jsorted)
    (fun q hq => .inr ⟨q, (mem_erase.1 hq).1, rfl, [], (List.append_nil _).symm⟩) (fun x hx => .inl hx) (fun _ h => h)
    (fun mf hmf k hk v hv hok x hx => (hok.cover x hx).imp id fun ⟨p, hpr, hxp⟩ => ?_)
  obtain ⟨hp, hjn⟩ := mem_relJournals.1 hpr
  refine ⟨p, mem_erase.2 ⟨hp, fun hpn => ?_⟩, hjn, hxp⟩
  rcases hn mf hmf k hk v hv with h1 | h1
  · omega
  · exact h1 p hp hpn x (List.mem_append_left _ hxp) hx

theorem DiskOK.journal_append {cfg : Cfg} {d : Disk} {must must' issued issued' : List Grp}
    (h : DiskOK cfg d must issued) (n : Nat) (g : Grp) (hmax : ∀ p ∈ d.journals, p.1 ≤ n ∨ p.2.all = [])
    (hg : g ∈ issued' ∧ g.recs ≠ [])
    (hview : AllViews cfg d fun v =>
      v.sq ≤ g.seq ∧ (∀ x ∈ liveGrps d v, x.fin ≤ g.seq) ∧ ∀ p ∈ relJournals d v.jn, ∀ x ∈ p.2.all, x.fin ≤ g.seq)
    (hm : ∀ x ∈ must', x ∈ must) (hi : ∀ x ∈ issued, x ∈ issued') :
    DiskOK cfg { d with journals := d.journals.modify n (·.append g) } must' issued' := by
  obtain ⟨mf, v0, hp⟩ := h.parts
  -- a relevant journal after the append is a relevant journal before, with `g` at its end if it is journal `n`
  have hrel : ∀ jn, ∀ q ∈ relJournals { d with journals := d.journals.modify n (·.append g) } jn,
      ∃ p ∈ relJournals d jn, q.1 = p.1 ∧ (q.2.all = p.2.all ∨ p.1 = n ∧ q.2.all = p.2.all ++ [g]) := by
    intro jn q hq
    obtain ⟨hq, hjn⟩ := mem_relJournals.1 hq
    obtain ⟨p, hp', rfl⟩ := mem_modify.1 (show q ∈ d.journals.modify n (·.append g) from hq)
    split at hjn
    · next e => exact ⟨p, mem_relJournals.2 ⟨hp', hjn⟩, by rw [if_pos e], .inr ⟨e, by rw [if_pos e]; exact p.2.append_all g⟩⟩
    · next e => exact ⟨p, mem_relJournals.2 ⟨hp', hjn⟩, by rw [if_neg e], .inl (by rw [if_neg e])⟩
  obtain ⟨_, _, hv3⟩ := hview mf hp.cur 0 (Nat.zero_le _) v0 hp.hv0
  refine .of_parts (pairwise_keys_modify (R := (· < ·)) n (·.append g) h.jsorted) h.tnodup h.mnodup
    ⟨hp.cur, hp.hv0, fun k hk => ?_, fun q hq => ?_, fun q hq q' hq' hlt x hx y hy => ?_⟩
  · obtain ⟨v, hv, hok, hmono⟩ := hp.views k hk
    obtain ⟨hv1, hv2, _⟩ := hview mf hp.cur k hk v hv
    refine ⟨v, hv, hok.of_journals (fun _ _ => rfl) (fun q hq x hx => ?_) (fun x hx => .inl (hm x hx)) hi
      (fun x hx => (hok.cover x (hm x hx)).imp id fun ⟨p, hpr, hxp⟩ =>
        ⟨_, mem_relJournals.2 ⟨show _ ∈ d.journals.modify n (·.append g) from
          mem_modify.2 ⟨p, (mem_relJournals.1 hpr).1, rfl⟩, ?_⟩, ?_⟩), hmono⟩
    · obtain ⟨p, hpr, _, e | ⟨_, e⟩⟩ := hrel _ q hq
      · exact .inl ⟨p, hpr, e ▸ hx⟩
      · rw [e, List.mem_append, List.mem_singleton] at hx
        exact hx.elim (fun hx => .inl ⟨p, hpr, hx⟩) fun hx => .inr (hx ▸ ⟨hv1, hg.1, hv2⟩)
    · split <;> exact (mem_relJournals.1 hpr).2
    · split
      · exact hxp
      · exact hxp
  · obtain ⟨p, hpr, _, e | ⟨_, e⟩⟩ := hrel _ q hq <;> rw [e]
    · exact hp.jasc p hpr
    · exact (hp.jasc p hpr).snoc (Nat.zero_le _) hg.2 (hv3 p hpr)
  · obtain ⟨p, hpr, e1, e⟩ := hrel _ q hq
    obtain ⟨p', hpr', e1', e'⟩ := hrel _ q' hq'
    rw [e1, e1'] at hlt
    have hx' : x ∈ p.2.all := by
      rcases e with e | ⟨hpn, _⟩
      · exact e ▸ hx
      · -- `p` is journal `n` and `p'` a later one: that one is empty
        rcases hmax p' (mem_relJournals.1 hpr').1 with h1 | h1
        · omega
        · rcases e' with e' | ⟨_, _⟩
          · rw [e', h1] at hy; cases hy
          · omega
    rcases e' with e' | ⟨_, e'⟩
    · exact hp.jord p hpr p' hpr' hlt x hx' y (e' ▸ hy)
    · rw [e', List.mem_append, List.mem_singleton] at hy
      exact hy.elim (hp.jord p hpr p' hpr' hlt x hx' y) fun hy => hy ▸ hv3 p hpr x hx'

/-- a file that is created, written or synced and then removed is removed, whatever the first operation answered -/
theorem Disk.exec_remove_table (d : Disk) (n : Nat) (op : Op)
    (hop : op = .create .table n ∨ (∃ gs, op = .writeT n gs) ∨ op = .sync .table n) (o : Outcome) :
    (d.exec op o).apply (.remove .table n) = { d with tables := d.tables.erase n } := by
  rcases hop with rfl | ⟨gs, rfl⟩ | rfl <;> cases o <;>
    simp only [Disk.exec, Disk.apply, Files.erase_set, Files.erase_modify]

theorem Disk.exec_remove_manifest (d : Disk) (m : Nat) (op : Op)
    (hop : op = .create .manifest m ∨ (∃ r, op = .writeM m r) ∨ op = .sync .manifest m) (o : Outcome) :
    (d.exec op o).apply (.remove .manifest m) = { d with manifests := d.manifests.erase m } := by
  rcases hop with rfl | ⟨r, rfl⟩ | rfl <;> cases o <;>
    simp only [Disk.exec, Disk.apply, Files.erase_set, Files.erase_modify]

end GoLevel.Dur

import GoLevel.Proofs.DurableStepBase
/-!
The writer's steps (`wAppend`, `wSync`, `wApply`, `wPublish`, `wAck`) preserve the invariant, whatever the journal
operation of `wAppend` and `wSync` answers.  All of them are instances of one frame, `Inv.writer` (the writer's fields
change, a function is applied to the current journal): through `Inv.writer_same` where the storage stays as it is,
through `Inv.group_failed` where the group is reported as failed.  The journal clause `JournalHolds` says of every
record of a file that it is content or the record of a failed write (`Failed`, `journalHolds_iff`; `Stale` is the case
of no content); `JournalHolds.mono` carries that over a step.
-/
namespace GoLevel.Dur

variable {cfg : Cfg} {s s' : St} {d d' : Disk} {j : Job}

theorem disk_modify_id (d : Disk) (n : Nat) : d = { d with journals := d.journals.modify n id } := by
  rw [modify_id]

/-- the groups that must survive grow only by groups above everything journalled so far -/
def MustGrows (s s' : St) : Prop := ∀ g ∈ must s', g ∈ must s ∨ s.seq + 1 < g.fin

/-- the record of a failed write: it need not survive, its sequence numbers are consumed, the failure is on record -/
def Failed (s : St) (b : Nat) (g : Grp) : Prop := g ∉ must s ∧ g.fin ≤ b + 1 ∧ s.everFailed = true

/-- the last three clauses of `JournalHolds` are one: every record of the file is content or the record of a failed write -/
theorem journalHolds_iff {jf : LogFile Grp} {c : List Grp} {b : Nat} :
    JournalHolds s jf c b ↔ (∀ g ∈ c, g ∈ jf.all) ∧ ∀ g ∈ jf.all, g ∈ c ∨ Failed s b g := by
  constructor
  · rintro ⟨h1, h2, h3, h4⟩
    refine ⟨h1, fun g hg => Classical.byCases (p := g ∈ c) Or.inl fun hn => Or.inr
      ⟨fun hm => hn (h2 g hg hm), (h3 g hg).resolve_left hn, ?_⟩⟩
    cases hef : s.everFailed
    · exact absurd (h4 hef g hg) hn
    · rfl
  · rintro ⟨h1, h2⟩
    exact ⟨h1, fun g hg hm => (h2 g hg).elim id fun f => absurd hm f.1, fun g hg => (h2 g hg).imp id (·.2.1),
      fun hef g hg => (h2 g hg).elim id fun f => by rw [f.2.2] at hef; cases hef⟩

/-- The journal clause over a step: a record of the file afterwards was there before, is content now, or is the record of
    a failed write; what was content stays content or becomes such a record; what must survive now had to before, is
    content now, or lies above the bound. -/
theorem JournalHolds.mono {jf jf' : LogFile Grp} {c c' : List Grp} {b b' : Nat}
    (h : JournalHolds s jf c b) (hb : b ≤ b') (hc' : ∀ x ∈ c', x ∈ jf'.all)
    (hnew : ∀ x ∈ jf'.all, x ∈ jf.all ∨ x ∈ c' ∨ Failed s' b' x)
    (hc : ∀ x ∈ c, x ∈ c' ∨ Failed s' b' x)
    (hm : ∀ x ∈ must s', x ∈ must s ∨ x ∈ c' ∨ b + 1 < x.fin)
    (hef : s'.everFailed = false → s.everFailed = false) : JournalHolds s' jf' c' b' := by
  rw [journalHolds_iff] at h ⊢
  refine ⟨hc', fun x hx => (hnew x hx).elim (fun hx0 => ?_) id⟩
  rcases h.2 x hx0 with k | ⟨k1, k2, k3⟩
  · exact hc x k
  · refine Classical.byCases (p := x ∈ c') Or.inl fun hn => Or.inr
      ⟨fun hxm => (hm x hxm).elim k1 fun k => k.elim hn fun k => by omega, by omega, ?_⟩
    cases hf : s'.everFailed
    · rw [hef hf] at k3; cases k3
    · rfl

theorem JournalHolds.stale {jf : LogFile Grp} {b : Nat} (h : JournalHolds s jf [] b) (hb : b ≤ s.seq) : Stale s jf := by
  obtain ⟨_, h2, h3, h4⟩ := h
  refine ⟨fun g hg => ⟨fun hm => (nomatch h2 g hg hm), (h3 g hg).elim (fun k => nomatch k) fun k => ?_⟩,
    fun hef => List.eq_nil_iff_forall_not_mem.2 fun g hg => (nomatch h4 hef g hg)⟩
  omega

theorem Stale0.mono {jf : LogFile Grp} (h : Stale0 s jf) (hq : s.seq ≤ s'.seq) (hm : MustGrows s s') :
    Stale0 s' jf := by
  intro g hg
  obtain ⟨a, b⟩ := h g hg
  refine ⟨fun hx => ?_, by omega⟩
  rcases hm g hx with h1 | h1
  · exact a h1
  · omega

theorem MirrorL.of_none {v : MView} (hl : s.limbo = none) : MirrorL s v ↔ Mirror s v := by
  unfold MirrorL; rw [hl]

theorem MirrorL.of_some {v : MView} {u : MRec} (hl : s.limbo = some u) : MirrorL s v ↔ MirrorE s u v := by
  unfold MirrorL; rw [hl]

/-- the manifest descriptor clause under a change that keeps the descriptor, `CURRENT` and the ghost edit, away from
    the adoption of a new manifest -/
theorem MfdOK.transport (h : MfdOK s d)
    (h1 : ∀ m, s.job.map (·.pc) ≠ some (JPc.rotRemove m)) (h2 : ∀ m, s'.job.map (·.pc) ≠ some (JPc.rotRemove m))
    (e1 : s'.manifestFd = s.manifestFd) (e2 : d'.current = d.current) (e3 : s'.limbo = s.limbo) : MfdOK s' d' := by
  unfold MfdOK
  split
  · rename_i m hm; exact absurd hm (h2 m)
  · unfold MfdOK at h
    split at h
    · rename_i m hm; exact absurd hm (h1 m)
    · rw [e1, e2, e3]; exact h

/-- the facts about a discarded transaction's edit are monotone: the next file number and `db.seq` may grow, nothing
    that must survive comes to lie below `db.seq`, its table stays as it is, the outputs of the job stay above it -/
theorem OrphanOK.mono {u : MRec} (h : OrphanOK s d u)
    (hnf : s.nextFile ≤ s'.nextFile) (hq : s.seq ≤ s'.seq) (hm : MustGrows s s')
    (ht : ∀ t, u.added = [t] → t < s.nextFile → (Holds' s.job fun j => ∀ o ∈ j.outs, t < o.1) →
      lookup d'.tables t = lookup d.tables t)
    (hj : ∀ t < s.nextFile, (Holds' s.job fun j => ∀ o ∈ j.outs, t < o.1) →
      Holds' s'.job fun j => ∀ o ∈ j.outs, t < o.1) : OrphanOK s' d' u := by
  obtain ⟨k1, k2, k3⟩ := h
  refine ⟨k1, k2, k3.imp (fun t ht' => ?_)⟩
  obtain ⟨hadd, hlt, htf⟩ := ht'
  obtain ⟨tf, htl, hs1, hs2, hg⟩ := holds_iff.1 htf
  obtain ⟨g0, hg0, m1, m2, m4, m5, m6, m7⟩ := holds_iff.1 hg
  refine ⟨hadd, Nat.lt_of_lt_of_le hlt hnf, holds_of_some (by rw [ht t hadd hlt m7]; exact htl) ⟨hs1, hs2,
    holds_of_some hg0 ⟨m1, m2, fun hx => ?_, m5, Nat.le_trans m6 (Nat.succ_le_succ hq), hj t hlt m7⟩⟩⟩
  rcases hm g0 hx with h1 | h1
  · exact m4 h1
  · omega

/-- what is known about the ghost edit carries over when the session's view and the groups of its tables stay; what varies
    is the job: its own clause (`hjob`) and the alternative "the edit is the retrying job's, or an orphan's" (`hk`) -/
theorem LimboOK.mono (h : LimboOK s d) (el : s'.limbo = s.limbo) (ef : s'.manifestFailed = s.manifestFailed)
    (ejn : s'.stJn = s.stJn) (esq : s'.stSq = s.stSq) (elive : s'.live = s.live)
    (ht : ∀ t ∈ s.live, tableGrpsOf d' t = tableGrpsOf d t)
    (hjob : (Holds' s.job fun j => j.edit = none ∨ j.pc.beforeCommit = true) →
      Holds' s'.job fun j => j.edit = none ∨ j.pc.beforeCommit = true)
    (hk : ∀ u, (Holds s.job fun j => j.edit = some u ∧ j.pc.retry = true) ∨ OrphanOK s d u →
      (Holds s'.job fun j => j.edit = some u ∧ j.pc.retry = true) ∨ OrphanOK s' d' u) : LimboOK s' d' := by
  unfold LimboOK at h ⊢
  rw [el]
  refine Holds'.imp (o := s.limbo) h (fun u hu => ?_)
  obtain ⟨a, b, c, e, f, g, k0, k⟩ := hu
  refine ⟨by rw [ef]; exact a, b, c, by rw [ejn]; exact e, by rw [esq]; exact f, fun t ht' => ?_, hjob k0, hk u k⟩
  rw [elive] at ht'
  rw [ht t ht', esq]
  exact g t ht'

theorem tableGrpsOf_congr (et : d'.tables = d.tables) (t : Nat) : tableGrpsOf d' t = tableGrpsOf d t := by
  unfold tableGrpsOf; rw [et]

theorem LimboOK.frame (h : LimboOK s d) (el : s'.limbo = s.limbo)
    (ef : s'.manifestFailed = s.manifestFailed) (ejn : s'.stJn = s.stJn) (esq : s'.stSq = s.stSq)
    (elive : s'.live = s.live) (ejob : s'.job = s.job) (et : d'.tables = d.tables) (hq : s.seq ≤ s'.seq)
    (hm : MustGrows s s') (hnf : s.nextFile ≤ s'.nextFile := by exact Nat.le_refl _) : LimboOK s' d' :=
  h.mono el ef ejn esq elive (fun t _ => tableGrpsOf_congr et t) (fun k0 => by rw [ejob]; exact k0) fun _ k =>
    k.imp (fun k => by rw [ejob]; exact k)
      fun k => k.mono hnf hq hm (fun _ _ _ _ => by rw [et]) (fun _ _ h => by rw [ejob]; exact h)

/-- the pending removals look at the journals only below the current one -/
theorem RemovalsOK.of_journals {v : MView} (h : RemovalsOK s d j v) (hc : d'.current = d.current)
    (hjc : s.jcur ≤ s'.jcur)
    (hst : ∀ n < s.jcur, ∀ p' ∈ d'.journals, p'.1 = n → ∃ p ∈ d.journals, p.1 = n ∧ (Stale0 s p.2 → Stale0 s' p'.2)) :
    RemovalsOK s' d' j v := by
  unfold RemovalsOK at h ⊢
  split
  · rename_i rest heq
    rw [heq] at h
    refine ⟨fun n hn => ⟨(h.1 n hn).1.imp id fun ⟨h1, h2⟩ => ⟨Nat.lt_of_lt_of_le h1 hjc, fun p' hp' hpn => ?_⟩,
      (h.1 n hn).2⟩, h.2⟩
    obtain ⟨p, hp, hpn0, hs⟩ := hst n h1 p' hp' hpn
    exact hs (h2 p hp hpn0)
  · rename_i rest heq; rw [heq] at h; exact h
  · rename_i rest heq; rw [heq] at h; rw [hc]; exact h
  · trivial

/-- a job is not disturbed by what the writer does -/
theorem JobOK.writer {cfg : Cfg} {s : St} {d : Disk} {j : Job} (h : JobOK cfg s d j) (hr : s.phase = .running)
    (htr : s.tr = none) (w' : WPc) (i' : List Issue) (h' : Nat) (m' : List Grp) (q' : Nat) (ef' : Bool) (f : LogFile Grp → LogFile Grp)
    (hq : s.seq ≤ q') (hm : MustGrows s { s with w := w', issued := i', hi := h', mem := m', seq := q', everFailed := ef' }) :
    JobOK cfg { s with w := w', issued := i', hi := h', mem := m', seq := q', everFailed := ef' }
      { d with journals := d.journals.modify s.jcur f } j := by
  obtain ⟨h1, h2, h3, h4, h5, h6, h7, h8, h9, h10, h11, h12⟩ := h
  obtain ⟨hmk, hkinds⟩ : j.mkJournal = none ∧ (j.kind = .flush ∨ j.kind = .compaction) := by
    rcases h2.cases with ⟨_, hmk, hk | hk | hk⟩ | ⟨hp, _⟩
    · exact ⟨hmk, Or.inl hk⟩
    · exact ⟨hmk, Or.inr hk⟩
    · exact absurd hk (h2.not_tr htr)
    · rw [hr] at hp; cases hp
  have h2' : JobKindOK { s with w := w', issued := i', hi := h', mem := m', seq := q', everFailed := ef' } j := by
    unfold JobKindOK at h2 ⊢
    rcases hkinds with hk | hk <;> rw [hk] at h2 ⊢ <;> exact h2
  refine ⟨h1, h2', h3, h4, h5, h6, h7, ?_, ?_, h10, h11, h12⟩
  · exact MkJournalOK.of_none hmk
  · exact h9.imp fun v hv => hv.of_journals rfl (Nat.le_refl _) fun n hn p hp hpn =>
      ⟨p, mem_modify_ne hp (by omega), hpn, fun h2 => h2.mono hq hm⟩


/-- what `RunOK`, `DiskOK` and `ViewBounds` say about the groups in the relevant journals: they end at or
    below `seq + 1` while no group is in flight -/
theorem rel_groups_old {cfg : Cfg} {s : St} {d : Disk} (hd : DiskOK cfg d (must s) (issuedGrps s))
    (hrun : RunOK cfg s d) (hw : inflight s.w = []) (hmem : ∀ h ∈ s.mem, h.fin ≤ s.seq + 1) :
    AllViews cfg d fun v => ∀ p ∈ relJournals d v.jn, ∀ x ∈ p.2.all, x.fin ≤ s.seq + 1 := by
  intro mf hc k hk v hv p hp x hx
  obtain ⟨mf', v0, hparts⟩ := hd.parts
  have e : mf' = mf := by have := hparts.cur; rw [hc] at this; exact (Option.some.inj this).symm
  subst e
  obtain ⟨v', hv', _, hmono⟩ := hparts.views k hk
  rw [hv] at hv'; cases hv'
  have hp0 : p ∈ relJournals d v0.jn := relJournals_mono hmono hp
  have r1 := holds_some hrun.rel hc
  have r2 := holds_some r1 hparts.hv0
  have hrel := r2 p (mem_relJournals.1 hp0).1 (mem_relJournals.1 hp0).2
  rcases hrel with h1 | h1 | h1
  rotate_left 2
  · exact (h1.1 x hx).2
  · -- the current journal
    have hl := hrun.jcur
    obtain ⟨jf, hjf, hall⟩ := holds_iff.1 hl
    have : lookup d.journals p.1 = some p.2 :=
      lookup_of_mem (sorted_nodup hd.jsorted) (by cases p; exact (mem_relJournals.1 hp).1)
    rw [h1, hjf] at this
    cases this
    rcases hall.2.2.1 x hx with h2 | h2
    · rw [hw, List.append_nil] at h2
      exact hmem x h2
    · exact h2
  · -- the frozen journal
    rcases frozenOK_iff.1 hrun.frozen with ⟨_, h3⟩ | ⟨fz, jf, _, h3, hf⟩
    · rw [h3] at h1; cases h1
    · rw [h3] at h1
      cases h1
      obtain ⟨_, f2, f3, _, f5, _⟩ := hf
      rcases (f5 p (mem_relJournals.1 hp).1 rfl).2.2.1 x hx with h2 | h2
      · have := f3 x h2
        omega
      · omega

/-- `FrozenOK` survives what the writer does -/
theorem FrozenOK.writer {cfg : Cfg} {s : St} {d : Disk} (h : FrozenOK cfg s d)
    (w' : WPc) (i' : List Issue) (h' : Nat) (m' : List Grp) (q' : Nat) (ef' : Bool) (f : LogFile Grp → LogFile Grp)
    (hq : s.seq ≤ q') (hef : ef' = false → s.everFailed = false)
    (hnew : ∀ jf, ∀ g ∈ (f jf).all, g ∈ jf.all ∨ s.seq < g.seq)
    (hm : MustGrows s { s with w := w', issued := i', hi := h', mem := m', seq := q', everFailed := ef' }) :
    FrozenOK cfg { s with w := w', issued := i', hi := h', mem := m', seq := q', everFailed := ef' }
      { d with journals := d.journals.modify s.jcur f } := by
  refine h.imp rfl rfl fun fz jf _ _ ⟨f1, f2, f3, f4, f5, f6⟩ => ⟨f1, Nat.le_trans f2 hq, f3, ?_, ?_, ?_⟩
  · intro p hp hpn g hg
    obtain ⟨p0, hp0, rfl⟩ := mem_modify.1 hp
    by_cases hpc : p0.1 = s.jcur
    · rw [if_pos hpc] at hg
      rcases hnew p0.2 g hg with h3 | h3
      · exact f4 p0 hp0 hpc g h3
      · show s.frozenSeq < g.seq; omega
    · rw [if_neg hpc] at hpn hg
      exact f4 p0 hp0 hpn g hg
  · intro p hp hpn
    have h5 := f5 p (mem_modify_ne hp (by omega)) hpn
    exact h5.mono (Nat.le_refl _) h5.1 (fun _ hx => Or.inl hx) (fun _ hx => Or.inl hx)
      (fun x hx => (hm x hx).imp id fun k => Or.inr (by omega)) hef
  · intro hn
    obtain ⟨⟨p, hp, hpn⟩, f7⟩ := f6 hn
    refine ⟨⟨_, mem_modify.2 ⟨p, hp, rfl⟩, ?_⟩, f7⟩
    split <;> exact hpn

/-- the parts of `RunOK` that do not look at `w`, `mem`, `seq`, `issued` survive a change of the current
    journal's content -/
theorem RunOK.writer {cfg : Cfg} {s : St} {d : Disk} (h : RunOK cfg s d)
    (w' : WPc) (i' : List Issue) (h' : Nat) (m' : List Grp) (q' : Nat) (ef' : Bool) (f : LogFile Grp → LogFile Grp)
    (hq : s.seq ≤ q') (hef : ef' = false → s.everFailed = false)
    (hnew : ∀ jf, ∀ g ∈ (f jf).all, g ∈ jf.all ∨ s.seq < g.seq)
    (hm : MustGrows s { s with w := w', issued := i', hi := h', mem := m', seq := q', everFailed := ef' })
    (hall : ∀ jf, lookup d.journals s.jcur = some jf →
      JournalHolds { s with w := w', issued := i', hi := h', mem := m', seq := q', everFailed := ef' } (f jf) (m' ++ inflight w') q')
    (hws : WSeqOK { s with w := w', issued := i', hi := h', mem := m', seq := q', everFailed := ef' }) (htr : s.tr = none) :
    RunOK cfg { s with w := w', issued := i', hi := h', mem := m', seq := q', everFailed := ef' }
      { d with journals := d.journals.modify s.jcur f } := by
  obtain ⟨r1, r2, r3, r4, r5, r6, r7, r8, r9, r10⟩ := h
  have htr' : TrOK { s with w := w', issued := i', hi := h', mem := m', seq := q', everFailed := ef' } := by
    unfold TrOK
    show Holds' s.tr _
    rw [htr]; trivial
  refine ⟨⟨r1.1, htr'⟩, r2, ?_, ?_, ?_, hws, r7.writer w' i' h' m' q' ef' f hq hef hnew hm, ?_, r9,
    r10.frame rfl rfl rfl rfl rfl rfl rfl hq hm⟩
  · rw [holds_iff] at r3 ⊢
    obtain ⟨jf, hjf, _⟩ := r3
    refine ⟨f jf, ?_, hall jf hjf⟩
    show lookup (d.journals.modify s.jcur f) s.jcur = _
    rw [lookup_modify, if_pos rfl, hjf]; rfl
  · refine ⟨r4.1, fun p hp => ?_⟩
    obtain ⟨p0, hp0, rfl⟩ := mem_modify.1 hp
    split
    · rename_i hpc; exact Or.inl (Nat.le_of_eq hpc)
    · exact r4.2 p0 hp0
  · refine ⟨fun p hp => ?_, r5.2⟩
    obtain ⟨p0, hp0, rfl⟩ := mem_modify.1 hp
    split
    · rename_i hpc; exact Or.inl (by show p0.1 < s.nextFile; rw [hpc]; exact r4.1)
    · exact r5.1 p0 hp0
  · refine r8.imp (fun mf hmf => hmf.imp (fun v0 hv0 p hp hjn => ?_))
    obtain ⟨p0, hp0, rfl⟩ := mem_modify.1 hp
    by_cases hpc : p0.1 = s.jcur
    · rw [if_pos hpc]; exact Or.inl hpc
    · rw [if_neg hpc] at hjn ⊢
      rcases hv0 p0 hp0 hjn with h1 | h1 | h1
      · exact Or.inl h1
      · exact Or.inr (Or.inl h1)
      · exact Or.inr (Or.inr ⟨h1.1.mono hq hm, fun hx => h1.2 (hef hx)⟩)

theorem Inv.not_trWindow_of_tr_none (h : Inv cfg s d) (htr : s.tr = none) : ¬ TrWindow s := by
  cases hj : s.job with
  | none => exact not_trWindow_of_nojob hj
  | some j => exact not_trWindow_of_kind hj ((h.jobOK hj).kind.not_tr htr)

/-- an open transaction holds the write lock: the writer is idle, nothing is buffered or frozen, the transaction's
    numbers start behind `db.seq` -/
theorem RunOK.tr_open (h : RunOK cfg s d) {g : Grp} (hg : s.tr = some g) :
    s.w = .idle ∧ s.mem = [] ∧ s.frozen = none ∧ g.seq = s.seq + 1 ∧ g.sync = true := by
  have := h.norecov.2
  unfold TrOK at this
  rw [hg] at this
  exact this

theorem RunOK.tr_none_of_w (h : RunOK cfg s d) (hw : s.w ≠ .idle) : s.tr = none := by
  cases ht : s.tr with
  | none => rfl
  | some g => exact absurd (h.tr_open ht).1 hw

theorem mem_ackedSync_setStatus_failed {g x : Grp} {l : List Issue} (h : x ∈ ackedSync (setStatus g .failed l)) :
    x ∈ ackedSync l ∧ x ≠ g := by
  obtain ⟨i, hi, hst, hsy, rfl⟩ := mem_ackedSync_map h
  by_cases hg : i.grp = g
  · simp only [hg, if_true] at hst
    cases hst
  · simp only [hg, if_false] at hst hsy ⊢
    exact ⟨mem_ackedSync_of hi hst hsy, hg⟩

/-- between two groups, and away from the commit of a transaction, everything an admissible view delivers lies at or
    below `db.seq`: its sequence number, the groups of its tables, the records of the journals it replays -/
theorem Inv.storage_bound (h : Inv cfg s d) (hph : s.phase = .running) (hntw : ¬ TrWindow s)
    (hq : s.w.quiet = true) :
    AllViews cfg d fun v => v.sq ≤ s.seq ∧ (∀ x ∈ liveGrps d v, x.fin ≤ s.seq + 1) ∧
      ∀ p ∈ relJournals d v.jn, ∀ x ∈ p.2.all, x.fin ≤ s.seq + 1 := by
  intro mf hc k hk v hv
  have hbv := (h.bounds_of hph).all mf hc k hk v hv
  rw [seqHi_eq hntw] at hbv
  refine ⟨hbv.1, fun x hx => ?_, rel_groups_old h.disk (h.run hph) (WPc.inflight_of_quiet hq)
    ((h.run hph).wseq.mem_of_quiet hq) mf hc k hk v hv⟩
  have := ((h.disk.allViews mf hc k hk v hv).tseq x hx).1
  omega

/-- a step of the writer: its fields change and `f` is applied to the current journal.  What varies from step to step
    is the disk clause, the journal clause and the sequence clause of the new state. -/
theorem Inv.writer (h : Inv cfg s d) (hph : s.phase = .running) (htr : s.tr = none)
    {w' : WPc} {i' : List Issue} {h' : Nat} {m' : List Grp} {q' : Nat} {ef' : Bool} {f : LogFile Grp → LogFile Grp}
    (hs' : s' = s.wr w' i' h' m' q' ef') (hd' : d' = { d with journals := d.journals.modify s.jcur f })
    (hq : s.seq ≤ s'.seq) (hef : s'.everFailed = false → s.everFailed = false)
    (hnew : ∀ jf, ∀ g ∈ (f jf).all, g ∈ jf.all ∨ s.seq < g.seq)
    (hm : MustGrows s s')
    (hall : ∀ jf, lookup d.journals s.jcur = some jf → JournalHolds s' (f jf) (s'.mem ++ inflight s'.w) s'.seq)
    (hws : WSeqOK s') (hd : DiskOK cfg d' (must s') (issuedGrps s')) : Inv cfg s' d' := by
  subst hs' hd'
  have hntw := h.not_trWindow_of_tr_none htr
  exact Inv.of_running hph hd (h.mm.of_same rfl rfl)
    ((h.bounds_of hph).of_same rfl (seqHi_le_of_not_window hntw hntw hq) (Nat.le_refl _)
      (fun _ => ⟨hph, Nat.le_refl _⟩))
    ((h.run hph).writer w' i' h' m' q' ef' f hq hef hnew hm hall hws htr)
    (h.job.imp fun j hj => hj.writer hph htr w' i' h' m' q' ef' f hq hm)

/-- A write group is reported as failed (`Write` or `Sync` of its journal record returned an error): the call returns,
    the sequence numbers are consumed.  The record may be in the file, or arrive there with the failing `Write`: it is the
    record of a failed write from now on.  What the callers add is the disk clause. -/
theorem Inv.group_failed (h : Inv cfg s d) (hph : s.phase = .running) (htr : s.tr = none) {g : Grp}
    (hgs : g.seq = s.seq + 1) (hgr : g.recs ≠ []) (hw : ∀ x ∈ inflight s.w, x = g)
    (hmem : ∀ x ∈ s.mem, x.fin ≤ s.seq + 1)
    {i' : List Issue} {h' : Nat} {f : LogFile Grp → LogFile Grp}
    (hs' : s' = s.wr .idle i' h' s.mem (g.fin - 1) true)
    (hd' : d' = { d with journals := d.journals.modify s.jcur f })
    (hf : ∀ jf, (f jf).all = jf.all ∨ (f jf).all = jf.all ++ [g])
    (hmust : ∀ x ∈ must s', x ∈ must s ∧ x ≠ g)
    (hd : DiskOK cfg d' (must s') (issuedGrps s')) : Inv cfg s' d' := by
  subst hs' hd'
  have hfin := Grp.seq_lt_fin hgr
  have hq : s.seq ≤ g.fin - 1 := by omega
  obtain ⟨jf0, hjf0, hjh⟩ := holds_iff.1 (h.run hph).jcur
  have hg : Failed (s.wr .idle i' h' s.mem (g.fin - 1) true) (g.fin - 1) g :=
    ⟨fun hx => (hmust g hx).2 rfl, by omega, rfl⟩
  refine h.writer hph htr rfl rfl hq (fun hx => nomatch hx) (fun jf x hx => ?_)
    (fun x hx => Or.inl (hmust x hx).1) (fun jf hjf => ?_) ?_ hd
  · rcases hf jf with h1 | h1 <;> rw [h1] at hx
    · exact Or.inl hx
    · exact (List.mem_append.1 hx).imp id fun h2 => by rw [List.mem_singleton.1 h2, hgs]; exact Nat.lt_succ_self _
  · rw [hjf0] at hjf; cases hjf
    refine hjh.mono hq (fun x hx => ?_) (fun x hx => ?_)
      (fun x hx => (List.mem_append.1 hx).imp (fun k => List.mem_append_left _ k) fun k => hw x k ▸ hg)
      (fun x hx => Or.inl (hmust x hx).1) (fun hx => nomatch hx)
    · have hx' : x ∈ jf0.all := hjh.1 x (List.mem_append_left _ (by simpa [inflight] using hx))
      rcases hf jf0 with h1 | h1 <;> rw [h1]
      · exact hx'
      · exact List.mem_append_left _ hx'
    · rcases hf jf0 with h1 | h1 <;> rw [h1] at hx
      · exact Or.inl hx
      · exact (List.mem_append.1 hx).imp id fun h2 => Or.inr (by rw [List.mem_singleton.1 h2]; exact hg)
  · refine WSeqOK.of_quiet rfl fun x hx => ?_
    have := hmem x hx
    show x.fin ≤ g.fin - 1 + 1
    omega

/-- the journal operation of `writeJournal`: the record is appended; the operation may fail, with or without
    the record in the file; a failure consumes the sequence numbers (`consumeSeqOnJournalError`) -/
theorem inv_wAppend_any
    (h : Inv cfg s d) {recs : List Batch.Rec} {sync : Bool} {o : Outcome}
    (hcs' : o.failed = true → cfg.consumeSeqOnJournalError = true)
    (hs : stepWriter cfg s d (.wAppend recs sync o) = some (s', d')) : Inv cfg s' d' := by
  -- plan: a failed write is `Inv.group_failed` with `f` the identity (nothing reached the file) or the append of the
  -- record, a successful one `Inv.writer` with the append; the disk clause is `DiskOK.mono` resp.
  -- `DiskOK.journal_append`, fed with what every admissible view says of the new group
  simp only [stepWriter] at hs
  split at hs
  rotate_left
  · cases hs
  rename_i hg
  obtain ⟨hph, hw, hrecs, htr⟩ := hg
  have hrun := h.run hph
  have hq : s.w.quiet = true := by rw [hw]; rfl
  have hwseq := hrun.wseq.mem_of_quiet hq
  have hinfl := WPc.inflight_of_quiet hq
  -- the new group lies above everything on the storage; so it is not one that must survive already
  let g : Grp := ⟨s.seq + 1, recs, sync⟩
  have hgseq : g.seq = s.seq + 1 := rfl
  have hgr : g.recs ≠ [] := hrecs
  have hfin := Grp.seq_lt_fin hgr
  have hview : AllViews cfg d fun v =>
      v.sq ≤ g.seq ∧ (∀ x ∈ liveGrps d v, x.fin ≤ g.seq) ∧ ∀ p ∈ relJournals d v.jn, ∀ x ∈ p.2.all, x.fin ≤ g.seq :=
    fun mf hc k hk v hv =>
      (h.storage_bound hph (h.not_trWindow_of_tr_none htr) hq mf hc k hk v hv).imp Nat.le_succ_of_le id
  have hnm : g ∉ must s := fun hg => by
    obtain ⟨mf, _, v, hparts, _, hv, hok, _⟩ := h.disk.last
    obtain ⟨_, h1, h2⟩ := hview mf hparts.cur _ (Nat.le_refl _) v hv
    rcases hok.cover g hg with k | ⟨p, hp, k⟩
    · have := h1 g k; omega
    · have := h2 p hp g (List.mem_append_left _ k); omega
  obtain ⟨jf0, hjf0, hjh0⟩ := holds_iff.1 hrun.jcur
  rw [hinfl, List.append_nil] at hjh0
  -- whatever its status, the new issue adds `g` to the issued groups
  have hiss : ∀ st, ∀ x ∈ issuedGrps s, x ∈ (s.issued ++ [(⟨g, st⟩ : Issue)]).map (·.grp) := fun st x hx => by
    rw [List.map_append]; exact List.mem_append_left _ hx
  have hgi : ∀ st, g ∈ (s.issued ++ [(⟨g, st⟩ : Issue)]).map (·.grp) := fun st => by simp
  by_cases hof : o.failed = true
  · -- the write failed
    have hcs := hcs' hof
    simp only [hof, if_true, hcs, Option.some.injEq, Prod.mk.injEq] at hs
    obtain ⟨rfl, rfl⟩ := hs
    have hmust : ∀ x ∈ must { s with issued := s.issued ++ [⟨g, .failed⟩], hi := g.fin, seq := g.fin - 1, everFailed := true },
        x ∈ must s ∧ x ≠ g := fun x hx => by
      rw [must_eq] at hx
      simp only [ackedSync_append_of_ne _ _ .failed (by decide)] at hx
      exact ⟨hx, fun e => hnm (e ▸ hx)⟩
    have hin : ∀ x ∈ inflight s.w, x = g := by rw [hinfl]; exact fun x hx => nomatch hx
    cases o with
    | ok => cases hof
    | failNoEffect =>
      exact h.group_failed hph htr hgseq hgr hin hwseq (by rw [hw]) (disk_modify_id d _) (f := id) (fun jf => Or.inl rfl)
        hmust (h.disk.mono (fun x hx => (hmust x hx).1) (hiss .failed))
    | failEffect =>
      exact h.group_failed hph htr hgseq hgr hin hwseq (by rw [hw]) rfl (fun jf => Or.inr (jf.append_all g)) hmust
        (DiskOK.journal_append h.disk s.jcur g hrun.jmax.2 ⟨hgi .failed, hrecs⟩ hview
          (fun x hx => (hmust x hx).1) (hiss .failed))
  · -- the write succeeded
    have hok' := Outcome.eq_ok_of_not_failed hof
    subst hok'
    simp only [Outcome.failed, Bool.false_eq_true, if_false, Option.some.injEq, Prod.mk.injEq, Disk.exec,
      Disk.apply] at hs
    obtain ⟨rfl, rfl⟩ := hs
    have hmust : ∀ x ∈ must { s with w := .appended g, issued := s.issued ++ [⟨g, .pending⟩], hi := g.fin },
        x ∈ must s := by
      intro x hx
      rw [must_eq] at hx ⊢
      simp only [ackedSync_append_of_ne _ _ .pending (by decide), List.append_nil, hw] at hx ⊢
      exact hx
    refine h.writer hph htr rfl rfl (Nat.le_refl _) (fun hx => hx) ?_ (fun x hx => Or.inl (hmust x hx)) ?_ ?_
      (DiskOK.journal_append h.disk s.jcur g hrun.jmax.2 ⟨hgi .pending, hrecs⟩ hview hmust (hiss .pending))
    · intro jf x hx
      rw [LogFile.append_all] at hx
      rcases List.mem_append.1 hx with h2 | h2
      · exact Or.inl h2
      · simp only [List.mem_singleton] at h2; subst h2; exact Or.inr (by show s.seq < s.seq + 1; omega)
    · intro jf hjf
      rw [hjf0] at hjf; cases hjf
      -- the record is in the file and in flight
      refine hjh0.mono (Nat.le_refl _)
        (fun x hx => by rw [LogFile.append_all]; exact (List.mem_append.1 hx).elim (fun k => List.mem_append_left _ (hjh0.1 x k)) (List.mem_append_right _))
        (fun x hx => by rw [LogFile.append_all] at hx; exact (List.mem_append.1 hx).imp id fun k => Or.inl (List.mem_append_right _ k))
        (fun x hx => Or.inl (List.mem_append_left _ hx)) (fun x hx => Or.inl (hmust x hx)) (fun hx => hx)
    · show WSeqOK _
      unfold WSeqOK
      exact ⟨rfl, hrecs, hgi .pending, hwseq⟩

theorem Inv.running_of_w (h : Inv cfg s d) (hw : s.w ≠ .idle) : s.phase = .running :=
  Decidable.byContradiction fun hp => hw (h.idle_of_not_running hp).1

/-- a step that only moves the bookkeeping of the write path on (`putMem`, `addSeq`, the acknowledgement, sequence
    numbers consumed): the storage stays as it is, the current journal holds the same groups, nothing new must survive -/
theorem Inv.writer_same (h : Inv cfg s d) (hph : s.phase = .running) (htr : s.tr = none)
    {w' : WPc} {i' : List Issue} {h' : Nat} {m' : List Grp} {q' : Nat} (hs' : s' = s.wr w' i' h' m' q' s.everFailed)
    (hq : s.seq ≤ s'.seq) (hi : ∀ x ∈ issuedGrps s, x ∈ issuedGrps s') (hmust : ∀ x ∈ must s', x ∈ must s)
    (hc : ∀ x, x ∈ s'.mem ++ inflight s'.w ↔ x ∈ s.mem ++ inflight s.w) (hws : WSeqOK s') : Inv cfg s' d := by
  subst hs'
  refine h.writer hph htr rfl (disk_modify_id d _) (f := id) hq (fun hx => hx)
    (fun _ g hg => Or.inl hg) (fun x hx => Or.inl (hmust x hx)) (fun jf hjf => ?_) hws (h.disk.mono hmust hi)
  have hl := (h.run hph).jcur
  rw [hjf] at hl
  exact hl.mono hq (fun x hx => hl.1 x ((hc x).1 hx)) (fun _ hx => Or.inl hx) (fun x hx => Or.inl ((hc x).2 hx))
    (fun x hx => Or.inl (hmust x hx)) (fun hx => hx)

theorem Inv.writer_book (h : Inv cfg s d) (hw : s.w ≠ .idle)
    {w' : WPc} {i' : List Issue} {m' : List Grp} {q' : Nat} (hs' : s' = s.wr w' i' s.hi m' q' s.everFailed)
    (hq : s.seq ≤ s'.seq) (hi : ∀ x ∈ issuedGrps s, x ∈ issuedGrps s') (hmust : ∀ x ∈ must s', x ∈ must s)
    (hc : ∀ x, x ∈ s'.mem ++ inflight s'.w ↔ x ∈ s.mem ++ inflight s.w) (hws : WSeqOK s') : Inv cfg s' d :=
  h.writer_same (h.running_of_w hw) ((h.run (h.running_of_w hw)).tr_none_of_w hw) hs' hq hi hmust hc hws

/-- the open transaction can be replaced while no job runs: only `TrOK` looks at it then -/
theorem Inv.set_tr (h : Inv cfg s d) (hph : s.phase = .running) (hj : s.job = none) (t' : Option Grp)
    (ht : TrOK { s with tr := t' }) : Inv cfg { s with tr := t' } d := by
  obtain ⟨r1, r2, r3, r4, r5, r6, r7, r8, r9, r10⟩ := h.run hph
  exact Inv.of_running hph h.disk h.mm
    ((h.bounds_of hph).of_same rfl (seqHi_le_of_not_window (not_trWindow_of_nojob hj) (not_trWindow_of_nojob hj)
      (Nat.le_refl _)) (Nat.le_refl _) fun _ => ⟨hph, Nat.le_refl _⟩)
    ⟨⟨r1.1, ht⟩, r2, r3, r4, r5, r6, r7, r8, r9, r10⟩ (by show Holds' s.job _; rw [hj]; trivial)

theorem inv_wApply {cfg : Cfg} {s : St} {d : Disk} (h : Inv cfg s d) {s' : St} {d' : Disk}
    (hs : stepWriter cfg s d .wApply = some (s', d')) : Inv cfg s' d' := by
  -- both entry points lead to the same state
  have key : ∀ g, (s.w = .appended g ∧ g.sync = false ∨ s.w = .synced g) →
      Inv cfg { s with w := .applied g, mem := s.mem ++ [g] } d := by
    intro g hw
    have hw' : s.w = .appended g ∨ s.w = .synced g := hw.imp And.left id
    have hwne : s.w ≠ .idle := by rcases hw' with e | e <;> rw [e] <;> simp
    have hwseq : g.seq = s.seq + 1 ∧ g.recs ≠ [] ∧ g ∈ issuedGrps s ∧ ∀ h ∈ s.mem, h.fin ≤ s.seq + 1 := by
      have := (h.run (h.running_of_w hwne)).wseq
      unfold WSeqOK at this
      rcases hw' with e | e <;> rw [e] at this <;> exact this
    refine h.writer_book hwne rfl (Nat.le_refl _) (fun _ hx => hx) (fun x hx => ?_)
      (fun x => by rcases hw' with e | e <;> simp [e, inflight]) ?_
    · rw [must_eq] at hx ⊢
      rcases hw with ⟨e, hns⟩ | e
      · simp only [e, hns, Bool.false_eq_true, if_false, List.append_nil] at hx ⊢; exact hx
      · simp only [e] at hx ⊢; exact hx
    · show WSeqOK _
      unfold WSeqOK
      refine ⟨hwseq.1, hwseq.2.1, fun x hx => ?_⟩
      simp only [List.mem_append, List.mem_singleton] at hx
      rcases hx with hx | rfl
      · exact Or.inr (hwseq.2.2.2 x hx)
      · exact Or.inl rfl
  simp only [stepWriter] at hs
  split at hs
  · rename_i g hw
    split at hs
    · cases hs
    · rename_i hns
      simp only [Option.some.injEq, Prod.mk.injEq] at hs
      obtain ⟨rfl, rfl⟩ := hs
      exact key g (Or.inl ⟨hw, by simpa using hns⟩)
  · rename_i g hw
    simp only [Option.some.injEq, Prod.mk.injEq] at hs
    obtain ⟨rfl, rfl⟩ := hs
    exact key g (Or.inr hw)
  · cases hs

theorem inv_wPublish {cfg : Cfg} {s : St} {d : Disk} (h : Inv cfg s d) {s' : St} {d' : Disk}
    (hs : stepWriter cfg s d .wPublish = some (s', d')) : Inv cfg s' d' := by
  simp only [stepWriter] at hs
  split at hs
  · rename_i g hw
    simp only [Option.some.injEq, Prod.mk.injEq] at hs
    obtain ⟨rfl, rfl⟩ := hs
    have hwne : s.w ≠ .idle := by rw [hw]; simp
    have hwseq := (h.run (h.running_of_w hwne)).wseq
    unfold WSeqOK at hwseq
    rw [hw] at hwseq
    obtain ⟨hgs, hgr, hmem⟩ : g.seq = s.seq + 1 ∧ g.recs ≠ [] ∧ ∀ h ∈ s.mem, h = g ∨ h.fin ≤ s.seq + 1 := hwseq
    have hfin := Grp.seq_lt_fin hgr
    refine h.writer_book hwne rfl (by show s.seq ≤ g.fin - 1; omega) (fun _ hx => hx) (fun x hx => ?_)
      (fun x => by simp [hw, inflight]) ?_
    · rw [must_eq] at hx ⊢
      simp only [hw] at hx ⊢
      exact hx
    · refine WSeqOK.of_quiet rfl fun x hx => ?_
      show x.fin ≤ g.fin - 1 + 1
      rcases hmem x hx with rfl | h1 <;> omega
  · cases hs

theorem inv_wAck {cfg : Cfg} {s : St} {d : Disk} (h : Inv cfg s d) {s' : St} {d' : Disk}
    (hs : stepWriter cfg s d .wAck = some (s', d')) : Inv cfg s' d' := by
  simp only [stepWriter] at hs
  split at hs
  · rename_i g hw
    simp only [Option.some.injEq, Prod.mk.injEq] at hs
    obtain ⟨rfl, rfl⟩ := hs
    have hwne : s.w ≠ .idle := by rw [hw]; simp
    refine h.writer_book hwne rfl (Nat.le_refl _)
      (fun x hx => by show x ∈ List.map _ _; rw [issuedGrps_setStatus]; exact hx) (fun x hx => ?_) (fun x => by simp [hw, inflight])
      (.of_quiet rfl ((h.run (h.running_of_w hwne)).wseq.mem_of_quiet (by rw [hw]; rfl)))
    rw [must_eq] at hx ⊢
    simp only [hw, List.append_nil, List.mem_append] at hx ⊢
    rcases mem_ackedSync_setStatus hx with h1 | ⟨rfl, hsy⟩
    · exact Or.inl h1
    · exact Or.inr (by simp [hsy])
  · cases hs

/-- `journalWriter.Sync`: it may fail, with or without the file synced; a failure returns the error, nothing is
    applied, the sequence numbers are consumed -/
theorem inv_wSync_any (h : Inv cfg s d) {o : Outcome}
    (hcs' : o.failed = true → cfg.consumeSeqOnJournalError = true)
    (hs : stepWriter cfg s d (.wSync o) = some (s', d')) : Inv cfg s' d' := by
  -- plan: a failed `Sync` is `Inv.group_failed`, a successful one `Inv.writer`, with `f` the identity or `LogFile.sync`
  -- (both keep the records of the file); the disk clause is `DiskOK.mono` resp. `DiskOK.journal_sync`; after a
  -- successful `Sync` the group must survive and is covered
  simp only [stepWriter] at hs
  split at hs
  rotate_left
  · cases hs
  rename_i g hw
  split at hs
  rotate_left
  · cases hs
  rename_i hsy
  have hph : s.phase = .running := h.running_of_w (by rw [hw]; simp)
  have hrun := h.run hph
  have hb := h.bounds_of hph
  have htr := hrun.tr_none_of_w (by rw [hw]; simp)
  have hntw := h.not_trWindow_of_tr_none htr
  have hwseq := hrun.wseq
  unfold WSeqOK at hwseq
  rw [hw] at hwseq
  simp only at hwseq
  obtain ⟨hgs, hgr, hgi, hmem⟩ := hwseq
  have hfin := Grp.seq_lt_fin hgr
  have hjc := hrun.jcur
  obtain ⟨jf, hjf, hjh⟩ := holds_iff.1 hjc
  rw [hw] at hjh
  have hgj : g ∈ jf.all := hjh.1 g (by simp [inflight])
  by_cases hof : o.failed = true
  · -- the sync failed: the call returns the error
    have hcs := hcs' hof
    simp only [hof, if_true, hcs, Option.some.injEq, Prod.mk.injEq] at hs
    obtain ⟨rfl, rfl⟩ := hs
    have hmust : ∀ x ∈ must (s.wr .idle (setStatus g .failed s.issued) s.hi s.mem (g.fin - 1) true), x ∈ must s ∧ x ≠ g := by
      intro x hx
      rw [must_eq] at hx ⊢
      simp only [hw, List.append_nil] at hx ⊢
      exact mem_ackedSync_setStatus_failed hx
    have hiss : ∀ x ∈ issuedGrps s, x ∈ issuedGrps (s.wr .idle (setStatus g .failed s.issued) s.hi s.mem (g.fin - 1) true) := by
      intro x hx
      simp only [issuedGrps, issuedGrps_setStatus] at hx ⊢
      exact hx
    have hin : ∀ x ∈ inflight s.w, x = g := by rw [hw]; exact fun x hx => List.mem_singleton.1 hx
    cases o with
    | ok => cases hof
    | failNoEffect =>
      exact h.group_failed hph htr hgs hgr hin hmem rfl (disk_modify_id d _) (f := id) (fun _ => Or.inl rfl) hmust
        (h.disk.mono (fun x hx => (hmust x hx).1) hiss)
    | failEffect =>
      exact h.group_failed hph htr hgs hgr hin hmem rfl rfl (fun jf => Or.inl jf.sync_all) hmust
        (DiskOK.journal_sync h.disk s.jcur (fun x hx => Or.inl (hmust x hx).1) hiss)
  · have hok' := Outcome.eq_ok_of_not_failed hof
    subst hok'
    simp only [Outcome.failed, Bool.false_eq_true, if_false, Option.some.injEq, Prod.mk.injEq, Disk.exec,
      Disk.apply] at hs
    obtain ⟨rfl, rfl⟩ := hs
    have hmustg : ∀ x ∈ must { s with w := .synced g }, x ∈ must s ∨ x = g := by
      intro x hx
      rw [must_eq] at hx ⊢
      simp only [hw, hsy, if_true, List.mem_append, List.mem_singleton, List.append_nil] at hx ⊢
      exact hx
    refine h.writer hph htr rfl rfl (Nat.le_refl _) (fun hx => hx)
      (fun jf0 x hx => by rw [LogFile.sync_all] at hx; exact Or.inl hx)
      (fun x hx => (hmustg x hx).imp id fun e => by rw [e]; omega) ?_ ?_ ?_
    · intro jf' hjf'
      rw [hjf] at hjf'; cases hjf'
      exact hjh.mono (Nat.le_refl _) (fun x hx => by rw [LogFile.sync_all]; exact hjh.1 x hx) (fun x hx => by rw [LogFile.sync_all] at hx; exact Or.inl hx)
        (fun x hx => Or.inl hx)
        (fun x hx => (hmustg x hx).imp id fun k => Or.inl (by rw [k]; simp [inflight])) (fun hx => hx)
    · show WSeqOK _
      unfold WSeqOK
      exact ⟨hgs, hgr, hgi, hmem⟩
    · apply DiskOK.journal_sync h.disk s.jcur _ (fun x hx => hx)
      intro x hx
      rcases hmustg x hx with h1 | rfl
      · exact Or.inl h1
      · refine Or.inr ⟨⟨(s.jcur, jf), lookup_some_mem hjf, rfl, hgj⟩, ?_⟩
        intro mf hc k hk v hv
        have hbv := hb.all mf hc k hk v hv
        rw [seqHi_eq hntw] at hbv
        exact ⟨hbv.2.2 hph, by omega⟩

end GoLevel.Dur

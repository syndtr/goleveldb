import GoLevel.Proofs.PickInputs
/-!
# (H3) where `tableCompactionBuilder.run` cuts its output

`cutStep`/`cutRun`/`runTables` (`Model/Pick.lean`) transcribe the table rotation of `run`.  For a merged input with
non-decreasing user keys, on a compaction whose cursor satisfies `CursorInv`, the tables written are a `legalCut`
of the model builder's output (clause (L2) `cut` of `CompactionOK`), whatever `needFlush` and the grandparent
accounting of `compaction.shouldStopBefore` answer; that accounting comes first.
-/
namespace GoLevel.Pick


theorem gpScan_bounds (c : UCmp) (ikey : IKey) (seen : Bool) (gs : List Table) (gpi ob : Nat) :
    gpi ≤ (gpScan c ikey seen gs gpi ob).1 ∧ (gpScan c ikey seen gs gpi ob).1 ≤ gpi + gs.length := by
  induction gs generalizing gpi ob with
  | nil => simp [gpScan]
  | cons g gs ih =>
    rw [gpScan]
    split
    · simp
    · obtain ⟨h1, h2⟩ := ih (gpi + 1) (if seen then ob + g.size else ob)
      exact ⟨Nat.le_of_succ_le h1, by rw [List.length_cons]; omega⟩

theorem gpScan_unseen (c : UCmp) (ikey : IKey) (gs : List Table) (gpi ob : Nat) :
    (gpScan c ikey false gs gpi ob).2 = ob := by
  induction gs generalizing gpi with
  | nil => rfl
  | cons g gs ih =>
    rw [gpScan]
    split
    · rfl
    · exact ih (gpi + 1)

theorem shouldStopBefore_eq (c : UCmp) (cm : Compaction) (ikey : IKey) :
    cm.shouldStopBefore c ikey =
      (decide ((cm.gpAdvance c ikey).2 > cm.maxGPOverlaps),
        { cm with gpi := (cm.gpAdvance c ikey).1, seenKey := true,
                  gpOverlappedBytes :=
                    if (cm.gpAdvance c ikey).2 > cm.maxGPOverlaps then 0 else (cm.gpAdvance c ikey).2 }) := by
  unfold Compaction.shouldStopBefore
  split <;> simp [*]

theorem shouldStopBefore_gpi (c : UCmp) (cm : Compaction) (ikey : IKey) (h : cm.gpi ≤ cm.gp.length) :
    cm.gpi ≤ (cm.shouldStopBefore c ikey).2.gpi ∧ (cm.shouldStopBefore c ikey).2.gpi ≤ cm.gp.length ∧
    (cm.shouldStopBefore c ikey).2.seenKey = true := by
  have := gpScan_bounds c ikey cm.seenKey (cm.gp.drop cm.gpi) cm.gpi cm.gpOverlappedBytes
  rw [List.length_drop] at this
  have h2 : (cm.gpAdvance c ikey).1 ≤ cm.gp.length := by unfold Compaction.gpAdvance; omega
  rw [shouldStopBefore_eq]
  exact ⟨this.1, h2, rfl⟩

theorem shouldStopBefore_true (c : UCmp) (cm : Compaction) (ikey : IKey) :
    ((cm.shouldStopBefore c ikey).1 = true ↔ (cm.gpAdvance c ikey).2 > cm.maxGPOverlaps) ∧
    ((cm.shouldStopBefore c ikey).1 = true → (cm.shouldStopBefore c ikey).2.gpOverlappedBytes = 0) ∧
    (cm.shouldStopBefore c ikey).2.gpOverlappedBytes ≤ cm.maxGPOverlaps := by
  rw [shouldStopBefore_eq]
  refine ⟨decide_eq_true_iff, fun h => if_pos (decide_eq_true_iff.1 h), ?_⟩
  show (if _ then _ else _) ≤ _
  split <;> omega

theorem shouldStopBefore_first (c : UCmp) (cm : Compaction) (ikey : IKey) (hs : cm.seenKey = false)
    (hb : cm.gpOverlappedBytes = 0) : (cm.shouldStopBefore c ikey).1 = false := by
  rw [shouldStopBefore_eq]
  unfold Compaction.gpAdvance
  rw [hs, gpScan_unseen, hb]
  exact decide_eq_false (Nat.not_lt_zero cm.maxGPOverlaps)

theorem restore_save (cm : Compaction) :
    cm.save.restore.tPtrs = cm.tPtrs ∧ cm.save.restore.gpi = cm.gpi ∧ cm.save.restore.seenKey = cm.seenKey ∧
    cm.save.restore.gpOverlappedBytes = cm.gpOverlappedBytes := ⟨rfl, rfl, rfl, rfl⟩


def sT (n : Nat) (a b : UInt8) : Table := ⟨n, 10, [], mkIKey [a] 1 1, mkIKey [b] 1 1⟩

def sCm : Compaction :=
  { v := ⟨[]⟩, sourceLevel := 0, s0 := [], s1 := [], maxGPOverlaps := 15, gp := [sT 1 1 2, sT 2 4 5, sT 3 7 8],
    gpi := 0, seenKey := false, gpOverlappedBytes := 0, imin := mkIKey [0] 1 1, imax := mkIKey [9] 1 1,
    tPtrs := [], snapGPI := 0, snapSeenKey := false, snapGPOverlappedBytes := 0, snapTPtrs := [] }

/-- keys `[0]`, `[3]`, `[6]`, `[9]`: passing the first grandparent accumulates 10 (no cut), passing the second
makes 20 > 15: cut before `[6]`, counter back to 0; passing the third accumulates 10 again -/
example :
    let r1 := sCm.shouldStopBefore bytewise (mkIKey [0] 5 1)
    let r2 := r1.2.shouldStopBefore bytewise (mkIKey [3] 5 1)
    let r3 := r2.2.shouldStopBefore bytewise (mkIKey [6] 5 1)
    let r4 := r3.2.shouldStopBefore bytewise (mkIKey [9] 5 1)
    (r1.1, r2.1, r3.1, r4.1) = (false, false, true, false) ∧
    (r1.2.gpi, r2.2.gpi, r3.2.gpi, r4.2.gpi) = (0, 1, 2, 3) ∧
    (r2.2.gpOverlappedBytes, r3.2.gpOverlappedBytes, r4.2.gpOverlappedBytes) = (10, 0, 10) := by decide +kernel


def rotateB (c : UCmp) (needFlush : List Entry → Bool) (s : CutState) (e : Entry) : Bool :=
  (!(match s.st.lastKey with | some lk => decide (c.cmp lk e.ukey = .eq) | none => false)) && !s.tw.isEmpty &&
    ((s.cm.shouldStopBefore c e.key).1 || needFlush s.tw)

def cm1Of (c : UCmp) (needFlush : List Entry → Bool) (s : CutState) (e : Entry) : Compaction :=
  if rotateB c needFlush s e then (s.cm.shouldStopBefore c e.key).2.save else (s.cm.shouldStopBefore c e.key).2

theorem cutStep_eq (c : UCmp) (minSeq : Nat) (nf : List Entry → Bool) (s : CutState) (e : Entry) :
    cutStep c minSeq nf s e =
      { cm := (bstepC c minSeq (cm1Of c nf s e) s.st e).2.2, st := (bstepC c minSeq (cm1Of c nf s e) s.st e).1,
        tw := if (bstepC c minSeq (cm1Of c nf s e) s.st e).2.1 then (if rotateB c nf s e then [] else s.tw) ++ [e]
              else (if rotateB c nf s e then [] else s.tw),
        done := if rotateB c nf s e then s.done ++ [s.tw] else s.done } := rfl

/-- neither `shouldStopBefore` nor `save` touches the version, the source level or the cursor -/
theorem cm1Of_fields (c : UCmp) (nf : List Entry → Bool) (s : CutState) (e : Entry) :
    (cm1Of c nf s e).v = s.cm.v ∧ (cm1Of c nf s e).sourceLevel = s.cm.sourceLevel ∧
    (cm1Of c nf s e).tPtrs = s.cm.tPtrs := by
  simp only [cm1Of, apply_ite Compaction.v, apply_ite Compaction.sourceLevel, apply_ite Compaction.tPtrs,
    Compaction.save, ite_self]
  rw [shouldStopBefore_eq]
  exact ⟨rfl, rfl, rfl⟩

structure CutInv (c : UCmp) (v : Version) (src : Nat) (s : CutState) (es : List Entry) : Prop where
  v_eq : s.cm.v = v
  src_eq : s.cm.sourceLevel = src
  cursor : ∀ e ∈ es, CursorInv c v src s.cm.tPtrs e.ukey
  sorted : es.Pairwise (fun a b => c.le a.ukey b.ukey)
  fresh : s.st.lastKey = none → s.tw = [] ∧ s.done = []
  tw_le : ∀ lk, s.st.lastKey = some lk → ∀ x ∈ s.tw, c.le x.ukey lk
  done_lt : ∀ lk, s.st.lastKey = some lk → ∀ x ∈ s.done.flatten, c.lt x.ukey lk
  next_ge : ∀ lk, s.st.lastKey = some lk → ∀ e ∈ es, c.le lk e.ukey
  done_ne : ∀ p ∈ s.done, p ≠ []
  done_pw : s.done.Pairwise (Sep c)
  done_tw : ∀ a ∈ s.done, Sep c a s.tw

theorem sep_snoc {c : UCmp} {done : List (List Entry)} {tw : List Entry} (hne : ∀ p ∈ done, p ≠ [])
    (hpw : done.Pairwise (Sep c)) (hs : ∀ a ∈ done, Sep c a tw) (htw : tw ≠ []) :
    (∀ p ∈ done ++ [tw], p ≠ []) ∧ (done ++ [tw]).Pairwise (Sep c) := by
  refine ⟨fun p hp => ?_, List.pairwise_append.2 ⟨hpw, List.pairwise_singleton _ _, fun a ha b hb => ?_⟩⟩
  · rcases List.mem_append.1 hp with hp | hp
    · exact hne p hp
    · rw [List.mem_singleton.1 hp]; exact htw
  · rw [List.mem_singleton.1 hb]; exact hs a ha

section
variable {c : UCmp} (hl : LawfulUCmp c)
include hl

/-- the state `(tw0, dn)` between the rotation decision and the drop rules -/
theorem mid_facts (v : Version) (src : Nat) (nf : List Entry → Bool) (s : CutState) (e : Entry)
    (es : List Entry) (h : CutInv c v src s (e :: es)) (tw0 : List Entry) (dn : List (List Entry))
    (htw : (if rotateB c nf s e then [] else s.tw) = tw0)
    (hdn : (if rotateB c nf s e then s.done ++ [s.tw] else s.done) = dn) :
    (∀ x ∈ tw0, c.le x.ukey e.ukey) ∧ (∀ x ∈ dn.flatten, c.lt x.ukey e.ukey) ∧ (∀ p ∈ dn, p ≠ []) ∧
    dn.Pairwise (Sep c) ∧ (∀ a ∈ dn, Sep c a tw0) ∧ dn.flatten ++ tw0 = s.done.flatten ++ s.tw := by
  subst htw hdn
  by_cases hR : rotateB c nf s e = true
  · -- a rotation happens only with an open, non-empty table and at a user key strictly above the last one
    have hR' := hR
    unfold rotateB at hR'
    simp only [Bool.and_eq_true, Bool.not_eq_true', List.isEmpty_eq_false_iff] at hR'
    obtain ⟨⟨hfirst, htw⟩, _⟩ := hR'
    cases hk : s.st.lastKey with
    | none => exact absurd (h.fresh hk).1 htw
    | some lk =>
      rw [hk] at hfirst
      simp only [decide_eq_false_iff_not] at hfirst
      have hlt : c.lt lk e.ukey := ((hl.ord.le_iff lk e.ukey).1 (h.next_ge lk hk e (by simp))).resolve_right
        fun heq => hfirst (by rw [heq]; exact hl.refl _)
      obtain ⟨hne, hpw⟩ := sep_snoc h.done_ne h.done_pw h.done_tw htw
      simp only [hR, if_true]
      refine ⟨fun x hx => (by cases hx), ?_, hne, hpw, fun a _ x _ y hy => (by cases hy), (by simp)⟩
      intro x hx
      rw [List.flatten_append, List.mem_append] at hx
      rcases hx with hx | hx
      · exact hl.trans _ _ _ (h.done_lt lk hk x hx) hlt
      · simp only [List.flatten_cons, List.flatten_nil, List.append_nil] at hx
        exact hl.ord.lt_of_le_of_lt (h.tw_le lk hk x hx) hlt
  · rw [Bool.not_eq_true] at hR
    simp only [hR, Bool.false_eq_true, if_false]
    cases hk : s.st.lastKey with
    | none =>
      obtain ⟨h1, h2⟩ := h.fresh hk
      rw [h1, h2]
      exact ⟨fun x hx => (by cases hx), fun x hx => (by simp at hx), fun p hp => (by cases hp), List.Pairwise.nil,
        fun a ha => (by cases ha), trivial⟩
    | some lk =>
      have hle := h.next_ge lk hk e (by simp)
      exact ⟨fun x hx => hl.ord.le_trans (h.tw_le lk hk x hx) hle,
        fun x hx => hl.ord.lt_of_lt_of_le (h.done_lt lk hk x hx) hle, h.done_ne, h.done_pw, h.done_tw, trivial⟩

theorem cutStep_inv (v : Version) (hw : v.WFi c) (src : Nat) (minSeq : Nat) (nf : List Entry → Bool)
    (s : CutState) (e : Entry) (es : List Entry) (h : CutInv c v src s (e :: es)) :
    CutInv c v src (cutStep c minSeq nf s e) es ∧
    (cutStep c minSeq nf s e).st = (bstep c minSeq (GoLevel.baseLevelForKey c v src) s.st e).1 ∧
    (cutStep c minSeq nf s e).done.flatten ++ (cutStep c minSeq nf s e).tw =
      (s.done.flatten ++ s.tw) ++
        (if (bstep c minSeq (GoLevel.baseLevelForKey c v src) s.st e).2 then [e] else []) := by
  obtain ⟨f1, f2, f3⟩ := cm1Of_fields c nf s e
  obtain ⟨b1, b2, bv, bs, b3⟩ := bstepC_spec hl minSeq (cm1Of c nf s e) (f1.trans h.v_eq) (f2.trans h.src_eq) hw s.st e
    (f3 ▸ h.cursor e (by simp))
  obtain ⟨hhead, htail⟩ := List.pairwise_cons.1 h.sorted
  rw [cutStep_eq, b2]
  generalize htw0 : (if rotateB c nf s e then [] else s.tw) = tw0
  generalize hdn : (if rotateB c nf s e then s.done ++ [s.tw] else s.done) = dn
  obtain ⟨m1, m2, m3, m4, m5, m6⟩ := mid_facts hl v src nf s e es h tw0 dn htw0 hdn
  -- the last key is now this entry's, whatever the drop rules decide
  have hst : (bstepC c minSeq (cm1Of c nf s e) s.st e).1.lastKey = some e.ukey := by rw [b1, bstep_eq]
  have htw' : ∀ y ∈ (if (bstep c minSeq (GoLevel.baseLevelForKey c v src) s.st e).2 then tw0 ++ [e] else tw0),
      y ∈ tw0 ∨ y = e := by
    intro y hy
    split at hy
    · exact (List.mem_append.1 hy).imp id List.mem_singleton.1
    · exact .inl hy
  refine ⟨⟨bv, bs, fun e' he' => b3.mono hl (hhead e' he'), htail, ?_, ?_, ?_, ?_, m3, m4, ?_⟩, b1, ?_⟩
  · exact fun hn => nomatch hst.symm.trans hn
  · intro lk hk x hx
    cases Option.some.inj (hst.symm.trans hk)
    rcases htw' x hx with hx | rfl
    · exact m1 x hx
    · exact hl.ord.le_refl _
  · intro lk hk x hx
    cases Option.some.inj (hst.symm.trans hk)
    exact m2 x hx
  · intro lk hk e' he'
    cases Option.some.inj (hst.symm.trans hk)
    exact hhead e' he'
  · intro a ha x hx y hy
    rcases htw' y hy with hy | rfl
    · exact m5 a ha x hx y hy
    · exact m2 x (List.mem_flatten.2 ⟨a, ha, hx⟩)
  · show dn.flatten ++ _ = _
    split
    · rw [← List.append_assoc, m6]
    · rw [m6, List.append_nil]

theorem cutRun_inv (v : Version) (hw : v.WFi c) (src : Nat) (minSeq : Nat) (nf : List Entry → Bool)
    (es : List Entry) (s : CutState) (h : CutInv c v src s es) :
    CutInv c v src (cutRun c minSeq nf s es) [] ∧
    (cutRun c minSeq nf s es).done.flatten ++ (cutRun c minSeq nf s es).tw =
      (s.done.flatten ++ s.tw) ++ build c minSeq (GoLevel.baseLevelForKey c v src) s.st es := by
  induction es generalizing s with
  | nil => exact ⟨h, by simp [cutRun, build]⟩
  | cons e es ih =>
    obtain ⟨h1, h2, h3⟩ := cutStep_inv hl v hw src minSeq nf s e es h
    obtain ⟨i1, i2⟩ := ih (cutStep c minSeq nf s e) h1
    rw [cutRun]
    refine ⟨i1, ?_⟩
    rw [i2, h3, h2, build]
    split
    · simp
    · simp

end


theorem legalCut_of_sep (c : UCmp) (pieces : List (List Entry)) (hne : ∀ p ∈ pieces, p ≠ [])
    (hp : pieces.Pairwise (Sep c)) : legalCut c pieces.flatten pieces = true := by
  unfold legalCut
  simp only [decide_true, Bool.true_and, Bool.and_eq_true, List.all_eq_true]
  refine ⟨fun p hp' => by simpa [List.isEmpty_iff] using hne p hp', ?_⟩
  induction pieces with
  | nil => exact fun _ h => nomatch h
  | cons a rest ih =>
    cases rest with
    | nil => exact fun _ h => nomatch h
    | cons b rest' =>
      obtain ⟨ha, hrest⟩ := List.pairwise_cons.1 hp
      intro q hq
      rcases List.mem_cons.1 hq with rfl | hq
      · -- the last entry of `a` and the first of `b` are separated
        cases hx : a.getLast? with
        | none => exact absurd (List.getLast?_eq_none_iff.1 hx) (hne a (List.mem_cons_self ..))
        | some x =>
          cases hy : b.head? with
          | none => exact absurd (List.head?_eq_none_iff.1 hy) (hne b (.tail _ (List.mem_cons_self ..)))
          | some y =>
            have : c.cmp x.ukey y.ukey = .lt :=
              ha b (List.mem_cons_self ..) x (List.mem_of_getLast? hx) y (List.mem_of_head? hy)
            simp only [this]
            rfl
      · exact ih (fun p h => hne p (.tail _ h)) hrest q hq

section
variable {c : UCmp} (hl : LawfulUCmp c)
include hl

/-- **(H3)**: started with nothing written and a cursor satisfying `CursorInv` for the keys to come, the tables
`run` writes for an input with non-decreasing user keys are a legal cut of the model builder's output -/
theorem runCut_legal (v : Version) (hw : v.WFi c) (src : Nat) (minSeq : Nat) (nf : List Entry → Bool)
    (cm : Compaction) (hv : cm.v = v) (hs : cm.sourceLevel = src) (es : List Entry)
    (hsorted : es.Pairwise (fun a b => c.le a.ukey b.ukey))
    (hcur : ∀ e ∈ es, CursorInv c v src cm.tPtrs e.ukey) :
    legalCut c (build c minSeq (GoLevel.baseLevelForKey c v src) {} es)
      (cutRun c minSeq nf ⟨cm, {}, [], []⟩ es).pieces = true := by
  have h0 : CutInv c v src ⟨cm, {}, [], []⟩ es :=
    ⟨hv, hs, hcur, hsorted, fun _ => ⟨rfl, rfl⟩, fun lk hk => (by cases hk), fun lk hk => (by cases hk),
      fun lk hk => (by cases hk), fun p hp => (by cases hp), List.Pairwise.nil, fun a ha => (by cases ha)⟩
  obtain ⟨hinv, hflat⟩ := cutRun_inv hl v hw src minSeq nf es _ h0
  simp only [List.flatten_nil, List.nil_append] at hflat
  rw [← hflat]
  generalize cutRun c minSeq nf ⟨cm, {}, [], []⟩ es = f at hinv
  unfold CutState.pieces
  cases htw : f.tw with
  | nil =>
    rw [List.append_nil]
    exact legalCut_of_sep c f.done hinv.done_ne hinv.done_pw
  | cons x tw =>
    obtain ⟨hne, hpw⟩ := sep_snoc hinv.done_ne hinv.done_pw hinv.done_tw (htw ▸ List.cons_ne_nil x tw)
    rw [htw] at hne hpw
    have := legalCut_of_sep c _ hne hpw
    rwa [List.flatten_append, List.flatten_singleton] at this

/-- … for a compaction fresh from `newCompaction` (`run` starts with `b.c.restore()`, which gives back the
zero cursor `newCompaction` saved) -/
theorem runTables_legal (o : Limits) (v : Version) (hw : v.WFi c) (src : Nat) (t0 : List Table)
    (cm : Compaction) (hcm : newCompaction c o v src t0 = some cm) (minSeq : Nat) (nf : List Entry → Bool)
    (es : List Entry) (hsorted : es.Pairwise (fun a b => c.le a.ukey b.ukey)) :
    legalCut c (build c minSeq (GoLevel.baseLevelForKey c v src) {} es) (runTables c minSeq nf cm es) = true := by
  obtain ⟨_, hv, hs, _, hr⟩ := newCompaction_eq hcm
  unfold runTables
  apply runCut_legal hl v hw src minSeq nf cm.restore hv hs es hsorted
  intro x _
  rw [hr]
  exact cursorInv_init c v src x.ukey

end

end GoLevel.Pick

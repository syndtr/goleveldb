import GoLevel.Proofs.ConcTrace
import GoLevel.Proofs.Snaps
import GoLevel.Model.ConcSnaps
/-!
# The registrations of the interleaving model and the real snapshot list (`db.snapsList`)

Along every execution the list driven by `snapsStep` never panics and represents exactly the *live* registrations
(client snapshots and `DB.Get`/iterator readers); its `minSeq` is `Conc.minSeq` whenever the `snap.mu` protocol
(`SnapHeld`) holds.
-/
namespace GoLevel.Conc
open GoLevel.Snaps

variable {c : UCmp}

/-- ghost: does this registration hold a reference in `db.snapsList`? -/
def ownerLive (σ : State) : Owner → Bool
  | .user _ => true
  | .reader i =>
    match σ.readers[i]? with
    | some r => r.live
    | none => false

def liveOf (f : Owner → Bool) (L : List (Owner × Nat)) : List Nat := (L.filter (fun p => f p.1)).map (·.2)

/-- ghost: the acquired-and-not-released sequence numbers (with multiplicity) -/
def liveSeqs (σ : State) : List Nat := liveOf (ownerLive σ) σ.snaps

theorem liveOf_congr {f g : Owner → Bool} {L : List (Owner × Nat)} (h : ∀ p ∈ L, f p.1 = g p.1) :
    liveOf f L = liveOf g L := by
  unfold liveOf
  rw [List.filter_congr h]

theorem liveOf_append (f : Owner → Bool) (L M : List (Owner × Nat)) :
    liveOf f (L ++ M) = liveOf f L ++ liveOf f M := by simp [liveOf]

theorem liveOf_cons (f : Owner → Bool) (o : Owner) (s : Nat) (L : List (Owner × Nat)) :
    liveOf f ((o, s) :: L) = (if f o = true then [s] else []) ++ liveOf f L := by
  unfold liveOf; rw [List.filter_cons]; split <;> rfl

theorem mem_liveOf {f : Owner → Bool} {L : List (Owner × Nat)} {s : Nat} :
    s ∈ liveOf f L ↔ ∃ o, (o, s) ∈ L ∧ f o = true := by simp [liveOf]

def remove (o : Owner) (L : List (Owner × Nat)) : List (Owner × Nat) := L.filter (fun p => decide (p.1 ≠ o))

theorem remove_of_not_mem {o : Owner} {L : List (Owner × Nat)} (h : o ∉ L.map (·.1)) : remove o L = L :=
  List.filter_eq_self.2 fun p hp => decide_eq_true fun he => h (List.mem_map.2 ⟨p, hp, he⟩)

theorem liveOf_remove_perm (f : Owner → Bool) (L : List (Owner × Nat)) (hnd : (L.map (·.1)).Nodup)
    (o : Owner) (s : Nat) (hm : (o, s) ∈ L) :
    (liveOf f L).Perm ((if f o = true then [s] else []) ++ liveOf f (remove o L)) := by
  -- `(o, s)` is the only registration of `o`: removing `o` removes exactly it
  obtain ⟨L1, L2, rfl⟩ := List.append_of_mem hm
  rw [List.map_append, List.map_cons, List.nodup_append, List.nodup_cons] at hnd
  have h1 : remove o L1 = L1 := remove_of_not_mem fun h => hnd.2.2 o h o List.mem_cons_self rfl
  have h2 : remove o L2 = L2 := remove_of_not_mem hnd.2.1.1
  have hr : remove o (L1 ++ (o, s) :: L2) = L1 ++ L2 := by
    unfold remove at h1 h2 ⊢
    rw [List.filter_append, List.filter_cons, h1, h2]
    simp
  rw [hr, liveOf_append, liveOf_append, liveOf_cons, ← List.append_assoc, ← List.append_assoc]
  exact List.perm_append_comm.append_right _

theorem lookup_none_not_mem (L : List (Owner × Nat)) (o : Owner) (h : L.lookup o = none) : o ∉ L.map (·.1) := by
  intro hm
  obtain ⟨p, hp, rfl⟩ := List.mem_map.1 hm
  simpa using List.lookup_eq_none_iff.1 h p hp

theorem rep_of_perm {l : SList} {live live' : List Nat} (h : Rep l live) (hp : live'.Perm live) : Rep l live' :=
  ⟨h.1, fun s => by rw [h.2, hp.count_eq]⟩

structure SnapInv (σ : State) : Prop where
  nodup : (σ.snaps.map (·.1)).Nodup
  rdr : ∀ i s, (Owner.reader i, s) ∈ σ.snaps → ∃ r, σ.readers[i]? = some r ∧ r.seq? = some s
  usr : ∀ id s, (Owner.user id, s) ∈ σ.snaps → id < σ.nextId

theorem old_keep {σ σ' : State} (hs : SnapInv σ) (sm : StepSum c σ σ') {p : Owner × Nat} (hp : p ∈ σ.snaps) :
    ownerLive σ' p.1 = ownerLive σ p.1 ∧
    ∀ i, p.1 = .reader i → ∃ r, σ'.readers[i]? = some r ∧ r.seq? = some p.2 := by
  obtain ⟨o, s⟩ := p
  cases o with
  | user id => exact ⟨rfl, fun i hh => by cases hh⟩
  | reader i =>
    obtain ⟨r, h1, h2⟩ := hs.rdr i s hp
    obtain ⟨r', h3, ch⟩ := sm.rdOld i r h1
    refine ⟨?_, fun j hh => by cases hh; exact ⟨r', h3, (ch.seqKeep s h2).1⟩⟩
    simp only [ownerLive, h1, h3]
    exact (ch.seqKeep s h2).2

theorem liveSeqs_le {σ : State} (hb : Basic σ) : ∀ s ∈ liveSeqs σ, s ≤ σ.pub := by
  intro s hs
  obtain ⟨o, h1, _⟩ := mem_liveOf.1 hs
  exact hb.snapsLe (o, s) h1

abbrev RegOk (σ : State) (p : Owner × Nat) : Prop :=
  match p.1 with
  | .reader i => ∃ r, σ.readers[i]? = some r ∧ r.seq? = some p.2
  | .user id => id < σ.nextId

theorem snapInv_step {σ σ' : State} (hs : SnapInv σ) (sm : StepSum c σ σ') (hn : σ.nextId ≤ σ'.nextId)
    (nd : (σ'.snaps.map (·.1)).Nodup) (hsub : ∀ p ∈ σ'.snaps, p ∈ σ.snaps ∨ RegOk σ' p) : SnapInv σ' := by
  refine ⟨nd, fun i s hp => ?_, fun id s hp => ?_⟩
  · rcases hsub _ hp with h | h
    · exact (old_keep hs sm h).2 i rfl
    · exact h
  · rcases hsub _ hp with h | h
    · exact Nat.lt_of_lt_of_le (hs.usr id s h) hn
    · exact h

theorem liveSeqs_old {σ σ' : State} (hs : SnapInv σ) (sm : StepSum c σ σ') (hsub : ∀ p ∈ σ'.snaps, p ∈ σ.snaps) :
    liveSeqs σ' = liveOf (ownerLive σ) σ'.snaps :=
  liveOf_congr fun p hp => (old_keep hs sm (hsub p hp)).1

theorem joint_same {σ σ' : State} {l : SList} (hs : SnapInv σ) (sm : StepSum c σ σ') (hn : σ.nextId ≤ σ'.nextId)
    (hr : Rep l (liveSeqs σ)) (hsame : σ'.snaps = σ.snaps) : Rep l (liveSeqs σ') ∧ SnapInv σ' := by
  have hsub : ∀ p ∈ σ'.snaps, p ∈ σ.snaps := fun p hp => hsame ▸ hp
  constructor
  · rw [liveSeqs_old hs sm hsub, hsame]; exact hr
  · exact snapInv_step hs sm hn (hsame ▸ hs.nodup) fun p hp => Or.inl (hsub p hp)

theorem joint_add {σ σ' : State} (hs : SnapInv σ) (sm : StepSum c σ σ') (hn : σ.nextId ≤ σ'.nextId) (o : Owner)
    (s : Nat) (hsn : σ'.snaps = σ.snaps ++ [(o, s)]) (fresh : ∀ s', (o, s') ∉ σ.snaps)
    (new : RegOk σ' (o, s)) :
    SnapInv σ' ∧ liveSeqs σ' = liveSeqs σ ++ (if ownerLive σ' o = true then [s] else []) := by
  constructor
  · refine snapInv_step hs sm hn ?_ fun p hp => ?_
    · rw [hsn, List.map_append, List.nodup_append]
      refine ⟨hs.nodup, List.nodup_cons.2 ⟨List.not_mem_nil, List.nodup_nil⟩, fun a ha b hb heq => ?_⟩
      obtain ⟨p, hp, rfl⟩ := List.mem_map.1 ha
      have hb : b = o := List.mem_singleton.1 hb
      exact fresh p.2 (by rw [← hb, ← heq]; exact hp)
    · rw [hsn] at hp
      rcases List.mem_append.1 hp with hp | hp
      · exact Or.inl hp
      · cases List.mem_singleton.1 hp; exact Or.inr new
  · unfold liveSeqs
    rw [hsn, liveOf_append, liveOf_congr fun p hp => (old_keep hs sm hp).1, liveOf_cons]
    exact congrArg _ (List.append_nil _)

theorem joint_addReader {σ σ' : State} (hs : SnapInv σ) (sm : StepSum c σ σ') (hn : σ.nextId ≤ σ'.nextId)
    {i s : Nat} {r r' : Reader} (hsn : σ'.snaps = σ.snaps ++ [(.reader i, s)]) (g1 : σ.readers[i]? = some r)
    (g2 : r.seq? = none) (g3 : σ'.readers[i]? = some r') (g4 : r'.seq? = some s) :
    SnapInv σ' ∧ liveSeqs σ' = liveSeqs σ ++ (if r'.live = true then [s] else []) := by
  have := joint_add hs sm hn _ s hsn (fun s' hp => by
    obtain ⟨r0, q1, q2⟩ := hs.rdr i s' hp
    rw [g1] at q1; cases q1
    rw [g2] at q2; cases q2) ⟨r', g3, g4⟩
  simpa only [ownerLive, g3] using this

/-- removing the registration `(o, s)`: if it is live the list gives the reference back, otherwise nothing happens -/
theorem joint_remove {σ σ' : State} {l : SList} (hs : SnapInv σ) (sm : StepSum c σ σ') (hn : σ.nextId ≤ σ'.nextId)
    (o : Owner) (s : Nat) (hsn : σ'.snaps = remove o σ.snaps) (hm : (o, s) ∈ σ.snaps) (hr : Rep l (liveSeqs σ)) :
    ∃ l', (if ownerLive σ o = true then release l s else some l) = some l' ∧ Rep l' (liveSeqs σ') ∧ SnapInv σ' := by
  have hsub : ∀ p ∈ σ'.snaps, p ∈ σ.snaps := fun p hp => (List.mem_filter.1 (hsn ▸ hp)).1
  have hinv := snapInv_step hs sm hn (hsn ▸ hs.nodup.sublist (List.Sublist.map _ List.filter_sublist))
    fun p hp => Or.inl (hsub p hp)
  have hp : (liveSeqs σ).Perm _ := liveOf_remove_perm (ownerLive σ) σ.snaps hs.nodup o s hm
  rw [liveSeqs_old hs sm hsub, hsn]
  by_cases hl : ownerLive σ o = true
  · rw [if_pos hl, List.singleton_append] at hp
    obtain ⟨l', h1, h2⟩ := rep_release hr s (hp.mem_iff.2 List.mem_cons_self)
    have he := hp.erase s
    rw [List.erase_cons_head] at he
    exact ⟨l', by rw [if_pos hl, h1], rep_of_perm h2 he.symm, hinv⟩
  · rw [if_neg hl, List.nil_append] at hp
    exact ⟨l, if_neg hl, rep_of_perm hr hp.symm, hinv⟩

/-- Five actions touch the registrations; for the others the list stays as it is (`keep`). -/
theorem joint_step {σ σ' : State} {a : Action} {l : SList} (hi : Inv c σ) (hs : SnapInv σ)
    (hr : Rep l (liveSeqs σ)) (h : Step Cfg.real c σ a σ') :
    ∃ l', snapsStep σ l a = some l' ∧ Rep l' (liveSeqs σ') ∧ SnapInv σ' := by
  have sm := stepSum hi.basic h
  replace h := h.1
  have keep : ∀ {τ : State}, σ' = τ → τ.nextId = σ.nextId → τ.snaps = σ.snaps → snapsStep σ l a = some l →
      ∃ l', snapsStep σ l a = some l' ∧ Rep l' (liveSeqs σ') ∧ SnapInv σ' :=
    fun e hn hsame hl => by subst e; exact ⟨l, hl, joint_same hs sm (Nat.le_of_eq hn.symm) hr hsame⟩
  cases a with
  | writeInsert es => exact keep (doWriteInsert_some h).2.2 rfl rfl rfl
  | publish => exact keep (doPublish_some h).2 rfl rfl rfl
  | seqSkip n => exact keep (doSeqSkip_some h).2.2 rfl rfl rfl
  | rotate =>
    obtain ⟨_, _, _, rfl⟩ := doRotate_some h
    exact ⟨l, rfl, joint_same hs sm (Nat.le_succ _) hr rfl⟩
  | flushInstall => obtain ⟨f, _, _, e⟩ := doFlushInstall_some h; exact keep e rfl rfl rfl
  | flushDrop => exact keep (doFlushDrop_some h).2.2 rfl rfl rfl
  | compStart => exact keep (doCompStart_some h).2 rfl rfl rfl
  | compCommit nt => obtain ⟨m, _, _, e⟩ := doCompCommit_some h; exact keep e rfl rfl rfl
  | snapAcquire =>
    cases doSnapAcquire_some h
    obtain ⟨l', g1, g2⟩ := rep_acquire hr σ.pub (liveSeqs_le hi.basic)
    obtain ⟨inv, hl⟩ := joint_add hs sm (Nat.le_succ _) _ _ rfl (fun s' hp => Nat.lt_irrefl _ (hs.usr _ _ hp))
      (Nat.lt_succ_self σ.nextId)
    exact ⟨l', g1, hl ▸ g2, inv⟩
  | snapRelease id =>
    cases doSnapRelease_some h
    show ∃ l', (match σ.snaps.lookup (.user id) with | some s => release l s | none => some l) = some l' ∧ _
    cases hl : σ.snaps.lookup (.user id) with
    | none => exact ⟨l, rfl, joint_same hs sm (Nat.le_refl _) hr (remove_of_not_mem (lookup_none_not_mem _ _ hl))⟩
    | some s => exact joint_remove hs sm (Nat.le_refl _) _ s rfl (mem_of_lookup hl) hr
  | rNew => exact keep (doRNew_some h) rfl rfl rfl
  | rSeq i =>
    obtain ⟨r, g1, g2, rfl⟩ := doRSeq_some h
    obtain ⟨l', k1, k2⟩ := rep_acquire hr σ.pub (liveSeqs_le hi.basic)
    obtain ⟨inv, hl⟩ := joint_addReader hs sm (Nat.le_refl _) rfl g1 g2 (List.getElem?_set_self (getElem?_lt g1)) rfl
    exact ⟨l', k1, hl ▸ k2, inv⟩
  | rSeqSnap i id =>
    obtain ⟨r, s, g1, _, g3, rfl⟩ := doRSeqSnap_some h
    obtain ⟨inv, hl⟩ := joint_addReader hs sm (Nat.le_refl _) rfl g1 g3 (List.getElem?_set_self (getElem?_lt g1)) rfl
    exact ⟨l, rfl, (hl.trans (List.append_nil _)) ▸ hr, inv⟩
  | rMems i => obtain ⟨r, _, _, _, _, e⟩ := doRMems_some h; exact keep e rfl rfl rfl
  | rVer i => obtain ⟨r, _, _, _, _, e⟩ := doRVer_some h; exact keep e rfl rfl rfl
  | rLookup i k => obtain ⟨r, s, mf, v, _, _, _, _, e⟩ := doRLookup_some h; exact keep e rfl rfl rfl
  | rRelease i =>
    -- a registered reader has its registration; it holds a reference iff it is live
    obtain ⟨r, g1, g2, _, _, e⟩ := doRRelease_some h
    obtain ⟨s, q1, q2⟩ := (hi.readers i r g1).regSnap g2
    simp only [snapsStep, g1, q1]
    subst e
    have jr := joint_remove hs sm (Nat.le_refl _) _ s rfl q2 hr
    simp only [ownerLive, g1] at jr
    exact jr
  | trOpen => exact keep (doTrOpen_some h).2.2.2.2 rfl rfl rfl
  | trPut e => obtain ⟨t, _, _, _, e⟩ := doTrPut_some h; exact keep e rfl rfl rfl
  | trGet k => obtain ⟨t, _, _, e⟩ := doTrGet_some h; exact keep e rfl rfl rfl
  | trInstall => obtain ⟨t, _, _, e⟩ := doTrInstall_some h; exact keep e rfl rfl rfl
  | trPublish => obtain ⟨t, _, _, e⟩ := doTrPublish_some h; exact keep e rfl rfl rfl
  | trDiscard => obtain ⟨t, _, _, e⟩ := doTrDiscard_some h; exact keep e rfl rfl rfl

inductive Joint (c : UCmp) : State → SList → Prop
  | init : Joint c Conc.init []
  | step {σ σ' : State} {l l' : SList} (a : Action) : Joint c σ l → Step Cfg.real c σ a σ' →
      snapsStep σ l a = some l' → Joint c σ' l'

theorem Joint.reachable {σ : State} {l : SList} (h : Joint c σ l) : Reachable Cfg.real c σ := by
  induction h with
  | init => exact Steps.refl _
  | step a _ hs _ ih => exact Steps.tail a ih hs

theorem Joint.inv {σ : State} {l : SList} (h : Joint c σ l) : SnapInv σ ∧ Rep l (liveSeqs σ) := by
  induction h with
  | init => exact ⟨⟨List.nodup_nil, fun _ _ h => (nomatch h), fun _ _ h => (nomatch h)⟩, rep_nil⟩
  | step a hj hs hl ih =>
    obtain ⟨l2, g1, g2, g3⟩ := joint_step (inv_reachable hj.reachable) ih.1 ih.2 hs
    rw [g1] at hl; cases hl
    exact ⟨g3, g2⟩

theorem Joint.next {σ σ' : State} {l : SList} {a : Action} (hj : Joint c σ l) (hs : Step Cfg.real c σ a σ') :
    ∃ l', snapsStep σ l a = some l' ∧ Joint c σ' l' := by
  obtain ⟨l', g1, _, _⟩ := joint_step (inv_reachable hj.reachable) hj.inv.1 hj.inv.2 hs
  exact ⟨l', g1, .step a hj hs g1⟩

theorem joint_of_reachable {σ : State} (h : Reachable Cfg.real c σ) : ∃ l, Joint c σ l := by
  induction h with
  | refl => exact ⟨[], Joint.init⟩
  | tail a hs hstep ih =>
    obtain ⟨l, hj⟩ := ih
    exact (hj.next hstep).imp fun _ h => h.2

theorem joint_of_runJ : ∀ (as : List Action) {σ σ' : State} {l l' : SList}, as.all Action.plain = true →
    Joint c σ l → runJ Cfg.real c σ l as = some (σ', l') → Joint c σ' l' := by
  intro as
  induction as with
  | nil => intro σ σ' l l' _ hj h; simp only [runJ] at h; cases h; exact hj
  | cons a as ih =>
    intro σ σ' l l' hp hj h
    simp only [List.all_cons, Bool.and_eq_true] at hp
    simp only [runJ] at h
    split at h
    · rename_i σ1 l1 h1 h2
      exact ih hp.2 (Joint.step a hj ⟨h1, guardP_plain σ a hp.1⟩ h2) h
    · cases h

theorem minSeq_list {σ : State} {l : SList} (hb : Basic σ) (hr : Rep l (liveSeqs σ)) :
    Conc.minSeq σ ≤ Snaps.minSeq l σ.pub ∧ (SnapHeld σ → Snaps.minSeq l σ.pub = Conc.minSeq σ) := by
  obtain ⟨h1, h2⟩ := rep_minSeq hr σ.pub
  have key : Conc.minSeq σ ≤ Snaps.minSeq l σ.pub ∧ Snaps.minSeq l σ.pub ≤ σ.pub := by
    by_cases hl : liveSeqs σ = []
    · rw [h1 hl]; exact ⟨minSeq_le_pub σ, Nat.le_refl _⟩
    · obtain ⟨o, ho, _⟩ := mem_liveOf.1 (h2 hl).1
      exact ⟨minSeq_le_snap σ _ ho, liveSeqs_le hb _ (h2 hl).1⟩
  refine ⟨key.1, fun held => Nat.le_antisymm (le_minSeq σ _ key.2 ?_) key.1⟩
  -- every registration is at or above the list's minimum: a live one is in the list, one that is not live is a
  -- `Snapshot.Get`'s, whose client snapshot is
  rintro ⟨o, s⟩ hp
  have live_le : ∀ o', (o', s) ∈ σ.snaps → ownerLive σ o' = true → Snaps.minSeq l σ.pub ≤ s := fun o' ho hl' =>
    have hm : s ∈ liveSeqs σ := mem_liveOf.2 ⟨o', ho, hl'⟩
    (h2 (List.ne_nil_of_mem hm)).2 s hm
  by_cases hl : ownerLive σ o = true
  · exact live_le o hp hl
  · cases o with
    | user id => exact absurd rfl hl
    | reader i =>
      obtain ⟨id, hid⟩ := held i s hp fun r hr' => by simpa [ownerLive, hr'] using hl
      exact live_le _ hid rfl

end GoLevel.Conc

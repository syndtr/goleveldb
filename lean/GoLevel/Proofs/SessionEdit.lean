import GoLevel.Model.Session
import GoLevel.Proofs.RefLoopBasic
/-! The producer model (`Model/Session.lean`): the `seen` map of `setVersion`, the record filled by `newManifest`, and
that the delta `setVersion` computes from a commit record is exact given what `Version.apply` does (`EditFacts`) (C07). -/
namespace GoLevel.Session
open GoLevel GoLevel.RefLoop

theorem mem_dedup {l : List Nat} {f : Nat} : f ∈ dedup l ↔ f ∈ l := by
  induction l with
  | nil => simp [dedup]
  | cons a l ih =>
    simp only [dedup, List.mem_cons, List.mem_filter, ih, bne_iff_ne, ne_eq]
    by_cases hfa : f = a <;> simp [hfa]

/-- the D13 repair: each table is listed once in `added` -/
theorem nodup_dedup (l : List Nat) : (dedup l).Nodup := by
  induction l with
  | nil => simp [dedup]
  | cons a l ih =>
    simp only [dedup]
    refine List.nodup_cons.mpr ⟨?_, ih.filter _⟩
    simp [List.mem_filter]

theorem levelTables_nums (v : Version) : (levelTables v).map (·.2.num) = v.nums := by
  unfold levelTables Version.nums
  rw [List.map_flatMap]
  simp only [List.map_map, Function.comp_def]
  -- the level index is dropped again
  conv => rhs; rw [← List.zipIdx_map_fst 0 v.levels]
  rw [List.flatMap_map]

def _root_.GoLevel.Edit.delNums (r : Edit) : List Nat := r.deleted.map (·.2)
def _root_.GoLevel.Edit.addNums (r : Edit) : List Nat := r.added.map (·.2.num)

/-- What the record of a commit does to the table numbers of the version (`versionStaging.commit/finish`), and
where new numbers come from (`allocFileNum` / `reuseFileNum`): `U` = the numbers in use. -/
structure EditFacts (v : Version) (c : UCmp) (r : Edit) (U : List Nat) : Prop where
  nodup : (v.apply c r).nums.Nodup
  dnd : r.delNums.Nodup
  del : ∀ x ∈ r.delNums, x ∈ v.nums
  mem : ∀ f, f ∈ (v.apply c r).nums ↔ (f ∈ v.nums ∧ f ∉ r.delNums) ∨ f ∈ r.addNums
  /-- an added table has a number that is not in use, or it is moved (deleted from its level by the same record) -/
  fresh : ∀ f ∈ r.addNums, f ∉ U ∨ f ∈ r.delNums

theorem mkDelta_added (r : Edit) : (mkDelta r).added = dedup r.addNums := rfl
theorem mkDelta_deleted (r : Edit) : (mkDelta r).deleted = r.delNums := rfl

/-- **exact, duplicate-free delta** for a commit through `flushManifest` or a manifest rotation. -/
theorem netExact_commit {v : Version} {c : UCmp} {r : Edit} {U : List Nat} (h : EditFacts v c r U)
    (hU : ∀ f ∈ v.nums, f ∈ U) : NetExact v.nums (mkDelta r) (v.apply c r).nums :=
  netExact_of_mem (nodup_dedup _) h.dnd h.del (fun f => by rw [mkDelta_added, mem_dedup]; exact h.mem f)
    (fun f hf => (h.fresh f (mem_dedup.mp hf)).imp_left (fun h1 h2 => h1 (hU f h2)))

/-- The first commit after `session.recover` goes through `newManifest(r, nv)`: the record is filled with
every table of the new version; with the D13 repair the delta lists each once, and it is exact relative to the
EMPTY view the loop has of the recovered version (whose delta was empty). -/
theorem netExact_first {v : Version} {c : UCmp} {r : Edit} {U : List Nat} (h : EditFacts v c r U)
    (hdel : r.deleted = []) :
    NetExact [] (mkDelta (fillRecord r (v.apply c r))) (v.apply c r).nums := by
  have hd : (mkDelta (fillRecord r (v.apply c r))).deleted = [] := by
    simp [mkDelta, fillRecord, hdel]
  refine netExact_of_mem (nodup_dedup _) (by rw [hd]; exact List.nodup_nil) (by rw [hd]; intro x hx; cases hx)
    (fun f => ?_) (fun _ _ => Or.inl (by simp))
  show _ ↔ _ ∨ f ∈ dedup ((r.added ++ levelTables (v.apply c r)).map (·.2.num))
  rw [mem_dedup, List.map_append, List.mem_append, levelTables_nums]
  constructor
  · exact fun h1 => Or.inr (Or.inr h1)
  · rintro (⟨h1, _⟩ | h1 | h1)
    · cases h1
    · exact (h.mem f).mpr (Or.inr h1)
    · exact h1

end GoLevel.Session

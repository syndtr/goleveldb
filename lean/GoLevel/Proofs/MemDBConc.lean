import GoLevel.Proofs.MemDBIterSim
/-! Readers and iterators interleaved with a writer that only puts (C14). -/
namespace GoLevel.MemDB

variable {cmp : Cmp}

/-- the table is well formed, the iterator ranges over `[st, lm)` and the node under it is one of the keys of that slice -/
structure CInv (cmp : Cmp) (st lm : Option Bytes) (s : CState) : Prop where
  inv : Inv cmp s.db
  start : s.it.start = st
  limit : s.it.limit = lm
  node : ∀ k, s.it.node = some k → k ∈ s.db.sliceKeys cmp st lm

theorem SMap.mem_insert {k v : Bytes} {m : SMap} {p : Bytes × Bytes} (h : p ∈ SMap.insert cmp k v m) :
    p = (k, v) ∨ p ∈ m := by
  unfold SMap.insert at h
  simp only [List.mem_append, List.mem_cons, List.mem_filter] at h
  rcases h with h | h | h
  · exact .inr h.1
  · exact .inl h
  · exact .inr h.1

section
variable (hc : LawfulCmp cmp)
include hc

theorem mem_level0_put {db : DB} (h : Inv cmp db) (key v : Bytes) (ht : Nat) (hpos : 1 ≤ ht) {x : Bytes}
    (hx : x ∈ db.level0) : x ∈ (put cmp db key v ht).level0 := by
  by_cases hk : key ∈ db.level0
  · rw [put_old hc h hk]; exact hx
  · rw [put_new hc h hk]
    simp only [level0_mk]
    rw [level0_put_new hpos]
    exact (mem_ins).2 (.inr hx)

omit hc in
theorem relPos_of_cinv {S : List Bytes} {nd : Node} (fw : Bool) (hn : ∀ k, nd = some k → k ∈ S) :
    ∃ p, RelPos S nd fw p := by
  cases nd with
  | none =>
    cases fw with
    | false => exact ⟨.soi, by simp [RelPos]⟩
    | true => exact ⟨.eoi, by simp [RelPos]⟩
  | some k =>
    obtain ⟨S1, S2, rfl⟩ := List.append_of_mem (hn k rfl)
    exact ⟨.at S1.length, k, S1, S2, rfl, rfl, rfl⟩

omit hc in
theorem relPos_node_mem {S : List Bytes} {nd : Node} {fw : Bool} {p : Pos} (h : RelPos S nd fw p) :
    ∀ k, nd = some k → k ∈ S := by
  intro k hk
  cases p with
  | soi => rw [h.1] at hk; cases hk
  | eoi => rw [h.1] at hk; cases hk
  | «at» i =>
    obtain ⟨k', S1, S2, hnd, hS, _⟩ := h
    rw [hnd] at hk; cases hk
    rw [hS]; simp

variable {st lm : Option Bytes}

theorem move_cinv {s : CState} (h : CInv cmp st lm s) (c : Call Bytes) :
    CInv cmp st lm { s with it := Iter.step cmp s.db c s.it } := by
  obtain ⟨db, ⟨st', lm', nd, fw⟩⟩ := s
  obtain ⟨hi, rfl, rfl, hn⟩ := h
  obtain ⟨p, hp⟩ := relPos_of_cinv fw hn
  obtain ⟨nd', fw', hstep, hrel⟩ := step_rel hc hi st' lm' c nd fw p hp
  simp only [hstep]
  exact ⟨hi, rfl, rfl, relPos_node_mem hrel⟩

theorem cstep_cinv {s : CState} (h : CInv cmp st lm s) (e : Ev) (he : e.putOnly) : CInv cmp st lm (cstep cmp s e) := by
  cases e with
  | put k v ht =>
    refine ⟨put_inv hc h.inv k v he.1 he.2, h.start, h.limit, ?_⟩
    intro x hx
    have := h.node x hx
    rw [mem_sliceKeys] at this ⊢
    exact ⟨mem_level0_put hc h.inv k v ht he.1 this.1, this.2⟩
  | delete k => exact absurd he (by simp [Ev.putOnly])
  | reset => exact absurd he (by simp [Ev.putOnly])
  | read => exact h
  | move c => exact move_cinv hc h c

theorem cexec_cinv : ∀ (es : List Ev) (s : CState), CInv cmp st lm s → (∀ e ∈ es, e.putOnly) →
    CInv cmp st lm (cexec cmp s es) := by
  intro es
  induction es with
  | nil => intro s h _; exact h
  | cons e es ih =>
    intro s h hes
    exact ih _ (cstep_cinv hc h e (hes e (by simp))) (fun e' he' => hes e' (by simp [he']))

def AllPut (s : CState) (es : List Ev) : Prop := ∀ p ∈ s.db.abs, ∃ h, Ev.put p.1 p.2 h ∈ es

theorem cexec_allPut : ∀ (es pre : List Ev) (s : CState), CInv cmp st lm s → (∀ e ∈ es, e.putOnly) →
    AllPut s pre → AllPut (cexec cmp s es) (pre ++ es) := by
  intro es
  induction es with
  | nil => intro pre s _ _ h; simpa [cexec] using h
  | cons e es ih =>
    intro pre s h hes hall
    have hstep : AllPut (cstep cmp s e) (pre ++ [e]) := by
      intro p hp
      -- only `Put` changes the table
      have hold : p ∈ s.db.abs → ∃ h, Ev.put p.1 p.2 h ∈ pre ++ [e] := fun hp =>
        (hall p hp).imp fun _ hm => List.mem_append_left _ hm
      cases e with
      | put k v ht =>
        simp only [cstep] at hp
        rw [put_abs hc h.inv k v (hes (.put k v ht) (by simp)).1] at hp
        rcases SMap.mem_insert hp with rfl | hp
        · exact ⟨ht, by simp⟩
        · exact hold hp
      | delete k => exact absurd (hes (.delete k) (by simp)) (by simp [Ev.putOnly])
      | reset => exact absurd (hes .reset (by simp)) (by simp [Ev.putOnly])
      | read => exact hold hp
      | move c => exact hold hp
    have := ih (pre ++ [e]) _ (cstep_cinv hc h e (hes e (by simp))) (fun e' he' => hes e' (by simp [he'])) hstep
    simpa [cexec] using this

theorem cyield_mem {s : CState} (h : CInv cmp st lm s) (c : Call Bytes) {k v : Bytes}
    (hy : cyield cmp s c = some (k, v)) :
    (Iter.step cmp s.db c s.it).node = some k ∧ k ∈ s.db.sliceKeys cmp st lm ∧
    (k, v) ∈ s.db.abs := by
  unfold cyield Iter.out at hy
  cases hn : (Iter.step cmp s.db c s.it).node with
  | none => rw [hn] at hy; cases hy
  | some k' =>
    rw [hn] at hy
    simp only [Option.map_some, Option.some.injEq, Prod.mk.injEq] at hy
    obtain ⟨rfl, rfl⟩ := hy
    have hk := (move_cinv hc h c).node k' hn
    refine ⟨rfl, hk, ?_⟩
    rw [abs_eq]
    exact List.mem_map.2 ⟨k', ((mem_sliceKeys).1 hk).1, rfl⟩

omit hc in
theorem cexec_it_of_noMove : ∀ (ws : List Ev) (s : CState), (∀ e ∈ ws, e.isMove = false) →
    (cexec cmp s ws).it = s.it := by
  intro ws
  induction ws with
  | nil => intro s _; rfl
  | cons e es ih =>
    intro s hws
    have he := hws e (by simp)
    have : (cstep cmp s e).it = s.it := by
      cases e <;> simp [cstep, Ev.isMove] at he ⊢
    rw [cexec, ih _ (fun e' he' => hws e' (by simp [he'])), this]

theorem next_prev_order {s : CState} (h : CInv cmp st lm s) {k1 : Bytes} (hnode : s.it.node = some k1) :
    (∀ k2 v2, cyield cmp s .next = some (k2, v2) → cmp k1 k2 = .lt) ∧
    (∀ k2 v2, cyield cmp s .prev = some (k2, v2) → cmp k2 k1 = .lt) := by
  obtain ⟨db, ⟨st', lm', nd, fw⟩⟩ := s
  simp only at hnode
  subst hnode
  constructor
  · intro k2 v2 hy
    have hn := (cyield_mem hc h .next hy).1
    simp only [Iter.step, Iter.next, fill_limit] at hn
    exact after_gt h.inv.sorted0 k1 k2 (List.mem_of_mem_head? (Option.filter_eq_some_iff.1 hn).1)
  · intro k2 v2 hy
    have hn := (cyield_mem hc h .prev hy).1
    simp only [Iter.step, Iter.prev, fill_start, findLT_eq hc h.inv] at hn
    exact (pred_mem (Option.filter_eq_some_iff.1 hn).1).2

end

theorem cinv_init (cmp : Cmp) (st lm : Option Bytes) :
    CInv cmp st lm { db := DB.empty, it := { start := st, limit := lm } } :=
  ⟨inv_empty cmp, rfl, rfl, by intro k hk; cases hk⟩

end GoLevel.MemDB

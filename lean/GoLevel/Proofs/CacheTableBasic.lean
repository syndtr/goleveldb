import GoLevel.Model.CacheTable
import GoLevel.Proofs.Order
/-! Hash table of the cache (C17): the order on `mNodes`, `sort.Search`, insertion, `sort.Sort`. -/
namespace GoLevel.CacheT

def keyEq (ns key : Nat) (x : TNode) : Bool := x.ns == ns && x.key == key

/-- `mNodes` sorted strictly by (ns,key): the order invariant of a bucket. -/
def Sorted (l : List TNode) : Prop := l.Pairwise fun a b => less a b = true

theorem less_iff {a b : TNode} : less a b = true ↔ a.ns < b.ns ∨ (a.ns = b.ns ∧ a.key < b.key) := by
  unfold less; split <;> simp_all <;> omega

theorem less_trans {a b c : TNode} (h1 : less a b = true) (h2 : less b c = true) : less a c = true := by
  rw [less_iff] at *; omega

theorem less_irrefl (a : TNode) : less a a = false := by
  rw [← Bool.not_eq_true, less_iff]; omega

theorem searchPred_iff {ns key : Nat} {x : TNode} :
    searchPred ns key x = true ↔ ns < x.ns ∨ (x.ns = ns ∧ key ≤ x.key) := by
  unfold searchPred; split <;> simp_all <;> omega

theorem searchPred_false_iff {ns key : Nat} {x : TNode} :
    searchPred ns key x = false ↔ x.ns < ns ∨ (x.ns = ns ∧ x.key < key) := by
  rw [← Bool.not_eq_true, searchPred_iff]; omega

/-- `sort.Search` on a monotone predicate returns the first index at which it holds. -/
theorem bsearch_spec (f : Nat → Bool) (hmono : ∀ a b, a ≤ b → f a = true → f b = true) :
    ∀ fuel i j, i ≤ j → j - i < fuel → (∀ k, k < i → f k = false) → (∀ k, j ≤ k → f k = true) →
      bsearch f fuel i j ≤ j ∧ (∀ k, k < bsearch f fuel i j → f k = false) ∧
        (∀ k, bsearch f fuel i j ≤ k → f k = true) := by
  intro fuel
  induction fuel with
  | zero => intro i j _ h; omega
  | succ fuel ih =>
    intro i j hij hfuel hlo hhi
    unfold bsearch
    by_cases hlt : i < j
    · simp only [hlt, if_true]
      have hh1 : i ≤ (i + j) / 2 := by omega
      have hh2 : (i + j) / 2 < j := by omega
      cases hf : f ((i + j) / 2) with
      | false =>
        simp only [Bool.not_false, if_true]
        exact ih ((i + j) / 2 + 1) j (by omega) (by omega) (fun k hk => by
          cases hfk : f k with
          | false => rfl
          | true => have := hmono k ((i + j) / 2) (by omega) hfk; rw [hf] at this; cases this) hhi
      | true =>
        simp only [Bool.not_true, Bool.false_eq_true, if_false]
        have := ih i ((i + j) / 2) hh1 (by omega) hlo (fun k hk => hmono _ k hk hf)
        exact ⟨by omega, this.2⟩
    · simp only [hlt, if_false]
      have : i = j := by omega
      subst this
      exact ⟨Nat.le_refl _, hlo, hhi⟩

theorem search_spec {x : List TNode} (hs : Sorted x) (ns key : Nat) :
    search x ns key ≤ x.length ∧
    (∀ k n, k < search x ns key → x[k]? = some n → searchPred ns key n = false) ∧
    (∀ k n, search x ns key ≤ k → x[k]? = some n → searchPred ns key n = true) := by
  have hmono : ∀ a b : Nat, a ≤ b →
      (match x[a]? with | some n => searchPred ns key n | none => true) = true →
      (match x[b]? with | some n => searchPred ns key n | none => true) = true := by
    intro a b hab ha
    cases hb : x[b]? with
    | none => rfl
    | some nb =>
      have hbl := getElem?_lt hb
      rcases Nat.lt_or_ge a b with hlt | hge
      · have hal : a < x.length := by omega
        rw [List.getElem?_eq_getElem hal] at ha
        rw [List.getElem?_eq_getElem hbl] at hb; cases hb
        have := (List.pairwise_iff_getElem.mp hs) a b hal hbl hlt
        rw [less_iff] at this
        simp only [searchPred_iff] at ha ⊢
        omega
      · have : a = b := by omega
        subst this; rw [hb] at ha; exact ha
  have := bsearch_spec _ hmono (x.length + 1) 0 x.length (Nat.zero_le _) (by omega)
    (fun k hk => by omega) (fun k hk => by rw [List.getElem?_eq_none hk])
  refine ⟨this.1, fun k n hk hn => ?_, fun k n hk hn => ?_⟩
  · have := this.2.1 k hk; rw [hn] at this; exact this
  · have := this.2.2 k hk; rw [hn] at this; exact this

theorem hit_iff {x : List TNode} {j ns key : Nat} {n : TNode} :
    hit x j ns key = some n ↔ x[j]? = some n ∧ keyEq ns key n = true := by
  unfold hit
  cases hx : x[j]? with
  | none => simp
  | some m =>
    simp only [Option.some.injEq]
    constructor
    · intro h
      split at h
      · obtain rfl := Option.some.inj h; exact ⟨rfl, ‹_›⟩
      · cases h
    · rintro ⟨rfl, hk⟩; exact if_pos hk

theorem hit_some_iff {x : List TNode} (hs : Sorted x) (ns key : Nat) (n : TNode) :
    hit x (search x ns key) ns key = some n ↔ (n ∈ x ∧ keyEq ns key n = true) := by
  rw [hit_iff]
  have hsp := search_spec hs ns key
  constructor
  · rintro ⟨h1, h2⟩
    exact ⟨List.mem_iff_getElem?.mpr ⟨_, h1⟩, h2⟩
  · rintro ⟨h1, h2⟩
    refine ⟨?_, h2⟩
    obtain ⟨k, hk⟩ := List.mem_iff_getElem?.mp h1
    have hkl := getElem?_lt hk
    simp only [keyEq, Bool.and_eq_true, beq_iff_eq] at h2
    have hge : search x ns key ≤ k := by
      rcases Nat.lt_or_ge k (search x ns key) with h | h
      · have := hsp.2.1 k n h hk; rw [searchPred_false_iff] at this; omega
      · exact h
    rcases Nat.lt_or_ge (search x ns key) k with hlt | hge2
    · exfalso
      have hrl : search x ns key < x.length := by omega
      have h3 := hsp.2.2 _ _ (Nat.le_refl _) (List.getElem?_eq_getElem hrl)
      have h4 := (List.pairwise_iff_getElem.mp hs) _ k hrl hkl hlt
      rw [List.getElem?_eq_getElem hkl] at hk
      simp only [Option.some.injEq] at hk
      rw [hk, less_iff] at h4
      rw [searchPred_iff] at h3
      omega
    · have : search x ns key = k := by omega
      rw [this]; exact hk

theorem insertAt_eq (x : List TNode) (i : Nat) (n : TNode) (hi : i ≤ x.length) :
    insertAt x i n = x.take i ++ n :: x.drop i := by
  unfold insertAt
  induction x generalizing i with
  | nil => simp at hi; subst hi; simp
  | cons a x ih =>
    cases i with
    | zero => simp
    | succ i =>
      have hi' : i ≤ x.length := by simpa using hi
      have := ih i hi'
      by_cases hl : i = x.length
      · subst hl; simp
      · have hne : ¬ (i + 1 = (a :: x).length) := by simp; exact hl
        rw [if_neg hl] at this
        rw [if_neg hne]
        simp only [List.take_succ_cons, List.drop_succ_cons, List.cons_append, List.set_cons_succ, this]

theorem sorted_insert {x : List TNode} (hs : Sorted x) (n : TNode)
    (hnew : ∀ y ∈ x, ¬ (y.ns = n.ns ∧ y.key = n.key)) :
    Sorted (x.take (search x n.ns n.key) ++ n :: x.drop (search x n.ns n.key)) := by
  have hsp := search_spec hs n.ns n.key
  unfold Sorted
  rw [List.pairwise_append]
  refine ⟨List.Pairwise.sublist (List.take_sublist _ _) hs, ?_, ?_⟩
  · rw [List.pairwise_cons]
    refine ⟨fun b hb => ?_, List.Pairwise.sublist (List.drop_sublist _ _) hs⟩
    obtain ⟨k, hk⟩ := List.mem_iff_getElem?.mp hb
    rw [List.getElem?_drop] at hk
    have := hsp.2.2 _ b (Nat.le_add_right _ _) hk
    rw [searchPred_iff] at this
    have hne := hnew b (List.mem_iff_getElem?.mpr ⟨_, hk⟩)
    rw [less_iff]; omega
  · intro a ha b hb
    obtain ⟨k, hk⟩ := List.mem_iff_getElem?.mp ha
    have hkl := getElem?_lt hk
    rw [List.length_take] at hkl
    rw [List.getElem?_take_of_lt (by omega)] at hk
    have h1 := hsp.2.1 k a (by omega) hk
    rw [searchPred_false_iff] at h1
    rcases List.mem_cons.mp hb with rfl | hb
    · rw [less_iff]; omega
    · obtain ⟨k2, hk2⟩ := List.mem_iff_getElem?.mp hb
      rw [List.getElem?_drop] at hk2
      have h2 := hsp.2.2 _ b (Nat.le_add_right _ _) hk2
      rw [searchPred_iff] at h2
      rw [less_iff]; omega

theorem mem_insert {x : List TNode} {i : Nat} {n y : TNode} :
    y ∈ x.take i ++ n :: x.drop i ↔ y = n ∨ y ∈ x := by
  conv => rhs; rw [← List.take_append_drop i x]
  simp only [List.mem_append, List.mem_cons, or_left_comm]

theorem sorted_nodup {x : List TNode} (hs : Sorted x) : x.Nodup := by
  unfold Sorted at hs
  exact List.Pairwise.imp (fun {a b} h heq => by subst heq; rw [less_irrefl] at h; cases h) hs

theorem mem_remove {x : List TNode} (hs : Sorted x) {j : Nat} {n y : TNode} (hj : x[j]? = some n) :
    y ∈ x.take j ++ x.drop (j + 1) ↔ y ∈ x ∧ y ≠ n := by
  rw [← List.eraseIdx_eq_take_drop_succ, List.mem_eraseIdx_iff_getElem?]
  constructor
  · rintro ⟨i, hij, hi⟩
    exact ⟨List.mem_of_getElem? hi, fun e =>
      hij ((List.getElem?_inj (getElem?_lt hi) (sorted_nodup hs)).mp (by rw [hi, hj, e]))⟩
  · rintro ⟨hy, hyn⟩
    obtain ⟨i, hi⟩ := List.mem_iff_getElem?.mp hy
    exact ⟨i, fun e => hyn (Option.some.inj ((e ▸ hi).symm.trans hj)), hi⟩

theorem sorted_remove {x : List TNode} (hs : Sorted x) (j : Nat) : Sorted (x.take j ++ x.drop (j + 1)) := by
  rw [← List.eraseIdx_eq_take_drop_succ]
  exact List.Pairwise.sublist (List.eraseIdx_sublist _ _) hs

theorem orderedInsert_perm (n : TNode) (l : List TNode) : (orderedInsert n l).Perm (n :: l) := by
  induction l with
  | nil => exact List.Perm.refl _
  | cons a l ih =>
    unfold orderedInsert
    split
    · exact (List.Perm.cons a ih).trans (List.Perm.swap n a l)
    · exact List.Perm.refl _

theorem sortNodes_perm (x : List TNode) : (sortNodes x).Perm x := by
  induction x with
  | nil => exact List.Perm.refl _
  | cons a x ih =>
    show (orderedInsert a (sortNodes x)).Perm (a :: x)
    exact (orderedInsert_perm a _).trans (List.Perm.cons a ih)

theorem mem_sortNodes {x : List TNode} {y : TNode} : y ∈ sortNodes x ↔ y ∈ x :=
  (sortNodes_perm x).mem_iff

theorem length_sortNodes (x : List TNode) : (sortNodes x).length = x.length :=
  (sortNodes_perm x).length_eq

theorem sorted_orderedInsert {n : TNode} {l : List TNode} (hs : Sorted l)
    (hne : ∀ y ∈ l, ¬ (n.ns = y.ns ∧ n.key = y.key)) : Sorted (orderedInsert n l) := by
  induction l with
  | nil => exact List.pairwise_singleton _ _
  | cons a l ih =>
    have hp := List.pairwise_cons.mp hs
    unfold orderedInsert
    by_cases hl : less a n = true
    · rw [if_pos hl]
      refine List.pairwise_cons.mpr ⟨fun b hb => ?_, ih hp.2 (fun y hy => hne y (List.mem_cons_of_mem _ hy))⟩
      rcases List.mem_cons.mp ((orderedInsert_perm n l).mem_iff.mp hb) with rfl | hb
      · exact hl
      · exact hp.1 b hb
    · rw [if_neg hl]
      have hna : less n a = true := by
        have h1 := hne a List.mem_cons_self
        rw [less_iff] at hl ⊢
        omega
      refine List.pairwise_cons.mpr ⟨fun b hb => ?_, hs⟩
      rcases List.mem_cons.mp hb with rfl | hb
      · exact hna
      · exact less_trans hna (hp.1 b hb)

theorem sorted_sortNodes {x : List TNode}
    (hd : x.Pairwise fun a b => ¬ (a.ns = b.ns ∧ a.key = b.key)) : Sorted (sortNodes x) := by
  induction x with
  | nil => exact List.Pairwise.nil
  | cons a x ih =>
    have hp := List.pairwise_cons.mp hd
    show Sorted (orderedInsert a (sortNodes x))
    exact sorted_orderedInsert (ih hp.2) (fun y hy => hp.1 y (mem_sortNodes.mp hy))

end GoLevel.CacheT

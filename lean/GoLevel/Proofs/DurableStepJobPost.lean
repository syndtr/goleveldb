import GoLevel.Proofs.DurableStepJobCommit
/-!
Steps of a job behind the commit: `install` (`setVersion` + `recordCommited`), the removals (`rmJ`, `rmT`, `rmM`), `done`
(`finishJob`), `mkJournal` (`newMem` inside the last commit of a recovery).
-/
namespace GoLevel.Dur

variable {cfg : Cfg} {s s' : St} {d d' : Disk} {j : Job} {e : MRec} {rot : Bool}

theorem installJob_facts (s : St) (d : Disk) (j : Job) (e : MRec) :
    (installJob s d j e).kind = j.kind ∧ (installJob s d j e).outs = j.outs ∧
    (installJob s d j e).mkJournal = j.mkJournal ∧ (installJob s d j e).edit = j.edit ∧
    (installJob s d j e).rmJournals = j.rmJournals ∧
    ∃ l, (installJob s d j e).pc = .rmJ l ∧
      (∀ n ∈ l, n ∈ j.rmJournals ∨ (j.kind = .recovFinal ∧ n < s.jcur)) ∧
      (j.kind ≠ .recovFinal → (installJob s d j e).rmTables = j.rmTables) ∧
      (j.kind = .recovFinal → ∀ t ∈ (installJob s d j e).rmTables, t ∉ applyEdit s.live e) := by
  unfold installJob
  by_cases hk : j.kind = .recovFinal
  · rw [if_pos hk]
    refine ⟨rfl, rfl, rfl, rfl, rfl, _, rfl, ?_, fun hne => absurd hk hne, fun _ t ht => ?_⟩
    · intro n hn
      simp only [List.mem_append, List.mem_filter, decide_eq_true_eq] at hn
      rcases hn with h1 | ⟨_, h2⟩
      · exact Or.inl h1
      · exact Or.inr ⟨hk, h2⟩
    · simp only [List.mem_filter, Bool.not_eq_true', List.contains_eq_mem, decide_eq_false_iff_not] at ht
      exact ht.2
  · rw [if_neg hk]
    exact ⟨rfl, rfl, rfl, rfl, rfl, _, rfl, fun n hn => Or.inl hn, fun _ => rfl, fun hk' => absurd hk' hk⟩

theorem inv_job_install (h : Inv cfg s d)
    (hj : s.job = some j) (hpc : j.pc = .install)
    (hs : stepJob cfg s d j rot .ok = some (s', d')) : Inv cfg s' d' := by
  have hok := h.jobOK hj
  obtain ⟨e, he⟩ := hok.edit_some (by rw [hpc]; rfl)
  rw [stepJob_install hpc he] at hs
  simp only [Option.some.injEq, Prod.mk.injEq] at hs
  obtain ⟨rfl, rfl⟩ := hs
  have hnr : ∀ m, j.pc ≠ .rotRemove m := by rw [hpc]; intro m hm; cases hm
  have hl0 : s.limbo = none := h.limbo_none_of_post hj he (by rw [hpc]; rfl)
  have hfd := (h.mfd hj).fd hj hnr hl0
  have hfacts := installJob_facts s d j e
  generalize installJob s d j e = j' at hfacts ⊢
  obtain ⟨k1, k2, k3, k4, k5, l, hl, hlmem, hrt⟩ := hfacts
  show Inv cfg
    (s.upd j' s.nextFile (applyEdit s.live e) (e.jn.getD s.stJn) (e.sq.getD s.stSq) s.manifestFd s.manifestOpen) d
  have hman := hok.manifest_at he
  simp only [hpc, JobManifest] at hman
  obtain ⟨hopen, hsett⟩ := hman
  obtain ⟨mf, v0, v, hparts, hlv, hvl, hvok, hmono⟩ := h.disk.last
  have hcur := hparts.cur
  obtain ⟨mf', _, hc', hun, _⟩ := hsett.get
  obtain rfl : mf' = mf := Option.some.inj (hc' ▸ hcur)
  obtain ⟨m1, m2, m3⟩ : MirrorE s e v := hsett.view hlv
  have hph := h.not_crashed hj
  have hb := h.bounds hph
  have hpc' : ∀ m, j'.pc ≠ .rotRemove m := by intro m hm; rw [hl] at hm; cases hm
  have hmfd' : MfdOK (s.upd j' s.nextFile (applyEdit s.live e) (e.jn.getD s.stJn) (e.sq.getD s.stSq)
      s.manifestFd s.manifestOpen) d := MfdOK.of_fd (j := j') rfl hpc' hfd
  have hnbc : j'.pc.beforeCommit = true → False := by intro hb'; rw [hl] at hb'; cases hb'
  have hk'post : j'.pc.uninstalled = false := by rw [hl]; rfl
  -- the journals to remove lie below the journal number of the new view
  have hnxv : ∀ n ∈ l, n < v.jn := by
    intro n hn
    rw [m2]
    rcases hlmem n hn with h1 | ⟨hk, h2⟩
    · exact h.rmJournals_lt hj he _ n h1
    · -- `jcur` is the journal the final commit names
      obtain ⟨_, y, e', hf⟩ := hok.kind.recovFinal hk
      have he' := hf.edit
      rw [he] at he'; cases he'
      rw [hf.jn]
      show n < y
      rw [← ((MkJournalOK.late_iff hf.mkJournal (by rw [hpc]; exact ⟨nofun, rfl⟩)).1 hok.mkj).2.1]; exact h2
  refine h.commit_step (d' := d) hj he j' ⟨k1, k2, k3, k4, k5⟩ ?_ ?_
    (by rw [hl]; rfl) (applyEdit s.live e) (e.jn.getD s.stJn) (e.sq.getD s.stSq)
    (fun hx => by rw [hk'post] at hx; cases hx)
    (fun hkc => by
      obtain ⟨x1, x2⟩ := (hok.edit_nums he).1 hkc
      rw [x1, x2]; exact ⟨rfl, rfl⟩)
    s.manifestFd s.manifestOpen id s.limbo hl0 rfl rfl (hdisk := h.disk) (hmm := h.mm)
    (hb := hb.of_same rfl (h.seqHi_step hj rfl rfl rfl k1 (fun hb' => (hnbc hb').elim)) (Nat.le_refl _)
      (fun hr => ⟨hr, Nat.le_refl _⟩))
    (hmfd := hmfd') (hcur := h.cur_lt hj)
    (hv0 := holds_of_some hparts.cur (holds_of_some hparts.hv0 (holds_of_some hparts.cur
      (holds_of_some hparts.hv0 (Nat.le_refl _)))))
    (hlast := Or.inl ⟨by rw [hpc]; rfl, rfl⟩) (hman := ?_) (hrm := ?_)
  · by_cases hk : j.kind = .recovFinal
    · exact .inr (.inl (k1.trans hk))
    · rw [k1, hrt.1 hk]; exact hok.one.2
  · exact fun hkc => hrt.1 fun hk => by rcases hkc with hkc | hkc <;> rw [hkc] at hk <;> cases hk
  · simp only [hl, JobManifest]
    refine ⟨hopen, ?_, fun y hy => ?_⟩
    · exact .intro hcur hun hlv ((MirrorL.of_none (s := s.upd j' s.nextFile (applyEdit s.live e) (e.jn.getD s.stJn)
        (e.sq.getD s.stSq) s.manifestFd s.manifestOpen) hl0).2 ⟨m1, m2, m3⟩)
    · show e.jn.getD s.stJn = y
      rw [hy]; rfl
  · intro v' hv'
    rw [hlv] at hv'
    cases hv'
    unfold RemovalsOK
    rw [hl]
    simp only
    refine ⟨fun n hn => ⟨Or.inl (hnxv n hn), fun y hy => ?_⟩, fun t ht => ?_, fun hkc => ?_,
      fun hn => (by rw [k4, he] at hn; cases hn)⟩
    rotate_right
    · -- a compaction or a transaction removes no journal
      rw [k1] at hkc
      apply List.eq_nil_iff_forall_not_mem.2
      intro n hn
      rcases hlmem n hn with h1 | ⟨hk, _⟩
      · rw [hok.kind.rmJournals_nil hkc] at h1; cases h1
      · rcases hkc with hkc | hkc <;> rw [hkc] at hk <;> cases hk
    · -- the journal `newMem` made is the one the edit names
      rw [k3] at hy
      obtain ⟨_, _, e', he', hejn⟩ := hok.kind.of_mkJournal hy
      rw [he] at he'; cases he'
      have := hnxv n hn
      rw [m2, hejn] at this
      exact this
    · by_cases hk : j.kind = .recovFinal
      · rw [m1]; exact hrt.2 hk t ht
      · rw [hrt.1 hk] at ht
        rcases hok.one.2 with h3 | h3 | h3
        · rw [h3] at ht; cases ht
        · exact absurd h3 hk
        · -- a compaction removes its inputs: the edit deletes them
          have hin := hok.inputs_at he
          unfold InputsOK at hin
          rw [if_pos h3] at hin
          obtain ⟨_, _, hdel, hdlt, _⟩ := hin
          rw [← hdel] at ht
          rw [m1]
          intro hmem
          rcases mem_applyEdit.1 hmem with ⟨_, hnd, _⟩ | hadd
          · exact hnd ht
          · rw [(hok.shape_at he).1] at hadd
            obtain ⟨o, ho, ho1⟩ := List.mem_map.1 hadd
            have := hdlt t ht o ho
            omega

theorem RunOK.rmJ (h : RunOK cfg s d) (n : Nat) (hn : n ≠ s.jcur) (hnc : ¬ FlushPending s) :
    RunOK cfg s { d with journals := d.journals.erase n } := by
  obtain ⟨r1, r2, r3, r4, r5, r6, r7, r8, r9, r10⟩ := h
  refine ⟨r1, r2, ?_, ?_, ⟨?_, r5.2⟩, r6, ?_, ?_, r9, r10⟩
  · show Holds (lookup (d.journals.erase n) s.jcur) _
    rw [lookup_erase, if_neg (fun e => hn e.symm)]
    exact r3
  · exact ⟨r4.1, fun p hp => r4.2 p (mem_erase.1 hp).1⟩
  · exact fun p hp => r5.1 p (mem_erase.1 hp).1
  · exact r7.imp rfl rfl fun fz jf _ _ ⟨f1, f2, f3, f4, f5, _⟩ =>
      ⟨f1, f2, f3, fun p hp => f4 p (mem_erase.1 hp).1, fun p hp => f5 p (mem_erase.1 hp).1, fun hx => absurd hx hnc⟩
  · exact r8.imp (fun mf hmf => hmf.imp (fun v0 hv0 p hp => hv0 p (mem_erase.1 hp).1))

theorem RecOK.rmJ {r : Recov} (h : RecOK cfg s d r) (n : Nat) (hnc : ¬ NoCommitYet s) :
    RecOK cfg s { d with journals := d.journals.erase n } r := by
  obtain ⟨r1, r2, r3, r4, r5, r6, r7, r8, r9, r10⟩ := h
  refine ⟨r1, r2, r3, r4, ⟨fun p hp => r5.1 p (mem_erase.1 hp).1, r5.2⟩,
    fun p hp => r6 p (mem_erase.1 hp).1, ?_, r8, ?_, r10⟩
  · unfold MdbOK at r7 ⊢
    split
    · rename_i o ho
      rw [ho] at r7
      exact ⟨fun p hp => r7.1 p (mem_erase.1 hp).1, r7.2.1, fun hx => absurd hx hnc⟩
    · rename_i ho; rw [ho] at r7; exact r7
  · exact r9.imp (fun v hv => ⟨fun p hp => hv.1 p (mem_erase.1 hp).1, hv.2⟩)

theorem JobOK.post_facts (h : JobOK cfg s d j) (hp : j.pc.post = true) :
    Settled cfg s d (MirrorL s) ∧ (∀ e, j.edit = some e → s.manifestOpen = true ∧ ∀ x, e.jn = some x → s.stJn = x) := by
  have := h.manifest
  unfold JobManifestOK at this
  cases he : j.edit with
  | none => rw [he] at this; exact ⟨this, fun e he' => by cases he'⟩
  | some e =>
    rw [he] at this
    simp only at this
    rw [JobManifest_post hp] at this
    exact ⟨this.2.1, fun e' he' => by cases he'; exact ⟨this.1, this.2.2⟩⟩

theorem Inv.post_open (h : Inv cfg s d) (hj : s.job = some j)
    (hp : j.pc.post = true) : s.manifestOpen = true := by
  have hok := h.jobOK hj
  cases he : j.edit with
  | some e => exact ((hok.post_facts hp).2 e he).1
  | none => exact (h.run (hok.kind.of_noedit he).2.1).mfd.2

/-- behind the commit, with the storage not ahead of the session: the manifest `CURRENT` names is the session's own, synced,
    and its one view is what the session holds -/
theorem Inv.post_view (h : Inv cfg s d) (hj : s.job = some j) (hp : j.pc.post = true) (hl : s.limbo = none) :
    ∃ mf v, curManifest d = some mf ∧ mf.unsynced = [] ∧ lastView cfg d = some v ∧ viewAt cfg mf 0 = some v ∧
      Mirror s v ∧ s.manifestFd = d.current ∧ (∀ e, j.edit = some e → ∀ x, e.jn = some x → v.jn = x) := by
  obtain ⟨hs, hjn⟩ := (h.jobOK hj).post_facts hp
  obtain ⟨mf, v, hc, hu, hv, hm⟩ := hs.get
  have hu := hu (h.post_open hj hp) hl
  have hm := (MirrorL.of_none hl).1 hm
  refine ⟨mf, v, hc, hu, hv, by rw [lastView_eq hc, hu] at hv; exact hv, hm,
    (h.mfd hj).fd hj (fun m hm => by rw [hm] at hp; cases hp) hl, fun e he x hx => ?_⟩
  rw [hm.2.1]
  exact (hjn e he).2 x hx

/-- behind the commit the storage is not ahead of the session — except beside the job that only drops an empty
    frozen buffer (it has no edit), whose journal holds nothing that must survive -/
theorem Inv.post_cases (h : Inv cfg s d) (hj : s.job = some j)
    (hp : j.pc.post = true) :
    (s.limbo = none ∧ j.edit ≠ none) ∨ (j.edit = none ∧ j.kind = .flush ∧ j.rmTables = [] ∧
      ∃ jf, j.rmJournals = [jf] ∧ ∀ p ∈ d.journals, p.1 = jf → ∀ g ∈ p.2.all, g ∉ must s) := by
  have hok := h.jobOK hj
  cases he : j.edit with
  | some e => exact Or.inl ⟨h.limbo_none_of_post hj he (JPc.not_bc_of_post hp), fun hx => by cases hx⟩
  | none =>
    obtain ⟨hkk, hph, _, jf, h1, h2, hrmj⟩ := hok.kind.of_noedit he
    obtain ⟨_, _, _, _, f5, _⟩ := (h.run hph).frozen.get h1 h2
    refine Or.inr ⟨rfl, hkk, ?_, jf, hrmj, fun p hp hpn g hg hm => ?_⟩
    · rcases hok.one.2 with h3 | h3 | h3
      · exact h3
      · rw [hkk] at h3; cases h3
      · rw [hkk] at h3; cases h3
    · cases (f5 p hp hpn).2.1 g hg hm

theorem Inv.post_step (h : Inv cfg s d) (hj : s.job = some j)
    (hpost : j.pc.post = true) (pc' : JPc) (hp' : pc'.post = true)
    (hjr : d'.journals = d.journals) (hc : d'.current = d.current) (hcm : curManifest d' = curManifest d)
    (ht : AllViews cfg d fun v => ∀ t ∈ v.live, lookup d'.tables t = lookup d.tables t)
    (het : j.edit = none → d'.tables = d.tables)
    (htn : d'.tables.Pairwise (fun p q => p.1 ≠ q.1)) (hmn : d'.manifests.Pairwise (fun p q => p.1 ≠ q.1))
    (hrm : ∀ v, lastView cfg d = some v →
      RemovalsOK { s with job := some { j with pc := pc' } } d' { j with pc := pc' } v) :
    Inv cfg { s with job := some { j with pc := pc' } } d' := by
  have hok := h.jobOK hj
  obtain ⟨mf, v0, v, hparts, hlv, hvl, _⟩ := h.disk.last
  have hcur := hparts.cur
  have hnr : ∀ m, j.pc ≠ .rotRemove m := by intro m hm; rw [hm] at hpost; cases hpost
  have hnr' : ∀ m, pc' ≠ .rotRemove m := by intro m hm; rw [hm] at hp'; cases hp'
  have hnbc : pc'.beforeCommit = true → False := fun hx => by rw [JPc.not_bc_of_post hp'] at hx; cases hx
  have hph := h.not_crashed hj
  have hb := h.bounds hph
  have hpf := phase_frame (d' := d') h hj pc' s.nextFile (Nat.le_refl _) hjr hc hcm hnr' hnr
    (fun hb' => (hnbc hb').elim) (fun _ _ => JPc.not_uninstalled_of_post hp')
    (fun hr => by
      rcases h.post_cases hj hpost with ⟨hl, _⟩ | ⟨he, _⟩
      · exact LimboOK.of_none hl
      · exact (h.run hr).limbo.job_pc hj { j with pc := pc' } s.nextFile rfl rfl
          (fun hx => by rw [JPc.not_retry_of_post hpost] at hx; cases hx) (Or.inl he) (het he) (Nat.le_refl _))
  have hlv' : lastView cfg d' = lastView cfg d := lastView_congr hcm
  constructor
  · exact h.disk.frame hcm hjr ht htn hmn (fun _ hx => hx) (fun _ hx => hx)
  · exact h.mm.of_same hcm hc
  · intro _
    exact hb.of_same hcm (h.seqHi_step hj rfl rfl rfl rfl (fun hb' => (hnbc hb').elim)) (Nat.le_refl _)
      (fun hr => ⟨hr, Nat.le_refl _⟩)
  · exact hpf.1
  · exact hpf.2
  · intro hcr; exact absurd hcr hph
  · show JobOK cfg _ d' { j with pc := pc' }
    obtain ⟨hsett, hjn⟩ := hok.post_facts hpost
    refine hok.late_next (JPc.late_of_post hpost) { j with pc := pc' } ⟨rfl, rfl, rfl, rfl, rfl⟩ (JPc.late_of_post hp')
      s.nextFile s.live s.stJn s.stSq s.manifestFd s.manifestOpen s.limbo (fun hx => (hnbc hx).elim) (Nat.le_refl _) hjr
      hok.one.2 ?_ (by rw [hlv', hlv]; exact hrm v hlv) (fun _ => hp') (fun _ => rfl) fun _ => ?_
    · -- behind the commit the manifest clause is the same at every pc, and looks at the manifest `CURRENT` names only
      have hs' : Settled cfg { s with job := some { j with pc := pc' } } d' (MirrorL s) := hsett.congr hcm
      cases he : j.edit with
      | none => exact hs'
      | some e => exact JobManifestOK.of_some rfl (by rw [JobManifest_post hp']; exact ⟨(hjn e he).1, hs', (hjn e he).2⟩)
    · have hcom := hok.committed (JPc.not_bc_of_post hpost)
      rw [hlv] at hcom
      rw [hlv', hlv]
      exact fun o ho => ⟨(hcom o ho).1, by rw [ht mf hcur _ (Nat.le_refl _) v hvl o.1 (hcom o ho).1]; exact (hcom o ho).2⟩

/-- the obligations of the rest of a removal list are among those of the list -/
theorem RemovalsOK.tail {v : MView} {n : Nat} {rest : List Nat} {f : List Nat → JPc} (h : RemovalsOK s d j v)
    (hf : f = .rmJ ∨ f = .rmT ∨ f = .rmM) (hpc : j.pc = f (n :: rest)) : RemovalsOK s d { j with pc := f rest } v := by
  unfold RemovalsOK at h ⊢
  rcases hf with rfl | rfl | rfl <;> rw [hpc] at h <;> simp only at h ⊢
  · exact ⟨fun m hm => h.1 m (List.mem_cons_of_mem _ hm), h.2.1, fun hk => (nomatch h.2.2.1 hk),
      fun he m hm => h.2.2.2 he m (List.mem_cons_of_mem _ hm)⟩
  · exact ⟨fun t ht => h.1 t (List.mem_cons_of_mem _ ht), fun he => (nomatch h.2 he)⟩
  · exact fun m hm => h m (List.mem_cons_of_mem _ hm)

theorem Inv.rmJournal (h : Inv cfg s d) (hj : s.job = some j) (hpost : j.pc.post = true) {n : Nat}
    (hk : ¬ (j.kind = .compaction ∨ j.kind = .tr)) (hcur : s.phase = .running → n ≠ s.jcur)
    (hv : AllViews cfg d fun v => n < v.jn ∨ ∀ p ∈ d.journals, p.1 = n → ∀ g ∈ p.2.all, g ∉ must s)
    (hmk : ∀ x, j.mkJournal = some x → n < x) : Inv cfg s { d with journals := d.journals.erase n } := by
  obtain ⟨h1, h2, h3, h4, h5, h6, h7, h8, h9, h10, h11, h12⟩ := h.jobOK hj
  refine ⟨h.disk.journal_remove n hv, h.mm, h.bounds, fun hr => ?_, fun hr => ?_, h.crashed, ?_⟩
  · refine (h.run hr).rmJ n (hcur hr) fun hfp => ?_
    unfold FlushPending at hfp
    rw [hj] at hfp
    -- while a flush is pending its frozen journal has to stay: a flush behind its commit is not pending, beside a
    -- compaction or a transaction one may be
    rcases (h.jobOK hj).kind_running hr with hkf | hkc
    · exact nomatch (JPc.not_uninstalled_of_post hpost).symm.trans (hfp hkf)
    · exact hk hkc
  · refine (h.recov hr).imp fun r hrr => hrr.rmJ n fun hnc => ?_
    unfold NoCommitYet at hnc
    rw [hj] at hnc
    exact nomatch (JPc.not_bc_of_post hpost).symm.trans hnc
  · show Holds' s.job _
    rw [hj]
    refine ⟨h1, h2, h3, h4, h5, h6, h7, ?_, ?_, h10, h11, h12⟩
    · -- the journal `newMem` made is not the removed one
      obtain hx | ⟨x, hx⟩ := Option.eq_none_or_eq_some j.mkJournal
      · exact MkJournalOK.of_none hx
      · obtain ⟨a, b, ⟨p, hp, hpx⟩, c⟩ := (MkJournalOK.late_iff hx (JPc.late_of_post hpost)).1 h8
        have hlt := hmk x hx
        exact (MkJournalOK.late_iff hx (JPc.late_of_post hpost)).2
          ⟨a, b, ⟨p, mem_erase.2 ⟨hp, by rw [hpx]; omega⟩, hpx⟩, fun q hq => c q (mem_erase.1 hq).1⟩
    · exact h9.imp fun v hv => hv.of_journals rfl (Nat.le_refl _) fun _ _ p hp hpn => ⟨p, (mem_erase.1 hp).1, hpn, id⟩

theorem inv_job_rmJ_cons (h : Inv cfg s d)
    (hj : s.job = some j) {n : Nat} {rest : List Nat} (hpc : j.pc = .rmJ (n :: rest))
    (hs : stepJob cfg s d j rot .ok = some (s', d')) : Inv cfg s' d' := by
  have hok := h.jobOK hj
  rw [stepJob_rmJ_cons hpc] at hs
  simp only [Option.some.injEq, Prod.mk.injEq] at hs
  obtain ⟨rfl, rfl⟩ := hs
  have hpost : j.pc.post = true := by rw [hpc]; rfl
  obtain ⟨mf, v0, v, hparts, hlv, hvl, _⟩ := h.disk.last
  have hrm := hok.removals
  rw [hlv] at hrm
  simp only [Holds] at hrm
  unfold RemovalsOK at hrm
  rw [hpc] at hrm
  simp only at hrm
  obtain ⟨hrmj, _, hrmc, hrme⟩ := hrm
  obtain ⟨hn1, hn2⟩ := hrmj n List.mem_cons_self
  have hbv := (h.bounds (h.not_crashed hj)).all mf hparts.cur _ (Nat.le_refl _) v hvl
  have hv : AllViews cfg d fun v1 => n < v1.jn ∨ ∀ p ∈ d.journals, p.1 = n → ∀ g ∈ p.2.all, g ∉ must s := by
    rcases hn1 with h1 | ⟨_, h1⟩
    · -- below the last view: that is the only view, or the journal is the empty frozen one
      rcases h.post_cases hj hpost with ⟨hl, _⟩ | ⟨he, _, _, jf, hrj, hst⟩
      · obtain ⟨mf', v', hcur', hun, hlv', hv0, _⟩ := h.post_view hj hpost hl
        rw [hlv] at hlv'; cases hlv'
        exact AllViews.single hcur' hun hv0 (Or.inl h1)
      · have hnjf := hrme he n List.mem_cons_self
        rw [hrj] at hnjf
        cases List.mem_singleton.1 hnjf
        exact fun _ _ _ _ _ _ => Or.inr hst
    · exact fun _ _ _ _ _ _ => Or.inr fun p hp hpn g hg => (h1 p hp hpn g hg).1
  -- the journal goes, then the pc moves on
  have h1 := h.rmJournal hj hpost (fun hk => nomatch hrmc hk)
    (fun hr => by have := hbv.2.2 hr; rcases hn1 with h1 | ⟨h1, _⟩ <;> omega) hv hn2
  exact h1.post_step (d' := { d with journals := d.journals.erase n }) hj hpost (.rmJ rest) rfl rfl rfl rfl
    (.of_forall fun _ _ _ => rfl) (fun _ => rfl) h1.disk.tnodup h1.disk.mnodup
    fun v hv => (holds_some (h1.jobOK hj).removals hv).tail (Or.inl rfl) hpc

theorem inv_job_rmJ_nil (h : Inv cfg s d)
    (hj : s.job = some j) (hpc : j.pc = .rmJ [])
    (hs : stepJob cfg s d j rot .ok = some (s', d')) : Inv cfg s' d' := by
  rw [stepJob_rmJ_nil hpc] at hs
  simp only [Option.some.injEq, Prod.mk.injEq] at hs
  obtain ⟨rfl, rfl⟩ := hs
  have hpost : j.pc.post = true := by rw [hpc]; rfl
  refine h.post_step (d' := d) hj hpost (.rmT j.rmTables) rfl rfl rfl rfl (.of_forall fun _ _ _ => rfl) (fun _ => rfl)
    h.disk.tnodup h.disk.mnodup (fun v hv => ?_)
  have hrm := (h.jobOK hj).removals
  rw [hv] at hrm
  simp only [Holds] at hrm
  unfold RemovalsOK at hrm ⊢
  rw [hpc] at hrm
  refine ⟨hrm.2.1, fun he => ?_⟩
  rcases h.post_cases hj hpost with ⟨_, hne⟩ | ⟨_, _, hrt, _⟩
  · exact absurd he hne
  · exact hrt

theorem inv_job_rmT_cons (h : Inv cfg s d)
    (hj : s.job = some j) {n : Nat} {rest : List Nat} (hpc : j.pc = .rmT (n :: rest))
    (hs : stepJob cfg s d j rot .ok = some (s', d')) : Inv cfg s' d' := by
  have hok := h.jobOK hj
  rw [stepJob_rmT_cons hpc] at hs
  simp only [Option.some.injEq, Prod.mk.injEq] at hs
  obtain ⟨rfl, rfl⟩ := hs
  have hrm := hok.removals
  have hpost : j.pc.post = true := by rw [hpc]; rfl
  obtain ⟨mf, v0, vl, hparts, hlvl, _⟩ := h.disk.last
  have hrm0 := hrm
  rw [hlvl] at hrm0
  simp only [Holds] at hrm0
  unfold RemovalsOK at hrm0
  rw [hpc] at hrm0
  simp only at hrm0
  have hsome : s.limbo = none ∧ j.edit ≠ none := by
    rcases h.post_cases hj hpost with hx | ⟨he, _⟩
    · exact hx
    · exact nomatch hrm0.2 he
  apply h.post_step (d' := { d with tables := d.tables.erase n }) hj hpost (.rmT rest) rfl rfl rfl rfl
  · obtain ⟨mf', v', hcur', hun, hlv', hv0, _⟩ := h.post_view hj hpost hsome.1
    rw [hlvl] at hlv'; cases hlv'
    refine AllViews.single hcur' hun hv0 fun t ht => ?_
    show lookup (d.tables.erase n) t = _
    rw [lookup_erase, if_neg (fun (e : t = n) => hrm0.1 n List.mem_cons_self (by rw [← e]; exact ht))]
  · exact fun he => absurd he hsome.2
  · exact pairwise_erase _ h.disk.tnodup
  · exact h.disk.mnodup
  · exact fun v hv => (holds_some hrm hv).tail (Or.inr (Or.inl rfl)) hpc

theorem inv_job_rmT_nil (h : Inv cfg s d)
    (hj : s.job = some j) (hpc : j.pc = .rmT [])
    (hs : stepJob cfg s d j rot .ok = some (s', d')) : Inv cfg s' d' := by
  rw [stepJob_rmT_nil hpc] at hs
  simp only [Option.some.injEq, Prod.mk.injEq] at hs
  obtain ⟨rfl, rfl⟩ := hs
  apply h.post_step (d' := d) hj (by rw [hpc]; rfl) _ (by split <;> rfl) rfl rfl rfl (.of_forall fun _ _ _ => rfl)
    (fun _ => rfl) h.disk.tnodup h.disk.mnodup
  intro v _
  by_cases hk : j.kind = .recovFinal
  · -- `keep`: the manifest the session holds is the one `CURRENT` names
    obtain ⟨_, _, _, hf⟩ := (h.jobOK hj).kind.recovFinal hk
    have hfd := (h.mfd hj).fd hj (by rw [hpc]; nofun) (h.limbo_none_of_not_running (by rw [hf.phase]; decide))
    simp only [RemovalsOK, if_pos hk]
    intro m hm hc
    simp only [List.mem_filter, decide_eq_true_eq] at hm
    rw [hfd, ← hc] at hm
    simp at hm
  · simp only [RemovalsOK, if_neg hk]

theorem inv_job_rmM_cons (h : Inv cfg s d)
    (hj : s.job = some j) {n : Nat} {rest : List Nat} (hpc : j.pc = .rmM (n :: rest))
    (hs : stepJob cfg s d j rot .ok = some (s', d')) : Inv cfg s' d' := by
  have hok := h.jobOK hj
  rw [stepJob_rmM_cons hpc] at hs
  simp only [Option.some.injEq, Prod.mk.injEq] at hs
  obtain ⟨rfl, rfl⟩ := hs
  obtain ⟨mf, v0, v, hparts, hlv, _⟩ := h.disk.last
  have hrm := hok.removals
  rw [hlv] at hrm
  simp only [Holds] at hrm
  unfold RemovalsOK at hrm
  rw [hpc] at hrm
  simp only at hrm
  have hms : ∀ c, d.current = some c → lookup (d.manifests.erase n) c = lookup d.manifests c := by
    intro c hc
    rw [lookup_erase, if_neg (fun e => hrm n List.mem_cons_self (by rw [hc, e]))]
  apply h.post_step (d' := { d with manifests := d.manifests.erase n }) hj (by rw [hpc]; rfl) (.rmM rest) rfl rfl rfl
    (curManifest_other hms) (.of_forall fun _ _ _ => rfl) (fun _ => rfl) h.disk.tnodup (pairwise_erase _ h.disk.mnodup)
  exact fun v' hv' => (holds_some hok.removals hv').tail (Or.inr (Or.inr rfl)) hpc

theorem inv_job_rmM_nil (h : Inv cfg s d)
    (hj : s.job = some j) (hpc : j.pc = .rmM [])
    (hs : stepJob cfg s d j rot .ok = some (s', d')) : Inv cfg s' d' := by
  rw [stepJob_rmM_nil hpc] at hs
  simp only [Option.some.injEq, Prod.mk.injEq] at hs
  obtain ⟨rfl, rfl⟩ := hs
  apply h.post_step (d' := d) hj (by rw [hpc]; rfl) .done rfl rfl rfl rfl (.of_forall fun _ _ _ => rfl)
    (fun _ => rfl) h.disk.tnodup h.disk.mnodup
  intro v _
  unfold RemovalsOK
  trivial

theorem MfdOK.nojob (hj : s.job = none) (h : s.manifestFd = d.current) : MfdOK s d := by
  unfold MfdOK; rw [hj]; exact Or.inl h

theorem Inv.done_limbo_none (h : Inv cfg s d) (hj : s.job = some j)
    (hpc : j.pc = .done) (hk : j.kind ≠ .flush) : s.limbo = none := by
  rcases h.post_cases hj (by rw [hpc]; rfl) with ⟨hl, _⟩ | ⟨_, hkf, _⟩
  · exact hl
  · exact absurd hkf hk

theorem LimboOK.finish {s s' : St} {d : Disk} (h : LimboOK s d) {j : Job} (hj : s.job = some j)
    (hnret : j.pc.retry = false) (hj' : s'.job = none) (el : s'.limbo = s.limbo)
    (ef : s'.manifestFailed = s.manifestFailed) (ejn : s'.stJn = s.stJn) (esq : s'.stSq = s.stSq)
    (elive : s'.live = s.live) (eseq : s'.seq = s.seq) (hm : ∀ g ∈ must s', g ∈ must s)
    (enf : s'.nextFile = s.nextFile) : LimboOK s' d := by
  refine h.mono el ef ejn esq elive (fun _ _ => rfl) (fun _ => by rw [hj']; trivial) fun u k => .inr (k.elim (fun k => ?_) fun k => ?_)
  · rw [hj] at k
    obtain ⟨_, k2⟩ : j.edit = some u ∧ j.pc.retry = true := k
    rw [hnret] at k2; cases k2
  · exact k.mono (Nat.le_of_eq enf.symm) (Nat.le_of_eq eseq.symm) (fun g hg => Or.inl (hm g hg)) (fun _ _ _ _ => rfl)
      (fun _ _ _ => by rw [hj']; trivial)

theorem Inv.bounds_done (h : Inv cfg s d) (hj : s.job = some j)
    (hk : j.kind ≠ .tr) (hj' : s'.job = none) (e1 : s'.seq = s.seq) (e2 : s'.nextFile = s.nextFile)
    (e3 : s'.phase = s.phase) (e4 : s'.jcur = s.jcur) : ViewBounds cfg s' d :=
  (h.bounds (h.not_crashed hj)).of_same rfl
    (seqHi_le_of_not_window (not_trWindow_of_kind hj hk) (not_trWindow_of_nojob hj') (Nat.le_of_eq e1.symm))
    (Nat.le_of_eq e2.symm) (fun hr => ⟨by rw [← e3]; exact hr, Nat.le_of_eq e4.symm⟩)

/-- a memdb flush ends, with its edit installed or — the frozen buffer was empty — without one; in the second case
    the storage may be one edit ahead of the session -/
theorem inv_done_flush (h : Inv cfg s d) (hj : s.job = some j)
    (hpc : j.pc = .done) (hk : j.kind = .flush) : Inv cfg (finishJob s j) d := by
  have hok := h.jobOK hj
  have hpost : j.pc.post = true := by rw [hpc]; rfl
  have hsett : Settled cfg s d (MirrorL s) := (hok.post_facts hpost).1
  obtain ⟨mf, v0, hparts⟩ := h.disk.parts
  obtain ⟨fz, jf, hfl⟩ := hok.kind.flush hk
  have hedit := hfl.edit
  have hnr : ∀ m, j.pc ≠ .rotRemove m := by rw [hpc]; intro m hm; cases hm
  unfold finishJob
  rw [hk]
  simp only
  refine Inv.of_running hfl.phase h.disk h.mm
    (h.bounds_done hj (by rw [hk]; exact fun hx => nomatch hx) rfl rfl rfl rfl rfl) ?_ trivial
  obtain ⟨r1, r2, r3, r4, r5, r6, r7, r8, r9, r10⟩ := h.run hfl.phase
  refine ⟨⟨r1.1, Holds'.imp (o := s.tr) r1.2 (fun g hg => ⟨hg.1, hg.2.1, rfl, hg.2.2.2⟩)⟩,
    ⟨r2.1.transport (by rw [hj]; intro m hm; exact hnr m (Option.some.inj hm)) (by intro m hm; cases hm) rfl rfl rfl,
      r2.2⟩, r3, r4, r5, r6, frozenOK_iff.2 (Or.inl ⟨rfl, rfl⟩), ?_, fun _ => hsett,
    r10.finish hj (by rw [hpc]; rfl) rfl rfl rfl rfl rfl rfl rfl (fun _ hx => hx) rfl⟩
  apply holds_of_some hparts.cur
  apply holds_of_some hparts.hv0
  intro p hp hjn0
  have q1 := holds_some r8 hparts.cur
  have q2 := holds_some q1 hparts.hv0
  rcases q2 p hp hjn0 with h1 | h1 | h1
  · exact Or.inl h1
  · -- the frozen journal: behind the commit no view replays it; without a commit it is empty
    obtain ⟨f1, f2, _, _, f5, _⟩ := r7.get hfl.frozen hfl.jfrozen
    rw [hfl.jfrozen] at h1; cases h1
    rcases hedit with ⟨e, he, _, hejn, _⟩ | ⟨_, hfz0, _⟩
    · exfalso
      have hl := h.limbo_none_of_post hj he (JPc.not_bc_of_post hpost)
      obtain ⟨mf', v, hcur, _, _, hv0', _, _, hjn⟩ := h.post_view hj hpost hl
      rw [hparts.cur] at hcur; cases hcur
      rw [hparts.hv0] at hv0'; cases hv0'
      have := hjn e he s.jcur hejn
      omega
    · subst hfz0
      exact Or.inr (Or.inr ((f5 p hp rfl).stale f2))
  · exact Or.inr (Or.inr h1)

theorem inv_done_recovMid (h : Inv cfg s d) (hj : s.job = some j)
    (hpc : j.pc = .done) (hk : j.kind = .recovMid) : Inv cfg (finishJob s j) d := by
  have hl : s.limbo = none := h.done_limbo_none hj hpc (by rw [hk]; exact fun hx => nomatch hx)
  obtain ⟨mf, v, hcur, hun, hlv, hv0, hmir, hfd, hjn⟩ := h.post_view hj (by rw [hpc]; rfl) hl
  obtain ⟨r, o, n, e, hm⟩ := (h.jobOK hj).kind.recovMid hk
  have hn := hm.todo
  obtain ⟨r', hr', hrec⟩ := h.recOK hm.phase
  rw [hm.recov] at hr'; cases hr'
  have hvjn : v.jn = n := hjn e hm.edit n hm.jn
  have hon : o < n := hrec.ofdLt o hm.ofd n (List.mem_of_mem_head? hn)
  unfold finishJob
  rw [hk]
  simp only
  refine Inv.of_recovering hm.phase h.disk h.mm
    (h.bounds_done hj (by rw [hk]; exact fun hx => nomatch hx) rfl rfl rfl rfl rfl) ?_ trivial
  rw [hm.recov]
  simp only [Option.map_some, Holds]
  obtain ⟨r1, r2, r3, r4, r5, r6, r7, r8, r9, r10⟩ := hrec
  refine ⟨MfdOK.nojob rfl hfd, r2, r3, (fun o' ho' => by cases ho'), r5, r6, ?_, fun _ => ?_, ?_,
    (fun o' ho' => by cases ho')⟩
  · show MdbOK _ d { r with ofd := none, mdb := [] }
    unfold MdbOK
    rfl
  · exact .intro hcur (fun _ _ => hun) hlv ⟨hmir, (fun o' ho' => by cases ho')⟩
  · rw [hlv] at r9 ⊢
    refine ⟨fun p hp hge => ?_, r9.2⟩
    rcases r9.1 p hp hge with h1 | h1 | h1
    · exact Or.inl h1
    · rw [hm.ofd] at h1; cases h1
      have : v.jn ≤ p.1 := hge
      omega
    · exact Or.inr (Or.inr h1)

theorem inv_done_recovFinal (h : Inv cfg s d) (hj : s.job = some j)
    (hpc : j.pc = .done) (hk : j.kind = .recovFinal) : Inv cfg (finishJob s j) d := by
  have hok := h.jobOK hj
  have hl : s.limbo = none := h.done_limbo_none hj hpc (by rw [hk]; exact fun hx => nomatch hx)
  obtain ⟨mf, v, hcur, hun, hlv, hv0, hmir, hfd, hjn⟩ := h.post_view hj (by rw [hpc]; rfl) hl
  obtain ⟨_, n, e, hf⟩ := hok.kind.recovFinal hk
  obtain ⟨r, hr, hrec⟩ := h.recOK hf.phase
  have hvjn : v.jn = n := hjn e hf.edit n hf.jn
  obtain ⟨hnlt, hjc, ⟨pn, hpn, hpnn⟩, hall⟩ :=
    (MkJournalOK.late_iff hf.mkJournal (by rw [hpc]; exact ⟨nofun, rfl⟩)).1 hok.mkj
  have hbv := (h.bounds (h.not_crashed hj)).all mf hcur 0 (Nat.zero_le _) v hv0
  unfold finishJob
  rw [hk]
  simp only
  refine Inv.of_running rfl ?_ h.mm ?_ ?_ trivial
  · apply h.disk.mono _ (fun _ hx => hx)
    intro x hx
    rw [must_eq] at hx ⊢
    rw [hrec.idle.1]
    exact hx
  · apply ViewBounds.single hcur hun hv0
    rw [seqHi_eq (not_trWindow_of_kind hj (by rw [hk]; exact fun hx => nomatch hx))] at hbv
    rw [seqHi_eq (not_trWindow_of_nojob rfl)]
    exact ⟨hbv.1, hbv.2.1, fun _ => by rw [hvjn, hjc]; exact Nat.le_refl _⟩
  · refine ⟨⟨rfl, by unfold TrOK; show Holds' s.tr _; rw [hrec.idle.2.2.1]; trivial⟩,
      ⟨MfdOK.nojob rfl hfd, h.post_open hj (by rw [hpc]; rfl)⟩, ?_, ?_,
      ⟨fun p hp => Or.inl (hrec.nums.1 p hp), hrec.nums.2.1⟩, ?_, frozenOK_iff.2 (Or.inl ⟨rfl, rfl⟩), ?_,
      fun _ => (hok.post_facts (by rw [hpc]; rfl)).1, LimboOK.of_none hl⟩
    · show Holds (lookup d.journals s.jcur) _
      have hl : lookup d.journals pn.1 = some pn.2 :=
        lookup_of_mem (sorted_nodup h.disk.jsorted) (by cases pn; exact hpn)
      rw [hjc, ← hpnn, hl]
      have hemp : pn.2.all = [] := by
        rcases hall pn hpn with h1 | ⟨_, h1⟩
        · omega
        · exact h1
      show JournalHolds _ pn.2 ([] ++ inflight .idle) s.seq
      rw [JournalHolds, hemp]
      exact ⟨fun x hx => (by cases hx), fun x hx => (by cases hx), fun x hx => (by cases hx),
        fun _ x hx => (by cases hx)⟩
    · refine ⟨by show s.jcur < s.nextFile; rw [hjc]; exact hnlt, fun p hp => Or.inl ?_⟩
      show p.1 ≤ s.jcur
      rw [hjc]
      rcases hall p hp with h1 | ⟨h1, _⟩
      · exact Nat.le_of_lt h1
      · exact Nat.le_of_eq h1
    · exact .of_quiet rfl fun x hx => nomatch hx
    · apply holds_of_some hcur
      apply holds_of_some hv0
      intro p hp hge
      rcases hall p hp with h1 | ⟨h1, _⟩
      · omega
      · exact Or.inl (by rw [hjc]; exact h1)

theorem inv_done_compaction (h : Inv cfg s d) (hj : s.job = some j)
    (hpc : j.pc = .done) (hk : j.kind = .compaction) : Inv cfg (finishJob s j) d := by
  have hok := h.jobOK hj
  have hl : s.limbo = none := h.done_limbo_none hj hpc (by rw [hk]; exact fun hx => nomatch hx)
  obtain ⟨_, _, _, _, _, _, _, hfd, _⟩ := h.post_view hj (by rw [hpc]; rfl) hl
  have hph := (hok.kind.compaction hk).phase
  have hfp : FlushPending s := by
    unfold FlushPending; rw [hj]; intro hf; rw [hk] at hf; cases hf
  unfold finishJob
  rw [hk]
  simp only
  refine Inv.of_running hph h.disk h.mm
    (h.bounds_done hj (by rw [hk]; exact fun hx => nomatch hx) rfl rfl rfl rfl rfl) ?_ trivial
  obtain ⟨r1, r2, r3, r4, r5, r6, r7, r8, r9, _⟩ := h.run hph
  refine ⟨r1, ⟨MfdOK.nojob rfl hfd, r2.2⟩, r3, r4, r5, r6, ?_, r8, fun _ => (hok.post_facts (by rw [hpc]; rfl)).1,
    LimboOK.of_none hl⟩
  exact r7.imp rfl rfl fun fz jf _ _ ⟨f1, f2, f3, f4, f5, f6⟩ => ⟨f1, f2, f3, f4, f5, fun _ => f6 hfp⟩

/-- `db.setSeq(tr.seq)`: the transaction is acknowledged -/
theorem inv_done_tr (h : Inv cfg s d) (hj : s.job = some j)
    (hpc : j.pc = .done) (hk : j.kind = .tr) : Inv cfg (finishJob s j) d := by
  have hok := h.jobOK hj
  have hl : s.limbo = none := h.done_limbo_none hj hpc (by rw [hk]; exact fun hx => nomatch hx)
  obtain ⟨mf, v, hcur, hun, hlv, hv0, hmir, hfd, hjn⟩ := h.post_view hj (by rw [hpc]; rfl) hl
  obtain ⟨g, e, ht⟩ := hok.kind.tr hk
  have hrun := h.run ht.phase
  have hb := h.bounds_of ht.phase
  obtain ⟨hw, hmem, hfz, hgs, hgsync⟩ := hrun.tr_open ht.tr
  have hfin := Grp.seq_lt_fin ht.recs
  have hbv := hb.all mf hcur 0 (Nat.zero_le _) v hv0
  rw [seqHi_post hj (by rw [hpc]; rfl)] at hbv
  rw [sqCap_tr hk ht.tr] at hbv
  -- the transaction's table is live in the (only) view
  have hcom := hok.committed (by rw [hpc]; rfl)
  rw [hlv] at hcom
  have hcom : ∀ o ∈ j.outs, o.1 ∈ v.live ∧ lookup d.tables o.1 = some ⟨o.2, true, false⟩ := hcom
  have hglive : g ∈ liveGrps d v := by
    obtain ⟨h1, h2⟩ := hcom (e.added.headD 0, [g]) (by rw [ht.outs]; exact List.mem_singleton.2 rfl)
    refine List.mem_flatMap.2 ⟨_, h1, ?_⟩
    simp only [tableGrpsOf, h2, Option.map_some, Option.getD_some, List.mem_singleton]
  have hold := rel_groups_old h.disk hrun (by rw [hw]; rfl) (by rw [hmem]; intro x hx; cases hx)
  have hmust' : ∀ s' : St, ∀ x ∈ must s', s'.w = .idle → s'.issued = setStatus g .acked s.issued → x ∈ must s ∨ x = g := by
    intro s' x hx hw' hi'
    rw [must_eq] at hx ⊢
    simp only [hw, hw', hi', List.append_nil] at hx ⊢
    rcases mem_ackedSync_setStatus hx with h1 | ⟨rfl, _⟩
    · exact Or.inl h1
    · exact Or.inr rfl
  have hq : s.seq ≤ g.fin - 1 := by omega
  have hmg : ∀ s' : St, s'.w = .idle → s'.issued = setStatus g .acked s.issued → MustGrows s s' :=
    fun s' hw' hi' x hx => (hmust' s' x hx hw' hi').imp id fun hxg => by rw [hxg]; omega
  unfold finishJob
  rw [hk]
  simp only [ht.tr]
  refine Inv.of_running ht.phase ?_ h.mm ?_ ?_ trivial
  · apply h.disk.mono_cover
    · intro x hx
      rcases hmust' _ x hx hw rfl with h1 | rfl
      · exact Or.inl h1
      · right
        refine AllViews.single hcur hun hv0 ⟨Or.inl hglive, fun p hp hxp => ?_⟩
        have := hold mf hcur 0 (Nat.zero_le _) v hv0 p hp x hxp
        omega
    · intro x hx
      simp only [issuedGrps, issuedGrps_setStatus] at hx ⊢
      exact hx
  · apply ViewBounds.single hcur hun hv0
    rw [seqHi_eq (not_trWindow_of_nojob rfl)]
    exact ⟨hbv.1, hbv.2.1, hbv.2.2⟩
  · obtain ⟨r1, r2, r3, r4, r5, r6, r7, r8, r9, _⟩ := hrun
    refine ⟨⟨r1.1, trivial⟩, ⟨MfdOK.nojob rfl hfd, r2.2⟩, ?_, r4, r5, ?_, ?_, ?_, fun _ => ?_, LimboOK.of_none hl⟩
    · refine r3.imp (fun jf hjf => ?_)
      rw [hmem, hw] at hjf ⊢
      exact hjf.mono hq (fun x hx => nomatch hx) (fun x hx => Or.inl hx) (fun x hx => nomatch hx)
        (fun x hx => (hmg _ rfl rfl x hx).imp id Or.inr) id
    rotate_left 2
    · exact r8.imp fun mf1 hmf1 => hmf1.imp fun v1 hv1 p hp hge =>
        (hv1 p hp hge).imp id (Or.imp id fun h1 => ⟨h1.1.mono hq (hmg _ hw rfl), h1.2⟩)
    rotate_left 1
    · show WSeqOK _
      unfold WSeqOK
      rw [hw]
      simp only [hmem]
      intro x hx; cases hx
    · exact r7.imp rfl rfl fun _ _ h1 _ _ => by rw [hfz] at h1; cases h1
    · exact (hok.post_facts (by rw [hpc]; rfl)).1

theorem inv_job_done (h : Inv cfg s d)
    (hj : s.job = some j) (hpc : j.pc = .done)
    (hs : stepJob cfg s d j rot .ok = some (s', d')) : Inv cfg s' d' := by
  rw [stepJob_done hpc] at hs
  simp only [Option.some.injEq, Prod.mk.injEq] at hs
  obtain ⟨rfl, rfl⟩ := hs
  cases hk : j.kind
  · exact inv_done_flush h hj hpc hk
  · exact inv_done_recovMid h hj hpc hk
  · exact inv_done_recovFinal h hj hpc hk
  · exact inv_done_compaction h hj hpc hk
  · exact inv_done_tr h hj hpc hk

theorem inv_job_mkJournal (h : Inv cfg s d)
    (hj : s.job = some j) (hpc : j.pc = .mkJournal)
    (hs : stepJob cfg s d j rot .ok = some (s', d')) : Inv cfg s' d' := by
  have hok := h.jobOK hj
  obtain ⟨e, he⟩ := hok.edit_some (by rw [hpc]; rfl)
  cases hn : j.mkJournal with
  | none => simp [stepJob, hpc, hn] at hs
  | some n =>
    rw [stepJob_mkJournal hpc hn (by rw [he]; rfl)] at hs
    simp only [Option.some.injEq, Prod.mk.injEq] at hs
    obtain ⟨rfl, rfl⟩ := hs
    -- only the last commit of a recovery makes a journal
    obtain ⟨hk, hph, _⟩ := hok.kind.of_mkJournal hn
    obtain ⟨r, hr, hrec⟩ := h.recOK hph
    have hb := h.bounds_of hph
    obtain ⟨hnlt, hall⟩ := hok.mkj.early hn (Or.inl hpc)
    have hnd := sorted_nodup h.disk.jsorted
    have hnr : ∀ m, j.pc ≠ .rotRemove m := by rw [hpc]; intro m hm; cases hm
    have hl : s.limbo = none := h.limbo_none_of_not_running (by rw [hph]; decide)
    have hfd := (h.mfd hj).fd hj hnr hl
    let j' : Job := { j with pc := .append }
    let d1 : Disk := { d with journals := d.journals.set n {} }
    have hmem : ∀ p, p ∈ d1.journals ↔ p = (n, {}) ∨ (p ∈ d.journals ∧ p.1 ≠ n) := fun p => mem_set hnd
    have hnc : NoCommitYet s := .of_job hj (by rw [hpc]; rfl)
    have hsett := hok.settled_early he (by rw [hpc]; rfl)
    refine Inv.of_recovering hph (h.disk.journal_create n hall) (h.mm.of_same rfl rfl) ?_ ?_ ?_
    · exact hb.of_same rfl (h.seqHi_step hj rfl rfl rfl rfl (fun _ => by rw [hpc]; rfl)) (Nat.le_refl _) (fun hr' => by
        have : s.phase = .running := hr'
        rw [hph] at this; cases this)
    · show Holds s.recov _
      rw [hr]
      simp only [Holds]
      obtain ⟨r1, r2, r3, r4, r5, r6, r7, r8, r9, r10⟩ := hrec
      have hnc' : NoCommitYet { s with jcur := n, job := some j' } → NoCommitYet s := fun _ => hnc
      refine ⟨MfdOK.of_fd (j := j') rfl (by intro x hx; cases hx) hfd, r2, r3, r4, ⟨?_, r5.2⟩, ?_, ?_, ?_, ?_, r10⟩
      · intro p hp
        rcases (hmem p).1 hp with rfl | ⟨hp0, _⟩
        · exact hnlt
        · exact r5.1 p hp0
      · intro p hp hpt g hg
        rcases (hmem p).1 hp with rfl | ⟨hp0, _⟩
        · cases hg
        · exact r6 p hp0 hpt g hg
      · unfold MdbOK at r7 ⊢
        split
        · rename_i o ho
          rw [ho] at r7
          simp only at r7
          refine ⟨fun p hp hpo => ?_, r7.2.1, fun _ => ⟨?_, (r7.2.2 hnc).2⟩⟩
          · rcases (hmem p).1 hp with rfl | ⟨hp0, _⟩
            · rcases (r7.2.2 hnc).1 with ⟨q, hq, hqo⟩ | hemp
              · have := hall q hq
                simp only at hpo
                omega
              · rw [hemp]; exact ⟨fun g hg => (by cases hg), fun g hg => (by cases hg)⟩
            · exact r7.1 p hp0 hpo
          · rcases (r7.2.2 hnc).1 with ⟨q, hq, hqo⟩ | hemp
            · exact Or.inl ⟨q, (hmem q).2 (Or.inr ⟨hq, by have := hall q hq; omega⟩), hqo⟩
            · exact Or.inr hemp
        · rename_i ho; rw [ho] at r7; exact r7
      · intro _
        exact r8 hnc
      · have : lastView cfg d1 = lastView cfg d := rfl
        rw [this]
        refine r9.imp (fun v hv => ⟨fun p hp hge => ?_, hv.2⟩)
        rcases (hmem p).1 hp with rfl | ⟨hp0, _⟩
        · exact Or.inr (Or.inr rfl)
        · exact hv.1 p hp0 hge
    · show JobOK cfg _ d1 j'
      obtain ⟨h1, h2, h3, h4, h5, h6, h7, h8, h9, h10, h11, h12⟩ := hok
      refine ⟨h1, ?_, ?_, ⟨h4.1, fun _ => (h4.2 (by rw [hpc]; rfl)).imp (fun mf hmf k hk => (hmf k hk).imp
        (fun v hv => ⟨fun o ho => Or.inl ((hv.1 o ho).resolve_right (fun hx => by
          have := hx.2.1; rw [hl] at this; cases this)), hv.2⟩))⟩, h5, ?_, trivial, ?_, ?_, (fun hx => by
        have : j.edit = none := hx
        rw [he] at this; cases this), ?_, (fun hx => by cases hx)⟩
      rotate_right
      · exact Holds'.imp (o := j.edit) h11 (fun e0 he0 => he0.transport (j' := j') rfl rfl (fun _ => rfl)
          (fun _ => by rw [hpc]; rfl) (fun _ => rfl) (fun _ _ _ => rfl))
      · exact h2.transport (j' := j') rfl rfl rfl (fun hf => by rw [hk] at hf; cases hf) rfl rfl rfl rfl rfl rfl rfl rfl rfl
          rfl (fun _ => rfl)
      · refine JobManifestOK.of_some he ?_
        show JobManifest cfg _ d1 e .append
        exact hsett
      · intro i o hio
        have := h6 i o hio
        unfold OutOK at this ⊢
        rw [hpc] at this
        exact this
      · refine (MkJournalOK.late_iff (j := j') hn ⟨nofun, rfl⟩).2
          ⟨hnlt, rfl, ⟨(n, {}), (hmem _).2 (Or.inl rfl), rfl⟩, fun p hp => ?_⟩
        rcases (hmem p).1 hp with rfl | ⟨hp0, _⟩
        · exact Or.inr ⟨rfl, rfl⟩
        · exact Or.inl (hall p hp0)
      · have : lastView cfg d1 = lastView cfg d := rfl
        rw [this]
        exact h9.imp (fun v _ => RemovalsOK_of_not_post (j := j') rfl)

end GoLevel.Dur

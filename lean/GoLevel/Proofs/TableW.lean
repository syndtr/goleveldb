import GoLevel.Model.Table
import GoLevel.Proofs.Block
import GoLevel.Proofs.FilterP
/-! Writer side of C13: the shape of the file `Table.write` produces, and what its filter writer was fed
(the data blocks with their end offsets). -/
namespace GoLevel.C13
open GoLevel BlockWriter TableWriter

def firstKeyD (l : List KV) : Bytes := (l.head?.map (·.1)).getD []

/-- the index key stored for a block whose last key is `last` when the next appended key is `next`
(`[]` when `Close` flushes the last block — and, as in the code, also for an empty next key) -/
def ixKey (cfg : TableCfg) (last next : Bytes) : Bytes :=
  (if next.isEmpty then cfg.succ last else cfg.sep last next).getD last

def blockBytes (cfg : TableCfg) (c : List KV) : Bytes :=
  withTrailer cfg.cksum (Block.build cfg.restartInterval c)

def dataBytes (cfg : TableCfg) (cs : List (List KV)) : Bytes := (cs.map (blockBytes cfg)).flatten

/-- index entries for the data blocks `cs` laid out from offset `off`, when `tl` is what follows them -/
def ixE (cfg : TableCfg) : Nat → List (List KV) → List KV → List KV
  | _, [], _ => []
  | off, c :: rest, tl =>
    (ixKey cfg (lastKeyD [] c) (firstKeyD (rest.flatten ++ tl)),
      BH.encode ⟨off, (Block.build cfg.restartInterval c).length⟩)
      :: ixE cfg (off + (blockBytes cfg c).length) rest tl

theorem ixE_length (cfg : TableCfg) (tl : List KV) : ∀ (cs : List (List KV)) (off : Nat),
    (ixE cfg off cs tl).length = cs.length := by
  intro cs
  induction cs with
  | nil => intro off; rfl
  | cons c rest ih => intro off; simp [ixE, ih]

theorem dataBytes_snoc (cfg : TableCfg) (cs : List (List KV)) (c : List KV) :
    dataBytes cfg (cs ++ [c]) = dataBytes cfg cs ++ blockBytes cfg c := by
  simp [dataBytes]

theorem ixE_append (cfg : TableCfg) (a b : List (List KV)) (tl : List KV) : ∀ off,
    ixE cfg off (a ++ b) tl = ixE cfg off a (b.flatten ++ tl) ++ ixE cfg (off + (dataBytes cfg a).length) b tl := by
  induction a with
  | nil => intro off; simp [ixE, dataBytes]
  | cons c rest ih =>
    intro off
    simp only [List.cons_append, ixE, ih, List.flatten_append, List.append_assoc]
    simp [dataBytes, Nat.add_assoc]

theorem ixE_snoc (cfg : TableCfg) (cs : List (List KV)) (c tl : List KV) (off : Nat) :
    ixE cfg off (cs ++ [c]) tl = ixE cfg off cs (c ++ tl) ++
      [(ixKey cfg (lastKeyD [] c) (firstKeyD tl),
        BH.encode ⟨off + (dataBytes cfg cs).length, (Block.build cfg.restartInterval c).length⟩)] := by
  rw [ixE_append]; simp [ixE]

theorem firstKeyD_append_ne (a b : List KV) (h : a ≠ []) : firstKeyD (a ++ b) = firstKeyD a := by
  cases a with
  | nil => exact absurd rfl h
  | cons x t => rfl

theorem ixE_congr (cfg : TableCfg) (cs : List (List KV)) (tl tl' : List KV) (hne : ∀ c ∈ cs, c ≠ [])
    (hk : cs ≠ [] → firstKeyD tl = firstKeyD tl') : ∀ off, ixE cfg off cs tl = ixE cfg off cs tl' := by
  induction cs with
  | nil => intro off; rfl
  | cons a t ih =>
    intro off
    have hk := hk (List.cons_ne_nil a t)
    have iht := ih (fun c hc => hne c (List.mem_cons_of_mem _ hc)) fun _ => hk
    simp only [ixE, iht]
    congr 3
    cases t with
    | nil => simpa using hk
    | cons b t' =>
      have hb : b ≠ [] := hne b (by simp)
      simp only [List.flatten_cons, List.append_assoc]
      rw [firstKeyD_append_ne _ _ hb, firstKeyD_append_ne _ _ hb]

theorem WState.finish {ri : Nat} {w : BlockWriter} {done : List KV} (h : WState ri w done) :
    w.finish = Block.build ri done :=
  h.finish_eq.trans (build_eq ri done).symm

theorem WState.reset {ri : Nat} {w : BlockWriter} {done : List KV} (h : WState ri w done) :
    WState ri w.reset [] :=
  ⟨h.ri_eq, rfl, rfl, by simp, rfl⟩

theorem build_length_pos (ri : Nat) (kvs : List KV) : 0 < (Block.build ri kvs).length := by
  rw [build_length]; omega

/-- the writer between two `Append`s: finished chunks `cs` (the last one possibly still pending in the index),
current block contents `cur` -/
structure TInv (cfg : TableCfg) (w : TableWriter) (cs : List (List KV)) (cur : List KV) : Prop where
  out : w.out = dataBytes cfg cs
  data : WState cfg.restartInterval w.data cur
  ne : ∀ c ∈ cs, c ≠ []
  n : w.nEntries = cs.flatten.length + cur.length
  idx : (w.pending.length = 0 ∧ WState 1 w.index (ixE cfg 0 cs cur) ∧ (cs ≠ [] → cur ≠ [])) ∨
        (w.pending.length ≠ 0 ∧ cur = [] ∧ ∃ cs' c, cs = cs' ++ [c] ∧ WState 1 w.index (ixE cfg 0 cs' c) ∧
          w.pending = ⟨(dataBytes cfg cs').length, (Block.build cfg.restartInterval c).length⟩ ∧
          w.data.prevKey = lastKeyD [] c)

/-- the writer inside `Append`, after `flushPendingBH` -/
structure MidInv (cfg : TableCfg) (w : TableWriter) (cs : List (List KV)) (cur tl : List KV) : Prop where
  out : w.out = dataBytes cfg cs
  data : WState cfg.restartInterval w.data cur
  ne : ∀ c ∈ cs, c ≠ []
  n : w.nEntries = cs.flatten.length + cur.length
  pend : w.pending.length = 0
  idx : WState 1 w.index (ixE cfg 0 cs (cur ++ tl))

theorem TInv.new (cfg : TableCfg) : TInv cfg (TableWriter.new cfg) [] [] :=
  ⟨rfl, WState.fresh _ _, by simp, rfl, Or.inl ⟨rfl, WState.fresh 1 [], by simp⟩⟩

theorem lastKeyD_ne (p : Bytes) (l : List KV) (h : l ≠ []) : lastKeyD p l = lastKeyD [] l := by
  unfold lastKeyD
  rcases hl : l.getLast? with _ | x
  · simp at hl; exact absurd hl h
  · simp

/-- `flushPendingBH(key)` at the start of `Append(key, _)` / in `Close` (`tl = []`) -/
theorem TInv.flush {cfg : TableCfg} {w : TableWriter} {cs : List (List KV)} {cur : List KV}
    (h : TInv cfg w cs cur) (tl : List KV) :
    MidInv cfg (flushPendingBH cfg w (firstKeyD tl)) cs cur tl := by
  rcases h.idx with ⟨hp, hix, hne⟩ | ⟨hp, hcur, cs', c, hcs, hix, hpend, hprev⟩
  · have : flushPendingBH cfg w (firstKeyD tl) = w := by simp [flushPendingBH, hp]
    rw [this]
    refine ⟨h.out, h.data, h.ne, h.n, hp, ?_⟩
    rw [ixE_congr cfg cs (cur ++ tl) cur h.ne fun hcs => firstKeyD_append_ne _ _ (hne hcs)]
    exact hix
  · subst hcur
    -- the pending handle goes to the index under the separator / successor of the last key of its block
    have e : flushPendingBH cfg w (firstKeyD tl) =
        { w with index := w.index.append (ixKey cfg w.data.prevKey (firstKeyD tl)) w.pending.encode,
                 data := { w.data with prevKey := [] }, pending := ⟨0, 0⟩ } := by
      simp only [flushPendingBH, hp, if_false]; rfl
    have hd := h.data
    have hc : c ≠ [] := h.ne c (by rw [hcs]; simp)
    rw [e]
    refine ⟨h.out, ⟨hd.ri_eq, hd.buf, hd.n, by simp, hd.restarts⟩, h.ne, h.n, rfl, ?_⟩
    show WState 1 (w.index.append (ixKey cfg w.data.prevKey (firstKeyD tl)) w.pending.encode) (ixE cfg 0 cs ([] ++ tl))
    rw [hprev, hcs, List.nil_append, ixE_snoc, Nat.zero_add, ← hpend,
      ixE_congr cfg cs' (c ++ tl) c (fun x hx => h.ne x (by rw [hcs]; simp [hx])) fun _ => firstKeyD_append_ne _ _ hc]
    exact hix.append _ _

/-- the writer inside `Append(k, v)` once the pair is in the data block and in the filter, before the block-cut
decision (`finishBlock` does not look at the entry count, so it may be bumped first) -/
def pushed (cfg : TableCfg) (w : TableWriter) (k v : Bytes) : TableWriter :=
  let w1 := flushPendingBH cfg w k
  { w1 with
    data := w1.data.append k v
    filt := match cfg.filter with
      | none => w1.filt
      | some _ => w1.filt.add k
    nEntries := w1.nEntries + 1 }

theorem append_eq (cfg : TableCfg) (w : TableWriter) (k v : Bytes) :
    w.append cfg k v = pushed cfg w k v ∨ w.append cfg k v = finishBlock cfg (pushed cfg w k v) := by
  unfold TableWriter.append
  simp only
  split
  · exact Or.inr rfl
  · exact Or.inl rfl

theorem TInv.pushed {cfg : TableCfg} {w : TableWriter} {cs : List (List KV)} {cur : List KV}
    (h : TInv cfg w cs cur) (k v : Bytes) : TInv cfg (pushed cfg w k v) cs (cur ++ [(k, v)]) := by
  have hm : MidInv cfg (flushPendingBH cfg w k) cs cur [(k, v)] := h.flush [(k, v)]
  refine ⟨hm.out, hm.data.append k v, hm.ne, ?_, Or.inl ⟨hm.pend, hm.idx, fun _ => by simp⟩⟩
  show (flushPendingBH cfg w k).nEntries + 1 = _
  rw [hm.n, List.length_append, List.length_singleton, Nat.add_assoc]

theorem TInv.finishBlock {cfg : TableCfg} {w : TableWriter} {cs : List (List KV)} {cur : List KV}
    (h : TInv cfg w cs cur) (hcur : cur ≠ []) : TInv cfg (finishBlock cfg w) (cs ++ [cur]) [] := by
  rcases h.idx with ⟨hp, hix, _⟩ | ⟨_, hc, _⟩
  · have hfin := h.data.finish
    refine ⟨?_, h.data.reset, ?_, ?_, Or.inr ⟨?_, rfl, cs, cur, rfl, hix, ?_, h.data.prev hcur⟩⟩
    · simp [TableWriter.finishBlock, writeBlock, hfin, h.out, dataBytes_snoc, blockBytes]
    · intro c hc
      rcases List.mem_append.mp hc with hc | hc
      · exact h.ne c hc
      · rw [List.mem_singleton.mp hc]; exact hcur
    · simp [TableWriter.finishBlock, writeBlock, h.n]
    · have := build_length_pos cfg.restartInterval cur
      simp only [TableWriter.finishBlock, blockBH, hfin]
      omega
    · simp [TableWriter.finishBlock, blockBH, hfin, h.out]
  · exact absurd hc hcur

theorem TInv.append {cfg : TableCfg} {w : TableWriter} {cs : List (List KV)} {cur : List KV}
    (h : TInv cfg w cs cur) (k v : Bytes) :
    ∃ cs' cur', TInv cfg (w.append cfg k v) cs' cur' ∧ cs'.flatten ++ cur' = cs.flatten ++ cur ++ [(k, v)] := by
  rcases append_eq cfg w k v with e | e <;> rw [e]
  · exact ⟨_, _, h.pushed k v, by simp⟩
  · exact ⟨_, _, (h.pushed k v).finishBlock (by simp), by simp⟩

def metaKVs (cfg : TableCfg) (dataLen : Nat) (fb : Option Bytes) : List KV :=
  match cfg.filter, fb with
  | some pol, some b => [(filterMetaKey pol, BH.encode ⟨dataLen, b.length⟩)]
  | _, _ => []

def filterSection (cfg : TableCfg) (fb : Option Bytes) : Bytes :=
  match fb with
  | none => []
  | some b => withTrailer cfg.cksum b

def tableFile (cfg : TableCfg) (cs : List (List KV)) (fb : Option Bytes) : Bytes :=
  let data := dataBytes cfg cs
  let fsec := filterSection cfg fb
  let metaB := Block.build cfg.restartInterval (metaKVs cfg data.length fb)
  let ixB := Block.build 1 (ixE cfg 0 cs [])
  data ++ fsec ++ withTrailer cfg.cksum metaB ++ withTrailer cfg.cksum ixB ++
    footer ⟨(data ++ fsec).length, metaB.length⟩ ⟨(data ++ fsec ++ withTrailer cfg.cksum metaB).length, ixB.length⟩

def keysOf (c : List KV) : List Bytes := c.map (·.1)

/-- the data blocks as the filter writer sees them: (end offset, keys) -/
def fblocks (cfg : TableCfg) : Nat → List (List KV) → List (Nat × List Bytes)
  | _, [] => []
  | off, c :: rest =>
    (off + (blockBytes cfg c).length, keysOf c) :: fblocks cfg (off + (blockBytes cfg c).length) rest

/-- the filter block a table with policy `pol` carries for the chunks `cs` -/
def filterOf (cfg : TableCfg) (pol : FilterPolicy) (cs : List (List KV)) : Bytes :=
  (feedAll pol cfg.filterBaseLg {} (fblocks cfg 0 cs)).finish pol cfg.filterBaseLg

/-- what the tail of `Close` needs to know about the writer -/
structure Closed (cfg : TableCfg) (w : TableWriter) (cs : List (List KV)) : Prop where
  out : w.out = dataBytes cfg cs
  data : WState cfg.restartInterval w.data []
  idx : WState 1 w.index (ixE cfg 0 cs [])

theorem MidInv.closed {cfg : TableCfg} {w : TableWriter} {cs : List (List KV)} (h : MidInv cfg w cs [] []) :
    Closed cfg w cs := ⟨h.out, h.data, by simpa using h.idx⟩

theorem close_eq {cfg : TableCfg} {w : TableWriter} {cs : List (List KV)}
    (h : Closed cfg (closeData cfg w) cs)
    (hfi : ∀ pol, cfg.filter = some pol →
      (closeData cfg w).filt = feedAll pol cfg.filterBaseLg {} (fblocks cfg 0 cs)) :
    close cfg w = tableFile cfg cs (cfg.filter.map (filterOf cfg · cs)) := by
  unfold TableWriter.close tableFile
  simp only
  generalize closeData cfg w = w2 at h hfi ⊢
  have hix : w2.index.finish = Block.build 1 (ixE cfg 0 cs []) := h.idx.finish
  cases hf : cfg.filter with
  | none =>
    have hm : w2.data.finish = Block.build cfg.restartInterval [] := h.data.finish
    simp [metaKVs, filterSection, hf, writeBlock, blockBH, hm, hix, h.out]
  | some pol =>
    rw [hfi pol hf]
    have hfo : (feedAll pol cfg.filterBaseLg {} (fblocks cfg 0 cs)).finish pol cfg.filterBaseLg = filterOf cfg pol cs := rfl
    have hpos : 0 < (filterOf cfg pol cs).length := by
      simp only [filterOf, FilterWriter.finish, List.length_append, List.length_singleton]; omega
    have hm : (w2.data.append (filterMetaKey pol)
        (BH.encode ⟨(dataBytes cfg cs).length, (filterOf cfg pol cs).length⟩)).finish =
        Block.build cfg.restartInterval
          [(filterMetaKey pol, BH.encode ⟨(dataBytes cfg cs).length, (filterOf cfg pol cs).length⟩)] := by
      simpa using (h.data.append _ _).finish
    simp [metaKVs, filterSection, hf, writeBlock, blockBH, hfo, hpos, hm, hix, h.out]

theorem feedAll_append (pol : FilterPolicy) (lg : Nat) (a b : List (Nat × List Bytes)) : ∀ w,
    feedAll pol lg w (a ++ b) = feedAll pol lg (feedAll pol lg w a) b := by
  induction a with
  | nil => intro w; rfl
  | cons x t ih => intro w; obtain ⟨e, ks⟩ := x; simp [feedAll, ih]

theorem fblocks_snoc (cfg : TableCfg) (cs : List (List KV)) (c : List KV) : ∀ off,
    fblocks cfg off (cs ++ [c]) = fblocks cfg off cs ++ [(off + (dataBytes cfg (cs ++ [c])).length, keysOf c)] := by
  induction cs with
  | nil => intro off; simp [fblocks, dataBytes]
  | cons a t ih =>
    intro off
    simp only [List.cons_append, fblocks, ih, dataBytes_snoc]
    simp [dataBytes, Nat.add_assoc]

/-- the filter writer inside the table writer between two `Append`s -/
def FInv (cfg : TableCfg) (pol : FilterPolicy) (w : TableWriter) (cs : List (List KV)) (cur : List KV) : Prop :=
  w.filt = (keysOf cur).foldl FilterWriter.add (feedAll pol cfg.filterBaseLg {} (fblocks cfg 0 cs))

theorem flushPendingBH_filt (cfg : TableCfg) (w : TableWriter) (k : Bytes) : (flushPendingBH cfg w k).filt = w.filt := by
  unfold flushPendingBH; split <;> rfl

theorem FInv.pushed {cfg : TableCfg} {pol : FilterPolicy} (hf : cfg.filter = some pol) {w : TableWriter}
    {cs : List (List KV)} {cur : List KV} (hfi : FInv cfg pol w cs cur) (k v : Bytes) :
    FInv cfg pol (pushed cfg w k v) cs (cur ++ [(k, v)]) := by
  unfold FInv at hfi ⊢
  simp only [C13.pushed, hf, flushPendingBH_filt, hfi, keysOf, List.map_append, List.foldl_append]
  rfl

theorem FInv.finishBlock {cfg : TableCfg} {pol : FilterPolicy} (hf : cfg.filter = some pol) {w : TableWriter}
    {cs : List (List KV)} {cur : List KV} (h : TInv cfg w cs cur) (hfi : FInv cfg pol w cs cur) (hcur : cur ≠ []) :
    FInv cfg pol (finishBlock cfg w) (cs ++ [cur]) [] := by
  have hfl : (TableWriter.finishBlock cfg w).filt =
      w.filt.flush pol cfg.filterBaseLg (TableWriter.finishBlock cfg w).out.length := by
    simp only [TableWriter.finishBlock, writeBlock, hf]
  unfold FInv at hfi ⊢
  rw [hfl, (h.finishBlock hcur).out, fblocks_snoc, feedAll_append, hfi, Nat.zero_add]
  rfl

def TFInv (cfg : TableCfg) (w : TableWriter) (cs : List (List KV)) (cur : List KV) : Prop :=
  TInv cfg w cs cur ∧ ∀ pol, cfg.filter = some pol → FInv cfg pol w cs cur

theorem TFInv.new (cfg : TableCfg) : TFInv cfg (TableWriter.new cfg) [] [] := ⟨TInv.new cfg, fun _ _ => rfl⟩

theorem TFInv.finishBlock {cfg : TableCfg} {w : TableWriter} {cs : List (List KV)} {cur : List KV}
    (h : TFInv cfg w cs cur) (hcur : cur ≠ []) : TFInv cfg (finishBlock cfg w) (cs ++ [cur]) [] :=
  ⟨h.1.finishBlock hcur, fun pol hf => FInv.finishBlock hf h.1 (h.2 pol hf) hcur⟩

theorem TFInv.step {cfg : TableCfg} {w : TableWriter} {cs : List (List KV)} {cur : List KV}
    (h : TFInv cfg w cs cur) (k v : Bytes) :
    ∃ cs' cur', TFInv cfg (w.append cfg k v) cs' cur' ∧ cs'.flatten ++ cur' = cs.flatten ++ cur ++ [(k, v)] := by
  have hp : TFInv cfg (pushed cfg w k v) cs (cur ++ [(k, v)]) :=
    ⟨h.1.pushed k v, fun pol hf => (h.2 pol hf).pushed hf k v⟩
  rcases append_eq cfg w k v with e | e <;> rw [e]
  · exact ⟨_, _, hp, by simp⟩
  · exact ⟨_, _, hp.finishBlock (by simp), by simp⟩

theorem TFInv.append {cfg : TableCfg} {pol : FilterPolicy} (hf : cfg.filter = some pol) {w : TableWriter}
    {cs : List (List KV)} {cur : List KV} (h : TInv cfg w cs cur) (hfi : FInv cfg pol w cs cur) (k v : Bytes) :
    ∃ cs' cur', TInv cfg (w.append cfg k v) cs' cur' ∧ FInv cfg pol (w.append cfg k v) cs' cur' ∧
      cs'.flatten ++ cur' = cs.flatten ++ cur ++ [(k, v)] := by
  have hb : TFInv cfg w cs cur := ⟨h, fun pol' hf' => Option.some.inj (hf.symm.trans hf') ▸ hfi⟩
  obtain ⟨cs', cur', h', e⟩ := hb.step k v
  exact ⟨cs', cur', h'.1, h'.2 pol hf, e⟩

theorem TFInv.foldl {cfg : TableCfg} (kvs : List KV) : ∀ {w : TableWriter} {cs : List (List KV)} {cur : List KV},
    TFInv cfg w cs cur →
    ∃ cs' cur', TFInv cfg (kvs.foldl (fun w kv => w.append cfg kv.1 kv.2) w) cs' cur' ∧
      cs'.flatten ++ cur' = cs.flatten ++ cur ++ kvs := by
  induction kvs with
  | nil => intro w cs cur h; exact ⟨cs, cur, h, by simp⟩
  | cons a t ih =>
    intro w cs cur h
    obtain ⟨cs1, cur1, h1, e1⟩ := h.step a.1 a.2
    obtain ⟨cs2, cur2, h2, e2⟩ := ih h1
    exact ⟨cs2, cur2, h2, by rw [e2, e1]; simp⟩

/-- the data part of `Close` for a non-empty table: a non-empty current block is finished, then `flushPendingBH(nil)` -/
theorem TFInv.closeData {cfg : TableCfg} {w : TableWriter} {cs : List (List KV)} {cur : List KV}
    (h : TFInv cfg w cs cur) (hne : cs.flatten ++ cur ≠ []) :
    ∃ cs1 w1, closeData cfg w = flushPendingBH cfg w1 [] ∧ TFInv cfg w1 cs1 [] ∧ cs1.flatten = cs.flatten ++ cur := by
  unfold TableWriter.closeData
  by_cases hcur : cur = []
  · subst hcur
    have hn0 : w.data.nEntries = 0 := by rw [h.1.data.n]; rfl
    have hn1 : w.nEntries ≠ 0 := by
      have := List.length_pos_iff.mpr hne
      rw [List.length_append] at this
      rw [h.1.n]; omega
    rw [if_neg (by omega)]
    exact ⟨cs, w, rfl, h, by simp⟩
  · have hn0 : w.data.nEntries > 0 := by
      rw [h.1.data.n]; exact List.length_pos_iff.mpr hcur
    rw [if_pos (Or.inl hn0)]
    exact ⟨cs ++ [cur], _, rfl, h.finishBlock hcur, by simp⟩

/-- `Close` on a writer that was never appended to writes one empty data block -/
theorem closeData_new (cfg : TableCfg) :
    Closed cfg (closeData cfg (TableWriter.new cfg)) [[]] ∧
      ∀ pol, cfg.filter = some pol →
        (closeData cfg (TableWriter.new cfg)).filt = feedAll pol cfg.filterBaseLg {} (fblocks cfg 0 [[]]) := by
  have hfin : ({ restartInterval := cfg.restartInterval } : BlockWriter).finish = Block.build cfg.restartInterval [] :=
    (WState.fresh cfg.restartInterval []).finish
  have hpos := build_length_pos cfg.restartInterval []
  have hp : (Block.build cfg.restartInterval []).length ≠ 0 := by omega
  simp only [closeData, TableWriter.new, TableWriter.finishBlock, writeBlock, flushPendingBH, blockBH, hfin,
    Nat.lt_irrefl, false_or, if_true, hp, if_false]
  refine ⟨⟨?_, ⟨rfl, rfl, rfl, by simp, rfl⟩, ?_⟩, fun pol hf => ?_⟩
  · simp [dataBytes, blockBytes]
  · have := (WState.fresh 1 []).append (ixKey cfg [] []) (BH.encode ⟨0, (Block.build cfg.restartInterval []).length⟩)
    simpa [ixE, ixKey, lastKeyD, firstKeyD, BlockWriter.reset] using this
  · simp [hf, fblocks, feedAll, feedBlock, blockBytes, keysOf]

/-- **shape of a written table**: data blocks for a partition `cs` of the input into non-empty chunks (one empty
chunk for an empty table), optional filter block, metaindex, index, footer; with a filter policy the filter block is
what `finish` emits after the data blocks were fed to the filter writer with their offsets -/
theorem write_shape (cfg : TableCfg) (kvs : List KV) :
    ∃ cs, Table.write cfg kvs = tableFile cfg cs (cfg.filter.map (filterOf cfg · cs)) ∧ cs.flatten = kvs ∧
      (cs = [[]] ∨ ∀ c ∈ cs, c ≠ []) := by
  by_cases hk : kvs = []
  · subst hk
    exact ⟨[[]], close_eq (closeData_new cfg).1 (closeData_new cfg).2, rfl, Or.inl rfl⟩
  · obtain ⟨cs, cur, h, e⟩ := (TFInv.new cfg).foldl kvs
    simp only [List.flatten_nil, List.nil_append] at e
    obtain ⟨cs1, w1, hw1, h1, e1⟩ := h.closeData (by rw [e]; exact hk)
    have hm := hw1 ▸ h1.1.flush []
    exact ⟨cs1, close_eq hm.closed fun pol hf => by rw [hw1, flushPendingBH_filt]; exact h1.2 pol hf,
      by rw [e1, e], Or.inr hm.ne⟩

end GoLevel.C13

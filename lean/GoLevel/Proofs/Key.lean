import GoLevel.Model.Key
import GoLevel.Proofs.Bytes
import GoLevel.Proofs.Order
/-!
# Internal keys: packing and parsing, `icmp c` as an order, probe and `seekGE`, the bytewise comparer

With the definitions the C15 statements about keys and comparers rest on (`seekGE`, `IsNewest`, the counterexample
comparer `sepOnEqCmp`); the table index is in `Proofs/KeyIndex.lean`.
-/
namespace GoLevel

theorem keyMaxSeq_bound : Gen.keyMaxSeq * 256 + 255 < 2 ^ 64 := by decide
theorem keyTypeVal_lt : Gen.keyTypeVal < 256 := by decide
theorem keyTypeSeek_lt : Gen.keyTypeSeek < 256 := by decide
theorem keyTypeVal_le_seek : Gen.keyTypeVal ≤ Gen.keyTypeSeek := by decide
theorem keyTypeDel_le_val : Gen.keyTypeDel ≤ Gen.keyTypeVal := by decide

/-- the model's `seq * 256 + kt` is the Go expression `(seq << 8) | kt` printed by the extractor -/
theorem packNum_eq (seq kt : Nat) (h : kt < 256) : Gen.packNum seq kt = seq * 256 + kt := by
  have := Nat.shiftLeft_add_eq_or_of_lt (i := 8) (b := kt) (by simpa using h) seq
  rw [Gen.packNum, ← this, Nat.shiftLeft_eq]

@[simp] theorem mkIKey_ukey (u : Bytes) (seq kt : Nat) : (mkIKey u seq kt).ukey = u := rfl
@[simp] theorem mkIKey_num (u : Bytes) (seq kt : Nat) : (mkIKey u seq kt).num = seq * 256 + kt := rfl

theorem mkIKey_seq (u : Bytes) (seq kt : Nat) (h : kt < 256) : (mkIKey u seq kt).seq = seq := by
  rw [IKey.seq, mkIKey_num, Nat.add_comm, Nat.add_mul_div_right _ _ (by decide), Nat.div_eq_of_lt h,
    Nat.zero_add]

theorem mkIKey_kind (u : Bytes) (seq kt : Nat) (h : kt < 256) : (mkIKey u seq kt).kind = kt := by
  rw [IKey.kind, mkIKey_num, Nat.add_comm, Nat.add_mul_mod_self_right, Nat.mod_eq_of_lt h]

theorem IKey.num_eq (k : IKey) : k.num = k.seq * 256 + k.kind :=
  (Nat.div_add_mod' k.num 256).symm

theorem mkIKey_num_le (u : Bytes) (seq kt : Nat) (hs : seq ≤ Gen.keyMaxSeq) (hk : kt ≤ Gen.keyTypeVal) :
    (mkIKey u seq kt).num ≤ Gen.keyMaxNum := by
  have := keyTypeVal_le_seek
  have : Gen.keyMaxNum = Gen.keyMaxSeq * 256 + Gen.keyTypeSeek := by decide
  simp only [mkIKey_num, this]; omega

theorem num_le_of_valid (k : IKey) (hs : k.seq ≤ Gen.keyMaxSeq) (hk : k.kind ≤ Gen.keyTypeVal) :
    k.num ≤ Gen.keyMaxNum := by
  have := mkIKey_num_le k.ukey k.seq k.kind hs hk
  rwa [mkIKey_num, ← IKey.num_eq] at this

@[simp] theorem IKey.encode_length (k : IKey) : k.encode.length = k.ukey.length + 8 := by
  simp [IKey.encode]

@[simp] theorem IKey.encode_take (k : IKey) : k.encode.take (k.encode.length - 8) = k.ukey := by
  simp [IKey.encode]

@[simp] theorem IKey.encode_drop (k : IKey) : k.encode.drop (k.encode.length - 8) = le64 k.num := by
  simp [IKey.encode]

theorem parseIKey_encode (k : IKey) (hn : k.num < 2 ^ 64) (hk : k.kind ≤ Gen.keyTypeVal) :
    parseIKey k.encode = some k := by
  have h8 : ¬ k.encode.length < 8 := by simp
  have hr : rd64 (le64 k.num) = k.num := rd64_le64 _ hn
  have hk' : ¬ k.num % 256 > Gen.keyTypeVal := by simpa [IKey.kind] using hk
  simp only [parseIKey, h8, if_false, IKey.encode_drop, hr, hk', IKey.encode_take]

/-- `iComparer.Compare` is the lexicographic order: user key first, then the packed number downwards -/
theorem icmp_eq_then (c : UCmp) (a b : IKey) :
    icmp c a b = (c.cmp a.ukey b.ukey).then (compare b.num a.num) := by
  unfold icmp; cases c.cmp a.ukey b.ukey <;> rfl

theorem LawfulUCmp.ord {c : UCmp} (hl : LawfulUCmp c) : StrictOrd c.cmp := ⟨hl.refl, hl.eq_of, hl.gt_iff, hl.trans⟩

section order
variable {c : UCmp} (hl : LawfulUCmp c)
include hl

theorem icmp_order (a b : IKey) :
    icmp c a b = .lt ↔ (c.cmp a.ukey b.ukey = .lt ∨ (a.ukey = b.ukey ∧ b.num < a.num)) := by
  rw [icmp_eq_then, Ordering.then_eq_lt, hl.ord.eq_iff, Nat.compare_eq_lt]

theorem icmp_eq_iff (a b : IKey) : icmp c a b = .eq ↔ a = b := by
  rw [icmp_eq_then, Ordering.then_eq_eq, hl.ord.eq_iff, Nat.compare_eq_eq]
  cases a; cases b; simp [eq_comm]

theorem icmp_gt_iff (a b : IKey) : icmp c a b = .gt ↔ icmp c b a = .lt := by
  rw [icmp_order hl, icmp_eq_then, Ordering.then_eq_gt, hl.gt_iff, hl.ord.eq_iff, Nat.compare_eq_gt,
    eq_comm (a := a.ukey)]

theorem icmp_trans (a b d : IKey) (h1 : icmp c a b = .lt) (h2 : icmp c b d = .lt) :
    icmp c a d = .lt := by
  rw [icmp_order hl] at h1 h2 ⊢
  rcases h1 with h1 | ⟨e1, n1⟩ <;> rcases h2 with h2 | ⟨e2, n2⟩
  · exact .inl (hl.trans _ _ _ h1 h2)
  · exact .inl (by rw [← e2]; exact h1)
  · exact .inl (by rw [e1]; exact h2)
  · exact .inr ⟨e1.trans e2, by omega⟩

/-- `iComparer` is a comparer in its own right, on parsed keys -/
theorem icmp_ord : StrictOrd (icmp c) :=
  ⟨fun a => (icmp_eq_iff hl a a).2 rfl, fun a b => (icmp_eq_iff hl a b).1, icmp_gt_iff hl, icmp_trans hl⟩

theorem icmp_same_ukey (a b : IKey) (h : a.ukey = b.ukey) : icmp c a b = compare b.num a.num := by
  rw [icmp_eq_then, h, hl.refl]; rfl

end order

/-- strictly ascending under `icmp c` (what a memdb, a block, a table, a sorted run is) -/
abbrev Sorted (c : UCmp) (es : List IKey) : Prop := es.Pairwise (fun a b => icmp c a b = .lt)

/-- position of a seek: the first entry that is not below `p` (`Seek` of every iterator) -/
def seekGE (c : UCmp) (es : List IKey) (p : IKey) : Option IKey :=
  es.find? (fun e => icmp c e p != .lt)

/-- `e` is the newest entry of user key `k` at or below sequence `s` -/
def IsNewest (es : List IKey) (k : Bytes) (s : Nat) (e : IKey) : Prop :=
  e ∈ es ∧ e.ukey = k ∧ e.seq ≤ s ∧ ∀ e' ∈ es, e'.ukey = k → e'.seq ≤ s → e'.seq ≤ e.seq

section probe
variable {c : UCmp} (hl : LawfulUCmp c)
include hl

/-- below the probe for "`k` as of `s`": a smaller user key, or an entry of `k` newer than `s` (a kind above
`keyTypeSeek` would put an entry of sequence `s` itself below the probe) -/
theorem icmp_probe_lt (e : IKey) (k : Bytes) (s : Nat) (hkind : e.kind ≤ Gen.keyTypeVal) :
    icmp c e (probe k s) = .lt ↔ c.cmp e.ukey k = .lt ∨ (e.ukey = k ∧ s < e.seq) := by
  have h1 := keyTypeVal_le_seek
  have h2 := keyTypeSeek_lt
  have : (probe k s).num < e.num ↔ s < e.seq := by
    simp only [probe, mkIKey_num, IKey.seq, IKey.kind] at hkind ⊢
    omega
  rw [icmp_order hl, this]; rfl

/-- the cut made by the probe: at or after it are the larger user keys and the entries of `k` not newer than `s` -/
theorem icmp_probe_ge (e : IKey) (k : Bytes) (s : Nat) (hkind : e.kind ≤ Gen.keyTypeVal) :
    (icmp c e (probe k s) != .lt) = true ↔ (c.cmp e.ukey k = .gt ∨ (e.ukey = k ∧ e.seq ≤ s)) := by
  rw [bne_iff_ne, Ne, icmp_probe_lt hl e k s hkind]
  by_cases hk : e.ukey = k
  · simp [hk, hl.refl]
  · -- another user key: not below is above
    have hne : c.cmp e.ukey k ≠ .eq := fun h => hk (hl.eq_of _ _ h)
    cases hc : c.cmp e.ukey k <;> simp_all

theorem ge_probe_same_key (e : IKey) (k : Bytes) (s : Nat) (hk : e.ukey = k)
    (hkind : e.kind ≤ Gen.keyTypeVal) :
    icmp c e (probe k s) ≠ .lt ↔ e.seq ≤ s := by
  rw [Ne, icmp_probe_lt hl e k s hkind, hk, hl.refl]
  simp

omit hl in
theorem seekGE_eq_none (es : List IKey) (p : IKey) :
    seekGE c es p = none ↔ ∀ e ∈ es, icmp c e p = .lt := by
  simp [seekGE, List.find?_eq_none]

omit hl in
theorem seekGE_append (xs ys : List IKey) (p : IKey) :
    seekGE c (xs ++ ys) p = (seekGE c xs p).or (seekGE c ys p) := by
  simp [seekGE, List.find?_append]

theorem seekGE_least (es : List IKey) (hs : Sorted c es) (p e : IKey) (hf : seekGE c es p = some e) :
    e ∈ es ∧ icmp c e p ≠ .lt ∧ ∀ e' ∈ es, icmp c e' p ≠ .lt → icmp c e e' ≠ .gt := by
  obtain ⟨hpe, as, bs, rfl, has⟩ := List.find?_eq_some_iff_append.1 hf
  refine ⟨by simp, by simpa using hpe, fun e' he' hge => ?_⟩
  rcases List.mem_append.1 he' with hin | hin
  · exact absurd (by simpa using has e' hin) hge
  · rcases List.mem_cons.1 hin with rfl | hin
    · exact (icmp_ord hl).le_refl _
    · rw [(List.pairwise_cons.1 (List.pairwise_append.1 hs).2.1).1 e' hin]; nofun

theorem seekGE_newest (es : List IKey) (hs : Sorted c es) (hkind : ∀ e ∈ es, e.kind ≤ Gen.keyTypeVal)
    (k : Bytes) (s : Nat) (e : IKey) (hf : seekGE c es (probe k s) = some e) (hk : e.ukey = k) :
    IsNewest es k s e := by
  obtain ⟨hm, hge, hleast⟩ := seekGE_least hl es hs _ e hf
  refine ⟨hm, hk, (ge_probe_same_key hl e k s hk (hkind e hm)).1 hge, fun e' he' hk' hle' => ?_⟩
  -- `e ≤ e'` inside one user key compares the packed numbers
  have := hleast e' he' ((ge_probe_same_key hl e' k s hk' (hkind e' he')).2 hle')
  rw [icmp_same_ukey hl e e' (hk.trans hk'.symm), Ne, Nat.compare_eq_gt] at this
  simp only [IKey.seq]; omega

end probe

section shorten
variable {c : UCmp}

theorem iSep_none_of_sep_none (a b : IKey) (h : c.sep a.ukey b.ukey = none) : iSep c a b = none := by
  simp [iSep, h]

end shorten

theorem bytesCompare_cons (x y : UInt8) (xs ys : Bytes) :
    bytesCompare (x :: xs) (y :: ys) = (compare x.toNat y.toNat).then (bytesCompare xs ys) := by
  simp only [bytesCompare, Nat.compare_eq_ite_lt, UInt8.lt_iff_toNat_lt]
  split
  · rfl
  · split <;> rfl

theorem bytesCompare_cons_lt {x y : UInt8} (xs ys : Bytes) (h : x.toNat < y.toNat) :
    bytesCompare (x :: xs) (y :: ys) = .lt := by
  rw [bytesCompare_cons, Nat.compare_eq_lt.2 h]; rfl

theorem bytesCompare_cons_self (x : UInt8) (xs ys : Bytes) :
    bytesCompare (x :: xs) (x :: ys) = bytesCompare xs ys := by
  rw [bytesCompare_cons, Nat.compare_eq_eq.2 rfl]; rfl

theorem bytesCompare_refl (a : Bytes) : bytesCompare a a = .eq := by
  induction a with
  | nil => rfl
  | cons x xs ih => rw [bytesCompare_cons_self, ih]

theorem bytesCompare_eq (a b : Bytes) (h : bytesCompare a b = .eq) : a = b := by
  induction a generalizing b with
  | nil => cases b with
    | nil => rfl
    | cons => cases h
  | cons x xs ih =>
    cases b with
    | nil => cases h
    | cons y ys =>
      rw [bytesCompare_cons, Ordering.then_eq_eq, Nat.compare_eq_eq, UInt8.toNat_inj] at h
      rw [h.1, ih ys h.2]

theorem bytesCompare_swap (a b : Bytes) : (bytesCompare a b).swap = bytesCompare b a := by
  induction a generalizing b with
  | nil => cases b <;> rfl
  | cons x xs ih =>
    cases b with
    | nil => rfl
    | cons y ys => rw [bytesCompare_cons, bytesCompare_cons, Ordering.swap_then, Nat.compare_swap, ih]

theorem bytesCompare_gt_iff (a b : Bytes) : bytesCompare a b = .gt ↔ bytesCompare b a = .lt := by
  rw [← bytesCompare_swap a b, Ordering.swap_eq_lt]

theorem bytesCompare_trans (a b d : Bytes) (h1 : bytesCompare a b = .lt) (h2 : bytesCompare b d = .lt) :
    bytesCompare a d = .lt := by
  induction a generalizing b d with
  | nil => cases d with
    | nil => cases b <;> cases h1 <;> cases h2
    | cons => rfl
  | cons x xs ih =>
    cases b with
    | nil => cases h1
    | cons y ys =>
      cases d with
      | nil => cases h2
      | cons z zs =>
        rw [bytesCompare_cons, Ordering.then_eq_lt, Nat.compare_eq_lt, Nat.compare_eq_eq] at h1 h2 ⊢
        rcases h1 with h1 | ⟨e1, h1⟩ <;> rcases h2 with h2 | ⟨e2, h2⟩
        · exact .inl (Nat.lt_trans h1 h2)
        · exact .inl (e2 ▸ h1)
        · exact .inl (e1 ▸ h2)
        · exact .inr ⟨e1.trans e2, ih ys zs h1 h2⟩

theorem toNat_succ_of_lt (x : UInt8) (h : x.toNat < 255) : (x + 1).toNat = x.toNat + 1 := by
  rw [UInt8.toNat_add, UInt8.toNat_one]; omega

/-- whatever `bytesSep` returns lies where it should — no premise on `a`, `b` at all: it returns nil
unless `a < b` at the first differing byte -/
theorem bytesSep_between (a b d : Bytes) (hs : bytesSep a b = some d) :
    bytesCompare a d ≠ .gt ∧ bytesCompare d b = .lt := by
  induction a generalizing b d with
  | nil => simp [bytesSep] at hs
  | cons x xs ih =>
    cases b with
    | nil => simp [bytesSep] at hs
    | cons y ys =>
      rw [bytesSep] at hs
      split at hs
      · rename_i hxy
        subst hxy
        obtain ⟨d', hd', rfl⟩ := Option.map_eq_some_iff.1 hs
        simpa only [bytesCompare_cons_self] using ih ys d' hd'
      · split at hs
        · rename_i hcond
          cases hs
          have := toNat_succ_of_lt x hcond.1
          exact ⟨by rw [bytesCompare_cons_lt _ _ (by omega)]; nofun, bytesCompare_cons_lt _ _ (by omega)⟩
        · cases hs

theorem bytesSep_self (a : Bytes) : bytesSep a a = none := by
  induction a with
  | nil => rfl
  | cons x xs ih => simp [bytesSep, ih]

theorem bytesSucc_ok (b d : Bytes) (hs : bytesSucc b = some d) : bytesCompare b d ≠ .gt := by
  induction b generalizing d with
  | nil => cases hs
  | cons x xs ih =>
    rw [bytesSucc] at hs
    split at hs
    · rename_i hx
      cases hs
      have hx' : x.toNat ≠ 255 := fun h' => hx (UInt8.toNat_inj.1 h')
      have := x.toNat_lt
      have := toNat_succ_of_lt x (by omega)
      rw [bytesCompare_cons_lt _ _ (by omega)]; nofun
    · obtain ⟨d', hd', rfl⟩ := Option.map_eq_some_iff.1 hs
      simpa only [bytesCompare_cons_self] using ih d' hd'

theorem bytewise_lawful : LawfulUCmp bytewise where
  refl := bytesCompare_refl
  eq_of := bytesCompare_eq
  gt_iff := bytesCompare_gt_iff
  trans := bytesCompare_trans
  sep_ok := fun a b d _ => bytesSep_between a b d
  succ_ok := bytesSucc_ok

/-! ### why `sep_ok` is read for `a ≤ b` and not only for `a < b`

The Go doc comment ("x such that a <= x && x < b") can be read as constraining `Separator(a, b)` only for
`a < b`.  The table writer however also calls it for two consecutive internal keys with the *same* user
key, and `iComparer.Separator` then trusts the answer.  `sepOnEqCmp` has the order and the `Successor` of `bytewise`
and satisfies `sep_ok` under the weak reading, yet makes the writer store an index key that sorts *after* the
next block's first key: for `[1,0]@7 < [1,0]@3` it is `[2]@max`.  With the premise `c.cmp a b ≠ .gt` it is
not lawful, and `C15.iSep_between` holds for all lawful comparers (`C15.sep_premise_needed`). -/

def sepOnEqCmp : UCmp :=
  ⟨bytesCompare, fun a b => if a = b then some [2] else bytesSep a b, bytesSucc⟩

end GoLevel

import GoLevel.Model.SeqDB
/-!
# Sequential DB — basic lemmas

Association lists, the entries a batch record becomes, the plain map, `write` one record at a time, and
how `view` reacts to a newer source being put in front (`view_append_of_newer`, `view_cons_of_newer`).
-/
namespace GoLevel.SeqDB

section al
variable {α β : Type} [DecidableEq α]

@[simp] theorem alGet_nil (x : α) : alGet ([] : List (α × β)) x = none := rfl

theorem alGet_cons (a : α) (b : β) (l : List (α × β)) (x : α) :
    alGet ((a, b) :: l) x = if a = x then some b else alGet l x := rfl

theorem alGet_append_single (l : List (α × β)) (a : α) (b : β) (x : α) :
    alGet (l ++ [(a, b)]) x = (alGet l x).or (if a = x then some b else none) := by
  induction l with
  | nil => rfl
  | cons p l ih =>
    obtain ⟨a', b'⟩ := p
    rw [List.cons_append, alGet_cons, alGet_cons]
    by_cases h : a' = x
    · rw [if_pos h, if_pos h]; rfl
    · rw [if_neg h, if_neg h]; exact ih

theorem alGet_erase (l : List (α × β)) (a x : α) :
    alGet (alErase l a) x = if a = x then none else alGet l x := by
  induction l with
  | nil => exact (ite_self _).symm
  | cons p l ih =>
    obtain ⟨a', b'⟩ := p
    unfold alErase at ih ⊢
    by_cases h : a' = a
    · rw [List.filter_cons_of_neg (by simp [h]), ih, alGet_cons]
      by_cases h2 : a = x
      · rw [if_pos h2, if_pos h2]
      · rw [if_neg h2, if_neg h2, if_neg fun e => h2 (h.symm.trans e)]
    · rw [List.filter_cons_of_pos (by simp [h]), alGet_cons, alGet_cons, ih]
      by_cases h2 : a' = x
      · rw [if_pos h2, if_neg fun e => h (h2.trans e.symm), if_pos h2]
      · rw [if_neg h2, if_neg h2]

theorem alGet_append_single_eq_some {l : List (α × β)} {a : α} {b : β} {x : α} {y : β} :
    alGet (l ++ [(a, b)]) x = some y ↔ alGet l x = some y ∨ alGet l x = none ∧ a = x ∧ b = y := by
  rw [alGet_append_single]
  cases alGet l x <;> simp

theorem alGet_append_single_eq_none {l : List (α × β)} {a : α} {b : β} {x : α} :
    alGet (l ++ [(a, b)]) x = none ↔ alGet l x = none ∧ a ≠ x := by
  rw [alGet_append_single]
  cases alGet l x <;> simp

theorem alGet_erase_eq_some {l : List (α × β)} {a x : α} {y : β} :
    alGet (alErase l a) x = some y ↔ a ≠ x ∧ alGet l x = some y := by
  rw [alGet_erase]
  split <;> simp [*]

theorem alGet_erase_eq_none {l : List (α × β)} {a x : α} :
    alGet (alErase l a) x = none ↔ a = x ∨ alGet l x = none := by
  rw [alGet_erase]
  split <;> simp [*]

theorem alGet_mem {l : List (α × β)} {x : α} {y : β} (h : alGet l x = some y) : (x, y) ∈ l := by
  induction l with
  | nil => cases h
  | cons p l ih =>
    obtain ⟨a', b'⟩ := p
    rw [alGet_cons] at h
    split at h
    · cases h; subst a'; exact List.mem_cons_self
    · exact List.mem_cons_of_mem _ (ih h)

theorem alGet_none_of_not_mem {l : List (α × β)} {x : α} (h : ∀ p ∈ l, p.1 ≠ x) : alGet l x = none := by
  cases hg : alGet l x with
  | none => rfl
  | some y => exact absurd rfl (h _ (alGet_mem hg))

theorem mem_alErase {l : List (α × β)} {a : α} {p : α × β} (h : p ∈ alErase l a) : p ∈ l :=
  (List.mem_filter.1 h).1

end al

theorem Map.get_apply (m : Map) (r : Rec) (k : Bytes) :
    (m.apply r).get k = if r.2.1 = k then (if r.1 then some r.2.2 else none) else m.get k := by
  unfold Map.apply Map.get
  by_cases hp : r.1 = true
  · rw [if_pos hp, alGet_cons, alGet_erase]
    by_cases hk : r.2.1 = k <;> simp [hk, hp]
  · rw [if_neg hp, alGet_erase]
    by_cases hk : r.2.1 = k <;> simp [hk, hp]

theorem keyTypeDel_lt : Gen.keyTypeDel < 256 := by decide

@[simp] theorem recEntry_ukey (s : Nat) (r : Rec) : (recEntry s r).ukey = r.2.1 := by
  unfold recEntry; split <;> rfl

@[simp] theorem recEntry_seq (s : Nat) (r : Rec) : (recEntry s r).seq = s := by
  unfold recEntry; split
  · exact mkIKey_seq _ _ _ keyTypeVal_lt
  · exact mkIKey_seq _ _ _ keyTypeDel_lt

theorem recEntry_kind (s : Nat) (r : Rec) :
    (recEntry s r).kind = if r.1 then Gen.keyTypeVal else Gen.keyTypeDel := by
  unfold recEntry; split
  · exact mkIKey_kind _ _ _ keyTypeVal_lt
  · exact mkIKey_kind _ _ _ keyTypeDel_lt

theorem recEntry_kind_le (s : Nat) (r : Rec) : (recEntry s r).kind ≤ Gen.keyTypeVal := by
  rw [recEntry_kind]; split
  · exact Nat.le_refl _
  · exact keyTypeDel_le_val

theorem recEntry_hit (s : Nat) (r : Rec) :
    (recEntry s r).hit.toOption = if r.1 then some r.2.2 else none := by
  obtain ⟨p, k, v⟩ := r
  unfold Entry.hit
  rw [recEntry_kind]
  cases p
  · simp only [Bool.false_eq_true, if_false]
    rw [if_neg (by decide)]; rfl
  · simp only [if_true]
    rfl

/-- `writeLocked` for a single record -/
def write1 (c : UCmp) (st : State) (r : Rec) : State :=
  { st with mem := insertSorted c (recEntry (st.seq + 1) r) st.mem, seq := st.seq + 1 }

theorem write_nil (c : UCmp) (st : State) : write c st [] = st := by cases st; rfl

theorem write_cons (c : UCmp) (st : State) (r : Rec) (rs : List Rec) :
    write c st (r :: rs) = write c (write1 c st r) rs := by
  cases st
  simp only [write, write1, putMem, List.length_cons, State.mk.injEq, true_and, and_true]
  omega

theorem write_single (c : UCmp) (st : State) (r : Rec) : write c st [r] = write1 c st r := by
  rw [write_cons, write_nil]

theorem view_append_of_newer {c : UCmp} (hl : LawfulUCmp c) (A B : List Entry) (h : NewerThan A B)
    (k : Bytes) (s : Nat) :
    view c (A ++ B) k s = match newest c A k s with
      | some e => e.hit.toOption
      | none => view c B k s := by
  unfold view
  rw [newest_append_of_newer hl A B h]
  cases newest c A k s <;> rfl

theorem view_cons_of_newer {c : UCmp} (hl : LawfulUCmp c) (e : Entry) (X : List Entry)
    (h : ∀ x ∈ X, x.seq < e.seq) (k : Bytes) (s : Nat) :
    view c (e :: X) k s = if e.ukey = k ∧ e.seq ≤ s then e.hit.toOption else view c X k s := by
  have hn : NewerThan [e] X := by
    intro a ha b hb _
    rw [List.mem_singleton.1 ha]; exact h b hb
  have := view_append_of_newer hl [e] X hn k s
  rw [List.singleton_append] at this
  rw [this, newest_cons, newest_nil, pickNewer_none_right]
  by_cases hm : e.ukey = k ∧ e.seq ≤ s
  · rw [cand_of_matches ((matches_iff hl k s e).2 hm), if_pos hm]
  · rw [cand_of_not_matches (fun hm' => hm ((matches_iff hl k s e).1 hm')), if_neg hm]

theorem isValue_eq (h : Hit) : Hit.isValue h = h.toOption.isSome := by cases h <;> rfl

end GoLevel.SeqDB

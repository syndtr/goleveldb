import GoLevel.Model.Snaps
/-!
# The snapshot list represents the multiset of live acquisitions; it never panics; `minSeq` is their minimum
-/
namespace GoLevel.Snaps

theorem refOf_cons (e : Elem) (r : SList) (s : Nat) :
    refOf (e :: r) s = if e.seq = s then e.ref else refOf r s := rfl

theorem refOf_pos_mem : ∀ (l : SList) (s : Nat), 0 < refOf l s → ∃ x ∈ l, x.seq = s := by
  intro l
  induction l with
  | nil => intro s h; cases h
  | cons e r ih =>
    intro s h
    rw [refOf_cons] at h
    by_cases he : e.seq = s
    · exact ⟨e, List.mem_cons_self, he⟩
    · rw [if_neg he] at h
      obtain ⟨x, hx, hs⟩ := ih s h
      exact ⟨x, List.mem_cons_of_mem _ hx, hs⟩

theorem Wf.tail {e : Elem} {r : SList} (h : Wf (e :: r)) : Wf r :=
  ⟨(List.pairwise_cons.1 h.1).2, fun x hx => h.2 x (List.mem_cons_of_mem _ hx)⟩

theorem Wf.head_lt {e : Elem} {r : SList} (h : Wf (e :: r)) : ∀ x ∈ r, e.seq < x.seq :=
  (List.pairwise_cons.1 h.1).1

theorem refOf_mem : ∀ (l : SList), Wf l → ∀ e ∈ l, refOf l e.seq = e.ref := by
  intro l
  induction l with
  | nil => intro _ e he; cases he
  | cons a r ih =>
    intro hw e he
    rw [refOf_cons]
    rcases List.mem_cons.1 he with rfl | he
    · exact if_pos rfl
    · rw [if_neg (Nat.ne_of_lt (hw.head_lt e he))]
      exact ih hw.tail e he

theorem wf_nil : Wf [] := ⟨List.Pairwise.nil, fun _ h => nomatch h⟩

theorem wf_cons {e : Elem} {r : SList} :
    Wf (e :: r) ↔ 0 < e.ref ∧ Wf r ∧ ∀ s, s ≤ e.seq → refOf r s = 0 := by
  constructor
  · intro h
    refine ⟨h.2 e List.mem_cons_self, h.tail, fun s hs => Nat.eq_zero_of_not_pos fun hp => ?_⟩
    obtain ⟨x, hx, rfl⟩ := refOf_pos_mem r s hp
    exact Nat.lt_irrefl _ (Nat.lt_of_lt_of_le (h.head_lt x hx) hs)
  · intro ⟨he, hr, hz⟩
    refine ⟨List.pairwise_cons.2 ⟨fun x hx => Nat.lt_of_not_le fun hle => ?_, hr.1⟩, fun x hx => ?_⟩
    · exact Nat.ne_of_gt (hr.2 x hx) ((refOf_mem r hr x hx).symm.trans (hz _ hle))
    · rcases List.mem_cons.1 hx with rfl | hx
      · exact he
      · exact hr.2 x hx

theorem wf_single (seq : Nat) : Wf [⟨seq, 1⟩] := wf_cons.2 ⟨Nat.one_pos, wf_nil, fun _ _ => rfl⟩

/-- `acquireSnapshot` with a sequence number that is at least every one in the list does not panic -/
theorem acquire_spec (l : SList) (seq : Nat) (hw : Wf l) (hb : ∀ e ∈ l, e.seq ≤ seq) :
    ∃ l', acquire l seq = some l' ∧ Wf l' ∧ ∀ s, refOf l' s = refOf l s + (if seq = s then 1 else 0) := by
  fun_induction acquire l seq with
  | case1 seq => exact ⟨_, rfl, wf_single seq, fun s => (Nat.zero_add _).symm⟩
  | case2 e =>
    obtain ⟨_, hr, hz⟩ := wf_cons.1 hw
    refine ⟨_, rfl, wf_cons.2 ⟨Nat.succ_pos _, hr, hz⟩, fun s => ?_⟩
    simp only [refOf_cons]
    split <;> rfl
  | case3 e seq heq hlt => exact absurd (hb e List.mem_cons_self) (Nat.not_le_of_lt hlt)
  | case4 e seq heq hlt =>
    obtain ⟨hpos, _, _⟩ := wf_cons.1 hw
    refine ⟨_, rfl, wf_cons.2 ⟨hpos, wf_single seq, fun s hs => if_neg (show ¬ seq = s from fun h' =>
      heq (Nat.le_antisymm (Nat.le_of_not_lt hlt) (h' ▸ hs)))⟩, fun s => ?_⟩
    rw [refOf_cons, refOf_cons e]
    by_cases h : e.seq = s
    · rw [if_pos h, if_pos h, if_neg fun h' => heq (h.trans h'.symm)]; rfl
    · rw [if_neg h, if_neg h]; exact (Nat.zero_add _).symm
  | case5 e e' r seq ih =>
    obtain ⟨hpos, hr, hz⟩ := wf_cons.1 hw
    obtain ⟨l', h1, h2, h4⟩ := ih hr (fun x hx => hb x (List.mem_cons_of_mem _ hx))
    have hlt : e.seq < seq :=
      Nat.lt_of_lt_of_le (hw.head_lt e' List.mem_cons_self) (hb e' (List.mem_cons_of_mem _ List.mem_cons_self))
    refine ⟨e :: l', by rw [h1]; rfl, wf_cons.2 ⟨hpos, h2, fun s hs => ?_⟩, fun s => ?_⟩
    · rw [h4, hz s hs, if_neg (Nat.ne_of_gt (Nat.lt_of_le_of_lt hs hlt))]
    · rw [refOf_cons, refOf_cons, h4]
      by_cases h : e.seq = s
      · rw [if_pos h, if_pos h, if_neg (Nat.ne_of_gt (h ▸ hlt))]; rfl
      · rw [if_neg h, if_neg h]

/-- `releaseSnapshot` of an element that holds a reference does not panic -/
theorem release_spec (l : SList) (seq : Nat) (hw : Wf l) (hp : 0 < refOf l seq) :
    ∃ l', release l seq = some l' ∧ Wf l' ∧ ∀ s, refOf l' s = refOf l s - (if seq = s then 1 else 0) := by
  fun_induction release l seq with
  | case1 => cases hp
  | case2 e r h1 =>
    obtain ⟨hpos, hr, hz⟩ := wf_cons.1 hw
    refine ⟨r, rfl, hr, fun s => ?_⟩
    rw [refOf_cons]
    by_cases hs : e.seq = s
    · rw [if_pos hs, if_pos hs, hz s (Nat.le_of_eq hs.symm)]; exact (Nat.sub_eq_zero_of_le h1).symm
    · rw [if_neg hs, if_neg hs]; rfl
  | case3 e r h1 =>
    obtain ⟨hpos, hr, hz⟩ := wf_cons.1 hw
    refine ⟨_, rfl, wf_cons.2 ⟨Nat.sub_pos_of_lt (Nat.lt_of_not_le h1), hr, hz⟩, fun s => ?_⟩
    simp only [refOf_cons]
    split <;> rfl
  | case4 e r seq he ih =>
    obtain ⟨hpos, hr, hz⟩ := wf_cons.1 hw
    rw [refOf_cons, if_neg he] at hp
    obtain ⟨l', h1, h2, h4⟩ := ih hr hp
    refine ⟨e :: l', by rw [h1]; rfl, wf_cons.2 ⟨hpos, h2, fun s hs => ?_⟩, fun s => ?_⟩
    · rw [h4, hz s hs, Nat.zero_sub]
    · rw [refOf_cons, refOf_cons, h4]
      by_cases hs : e.seq = s
      · rw [if_pos hs, if_pos hs, if_neg fun h' => he (hs.trans h'.symm)]; rfl
      · rw [if_neg hs, if_neg hs]

theorem rep_nil : Rep [] [] := ⟨wf_nil, fun _ => rfl⟩

theorem rep_acquire {l : SList} {live : List Nat} (h : Rep l live) (seq : Nat) (hb : ∀ s ∈ live, s ≤ seq) :
    ∃ l', acquire l seq = some l' ∧ Rep l' (live ++ [seq]) := by
  have hle : ∀ e ∈ l, e.seq ≤ seq := by
    intro e he
    apply hb
    rw [← List.count_pos_iff, ← h.2, refOf_mem l h.1 e he]
    exact h.1.2 e he
  obtain ⟨l', h1, h2, h4⟩ := acquire_spec l seq h.1 hle
  refine ⟨l', h1, h2, fun s => ?_⟩
  rw [h4, h.2, List.count_append, List.count_singleton]
  simp only [beq_iff_eq]

theorem rep_release {l : SList} {live : List Nat} (h : Rep l live) (seq : Nat) (hm : seq ∈ live) :
    ∃ l', release l seq = some l' ∧ Rep l' (live.erase seq) := by
  have hp : 0 < refOf l seq := by rw [h.2]; exact List.count_pos_iff.2 hm
  obtain ⟨l', h1, h2, h4⟩ := release_spec l seq h.1 hp
  refine ⟨l', h1, h2, fun s => ?_⟩
  rw [h4, h.2, List.count_erase]
  simp only [beq_iff_eq]

theorem rep_minSeq {l : SList} {live : List Nat} (h : Rep l live) (dbSeq : Nat) :
    (live = [] → minSeq l dbSeq = dbSeq)
    ∧ (live ≠ [] → minSeq l dbSeq ∈ live ∧ ∀ s ∈ live, minSeq l dbSeq ≤ s) := by
  cases l with
  | nil =>
    refine ⟨fun _ => rfl, fun hne => ?_⟩
    cases live with
    | nil => exact absurd rfl hne
    | cons a t =>
      have := h.2 a
      simp [refOf] at this
  | cons e r =>
    obtain ⟨hpos, _, hz⟩ := wf_cons.1 h.1
    have hmem : e.seq ∈ live := by
      rw [← List.count_pos_iff, ← h.2, refOf_cons, if_pos rfl]
      exact hpos
    refine ⟨fun hl => ?_, fun _ => ⟨hmem, fun s hs => Nat.le_of_not_lt fun hlt => ?_⟩⟩
    · rw [hl] at hmem; cases hmem
    replace hlt : s < e.seq := hlt
    have h3 : 0 < refOf (e :: r) s := by rw [h.2]; exact List.count_pos_iff.2 hs
    rw [refOf_cons, if_neg (Nat.ne_of_gt hlt), hz s (Nat.le_of_lt hlt)] at h3
    cases h3

/-- a history as the DB produces it never panics, and the list keeps representing the live acquisitions -/
theorem run_legal : ∀ (ops : List Op) (l : SList) (live : List Nat) (hi : Nat), Rep l live →
    (∀ s ∈ live, s ≤ hi) → Legal hi live ops →
    ∃ l', run l ops = some l' ∧ Rep l' (liveRun live ops) := by
  intro ops
  induction ops with
  | nil => intro l live hi h _ _; exact ⟨l, rfl, h⟩
  | cons o os ih =>
    intro l live hi h hb hl
    cases o with
    | acquire s =>
      obtain ⟨h1, h2⟩ := hl
      have hb1 : ∀ x ∈ live, x ≤ s := fun x hx => Nat.le_trans (hb x hx) h1
      obtain ⟨l1, g1, g2⟩ := rep_acquire h s hb1
      have hb' : ∀ x ∈ live ++ [s], x ≤ s := by
        intro x hx
        rcases List.mem_append.1 hx with hx | hx
        · exact hb1 x hx
        · exact Nat.le_of_eq (List.mem_singleton.1 hx)
      obtain ⟨l', g3, g4⟩ := ih l1 _ s g2 hb' h2
      exact ⟨l', by show (acquire l s).bind _ = _; rw [g1]; exact g3, g4⟩
    | release s =>
      obtain ⟨h1, h2⟩ := hl
      obtain ⟨l1, g1, g2⟩ := rep_release h s h1
      obtain ⟨l', g3, g4⟩ := ih l1 _ hi g2 (fun x hx => hb x (List.mem_of_mem_erase hx)) h2
      exact ⟨l', by show (release l s).bind _ = _; rw [g1]; exact g3, g4⟩

end GoLevel.Snaps

import GoLevel.Proofs.DurableCreate
/-!
Transactions on the durable machine (for C11): what a crash image can hold of an open transaction, and what
`Discard` leaves behind.
-/
namespace GoLevel.Dur

/-- if everything an admissible view can deliver — the groups of its live tables, the records of the journals it
    replays — satisfies `P`, so does everything a crash image delivers: `DiskOK` also holds with the issued groups cut
    down to `P` -/
theorem DiskOK.open_bound {cfg : Cfg} (hn : cfg.failedRecordLeavesNoTrace = true) {d : Disk} {must issued : List Grp}
    (h : DiskOK cfg d must issued) (P : Grp → Prop) [DecidablePred P]
    (hP : AllViews cfg d fun v => (∀ g ∈ liveGrps d v, P g) ∧ ∀ p ∈ relJournals d v.jn, ∀ g ∈ p.2.all, P g)
    (ch : CrashChoice) :
    ∃ r, recoverR cfg (crashWith ch d) = .ok r ∧ GoodOpen must issued r ∧ ∀ x ∈ r.grps, P x := by
  have hd : DiskOK cfg d must (issued.filter fun g => decide (P g)) := by
    refine h.map_views fun mf hmf k hk v hv hok => ?_
    obtain ⟨p1, p2⟩ := hP mf hmf k hk v hv
    refine ⟨hok.tables, fun g hg => ?_, hok.tdisj, fun p hp g hg => ?_, hok.tj, hok.cover, hok.jnf⟩
    · obtain ⟨x, y, z⟩ := hok.tseq g hg
      exact ⟨x, List.mem_filter.2 ⟨y, decide_eq_true (p1 g hg)⟩, z⟩
    · obtain ⟨x, y⟩ := hok.jseq p hp g hg
      exact ⟨x, List.mem_filter.2 ⟨y, decide_eq_true (p2 p hp g hg)⟩⟩
  obtain ⟨r, hrec, hgood⟩ := (hd.crash hn ch).open_ok
  obtain ⟨r', hrec', hgood'⟩ := (h.crash hn ch).open_ok
  cases hrec.symm.trans hrec'
  exact ⟨r, hrec, hgood', fun x hx => of_decide_eq_true (List.mem_filter.1 (hgood.only x hx)).2⟩

theorem Inv.trOK {cfg : Cfg} {s : St} {d : Disk} (h : Inv cfg s d) {g : Grp} (hg : s.tr = some g) :
    s.w = .idle ∧ s.mem = [] ∧ s.frozen = none ∧ g.seq = s.seq + 1 ∧ g.sync = true :=
  (h.run (h.tr_running hg)).tr_open hg

/-- while a transaction is open and its commit record has not been written (also not by an append that reported an
    error: `St.limbo`), everything on the storage lies at or below `db.seq` -/
theorem Inv.tr_storage_bound {cfg : Cfg} {s : St} {d : Disk} (h : Inv cfg s d) {g : Grp} (hg : s.tr = some g)
    (hjob : Holds' s.job fun j => j.pc.beforeCommit = true) (hl : s.limbo = none) :
    AllViews cfg d fun v => (∀ x ∈ liveGrps d v, x.fin ≤ s.seq + 1) ∧
      ∀ p ∈ relJournals d v.jn, ∀ x ∈ p.2.all, x.fin ≤ s.seq + 1 := by
  have hntw : ¬ TrWindow s := by
    cases hj : s.job with
    | none => exact not_trWindow_of_nojob hj
    | some j => rw [hj] at hjob; exact not_trWindow_of_bc hj hjob hl
  exact fun mf hc k hk v hv =>
    (h.storage_bound (h.tr_running hg) hntw (by rw [(h.trOK hg).1]; rfl) mf hc k hk v hv).2

/-- … so no crash image delivers an entry of the open transaction — nor does a crash image of a storage `d'` that differs
    from `d` only in tables that are live in no admissible view -/
theorem Inv.tr_invisible {cfg : Cfg} (hn : cfg.failedRecordLeavesNoTrace = true) {s : St} {d : Disk}
    (h : Inv cfg s d) {g : Grp} (hg : s.tr = some g)
    (hjob : Holds' s.job fun j => j.pc.beforeCommit = true) (hl : s.limbo = none)
    {d' : Disk} {must issued : List Grp} (hd : DiskOK cfg d' must issued) (hc : curManifest d' = curManifest d)
    (hj : d'.journals = d.journals)
    (ht : AllViews cfg d fun v => ∀ t ∈ v.live, lookup d'.tables t = lookup d.tables t) (ch : CrashChoice) :
    ∃ r, recoverR cfg (crashWith ch d') = .ok r ∧ GoodOpen must issued r ∧ ∀ x ∈ r.grps, x.fin ≤ g.seq := by
  have hgs : g.seq = s.seq + 1 := (h.trOK hg).2.2.2.1
  have hb := h.tr_storage_bound hg hjob hl
  obtain ⟨r, hrec, hgood, hP⟩ := hd.open_bound hn (fun x => x.fin ≤ s.seq + 1) (fun mf hmf k hk v hv => by
    rw [hc] at hmf
    obtain ⟨b1, b2⟩ := hb mf hmf k hk v hv
    refine ⟨fun x hx => b1 x ?_, fun p hp => b2 p ?_⟩
    · rwa [liveGrps_congr (ht mf hmf k hk v hv)] at hx
    · rwa [mem_relJournals, hj, ← mem_relJournals] at hp) ch
  exact ⟨r, hrec, hgood, fun x hx => by have := hP x hx; omega⟩

theorem remove_all_eq (outs : List (Nat × List Grp)) (d : Disk) :
    outs.foldl (fun d o => d.apply (.remove .table o.1)) d =
      { d with tables := d.tables.filter fun p => decide (∀ o ∈ outs, p.1 ≠ o.1) } := by
  induction outs generalizing d with
  | nil => cases d; simp; exact (List.filter_eq_self.2 fun _ _ => rfl).symm
  | cons o os ih =>
    rw [List.foldl_cons, ih]
    show ({ d with tables := (d.tables.filter _).filter _ } : Disk) = _
    simp only [List.filter_filter, List.forall_mem_cons, Bool.decide_and, Bool.and_comm]

theorem lookup_remove_all (outs : List (Nat × List Grp)) (d : Disk) :
    ∀ o ∈ outs, lookup (outs.foldl (fun d o => d.apply (.remove .table o.1)) d).tables o.1 = none := by
  intro o ho
  rw [remove_all_eq]
  exact lookup_none_iff.2 fun p hp e => of_decide_eq_true (List.mem_filter.1 hp).2 o ho e

theorem remove_all_frame (outs : List (Nat × List Grp)) (d : Disk) :
    (outs.foldl (fun d o => d.apply (.remove .table o.1)) d).journals = d.journals ∧
    (outs.foldl (fun d o => d.apply (.remove .table o.1)) d).manifests = d.manifests ∧
    (outs.foldl (fun d o => d.apply (.remove .table o.1)) d).current = d.current := by
  rw [remove_all_eq]; exact ⟨rfl, rfl, rfl⟩

end GoLevel.Dur

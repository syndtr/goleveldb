import GoLevel.Proofs.RefLoopFPush
/-! The `delta` and `rel` messages over the full history, including the release of the current version by
`session.close` (C07). -/
namespace GoLevel.RefLoop

/-- The safety argument: a table that no converted version holds and no version from `c` on has is in no version
that still matters, as soon as every version the loop has not passed, and its base, are at `c` or later. -/
theorem safeF_of_gone {G : EnvF} {referenced : List Nat} {next c : Nat} {rm : List Nat}
    (hrfd : ∀ k, k ∈ referenced ↔ k < next ∧ G.inst k ∧ k ∉ G.rel)
    (hlive : ∀ k, next ≤ k → G.inst k → c ≤ k) (hcb : G.closing = false → c ≤ G.cb next)
    (hrm : ∀ r ∈ rm, (referenced.filter (fun k => decide (r ∈ G.T k))).length = 0 ∧ ∀ k, c ≤ k → r ∉ G.T k) :
    SafeF G next rm := by
  intro r hr k hik hal hrk
  obtain ⟨h1, h2⟩ := hrm r hr
  refine h2 k ?_ hrk
  rcases hal with hrel | ⟨h0, hal⟩
  · by_cases hk : k < next
    · exfalso
      have : k ∈ referenced.filter (fun k => decide (r ∈ G.T k)) :=
        List.mem_filter.mpr ⟨(hrfd k).mpr ⟨hk, hik, hrel⟩, by simpa using hrk⟩
      have := List.length_pos_of_mem this
      omega
    · exact hlive k (by omega) hik
  · exact Nat.le_trans (hcb h0) hal

theorem delta_factsF {S : State} {G : EnvF} (hI : InvF S G) (hc : G.closing = false)
    (hlt : G.up (G.dn + 1) < G.N) :
    G.inst G.dn ∧ G.dn ∉ G.rel ∧ G.dn < G.up (G.dn + 1) :=
  ⟨hI.wf.dn_inst (by omega), fun h => by have := hI.wf.rel_lt hc h; omega,
    by have := G.up_ge_self (G.dn + 1); omega⟩

/-- The invariant after `delta dn d`, whichever way the loop takes it: `deltas` gains the entry of `dn` exactly
while version `dn` is still cached; the counters are the caller's. -/
theorem delta_invF {S : State} {G : EnvF} (hI : InvF S G) (hc : G.closing = false) (hlt : G.up (G.dn + 1) < G.N)
    (hw : ({ G with dn := G.up (G.dn + 1) } : EnvF).WF) {dl : List (Nat × Delta)} {m : List Nat}
    (hdl : ∀ k, dl.lookup k =
      if k = G.dn ∧ S.next ≤ G.dn then some (G.din (G.up (G.dn + 1))) else S.deltas.lookup k)
    (hcnt : ∀ f, m.count f = ind (f ∈ G.L (({ G with dn := G.up (G.dn + 1) } : EnvF).cb S.next)) +
      (S.referenced.filter (fun k => decide (f ∈ G.T k))).length) :
    InvF { S with deltas := dl, fileRef := m } { G with dn := G.up (G.dn + 1) } := by
  obtain ⟨hdi, hnr, hdw⟩ := delta_factsF hI hc hlt
  -- every released version is below `dn`, so it keeps the delta it has
  have hrld : ∀ k, S.released.lookup k = if S.next ≤ k ∧ k ∈ G.rel then
      some (if k < G.up (G.dn + 1) then some (G.din (G.up (k + 1))) else none) else none :=
    lookup_congr hI.rld (fun _ => Iff.rfl) fun k hk => by
      have := hI.wf.rel_lt hc hk.2
      rw [if_pos this, if_pos (by omega)]
  refine ⟨hw, hI.nx, hI.ab, hI.ref, hrld, fun k => ?_, hI.rfd, hcnt⟩
  rw [hdl, hI.dl]
  by_cases hk : k = G.dn ∧ S.next ≤ G.dn
  · rw [if_pos hk, hk.1, if_pos ⟨hk.2, hdw, hdi, hnr⟩]; rfl
  · -- an installed id below the new `dn`, other than the old one, is below the old one
    rw [if_neg hk]
    refine ite_congr (propext (and_congr_right fun hn => ⟨fun h => ⟨Nat.lt_trans h.1 hdw, h.2⟩, fun h => ⟨?_, h.2⟩⟩))
      (fun _ => rfl) (fun _ => rfl)
    have hku : k < G.up (G.dn + 1) := h.1
    by_cases hkd : G.dn + 1 ≤ k
    · exact absurd h.2.1 (G.not_inst_below_up (G.dn + 1) k hkd hku)
    · omega

/-- `delta dn d` while version `dn` is still cached: the delta is stored. -/
theorem handle_delta_cachedF {S : State} {G : EnvF} {R : List Nat} (hI : InvF S G)
    (hH : HistC S G R) (hc : G.closing = false) (hlt : G.up (G.dn + 1) < G.N)
    (hw : ({ G with dn := G.up (G.dn + 1) } : EnvF).WF) (hle : S.next ≤ G.dn) :
    ∃ S1, handle S (.delta G.dn (G.din (G.up (G.dn + 1)))) = some (S1, []) ∧
      InvF S1 { G with dn := G.up (G.dn + 1) } ∧ HistC S1 { G with dn := G.up (G.dn + 1) } R := by
  obtain ⟨hdi, hnr, hdw⟩ := delta_factsF hI hc hlt
  have hlook : (S.ref.lookup G.dn).isSome = true := by
    rw [hI.ref]; simp [hle, hnr, hdi]
  have hI' : InvF { S with deltas := (G.dn, G.din (G.up (G.dn + 1))) :: S.deltas.filter (fun p => p.1 != G.dn) }
      { G with dn := G.up (G.dn + 1) } := by
    refine delta_invF hI hc hlt hw (fun k => ?_) (fun f => ?_)
    · rw [lookup_cons_eq, lookup_filter_ne]
      by_cases hk : k = G.dn <;> simp [hk, hle]
    · rw [hI.cnt f]
      have : ({ G with dn := G.up (G.dn + 1) } : EnvF).cb S.next = G.cb S.next := by
        show G.up (min (G.up (G.dn + 1)) S.next) = G.up (min G.dn S.next)
        rw [Nat.min_eq_right (by omega), Nat.min_eq_right hle]
      rw [this]
  exact ⟨_, by simp [handle, hlook], hI', hist_stepF_nil hI hI' hH (.inl rfl)
    (show G.dn ≤ G.up (G.dn + 1) by omega) (fun _ h => h)
    (fun _ h => Nat.ne_of_gt h)⟩

/-- `delta dn d` after version `dn` was converted to full references: the delta is applied at once. -/
theorem handle_delta_appliedF {S : State} {G : EnvF} {R : List Nat} (hI : InvF S G) (hG : GL G S.next)
    (hH : HistC S G R) (hc : G.closing = false) (hlt : G.up (G.dn + 1) < G.N)
    (hex : NetExact (G.L G.dn) (G.din (G.up (G.dn + 1))) (G.L (G.up (G.dn + 1))))
    (hw : ({ G with dn := G.up (G.dn + 1) } : EnvF).WF) (hgt : G.dn < S.next) :
    ∃ S1 rm, handle S (.delta G.dn (G.din (G.up (G.dn + 1)))) = some (S1, rm) ∧
      InvF S1 { G with dn := G.up (G.dn + 1) } ∧ SafeF { G with dn := G.up (G.dn + 1) } S.next rm ∧
      HistC S1 { G with dn := G.up (G.dn + 1) } (R ++ rm) := by
  obtain ⟨hdi, hnr, hdw⟩ := delta_factsF hI hc hlt
  have hlook : (S.ref.lookup G.dn).isSome = false := by
    rw [hI.ref]; simp; omega
  have hmem : G.dn ∈ S.referenced := (hI.rfd.2 _).mpr ⟨hgt, hdi, hnr⟩
  have hcb := cb_of_dn_le hdi (Nat.le_of_lt hgt)
  have hcb' : ({ G with dn := G.up (G.dn + 1) } : EnvF).cb S.next = G.up (G.dn + 1) := by
    show G.up (min (G.up (G.dn + 1)) S.next) = G.up (G.dn + 1)
    exact EnvF.up_eq_of_between (by omega) (Nat.min_le_left _ _)
  have hcnt : ∀ f, S.fileRef.count f = ind (f ∈ G.L G.dn) +
      (S.referenced.filter (fun k => decide (f ∈ G.T k))).length := by
    intro f; rw [hI.cnt f, hcb]
  obtain ⟨m', rm, h1, h2, h3, h4⟩ := apply_net hex hcnt
  have hI' : InvF { S with fileRef := m' } { G with dn := G.up (G.dn + 1) } :=
    delta_invF hI hc hlt hw (fun k => by rw [if_neg fun h => by omega]) (fun f => by rw [hcb']; exact h2 f)
  refine ⟨_, rm, by simp [handle, hlook, hmem, h1], hI', ?_, ?_⟩
  · exact safeF_of_gone (G := { G with dn := G.up (G.dn + 1) }) hI.rfd.2
      (fun k hk hik => EnvF.up_le_of_inst (by omega) hik) (fun _ => by rw [hcb']; exact Nat.le_refl _)
      (fun r hr => ⟨(h3 r hr).2.2,
        hG.gone_from hdw (G.up_inst_of_lt _ hlt) (Or.inl hnr) (hI.wf.sub _ r (h3 r hr).1) (h3 r hr).2.1⟩)
  · exact hist_stepF hI hI' hH (.inl rfl) (show G.dn ≤ G.up (G.dn + 1) by omega)
      (fun _ h => h) h4

/-- `rel k` of a version that was converted to full references. -/
theorem handle_rel_referencedF {S : State} {G : EnvF} {R : List Nat} {k : Nat} (hI : InvF S G)
    (hG : GL G S.next) (hH : HistC S G R) (hik : G.inst k) (hnot : k ∉ G.rel)
    (hkd : k < G.dn ∨ (G.closing = true ∧ k = G.dn)) (hkn : k < S.next) :
    ∃ S1 rm, handle S (.rel k (G.T k)) = some (S1, rm) ∧ InvF S1 { G with rel := k :: G.rel } ∧
      SafeF { G with rel := k :: G.rel } S.next rm ∧ HistC S1 { G with rel := k :: G.rel } (R ++ rm) := by
  have hw := hI.wf.rel_cons hik hkd
  have hmem : k ∈ S.referenced := (hI.rfd.2 _).mpr ⟨hkn, hik, hnot⟩
  have hcnt : ∀ f, S.fileRef.count f = ind (f ∈ G.L (G.cb S.next)) +
      ((S.referenced.filter (· != k)).filter (fun j => decide (f ∈ G.T j))).length +
      (if f ∈ G.T k then 1 else 0) := by
    intro f
    rw [hI.cnt f, filter_length_remove hI.rfd.1 hmem]
    simp only [decide_eq_true_eq]; omega
  obtain ⟨m', rm, h1, h2, h3, hrm⟩ := release_refs (hI.wf.nodupT k) hcnt
  have hI' : InvF { S with fileRef := m', referenced := S.referenced.filter (· != k) }
      { G with rel := k :: G.rel } := by
    refine ⟨hw, hI.nx, hI.ab, ?_, ?_, ?_, ⟨hI.rfd.1.filter _, ?_⟩, h2⟩
    · exact lookup_congr hI.ref (fun j => and_congr_right fun hj => by simp [show j ≠ k by omega, EnvF.inst, EnvF.slot])
        (fun _ _ => rfl)
    · exact lookup_congr hI.rld (fun j => and_congr_right fun hj => by simp [show j ≠ k by omega]) (fun _ _ => rfl)
    · exact lookup_congr hI.dl (fun j => and_congr_right fun hj => by simp [show j ≠ k by omega, EnvF.inst, EnvF.slot])
        (fun _ _ => rfl)
    · intro j
      simp only [List.mem_filter, hI.rfd.2 j, List.mem_cons, bne_iff_ne, ne_eq]
      constructor
      · rintro ⟨⟨h1, h2, h3⟩, h4⟩; exact ⟨h1, h2, fun h => by rcases h with h | h; exact h4 h; exact h3 h⟩
      · rintro ⟨h1, h2, h3⟩; exact ⟨⟨h1, h2, fun h => h3 (Or.inr h)⟩, fun h => h3 (Or.inl h)⟩
  refine ⟨_, rm, by simp [handle, hmem, h1], hI', ?_, ?_⟩
  · rcases hkd with hkd | ⟨hcl, hkd⟩
    · have hN : 0 < G.N := by have := EnvF.inst_lt hik; omega
      exact safeF_of_gone hI'.rfd.2 (fun j hj hij => cb_le_liveF G hj hij) (fun _ => Nat.le_refl _)
        (fun r hr => ⟨(h3 r hr).2.2,
          hG.gone_from (G.lt_cb hkd hkn) (hI.wf.cb_inst hN _) (Or.inl hnot) (h3 r hr).1 (ind_eq_zero.mp (h3 r hr).2.1)⟩)
    · -- the current version at close: only the (empty) closing version is above it
      obtain ⟨_, _, hT, _, hup⟩ := hI.wf.cls hcl
      refine safeF_of_gone (c := G.dn + 1) hI'.rfd.2 (fun j hj _ => by omega)
        (fun h0 => by rw [show G.closing = true from hcl] at h0; cases h0)
        (fun r hr => ⟨(h3 r hr).2.2, fun j hj hrj => ?_⟩)
      have hrj' : r ∈ G.T j := hrj
      have hij := EnvF.mem_T_inst hrj'
      have h5 : G.up (G.dn + 1) ≤ j := EnvF.up_le_of_inst hj hij
      have h6 := EnvF.inst_lt hij
      have : j = G.N - 1 := by omega
      rw [this, hT] at hrj'; cases hrj'
  · exact hist_stepF hI hI' hH (.inl rfl) (Nat.le_refl _)
      (fun _ h => List.mem_cons_of_mem _ h) hrm

/-- `rel k` of a version whose task is still cached: the release is remembered with the delta (if it came). -/
theorem handle_rel_cachedF {S : State} {G : EnvF} {R : List Nat} {k : Nat} (hI : InvF S G)
    (hH : HistC S G R) (hik : G.inst k) (hnot : k ∉ G.rel)
    (hkd : k < G.dn ∨ (G.closing = true ∧ k = G.dn)) (hge : S.next ≤ k) :
    ∃ S1, handle S (.rel k (G.T k)) = some (S1, []) ∧ InvF S1 { G with rel := k :: G.rel } ∧
      HistC S1 { G with rel := k :: G.rel } R := by
  have hw := hI.wf.rel_cons hik hkd
  have hlook : (S.ref.lookup k).isSome = true := by
    rw [hI.ref]; simp [hge, hik, hnot]
  have hnm : k ∉ S.referenced := fun h => by have := ((hI.rfd.2 k).mp h).1; omega
  have hdl : S.deltas.lookup k = if k < G.dn then some (G.din (G.up (k + 1))) else none := by
    rw [hI.dl]
    by_cases hkd : k < G.dn
    · simp [hge, hkd, hik, hnot]
    · simp [hkd]
  have hI' : InvF { S with
      released := (k, S.deltas.lookup k) :: S.released.filter (fun p => p.1 != k),
      deltas := S.deltas.filter (fun p => p.1 != k),
      ref := S.ref.filter (fun p => p.1 != k) } { G with rel := k :: G.rel } := by
    refine ⟨hw, hI.nx, hI.ab, ?_, ?_, ?_, ⟨hI.rfd.1, ?_⟩, hI.cnt⟩
    · intro j
      show (S.ref.filter (fun p => p.1 != k)).lookup j = _
      rw [lookup_filter_ne, hI.ref j]
      by_cases hj : j = k
      · subst hj; simp
      · simp only [hj, if_false, List.mem_cons, false_or]; rfl
    · intro j
      show ((k, S.deltas.lookup k) :: S.released.filter (fun p => p.1 != k)).lookup j = _
      rw [lookup_cons_eq, lookup_filter_ne, hI.rld j, hdl]
      by_cases hj : j = k
      · subst hj; simp [hge]; rfl
      · simp only [hj, if_false, List.mem_cons, false_or]; rfl
    · intro j
      show (S.deltas.filter (fun p => p.1 != k)).lookup j = _
      rw [lookup_filter_ne, hI.dl j]
      by_cases hj : j = k
      · subst hj; simp
      · simp only [hj, if_false, List.mem_cons, false_or]; rfl
    · intro j
      rw [hI.rfd.2 j]
      show _ ↔ j < S.next ∧ G.inst j ∧ j ∉ k :: G.rel
      simp only [List.mem_cons, not_or]
      constructor
      · rintro ⟨h1, h2, h3⟩; exact ⟨h1, h2, by omega, h3⟩
      · rintro ⟨h1, h2, _, h3⟩; exact ⟨h1, h2, h3⟩
  exact ⟨_, by simp [handle, hnm, hlook], hI', hist_stepF_nil hI hI' hH (.inl rfl) (Nat.le_refl _)
    (fun _ h => List.mem_cons_of_mem _ h) (fun _ h => Nat.ne_of_gt h)⟩

theorem handle_relF {S : State} {G : EnvF} {R : List Nat} {k : Nat} (hI : InvF S G) (hG : GL G S.next)
    (hH : HistC S G R) (hik : G.inst k) (hnot : k ∉ G.rel)
    (hkd : k < G.dn ∨ (G.closing = true ∧ k = G.dn)) :
    ∃ S1 rm, handle S (.rel k (G.T k)) = some (S1, rm) ∧ InvF S1 { G with rel := k :: G.rel } ∧
      SafeF { G with rel := k :: G.rel } S.next rm ∧ HistC S1 { G with rel := k :: G.rel } (R ++ rm) := by
  by_cases hkn : k < S.next
  · exact handle_rel_referencedF hI hG hH hik hnot hkd hkn
  · obtain ⟨S1, h1, h2, h3⟩ := handle_rel_cachedF hI hH hik hnot hkd (by omega)
    exact ⟨S1, [], h1, h2, safeF_nil _ _, by simpa using h3⟩

end GoLevel.RefLoop

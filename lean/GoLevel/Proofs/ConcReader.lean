import GoLevel.Proofs.ConcCover
/-!
# Per-reader invariants and the one case analysis (`step_inv`) that carries all invariants over a step
A reader's position `s` is at or below `pub`, and `view … s`, `Intact … s` see a collection `L` only through `leF s L`;
what writers and transactions add is above `pub`.
-/
namespace GoLevel.Conc

variable {c : UCmp}

def rBufs (σ : State) (mf : Nat × Option Nat) : List Entry := getBuf σ mf.1 ++ optBuf σ mf.2

theorem readSrc_eq (σ : State) (mf : Nat × Option Nat) (v : List Entry) :
    readSrc σ mf v = rBufs σ mf ++ v := rfl

structure RInv (c : UCmp) (σ : State) (i : Nat) (r : Reader) : Prop where
  seqLe : ∀ s, r.seq? = some s → s ≤ σ.pub
  regSnap : r.reg = true → ∃ s, r.seq? = some s ∧ (Owner.reader i, s) ∈ σ.snaps
  /-- the registration is kept until the version is pinned -/
  regNeeded : r.seq? ≠ none → r.ver? = none → r.reg = true
  memsSeq : r.mems? ≠ none → r.seq? ≠ none
  verMems : r.ver? ≠ none → r.mems? ≠ none
  /-- buffers the reader did not pin hold nothing it may see -/
  rbuf : ∀ s mf, r.seq? = some s → r.mems? = some mf →
      (σ.mem = mf.1 ∨ ∀ e ∈ memBuf σ, s < e.seq) ∧
      (∀ g, σ.frozen = some g → g = mf.1 ∨ some g = mf.2 ∨ ∀ e ∈ getBuf σ g, s < e.seq)
  intact : ∀ s mf, r.seq? = some s → r.mems? = some mf → Intact σ.hist (rBufs σ mf) s
  /-- with the pinned table collection, or with the current one while none is pinned -/
  rc : ∀ s mf, r.seq? = some s → r.mems? = some mf → ∀ k,
      view c (rBufs σ mf ++ r.ver?.getD σ.tabs) k s = view c σ.hist k s
  results : ∀ kv ∈ r.results, ∃ s, r.seq? = some s ∧ kv.2 = view c σ.hist kv.1 s
  /-- the pinned frozen buffer never grows again -/
  fOld : ∀ mf f, r.mems? = some mf → mf.2 = some f → f < σ.mem
  rorder : ∀ mf, r.mems? = some mf → ∀ a ∈ optBuf σ mf.2, ∀ b ∈ getBuf σ mf.1, a.seq < b.seq
  verHist : ∀ s v, r.seq? = some s → r.ver? = some v → ∀ e ∈ v, e.seq ≤ s → e ∈ σ.hist

def Readers (c : UCmp) (σ : State) : Prop := ∀ i r, σ.readers[i]? = some r → RInv c σ i r

theorem rBufs_sub {σ : State} (hb : Basic σ) (mf : Nat × Option Nat) : ∀ e ∈ rBufs σ mf, e ∈ σ.hist :=
  List.forall_mem_append.2 ⟨hb.bufSub _, hb.optBuf_hist _⟩

theorem RInv.rcAt {σ : State} {i : Nat} {r : Reader} (hr : RInv c σ i r) {x : Option (List Entry)} (hv : r.ver? = x)
    {s : Nat} {mf : Nat × Option Nat} (hs : r.seq? = some s) (hm : r.mems? = some mf) (k : Bytes) :
    view c (rBufs σ mf ++ x.getD σ.tabs) k s = view c σ.hist k s := hv ▸ hr.rc s mf hs hm k

/-- an unpinned reader is still registered, hence at or above the compaction floor -/
theorem RInv.floorLe {σ : State} {i : Nat} {r : Reader} (hr : RInv c σ i r) (hb : Basic σ) {s : Nat}
    (hs : r.seq? = some s) (hv : r.ver? = none) : σ.floor ≤ s := by
  obtain ⟨s', hs', hsn⟩ := hr.regSnap (hr.regNeeded (by rw [hs]; nofun) hv)
  rw [hs] at hs'; cases hs'
  exact hb.floorSnap _ hsn

theorem rinv_unpinned {σ : State} {i : Nat} {r : Reader} (hm : r.mems? = none) (hv : r.ver? = none)
    (hres : r.results = []) (seqLe : ∀ s, r.seq? = some s → s ≤ σ.pub)
    (regSnap : r.reg = true → ∃ s, r.seq? = some s ∧ (Owner.reader i, s) ∈ σ.snaps)
    (hreg : r.seq? ≠ none → r.reg = true) : RInv c σ i r where
  seqLe := seqLe
  regSnap := regSnap
  regNeeded h _ := hreg h
  memsSeq h := absurd hm h
  verMems h := absurd hv h
  rbuf _ mf _ h := nomatch hm.symm.trans h
  intact _ mf _ h := nomatch hm.symm.trans h
  rc _ mf _ h := nomatch hm.symm.trans h
  results kv h := by rw [hres] at h; cases h
  fOld mf _ h := nomatch hm.symm.trans h
  rorder mf h := nomatch hm.symm.trans h
  verHist _ v _ h := nomatch hv.symm.trans h

/-- what is added is above `pub`; only the write buffer gains anything, and that is newer than all history -/
theorem rinv_grow {σ σ' : State} {i : Nat} {r : Reader} (hb : Basic σ)
    (hH : Grow σ.pub σ.hist σ'.hist)
    (hB : ∀ id, ∃ E, getBuf σ' id = getBuf σ id ++ E ∧
      ∀ e ∈ E, σ.pub < e.seq ∧ id = σ.mem ∧ ∀ x ∈ σ.hist, x.seq < e.seq)
    (hmem : σ'.mem = σ.mem) (hfr : ∀ g, σ'.frozen = some g → σ.frozen = some g)
    (htabs : σ'.tabs = σ.tabs) (hpub : σ.pub ≤ σ'.pub)
    (hsn : ∀ s, (Owner.reader i, s) ∈ σ.snaps → (Owner.reader i, s) ∈ σ'.snaps)
    (hr : RInv c σ i r) : RInv c σ' i r := by
  have hO : ∀ f, ∃ E, optBuf σ' f = optBuf σ f ++ E ∧ ∀ e ∈ E, σ.pub < e.seq ∧ f = some σ.mem := by
    intro f
    cases f with
    | none => exact ⟨[], rfl, nofun⟩
    | some f =>
      obtain ⟨E, h1, h2⟩ := hB f
      exact ⟨E, h1, fun e he => ⟨(h2 e he).1, congrArg some (h2 e he).2.1⟩⟩
  have hleG : ∀ {s}, s ≤ σ.pub → ∀ id, leF s (getBuf σ' id) = leF s (getBuf σ id) := fun hs id => by
    obtain ⟨E, h1, h2⟩ := hB id
    rw [h1, leF_append_above fun e he => Nat.lt_of_le_of_lt hs (h2 e he).1]
  have hleB : ∀ {s}, s ≤ σ.pub → ∀ mf, leF s (rBufs σ' mf) = leF s (rBufs σ mf) := fun hs mf => by
    obtain ⟨E, h1, h2⟩ := hO mf.2
    rw [rBufs, rBufs, leF_append, leF_append, hleG hs, h1,
      leF_append_above fun e he => Nat.lt_of_le_of_lt hs (h2 e he).1]
  exact {
    seqLe := fun s hs => Nat.le_trans (hr.seqLe s hs) hpub
    regSnap := fun hreg => (hr.regSnap hreg).imp fun s h => ⟨h.1, hsn s h.2⟩
    regNeeded := hr.regNeeded
    memsSeq := hr.memsSeq
    verMems := hr.verMems
    rbuf := fun s mf hs hm => by
      have hsp := hr.seqLe s hs
      obtain ⟨a, b⟩ := hr.rbuf s mf hs hm
      rw [memBuf, hmem]
      exact ⟨a.imp_right (above_of_leF (hleG hsp _)), fun g hg =>
        (b g (hfr g hg)).imp_right (Or.imp_right (above_of_leF (hleG hsp g)))⟩
    intact := fun s mf hs hm =>
      intact_of_leF (hH.leF (hr.seqLe s hs)) (hleB (hr.seqLe s hs) mf) (hr.intact s mf hs hm)
    rc := fun s mf hs hm k => by
      have hsp := hr.seqLe s hs
      rw [view_eq_of_leF (hH.leF hsp), ← hr.rc s mf hs hm k, htabs]
      exact view_eq_of_leF (by rw [leF_append, leF_append, hleB hsp])
    results := fun kv hkv => (hr.results kv hkv).imp fun s h =>
      ⟨h.1, by rw [h.2, view_eq_of_leF (hH.leF (hr.seqLe s h.1))]⟩
    fOld := fun mf f hm hf => hmem ▸ hr.fOld mf f hm hf
    rorder := fun mf hm a ha b hb' => by
      obtain ⟨E, h1, h2⟩ := hO mf.2
      obtain ⟨F, h3, h4⟩ := hB mf.1
      rw [h1] at ha; rw [h3] at hb'
      rcases List.mem_append.1 ha with ha | ha
      · rcases List.mem_append.1 hb' with hb' | hb'
        · exact hr.rorder mf hm a ha b hb'
        · exact (h4 b hb').2.2 a (hb.optBuf_hist _ a ha)
      · exact absurd (hr.fOld mf _ hm (h2 a ha).2) (Nat.lt_irrefl _)
    verHist := fun s v hs hv e he hle => hH.sub e (hr.verHist s v hs hv e he hle) }

theorem rinv_frame {σ σ' : State} {i : Nat} {r : Reader} (hb : Basic σ)
    (hh : σ'.hist = σ.hist) (hbufs : σ'.bufs = σ.bufs) (hmem : σ'.mem = σ.mem)
    (hfr : ∀ g, σ'.frozen = some g → σ.frozen = some g) (htabs : σ'.tabs = σ.tabs) (hpub : σ.pub ≤ σ'.pub)
    (hsn : ∀ s, (Owner.reader i, s) ∈ σ.snaps → (Owner.reader i, s) ∈ σ'.snaps)
    (hr : RInv c σ i r) : RInv c σ' i r :=
  rinv_grow hb (hh ▸ .refl ..)
    (fun id => ⟨[], by rw [getBuf, hbufs, List.append_nil]; rfl, nofun⟩) hmem hfr htabs hpub hsn hr

/-- a reader with a pinned version does not look at the current tables -/
theorem rinv_tabs {σ : State} {i : Nat} {r : Reader} (T : List Entry) (hr : RInv c σ i r)
    (hT : r.ver? = none → ∀ s mf, r.seq? = some s → r.mems? = some mf → ∀ k,
      view c (rBufs σ mf ++ σ.tabs) k s = view c σ.hist k s → view c (rBufs σ mf ++ T) k s = view c σ.hist k s) :
    RInv c { σ with tabs := T } i r :=
  { hr with
    rc := fun s mf hs hm k => by
      cases hv : r.ver? with
      | some v => exact hr.rcAt hv hs hm k
      | none => exact hT hv s mf hs hm k (hr.rcAt hv hs hm k) }

theorem getElem?_concat_cases {l : List Reader} {j : Nat} {x r : Reader} (h : (l ++ [x])[j]? = some r) :
    l[j]? = some r ∨ r = x := by
  rw [List.getElem?_append] at h
  split at h
  · exact Or.inl h
  · refine Or.inr ?_
    cases hk : j - l.length with
    | zero => rw [hk] at h; exact (Option.some.inj h).symm
    | succ n => rw [hk] at h; cases h

theorem readers_set {σ σ' : State} {i : Nat} {r' : Reader} (hR : Readers c σ)
    (hrd : σ'.readers = σ.readers.set i r') (hi : RInv c σ' i r')
    (ho : ∀ j r, i ≠ j → RInv c σ j r → RInv c σ' j r) : Readers c σ' := by
  intro j r hj
  rw [hrd] at hj
  rcases getElem?_set_cases hj with ⟨rfl, rfl⟩ | ⟨hne, hj'⟩
  · exact hi
  · exact ho j r hne (hR j r hj')

theorem readers_rSeq {σ : State} {i : Nat} {r : Reader} {s : Nat} {lv : Bool} (hb : Basic σ) (hR : Readers c σ)
    (hi : σ.readers[i]? = some r) (hseq : r.seq? = none) (hs : s ≤ σ.pub) :
    Readers c { σ with readers := σ.readers.set i { r with seq? := some s, live := lv, reg := true },
                       snaps := σ.snaps ++ [(.reader i, s)] } := by
  have hr := hR i r hi
  have hm : r.mems? = none := Decidable.byContradiction fun h => hr.memsSeq h hseq
  have hv : r.ver? = none := Decidable.byContradiction fun h => hr.verMems h hm
  refine readers_set hR rfl (rinv_unpinned hm hv (List.eq_nil_iff_forall_not_mem.2 fun kv hkv => ?_)
    (fun s' hs' => by cases hs'; exact hs) (fun _ => ⟨s, rfl, List.mem_append_right _ (List.mem_singleton_self _)⟩)
    fun _ => rfl)
    fun j r _ hr => rinv_frame hb rfl rfl rfl (fun _ h => h) rfl (Nat.le_refl _)
      (fun _ h => List.mem_append_left _ h) hr
  obtain ⟨s', h1, _⟩ := hr.results kv hkv
  rw [hseq] at h1; cases h1

theorem step_inv {σ σ' : State} {a : Action} (hb : Basic σ) (h : Step Cfg.real c σ a σ') :
    Basic σ' ∧ (Cover c σ → Cover c σ') ∧ (Cover c σ → Readers c σ → Readers c σ') := by
  obtain ⟨h, hg⟩ := h
  cases a with
  | writeInsert es =>
    obtain ⟨g1, g2, rfl⟩ := doWriteInsert_some h
    obtain ⟨hc1, hc2⟩ := consec_spec _ _ g2
    have hnewer : ∀ e ∈ es, ∀ u ∈ univ σ, u.seq < e.seq := fun e he u hu => by
      have h1 := hb.bound u hu
      rw [g1] at h1
      exact Nat.lt_of_le_of_lt h1 (hc1 e he).1
    have hnew : ∀ e ∈ es, σ.pub < e.seq := fun e he => Nat.lt_of_le_of_lt (Nat.le_add_right _ _) (hc1 e he).1
    refine (fun (hb' : Basic _) => ⟨hb', fun hc => ?_, fun _ hR => ?_⟩) ?_
    · obtain ⟨huniq, hbound, -⟩ := hb.noTr_facts g1
      exact { hb with
        uniq := by
          show Uniq ((σ.hist ++ es) ++ privOf σ.tr)
          simp only [g1, privOf, List.append_nil]
          exact uniq_append huniq hc2 fun u hu' e he => hnewer e he u (List.mem_append_left _ hu')
        bound := by
          show ∀ e ∈ (σ.hist ++ es) ++ privOf σ.tr, e.seq ≤ σ.pub + (σ.pending ++ es).length + (privOf σ.tr).length
          simp only [g1, privOf, List.append_nil, List.length_append, List.length_nil]
          intro e he
          rcases List.mem_append.1 he with he | he
          · have := hbound e he; omega
          · have := (hc1 e he).2; omega
        bufSub := fun id e he => by
          rw [getBuf_wi σ _ es id rfl] at he
          show e ∈ σ.hist ++ es
          split at he
          · exact (List.mem_append.1 he).elim (fun h => List.mem_append_left _ (hb.bufSub id e h))
              (List.mem_append_right _)
          · exact List.mem_append_left _ (hb.bufSub id e he)
        tabSub := fun e he => (hb.tabSub e he).imp_left (List.mem_append_left _)
        fresh := fun id hid => by
          have hne : id ≠ σ.mem := fun h => by have := hb.memLt; have : σ.nextId ≤ id := hid; omega
          rw [getBuf_wi σ _ es id rfl, if_neg hne]
          exact hb.fresh id hid
        trExcl := fun t ht => absurd ht (by show σ.tr ≠ some t; rw [g1]; simp)
        pendSeq := fun e he => by
          show σ.pub < e.seq ∧ e ∈ σ.hist ++ es
          rcases List.mem_append.1 (show e ∈ σ.pending ++ es from he) with he | he
          · exact ⟨(hb.pendSeq e he).1, List.mem_append_left _ (hb.pendSeq e he).2⟩
          · exact ⟨hnew e he, List.mem_append_right _ he⟩
        histPub := fun e he hlt => by
          show e ∈ σ.pending ++ es
          rcases List.mem_append.1 (show e ∈ σ.hist ++ es from he) with he | he
          · exact List.mem_append_left _ (hb.histPub e he hlt)
          · exact List.mem_append_right _ he }
    · apply cover_write (E := es) hb hb' hc
      · intro e
        simp only [univ, List.mem_append, or_assoc, or_comm]
      · intro e
        simp only [bufPartL, memBuf]
        rw [getBuf_wi σ _ es _ rfl]
        simp only [if_true, List.mem_append, or_assoc]
      · simp only [frozenBuf]
        cases hf : σ.frozen with
        | none => rfl
        | some f =>
          simp only [optBuf]
          rw [getBuf_wi σ _ es _ rfl]
          have : f ≠ σ.mem := by intro h; apply hb.frozenNe; rw [hf, h]
          simp only [this, if_false]
      · rfl
      · rfl
      · rfl
      · exact hnewer
    · refine fun j r hj => rinv_grow hb ⟨es, rfl, hnew⟩ (fun id => ?_) rfl (fun _ h => h) rfl (Nat.le_refl _)
        (fun _ h => h) (hR j r hj)
      rw [getBuf_wi σ _ es id rfl]
      by_cases hid : id = σ.mem
      · exact ⟨es, if_pos hid, fun e he => ⟨hnew e he, hid, fun x hx => hnewer e he x (List.mem_append_left _ hx)⟩⟩
      · exact ⟨[], (if_neg hid).trans (List.append_nil _).symm, nofun⟩
  | publish =>
    obtain ⟨g1, rfl⟩ := doPublish_some h
    refine ⟨?_, fun hc => { hc with }, fun _ hR => ?_⟩
    · obtain ⟨huniq, hbound, htabs⟩ := hb.noTr_facts g1
      exact basic_pubUp hb rfl g1 (Nat.le_add_right _ _) (fun _ h => h) huniq hbound htabs
    · exact fun j r hj => rinv_frame hb rfl rfl rfl (fun _ h => h) rfl (Nat.le_add_right _ _) (fun _ h => h) (hR j r hj)
  | seqSkip n =>
    obtain ⟨g1, g2, rfl⟩ := doSeqSkip_some h
    refine ⟨?_, fun hc => { hc with }, fun _ hR => ?_⟩
    · obtain ⟨huniq, hbound, htabs⟩ := hb.noTr_facts g1
      rw [g2] at hbound
      exact basic_pubUp hb g2 g1 (Nat.le_add_right _ _) (fun _ h => h) huniq
        (fun e he => Nat.le_trans (hbound e he) (Nat.le_add_right _ _)) htabs
    · exact fun j r hj => rinv_frame hb rfl rfl rfl (fun _ h => h) rfl (Nat.le_add_right _ _) (fun _ h => h) (hR j r hj)
  | rotate =>
    obtain ⟨g1, -, g3, rfl⟩ := doRotate_some h
    have hfresh : getBuf σ σ.nextId = [] := hb.fresh _ (Nat.le_refl _)
    refine ⟨?_, fun hc => ?_, fun _ hR => ?_⟩
    · exact { hb with
        fresh := fun id hid => hb.fresh id (by have : σ.nextId + 1 ≤ id := hid; omega)
        memLt := Nat.lt_succ_self _
        trExcl := fun t ht => absurd ht (by show σ.tr ≠ some t; rw [g1]; simp)
        flushedFrozen := fun h => by cases h
        frozenLt := fun f hf => by cases hf; exact hb.memLt }
    · -- the write buffer becomes the frozen one and nothing else is buffered: the buffer part is the same list
      have hX : privOut σ.tr = [] := by rw [g1]; rfl
      have hB : bufPart { σ with frozen := some σ.mem, mem := σ.nextId, nextId := σ.nextId + 1, flushed := false }
          = bufPart σ := by
        show (privOut σ.tr ++ getBuf σ σ.nextId) ++ getBuf σ σ.mem = _
        simp only [bufPart, bufPartL, memBuf, frozenBuf, g3, optBuf, hX, hfresh, List.append_nil, List.nil_append]
      constructor
      · rw [hB]; exact hc.intact
      · intro f _ m hm
        have : m ∈ privOut σ.tr ++ getBuf σ σ.nextId := hm
        rw [hX, hfresh] at this; cases this
      · rw [hB]; exact hc.cov
      · intro hf; cases hf
    · intro i r hi
      have hr := hR i r hi
      exact { hr with
        -- the old write buffer, now frozen, was pinned or held nothing the reader may see
        rbuf := fun s mf hs hm => by
          refine ⟨Or.inr fun e he => ?_, fun g hg => ?_⟩
          · have : e ∈ getBuf σ σ.nextId := he
            rw [hfresh] at this; cases this
          · cases hg; exact (hr.rbuf s mf hs hm).1.imp_right Or.inr
        fOld := fun mf f hm hf => Nat.lt_trans (hr.fOld mf f hm hf) hb.memLt }
  | flushInstall =>
    obtain ⟨f, g1, -, rfl⟩ := doFlushInstall_some h
    refine ⟨?_, fun hc => ?_, fun _ hR => ?_⟩
    · exact { hb with
        tabSub := fun e he => by
          rcases List.mem_append.1 (show e ∈ σ.tabs ++ getBuf σ f from he) with he | he
          · exact hb.tabSub e he
          · exact Or.inl (hb.bufSub f e he)
        flushedFrozen := fun _ => by show σ.frozen ≠ none; rw [g1]; simp }
    · have hF : frozenBuf σ = getBuf σ f := by simp only [frozenBuf, g1, optBuf]
      constructor
      · exact hc.intact
      · exact hc.order
      · intro k s hs
        show view c (bufPart σ ++ (σ.tabs ++ getBuf σ f)) k s = view c (univ σ) k s
        have hin : ∀ e ∈ getBuf σ f, e ∈ bufPart σ ++ σ.tabs := fun e he =>
          List.mem_append_left _ (List.mem_append_right (bufPartL σ) (by rw [hF]; exact he))
        rw [← List.append_assoc, view_append_present hin]
        exact hc.cov k s hs
      · intro _ k s hs
        refine (view_congr hb.uniq hb.src_univ fun e _ => ?_).trans (hc.cov k s hs)
        show e ∈ bufPartL σ ++ (σ.tabs ++ getBuf σ f) ↔ _
        simp only [List.mem_append, bufPart, hF, or_comm, or_left_comm]
    · intro i r hi
      have hr := hR i r hi
      exact { rinv_tabs (σ.tabs ++ getBuf σ f) hr (fun _ s mf hs hm k h0 => by
        -- the flushed buffer is one the reader pinned, or holds nothing it may see
        rw [← h0, ← List.append_assoc]
        rcases (hr.rbuf s mf hs hm).2 f g1 with b | b | b
        · exact view_append_present fun e he => List.mem_append_left _ (List.mem_append_left _ (b ▸ he))
        · exact view_append_present fun e he =>
            List.mem_append_left _ (List.mem_append_right _ (b ▸ (he : e ∈ optBuf σ (some f))))
        · exact view_eq_of_leF (leF_append_above b)) with }
  | flushDrop =>
    obtain ⟨-, g2, rfl⟩ := doFlushDrop_some h
    refine ⟨?_, fun hc => ?_, fun _ hR => ?_⟩
    · exact { hb with
        trExcl := fun t ht => by
          obtain ⟨a, b, _, d⟩ := hb.trExcl t ht
          exact ⟨a, b, rfl, d⟩
        flushedFrozen := fun h => by cases h
        frozenLt := fun f h => by cases h }
    · have hB : bufPart { σ with frozen := none, flushed := false } = bufPartL σ := List.append_nil _
      constructor
      · rw [hB]; exact hc.intactL
      · intro f hf; cases hf
      · rw [hB]; exact hc.cov2 (g2.resolve_right nofun)
      · intro hf; cases hf
    · exact fun j r hj => rinv_frame hb rfl rfl rfl nofun rfl (Nat.le_refl _) (fun _ h => h) (hR j r hj)
  | compStart =>
    obtain ⟨-, rfl⟩ := doCompStart_some h
    refine ⟨?_, fun hc => ?_, fun _ hR j r hj => { hR j r hj with }⟩
    · exact { hb with
        floorSnap := fun p hp => minSeq_le_snap σ p hp
        floorPub := minSeq_le_pub σ
        compLe := fun m hm => by cases hm; exact Nat.le_refl _ }
    · have hle : σ.floor ≤ minSeq σ := le_minSeq σ _ hb.floorPub hb.floorSnap
      constructor
      · exact hc.intact
      · exact hc.order
      · intro k s hs
        exact hc.cov k s (Nat.le_trans hle hs)
      · intro hf k s hs
        exact hc.cov2 hf k s (Nat.le_trans hle hs)
  | compCommit nt =>
    obtain ⟨m, g1, g2, rfl⟩ := doCompCommit_some h
    have hm := hb.compLe m g1
    have hnt : ∀ e ∈ nt, e ∈ univ σ := fun e he => hb.tab_univ e (g2 e he)
    refine ⟨?_, fun hc => ?_, fun _ hR => ?_⟩
    · exact { hb with
        tabSub := fun e he => hb.tabSub e (g2 e he)
        compLe := fun m hm => by cases hm }
    · constructor
      · exact hc.intact
      · exact hc.order
      · intro k s hs
        exact view_comp_congr hb.uniq hb.bufPart_univ hnt
          (fun h hh _ => hc.intact h hh) (hc.cov k s hs)
          (hg m g1 k s (Nat.le_trans hm hs))
      · intro hf k s hs
        exact view_comp_congr hb.uniq hb.bufPartL_univ hnt
          (fun h hh _ => hc.intactL h hh) (hc.cov2 hf k s hs)
          (hg m g1 k s (Nat.le_trans hm hs))
    · intro i r hi
      have hr := hR i r hi
      exact { rinv_tabs nt hr (fun hv s mf hs hm k h0 => by
        have hU := hb.leF_univ (hr.seqLe s hs)
        rw [← view_eq_of_leF hU] at h0 ⊢
        exact view_comp_congr hb.uniq (fun e he => List.mem_append_left _ (rBufs_sub hb mf e he))
          hnt (intact_of_leF hU rfl (hr.intact s mf hs hm)) h0
          (hg m g1 k s (Nat.le_trans (hb.compLe m g1) (hr.floorLe hb hs hv)))) with }
  | snapAcquire =>
    cases doSnapAcquire_some h
    refine ⟨?_, fun hc => { hc with }, fun _ hR => ?_⟩
    · exact { hb.snaps_add (.user σ.nextId) hb.floorPub (Nat.le_refl _) with
        fresh := fun id hid => hb.fresh id (by have : σ.nextId + 1 ≤ id := hid; omega)
        memLt := Nat.lt_succ_of_lt hb.memLt }
    · exact fun j r hj => rinv_frame hb rfl rfl rfl (fun _ h => h) rfl (Nat.le_refl _)
        (fun _ h => List.mem_append_left _ h) (hR j r hj)
  | snapRelease id =>
    cases doSnapRelease_some h
    refine ⟨hb.snaps_filter _, fun hc => { hc with }, fun _ hR => ?_⟩
    · exact fun j r hj => rinv_frame hb rfl rfl rfl (fun _ h => h) rfl (Nat.le_refl _)
        (fun _ h => List.mem_filter.2 ⟨h, by simp⟩) (hR j r hj)
  | rNew =>
    cases doRNew_some h
    refine ⟨?_, fun hc => { hc with }, fun _ hR => ?_⟩
    · exact { hb with }
    · intro j r hj
      rcases getElem?_concat_cases (show (σ.readers ++ [({} : Reader)])[j]? = some r from hj) with hj' | rfl
      · exact { hR j r hj' with }
      · exact rinv_unpinned rfl rfl rfl nofun nofun fun h => absurd rfl h
  | rSeq i =>
    obtain ⟨r0, g1, g2, rfl⟩ := doRSeq_some h
    exact ⟨{ hb.snaps_add (.reader i) hb.floorPub (Nat.le_refl _) with }, fun hc => { hc with },
      fun _ hR => readers_rSeq hb hR g1 g2 (Nat.le_refl _)⟩
  | rSeqSnap i id =>
    obtain ⟨r0, s, g1, g2, g3, rfl⟩ := doRSeqSnap_some h
    have hm := mem_of_lookup g2
    exact ⟨{ hb.snaps_add (.reader i) (hb.floorSnap _ hm) (hb.snapsLe _ hm) with }, fun hc => { hc with },
      fun _ hR => readers_rSeq hb hR g1 g3 (hb.snapsLe _ hm)⟩
  | rMems i =>
    obtain ⟨r0, g1, g2, -, g4, rfl⟩ := doRMems_some h
    refine ⟨basic_setReader hb, fun hc => { hc with }, fun hc hR => ?_⟩
    · have hr := hR i r0 g1
      have hver := g4.resolve_right nofun
      exact readers_set hR rfl { hr with
        memsSeq := fun _ => g2
        verMems := nofun
        rbuf := fun s mf hs hm => by
          cases hm
          exact ⟨Or.inl rfl, fun g hg => Or.inr (Or.inl hg.symm)⟩
        intact := fun s mf hs hm => by
          cases hm
          exact hc.intact_pub hb (hr.seqLe s hs)
        rc := fun s mf hs hm k => by
          cases hm
          show view c (rBufs σ (σ.mem, σ.frozen) ++ r0.ver?.getD σ.tabs) k s = view c σ.hist k s
          rw [hver]
          exact hc.cov_pub hb (hr.floorLe hb hs hver) (hr.seqLe s hs) k
        fOld := fun mf f hm hf => by
          cases hm
          exact hb.frozenLt f hf
        rorder := fun mf hm a ha b hb' => by
          cases hm
          exact hc.order a ha b (List.mem_append_right _ hb') }
        fun _ _ _ hr => { hr with }
  | rVer i =>
    obtain ⟨r0, g1, -, g3, g4, rfl⟩ := doRVer_some h
    refine ⟨basic_setReader hb, fun hc => { hc with }, fun _ hR => ?_⟩
    · have hr := hR i r0 g1
      exact readers_set hR rfl { hr with
        regNeeded := nofun
        verMems := fun _ => g4.resolve_right nofun
        rc := fun s mf hs hm k => hr.rcAt g3 hs hm k
        verHist := fun s v hs hv e he hle => by
          cases hv
          exact hb.tab_hist_le e he (Nat.le_trans hle (hr.seqLe s hs)) }
        fun _ _ _ hr => { hr with }
  | rLookup i k =>
    obtain ⟨r0, s, mf, v, g1, g2, g3, g4, rfl⟩ := doRLookup_some h
    refine ⟨basic_setReader hb, fun hc => { hc with }, fun _ hR => ?_⟩
    · have hr := hR i r0 g1
      exact readers_set hR rfl { hr with
        results := fun kv hkv => by
          rcases List.mem_append.1 hkv with hkv | hkv
          · exact hr.results kv hkv
          · rw [List.mem_singleton.1 hkv]
            exact ⟨s, g2, hr.rcAt g4 g2 g3 k⟩ }
        fun _ _ _ hr => { hr with }
  | rRelease i =>
    obtain ⟨r0, g1, -, -, g4, rfl⟩ := doRRelease_some h
    refine ⟨{ hb.snaps_filter _ with }, fun hc => { hc with }, fun _ hR => ?_⟩
    · have hr := hR i r0 g1
      exact readers_set hR rfl { hr with regSnap := nofun, regNeeded := fun _ h => absurd h g4 }
        (fun j r hne hr => rinv_frame hb rfl rfl rfl (fun _ h => h) rfl (Nat.le_refl _)
          (fun s hs => List.mem_filter.2 ⟨hs, decide_eq_true fun h => hne (Owner.reader.inj h).symm⟩) hr)
  | trOpen =>
    obtain ⟨g1, g2, g3, g4, rfl⟩ := doTrOpen_some h
    refine ⟨?_, fun hc => ?_, fun _ hR j r hj => { hR j r hj with }⟩
    · obtain ⟨huniq, hbound, htabs⟩ := hb.noTr_facts g1
      exact { hb with
        uniq := by show Uniq (σ.hist ++ []); rwa [List.append_nil]
        bound := fun e he => by
          rw [show univ _ = σ.hist ++ [] from rfl, List.append_nil] at he
          exact hbound e he
        tabSub := fun e he => Or.inl (htabs e he)
        trExcl := fun t ht => by cases ht; exact ⟨g2, g3, g4.resolve_right nofun, rfl⟩
        privSeq := nofun }
    · exact cover_eq hc (by simp [univ, g1, privOf]) (by simp [bufPartL, g1, privOut, memBuf, getBuf]) rfl rfl rfl rfl
  | trPut e =>
    obtain ⟨t, g1, g2, g3, rfl⟩ := doTrPut_some h
    obtain ⟨x1, x2, x3, x4⟩ := hb.trExcl t g1
    obtain ⟨huniq, hbound, hps, -⟩ := hb.tr_facts g1
    have hnewer : ∀ u ∈ σ.hist ++ t.priv, u.seq < e.seq := fun u hu => by have := hbound u hu; omega
    refine (fun (hb' : Basic _) => ⟨hb', fun hc => ?_, fun _ hR j r hj => { hR j r hj with }⟩) ?_
    · exact { hb with
        uniq := by
          show Uniq (σ.hist ++ (t.priv ++ [e]))
          rw [← List.append_assoc]
          exact uniq_append huniq (fun a ha b hb' _ => by rw [List.mem_singleton.1 ha, List.mem_singleton.1 hb'])
            fun u hu' e' he' => by rw [List.mem_singleton.1 he']; exact hnewer u hu'
        bound := by
          show ∀ e' ∈ σ.hist ++ (t.priv ++ [e]), e'.seq ≤ σ.pub + σ.pending.length + (t.priv ++ [e]).length
          rw [← List.append_assoc, x1]
          intro e' he'
          simp only [List.length_append, List.length_singleton, List.length_nil]
          rcases List.mem_append.1 he' with he' | he'
          · have := hbound e' he'; omega
          · rw [List.mem_singleton.1 he']; omega
        tabSub := fun e' he' => Or.inl (hb.tabs_hist g1 g2 e' he')
        trExcl := fun t' ht' => by obtain rfl := Option.some.inj ht'; exact ⟨x1, x2, x3, x4⟩
        privSeq := fun e' he' => by
          rcases List.mem_append.1 (show e' ∈ t.priv ++ [e] from he') with he' | he'
          · exact hps e' he'
          · rw [List.mem_singleton.1 he']; show σ.pub < e.seq; omega }
    · apply cover_write (E := [e]) hb hb' hc
      · intro e'
        simp only [univ, g1, privOf, List.mem_append, or_assoc]
      · intro e'
        show e' ∈ privOut (some { t with priv := t.priv ++ [e] }) ++ memBuf σ ↔ _
        simp only [bufPartL, g1, privOut, g2, Bool.false_eq_true, if_false, List.mem_append, or_assoc, or_comm,
          or_left_comm]
      · rfl
      · rfl
      · rfl
      · rfl
      · intro e' he' u hu
        rw [univ, g1] at hu
        rw [List.mem_singleton.1 he']
        exact hnewer u hu
  | trGet k =>
    obtain ⟨t, g1, g2, rfl⟩ := doTrGet_some h
    refine ⟨?_, fun hc => ?_, fun _ hR j r hj => { hR j r hj with }⟩
    · exact basic_trKeep hb g1 rfl rfl fun e he => Or.inl (hb.tabs_hist g1 g2 e he)
    · exact cover_eq hc (by simp [univ, g1, privOf]) (by simp [bufPartL, g1, privOut, memBuf, getBuf]) rfl rfl rfl rfl
  | trInstall =>
    obtain ⟨t, g1, g2, rfl⟩ := doTrInstall_some h
    refine ⟨?_, fun hc => ?_, fun _ hR => ?_⟩
    · refine basic_trKeep hb g1 rfl rfl fun e he => ?_
      rcases List.mem_append.1 he with he | he
      · exact Or.inl (hb.tabs_hist g1 g2 e he)
      · exact Or.inr ⟨rfl, he⟩
    · obtain ⟨x1, x2, x3, x4⟩ := hb.trExcl t g1
      have hF : frozenBuf σ = [] := by simp only [frozenBuf, x3, optBuf]
      have hL : bufPartL σ = t.priv := by simp [bufPartL, g1, privOut, g2, x2]
      refine cover_noBufs (show (privOut (some { t with installed := true }) ++ memBuf σ) ++ frozenBuf σ = [] by
        simp [privOut, x2, hF]) fun k s hs => ?_
      have hcov := hc.cov k s hs
      rw [univ, g1] at hcov
      refine (view_congr hb.uniq hb.src_univ fun e' _ => ?_).trans hcov
      show e' ∈ σ.tabs ++ t.priv ↔ _
      simp only [bufPart, hL, hF, List.append_nil, List.mem_append, or_comm]
    · intro i r hi
      have hr := hR i r hi
      exact { rinv_tabs (σ.tabs ++ t.priv) hr (fun _ s mf hs _ k h0 => by
        rw [← h0, ← List.append_assoc]
        exact view_eq_of_leF (leF_append_above fun e he =>
          Nat.lt_of_le_of_lt (hr.seqLe s hs) (hb.privSeq e (by rw [g1]; exact he)))) with }
  | trPublish =>
    obtain ⟨t, g1, g2, rfl⟩ := doTrPublish_some h
    obtain ⟨x1, x2, x3, x4⟩ := hb.trExcl t g1
    refine ⟨?_, fun hc => ?_, fun _ hR => ?_⟩
    · obtain ⟨huniq, hbound, hps, hts⟩ := hb.tr_facts g1
      exact basic_pubUp hb x1 rfl (by omega) (fun e he => List.mem_append_left _ he) huniq
        (fun e he => by have := hbound e he; omega)
        (fun e he => (hts e he).elim (List.mem_append_left _) (fun h => List.mem_append_right _ h.2))
    · exact cover_eq hc (by simp [univ, g1, privOf]) (by simp [bufPartL, g1, privOut, memBuf, getBuf, g2]) rfl rfl rfl rfl
    · exact fun j r hj => rinv_grow hb ⟨t.priv, rfl, fun e he => hb.privSeq e (by rw [g1]; exact he)⟩
        (fun id => ⟨[], (List.append_nil _).symm, nofun⟩) rfl (fun _ h => h) rfl
        (by show σ.pub ≤ t.base + t.priv.length; omega) (fun _ h => h) (hR j r hj)
  | trDiscard =>
    obtain ⟨t, g1, g2, rfl⟩ := doTrDiscard_some h
    obtain ⟨x1, x2, x3, x4⟩ := hb.trExcl t g1
    have htabs := hb.tabs_hist g1 g2
    have hhist := hb.hist_le x1
    refine ⟨?_, fun hc => ?_, fun _ hR => ?_⟩
    · exact basic_pubUp hb x1 rfl (Nat.le_max_left _ _) (fun e he => he)
        ((hb.tr_facts g1).1.sub fun e he => List.mem_append_left _ he)
        (fun e he => Nat.le_trans (hhist e he) (Nat.le_max_left _ _)) htabs
    · have hF : frozenBuf σ = [] := by simp only [frozenBuf, x3, optBuf]
      refine cover_noBufs (show (privOut none ++ memBuf σ) ++ frozenBuf σ = [] by simp [privOut, x2, hF])
        fun k s hs => ?_
      show view c σ.tabs k s = view c (σ.hist ++ []) k s
      rw [List.append_nil]
      -- reading at `s` is reading at `p = min s pub`, where the private entries are out of sight
      have key : ∀ p, σ.floor ≤ p → p ≤ σ.pub → view c σ.tabs k p = view c σ.hist k p := fun p hp1 hp2 => by
        have := hc.cov_pub hb hp1 hp2 k
        rwa [x2, hF] at this
      by_cases hsp : s ≤ σ.pub
      · exact key s hs hsp
      · have hps : σ.pub ≤ s := by omega
        rw [view_clip (fun e he => hhist e (htabs e he)) hps, view_clip hhist hps]
        exact key σ.pub hb.floorPub (Nat.le_refl _)
    · exact fun j r hj => rinv_frame hb rfl rfl rfl (fun _ h => h) rfl (Nat.le_max_left _ _) (fun _ h => h) (hR j r hj)

theorem basic_step {c : UCmp} {σ σ' : State} {a : Action} (hb : Basic σ) (h : Step Cfg.real c σ a σ') :
    Basic σ' :=
  (step_inv hb h).1

theorem basic_steps {c : UCmp} {σ σ' : State} (hb : Basic σ) (h : Steps Cfg.real c σ σ') : Basic σ' := by
  induction h with
  | refl => exact hb
  | tail a _ hs ih => exact basic_step ih hs

theorem basic_reachable {c : UCmp} {σ : State} (h : Reachable Cfg.real c σ) : Basic σ :=
  basic_steps basic_init h

theorem cover_step {σ σ' : State} {a : Action} (hb : Basic σ) (hc : Cover c σ)
    (h : Step Cfg.real c σ a σ') : Cover c σ' :=
  (step_inv hb h).2.1 hc

theorem readers_step {σ σ' : State} {a : Action} (hb : Basic σ) (hc : Cover c σ) (hR : Readers c σ)
    (h : Step Cfg.real c σ a σ') : Readers c σ' :=
  (step_inv hb h).2.2 hc hR

structure Inv (c : UCmp) (σ : State) : Prop where
  basic : Basic σ
  cover : Cover c σ
  readers : Readers c σ

theorem inv_init : Inv c init := ⟨basic_init, cover_init c, fun i r h => by simp [init] at h⟩

theorem inv_step {σ σ' : State} {a : Action} (hi : Inv c σ) (h : Step Cfg.real c σ a σ') : Inv c σ' :=
  ⟨basic_step hi.basic h, cover_step hi.basic hi.cover h, readers_step hi.basic hi.cover hi.readers h⟩

theorem inv_steps {σ σ' : State} (hi : Inv c σ) (h : Steps Cfg.real c σ σ') : Inv c σ' := by
  induction h with
  | refl => exact hi
  | tail a _ hs ih => exact inv_step ih hs

theorem inv_reachable {σ : State} (h : Reachable Cfg.real c σ) : Inv c σ := inv_steps inv_init h

theorem cover_reachable {σ : State} (h : Reachable Cfg.real c σ) : Cover c σ := (inv_reachable h).cover

variable {k : Bytes} {s : Nat}

/-- the first source that knows the key has the newest entry of all three -/
theorem sc_eq_view {H A B V : List Entry}
    (hV : ∀ e ∈ V, e.seq ≤ s → e ∈ H) (hord : ∀ a ∈ B, ∀ b ∈ A, a.seq < b.seq) (hint : Intact H (A ++ B) s) :
    scView c [A, B, V] k s = view c (A ++ B ++ V) k s := by
  have key : ∀ b, newest c (A ++ B) k s = some b → view c (A ++ B ++ V) k s = b.hit.toOption := fun b hb => by
    simp only [view, newest_top hV hint hb]
  simp only [scView]
  cases hA : newest c A k s with
  | some a =>
    exact (key a (by rw [newest_append, hA, pickNewer_left fun y hy =>
      Nat.le_of_lt (Entry.num_lt_of_seq_lt (hord y (newest_mem hy) a (newest_mem hA)))])).symm
  | none =>
    have hAB : newest c (A ++ B) k s = newest c B k s := by rw [newest_append, hA, pickNewer_none_left]
    cases hB : newest c B k s with
    | some b => exact (key b (hAB.trans hB)).symm
    | none => exact (view_top_none (hAB.trans hB)).symm

/-- for a reachable reader the order of consultation does not matter -/
theorem reader_sc {σ : State} (hi : Inv c σ) (i : Nat) (r : Reader) (hr : σ.readers[i]? = some r)
    (s : Nat) (mf : Nat × Option Nat) (v : List Entry)
    (hs : r.seq? = some s) (hm : r.mems? = some mf) (hv : r.ver? = some v) (k : Bytes) :
    scView c [getBuf σ mf.1, optBuf σ mf.2, v] k s = view c (readSrc σ mf v) k s := by
  have ri := hi.readers i r hr
  exact sc_eq_view (ri.verHist s v hs hv) (ri.rorder mf hm) (ri.intact s mf hs hm)

end GoLevel.Conc

import GoLevel.Proofs.LocksShape
/-! The invariants of the lock model that read only sums over the thread list and scalar fields.  Each is stated a
second time for sums `n` and scalars `s` (`Cnt.TokE n s` …; an invariant about scalars alone serves as it is), proved to
be kept by `Tr` (namespace `Tr`), and carried over to `Step` through `sim`: the statement about a state `s` is by
definition the one about `totC s.ws` and `s.sc`.

* What no step takes back: `closeC`, `compReadOnly`, `compWriteLocking` (`Tr.flags`); the machine leaves `hasperr` only
  through its `closeC` case (`Tr.hasperr`), so the alternatives of a wait, once enabled, stay enabled (`Tr.alt`).
* The ownership accounting (`RInv`, `RInvW`), kept by every step of a configuration with the three fixes: `compCommitLk`,
  `tr.lk` and "a token in `writeLockC` has an owner" always (`step_rinvW`); the exact accounting of the token if moreover
  the two blind take-backs of `compWriteLocking` find their own token: a `SetReadOnly` between its two `select`s still
  has its claim (`hJ1`), and so has `compactionError` in the `closeC` case of `hasperr` (`hJ2`) (`step_rinv`).
* The invariants behind the progress theorem and the theorems about `SetReadOnly` (`PInvA`–`PInvE`, `CwlOk`, `OpenE`).
* Runs restricted by a parameter of the client program or of the storage (any configuration): a program that never
  calls `SetReadOnly` never has a thread inside it (`NoSR`); if no storage action reports a corruption
  (`St.corr = false`), no compaction is ever at `compactionTransact`'s `select` with a corruption in hand (`NoCorr`).
* The exact accounting of the write-lock token (`TokE`), for the machine as coded.  Both take-backs of
  `compWriteLocking` are blind (`SetReadOnly`: `select { case <-db.writeLockC: default: }`, `compactionError`:
  `<-db.writeLockC`); they find the token they are meant for while the DB is open (`step_openE`), in runs without
  corruption errors (`ExactJ`), in runs without `SetReadOnly` and since 832d000 (`Cfg.HandsOver`) in every run (`ExactH`).
  Before 832d000, with a corruption error, both could be poised to take the one token back: `C09.write_lock_lost`.
* Once `compWriteLocking` is set the token never leaves `writeLockC` again (`KeepInv`; wp51, repair of D42).

Last, the one invariant that follows single threads, `W1`: a thread waiting for an ack is the registered waiter of its
goroutine. -/
namespace GoLevel.Locks
open CompErr

theorem clPre_le_clAll (ws : List Pc) : tot clPreW ws ≤ tot clAllW ws :=
  sum_map_le fun p _ => by cases p <;> simp [clPreW, clAllW]

/-- `compactionError` is in (or leaving) its persistent-error loop -/
def perW : Eh → Nat | .hasperr => 1 | .closing => 1 | _ => 0
@[simp] theorem perW_hasperr : perW .hasperr = 1 := rfl
@[simp] theorem perW_closing : perW .closing = 1 := rfl
@[simp] theorem perW_noerr : perW .noerr = 0 := rfl
@[simp] theorem perW_haserr : perW .haserr = 0 := rfl
@[simp] theorem perW_exited : perW .exited = 0 := rfl

/-- `closed ∨ persistent error`: the alternatives of every wait are enabled -/
def Alt (s : St) : Prop := s.closed = true ∨ s.eh = .hasperr

/-- goroutines end only when the DB is closed (or, for a compaction, in the persistent-error state);
`tCompaction` parks only when the DB is read-only, and a read-only DB is in the persistent-error state -/
def PInvA (s : St) : Prop :=
  (s.mc = .exited → Alt s) ∧ (s.tc = .exited → Alt s) ∧ (s.eh = .exited → s.closed = true) ∧
  (s.eh = .closing → s.closed = true) ∧ (s.tc = .parked → s.ro = true) ∧ (s.ro = true → Alt s) ∧
  s.mc ≠ .parked

namespace PInvA
variable {s : St} (h : PInvA s)
include h
theorem mc_exited : s.mc = .exited → Alt s := h.1
theorem tc_exited : s.tc = .exited → Alt s := h.2.1
theorem eh_exited : s.eh = .exited → s.closed = true := h.2.2.1
theorem eh_closing : s.eh = .closing → s.closed = true := h.2.2.2.1
theorem tc_parked : s.tc = .parked → s.ro = true := h.2.2.2.2.1
theorem ro_alt : s.ro = true → Alt s := h.2.2.2.2.2.1
theorem mc_not_parked : s.mc ≠ .parked := h.2.2.2.2.2.2
end PInvA

/-- the token held for `compWriteLocking` will be released by `compactionError` or by the `SetReadOnly`
that took it -/
def PInvB (s : St) : Prop :=
  b2n s.ehTok ≤ perW s.eh + tot srW s.ws ∧ (s.ehTok = true → s.cwl = true ∨ 0 < tot srW s.ws)

/-- before 832d000: a `SetReadOnly` between its two `select`s has set `compWriteLocking` -/
def CwlOk (cfg : Cfg) (s : St) : Prop :=
  cfg.srSetsWriteLocking = true → 0 < tot srW s.ws → s.cwl = true

def OpenE (s : St) : Prop := s.closed = false → TokE s

/-- an internal transaction of `DB.Write` is always being finished by its thread -/
def PInvD (s : St) : Prop :=
  b2n (s.trOpen && !s.trUser) ≤ tot lgW s.ws

/-- at most one `Close` gets past `setClosed` -/
def PInvC (s : St) : Prop :=
  tot clAllW s.ws ≤ b2n s.closed ∧ b2n s.closeTok ≤ b2n s.closed ∧
  tot clPreW s.ws + b2n s.closeTok ≤ 1

/-- `SetReadOnly`: while the DB is open, a thread between the two `select`s (there is at most one) still has its
token in `writeLockC`; once `compReadOnly` is set the machine is in (or past) `hasperr` with `ErrReadOnly`, and while the
DB is open the token stays in `writeLockC` -/
def PInvE (s : St) : Prop :=
  (s.closed = false → tot srW s.ws ≤ b2n s.ehTok) ∧
  (s.ro = true → s.ehErr = .readonly ∧ (s.eh = .hasperr ∨ s.eh = .closing ∨ s.eh = .exited)) ∧
  (s.ro = true → s.closed = false → s.ehTok = true ∧ tot srW s.ws = 0)

theorem corrPh_clearW (x : Bg) (i : Nat) : corrPh (clearW x i) = corrPh x := by
  unfold clearW; split
  · split <;> rfl
  · rfl
theorem corrPh_afterCmd (cfg : Cfg) (s : St) (b : Bool) : corrPh (afterCmd cfg s b) = 0 := by
  rcases afterCmd_cases cfg s b with h | h <;> rw [h] <;> rfl

/-- no corruption error has been or will be reported -/
def NoCorr (s : St) : Prop := s.corr = false ∧ corrPh s.mc = 0 ∧ corrPh s.tc = 0

/-- in runs without corruption errors: `compactionError` in (or leaving) `hasperr` has the token and no
`SetReadOnly` is between its two `select`s; a `SetReadOnly` between its two `select`s has its token -/
def JInv (s : St) : Prop :=
  ((s.eh = .hasperr ∨ s.eh = .closing) → s.ehTok = true ∧ tot srW s.ws = 0) ∧ tot srW s.ws ≤ b2n s.ehTok

/-- since 832d000 (`Cfg.HandsOver`) in every run, and before in runs without `SetReadOnly` (then only the `hasperr`
loop sets `compWriteLocking`): when `compWriteLocking` is set and `compactionError` has not returned, its token is in
`writeLockC` and no `SetReadOnly` is between its two `select`s; a `SetReadOnly` between its two `select`s (at most one)
has its token there; the machine is in its `closeC` case only with `compWriteLocking` set -/
def HInv (s : St) : Prop :=
  (s.cwl = true → s.eh ≠ .exited → s.ehTok = true ∧ tot srW s.ws = 0) ∧ tot srW s.ws ≤ b2n s.ehTok ∧
  (s.eh = .closing → s.cwl = true)

/-- the lock is kept: a read-only DB has `compWriteLocking` set; with `compWriteLocking` set the machine is in (or
past) its persistent-error loop; and when it has returned, `Close` owns the lock -/
def KeepInv (s : St) : Prop :=
  (s.ro = true → s.cwl = true) ∧
  (s.cwl = true → s.eh = .hasperr ∨ s.eh = .closing ∨ s.eh = .exited) ∧
  (s.cwl = true → s.eh = .exited → s.closeTok = true)

/-- the `closeC` case of the machine as coded: from `hasperr` with `compWriteLocking` set it waits to hand the lock
over, otherwise it returns -/
theorem onClose_cases {m : MCfg} {k : Bool} (hm : m = .asCoded k) (e : Eh) (w : Bool) :
    (onClose m e w = .closing ∧ e = .hasperr ∧ w = true) ∨ onClose m e w = .exited := by
  rw [hm, onClose_asCoded]
  split
  · exact .inl ⟨rfl, ‹_›⟩
  · exact .inr rfl

/-- a receive from `compErrSetC` happens in `noerr` or `haserr` and does not lead into the `closeC` case -/
theorem recvs_ne {m : MCfg} {e : Eh} (h : recvs m e = true) : e ≠ .exited ∧ ∀ k, next m e k ≠ .closing :=
  ⟨fun x => (by rw [x] at h; cases h), fun k => next_ne_closing _ _ k fun x => by rw [x] at h; cases h⟩

/-- since 832d000 the machine as coded sets `compWriteLocking` when it takes `ErrReadOnly` -/
theorem roSets_of_recvs {cfg : Cfg} {k : Bool} (hm : cfg.m = .asCoded k) (hh : cfg.HandsOver) {e : Eh}
    (he : recvs cfg.m e = true) : roSets cfg e = true := by
  rw [hm, recvs_asCoded] at he
  rcases he with rfl | rfl <;> simp only [roSets, hm, asCoded_noerrRO, asCoded_haserrRO, hh.2.2.1, hh.2.2.2, Bool.and_self]

namespace Cnt
def TokE (n : Cnt) (s : St) : Prop := n.tok + b2n s.trOpen + b2n s.ehTok + b2n s.closeTok = b2n s.tok
def TokW (n : Cnt) (s : St) : Prop := b2n s.tok ≤ n.tok + b2n s.trOpen + b2n s.ehTok + b2n s.closeTok
def ClkI (n : Cnt) (s : St) : Prop := n.clk + bgClk s.mc + bgClk s.tc = b2n s.clk
def TrlkI (n : Cnt) (s : St) : Prop := n.trlk = b2n s.trlk
def NoSR (n : Cnt) (s : St) : Prop := s.sr = false ∧ n.srAll = 0
def PInvB (n : Cnt) (s : St) : Prop :=
  b2n s.ehTok ≤ perW s.eh + n.sr ∧ (s.ehTok = true → s.cwl = true ∨ 0 < n.sr)
def CwlOk (cfg : Cfg) (n : Cnt) (s : St) : Prop := cfg.srSetsWriteLocking = true → 0 < n.sr → s.cwl = true
def PInvD (n : Cnt) (s : St) : Prop := b2n (s.trOpen && !s.trUser) ≤ n.lg
def PInvC (n : Cnt) (s : St) : Prop :=
  n.cl ≤ b2n s.closed ∧ b2n s.closeTok ≤ b2n s.closed ∧ n.pre + b2n s.closeTok ≤ 1
def PInvE (n : Cnt) (s : St) : Prop :=
  (s.closed = false → n.sr ≤ b2n s.ehTok) ∧
  (s.ro = true → s.ehErr = .readonly ∧ (s.eh = .hasperr ∨ s.eh = .closing ∨ s.eh = .exited)) ∧
  (s.ro = true → s.closed = false → s.ehTok = true ∧ n.sr = 0)

theorem pinvB_iff (n : Cnt) (s : St) :
    n.PInvB s ↔ b2n s.ehTok ≤ perW s.eh + n.sr ∧ b2n s.ehTok ≤ b2n s.cwl + n.sr := by
  unfold PInvB
  cases s.ehTok <;> cases s.cwl <;> simp [b2n] <;> omega

def JInv (n : Cnt) (s : St) : Prop :=
  ((s.eh = .hasperr ∨ s.eh = .closing) → s.ehTok = true ∧ n.sr = 0) ∧ n.sr ≤ b2n s.ehTok
def HInv (n : Cnt) (s : St) : Prop :=
  (s.cwl = true → s.eh ≠ .exited → s.ehTok = true ∧ n.sr = 0) ∧ n.sr ≤ b2n s.ehTok ∧
  (s.eh = .closing → s.cwl = true)

theorem TokE.free {n : Cnt} {s : St} (hE : n.TokE s) (ht : s.tok = false) : s.ehTok = false := by
  unfold TokE at hE; rw [ht] at hE
  cases hk : s.ehTok with
  | false => rfl
  | true => rw [hk] at hE; simp only [b2n_true, b2n_false] at hE; omega

/-- a thread at `srSet` is the only one, and its token is in `writeLockC` -/
theorem srSet_unique {k : Nat} {e : Bool} (h : k + 1 ≤ b2n e) : e = true ∧ k = 0 := by
  have := b2n_le e
  cases e
  · exact absurd h (Nat.not_succ_le_zero _)
  · exact ⟨rfl, by omega⟩
end Cnt

/-- the state of goroutine `b` changes from `v0` to `v`, and `compCommitLk` to `c`: the balance concerns these alone -/
theorem Cnt.ClkI.putBg {n : Cnt} {s : St} (inv : n.ClkI s) (b : Bool) {v0 : Bg} (hb : s.bg b = v0) (v : Bg) (c : Bool)
    (h : bgClk v0 ≤ b2n s.clk → bgClk v + b2n s.clk = bgClk v0 + b2n c) : n.ClkI ({ s with clk := c }.putBg b v) := by
  unfold Cnt.ClkI at *
  cases b <;> simp only [St.bg, Bool.false_eq_true, ↓reduceIte] at hb <;> subst hb <;>
    simp only [St.putBg, Bool.false_eq_true, ↓reduceIte] <;> omega

theorem PInvA.putBg_run {s : St} (inv : PInvA s) (b : Bool) (w : Option Nat) (ph : BPh) :
    PInvA (s.putBg b (.run w ph)) := by
  unfold PInvA Alt at *
  cases b <;> grind [St.putBg]

theorem NoCorr.putBg {s : St} (inv : NoCorr s) (b : Bool) {v : Bg} (hv : corrPh v = 0) : NoCorr (s.putBg b v) := by
  cases b
  · exact ⟨inv.1, hv, inv.2.2⟩
  · exact ⟨inv.1, inv.2.1, hv⟩

namespace Tr
variable {cfg : Cfg} {n n' : Cnt} {s s' : St}

theorem flags (h : Tr cfg s n n' s') :
    (s.closed = true → s'.closed = true) ∧ (s.ro = true → s'.ro = true) ∧ (s.cwl = true → s'.cwl = true) := by
  cases h <;> refine ⟨fun hc => ?_, fun hr => ?_, fun hw => ?_⟩ <;> first | assumption | rfl | (rw [hw]; rfl)

theorem hasperr (h : Tr cfg s n n' s') (he : s.eh = .hasperr) :
    (s'.eh = .hasperr ∧ s'.ehErr = s.ehErr) ∨ s.closed = true := by
  cases h with
  | srSend hr | bgSetErr _ _ _ _ _ hr | bgSetErrCorrupt _ _ _ _ hr =>
    -- `hasperr` has no `compErrSetC` case
    rw [he] at hr; cases hr
  | clKept hx | ehTake hx => rw [he] at hx; cases hx
  | ehClose _ hc => exact .inr hc
  | _ => exact .inl ⟨he, rfl⟩

theorem alt (h : Tr cfg s n n' s') (a : Alt s) : Alt s' := by
  rcases a with hc | he
  · exact .inl (h.flags.1 hc)
  · exact (h.hasperr he).elim (fun x => .inr x.1) fun hc => .inl (h.flags.1 hc)

theorem trlkI (h : Tr cfg s n n' s') (inv : n.TrlkI s) : n'.TrlkI s' := by
  unfold Cnt.TrlkI at *
  have := b2n_le s.trlk
  cases h with
  | lockTr hl => rw [hl] at inv; exact congrArg (· + 1) inv
  | unlockTr | endTx | unlockBoth | fail3 => simp only [Cnt.add_def, b2n_false] at inv ⊢; omega
  | _ => exact inv

theorem clkI (h : Tr cfg s n n' s') (f1 : cfg.commitUnlocksOnError = true) (inv : n.ClkI s) : n'.ClkI s' := by
  have := b2n_le s.clk
  cases h with
  | lockClk hl =>
    unfold Cnt.ClkI at *; simp only [Cnt.add_def, hl, b2n_true, b2n_false] at inv ⊢; omega
  | unlockClk | unlockBoth | fail3 =>
    unfold Cnt.ClkI at *; simp only [Cnt.add_def, f1, b2n_false, ↓reduceIte] at inv ⊢; omega
  | park hb | bgExitParked hb => unfold Cnt.ClkI at *; rw [hb] at inv; exact inv
  | cmd b _ hb | bgExitIdle b hb => exact inv.putBg b hb _ _ fun _ => rfl
  | bgAck b _ hb => exact inv.putBg b hb _ _ fun _ => by rw [bgClk_afterCmd]; rfl
  | bgLockClk b _ hb hl => exact inv.putBg b hb _ true fun _ => by rw [hl]; rfl
  | bgPhase b _ _ _ hb _ hk => exact inv.putBg b hb _ _ fun _ => congrArg (· + _) hk
  | unwait b => exact inv.putBg b rfl _ _ fun _ => by rw [bgClk_clearW]
  | bgSetErr b _ ok c hb =>
    exact inv.putBg b hb _ _ (by
      cases ok <;> cases c <;>
      simp only [bgClk_run, afterSetErr, bphClk, b2n_false, Bool.and_self, Bool.and_false, Bool.and_true,
        Bool.false_eq_true, ↓reduceIte, implies_true] <;> intro <;> omega)
  | bgSetErrCorrupt b _ c hb | bgSetErrPer b _ c hb =>
    exact inv.putBg b hb _ _ (by
      cases c <;>
      simp only [bgClk_run, bgClk_exited, afterSetErr, bphClk, b2n_false, Bool.false_eq_true, ↓reduceIte,
        implies_true] <;> intro <;> omega)
  | bgExit b _ ph hb =>
    have := bphClk_le ph
    exact inv.putBg b hb _ _ (by
      simp only [bgClk_run, bgClk_exited]; intro; split <;> (try simp only [b2n_false]) <;> omega)
  | _ => exact inv

theorem tokW (h : Tr cfg s n n' s') (f2 : cfg.openTxReleasesOnError = true) (inv : n.TokW s) : n'.TokW s' := by
  unfold Cnt.TokW at *
  have := b2n_le s.tok
  cases h with
  | takeTok | takeTokSR | relTok | otxFail | openTx | clAcq | clKept | endTx | srGiveBack | ehAcquire | ehTake =>
    simp only [Cnt.add_def, b2n_true, b2n_false, f2, ↓reduceIte] at inv ⊢ <;> omega
  | _ => exact inv

theorem tokE (h : Tr cfg s n n' s') (f2 : cfg.openTxReleasesOnError = true) (hJ1 : 0 < n.sr → s.ehTok = true)
    (hJ2 : s.eh = .closing → s.ehTok = true) (inv : n.TokE s) : n'.TokE s' := by
  unfold Cnt.TokE at *
  have := b2n_le s.tok
  have := b2n_le s.trOpen
  have := b2n_le s.ehTok
  have := b2n_le s.closeTok
  cases h with
  | clKept he | ehTake he =>
    simp only [Cnt.add_def, hJ2 he, b2n_true, b2n_false, *] at inv ⊢ <;> omega
  | srGiveBack =>
    have := hJ1 (Nat.succ_pos _)
    simp only [Cnt.add_def, b2n_true, b2n_false, *] at inv ⊢ <;> omega
  | takeTok | takeTokSR | relTok | otxFail | openTx | clAcq | endTx | ehAcquire =>
    simp only [Cnt.add_def, b2n_true, b2n_false, ↓reduceIte, *] at inv ⊢ <;> omega
  | _ => exact inv

theorem pinvA (h : Tr cfg s n n' s') (hm : cfg.m = .asCoded cfg.closeSel) (inv : PInvA s) : PInvA s' := by
  -- Only `mc`, `tc`, `eh`, `closed` and `ro` occur.  A goroutine that ends has seen `closeC` or a persistent error;
  -- `compactionError` leaves `noerr`/`haserr` for `hasperr` only, and `hasperr` only once the DB is closed.
  cases h with
  | cmd | bgPhase => exact inv.putBg_run _ _ _
  | bgSetErrPer | bgLockClk => exact PInvA.putBg_run (s := { s with clk := _ }) inv _ _ _
  | bgExitIdle b hb | bgExit b _ _ hb =>
    unfold PInvA Alt at *
    cases b <;> grind [St.putBg, St.bg, offPer_hasperr]
  | setClosed | park | clKept | ehTake | bgExitParked | ehClose => unfold PInvA Alt at *; grind
  | unwait b => unfold PInvA Alt at *; cases b <;> grind [St.putBg, St.bg, clearW_eq_exited, clearW_eq_parked]
  | srSend he | bgSetErr b _ _ _ _ he | bgSetErrCorrupt b _ _ _ he =>
    unfold PInvA Alt at *
    simp only [hm, recvs_asCoded, next_asCoded] at he ⊢
    rcases he with e | e <;> (try cases b) <;> grind [St.putBg, St.bg, nextC]
  | bgAck b =>
    unfold PInvA Alt at *
    have := afterCmd_parked cfg s b
    cases b <;> grind [St.putBg, St.bg, afterCmd]
  | _ => exact inv

theorem cwlOk (h : Tr cfg s n n' s') (inv : n.CwlOk cfg s) : n'.CwlOk cfg s' := by
  unfold Cnt.CwlOk at *
  intro hs
  have inv := inv hs
  cases h with
  | takeTokSR => exact fun _ => by simp only [hs, Bool.or_true]
  | srSend => exact fun hp => by simp only [inv (Nat.succ_pos _), Bool.true_or]
  | srGiveBack | srGiveUp => exact fun _ => inv (Nat.succ_pos _)
  | ehAcquire => exact fun _ => rfl
  | _ => exact inv

theorem pinvC (h : Tr cfg s n n' s') (hle : n.pre ≤ n.cl) (inv : n.PInvC s) : n'.PInvC s' := by
  unfold Cnt.PInvC at *
  have := b2n_le s.closed
  have := b2n_le s.closeTok
  cases h with
  | setClosed hc => simp only [Cnt.add_def, b2n_true, b2n_false, hc] at inv hle ⊢; omega
  | clAcq | clKept | exitClose => simp only [Cnt.add_def, b2n_true] at inv hle ⊢; omega
  | _ => exact inv

theorem pinvD (h : Tr cfg s n n' s') (f3 : cfg.largeBatchDiscardsOnCommitError = true) (inv : n.PInvD s) :
    n'.PInvD s' := by
  unfold Cnt.PInvD at *
  have := b2n_le (s.trOpen && !s.trUser)
  cases h with
  | openTx lg | endTx lg =>
    cases lg <;>
    simp only [Cnt.add_def, b2n_true, b2n_false, Bool.false_and, Bool.true_and, Bool.not_false, Bool.not_true] at inv ⊢ <;>
    omega
  | unlockTr lg _ hl =>
    cases lg
    · exact inv
    · simp only [hl rfl, Bool.false_and, b2n_false]; exact Nat.zero_le _
  | dropLg hf => rw [f3] at hf; cases hf
  | _ => exact inv

theorem pinvB (h : Tr cfg s n n' s') (hm : cfg.m = .asCoded cfg.closeSel)
    (h4 : cfg.setReadOnlyReleasesOnClose = true ∨ n.NoSR s) (hsh : cfg.Shape) (hw : n.CwlOk cfg s) (inv : n.PInvB s) :
    n'.PInvB s' := by
  rw [Cnt.pinvB_iff] at *
  have := b2n_le s.ehTok
  cases h with
  | takeTokSR => simp only [Cnt.add_def, b2n_true] at inv ⊢; omega
  | clKept | ehTake | srGiveBack => simp only [b2n_false]; omega
  | ehAcquire he => simp only [offLock_hasperr _ _ he, perW_hasperr, b2n_true]; omega
  | ehClose he =>
    rw [hm] at he
    rcases (closes_asCoded _ _).mp he with e | e | e <;> cases hcw : s.cwl <;>
    simp only [hm, e, hcw, onClose_asCoded, reduceCtorEq, false_and, true_and, Bool.false_eq_true, ↓reduceIte, perW_noerr,
      perW_haserr, perW_hasperr, perW_closing, perW_exited, b2n_true, b2n_false] at inv ⊢ <;> omega
  | bgSetErr _ _ _ _ _ he | bgSetErrCorrupt _ _ _ _ he =>
    rw [hm] at he
    rcases (recvs_asCoded _ _).mp he with e | e <;>
    simp only [St.putBg, e, perW_noerr, perW_haserr] at inv ⊢ <;> omega
  | srSend he =>
    have hc : (s.cwl || roSets cfg s.eh) = true := by
      rcases hsh with hh | ⟨s1, -, -, -⟩
      · rw [roSets_of_recvs hm hh he, Bool.or_true]
      · rw [hw s1 (Nat.succ_pos _)]; rfl
    rw [hm] at he
    rcases (recvs_asCoded _ _).mp he with e | e <;> rw [e] at hc <;>
    simp only [Cnt.add_def, hc, hm, e, next_asCoded, nextC, perW_hasperr, b2n_true] at inv ⊢ <;>
    omega
  | srGiveUp hg =>
    rcases hg with ⟨he, hg⟩ | ⟨-, hg⟩
    · have hc : s.cwl = true := by
        rcases hsh with ⟨-, s2, -, -⟩ | ⟨s1, -, -, -⟩
        · rw [s2] at hg; cases hg
        · exact hw s1 (Nat.succ_pos _)
      simp only [Cnt.add_def, offPer_hasperr _ _ he, hc, perW_hasperr, b2n_true] at inv ⊢
      omega
    · exact absurd (h4.resolve_left (by rw [hg]; exact Bool.false_ne_true)).2 (Nat.succ_ne_zero _)
  | _ => exact inv

theorem pinvE (h : Tr cfg s n n' s') (hm : cfg.m = .asCoded cfg.closeSel) (ia : PInvA s)
    (oe : s.closed = false → n.TokE s) (inv : n.PInvE s) : n'.PInvE s' := by
  unfold Cnt.PInvE at *
  have ia4 := ia.eh_closing
  have := b2n_le s.ehTok
  cases h with
  | takeTokSR ht =>
    -- `SetReadOnly` takes the token: it was free, so by `TokE` nobody claimed it, neither `ehTok` nor a thread at `srSet`
    unfold Cnt.TokE at oe
    simp only [Cnt.add_def, ht, b2n_true, b2n_false] at inv oe ⊢
    grind [b2n]
  | setClosed | srGiveBack | srGiveUp | clKept =>
    simp only [Cnt.add_def] at inv ⊢ <;> grind [b2n]
  | srSend he =>
    simp only [hm, recvs_asCoded] at he
    rcases he with e | e <;>
    simp only [Cnt.add_def, hm, e, next_asCoded, nextC] at inv ⊢ <;> grind [b2n]
  | ehAcquire | ehTake => grind [b2n]
  | ehClose he =>
    simp only [hm, closes_asCoded, onClose_asCoded] at he ⊢; grind [b2n]
  | bgSetErr _ _ _ _ _ he | bgSetErrCorrupt _ _ _ _ he =>
    simp only [hm, recvs_asCoded, St.putBg] at he ⊢; grind [b2n]
  | _ => exact inv

theorem noSR (h : Tr cfg s n n' s') (inv : n.NoSR s) : n'.NoSR s' := by
  obtain ⟨h1, h2⟩ := inv
  cases h with
  | startSR ha => rw [h1] at ha; cases ha
  | exitSR | srSend | srGiveBack | srGiveUp => cases h2
  | _ => exact ⟨h1, h2⟩

theorem noCorr (h : Tr cfg s n n' s') (inv : NoCorr s) : NoCorr s' := by
  cases h with
  | park | bgExitParked => exact ⟨inv.1, inv.2.1, rfl⟩
  | cmd | bgExitIdle => exact inv.putBg _ rfl
  | bgSetErrCorrupt | bgLockClk | bgExit => exact NoCorr.putBg (s := { s with clk := _ }) inv _ rfl
  | unwait b =>
    refine inv.putBg _ ((corrPh_clearW _ _).trans ?_)
    cases b
    · exact inv.2.1
    · exact inv.2.2
  | bgAck => exact inv.putBg _ (corrPh_afterCmd _ _ _)
  | bgPhase _ _ _ _ _ _ _ hc => exact inv.putBg _ (hc.resolve_right (by rw [inv.1]; exact Bool.false_ne_true))
  | bgSetErr _ _ ok c =>
    exact NoCorr.putBg (s := { s with clk := _ }) inv _ (by cases ok <;> cases c <;> rfl)
  | bgSetErrPer _ _ c => exact NoCorr.putBg (s := { s with clk := _ }) inv _ (by cases c <;> rfl)
  | _ => exact inv

theorem jinv (h : Tr cfg s n n' s') (hm : cfg.m = .asCoded cfg.closeSel)
    (h4 : cfg.setReadOnlyReleasesOnClose = true ∨ n.NoSR s) (nc : NoCorr s) (hE : n.TokE s) (inv : n.JInv s) :
    n'.JInv s' := by
  obtain ⟨j2, j3⟩ := inv
  cases h with
  | takeTokSR ht =>
    -- `SetReadOnly` puts its token in: the machine had none, so it is not in `hasperr`
    have hk := hE.free ht
    rw [hk] at j3
    exact ⟨fun he => absurd (j2 he).1 (by rw [hk]; exact Bool.false_ne_true), Nat.succ_le_succ j3⟩
  | srSend =>
    have ⟨hk, z⟩ := Cnt.srSet_unique j3
    exact ⟨fun _ => ⟨hk, z⟩, Nat.le_trans (Nat.le_of_eq z) (Nat.zero_le _)⟩
  | srGiveBack =>
    exact ⟨fun hh => absurd (j2 hh).2 (Nat.succ_ne_zero _),
      Nat.le_trans (Nat.le_of_eq (Cnt.srSet_unique j3).2) (Nat.zero_le _)⟩
  | srGiveUp hg =>
    rcases hg with ⟨he, -⟩ | ⟨-, hg⟩
    · exact absurd (j2 (.inl (offPer_hasperr _ _ he))).2 (Nat.succ_ne_zero _)
    · exact absurd (h4.resolve_left (by rw [hg]; exact Bool.false_ne_true)).2 (Nat.succ_ne_zero _)
  | clKept he | ehTake he =>
    have z := (j2 (.inr he)).2
    exact ⟨fun hh => (by rcases hh with hh | hh <;> cases hh), Nat.le_trans (Nat.le_of_eq z) (Nat.zero_le _)⟩
  | ehAcquire he =>
    have z := (j2 (.inl (offLock_hasperr _ _ he))).2
    exact ⟨fun _ => ⟨rfl, z⟩, Nat.le_trans (Nat.le_of_eq z) (Nat.zero_le _)⟩
  | ehClose =>
    -- the `closeC` case is entered from `hasperr` only
    rcases onClose_cases hm s.eh s.cwl with ⟨e, e1, -⟩ | e <;> rw [e]
    · exact ⟨fun _ => j2 (.inl e1), j3⟩
    · exact ⟨fun hh => (by rcases hh with hh | hh <;> cases hh), j3⟩
  | bgSetErr _ _ ok _ _ he =>
    -- `nil` and a transient error lead to `noerr` / `haserr`
    have hnx : ∀ k, k = EK.nil ∨ k = .transient → ¬ (next cfg.m s.eh k = .hasperr ∨ next cfg.m s.eh k = .closing) := by
      intro k hk; rw [hm, next_asCoded]; rw [hm, recvs_asCoded] at he
      rcases he with he | he <;> rcases hk with hk | hk <;> rw [he, hk] <;>
        (intro hh; rcases hh with hh | hh <;> cases hh)
    cases ok <;> exact ⟨fun hh => absurd hh (hnx _ (by first | exact .inl rfl | exact .inr rfl)), j3⟩
  | bgSetErrCorrupt b _ _ hb =>
    -- no compaction has a corruption in hand
    cases b <;> simp only [St.bg, Bool.false_eq_true, ↓reduceIte] at hb
    · have := nc.2.1; rw [hb] at this; cases this
    · have := nc.2.2; rw [hb] at this; cases this
  | _ => exact ⟨j2, j3⟩

theorem hinv (h : Tr cfg s n n' s') (hm : cfg.m = .asCoded cfg.closeSel)
    (hh : cfg.HandsOver ∧ cfg.setReadOnlyReleasesOnClose = true ∨ n.NoSR s) (hE : n.TokE s) (inv : n.HInv s) :
    n'.HInv s' := by
  obtain ⟨k1, k2, k3⟩ := inv
  cases h with
  | takeTokSR ht =>
    -- (no thread is inside `SetReadOnly` in a run without it)
    obtain ⟨hh, -⟩ := hh.resolve_right fun ns => by cases ns.2
    -- since 832d000 `SetReadOnly` leaves `compWriteLocking` alone; it puts its token in, the machine had none
    have hk := hE.free ht
    rw [show (s.cwl || cfg.srSetsWriteLocking) = s.cwl by rw [hh.1, Bool.or_false]]
    rw [hk] at k2
    exact ⟨fun hc hne => absurd (k1 hc hne).1 (by rw [hk]; exact Bool.false_ne_true), Nat.succ_le_succ k2, k3⟩
  | srSend he =>
    have ⟨hk, z⟩ := Cnt.srSet_unique k2
    exact ⟨fun _ _ => ⟨hk, z⟩, Nat.le_trans (Nat.le_of_eq z) (Nat.zero_le _), fun e => absurd e ((recvs_ne he).2 _)⟩
  | srGiveBack =>
    -- a `SetReadOnly` that gives up takes its own token back: `compWriteLocking` is not set
    exact ⟨fun hc hne => absurd (k1 hc hne).2 (Nat.succ_ne_zero _),
      Nat.le_trans (Nat.le_of_eq (Cnt.srSet_unique k2).2) (Nat.zero_le _), k3⟩
  | srGiveUp hg =>
    obtain ⟨hh, h4⟩ := hh.resolve_right fun ns => by cases ns.2
    rcases hg with ⟨-, hg⟩ | ⟨-, hg⟩
    · rw [hh.2.1] at hg; cases hg
    · rw [h4] at hg; cases hg
  | clKept he | ehTake he =>
    have z := (k1 (k3 he) (by rw [he]; exact Eh.noConfusion)).2
    exact ⟨fun _ h => absurd rfl h, Nat.le_trans (Nat.le_of_eq z) (Nat.zero_le _), fun h => (by cases h)⟩
  | ehAcquire he ht =>
    have z : n.sr = 0 := by rw [hE.free ht] at k2; exact Nat.le_zero.1 k2
    exact ⟨fun _ _ => ⟨rfl, z⟩, Nat.le_trans (Nat.le_of_eq z) (Nat.zero_le _), fun _ => rfl⟩
  | ehClose =>
    rcases onClose_cases hm s.eh s.cwl with ⟨e, e1, e2⟩ | e <;> rw [e]
    · exact ⟨fun hc _ => k1 hc (by rw [e1]; exact Eh.noConfusion), k2, fun _ => e2⟩
    · exact ⟨fun _ h => absurd rfl h, k2, fun h => (by cases h)⟩
  | bgSetErr _ _ _ _ _ he | bgSetErrCorrupt _ _ _ _ he =>
    exact ⟨fun hc _ => k1 hc (recvs_ne he).1, k2, fun e => absurd e ((recvs_ne he).2 _)⟩
  | _ => exact ⟨k1, k2, k3⟩

theorem keepInv (h : Tr cfg s n n' s') (hm : cfg.m = .asCoded true)
    (hh : cfg.HandsOver) (inv : KeepInv s) : KeepInv s' := by
  cases h with
  | takeTokSR =>
    -- since 832d000 `SetReadOnly` does not set `compWriteLocking` itself
    rw [show (s.cwl || cfg.srSetsWriteLocking) = s.cwl by rw [hh.1, Bool.or_false]]
    exact inv
  | srSend he =>
    -- the machine takes `ErrReadOnly`: it sets `compWriteLocking` and enters `hasperr`
    have hcw : (s.cwl || roSets cfg s.eh) = true := by rw [roSets_of_recvs hm hh he, Bool.or_true]
    rw [hm, recvs_asCoded] at he
    have heh : next cfg.m s.eh .readonly = .hasperr := by
      rw [hm, next_asCoded]; rcases he with he | he <;> rw [he] <;> rfl
    exact ⟨fun _ => hcw, fun _ => .inl heh, fun _ e => by rw [heh] at e; cases e⟩
  | clAcq => exact ⟨inv.1, inv.2.1, fun _ _ => rfl⟩
  | clKept => exact ⟨inv.1, fun _ => .inr (.inr rfl), fun _ _ => rfl⟩
  | ehAcquire he =>
    have e := offLock_hasperr _ _ he
    exact ⟨fun _ => rfl, fun _ => .inl e, fun _ x => by rw [e] at x; cases x⟩
  | ehClose he =>
    rw [hm, onClose_asCoded]
    split
    · exact ⟨inv.1, fun _ => .inr (.inl rfl), fun _ e => by cases e⟩
    · rename_i h
      refine ⟨inv.1, fun _ => .inr (.inr rfl), fun hc _ => ?_⟩
      -- with `compWriteLocking` set the machine was in `hasperr`: it keeps the lock
      rcases inv.2.1 hc with e | e | e
      · exact absurd ⟨e, hc⟩ h
      · rw [e] at he; cases he
      · rw [e] at he; cases he
  | ehTake he hg => rw [hm] at hg; cases hg
  | bgSetErr _ _ _ _ _ he | bgSetErrCorrupt _ _ _ _ he =>
    -- a receive happens in `noerr` or `haserr`, where `compWriteLocking` is not set
    have hnc : s.cwl ≠ true := fun hc => by rcases inv.2.1 hc with e | e | e <;> (rw [e] at he; cases he)
    exact ⟨inv.1, fun hc => absurd hc hnc, fun hc => absurd hc hnc⟩
  | _ => exact inv

end Tr

theorem step_tokE (s t : St) (f : Bool) (cfg : Cfg) (h3 : Fixed3 cfg)
    (hJ1 : 0 < tot srW s.ws → s.ehTok = true) (hJ2 : s.eh = .closing → s.ehTok = true)
    (h : Step cfg f s t) (inv : TokE s) : TokE t := (sim h).tokE h3.2.1 hJ1 hJ2 inv

theorem step_rinvW (cfg : Cfg) (h3 : Fixed3 cfg) (s t : St) (f : Bool) (h : Step cfg f s t) (inv : RInvW s) :
    RInvW t :=
  have k := sim h
  ⟨k.tokW h3.2.1 inv.tokI, k.clkI h3.1 inv.clkI, k.trlkI inv.trlkI⟩

theorem step_rinv (cfg : Cfg) (h3 : Fixed3 cfg) (s t : St) (f : Bool)
    (h4 : cfg.setReadOnlyReleasesOnClose = true ∨ NoSR s)
    (hJ1 : 0 < tot srW s.ws → s.ehTok = true) (hJ2 : s.eh = .closing → s.ehTok = true)
    (h : Step cfg f s t) (inv : RInv s) : RInv t :=
  have k := sim h
  ⟨k.tokE h3.2.1 hJ1 hJ2 inv.tokI, k.clkI h3.1 inv.clkI, k.trlkI inv.trlkI⟩

theorem Steps.step {cfg : Cfg} {s t u : St} {f : Bool} (h : Steps cfg s t) (h2 : Step cfg f t u) :
    Steps cfg s u := .tail h h2

theorem steps_inv_of_step {cfg : Cfg} (P : St → Prop) (hP : ∀ s t f, Step cfg f s t → P s → P t)
    (s t : St) (h : Steps cfg s t) (hs : P s) : P t := by
  induction h with
  | refl => exact hs
  | tail _ h ih => exact hP _ _ _ h ih

theorem step_noSR (cfg : Cfg) (s t : St) (f : Bool) (h : Step cfg f s t) (inv : NoSR s) : NoSR t := (sim h).noSR inv

theorem initNoSR_noSR (n : Nat) : NoSR (initNoSR n) :=
  ⟨rfl, tot_replicate_idle _ n rfl⟩

theorem initNC_noCorr (n : Nat) : NoCorr (initNC n) := ⟨rfl, rfl, rfl⟩

theorem keepInv_init (n : Nat) : KeepInv (init n) := by simp [KeepInv, init]

theorem step_closed (cfg : Cfg) (s t : St) (f : Bool) (h : Step cfg f s t) (hc : s.closed = true) : t.closed = true :=
  (sim h).flags.1 hc

theorem ehTok_of_srW {s : St} (h : tot srW s.ws ≤ b2n s.ehTok) (hp : 0 < tot srW s.ws) : s.ehTok = true :=
  b2n_pos _ (Nat.lt_of_lt_of_le hp h)

theorem step_openE (cfg : Cfg) (h3 : Fixed3 cfg) (s t : St) (f : Bool)
    (ia : PInvA s) (ie : PInvE s) (h : Step cfg f s t)
    (inv : OpenE s) : OpenE t := by
  intro hc
  have hcs : s.closed = false := by
    cases hs : s.closed with
    | false => rfl
    | true => rw [step_closed cfg s t f h hs] at hc; cases hc
  refine step_tokE s t f cfg h3 (fun hp => ?_) (fun h => ?_) h (inv hcs)
  · exact ehTok_of_srW (ie.1 hcs) hp
  · have := ia.eh_closing h
    rw [hcs] at this; cases this

def ExactJ (s : St) : Prop := TokE s ∧ JInv s ∧ NoCorr s

theorem step_exactJ (cfg : Cfg) (h3 : Fixed3 cfg) (hm : cfg.m = .asCoded cfg.closeSel) (s t : St) (f : Bool)
    (h4 : cfg.setReadOnlyReleasesOnClose = true ∨ NoSR s) (h : Step cfg f s t) (inv : ExactJ s) : ExactJ t := by
  obtain ⟨hE, hJ, hN⟩ := inv
  exact ⟨step_tokE s t f cfg h3 (ehTok_of_srW hJ.2) (fun hc => (hJ.1 (Or.inr hc)).1) h hE,
    (sim h).jinv hm h4 hN hE hJ, (sim h).noCorr hN⟩

def ExactH (s : St) : Prop := TokE s ∧ HInv s

theorem step_exactH (cfg : Cfg) (h3 : Fixed3 cfg) (hm : cfg.m = .asCoded cfg.closeSel) (s t : St) (f : Bool)
    (hh : cfg.HandsOver ∧ cfg.setReadOnlyReleasesOnClose = true ∨ NoSR s) (h : Step cfg f s t) (inv : ExactH s) :
    ExactH t := by
  obtain ⟨hE, hH⟩ := inv
  exact ⟨step_tokE s t f cfg h3 (ehTok_of_srW hH.2.1) (fun hc => (hH.1 (hH.2.2 hc) (by rw [hc]; simp)).1) h hE,
    (sim h).hinv hm hh hE hH⟩

/-- a thread waiting for an ack is the registered waiter of its goroutine, unless the alternatives of its wait are
enabled -/
def W1 (s : St) : Prop :=
  ∀ (i : Nat) (b : Bool) (site : Site) (lg : Bool), s.ws[i]? = some (.cwAck b site lg) →
    (∃ ph, s.bg b = .run (some i) ph) ∨ Alt s

theorem W1.of_alt {t : St} (h : Alt t) : W1 t := fun _ _ _ _ _ => .inr h

theorem W1.step_thread {s t : St} (inv : W1 s) {j : Nat} {new : Pc} (hws : t.ws = s.ws.set j new)
    (hnew : ∀ b site lg, new = .cwAck b site lg → ∃ ph, t.bg b = .run (some j) ph)
    (hbg : ∀ i b ph, i ≠ j → s.bg b = .run (some i) ph → (∃ ph', t.bg b = .run (some i) ph') ∨ Alt t)
    (halt : Alt s → Alt t) : W1 t := by
  intro i b site lg hi
  rcases getElem?_set_cases (hws ▸ hi) with ⟨rfl, h⟩ | ⟨h, hi⟩
  · exact .inl (hnew b site lg h.symm)
  · rcases inv i b site lg hi with ⟨ph, hb⟩ | ha
    · exact hbg i b ph (Ne.symm h) hb
    · exact .inr (halt ha)

theorem W1.step_plain {s t : St} (inv : W1 s) {j : Nat} {new : Pc} (hws : t.ws = s.ws.set j new) (halt : Alt s → Alt t)
    (hnew : ∀ b site lg, new ≠ .cwAck b site lg := by exact fun _ _ _ h => nomatch h)
    (hbg : ∀ b, t.bg b = s.bg b := by intro b; rfl) : W1 t :=
  inv.step_thread hws (fun b site lg h => absurd h (hnew b site lg)) (fun _ b _ _ h => .inl ⟨_, (hbg b).trans h⟩) halt

theorem W1.step_bg {s t : St} (inv : W1 s) (hws : t.ws = s.ws)
    (hbg : ∀ i b ph, s.bg b = .run (some i) ph → (∃ ph', t.bg b = .run (some i) ph') ∨ Alt t)
    (halt : Alt s → Alt t) : W1 t :=
  fun i b site lg hi => (inv i b site lg (hws ▸ hi)).elim (fun ⟨ph, h⟩ => hbg i b ph h) (fun h => .inr (halt h))

theorem W1.step_phase {s : St} (inv : W1 s) {b : Bool} {w : Option Nat} {ph : BPh} (hb : s.bg b = .run w ph)
    (s' : St) (ph' : BPh) (hws : s'.ws = s.ws) (hbg : ∀ b, s'.bg b = s.bg b) (halt : Alt s → Alt s') :
    W1 (s'.setBg b (.run w ph')) := by
  refine inv.step_bg (by rw [St.setBg_eq]; exact hws) (fun i b' ph0 h => .inl ?_) (by rw [St.setBg_eq]; exact halt)
  rw [St.bg_setBg]
  split
  · next e => subst e; rw [hb] at h; cases h; exact ⟨_, rfl⟩
  · exact ⟨_, (hbg b').trans h⟩

theorem step_w1 (cfg : Cfg) (hm : cfg.m = .asCoded cfg.closeSel) (s t : St) (f : Bool) (h : Step cfg f s t) (inv : W1 s) : W1 t := by
  have halt : Alt s → Alt t := (sim h).alt
  cases h with
  | bgWorkOk _ b w hb | bgWorkFail _ b w hb | bgCommitOk _ b w hb | bgCommitFail _ b w hb | bgWorkCorrupt _ b w hb
  | bgCommitCorrupt _ b w hb | bgBackoff _ b w _ hb =>
    exact inv.step_phase hb s _ rfl (fun _ => rfl) id
  | bgSetErrPer _ b w _ hb | bgLockClk _ b w hb | bgSetErr _ b w _ _ hb =>
    rw [St.setBg_eq] at halt
    exact inv.step_phase hb _ _ rfl (fun _ => rfl) halt
  | bgSetErrCorrupt _ b w _ hb he =>
    rw [hm, recvs_asCoded] at he
    refine .of_alt ?_
    rw [St.setBg_eq]
    refine .inr ?_
    rcases he with e | e <;> simp only [hm, e, next_asCoded, nextC]
  | bgExit _ _ _ _ _ hx =>
    refine .of_alt ?_
    rw [St.setBg_eq]
    rcases hx with ⟨hc, -⟩ | ⟨hp, -⟩
    · exact .inl hc
    · exact .inr (offPer_hasperr _ _ hp)
  | bgExitIdle _ _ _ hc => exact .of_alt (by rw [St.setBg_eq]; exact .inl hc)
  | bgExitParked _ _ hc | ehClose _ _ hc => exact .of_alt (.inl hc)
  | ehAcquire => exact inv
  | ehTake => exact inv.step_bg rfl (fun _ _ _ h => .inl ⟨_, h⟩) halt
  | bgAck _ b w hb =>
    intro i b' site lg hi
    rw [St.setBg_eq] at hi
    rcases ackWs_at s.ws w b i with ⟨e, hne⟩ | ⟨site', lg', _, e⟩
    · rw [e] at hi
      rcases inv i b' site lg hi with ⟨ph, h⟩ | h
      · refine .inl ⟨ph, ?_⟩
        by_cases eb : b' = b
        · subst eb; rw [hb] at h; cases h; exact absurd hi (hne rfl site lg)
        · rw [St.bg_setBg, if_neg eb]; exact h
      · exact .inr (by rw [St.setBg_eq]; exact h)
    · rw [e] at hi; cases site' <;> cases hi
  | startClose | cmLockTr | srPerErr | srClosed =>
    revert halt
    split <;> exact fun halt => inv.step_plain rfl halt
  | cmDone | dcBody | clBody =>
    revert halt
    simp only [St.setDone]
    split <;> exact fun halt => inv.step_plain rfl halt
  | otxDone | cmSleepTimer | cmRet | clCheckTr =>
    exact inv.step_thread rfl (fun _ _ _ h => by split at h <;> cases h) (fun _ _ _ _ h => .inl ⟨_, h⟩) id
  | selTok _ _ _ _ _ hq =>
    obtain ⟨rfl, rfl⟩ | ⟨lg, rfl, rfl⟩ | ⟨rfl, rfl⟩ | ⟨rfl, rfl⟩ := selNext_some hq <;>
    exact inv.step_plain rfl halt
  | cwSendErr _ _ _ site =>
    cases site <;> exact inv.step_plain rfl halt
  | cwSendRO _ _ site _ _ hb =>
    cases site <;> refine inv.step_thread rfl (fun _ _ _ h => nomatch h) (fun _ b _ _ h => .inl ?_) id <;>
    cases b <;> first | exact ⟨_, h⟩ | (simp only [St.bg, ↓reduceIte] at h; rw [hb] at h; cases h)
  | cwSendGo _ _ b _ _ _ hb =>
    refine inv.step_thread (by rw [St.setBg_eq]) ?_ ?_ (by rw [St.setBg_eq]; exact id)
    · intro _ _ _ h; cases h; exact ⟨_, by rw [St.bg_setBg, if_pos rfl]⟩
    · intro i b' ph _ h
      refine .inl ⟨ph, ?_⟩
      rw [St.bg_setBg]; split
      · next e => subst e; rw [hb] at h; cases h
      · exact h
  | cwAckErr _ _ b site =>
    refine inv.step_thread (by rw [St.setBg_eq]) (fun _ _ _ h => by cases site <;> cases h) ?_
      (by rw [St.setBg_eq]; exact id)
    intro i b' ph hne h
    refine .inl ⟨ph, ?_⟩
    rw [St.bg_setBg]; split
    · next e => subst e; rw [h]; simp only [clearW, if_neg hne]
    · exact h
  | _ => exact inv.step_plain rfl halt

end GoLevel.Locks

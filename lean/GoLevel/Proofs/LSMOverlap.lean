import GoLevel.Proofs.LSMEdits
namespace GoLevel
/-!
# Overlap search (`tFiles.getOverlaps`, `table.go`)

The index arithmetic of the non-overlapped branch returns exactly the tables meeting `[umin, umax]` when the two
"expand by one" tests use the user comparer; with `bytes.Compare` (the code as written, defect D1) and a
non-bytewise comparer it does not.  The restarting scan of level 0 returns the tables meeting a final range that
contains the requested one.
-/

section generic
variable {α : Type}

/-- the slice between the first `q1` and the first failure of `q2`, as `getOverlaps` cuts it by index -/
theorem filter_and_eq_slice (q1 q2 : α → Bool) (L : List α) (h1 : Initial (fun x => !q1 x) L) (h2 : Initial q2 L) :
    L.filter (fun x => q1 x && q2 x) =
      (L.drop (L.findIdx q1)).take (L.findIdx (fun x => !q2 x) - L.findIdx q1) := by
  have e : (fun x => q1 x && q2 x) = fun x => !(!q1 x) && q2 x := by funext x; rw [Bool.not_not]
  rw [e, ← Initial.slice_eq_filter' h1 h2, ← List.drop_take, ← List.takeWhile_eq_take_findIdx_not,
    List.dropWhile_eq_drop_findIdx_not]
  simp only [Bool.not_not]
  -- `L = T ++ D`: the first `q1` of `L` is that of the prefix `T`, or both lie beyond `T`
  generalize hT : L.takeWhile q2 = T
  have hL : L = T ++ L.dropWhile q2 := hT ▸ List.takeWhile_append_dropWhile.symm
  rw [hL, List.findIdx_append]
  split
  · rfl
  · rename_i hge
    rw [List.drop_eq_nil_of_le (Nat.le_of_not_lt hge), List.drop_eq_nil_of_le (Nat.le_add_left _ _)]

theorem findIdx_interleave (p q : α → Bool) (L : List α) (hpq : ∀ x ∈ L, p x = true → q x = true)
    (hqp : L.Pairwise (fun x y => q x = true → p y = true)) :
    L.findIdx q ≤ L.findIdx p ∧ L.findIdx p ≤ L.findIdx q + 1 := by
  refine ⟨List.findIdx_le_findIdx hpq, ?_⟩
  induction L with
  | nil => simp
  | cons x xs ih =>
    obtain ⟨hx, hxs⟩ := List.pairwise_cons.1 hqp
    rw [List.findIdx_cons, List.findIdx_cons]
    cases hq : q x with
    | false =>
      have := ih (fun y hy => hpq y (List.mem_cons_of_mem _ hy)) hxs
      cases p x
      · exact Nat.succ_le_succ this
      · exact Nat.zero_le _
    | true =>
      have : xs.findIdx p = 0 := by
        cases xs with
        | nil => rfl
        | cons y ys => rw [List.findIdx_cons, hx y (.head _) hq, cond_true]
      cases p x
      · rw [cond_false, this]; exact Nat.le_refl _
      · exact Nat.zero_le _

/-- the step by which `getOverlaps` corrects `begin` and `end` after `sort.Search` -/
theorem findIdx_eq_ite (r : α → Bool) {L : List α} {k : Nat} (hk : k < L.length) (hlo : k ≤ L.findIdx r)
    (hhi : L.findIdx r ≤ k + 1) : L.findIdx r = if r L[k] = true then k else k + 1 := by
  split
  · rename_i h
    exact Nat.le_antisymm (Nat.le_of_not_lt fun hlt => by rw [List.not_of_lt_findIdx hlt] at h; cases h) hlo
  · rename_i h
    refine Nat.le_antisymm hhi (Nat.lt_of_le_of_ne hlo fun e => ?_)
    subst e; exact h (List.findIdx_getElem (w := hk))

theorem countP_lt_of {p q : α → Bool} {l : List α} (himp : ∀ x ∈ l, p x = true → q x = true)
    {t : α} (ht : t ∈ l) (hq : q t = true) (hp : p t = false) : l.countP p < l.countP q := by
  induction l with
  | nil => cases ht
  | cons x xs ih =>
    rw [List.countP_cons, List.countP_cons]
    have hmono : xs.countP p ≤ xs.countP q :=
      List.countP_mono_left (fun y hy => himp y (List.mem_cons_of_mem _ hy))
    rcases List.mem_cons.1 ht with rfl | ht'
    · rw [if_pos hq, if_neg (by rw [hp]; exact Bool.noConfusion)]; exact Nat.lt_succ_of_le hmono
    · have := ih (fun y hy => himp y (List.mem_cons_of_mem _ hy)) ht'
      by_cases hpx : p x = true
      · rw [if_pos hpx, if_pos (himp x (.head _) hpx)]; exact Nat.succ_lt_succ this
      · rw [if_neg hpx]; split
        · exact Nat.lt_succ_of_lt this
        · exact this

end generic

/-- `begin` of `tFiles.getOverlaps` (non-overlapped branch, `umin != nil`); `cmp2` is `bytes.Compare` in
the Go code -/
def goBegin (c : UCmp) (cmp2 : Bytes → Bytes → Ordering) (tables : Level) (umin : Bytes) : Nat :=
  let i1 := tables.findIdx (fun t => c.cmp t.imin.ukey umin == .gt)           -- searchMinUkey
  if i1 = 0 then 0 else
    match tables[i1 - 1]? with
    | some t => if cmp2 t.imax.ukey umin != .lt then i1 - 1 else i1
    | none => i1

/-- `end` of `tFiles.getOverlaps` (non-overlapped branch, `umax != nil`) -/
def goEnd (c : UCmp) (cmp2 : Bytes → Bytes → Ordering) (tables : Level) (umax : Bytes) : Nat :=
  let i2 := tables.findIdx (fun t => c.cmp t.imax.ukey umax == .gt)           -- searchMaxUkey
  if i2 = tables.length then tables.length else
    match tables[i2]? with
    | some t => if cmp2 t.imin.ukey umax != .gt then i2 + 1 else i2
    | none => i2

/-- `tFiles.getOverlaps(…, overlapped = false)` with both bounds non-nil: the index arithmetic of the Go code.
`sort.Search` = first index satisfying the (monotone) predicate = `List.findIdx`.  `cmp2` is the comparison used by
the two "expand by one" tests (`bytes.Compare` in the Go code). -/
def getOverlapsSortedIdx (c : UCmp) (cmp2 : Bytes → Bytes → Ordering) (tables : Level) (umin umax : Bytes) : List Table :=
  if tables.isEmpty then [] else
  let i1 := tables.findIdx (fun t => c.cmp t.imin.ukey umin == .gt)           -- searchMinUkey
  let begin_ := if i1 = 0 then 0 else
    match tables[i1 - 1]? with
    | some t => if cmp2 t.imax.ukey umin != .lt then i1 - 1 else i1
    | none => i1
  let i2 := tables.findIdx (fun t => c.cmp t.imax.ukey umax == .gt)           -- searchMaxUkey
  let end_ := if i2 = tables.length then tables.length else
    match tables[i2]? with
    | some t => if cmp2 t.imin.ukey umax != .gt then i2 + 1 else i2
    | none => i2
  if begin_ ≥ end_ then [] else (tables.drop begin_).take (end_ - begin_)

theorem getOverlapsSortedIdx_unfold (c : UCmp) (cmp2 : Bytes → Bytes → Ordering) (tables : Level)
    (umin umax : Bytes) :
    getOverlapsSortedIdx c cmp2 tables umin umax =
      if tables.isEmpty then [] else
      if goBegin c cmp2 tables umin ≥ goEnd c cmp2 tables umax then []
      else (tables.drop (goBegin c cmp2 tables umin)).take
        (goEnd c cmp2 tables umax - goBegin c cmp2 tables umin) := rfl

section sorted
variable {c : UCmp} (hl : LawfulUCmp c)
include hl

/-- along a level of disjoint ranges `x.imin ≤ x.imax < y.imin ≤ y.imax` for `x` before `y`: both bounds ascend -/
theorem tlt_chain {tables : Level} (hle : ∀ t ∈ tables, c.le t.imin.ukey t.imax.ukey)
    (hp : tables.Pairwise (tlt c)) :
    tables.Pairwise fun x y => c.lt x.imin.ukey y.imin.ukey ∧ c.lt x.imax.ukey y.imax.ukey :=
  hp.imp_of_mem fun hx hy hxy =>
    ⟨hl.ord.lt_of_le_of_lt (hle _ hx) hxy, hl.ord.lt_of_lt_of_le hxy (hle _ hy)⟩

/-- `searchMinUkey` is a binary search over a monotone predicate -/
theorem searchMinUkey_mono (tables : Level) (hle : ∀ t ∈ tables, c.le t.imin.ukey t.imax.ukey)
    (hp : tables.Pairwise (tlt c)) (umin : Bytes) :
    tables.Pairwise (fun x y => (c.cmp x.imin.ukey umin == .gt) = true →
      (c.cmp y.imin.ukey umin == .gt) = true) :=
  (tlt_chain hl hle hp).imp fun hxy h => by
    rw [beq_iff_eq, hl.gt_iff] at h ⊢
    exact hl.trans _ _ _ h hxy.1

/-- `searchMaxUkey` is a binary search over a monotone predicate -/
theorem searchMaxUkey_mono (tables : Level) (hle : ∀ t ∈ tables, c.le t.imin.ukey t.imax.ukey)
    (hp : tables.Pairwise (tlt c)) (umax : Bytes) :
    tables.Pairwise (fun x y => (c.cmp x.imax.ukey umax == .gt) = true →
      (c.cmp y.imax.ukey umax == .gt) = true) :=
  (tlt_chain hl hle hp).imp fun hxy h => by
    rw [beq_iff_eq, hl.gt_iff] at h ⊢
    exact hl.trans _ _ _ h hxy.2

theorem q1_upward (tables : Level) (hle : ∀ t ∈ tables, c.le t.imin.ukey t.imax.ukey)
    (hp : tables.Pairwise (tlt c)) (umin : Bytes) : Initial (fun t => !(c.cmp umin t.imax.ukey != .gt)) tables :=
  (tlt_chain hl hle hp).imp fun hxy h => by
    rw [Bool.not_eq_true', ← Bool.not_eq_true, bne_iff_ne, hl.ord.not_le_iff] at h ⊢
    exact hl.trans _ _ _ hxy.2 h

theorem q2_downward (tables : Level) (hle : ∀ t ∈ tables, c.le t.imin.ukey t.imax.ukey)
    (hp : tables.Pairwise (tlt c)) (umax : Bytes) : Initial (fun t => c.cmp umax t.imin.ukey != .lt) tables :=
  (tlt_chain hl hle hp).imp fun hxy h => by
    rw [hl.ord.bne_lt_iff] at h ⊢
    exact StrictOrd.le_of_lt (hl.ord.lt_of_lt_of_le hxy.1 h)

theorem bne_lt_flip (a b : Bytes) : (c.cmp a b != .lt) = (c.cmp b a != .gt) :=
  Bool.eq_iff_iff.2 ((hl.ord.bne_lt_iff a b).trans bne_iff_ne.symm)

theorem goBegin_eq (tables : Level)
    (hle : ∀ t ∈ tables, c.le t.imin.ukey t.imax.ukey) (hp : tables.Pairwise (tlt c)) (umin : Bytes) :
    goBegin c c.cmp tables umin = tables.findIdx (fun t => c.cmp umin t.imax.ukey != .gt) := by
  obtain ⟨h1, h2⟩ := findIdx_interleave (fun t => c.cmp t.imin.ukey umin == .gt)
    (fun t => c.cmp umin t.imax.ukey != .gt) tables
    (fun t ht h => by
      rw [beq_iff_eq, hl.gt_iff] at h; rw [bne_iff_ne]
      exact hl.ord.le_trans (StrictOrd.le_of_lt h) (hle t ht))
    (hp.imp fun {x y} hxy h => by
      rw [bne_iff_ne] at h; rw [beq_iff_eq, hl.gt_iff]
      exact hl.ord.lt_of_le_of_lt h hxy)
  have hlen : tables.findIdx (fun t => c.cmp t.imin.ukey umin == .gt) ≤ tables.length := List.findIdx_le_length
  unfold goBegin
  generalize tables.findIdx (fun t => c.cmp t.imin.ukey umin == .gt) = i1 at h1 h2 hlen
  simp only []
  split
  · rename_i h0
    exact (Nat.le_zero.1 (h0 ▸ h1)).symm
  · rename_i h0
    have hlt : i1 - 1 < tables.length := Nat.lt_of_lt_of_le (Nat.sub_one_lt h0) hlen
    have hpos : i1 - 1 + 1 = i1 := Nat.sub_add_cancel (Nat.pos_of_ne_zero h0)
    -- the search for `umin ≤ imax` ends at `i1 - 1` or `i1`, and Go's test on table `i1 - 1` is its predicate
    rw [List.getElem?_eq_getElem hlt, findIdx_eq_ite _ hlt (Nat.sub_le_of_le_add h2) (hpos.symm ▸ h1)]
    simp only [bne_lt_flip hl, hpos]

theorem goEnd_eq (tables : Level)
    (hle : ∀ t ∈ tables, c.le t.imin.ukey t.imax.ukey) (hp : tables.Pairwise (tlt c)) (umax : Bytes) :
    goEnd c c.cmp tables umax = tables.findIdx (fun t => !(c.cmp umax t.imin.ukey != .lt)) := by
  have hr (t : Table) : (!(c.cmp umax t.imin.ukey != .lt)) = true ↔ c.lt umax t.imin.ukey := by
    rw [Bool.not_eq_true', ← Bool.not_eq_true, hl.ord.bne_lt_iff, hl.ord.not_le_iff]
    exact Iff.rfl
  obtain ⟨h1, h2⟩ := findIdx_interleave (fun t => !(c.cmp umax t.imin.ukey != .lt))
    (fun t => c.cmp t.imax.ukey umax == .gt) tables
    (fun t ht h => by
      rw [hr] at h; rw [beq_iff_eq, hl.gt_iff]
      exact hl.ord.lt_of_lt_of_le h (hle t ht))
    (hp.imp fun {x y} hxy h => by
      rw [beq_iff_eq, hl.gt_iff] at h; rw [hr]
      exact hl.trans _ _ _ h hxy)
  have hlen : tables.findIdx (fun t => !(c.cmp umax t.imin.ukey != .lt)) ≤ tables.length := List.findIdx_le_length
  unfold goEnd
  generalize tables.findIdx (fun t => c.cmp t.imax.ukey umax == .gt) = i2 at h1 h2
  simp only []
  split
  · rename_i hend
    exact Nat.le_antisymm (hend ▸ h1) hlen
  · rename_i hend
    have hlt : i2 < tables.length := Nat.lt_of_le_of_ne (Nat.le_trans h1 hlen) hend
    -- the search for `umax < imin` ends at `i2` or `i2 + 1`, and Go's test on table `i2` is its negation
    rw [List.getElem?_eq_getElem hlt, findIdx_eq_ite _ hlt h1 h2]
    simp only [← bne_lt_flip hl]
    cases c.cmp umax tables[i2].imin.ukey != .lt <;> rfl
end sorted

/-- no assumption `umin ≤ umax` is needed -/
theorem getOverlapsSortedIdx_eq {c : UCmp} (hl : LawfulUCmp c) (tables : Level)
    (hle : ∀ t ∈ tables, c.le t.imin.ukey t.imax.ukey) (hp : tables.Pairwise (tlt c)) (umin umax : Bytes) :
    getOverlapsSortedIdx c c.cmp tables umin umax = getOverlapsSorted c tables umin umax := by
  rw [getOverlapsSortedIdx_unfold]
  cases htab : tables with
  | nil => rfl
  | cons t ts =>
    rw [← htab, goBegin_eq hl tables hle hp umin, goEnd_eq hl tables hle hp umax,
      show getOverlapsSorted c tables umin umax = _ from
        filter_and_eq_slice _ _ tables (q1_upward hl tables hle hp umin) (q2_downward hl tables hle hp umax),
      show tables.isEmpty = false by rw [htab]; rfl]
    simp only [Bool.false_eq_true, if_false]
    split
    · rename_i hge
      rw [Nat.sub_eq_zero_of_le hge, List.take_zero]
    · rfl

/-- a table with one-byte bounds and no content (only `imin`/`imax` matter for the overlap search) -/
def ovT (n : Nat) (a b : UInt8) : Table := ⟨n, 0, [], mkIKey [a] 1 1, mkIKey [b] 1 1⟩

example :
    let L : Level := [ovT 1 10 20, ovT 2 30 40, ovT 3 50 60]
    levelDisjointB bytewise L = true ∧ (∀ t ∈ L, bytewise.le t.imin.ukey t.imax.ukey) ∧
    getOverlapsSortedIdx bytewise bytewise.cmp L [15] [35] = [ovT 1 10 20, ovT 2 30 40] ∧
    getOverlapsSorted bytewise L [15] [35] = [ovT 1 10 20, ovT 2 30 40] ∧
    getOverlapsSortedIdx bytewise bytewise.cmp L [25] [26] = [] ∧
    getOverlapsSortedIdx bytewise bytewise.cmp L [45] [200] = [ovT 3 50 60] := by decide +kernel

/-- a lawful comparer that is not bytewise: reversed byte order -/
def revCmp : UCmp := ⟨fun a b => bytesCompare b a, fun _ _ => none, fun _ => none⟩

theorem revCmp_lawful : LawfulUCmp revCmp where
  refl a := bytesCompare_refl a
  eq_of a b h := (bytesCompare_eq b a h).symm
  gt_iff a b := bytesCompare_gt_iff b a
  trans a b d h1 h2 := bytesCompare_trans d b a h2 h1
  sep_ok a b d _ h := by cases h
  succ_ok b d h := by cases h

/-- **Defect D1.**  With a lawful non-bytewise comparer the code as written (`bytes.Compare` in the two
expansion tests) returns a table that does not overlap the range and misses the one that does. -/
theorem getOverlapsSortedIdx_D1 :
    let L : Level := [ovT 1 60 50, ovT 2 40 30, ovT 3 20 10]
    levelDisjointB revCmp L = true ∧ (∀ t ∈ L, revCmp.le t.imin.ukey t.imax.ukey) ∧
    revCmp.le [45] [35] ∧
    getOverlapsSorted revCmp L [45] [35] = [ovT 2 40 30] ∧
    getOverlapsSortedIdx revCmp revCmp.cmp L [45] [35] = [ovT 2 40 30] ∧
    getOverlapsSortedIdx revCmp bytesCompare L [45] [35] = [ovT 1 60 50] := by decide +kernel

example : ∃ (L : Level) (umin umax : Bytes), L.Pairwise (tlt revCmp) ∧
    (∀ t ∈ L, revCmp.le t.imin.ukey t.imax.ukey) ∧
    getOverlapsSortedIdx revCmp bytesCompare L umin umax ≠ getOverlapsSorted revCmp L umin umax := by
  refine ⟨[ovT 1 60 50, ovT 2 40 30, ovT 3 20 10], [45], [35], ?_, by decide +kernel, by decide +kernel⟩
  exact (levelDisjoint_pairwise revCmp_lawful _ (by decide +kernel)).1 (by decide +kernel)

/-- termination measure of the restarts: tables starting before `umin` plus tables ending after `umax` -/
def l0Measure (c : UCmp) (tables : Level) (umin umax : Bytes) : Nat :=
  tables.countP (fun t => decide (c.lt t.imin.ukey umin)) +
  tables.countP (fun t => decide (c.lt umax t.imax.ukey))

section l0
variable {c : UCmp} (hl : LawfulUCmp c)
include hl

theorem scan_spec (umin umax : Bytes) (ts acc : List Table) :
    match getOverlapsL0.scan c umin umax ts acc with
    | .inl (a, b) => ∃ t ∈ ts,
        (a = t.imin.ukey ∧ c.lt a umin ∧ b = umax) ∨ (a = umin ∧ b = t.imax.ukey ∧ c.lt umax b)
    | .inr r => r = acc.reverse ++ ts.filter (·.overlapsRange c umin umax) ∧
        ∀ t ∈ ts, t.overlapsRange c umin umax = true → c.le umin t.imin.ukey ∧ c.le t.imax.ukey umax := by
  induction ts generalizing acc with
  | nil => exact ⟨by simp, nofun⟩
  | cons t ts ih =>
    rw [getOverlapsL0.scan]
    by_cases hov : t.overlapsRange c umin umax = true
    · rw [if_pos hov]
      by_cases h1 : c.cmp t.imin.ukey umin = .lt
      · rw [if_pos h1]; exact ⟨t, .head _, .inl ⟨rfl, h1, rfl⟩⟩
      rw [if_neg h1]
      by_cases h2 : c.cmp t.imax.ukey umax = .gt
      · rw [if_pos h2]; exact ⟨t, .head _, .inr ⟨rfl, rfl, (hl.gt_iff _ _).1 h2⟩⟩
      rw [if_neg h2]
      have ih' := ih (t :: acc)
      generalize getOverlapsL0.scan c umin umax ts (t :: acc) = res at ih' ⊢
      rcases res with ⟨a, b⟩ | r
      · obtain ⟨x, hx, h⟩ := ih'
        exact ⟨x, List.mem_cons_of_mem _ hx, h⟩
      · refine ⟨by rw [ih'.1, List.filter_cons_of_pos (by exact hov), List.reverse_cons, List.append_assoc]; rfl,
          fun x hx hxo => ?_⟩
        rcases List.mem_cons.1 hx with rfl | hx
        · exact ⟨(hl.ord.not_lt_iff _ _).1 h1, h2⟩
        · exact ih'.2 x hx hxo
    · rw [if_neg hov]
      have ih' := ih acc
      generalize getOverlapsL0.scan c umin umax ts acc = res at ih' ⊢
      rcases res with ⟨a, b⟩ | r
      · obtain ⟨x, hx, h⟩ := ih'
        exact ⟨x, List.mem_cons_of_mem _ hx, h⟩
      · refine ⟨by rw [ih'.1, List.filter_cons_of_neg (by exact hov)], fun x hx hxo => ?_⟩
        rcases List.mem_cons.1 hx with rfl | hx
        · exact absurd hxo hov
        · exact ih'.2 x hx hxo
/-- a restart widens the range to a bound of a table of the level, and that table no longer counts -/
theorem l0Measure_restart (tables : Level) {umin umax a b : Bytes} {t : Table} (ht : t ∈ tables)
    (h : (a = t.imin.ukey ∧ c.lt a umin ∧ b = umax) ∨ (a = umin ∧ b = t.imax.ukey ∧ c.lt umax b)) :
    l0Measure c tables a b < l0Measure c tables umin umax ∧ c.le a umin ∧ c.le umax b := by
  unfold l0Measure
  rcases h with ⟨rfl, hlt, rfl⟩ | ⟨rfl, rfl, hlt⟩
  · have := countP_lt_of (p := fun x : Table => decide (c.lt x.imin.ukey t.imin.ukey))
      (q := fun x : Table => decide (c.lt x.imin.ukey umin)) (l := tables)
      (fun x _ hx => by
        rw [decide_eq_true_eq] at hx ⊢
        exact hl.trans _ _ _ hx hlt) ht (decide_eq_true hlt) (decide_eq_false (hl.ord.irrefl _))
    exact ⟨Nat.add_lt_add_right this _, StrictOrd.le_of_lt hlt, hl.ord.le_refl _⟩
  · have := countP_lt_of (p := fun x : Table => decide (c.lt t.imax.ukey x.imax.ukey))
      (q := fun x : Table => decide (c.lt umax x.imax.ukey)) (l := tables)
      (fun x _ hx => by
        rw [decide_eq_true_eq] at hx ⊢
        exact hl.trans _ _ _ hlt hx) ht (decide_eq_true hlt) (decide_eq_false (hl.ord.irrefl _))
    exact ⟨Nat.add_lt_add_left this _, hl.ord.le_refl _, StrictOrd.le_of_lt hlt⟩

end l0

theorem getOverlapsL0_spec {c : UCmp} (hl : LawfulUCmp c) (tables : Level) (fuel : Nat) (umin umax : Bytes)
    (hfuel : 2 * tables.length + 1 ≤ fuel) :
    ∃ umin' umax', c.le umin' umin ∧ c.le umax umax' ∧
      getOverlapsL0 c tables fuel umin umax = tables.filter (·.overlapsRange c umin' umax') ∧
      (∀ t ∈ getOverlapsL0 c tables fuel umin umax, c.le umin' t.imin.ukey ∧ c.le t.imax.ukey umax') := by
  have hm : l0Measure c tables umin umax < fuel :=
    Nat.lt_of_lt_of_le (Nat.lt_succ_of_le (Nat.add_le_add List.countP_le_length List.countP_le_length))
      (Nat.two_mul _ ▸ hfuel)
  clear hfuel
  -- each restart lowers the measure, so the fuel outlasts the restarts
  induction fuel generalizing umin umax with
  | zero => exact absurd hm (Nat.not_lt_zero _)
  | succ fuel ih =>
    rw [getOverlapsL0]
    have hsp := scan_spec hl umin umax tables []
    generalize getOverlapsL0.scan c umin umax tables [] = res at hsp ⊢
    rcases res with ⟨a, b⟩ | r
    · obtain ⟨t, ht, hcase⟩ := hsp
      obtain ⟨hm', ha, hb⟩ := l0Measure_restart hl tables ht hcase
      obtain ⟨u, v, h1, h2, h3, h4⟩ := ih a b (Nat.lt_of_lt_of_le hm' (Nat.le_of_lt_succ hm))
      exact ⟨u, v, hl.ord.le_trans h1 ha, hl.ord.le_trans hb h2, h3, h4⟩
    · obtain ⟨e1, e2⟩ := hsp
      simp only [List.reverse_nil, List.nil_append] at e1
      refine ⟨umin, umax, hl.ord.le_refl _, hl.ord.le_refl _, e1, ?_⟩
      intro t ht
      rw [e1, List.mem_filter] at ht
      exact e2 t ht.1 ht.2

theorem getOverlapsL0_complete {c : UCmp} (hl : LawfulUCmp c) (tables : Level) (fuel : Nat) (umin umax : Bytes)
    (hfuel : 2 * tables.length + 1 ≤ fuel) :
    ∀ t ∈ tables, t.overlapsRange c umin umax = true → t ∈ getOverlapsL0 c tables fuel umin umax := by
  obtain ⟨u, v, h1, h2, h3, _⟩ := getOverlapsL0_spec hl tables fuel umin umax hfuel
  intro t ht hov
  rw [h3, List.mem_filter]
  refine ⟨ht, ?_⟩
  rw [overlapsRange_iff hl] at hov ⊢
  exact ⟨hl.ord.le_trans h1 hov.1, hl.ord.le_trans hov.2 h2⟩

theorem getOverlapsL0_sublist {c : UCmp} (hl : LawfulUCmp c) (tables : Level) (fuel : Nat) (umin umax : Bytes)
    (hfuel : 2 * tables.length + 1 ≤ fuel) :
    (getOverlapsL0 c tables fuel umin umax).Sublist tables := by
  obtain ⟨u, v, _, _, h3, _⟩ := getOverlapsL0_spec hl tables fuel umin umax hfuel
  rw [h3]; exact List.filter_sublist

theorem getOverlapsL0_closed {c : UCmp} (hl : LawfulUCmp c) (tables : Level) (fuel : Nat) (umin umax : Bytes)
    (hfuel : 2 * tables.length + 1 ≤ fuel) :
    ∃ umin' umax', c.le umin' umin ∧ c.le umax umax' ∧
      (∀ t ∈ getOverlapsL0 c tables fuel umin umax, t ∈ tables ∧
        c.le umin' t.imin.ukey ∧ c.le t.imax.ukey umax') ∧
      (∀ t ∈ tables, t.overlapsRange c umin umax = true → t ∈ getOverlapsL0 c tables fuel umin umax) ∧
      (∀ t ∈ tables, t ∉ getOverlapsL0 c tables fuel umin umax → t.overlapsRange c umin' umax' = false) ∧
      (∀ t ∈ tables, t ∉ getOverlapsL0 c tables fuel umin umax →
        ∀ s ∈ getOverlapsL0 c tables fuel umin umax, tlt c t s ∨ tlt c s t) := by
  obtain ⟨u, v, h1, h2, h3, h4⟩ := getOverlapsL0_spec hl tables fuel umin umax hfuel
  have hnot : ∀ t ∈ tables, t ∉ getOverlapsL0 c tables fuel umin umax →
      t.overlapsRange c u v = false := by
    intro t ht hn
    rw [h3, List.mem_filter] at hn
    cases hov : t.overlapsRange c u v with
    | false => rfl
    | true => exact absurd ⟨ht, hov⟩ hn
  refine ⟨u, v, h1, h2, ?_, getOverlapsL0_complete hl tables fuel umin umax hfuel, hnot, ?_⟩
  · intro t ht
    refine ⟨?_, h4 t ht⟩
    rw [h3] at ht; exact (List.mem_filter.1 ht).1
  · intro t ht hn s hs
    obtain ⟨hs1, hs2⟩ := h4 s hs
    rcases (not_overlapsRange_iff hl t u v).1 (hnot t ht hn) with h | h
    · exact .inl (hl.ord.lt_of_lt_of_le h hs1)
    · exact .inr (hl.ord.lt_of_le_of_lt hs2 h)

/-- non-vacuity: four level-0 tables; the request `[50, 55]` meets only table 1, whose lower bound pulls in
table 2 (first restart), whose lower bound pulls in table 3 (second restart); table 4 stays outside -/
example :
    let L : Level := [ovT 1 40 60, ovT 2 25 45, ovT 3 10 30, ovT 4 70 80]
    getOverlapsL0 bytewise L 9 [50] [55] = [ovT 1 40 60, ovT 2 25 45, ovT 3 10 30] ∧
    getOverlapsL0 bytewise L 1 [50] [55] = [ovT 1 40 60, ovT 2 25 45] ∧
    getOverlapsL0 bytewise L 0 [50] [55] = [ovT 1 40 60] ∧
    getOverlapsL0 bytewise L 9 [50] [55] = L.filter (·.overlapsRange bytewise [10] [60]) ∧
    2 * L.length + 1 ≤ 9 := by decide +kernel

end GoLevel

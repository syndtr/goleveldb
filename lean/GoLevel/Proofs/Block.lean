import GoLevel.Model.Block
import GoLevel.Proofs.Bytes
import GoLevel.Proofs.Order
/-! For C13: the comparer contract and standing assumptions, the bytes a `blockWriter` produces, what `block.entry`
reads back from one of its entries, `sort.Search`, the restart array. -/
namespace GoLevel.C13
open GoLevel BlockWriter

/-- a comparer that is a strict total order identifying only equal strings (`comparer.Comparer` contract) -/
structure LawfulCmp (cmp : Bytes → Bytes → Ordering) : Prop where
  refl   : ∀ a, cmp a a = .eq
  eq_of  : ∀ a b, cmp a b = .eq → a = b
  gt_iff : ∀ a b, cmp a b = .gt ↔ cmp b a = .lt
  trans  : ∀ a b d, cmp a b = .lt → cmp b d = .lt → cmp a d = .lt

namespace LawfulCmp
variable {cmp : Bytes → Bytes → Ordering} (hc : LawfulCmp cmp)
include hc

theorem ord : StrictOrd cmp := ⟨hc.refl, hc.eq_of, hc.gt_iff, hc.trans⟩

theorem not_lt_of_lt {a b : Bytes} (h : cmp a b = .lt) : cmp b a ≠ .lt := hc.ord.asymm h

end LawfulCmp

def StrictSorted (cmp : Bytes → Bytes → Ordering) (kvs : List KV) : Prop :=
  kvs.Pairwise fun a b => cmp a.1 b.1 = .lt

/-- the sizes that `binary.Uvarint` can carry -/
def SmallKV (kvs : List KV) : Prop := ∀ kv ∈ kvs, kv.1.length < 2 ^ 64 ∧ kv.2.length < 2 ^ 64

theorem spl_spec (a b : Bytes) : sharedPrefixLen a b ≤ a.length ∧ sharedPrefixLen a b ≤ b.length ∧
    a.take (sharedPrefixLen a b) = b.take (sharedPrefixLen a b) := by
  induction a generalizing b with
  | nil => simp [sharedPrefixLen]
  | cons x xs ih =>
    cases b with
    | nil => simp [sharedPrefixLen]
    | cons y ys =>
      simp only [sharedPrefixLen]
      split
      · rename_i h; subst h; have := ih ys; simp [this.2.2]; omega
      · simp

theorem spl_le_left (a b : Bytes) : sharedPrefixLen a b ≤ a.length := (spl_spec a b).1
theorem spl_take (a b : Bytes) : a.take (sharedPrefixLen a b) = b.take (sharedPrefixLen a b) := (spl_spec a b).2.2

def nSharedAt (ri n : Nat) (prev k : Bytes) : Nat := if n % ri = 0 then 0 else sharedPrefixLen prev k

/-- what `append`ing `kvs` adds to `buf`, starting with `nEntries = n`, `prevKey = prev` -/
def encFrom (ri : Nat) : Nat → Bytes → List KV → Bytes
  | _, _, [] => []
  | n, prev, (k, v) :: t => encEntry (nSharedAt ri n prev k) k v ++ encFrom ri (n + 1) k t

/-- `prevKey` of the writer after `l`: the key of the last pair, `prev` if there is none -/
def lastKeyD (prev : Bytes) (l : List KV) : Bytes := (l.getLast?.map (·.1)).getD prev

theorem lastKeyD_cons (prev : Bytes) (k v) (t : List KV) : lastKeyD prev ((k, v) :: t) = lastKeyD k t := by
  cases t with
  | nil => simp [lastKeyD]
  | cons a t =>
    simp only [lastKeyD, List.getLast?_cons_cons]
    rcases h : (a :: t).getLast? with _ | x
    · simp at h
    · simp

theorem encFrom_append (ri : Nat) (A B : List KV) : ∀ n prev,
    encFrom ri n prev (A ++ B) = encFrom ri n prev A ++ encFrom ri (n + A.length) (lastKeyD prev A) B := by
  induction A with
  | nil => intro n prev; simp [encFrom, lastKeyD]
  | cons a A ih =>
    intro n prev
    obtain ⟨k, v⟩ := a
    simp only [List.cons_append, encFrom, ih, lastKeyD_cons, List.length_cons, List.append_assoc]
    congr 3
    omega

theorem encEntry_length_pos (sh : Nat) (k v : Bytes) : 0 < (encEntry sh k v).length := by
  have := uvarint_length_pos sh
  simp [encEntry]; omega

theorem entry_encEntry (sh : Nat) (k v rest : Bytes) (lim : Nat)
    (hsh : sh ≤ k.length) (hk : k.length < 2 ^ 64) (hv : v.length < 2 ^ 64)
    (hlim : (encEntry sh k v).length ≤ lim) :
    Block.entry (encEntry sh k v ++ rest) lim = some (sh, k.drop sh, v, (encEntry sh k v).length) := by
  have h0 : sh < 2 ^ 64 := by omega
  have h1 : k.length - sh < 2 ^ 64 := by omega
  have hkd : (k.drop sh).length = k.length - sh := by simp
  unfold Block.entry
  simp only [encEntry, List.append_assoc] at *
  simp only [readUvarint_uvarint_append _ _ h0, readUvarint_uvarint_append _ _ h1, readUvarint_uvarint_append _ _ hv,
    List.drop_length_add_append, List.drop_left, Nat.add_assoc]
  simp only [List.length_append, hkd] at hlim
  rw [if_neg (by omega), List.take_left' hkd, List.drop_left' hkd, List.take_left' rfl]
  simp only [List.length_append, hkd]

theorem nSharedAt_le (ri n : Nat) (prev k : Bytes) : nSharedAt ri n prev k ≤ k.length := by
  unfold nSharedAt; split
  · omega
  · exact (spl_spec _ _).2.1

/-- the prefixes of `done ++ todo` (extending `done`) in front of which the writer places a restart point -/
def restartPrefixes (ri : Nat) : List KV → List KV → List (List KV)
  | _, [] => []
  | done, kv :: t => (if done.length % ri = 0 then [done] else []) ++ restartPrefixes ri (done ++ [kv]) t

theorem restartPrefixes_snoc (ri : Nat) (todo : List KV) (kv : KV) : ∀ done,
    restartPrefixes ri done (todo ++ [kv]) =
      restartPrefixes ri done todo ++ (if (done ++ todo).length % ri = 0 then [done ++ todo] else []) := by
  induction todo with
  | nil => intro done; simp [restartPrefixes]
  | cons a t ih =>
    intro done
    simp [restartPrefixes, ih]

theorem restartPrefixes_head (ri : Nat) (kv : KV) (t : List KV) :
    ∃ rest, restartPrefixes ri [] (kv :: t) = [] :: rest := by
  simp [restartPrefixes]

theorem restartPrefixes_mem (ri : Nat) (todo : List KV) : ∀ done, ∀ A ∈ restartPrefixes ri done todo,
    ∃ i, i < todo.length ∧ A = done ++ todo.take i ∧ A.length % ri = 0 := by
  induction todo with
  | nil => intro done A h; simp [restartPrefixes] at h
  | cons a t ih =>
    intro done A h
    simp only [restartPrefixes, List.mem_append] at h
    rcases h with h | h
    · split at h
      · rename_i hm
        simp at h; subst h
        exact ⟨0, by simp, by simp, hm⟩
      · simp at h
    · obtain ⟨i, hi, he, hm⟩ := ih _ A h
      exact ⟨i + 1, by simpa using hi, by simpa using he, hm⟩

/-- the entries area of a block written from `l` by a fresh writer -/
abbrev enc (ri : Nat) (l : List KV) : Bytes := encFrom ri 0 [] l

/-- the state of a `blockWriter` that has been handed `done` since its last reset -/
structure WState (ri : Nat) (w : BlockWriter) (done : List KV) : Prop where
  ri_eq : w.restartInterval = ri
  buf : w.buf = enc ri done
  n : w.nEntries = done.length
  prev : done ≠ [] → w.prevKey = lastKeyD [] done
  restarts : w.restarts = (restartPrefixes ri [] done).map fun A => (enc ri A).length

theorem WState.fresh (ri : Nat) (p : Bytes) : WState ri { restartInterval := ri, prevKey := p } [] :=
  ⟨rfl, rfl, rfl, by simp, rfl⟩

theorem lastKeyD_snoc (prev : Bytes) (l : List KV) (k v : Bytes) : lastKeyD prev (l ++ [(k, v)]) = k := by
  simp [lastKeyD]

/-- `blockWriter.append` in one piece: only the restart array depends on the branch -/
theorem blockAppend_eq (w : BlockWriter) (k v : Bytes) : w.append k v =
    { w with
      restarts := if w.nEntries % w.restartInterval = 0 then w.restarts ++ [w.buf.length] else w.restarts
      buf := w.buf ++ encEntry (nSharedAt w.restartInterval w.nEntries w.prevKey k) k v
      prevKey := k
      nEntries := w.nEntries + 1 } := by
  unfold BlockWriter.append nSharedAt
  split <;> rfl

theorem WState.append {ri : Nat} {w : BlockWriter} {done : List KV} (h : WState ri w done) (k v : Bytes) :
    WState ri (w.append k v) (done ++ [(k, v)]) := by
  have hsh : nSharedAt ri w.nEntries w.prevKey k = nSharedAt ri done.length (lastKeyD [] done) k := by
    rw [h.n]
    unfold nSharedAt
    split
    · rfl
    · rename_i hm
      rw [h.prev (by intro he; subst he; simp at hm)]
  rw [blockAppend_eq, h.ri_eq, hsh]
  refine ⟨rfl, ?_, by simp [h.n], fun _ => (lastKeyD_snoc _ _ _ _).symm, ?_⟩
  · show w.buf ++ _ = _
    rw [h.buf]
    simp [enc, encFrom_append, encFrom]
  · show (if _ then _ else _) = _
    rw [restartPrefixes_snoc, h.n]
    split <;> simp [h.restarts, h.buf, *]

theorem WState.appendAll {ri : Nat} (todo : List KV) : ∀ {w : BlockWriter} {done : List KV},
    WState ri w done → WState ri (w.appendAll todo) (done ++ todo) := by
  induction todo with
  | nil => intro w done h; simpa [BlockWriter.appendAll] using h
  | cons a t ih =>
    intro w done h
    have := ih (h.append a.1 a.2)
    simpa [BlockWriter.appendAll] using this

theorem flatMap_le32_length (l : List Nat) : (l.flatMap le32).length = 4 * l.length := by
  induction l with
  | nil => simp
  | cons a t ih => simp [List.flatMap_cons, ih, le32, leN_length]; omega

theorem flatMap_le32_drop (l : List Nat) : ∀ j, (l.flatMap le32).drop (4 * j) = (l.drop j).flatMap le32 := by
  induction l with
  | nil => intro j; simp
  | cons a t ih =>
    intro j
    cases j with
    | zero => simp
    | succ j =>
      have h4 : (le32 a).length = 4 := leN_length 4 a
      rw [List.flatMap_cons, show 4 * (j + 1) = (le32 a).length + 4 * j by omega, List.drop_length_add_append, ih]
      simp

def layoutR (E : Bytes) (rs : List Nat) : BlockR :=
  ⟨E ++ (rs ++ [rs.length]).flatMap le32, rs.length, E.length⟩

theorem rd32_at (P Q : Bytes) (l : List Nat) (i : Nat) (hi : i < l.length) (hsm : l[i] < 2 ^ 32) :
    rd32 ((P ++ (l.flatMap le32 ++ Q)).drop (P.length + 4 * i)) = l[i] := by
  rw [List.drop_length_add_append, List.drop_append_of_le_length (by rw [flatMap_le32_length]; omega),
    flatMap_le32_drop, List.drop_eq_getElem_cons hi, List.flatMap_cons, List.append_assoc,
    rd32_le32_append _ _ hsm]

theorem restartOffset_layout (E : Bytes) (rs : List Nat) (j : Nat) (hj : j < rs.length) (hsm : rs[j] < 2 ^ 32) :
    (layoutR E rs).restartOffset j = rs[j] := by
  have h := rd32_at E [] (rs ++ [rs.length]) j (by simp; omega) (by rw [List.getElem_append_left hj]; exact hsm)
  rw [List.append_nil, List.getElem_append_left hj] at h
  exact h

theorem restartCount_layout (E : Bytes) (rs : List Nat) (hrs : rs.length < 2 ^ 32) :
    (layoutR E rs).restartOffset rs.length = rs.length := by
  have h := rd32_at E [] (rs ++ [rs.length]) rs.length (by simp) (by simpa using hrs)
  have e : (rs ++ [rs.length])[rs.length]'(by simp) = rs.length := by simp
  rw [List.append_nil, e] at h
  exact h

/-- `Reader.readBlock` on entries ‖ restart array ‖ count -/
theorem read_layout (E : Bytes) (rs : List Nat) (hrs : rs.length < 2 ^ 32) :
    Block.read (E ++ (rs ++ [rs.length]).flatMap le32) = some (layoutR E rs) := by
  have hl : (E ++ (rs ++ [rs.length]).flatMap le32).length = E.length + 4 * (rs.length + 1) := by
    rw [List.length_append, flatMap_le32_length, List.length_append]; rfl
  have hc := restartCount_layout E rs hrs
  simp only [BlockR.restartOffset, layoutR] at hc
  unfold Block.read
  rw [hl, if_neg (by omega), show E.length + 4 * (rs.length + 1) - 4 = E.length + 4 * rs.length by omega]
  simp only [hc]
  rw [if_neg (by omega)]
  congr 2
  omega

def restartsOf (ri : Nat) (kvs : List KV) : List Nat :=
  if kvs = [] then [0] else (restartPrefixes ri [] kvs).map fun A => (enc ri A).length

/-- what `blockWriter.finish` emits: the entries, the restart array, its length -/
theorem WState.finish_eq {ri : Nat} {w : BlockWriter} {done : List KV} (h : WState ri w done) :
    w.finish = enc ri done ++ (restartsOf ri done ++ [(restartsOf ri done).length]).flatMap le32 := by
  unfold BlockWriter.finish BlockWriter.finishRestarts restartsOf
  rw [h.buf, h.n, h.restarts]
  by_cases hk : done = []
  · subst hk; simp [restartPrefixes]
  · have : done.length ≠ 0 := by simpa using hk
    simp [hk, this]

theorem build_eq (ri : Nat) (kvs : List KV) :
    Block.build ri kvs = enc ri kvs ++ (restartsOf ri kvs ++ [(restartsOf ri kvs).length]).flatMap le32 := by
  have h := (WState.fresh ri []).appendAll kvs
  rw [List.nil_append] at h
  exact h.finish_eq

theorem build_length (ri : Nat) (kvs : List KV) :
    (Block.build ri kvs).length = (enc ri kvs).length + 4 * ((restartsOf ri kvs).length + 1) := by
  rw [build_eq, List.length_append, flatMap_le32_length, List.length_append]; rfl

theorem encFrom_length_le (ri : Nat) (kvs : List KV) (hs : SmallKV kvs) : ∀ n prev,
    (encFrom ri n prev kvs).length ≤ (kvs.map fun kv => kv.1.length + kv.2.length).sum + 30 * kvs.length := by
  induction kvs with
  | nil => intro n prev; simp [encFrom]
  | cons a t ih =>
    intro n prev
    obtain ⟨k, v⟩ := a
    have hk : k.length < 2 ^ 64 := (hs (k, v) (List.mem_cons_self ..)).1
    have hv : v.length < 2 ^ 64 := (hs (k, v) (List.mem_cons_self ..)).2
    have hsh := nSharedAt_le ri n prev k
    have := uvarint_length_le_ten (nSharedAt ri n prev k) (by omega)
    have := uvarint_length_le_ten (k.length - nSharedAt ri n prev k) (by omega)
    have := uvarint_length_le_ten v.length hv
    have := ih (fun kv hm => hs kv (List.mem_cons_of_mem _ hm)) (n + 1) k
    simp only [encFrom, encEntry, List.length_append, List.length_drop, List.map_cons, List.sum_cons, List.length_cons]
    omega

theorem restartPrefixes_length_le (ri : Nat) (todo : List KV) : ∀ done,
    (restartPrefixes ri done todo).length ≤ todo.length := by
  induction todo with
  | nil => intro done; simp [restartPrefixes]
  | cons a t ih =>
    intro done
    have := ih (done ++ [a])
    simp only [restartPrefixes, List.length_append, List.length_cons]
    split <;> simp <;> omega

/-- a block costs at most three varints and a restart slot per pair, the restart count and the slot of an empty block -/
theorem build_length_le (ri : Nat) (kvs : List KV) (hs : SmallKV kvs) :
    (Block.build ri kvs).length ≤ (kvs.map fun kv => kv.1.length + kv.2.length).sum + 34 * kvs.length + 8 := by
  have h1 := encFrom_length_le ri kvs hs 0 []
  have h2 : (restartsOf ri kvs).length ≤ kvs.length + 1 := by
    unfold restartsOf
    split
    · simp
    · have := restartPrefixes_length_le ri kvs []
      simp; omega
  rw [build_length]
  simp only [enc]
  omega

theorem read_build (ri : Nat) (kvs : List KV) (hsz : (Block.build ri kvs).length < 2 ^ 32) :
    Block.read (Block.build ri kvs) = some (layoutR (enc ri kvs) (restartsOf ri kvs)) := by
  have hl := build_length ri kvs
  rw [build_eq] at *
  exact read_layout _ _ (by omega)

theorem searchLoop_spec (f : Nat → Option Bool) (p : Nat → Bool) : ∀ fuel i j, j - i ≤ fuel → i ≤ j →
    (∀ h, i ≤ h → h < j → f h = some (p h)) →
    ∃ r, searchLoop f fuel i j = some r ∧ i ≤ r ∧ r ≤ j ∧ (i < r → p (r - 1) = false) ∧ (r < j → p r = true) := by
  intro fuel
  induction fuel with
  | zero =>
    intro i j hf hij _
    have : ¬ (i < j) := by omega
    exact ⟨i, by simp [searchLoop, this], by omega, by omega, by omega, by omega⟩
  | succ fuel ih =>
    intro i j hf hij hp
    by_cases hlt : i < j
    · have hh1 : i ≤ (i + j) / 2 := by omega
      have hh2 : (i + j) / 2 < j := by omega
      have hfh := hp _ hh1 hh2
      simp only [searchLoop, hlt, if_true, hfh]
      generalize (i + j) / 2 = m at *
      cases hph : p m with
      | false =>
        obtain ⟨r, hr, h1, h2, h3, h4⟩ := ih (m + 1) j (by omega) (by omega) (fun h a b => hp h (by omega) b)
        refine ⟨r, hr, by omega, h2, ?_, h4⟩
        intro _
        by_cases he : r = m + 1
        · subst he; simpa using hph
        · exact h3 (by omega)
      | true =>
        obtain ⟨r, hr, h1, h2, h3, h4⟩ := ih i m (by omega) (by omega) (fun h a b => hp h a (by omega))
        refine ⟨r, hr, h1, by omega, h3, ?_⟩
        intro _
        by_cases he : r = m
        · subst he; exact hph
        · exact h4 (by omega)
    · exact ⟨i, by simp [searchLoop, hlt], by omega, by omega, by omega, by omega⟩

theorem sortSearch_spec (f : Nat → Option Bool) (p : Nat → Bool) (n : Nat) (hf : ∀ h, h < n → f h = some (p h)) :
    ∃ s, sortSearch n f = some s ∧ s ≤ n ∧ (0 < s → p (s - 1) = false) ∧ (s < n → p s = true) := by
  obtain ⟨r, h1, _, h3, h4, h5⟩ := searchLoop_spec f p n 0 n (by omega) (by omega) (fun h _ hh => hf h hh)
  exact ⟨r, h1, h3, h4, h5⟩

theorem uvarint_zero : uvarint 0 = [0] := by simp [uvarint]

/-- the closure of `block.seek` reads the full key stored at a restart point -/
theorem restartKey_at (b : BlockR) (j : Nat) (Q k v : Bytes)
    (hd : b.data.drop (b.restartOffset j) = encEntry 0 k v ++ Q)
    (hk : k.length < 2 ^ 64) (hv : v.length < 2 ^ 64) : b.restartKey j = some k := by
  -- behind the byte for the shared length
  have hd' : ∀ n, b.data.drop (b.restartOffset j + 1 + n) =
      (uvarint k.length ++ (uvarint v.length ++ (k ++ (v ++ Q)))).drop n := by
    intro n
    rw [← List.drop_drop, ← List.drop_drop, hd]
    simp [encEntry, uvarint_zero]
  have h0 := hd' 0
  rw [Nat.add_zero, List.drop_zero] at h0
  have hlen := congrArg List.length h0
  simp only [List.length_drop, List.length_append] at hlen
  have := uvarint_length_pos k.length
  unfold BlockR.restartKey
  simp only [h0, readUvarint_uvarint_append _ _ hk, hd', List.drop_left, readUvarint_uvarint_append _ _ hv]
  rw [if_neg (by omega), Nat.add_assoc (b.restartOffset j + 1), hd', ← List.drop_drop, List.drop_left, List.drop_left,
    List.take_left' rfl]

end GoLevel.C13

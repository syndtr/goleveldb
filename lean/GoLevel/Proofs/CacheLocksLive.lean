import GoLevel.Proofs.CacheLocksStep
/-! The lock-level cache system (C17): `LInv` in every reachable state (for the code as it is: `unRefExternal`
uses `unrefMu`); which steps are enabled. -/
namespace GoLevel.CacheL
open GoLevel.CacheM

theorem linv_init (cfg : Cfg) (c n : Nat) : LInv (LSys.initCfg cfg false c n) := by
  have hget : ∀ (t : Nat) (th : LThread), (LSys.initCfg cfg false c n).tl[t]? = some th →
      th = { held := [], phase := .idle } := fun t th h => List.eq_of_mem_replicate (List.mem_of_getElem? h)
  have hgetT : ∀ (t : Nat) (T : List Instr), (LSys.initCfg cfg false c n).base.threads[t]? = some T → T = [] :=
    fun t T h => List.eq_of_mem_replicate (List.mem_of_getElem? h)
  refine ⟨by simp [LSys.initCfg, Sys.initCfg], fun t th T h1 h2 => ?_,
    fun l => ⟨?_, fun t th h1 hp => ?_, fun t hw => ?_, fun t th h1 hp => ?_⟩, rfl⟩
  · rw [hget t th h1, hgetT t T h2]; exact ⟨rfl, fun hp => absurd rfl hp, fun hu => nomatch hu⟩
  · cases l <;> simp [cnt, LSys.initCfg, LSys.lock, RW.free]
  · rw [hget t th h1, ann_idle] at hp; cases hp
  · cases l <;> cases hw
  · rw [hget t th h1] at hp; cases l <;> cases hp

theorem linv_step {ls ls' : LSys} {a : Act} (h : LInv ls) (hr : Reachable false ls.base)
    (huum : ls.unrefUsesMu = false) (hs : lstep ls a = some ls') : LInv ls' := by
  have hwc := wc_reachable hr
  cases a with
  | call t c =>
    obtain ⟨th, hth, hp, ht', _, rfl⟩ := lstep_call hs
    exact linv_same (T' := startCall c) h hth ht' rfl rfl (by cases c <;> rfl)
      (by rw [hp]; rfl) (fun hu => nomatch ((h.thr t th [] hth ht').of_holder hu).2)
  | step t =>
    obtain ⟨th, T, hth, hT, hc⟩ := lstepThread_cases hs
    rcases hc with ⟨_, _, _, hl, rfl⟩ | ⟨hp, hb⟩ | ⟨hp, i, rest, b', hTi, hcl, hfree, hb, rfl⟩
    · exact linv_lockstep h hwc hth hT hl
    · rcases hp with ⟨_, hu⟩ | hp
      · rw [huum] at hu; cases hu
      · exact linv_body h huum hth hT hp hb
    · subst hTi
      exact linv_base h huum hth hT hp hfree hb

theorem linv_reachable {ls : LSys} (hr : LReachable ls) (huum : ls.unrefUsesMu = false) : LInv ls := by
  induction hr with
  | init cfg uum c n =>
    have : uum = false := huum
    subst this; exact linv_init cfg c n
  | @step ls ls' a hr hs ih =>
    have hu : ls.unrefUsesMu = false := by rw [← (lstep_frame hs).1]; exact huum
    exact linv_step (ih hu) (lreachable_base hr) hu hs

theorem en_idle {ls : LSys} {t : Nat} {th : LThread} {i : Instr} {rest : List Instr}
    (hth : ls.tl[t]? = some th) (hT : ls.base.threads[t]? = some (i :: rest)) (hp : th.phase = .idle)
    (hcl : isCloseLock i = false) (hen : enterOK i = true)
    (hfree : ∀ l, rlockOf ls i = some l → (ls.lock l).writer = none) :
    ∃ b', sysStep false ls.base (.step t) = some b' ∧ lstepThread ls t = some (afterBase ls t th i b') := by
  obtain ⟨b', hb⟩ := sysStep_enabled hT (stepOK_of_not_close (.inl rfl)) (exec_total ls.base.sh hcl hen)
  exact ⟨b', hb, (lstepThread_idle hth hT hp hcl).mpr ⟨hfree, b', hb, rfl⟩⟩

theorem en_body {ls : LSys} {t : Nat} {th : LThread} {f : Bool}
    (hT : ls.base.threads[t]? = some [Instr.closeLock f])
    (hr0 : ls.base.sh.rlock = 0) : ∃ ls', closeBody ls t th = some ls' := by
  obtain ⟨b', hb⟩ := sysStep_enabled hT (stepOK_of_not_close (.inl rfl)) (exec_closeLock hr0)
  exact ⟨_, by unfold closeBody; rw [hb]⟩

theorem LInv.thread_of {ls : LSys} (hI : LInv ls) {t : Nat} {th : LThread} (hth : ls.tl[t]? = some th) :
    ∃ T, ls.base.threads[t]? = some T := by
  have hl := (List.getElem?_eq_some_iff.mp hth).1
  rw [hI.len] at hl
  exact ⟨_, List.getElem?_eq_getElem hl⟩

/-- A holder of a read lock is inside an `RLock` section, where the only lock it may still ask for is `unrefMu` (in
`unRefExternal`), and not while it holds `unrefMu` (`unShape`). -/
theorem holder_enabled {ls : LSys} (hr : LReachable ls) (huum : ls.unrefUsesMu = false) {l : LockId} {t : Nat}
    {th : LThread} (hth : ls.tl[t]? = some th) (hl : l ∈ th.held)
    (hun : ls.un.writer = none ∨ l = .un) :
    ∃ i rest b', ls.base.threads[t]? = some (i :: rest) ∧ isCloseLock i = false ∧ isEnter i = false ∧
      (∀ l', rlockOf ls i = some l' → (ls.lock l').writer = none) ∧
      sysStep false ls.base (.step t) = some b' ∧ lstepThread ls t = some (afterBase ls t th i b') := by
  have hI := linv_reachable hr huum
  obtain ⟨T, hT⟩ := hI.thread_of hth
  -- it has a `runlock` to do: its instruction list is not a lone `closeLock` or `enter`
  obtain ⟨hp, hmem⟩ := (hI.thr t th T hth hT).of_holder hl
  rcases wc_reachable (lreachable_base hr) T (List.mem_of_getElem? hT) with ⟨f, rfl⟩ | ⟨c, rfl, _⟩ | hpl
  · simp at hmem
  · simp at hmem
  cases T with
  | nil => cases hmem
  | cons i rest =>
    have hi := hpl i List.mem_cons_self
    have hfree : ∀ l', rlockOf ls i = some l' → (ls.lock l').writer = none := by
      intro l' hl'
      obtain ⟨_, ⟨_, h1⟩ | ⟨rfl, _⟩⟩ := rlockOf_some huum hl'
      · rw [hi.2] at h1; cases h1
      · rcases hun with hun | rfl
        · exact hun
        · rw [(unShape_head ((hI.thr t th _ hth hT).unref hl).2).1] at hl'; cases hl'
    obtain ⟨b', hb', hstep⟩ := en_idle hth hT hp hi.1 (enterOK_of_not_enter hi.2) hfree
    exact ⟨i, rest, b', hT, hi.1, hi.2, hfree, hb', hstep⟩

end GoLevel.CacheL

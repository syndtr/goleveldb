import GoLevel.Model.TableRemove
import GoLevel.Proofs.RefLoopBasic
/-! A deferred removal never deletes a file created later under the same number, because the number is given
back (`reuseFileNum`) only inside the delete callback (C07). -/
namespace GoLevel.TableRemove
open GoLevel.RefLoop (lookup_cons_eq)

structure Inv (s : St) : Prop where
  /-- every table number on storage has been allocated -/
  lt : ∀ p ∈ s.files, p.1 < s.next
  /-- a pending removal still names the file it was requested for -/
  pend : ∀ p ∈ s.pending, s.files.lookup p.1 = some p.2
  /-- a removal is pending only while a handle is open -/
  held : ∀ p ∈ s.pending, p.1 ∈ s.handles
  closedp : s.closed = true → s.pending = []
  log : LogOK s

theorem lookup_none_ne {l : List (Nat × Nat)} {n : Nat} (h : l.lookup n = none) : ∀ p ∈ l, p.1 ≠ n :=
  fun p hp e => by simpa [e] using List.lookup_eq_none_iff.1 h p hp

theorem lt_reuse {files : List (Nat × Nat)} {next n : Nat} (h : ∀ p ∈ files, p.1 < next)
    (hn : ∀ p ∈ files, p.1 ≠ n) : ∀ p ∈ files, p.1 < reuse next n := by
  intro p hp
  unfold reuse
  split
  · have := h p hp; have := hn p hp; omega
  · exact h p hp

/-- The delete callback of the code (`Remove` then `reuseFileNum`), for a table that no pending removal names and
whose file, if it is still there, is the one the request was made for. -/
theorem inv_delFunc {s : St} (h : Inv s) {n want : Nat} (hw : s.files.lookup n = some want ∨ s.files.lookup n = none)
    (hn : ∀ p ∈ s.pending, p.1 ≠ n) :
    Inv (delFunc true s n want) ∧ (delFunc true s n want).pending = s.pending ∧
    ∀ m, (delFunc true s n want).files.lookup m = if m = n then none else s.files.lookup m := by
  unfold delFunc
  rcases hw with hl | hl <;> rw [hl] <;> simp only [if_true]
  · refine ⟨{ h with lt := ?_, pend := fun p hp => ?_, log := ?_ }, trivial, fun m => lookup_filter_ne _ _ _⟩
    · apply lt_reuse
      · intro p hp; exact h.lt p (List.mem_filter.mp hp).1
      · intro p hp; simpa using (List.mem_filter.mp hp).2
    · show (s.files.filter (·.1 != n)).lookup p.1 = some p.2
      rw [lookup_filter_ne, if_neg (hn p hp)]; exact h.pend p hp
    · intro e he
      rcases List.mem_append.mp he with he | he
      · exact h.log e he
      · simp only [List.mem_singleton] at he; subst he; rfl
  · refine ⟨{ h with lt := lt_reuse h.lt (lookup_none_ne hl) }, trivial, fun m => ?_⟩
    by_cases hm : m = n
    · subst hm; simp [hl]
    · simp [hm]

/-- `Cache.Close(true)`: all pending callbacks run -/
theorem fold_delFunc (ps : List (Nat × Nat)) {s : St} (h : Inv s) (hp : s.pending = [])
    (hw : ∀ p ∈ ps, s.files.lookup p.1 = some p.2 ∨ s.files.lookup p.1 = none) :
    Inv (ps.foldl (fun a p => delFunc true a p.1 p.2) s) ∧
    (ps.foldl (fun a p => delFunc true a p.1 p.2) s).pending = [] := by
  induction ps generalizing s with
  | nil => exact ⟨h, hp⟩
  | cons q ps ih =>
    obtain ⟨h1, h3, h6⟩ := inv_delFunc h (hw q List.mem_cons_self) (by rw [hp]; intro p hp; cases hp)
    refine ih h1 (h3.trans hp) fun p hp => ?_
    rw [h6]
    split
    · exact Or.inr rfl
    · exact hw p (List.mem_cons_of_mem _ hp)

theorem step_inv {s : St} (h : Inv s) (o : Op) : Inv (step true s o) := by
  cases o with
  | create =>
    refine { h with lt := ?_, pend := ?_ }
    · intro p hp
      show p.1 < s.next + 1
      rcases List.mem_cons.mp hp with rfl | hp
      · exact Nat.lt_succ_self _
      · have := h.lt p (List.mem_filter.mp hp).1; omega
    · intro p hp
      have h1 := h.pend p hp
      have h2 := h.lt _ (mem_of_lookup h1)
      show ((s.next, s.stamp) :: s.files.filter (·.1 != s.next)).lookup p.1 = some p.2
      rw [lookup_cons_eq, lookup_filter_ne]
      have : p.1 ≠ s.next := by have : p.1 < s.next := h2; omega
      simp [this, h1]
  | acquire n =>
    simp only [step]
    split
    · exact h
    · exact { h with held := fun p hp => List.mem_cons_of_mem _ (h.held p hp) }
  | release n =>
    simp only [step]
    split
    · exact h
    · split
      · rename_i hor
        refine { h with held := fun p hp => ?_ }
        rcases hor with hor | hor
        · by_cases hpn : p.1 = n
          · rw [hpn]; exact hor
          · exact (List.mem_erase_of_ne hpn).mpr (h.held p hp)
        · have := h.closedp hor
          have hp' : p ∈ s.pending := hp
          rw [this] at hp'; cases hp'
      · rename_i hnor
        have hcl : s.closed = false := by
          cases hc : s.closed with
          | false => rfl
          | true => exact absurd (Or.inr hc) hnor
        split
        · rename_i want hw
          have h1 : Inv { s with handles := s.handles.erase n, pending := s.pending.filter (·.1 != n) } :=
            ⟨h.lt, fun p hp => h.pend p (List.mem_filter.mp hp).1,
              fun p hp => (List.mem_erase_of_ne (by simpa using (List.mem_filter.mp hp).2)).mpr
                (h.held p (List.mem_filter.mp hp).1),
              fun hc => absurd hc (by rw [show s.closed = false from hcl]; exact Bool.false_ne_true), h.log⟩
          exact (inv_delFunc h1 (Or.inl (h.pend _ (mem_of_lookup hw)))
            (fun p hp => by simpa using (List.mem_filter.mp hp).2)).1
        · rename_i hw
          refine { h with held := fun p hp => ?_ }
          have hpn : p.1 ≠ n := lookup_none_ne (l := s.pending) hw p hp
          exact (List.mem_erase_of_ne hpn).mpr (h.held p hp)
  | remove n =>
    simp only [step]
    split
    · exact h
    · rename_i hcl
      split
      · exact h
      · rename_i want hw
        simp only [if_true]
        split
        · rename_i hin
          split
          · exact h
          · refine { h with pend := ?_, held := ?_, closedp := ?_ }
            · intro p hp
              rcases List.mem_cons.mp hp with rfl | hp
              · exact hw
              · exact h.pend p hp
            · intro p hp
              rcases List.mem_cons.mp hp with rfl | hp
              · exact hin
              · exact h.held p hp
            · intro hc; exact absurd hc hcl
        · rename_i hin
          exact (inv_delFunc h (Or.inl hw) (fun p hp hpn => hin (hpn ▸ h.held p hp))).1
  | close =>
    simp only [step]
    obtain ⟨h1, h2⟩ := fold_delFunc s.pending
      (s := { s with pending := [], handles := [] }) ⟨h.lt, nofun, nofun, fun _ => rfl, h.log⟩ rfl
      (fun p hp => Or.inl (h.pend p hp))
    exact { h1 with closedp := fun _ => h2 }

theorem inv_init (n0 : Nat) : Inv (St.init n0) := by
  refine ⟨?_, ?_, ?_, fun _ => rfl, ?_⟩ <;> intro p hp <;> cases hp

theorem run_inv {s : St} (h : Inv s) (ops : List Op) : Inv (run true s ops) := by
  induction ops generalizing s with
  | nil => exact h
  | cons o ops ih => exact ih (step_inv h o)

/-- After `tOps.close()` nothing is removed from storage any more, whatever the reference loop requests. -/
theorem closed_removes_nothing {s : St} (h : Inv s) (hc : s.closed = true) (o : Op) :
    (step true s o).log = s.log ∧ (step true s o).closed = true ∧
      ∀ p ∈ s.files, p.1 ∈ (step true s o).files.map (·.1) := by
  have hp := h.closedp hc
  have hsame : ∀ p ∈ s.files, p.1 ∈ s.files.map (·.1) := fun p hp' => List.mem_map_of_mem hp'
  cases o with
  | create =>
    refine ⟨rfl, hc, fun p hp' => ?_⟩
    show p.1 ∈ ((s.next, s.stamp) :: s.files.filter (·.1 != s.next)).map (·.1)
    have := h.lt p hp'
    exact List.mem_map.mpr ⟨p, List.mem_cons_of_mem _ (List.mem_filter.mpr ⟨hp', by simp; omega⟩), rfl⟩
  | acquire n =>
    have : step true s (.acquire n) = s := by simp [step, hc]
    rw [this]; exact ⟨rfl, hc, hsame⟩
  | release n =>
    by_cases hn : n ∈ s.handles
    · have : step true s (.release n) = { s with handles := s.handles.erase n } := by simp [step, hc, hn]
      rw [this]; exact ⟨rfl, hc, hsame⟩
    · have : step true s (.release n) = s := by simp [step, hn]
      rw [this]; exact ⟨rfl, hc, hsame⟩
  | remove n =>
    have : step true s (.remove n) = s := by simp [step, hc]
    rw [this]; exact ⟨rfl, hc, hsame⟩
  | close =>
    have : step true s .close = { s with pending := [], handles := [], closed := true } := by
      simp [step, hp]
    rw [this]; exact ⟨rfl, rfl, hsame⟩

end GoLevel.TableRemove

import GoLevel.Proofs.WriteProtoCount
namespace GoLevel.WP

theorem token_of_holder (s : St) (inv : CInv s) (j : Nat) (l : Thread) (hj : s.ws[j]? = some l)
    (hh : 0 < holds l.pc) : s.token = true := by
  have := le_tot_of_mem holds s.ws j l hj
  have h := inv.holders
  cases ht : s.token
  · rw [ht] at h; simp at h; omega
  · rfl

def tk (b : Bool) : Nat := if b then 1 else 0

/-- The counting invariant and the measure look at program counters only: with `o`, `n` the sums over the old and new
counters of the threads that move, four balances between `o` and `n` are all that is needed. -/
theorem cinv_move {s t : St} (c : CInv s) (hcfg : t.cfg = s.cfg) (o n : (Pc → Nat) → Nat)
    (e : ∀ f, tot f t.ws + o f = tot f s.ws + n f)
    (h : n holds + tk s.token = o holds + tk t.token ∧ n isWA + o owed = o isWA + n owed ∧
      n isWM + o pendReply = o isWM + n pendReply ∧ n wt < o wt) : CInv t ∧ measure t < measure s := by
  obtain ⟨h1, h2, h3, h4⟩ := h
  refine ⟨⟨?_, ?_, ?_, hcfg ▸ c.cfgH⟩, ?_⟩
  · have := e holds; have : tot holds s.ws = tk s.token := c.holders; show _ = tk t.token; omega
  · have := e isWA; have := e owed; have := c.acks; omega
  · have := e isWM; have := e pendReply; have := c.replies; omega
  · have := e wt; unfold measure; omega

theorem cinv_set {s t : St} (c : CInv s) {i : Nat} {w w' : Thread} (hi : s.ws[i]? = some w) {p p' : Pc}
    (hp : w.pc = p) (hp' : w'.pc = p') (hws : t.ws = s.ws.set i w') (hcfg : t.cfg = s.cfg)
    (h : holds p' + tk s.token = holds p + tk t.token ∧ isWA p' + owed p = isWA p + owed p' ∧
      isWM p' + pendReply p = isWM p + pendReply p' ∧ wt p' < wt p) : CInv t ∧ measure t < measure s :=
  cinv_move c hcfg (fun f => f p) (fun f => f p') (fun f => by subst hp hp'; rw [hws]; exact tot_set f s.ws i w w' hi) h

theorem cinv_set2 {s t : St} (c : CInv s) {i j : Nat} {w l w' l' : Thread} (hi : s.ws[i]? = some w)
    (hj : s.ws[j]? = some l) {p q p' q' : Pc} (hp : w.pc = p) (hq : l.pc = q) (hne : p ≠ q) (hp' : w'.pc = p')
    (hq' : l'.pc = q') (hws : t.ws = set2 s.ws j l' i w') (hcfg : t.cfg = s.cfg)
    (h : holds p' + holds q' + tk s.token = holds p + holds q + tk t.token ∧
      isWA p' + isWA q' + (owed p + owed q) = isWA p + isWA q + (owed p' + owed q') ∧
      isWM p' + isWM q' + (pendReply p + pendReply q) = isWM p + isWM q + (pendReply p' + pendReply q') ∧
      wt p' + wt q' < wt p + wt q) : CInv t ∧ measure t < measure s :=
  cinv_move c hcfg (fun f => f p + f q) (fun f => f p' + f q')
    (fun f => by subst hp hq hp' hq'; rw [hws]; have := tot_set2 f s.ws i j w l w' l' hi hj hne; omega) h

/-- `pendReply` without a case split on the overflow flag -/
theorem pendReply_eq (p : Pc) : pendReply p =
    match p with | .lead .flush _ _ => 0 | .lead .replying _ _ => 1 | .lead _ _ o => tk o | _ => 0 := by
  cases p with
  | lead ph m o => cases ph <;> cases o <;> rfl
  | _ => rfl

attribute [local simp] tk holds isWA isWM owed pendReply_eq wt

theorem step_cinv_meas (s t : St) (h : Step s t) (inv : CInv s) : CInv t ∧ measure t < measure s := by
  cases h with
  | hRelease i w hi hp hk =>
    have htok := token_of_holder s inv i w hi (by simp [hp])
    exact cinv_set inv hi hp rfl rfl rfl (by simp [htok])
  | release j l m r hj hp =>
    have htok := token_of_holder s inv j l hj (by simp [hp])
    exact cinv_set inv hj hp rfl rfl rfl (by simp [htok])
  | publish j l m o rot hj hp hrot => cases rot <;> exact cinv_set inv hj hp rfl rfl rfl (by simp)
  | releaseLost j l m r hj hp hc hr => exact absurd inv.cfgH (by simp [hc])
  | _ =>
    -- one thread moves (`cinv_set`: call, return, lock, the leader's own steps) or the two ends of a rendezvous
    -- (`cinv_set2`: recvAccept, reply, recvOverflow, ack, handoff); the counters before are the guards `hp`, `hq`
    first
    | exact cinv_set inv (by assumption) (by assumption) rfl rfl rfl (by simp [*])
    | exact cinv_set2 inv (by assumption) (by assumption) (by assumption) (by assumption) (by simp) rfl rfl rfl rfl
        (by simp <;> omega)

theorem step_cinv (s t : St) (h : Step s t) (inv : CInv s) : CInv t := (step_cinv_meas s t h inv).1

theorem step_measure (s t : St) (h : Step s t) (inv : CInv s) : measure t < measure s :=
  (step_cinv_meas s t h inv).2

theorem init_cinv (s : St) (h : Init s) : CInv s := by
  obtain ⟨hcf, ht, _, hw⟩ := h
  have hz : ∀ (f : Pc → Nat), f .idle = 0 → tot f s.ws = 0 := fun f hf => by
    rw [tot_idle f s.ws fun w h => (hw w h).1, hf, Nat.zero_mul]
  refine ⟨?_, ?_, ?_, hcf⟩
  · rw [hz holds rfl, ht]; rfl
  · rw [hz isWA rfl, hz owed rfl]
  · rw [hz isWM rfl, hz pendReply rfl]

end GoLevel.WP

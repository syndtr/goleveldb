import GoLevel.Proofs.IterIndexed
/-!
# `levelIter` (`tFiles.newIndexIterator` / `tFilesArrayIndexer.Get`) is per-table range filtering

For a well-formed sorted level, cutting the table list to `tf[searchMax(Start) : searchMin(Limit)]` (limit clamped to
start for an inverted range) and slicing only the first and the last remaining table yields exactly the entries of
the level inside `[Start, Limit)`, and the children satisfy the index contract `IdxOK`.
-/
namespace GoLevel

theorem sliceOf_eq_filter (c : UCmp) (es : List Entry) (start limit : Option IKey) :
    sliceOf c es start limit = es.filter (slicePred c start limit) := rfl

def startOK (c : UCmp) (start : Option IKey) (e : Entry) : Bool :=
  match start with | some s => icmp c e.key s != .lt | none => true
def limitOK (c : UCmp) (limit : Option IKey) (e : Entry) : Bool :=
  match limit with | some l => icmp c e.key l == .lt | none => true

theorem slicePred_eq (c : UCmp) (start limit : Option IKey) (e : Entry) :
    slicePred c start limit e = (startOK c start e && limitOK c limit e) := rfl

structure LevelOK (c : UCmp) (tables : List (List Entry)) : Prop where
  nonempty : ∀ t ∈ tables, t ≠ []
  sorted : SortedEntries c tables.flatten

section
variable {c : UCmp} (hl : LawfulUCmp c) {tables : List (List Entry)} (hok : LevelOK c tables)
include hl hok

omit hl in
theorem LevelOK.table_sorted (t : List Entry) (ht : t ∈ tables) : SortedEntries c t :=
  (List.pairwise_flatten.1 hok.sorted).1 t ht

omit hl in
theorem LevelOK.cross (i j : Nat) (a b : List Entry) (hij : i < j) (ha : tables[i]? = some a)
    (hb : tables[j]? = some b) (x : Entry) (hx : x ∈ a) (y : Entry) (hy : y ∈ b) : icmp c x.key y.key = .lt :=
  (List.pairwise_flatten.1 hok.sorted).2.of_getElem? hij ha hb x hx y hy

theorem LevelOK.le_max (t : List Entry) (ht : t ∈ tables) (e : Entry) (he : e ∈ t) :
    icmp c e.key (tableMax t) ≠ .gt := by
  have hs := hok.table_sorted t ht
  cases hlast : t.getLast? with
  | none => exact absurd (List.getLast?_eq_none_iff.1 hlast) (hok.nonempty t ht)
  | some l =>
    obtain ⟨ys, rfl⟩ := List.getLast?_eq_some_iff.1 hlast
    have hm : tableMax (ys ++ [l]) = l.key := by simp [tableMax]
    rw [hm]
    rcases List.mem_append.1 he with h | h
    · exact StrictOrd.le_of_lt ((List.pairwise_append.1 hs).2.2 e h l (by simp))
    · rw [List.mem_singleton.1 h]; exact (icmp_ord hl).le_refl _

omit hl in
theorem LevelOK.max_mem (t : List Entry) (ht : t ∈ tables) : ∃ l ∈ t, l.key = tableMax t := by
  cases hlast : t.getLast? with
  | none => exact absurd (List.getLast?_eq_none_iff.1 hlast) (hok.nonempty t ht)
  | some l => exact ⟨l, List.mem_of_getLast? hlast, by simp [tableMax, hlast]⟩

theorem LevelOK.ge_min (t : List Entry) (ht : t ∈ tables) (e : Entry) (he : e ∈ t) :
    icmp c (tableMin t) e.key ≠ .gt := by
  have hs := hok.table_sorted t ht
  cases t with
  | nil => exact absurd rfl (hok.nonempty [] ht)
  | cons f fs =>
    have hm : tableMin (f :: fs) = f.key := by simp [tableMin]
    rw [hm]
    rcases List.mem_cons.1 he with rfl | h
    · exact (icmp_ord hl).le_refl _
    · exact StrictOrd.le_of_lt ((List.pairwise_cons.1 hs).1 e h)

omit hl in
theorem LevelOK.min_mem (t : List Entry) (ht : t ∈ tables) : ∃ f ∈ t, f.key = tableMin t := by
  cases t with
  | nil => exact absurd rfl (hok.nonempty [] ht)
  | cons f fs => exact ⟨f, by simp, by simp [tableMin]⟩

omit hl hok in
theorem levelStart_le (start : Option IKey) : levelStart c tables start ≤ tables.length := by
  cases start with
  | none => exact Nat.zero_le _
  | some s => exact Cursor.findIdx?_getD_le _ _

omit hl hok in
theorem levelLimit_le (limit : Option IKey) : levelLimit c tables limit ≤ tables.length := by
  cases limit with
  | none => exact Nat.le_refl _
  | some l => exact Cursor.findIdx?_getD_le _ _

/-- F1: tables before `searchMax(Start)` lie entirely below `Start` -/
theorem slice_before_start (start limit : Option IKey) (i : Nat) (t : List Entry)
    (hi : i < levelStart c tables start) (ht : tables[i]? = some t) (e : Entry) (he : e ∈ t) :
    slicePred c start limit e = false := by
  cases start with
  | none => simp [levelStart] at hi
  | some s =>
    have h1 : icmp c (tableMax t) s = .lt := by simpa using Cursor.findIdx?_getD_before hi ht
    have h2 := hok.le_max hl t (List.mem_of_getElem? ht) e he
    have := (icmp_ord hl).lt_of_le_of_lt h2 h1
    simp [slicePred, this]

/-- F2: tables after `searchMax(Start)` lie entirely at or above `Start` -/
theorem slice_after_start (start : Option IKey) (i : Nat) (t : List Entry)
    (hi : levelStart c tables start < i) (ht : tables[i]? = some t) (e : Entry) (he : e ∈ t) :
    startOK c start e = true := by
  cases start with
  | none => rfl
  | some s =>
    have hlen := getElem?_lt ht
    have hst : levelStart c tables (some s) < tables.length := by omega
    have hts := List.getElem?_eq_getElem hst
    have h1 : icmp c (tableMax tables[levelStart c tables (some s)]) s ≠ .lt := by
      simpa using Cursor.findIdx?_getD_at hts
    obtain ⟨l, hlm, hlk⟩ := hok.max_mem _ (List.mem_of_getElem? hts)
    have h2 := hok.cross _ i _ t hi hts ht l hlm e he
    rw [hlk] at h2
    exact geKey_of_le hl s _ e h1 (StrictOrd.le_of_lt h2)

/-- F3: tables from `searchMin(Limit)` on lie entirely at or above `Limit` -/
theorem slice_after_limit (start limit : Option IKey) (i : Nat) (t : List Entry)
    (hi : levelLimit c tables limit ≤ i) (ht : tables[i]? = some t) (e : Entry) (he : e ∈ t) :
    slicePred c start limit e = false := by
  cases limit with
  | none =>
    have := getElem?_lt ht
    simp [levelLimit] at hi; omega
  | some l =>
    have hlen := getElem?_lt ht
    have hlm : levelLimit c tables (some l) < tables.length := by omega
    have hts := List.getElem?_eq_getElem hlm
    have h1 : icmp c (tableMin tables[levelLimit c tables (some l)]) l ≠ .lt := by
      simpa using Cursor.findIdx?_getD_at hts
    have hge : icmp c (tableMin tables[levelLimit c tables (some l)]) e.key ≠ .gt := by
      rcases Nat.lt_or_ge (levelLimit c tables (some l)) i with hlt | hge
      · obtain ⟨f, hfm, hfk⟩ := hok.min_mem _ (List.mem_of_getElem? hts)
        have h2 := hok.cross _ i _ t hlt hts ht f hfm e he
        rw [hfk] at h2
        exact StrictOrd.le_of_lt h2
      · have : i = levelLimit c tables (some l) := by omega
        subst this
        rw [hts] at ht; cases ht
        exact hok.ge_min hl _ (List.mem_of_getElem? hts) e he
    have : icmp c e.key l ≠ .lt := bne_iff_ne.1 (geKey_of_le hl l _ e h1 hge)
    simp [slicePred, this]

/-- F4: tables whose successor is still before `searchMin(Limit)` lie entirely below `Limit` -/
theorem slice_before_limit (limit : Option IKey) (i : Nat) (t : List Entry)
    (hi : i + 1 < levelLimit c tables limit) (ht : tables[i]? = some t) (e : Entry) (he : e ∈ t) :
    limitOK c limit e = true := by
  cases limit with
  | none => rfl
  | some l =>
    have hle := levelLimit_le (c := c) (tables := tables) (some l)
    have hn : i + 1 < tables.length := by omega
    have hts := List.getElem?_eq_getElem hn
    have h1 : icmp c (tableMin tables[i + 1]) l = .lt := by simpa using Cursor.findIdx?_getD_before hi hts
    obtain ⟨f, hfm, hfk⟩ := hok.min_mem _ (List.mem_of_getElem? hts)
    have h2 := hok.cross i (i + 1) t _ (by omega) ht hts e he f hfm
    rw [hfk] at h2
    have := icmp_trans hl _ _ _ h2 h1
    simp [limitOK, this]

/-- the tables that remain, `tf[searchMax(Start) : searchMin(Limit)]` -/
def levelCut (c : UCmp) (tables : List (List Entry)) (start limit : Option IKey) : List (List Entry) :=
  (tables.take (levelLimit c tables limit)).drop (levelStart c tables start)

omit hl hok in
/-- an inverted range (`searchMin(Limit) < searchMax(Start)`) leaves no table with or without the clamp: it shows
nowhere else -/
theorem levelIter_children (start limit : Option IKey) :
    (levelIter c tables start limit).children =
      (levelCut c tables start limit).mapIdx fun i t =>
        ⟨tableMax t, if i = 0 ∨ i = (levelCut c tables start limit).length - 1 then sliceOf c t start limit else t⟩ := by
  have : (tables.take (if levelLimit c tables limit < levelStart c tables start then levelStart c tables start
      else levelLimit c tables limit)).drop (levelStart c tables start) = levelCut c tables start limit := by
    unfold levelCut
    split
    · rw [List.drop_eq_nil_of_le (by simp; omega), List.drop_eq_nil_of_le (by simp; omega)]
    · rfl
  simp only [levelIter, this]
  rfl

omit hl hok in
theorem levelCut_get (start limit : Option IKey) (i : Nat) (t : List Entry)
    (h : (levelCut c tables start limit)[i]? = some t) :
    tables[levelStart c tables start + i]? = some t ∧
      levelStart c tables start + i < levelLimit c tables limit := by
  simp only [levelCut, List.getElem?_drop, List.getElem?_take] at h
  split at h
  · exact ⟨h, by assumption⟩
  · cases h

omit hl hok in
theorem levelCut_length (start limit : Option IKey) :
    (levelCut c tables start limit).length = levelLimit c tables limit - levelStart c tables start := by
  have h2 := levelLimit_le (c := c) (tables := tables) limit
  simp only [levelCut, List.length_drop, List.length_take]
  omega

/-- under `LevelOK` it makes no difference which children are sliced: every remaining table is cut to the range
(a table that is neither the first nor the last lies inside it, by F2 and F4) -/
theorem levelIter_children_eq (start limit : Option IKey) :
    (levelIter c tables start limit).children =
      (levelCut c tables start limit).map fun t => ⟨tableMax t, t.filter (slicePred c start limit)⟩ := by
  rw [levelIter_children]
  apply List.ext_getElem?
  intro i
  simp only [List.getElem?_map, List.getElem?_mapIdx]
  cases h : (levelCut c tables start limit)[i]? with
  | none => rfl
  | some t =>
    simp only [Option.map_some]
    split
    · rfl
    · rename_i hne
      obtain ⟨ht, hlt⟩ := levelCut_get start limit i t h
      have hlen := levelCut_length (c := c) (tables := tables) start limit
      have hi := getElem?_lt h
      congr 2
      symm
      rw [List.filter_eq_self]
      intro e he
      have h1 := slice_after_start hl hok start (levelStart c tables start + i) t (by omega) ht e he
      have h2 := slice_before_limit hl hok limit (levelStart c tables start + i) t (by omega) ht e he
      rw [slicePred_eq, h1, h2]; rfl

theorem levelIter_flat (start limit : Option IKey) :
    (levelIter c tables start limit).children.flatMap (·.es) = sliceOf c tables.flatten start limit := by
  rw [List.flatMap_def, levelIter_children_eq hl hok, List.map_map, sliceOf_eq_filter, List.filter_flatten]
  have hnil : ∀ ts : List (List Entry), (∀ t ∈ ts, ∀ e ∈ t, slicePred c start limit e = false) →
      (ts.map (·.filter (slicePred c start limit))).flatten = [] := by
    intro ts h
    rw [List.flatten_eq_nil_iff]
    intro l hlm
    obtain ⟨t, htm, rfl⟩ := List.mem_map.1 hlm
    exact List.filter_eq_nil_iff.2 fun e he => by simp [h t htm e he]
  have hA := hnil ((tables.take (levelLimit c tables limit)).take (levelStart c tables start)) fun t htm e he => by
    rw [List.take_take] at htm
    obtain ⟨j, hj, rfl⟩ := List.mem_take_iff_getElem.1 htm
    have hj' : j < levelStart c tables start ∧ j < tables.length := by omega
    exact slice_before_start hl hok start limit j _ hj'.1 (List.getElem?_eq_getElem hj'.2) e he
  have hB := hnil (tables.drop (levelLimit c tables limit)) fun t htm e he => by
    obtain ⟨j, hj, rfl⟩ := List.mem_drop_iff_getElem.1 htm
    exact slice_after_limit hl hok start limit _ _ (Nat.le_add_right _ j) (List.getElem?_eq_getElem (by omega)) e he
  -- tables = (before ++ cut) ++ after
  conv => rhs; rw [← List.take_append_drop (levelLimit c tables limit) tables,
    ← List.take_append_drop (levelStart c tables start) (tables.take _)]
  rw [List.map_append, List.map_append, List.flatten_append, List.flatten_append, hA, hB, List.nil_append,
    List.append_nil]
  rfl

theorem levelIter_idxOK (start limit : Option IKey) : IdxOK c (levelIter c tables start limit).children := by
  have hsorted : SortedEntries c ((levelIter c tables start limit).children.flatMap (·.es)) := by
    rw [levelIter_flat hl hok]
    exact List.Pairwise.sublist List.filter_sublist hok.sorted
  -- the children are the tables of a sublist of the level, each cut to the range, with their `imax` as index keys
  have hcut : (levelCut c tables start limit).Sublist tables :=
    (List.drop_sublist _ _).trans (List.take_sublist _ _)
  rw [levelIter_children_eq hl hok] at hsorted ⊢
  refine .of_pairwise hsorted (fun ch hch e he => ?_) ?_
  · obtain ⟨t, ht, rfl⟩ := List.mem_map.1 hch
    exact hok.le_max hl t (hcut.subset ht) e (List.mem_filter.1 he).1
  · rw [List.pairwise_map]
    refine ((List.pairwise_flatten.1 hok.sorted).2.sublist hcut).imp_of_mem fun {s t} hs ht hst => ?_
    obtain ⟨l, hlm, hlk⟩ := hok.max_mem s (hcut.subset hs)
    obtain ⟨l', hlm', hlk'⟩ := hok.max_mem t (hcut.subset ht)
    exact ⟨fun e he => hlk ▸ StrictOrd.le_of_lt (hst l hlm e (List.mem_filter.1 he).1),
      hlk ▸ hlk' ▸ StrictOrd.le_of_lt (hst l hlm l' hlm')⟩

end
end GoLevel

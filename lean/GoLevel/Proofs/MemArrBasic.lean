import GoLevel.Model.MemArr
import GoLevel.Proofs.MemDBStep
/-! The array encoding of the skip list (C14): elementary facts about the checked reads/writes and about
`kvData` slices, the pointer chains `Chain`, the representation relation `Rep` between the arrays
(`GoLevel.MemArr.DB`) and the ideal skip list (`GoLevel.MemDB.DB`), and that `kvData` only grows. -/
namespace GoLevel.MemArr
open GoLevel.Gen (nKV nKey nVal nHeight nNext tMaxHeight)
open GoLevel.MemDB (Node)

theorem nKV_eq : nKV = 0 := by decide
theorem nKey_eq : nKey = 1 := by decide
theorem nVal_eq : nVal = 2 := by decide
theorem nHeight_eq : nHeight = 3 := by decide
theorem nNext_eq : nNext = 4 := by decide
theorem tMaxHeight_pos : 0 < tMaxHeight := by decide

theorem wr_some {a : Array Nat} {i : Nat} (v : Nat) (h : i < a.size) :
    ∃ a', wr a i v = some a' ∧ a'.size = a.size ∧ ∀ x, a'[x]? = if x = i then some v else a[x]? := by
  refine ⟨a.set i v h, by simp [wr, h], by simp, fun x => ?_⟩
  rw [Array.getElem?_set]
  by_cases hx : x = i
  · subst hx; simp
  · rw [if_neg hx, if_neg (fun e => hx e.symm)]

theorem setAt_some {pn : List Nat} {i : Nat} (v : Nat) (h : i < pn.length) : setAt pn i v = some (pn.set i v) := by
  unfold setAt; simp [h]

theorem slice_eq_some {kv : Array UInt8} {lo hi : Nat} {b : Bytes} :
    slice kv lo hi = some b ↔ lo ≤ hi ∧ hi ≤ kv.size ∧ b = (kv.toList.take hi).drop lo := by
  unfold slice
  by_cases h : lo ≤ hi ∧ hi ≤ kv.size
  · simp only [h, and_self, if_true, Option.some.injEq, true_and]
    rw [Array.toList_extract, List.extract_eq_take_drop, List.drop_take]
    constructor <;> intro e <;> exact e.symm
  · simp only [h, if_false]
    constructor
    · intro e; exact absurd e (by simp)
    · intro e; exact absurd ⟨e.1, e.2.1⟩ h

theorem slice_append {kv : Array UInt8} {lo hi : Nat} {b : Bytes} (ext : Array UInt8) (h : slice kv lo hi = some b) :
    slice (kv ++ ext) lo hi = some b := by
  rw [slice_eq_some] at h ⊢
  obtain ⟨h1, h2, h3⟩ := h
  refine ⟨h1, by rw [Array.size_append]; omega, ?_⟩
  rw [h3, Array.toList_append, List.take_append_of_le_length (by simpa using h2)]

theorem slice_put_key (kv : Array UInt8) (key value : Bytes) :
    slice (kv ++ key.toArray ++ value.toArray) kv.size (kv.size + key.length) = some key := by
  rw [slice_eq_some]
  refine ⟨by omega, by simp only [Array.size_append, List.size_toArray]; omega, ?_⟩
  simp only [Array.toList_append, List.append_assoc]
  have h1 : kv.size = kv.toList.length := by simp
  rw [h1, List.take_append, List.drop_append]
  simp

theorem slice_put_val (kv : Array UInt8) (key value : Bytes) :
    slice (kv ++ key.toArray ++ value.toArray) (kv.size + key.length) (kv.size + key.length + value.length) =
      some value := by
  rw [slice_eq_some]
  refine ⟨by omega, by simp only [Array.size_append, List.size_toArray]; omega, ?_⟩
  simp only [Array.toList_append]
  have h1 : kv.size + key.length = (kv.toList ++ key).length := by simp
  have h2 : kv.size + key.length + value.length = (kv.toList ++ key ++ value).length := by
    simp [Nat.add_assoc]
  rw [h2, List.take_length, h1, List.drop_left]

/-- node index of an ideal node reference (`none` = node 0) -/
def nix (ix : Bytes → Nat) : Node → Nat
  | none => 0
  | some k => ix k

@[simp] theorem nix_none (ix : Bytes → Nat) : nix ix none = 0 := rfl
@[simp] theorem nix_some (ix : Bytes → Nat) (k : Bytes) : nix ix (some k) = ix k := rfl

/-- following the level-`h` pointers from node `from` visits exactly the nodes carrying `ks`; the last one (or
`from` itself) points to `stop` -/
def Chain (nd : Array Nat) (ix : Bytes → Nat) (h stop : Nat) : Nat → List Bytes → Prop
  | frm, [] => nd[frm + nNext + h]? = some stop
  | frm, k :: ks => nd[frm + nNext + h]? = some (ix k) ∧ Chain nd ix h stop (ix k) ks

theorem Chain.head {nd : Array Nat} {ix : Bytes → Nat} {h frm : Nat} {l : List Bytes}
    (c : Chain nd ix h 0 frm l) : nd[frm + nNext + h]? = some (nix ix l.head?) := by
  cases l with
  | nil => exact c
  | cons k ks => exact c.1

theorem chain_append {nd : Array Nat} {ix : Bytes → Nat} {h stop : Nat} {k : Bytes} {b : List Bytes} :
    ∀ {a : List Bytes} {frm : Nat},
      Chain nd ix h stop frm (a ++ k :: b) ↔ Chain nd ix h (ix k) frm a ∧ Chain nd ix h stop (ix k) b := by
  intro a
  induction a with
  | nil => intro frm; simp [Chain]
  | cons x xs ih =>
    intro frm
    simp only [List.cons_append, Chain, ih, and_assoc]

theorem Chain.after {nd : Array Nat} {ix : Bytes → Nat} {h stop frm : Nat} {l : List Bytes} {x : Bytes}
    (c : Chain nd ix h stop frm l) (hx : x ∈ l) : Chain nd ix h stop (ix x) (MemDB.after l (some x)) := by
  obtain ⟨pre, post, rfl, hpre⟩ := List.eq_append_cons_of_mem hx
  rw [MemDB.after_append fun y hy (e : y = x) => hpre (e ▸ hy)]
  exact (chain_append.1 c).2

theorem Chain.frame {nd nd' : Array Nat} {ix ix' : Bytes → Nat} {h stop : Nat} :
    ∀ {l : List Bytes} {frm : Nat}, Chain nd ix h stop frm l → (∀ k ∈ l, ix' k = ix k) →
      (∀ z ∈ frm :: l.map ix, nd'[z + nNext + h]? = nd[z + nNext + h]?) → Chain nd' ix' h stop frm l := by
  intro l
  induction l with
  | nil => intro frm c _ hz; exact (hz frm (by simp)).trans c
  | cons y ys ih =>
    intro frm c hix hz
    have hy := hix y (by simp)
    refine ⟨by rw [hz frm (by simp), hy]; exact c.1, ?_⟩
    rw [hy]
    exact ih c.2 (fun k hk => hix k (by simp [hk])) (fun z hz' => hz z (List.mem_cons_of_mem _ hz'))

theorem Chain.redirect {nd nd' : Array Nat} {ix ix' : Bytes → Nat} {h stop stop' : Nat} :
    ∀ {l : List Bytes} {frm : Nat}, Chain nd ix h stop frm l →
      (∀ k ∈ l, ix' k = ix k) →
      nd'[(match l.getLast? with | none => frm | some k => ix k) + nNext + h]? = some stop' →
      (∀ z ∈ (frm :: l.map ix).dropLast, nd'[z + nNext + h]? = nd[z + nNext + h]?) →
      Chain nd' ix' h stop' frm l := by
  intro l frm c hix hl hfr
  rcases List.eq_nil_or_concat l with rfl | ⟨l', k, rfl⟩
  · exact hl
  · rw [List.concat_eq_append] at *
    have hk := hix k (by simp)
    rw [List.getLast?_concat] at hl
    rw [List.map_append, ← List.cons_append, List.map_singleton, List.dropLast_concat] at hfr
    rw [chain_append] at c ⊢
    exact ⟨hk ▸ c.1.frame (fun x hx => hix x (by simp [hx])) hfr, hk ▸ hl⟩

def lv (L : List (List Bytes)) (i : Nat) : List Bytes := L[i]?.getD []

theorem lv_lt {L : List (List Bytes)} {i : Nat} (hi : i < L.length) : lv L i = L[i] := by simp [lv, hi]
theorem lv_ge {L : List (List Bytes)} {i : Nat} (hi : L.length ≤ i) : lv L i = [] := by simp [lv, hi]

theorem mem_lv {L : List (List Bytes)} {i : Nat} {k : Bytes} (hk : k ∈ lv L i) :
    ∃ hi : i < L.length, k ∈ L[i] := by
  by_cases hi : i < L.length
  · exact ⟨hi, by rwa [lv_lt hi] at hk⟩
  · rw [lv_ge (by omega)] at hk; exact absurd hk (by simp)

/-- towers have no gaps -/
theorem mem_lv_height {L : List (List Bytes)} {k : Bytes} (hT : L.Pairwise (fun lo hi => ∀ x ∈ hi, x ∈ lo)) :
    ∀ i, k ∈ lv L i ↔ i < (L.takeWhile (·.contains k)).length := by
  induction L with
  | nil => intro i; simp [lv]
  | cons l ls ih =>
    intro i
    have hT' := List.pairwise_cons.1 hT
    by_cases hk : k ∈ l
    · cases i with
      | zero => simp [lv, hk]
      | succ i =>
        have := ih hT'.2 i
        simp only [lv, List.getElem?_cons_succ] at this ⊢
        simp [this, hk]
    · simp only [List.takeWhile_cons, List.contains_iff_mem, hk, if_false, List.length_nil, Nat.not_lt_zero,
        iff_false]
      intro hm
      obtain ⟨hi, hm'⟩ := mem_lv hm
      cases i with
      | zero => exact hk hm'
      | succ i => exact hk (hT'.1 _ (List.getElem_mem (by simpa using hi)) k hm')

theorem height_le_length (d : MemDB.DB) (k : Bytes) : d.height k ≤ d.levels.length := by
  unfold MemDB.DB.height
  exact (List.takeWhile_sublist _).length_le

/-- node `i` of the arrays carries key `k`, value `v` and a tower of `ht` pointers -/
structure NodeAt (a : DB) (i : Nat) (k v : Bytes) (ht : Nat) : Prop where
  lo : nNext + tMaxHeight ≤ i
  hi : i + nNext + ht ≤ a.nodeData.size
  off : ∃ o, a.nodeData[i]? = some o ∧ slice a.kvData o (o + k.length) = some k ∧
          slice a.kvData (o + k.length) (o + k.length + v.length) = some v
  klen : a.nodeData[i + nKey]? = some k.length
  vlen : a.nodeData[i + nVal]? = some v.length
  height : a.nodeData[i + nHeight]? = some ht

/-- `Rep cmp a d ix`: the arrays `a` represent the ideal skip list `d`, the live node carrying key `k` sits at index
`ix k`.
* the ideal list satisfies its invariant; `maxHeight`, `n`, `kvSize`, `len(kvData)` are the ideal counters;
* `chain`: every ideal level is the chain of keys reached by following the next pointers of that level from the head;
* `top`: the head's pointers above `maxHeight` are 0 (what `Put` relies on when it raises `maxHeight`);
* `node`: the fields of every live node (offset/lengths/height, the bytes at the offsets are key and value), all
  indices inside `nodeData` — no dangling index;
* `sep`: the index ranges of distinct live nodes are disjoint (and disjoint from the head's, by `NodeAt.lo`);
* `fuel`: `nodeData` is at least as long as the head plus all the live pointers (the fuel bound of the searches).
Nothing is said about `prevNode` beyond its length: it is scratch space. -/
structure Rep (cmp : Cmp) (a : DB) (d : MemDB.DB) (ix : Bytes → Nat) : Prop where
  inv : MemDB.Inv cmp d
  mh : a.maxHeight = d.levels.length
  n : a.n = d.n
  kvSize : a.kvSize = d.kvSize
  used : a.kvData.size = d.used
  pn : a.prevNode.length = tMaxHeight
  fuel : (d.levels.map List.length).sum + (nNext + tMaxHeight) ≤ a.nodeData.size
  top : ∀ h, d.levels.length ≤ h → h < tMaxHeight → a.nodeData[nNext + h]? = some 0
  chain : ∀ h (hh : h < d.levels.length), Chain a.nodeData ix h 0 0 d.levels[h]
  node : ∀ k ∈ d.level0, NodeAt a (ix k) k (d.value k) (d.height k)
  sep : ∀ k ∈ d.level0, ∀ k' ∈ d.level0, k ≠ k' →
    ix k + nNext + d.height k ≤ ix k' ∨ ix k' + nNext + d.height k' ≤ ix k

/-- what the search loops need: the chains, the keys of the nodes on them, and that towers have no gaps -/
structure Links (a : DB) (L : List (List Bytes)) (ix : Bytes → Nat) : Prop where
  chain : ∀ h (hh : h < L.length), Chain a.nodeData ix h 0 0 L[h]
  key : ∀ h (hh : h < L.length), ∀ k ∈ L[h], ix k ≠ 0 ∧ a.nodeKey (ix k) = some k
  down : ∀ h (hh : h + 1 < L.length), ∀ k ∈ L[h + 1], k ∈ L[h]

variable {cmp : Cmp}

theorem NodeAt.nodeKey {a : DB} {i : Nat} {k v : Bytes} {ht : Nat} (h : NodeAt a i k v ht) :
    a.nodeKey i = some k := by
  obtain ⟨o, h1, h2, _⟩ := h.off
  simp [DB.nodeKey, h1, h.klen, h2]

theorem NodeAt.nodeVal {a : DB} {i : Nat} {k v : Bytes} {ht : Nat} (h : NodeAt a i k v ht) :
    a.nodeVal i = some v := by
  obtain ⟨o, h1, _, h3⟩ := h.off
  simp [DB.nodeVal, h1, h.klen, h.vlen, h3]

theorem NodeAt.frame {a a' : DB} {i : Nat} {k v : Bytes} {ht : Nat} (h : NodeAt a i k v ht) (ext : Array UInt8)
    (hkv : a'.kvData = a.kvData ++ ext) (hsz : a.nodeData.size ≤ a'.nodeData.size)
    (hf : ∀ f, f < nNext → a'.nodeData[i + f]? = a.nodeData[i + f]?) : NodeAt a' i k v ht := by
  have e4 := nNext_eq; have e1 := nKey_eq; have e2 := nVal_eq; have e3 := nHeight_eq
  obtain ⟨o, o1, o2, o3⟩ := h.off
  refine ⟨h.lo, Nat.le_trans h.hi hsz, ⟨o, ?_, ?_, ?_⟩, ?_, ?_, ?_⟩
  · rw [← o1]; exact hf 0 (by omega)
  · rw [hkv]; exact slice_append _ o2
  · rw [hkv]; exact slice_append _ o3
  · rw [hf nKey (by omega)]; exact h.klen
  · rw [hf nVal (by omega)]; exact h.vlen
  · rw [hf nHeight (by omega)]; exact h.height

theorem lv_zero (d : MemDB.DB) : lv d.levels 0 = d.level0 := by
  unfold lv MemDB.DB.level0; cases d.levels <;> rfl

theorem Rep.lv_sub0 {a : DB} {d : MemDB.DB} {ix : Bytes → Nat} (r : Rep cmp a d ix) {i : Nat} {k : Bytes}
    (hk : k ∈ lv d.levels i) : k ∈ d.level0 := by
  obtain ⟨hl, hk'⟩ := mem_lv hk
  exact r.inv.level_sub0 _ (List.getElem_mem hl) k hk'

theorem Rep.ix_ne_zero {a : DB} {d : MemDB.DB} {ix : Bytes → Nat} (r : Rep cmp a d ix) {k : Bytes}
    (hk : k ∈ d.level0) : ix k ≠ 0 := by
  have := (r.node k hk).lo
  have := nNext_eq
  omega

theorem Rep.links {a : DB} {d : MemDB.DB} {ix : Bytes → Nat} (r : Rep cmp a d ix) : Links a d.levels ix where
  chain := r.chain
  key := fun h hh k hk =>
    have hk0 := r.lv_sub0 (lv_lt hh ▸ hk)
    ⟨r.ix_ne_zero hk0, (r.node k hk0).nodeKey⟩
  down := by
    intro h hh k hk
    exact (List.pairwise_iff_getElem.1 r.inv.towersSub) h (h + 1) (by omega) hh (by omega) k hk

section
open GoLevel.MemDB (Op Ans)

theorem putOverwrite_kv {p p' : DB} {node : Nat} {key value : Bytes} (h : putOverwrite p node key value = some p') :
    p'.kvData = p.kvData ++ key.toArray ++ value.toArray := by
  unfold putOverwrite at h
  simp only [Option.bind_eq_bind, Option.bind_eq_some_iff] at h
  obtain ⟨_, _, _, _, _, _, e⟩ := h
  rw [← Option.some.inj e]

theorem putInsert_kv {p p' : DB} {key value : Bytes} {h : Nat} (e : putInsert p key value h = some p') :
    p'.kvData = p.kvData ++ key.toArray ++ value.toArray := by
  unfold putInsert at e
  split at e
  all_goals
    simp only [Option.bind_eq_bind, Option.bind_eq_some_iff] at e
    obtain ⟨x, _, e⟩ := e
    split at e
    · exact absurd e (by simp)
    · simp only [Option.bind_eq_some_iff] at e
      obtain ⟨_, _, e⟩ := e
      rw [← Option.some.inj e]

theorem put_kv {p p' : DB} {key value : Bytes} {h : Nat} (e : put cmp p key value h = some p') :
    p'.kvData = p.kvData ++ key.toArray ++ value.toArray := by
  unfold put at e
  simp only [Option.bind_eq_bind, Option.bind_eq_some_iff] at e
  obtain ⟨x, _, e⟩ := e
  split at e
  · have := putOverwrite_kv e; exact this
  · have := putInsert_kv e; exact this

theorem delete_kv {p p' : DB} {key : Bytes} {b : Bool} (e : delete cmp p key = some (p', b)) :
    p'.kvData = p.kvData := by
  unfold delete at e
  simp only [Option.bind_eq_bind, Option.bind_eq_some_iff] at e
  obtain ⟨x, _, e⟩ := e
  split at e
  · have := Option.some.inj e
    rw [← (Prod.mk.inj this).1]
  · simp only [Option.bind_eq_some_iff] at e
    obtain ⟨_, _, e⟩ := e
    split at e
    · exact absurd e (by simp)
    · simp only [Option.bind_eq_some_iff] at e
      obtain ⟨_, _, _, _, _, _, e⟩ := e
      have := Option.some.inj e
      rw [← (Prod.mk.inj this).1]

theorem step_kvData_grows {p p' : DB} {op : Op} {ans : Ans} (hop : op ≠ .reset) (e : step cmp p op = some (p', ans)) :
    ∃ ext : Array UInt8, p'.kvData = p.kvData ++ ext := by
  -- the five reads return the table they were given
  have hread : ∀ {α : Type} {x : Option α} {f : α → Ans}, x.map (fun r => (p, f r)) = some (p', ans) →
      ∃ ext : Array UInt8, p'.kvData = p.kvData ++ ext := by
    intro α x f e
    obtain ⟨_, _, he⟩ := Option.map_eq_some_iff.1 e
    rw [← (Prod.mk.inj he).1]; exact ⟨#[], by simp⟩
  cases op with
  | put k v h =>
    simp only [step, Option.map_eq_some_iff] at e
    obtain ⟨q, e, he⟩ := e
    have := (Prod.mk.inj he).1; subst this
    exact ⟨k.toArray ++ v.toArray, by rw [put_kv e, Array.append_assoc]⟩
  | delete k =>
    simp only [step, Option.map_eq_some_iff] at e
    obtain ⟨q, e, he⟩ := e
    have := (Prod.mk.inj he).1; subst this
    exact ⟨#[], by rw [delete_kv (b := q.2) (by exact e)]; simp⟩
  | reset => exact absurd rfl hop
  | get k => exact hread e
  | find k => exact hread e
  | contains k => exact hread e
  | len => exact hread (x := some ()) (f := fun _ => .num p.n) e
  | size => exact hread (x := some ()) (f := fun _ => .num p.kvSize) e

end

end GoLevel.MemArr

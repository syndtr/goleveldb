import GoLevel.Proofs.MemDBIterOps
/-! `dbIter` simulates the specification cursor over the range-filtered sorted pairs (C14). -/
namespace GoLevel.MemDB

variable {cmp : Cmp}

/-- iterator state (`node`, `forward`) against a cursor position over the slice keys `S` -/
def RelPos (S : List Bytes) (nd : Node) (fw : Bool) : Pos → Prop
  | .soi => nd = none ∧ fw = false
  | .eoi => nd = none ∧ fw = true
  | .at i => ∃ k S1 S2, nd = some k ∧ S = S1 ++ k :: S2 ∧ i = S1.length

theorem slice_abs (db : DB) (st lm : Option Bytes) :
    SMap.slice cmp st lm db.abs = (db.sliceKeys cmp st lm).map db.pair := by
  unfold SMap.slice DB.sliceKeys
  rw [abs_eq, List.filter_map]
  congr 1
  apply List.filter_congr
  intro x _
  cases st <;> cases lm <;> simp [inR, ps, pl, bne]

theorem rel_first (S : List Bytes) (f : Bytes → Bytes × Bytes) :
    RelPos S S.head? true (Cursor.first (S.map f)) := by
  cases S with
  | nil => simp [Cursor.first, RelPos]
  | cons y ys => exact ⟨y, [], ys, rfl, rfl, rfl⟩

theorem rel_last (S : List Bytes) (f : Bytes → Bytes × Bytes) :
    RelPos S S.getLast? false (Cursor.last (S.map f)) := by
  cases hl : S.getLast? with
  | none =>
    have : S = [] := List.getLast?_eq_none_iff.1 hl
    subst this; simp [Cursor.last, RelPos]
  | some z =>
    obtain ⟨S1, rfl⟩ := List.getLast?_eq_some_iff.1 hl
    have : Cursor.last ((S1 ++ [z]).map f) = .at S1.length := by simp [Cursor.last]
    rw [this]
    exact ⟨z, S1, [], rfl, rfl, rfl⟩

theorem rel_seek (S : List Bytes) (db : DB) (key : Bytes) :
    RelPos S (S.find? (fun x => !below cmp key x)) true (Cursor.seek (S.map db.pair) (SMap.ge cmp key)) := by
  unfold Cursor.seek
  -- on the keys the cursor's test is the iterator's
  rw [List.findIdx?_map, show SMap.ge cmp key ∘ db.pair = fun x => !below cmp key x from rfl]
  cases hf : S.find? (fun x => !below cmp key x) with
  | none => rw [List.findIdx?_eq_none_iff.2 (by simpa using hf)]; exact ⟨rfl, rfl⟩
  | some y =>
    obtain ⟨hy, S1, S2, rfl, h1⟩ := List.find?_eq_some_iff_append.1 hf
    rw [List.findIdx?_append, List.findIdx?_eq_none_iff.2 (by simpa using h1), List.findIdx?_cons, hy]
    exact ⟨y, S1, S2, rfl, rfl, Nat.zero_add _⟩

theorem out_rel {S : List Bytes} {nd : Node} {fw : Bool} {p : Pos} (db : DB) (st lm : Option Bytes)
    (h : RelPos S nd fw p) : (Iter.mk st lm nd fw).out db = Cursor.get (S.map db.pair) p := by
  cases p with
  | soi => simp [RelPos] at h; simp [Iter.out, Cursor.get, h.1]
  | eoi => simp [RelPos] at h; simp [Iter.out, Cursor.get, h.1]
  | «at» i =>
    obtain ⟨k, S1, S2, rfl, rfl, rfl⟩ := h
    simp [Iter.out, Cursor.get, DB.pair]

section
variable (hc : LawfulCmp cmp)
include hc

theorem step_rel {db : DB} (h : Inv cmp db) (st lm : Option Bytes) (c : Call Bytes) (nd : Node) (fw : Bool)
    (p : Pos) (hrel : RelPos (db.sliceKeys cmp st lm) nd fw p) :
    ∃ nd' fw', Iter.step cmp db c (Iter.mk st lm nd fw) = Iter.mk st lm nd' fw' ∧
      RelPos (db.sliceKeys cmp st lm) nd' fw'
        (Cursor.step ((db.sliceKeys cmp st lm).map db.pair) (SMap.ge cmp) c p) := by
  cases c with
  | first => exact ⟨_, _, iter_first hc h st lm nd fw, rel_first _ _⟩
  | last => exact ⟨_, _, iter_last hc h st lm nd fw, rel_last _ _⟩
  | seek key => exact ⟨_, _, iter_seek hc h st lm nd fw key, rel_seek _ _ _⟩
  | next =>
    cases p with
    | soi =>
      obtain ⟨rfl, rfl⟩ := hrel
      refine ⟨_, _, ?_, rel_first _ _⟩
      simp only [Iter.step, Iter.next]
      exact iter_first hc h st lm none false
    | eoi =>
      obtain ⟨rfl, rfl⟩ := hrel
      exact ⟨none, true, by simp [Iter.step, Iter.next], ⟨rfl, rfl⟩⟩
    | «at» i =>
      obtain ⟨k, S1, S2, rfl, hS, rfl⟩ := hrel
      refine ⟨_, _, iter_next_at hc h st lm fw hS, ?_⟩
      simp only [Cursor.step, Cursor.next, List.length_map, hS, List.length_append, List.length_cons]
      cases S2 with
      | nil => simp [RelPos]
      | cons y ys =>
        have : S1.length + 1 < S1.length + ((y :: ys).length + 1) := by simp
        simp only [this, if_true]
        exact ⟨y, S1 ++ [k], ys, rfl, by simp, by simp⟩
  | prev =>
    cases p with
    | eoi =>
      obtain ⟨rfl, rfl⟩ := hrel
      refine ⟨_, _, ?_, rel_last _ _⟩
      simp only [Iter.step, Iter.prev]
      exact iter_last hc h st lm none true
    | soi =>
      obtain ⟨rfl, rfl⟩ := hrel
      exact ⟨none, false, by simp [Iter.step, Iter.prev], ⟨rfl, rfl⟩⟩
    | «at» i =>
      obtain ⟨k, S1, S2, rfl, hS, rfl⟩ := hrel
      refine ⟨_, _, iter_prev_at hc h st lm fw hS, ?_⟩
      simp only [Cursor.step, Cursor.prev]
      cases hl : S1.getLast? with
      | none =>
        have : S1 = [] := List.getLast?_eq_none_iff.1 hl
        subst this; simp [RelPos]
      | some z =>
        obtain ⟨S0, rfl⟩ := List.getLast?_eq_some_iff.1 hl
        have : (S0 ++ [z]).length ≠ 0 := by simp
        simp only [this, if_false]
        exact ⟨z, S0, k :: S2, rfl, by simp [hS], by simp⟩

theorem run_rel {db : DB} (h : Inv cmp db) (st lm : Option Bytes) : ∀ (cs : List (Call Bytes)) (nd : Node)
    (fw : Bool) (p : Pos), RelPos (db.sliceKeys cmp st lm) nd fw p →
    Iter.run cmp db (Iter.mk st lm nd fw) cs =
      Cursor.run ((db.sliceKeys cmp st lm).map db.pair) (SMap.ge cmp) p cs := by
  intro cs
  induction cs with
  | nil => intro _ _ _ _; rfl
  | cons c cs ih =>
    intro nd fw p hrel
    obtain ⟨nd', fw', hstep, hrel'⟩ := step_rel hc h st lm c nd fw p hrel
    simp only [Iter.run, Cursor.run, hstep]
    rw [out_rel db st lm hrel', ih nd' fw' _ hrel']

/-- an iterator that is not positioned is the cursor before the start or, after a forward move, past the end -/
theorem iter_run_eq_cursor {db : DB} (h : Inv cmp db) (st lm : Option Bytes) (fw : Bool) (cs : List (Call Bytes)) :
    Iter.run cmp db (Iter.mk st lm none fw) cs =
      Cursor.run (SMap.slice cmp st lm db.abs) (SMap.ge cmp) (if fw then .eoi else .soi) cs := by
  rw [slice_abs]
  cases fw with
  | false => exact run_rel hc h st lm cs none false .soi ⟨rfl, rfl⟩
  | true => exact run_rel hc h st lm cs none true .eoi ⟨rfl, rfl⟩

end

end GoLevel.MemDB

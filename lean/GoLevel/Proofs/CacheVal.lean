import GoLevel.Proofs.CacheCharge
import GoLevel.Proofs.CacheNode
/-! Whoever holds a handle sees a value (`vl`). -/
namespace GoLevel.CacheM

/-- Somebody relies on the value of node `id`: a caller's handle, the LRU list, or a thread about to hand out /
release a handle. -/
def HoldsId (sh : Shared) (P : List Instr) (id : Nat) : Prop :=
  id ∈ sh.handles ∨ id ∈ sh.lru.recent ∨ ∃ j ∈ P, holdsVal id j = true

theorem holdsVal_owns {id : Nat} {j : Instr} (h : holdsVal id j = true) : owns id j = true := by
  cases j <;> simp_all [holdsVal, owns]

/-- Whoever relies on the value holds a reference. -/
theorem HoldsId.refs {sh P id} (h : HoldsId sh P id) : 0 < refsP sh P id := by
  unfold refsP
  rcases h with h | h | ⟨j, hj, hv⟩
  · have := List.count_pos_iff.mpr h; omega
  · have := List.count_pos_iff.mpr h; omega
  · have : 0 < P.countP (owns id) := List.countP_pos_iff.mpr ⟨j, hj, holdsVal_owns hv⟩
    omega

/-- Clause `vl` as it is used: whoever relies on the value of a node finds the node, and it has a value. -/
theorem InvP.holds_val {g sh P} (h : InvP g sh P) (hg : Eff g sh = true ∨ sh.closed = false)
    (hf : sh.forced = false) {id : Nat} (hb : HoldsId sh P id) :
    ∃ n ∈ sh.nodes, n.id = id ∧ n.value.isSome = true := by
  obtain ⟨n, hn, e⟩ := h.ex _ hb.refs
  exact ⟨n, hn, e, h.vl hg hf n hn ((e ▸ hb).imp (fun h => h) (Or.imp (inList_of_recent h hn) fun h => h))⟩

theorem vl_step {g sh Q sh' i push evs} (h : InvP g sh (i :: Q))
    (he : exec sh i = some (sh', push, evs)) :
    (Eff g sh' = true ∨ sh'.closed = false) → sh'.forced = false → ∀ n ∈ sh'.nodes,
      (n.id ∈ sh'.handles ∨ n.lru = .inList ∨ ∃ j ∈ push ++ Q, holdsVal n.id j = true) → n.value.isSome = true := by
  intro hg hf n' hn' hold
  -- the flags before the step: `Close` starts from an open cache, everything else leaves them alone
  obtain ⟨hg0, hf0⟩ : (Eff g sh = true ∨ sh.closed = false) ∧ sh.forced = false := by
    rcases exec_closed he with ⟨hc, hfo⟩ | ⟨f, _, _, hc, _⟩
    · refine ⟨?_, hfo ▸ hf⟩
      unfold Eff at hg ⊢
      rwa [(exec_ghost he).2.1, hc] at hg
    · exact ⟨.inr hc, (h.op hc).2⟩
  -- whoever relies on the value after the step did so before, or the step is the `setv` that saw or made it
  have back : HoldsId sh (i :: Q) n'.id ∨ ∃ m ∈ sh'.nodes, m.id = n'.id ∧ m.value.isSome = true := by
    have self : holdsVal n'.id i = true → HoldsId sh (i :: Q) n'.id :=
      fun hv => .inr (.inr ⟨i, List.mem_cons_self, hv⟩)
    have listed : ∀ n ∈ sh.nodes, n.id = n'.id → n.lru = .inList → HoldsId sh (i :: Q) n'.id :=
      fun n hn e hl => .inr (.inl ((h.lr.2 _).mpr ⟨n, hn, e, hl⟩))
    rcases hold with h1 | h1 | ⟨j, hj, hv⟩
    · rcases exec_handles he h1 with h2 | rfl
      · exact .inl (.inl h2)
      · exact .inl (self (by simp [holdsVal]))
    · obtain ⟨n, hn, e⟩ := (exec_node_from he hn').resolve_right fun ⟨_, _, h2⟩ => by rw [h2] at h1; cases h1
      rcases (node_step h he hn hn' e.symm).inList h1 with hl | rfl
      · exact .inl (listed n hn e hl)
      · exact .inl (self (by simp [holdsVal, e]))
    · rcases List.mem_append.mp hj with hj | hj
      · rcases (exec_pushes he j hj).holdsVal hv with h2 | h2 | h2 | ⟨n, hfn, hl⟩ | h2
        · exact .inl (self h2)
        · exact .inl (.inl h2)
        · exact .inl (.inr (.inl h2))
        · exact .inl (.inr (.inl (h.recent_of_found hfn hl)))
        · exact .inr h2
      · exact .inl (.inr (.inr ⟨j, List.mem_cons_of_mem _ hj, hv⟩))
  rcases back with hb | ⟨m, hm, e, hv⟩
  · -- held before: the node was in the table with a value, and a step that takes the value away is a
    -- finaliser, which runs only when nothing references the node
    obtain ⟨n, hn, e, hval⟩ := h.holds_val hg0 hf0 hb
    obtain ⟨v, hv⟩ := Option.isSome_iff_exists.mp hval
    rcases (node_step h he hn hn' e.symm).value hv with h1 | ⟨_, f, hev⟩
    · rw [h1]; rfl
    · have := fin_refs_zero h he hf0 hg0 (id := n.id) hev (by simp [isFinOf])
      have := e ▸ hb.refs; omega
  · rw [same_of_id (ids_step h he).1 hn' hm e.symm]; exact hv

end GoLevel.CacheM

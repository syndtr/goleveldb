import GoLevel.Proofs.RefLoopFEnv
/-! The invariant tying the loop's variables to the full history, and the removal history over it: every table is
removed at most once, and exactly the accounted tables whose counter is zero have been removed (C07).  Claimed until
`session.close`. -/
namespace GoLevel.RefLoop

structure InvF (S : State) (G : EnvF) : Prop where
  wf : G.WF
  nx : S.next ≤ G.N
  ab : S.abandoned.Nodup ∧ ∀ k, k ∈ S.abandoned ↔ S.next ≤ k ∧ k < G.N ∧ ¬ G.inst k
  ref : ∀ k, S.ref.lookup k = if S.next ≤ k ∧ G.inst k ∧ k ∉ G.rel then some (G.T k) else none
  rld : ∀ k, S.released.lookup k = if S.next ≤ k ∧ k ∈ G.rel then
      some (if k < G.dn then some (G.din (G.up (k + 1))) else none) else none
  dl : ∀ k, S.deltas.lookup k = if S.next ≤ k ∧ k < G.dn ∧ G.inst k ∧ k ∉ G.rel then
      some (G.din (G.up (k + 1))) else none
  rfd : S.referenced.Nodup ∧ ∀ k, k ∈ S.referenced ↔ k < S.next ∧ G.inst k ∧ k ∉ G.rel
  cnt : ∀ f, S.fileRef.count f =
    ind (f ∈ G.L (G.cb S.next)) + (S.referenced.filter (fun k => decide (f ∈ G.T k))).length

/-- Table `f` has been accounted for: a version already passed by `next` has it, or the base view has it. -/
def AccF (S : State) (G : EnvF) (f : Nat) : Prop := (∃ k, k < S.next ∧ f ∈ G.T k) ∨ f ∈ G.L (G.cb S.next)

def HistF (S : State) (G : EnvF) (R : List Nat) : Prop :=
  ∀ f, ((AccF S G f ∧ S.fileRef.count f = 0) → R.count f = 1) ∧
       (¬ (AccF S G f ∧ S.fileRef.count f = 0) → R.count f = 0)

theorem EnvF.mem_T_inst {G : EnvF} {k f : Nat} (h : f ∈ G.T k) : G.inst k := by
  by_cases hi : G.inst k
  · exact hi
  · rw [EnvF.T_not_inst hi] at h; cases h

theorem count_pos_accF {S : State} {G : EnvF} (hI : InvF S G) {f : Nat} (h : 0 < S.fileRef.count f) : AccF S G f := by
  rw [hI.cnt f] at h
  by_cases hb : f ∈ G.L (G.cb S.next)
  · exact Or.inr hb
  · rw [ind_neg hb, Nat.zero_add] at h
    obtain ⟨k, hk⟩ := List.exists_mem_of_length_pos h
    obtain ⟨hk1, hk2⟩ := List.mem_filter.mp hk
    exact Or.inl ⟨k, ((hI.rfd.2 k).mp hk1).1, by simpa using hk2⟩

theorem count_zero_iffF {S : State} {G : EnvF} (hI : InvF S G) (f : Nat) :
    S.fileRef.count f = 0 ↔ f ∉ G.L (G.cb S.next) ∧ ∀ k ∈ S.referenced, f ∉ G.T k := by
  rw [hI.cnt f]
  constructor
  · intro h
    have h1 : f ∉ G.L (G.cb S.next) := by intro hm; rw [ind_pos hm] at h; omega
    refine ⟨h1, fun k hk hf => ?_⟩
    have : k ∈ S.referenced.filter (fun k => decide (f ∈ G.T k)) := List.mem_filter.mpr ⟨hk, by simpa using hf⟩
    have := List.length_pos_of_mem this
    omega
  · rintro ⟨h1, h2⟩
    have : S.referenced.filter (fun k => decide (f ∈ G.T k)) = [] := by
      rw [List.filter_eq_nil_iff]; intro k hk; simpa using h2 k hk
    rw [ind_neg h1, this]; rfl

theorem GL.gone_from {G : EnvF} {nx : Nat} (h : GL G nx) {j c f : Nat} (hjc : j < c) (hc : G.inst c)
    (hal : G.alive nx j) (hfj : f ∈ G.T j) (hfc : f ∉ G.L c) : ∀ l, c ≤ l → f ∉ G.T l := by
  have h1 := h.left f j c hjc hc hal hfj hfc
  intro l hl
  by_cases hlc : l = c
  · subst hlc; exact h1
  · exact h.gone f j c l hjc (by omega) hc hal hfj h1

/-- An accounted table whose counter is zero belongs to no version from the base on: it is gone for good. -/
theorem gone_for_goodF {S : State} {G : EnvF} (hI : InvF S G) (hnr : NoReuse G) (hc : G.closing = false) {f : Nat} (ha : AccF S G f)
    (h0 : S.fileRef.count f = 0) : ∀ l, G.cb S.next ≤ l → f ∉ G.T l := by
  obtain ⟨hb, href⟩ := (count_zero_iffF hI f).mp h0
  rcases ha with ⟨k, hk, hfk⟩ | ha
  · have hik := EnvF.mem_T_inst hfk
    have hN : 0 < G.N := by have := EnvF.inst_lt hik; omega
    have hkr : k ∈ G.rel := by
      apply Classical.byContradiction; intro hkr
      exact href k ((hI.rfd.2 k).mpr ⟨hk, hik, hkr⟩) hfk
    have hkd := hI.wf.rel_lt hc hkr
    exact (hnr.gl 0).gone_from (G.lt_cb hkd hk) (hI.wf.cb_inst hN _) (Or.inr (cb_le_liveF G (Nat.zero_le _) hik)) hfk hb
  · exact absurd ha hb

theorem EnvF.T_congr {G G' : EnvF} (h : G'.vs = G.vs) (k : Nat) : G'.T k = G.T k := by
  unfold EnvF.T EnvF.slot; rw [h]
theorem EnvF.L_congr {G G' : EnvF} (h : G'.vs = G.vs) (k : Nat) : G'.L k = G.L k := by
  unfold EnvF.L EnvF.slot; rw [h]
theorem EnvF.inst_congr {G G' : EnvF} (h : G'.vs = G.vs) (k : Nat) : G'.inst k ↔ G.inst k := by
  unfold EnvF.inst EnvF.slot; rw [h]

/-- the removal history, claimed until `session.close` and while no file number was used twice -/
def HistC (S : State) (G : EnvF) (R : List Nat) : Prop := G.closing = false → NoReuse G → HistF S G R

/-- One primitive transition of the loop: the environment gains releases or moves `dn` up (never an id), `next`
moves only while the environment stands still: the history stays exact. -/
theorem hist_stepF {S S' : State} {G : EnvF} {dn' : Nat} {rel' R rm : List Nat} (hI : InvF S G)
    (hI' : InvF S' { G with dn := dn', rel := rel' }) (hH : HistC S G R)
    (hnx : S'.next = S.next ∨ S'.next = S.next + 1 ∧ rel' = G.rel ∧ dn' = G.dn ∧ (S.next ∈ G.rel → S.next < G.dn))
    (hdn : G.dn ≤ dn') (hrel : ∀ k, k ∈ G.rel → k ∈ rel')
    (hrm : Drops S.fileRef S'.fileRef rm) : HistC S' { G with dn := dn', rel := rel' } (R ++ rm) := by
  intro hc hnr'
  have hle : S.next ≤ S'.next := by rcases hnx with h | h <;> omega
  have hnr : NoReuse G := ⟨hnr'.gone, hnr'.left⟩
  have hH := hH hc hnr
  -- the slots are those of `G`, so `T`, `L`, `inst`, `up` are; the base of the counters is now `G.up (min dn' S'.next)`
  have hcb : G.cb S.next ≤ G.up (min dn' S'.next) := G.up_mono (by omega)
  have hacc : ∀ f, AccF S G f → AccF S' { G with dn := dn', rel := rel' } f := by
    rintro f (⟨k, hk, hfk⟩ | hb)
    · exact Or.inl ⟨k, by omega, hfk⟩
    · by_cases hlt : G.cb S.next < S'.next
      · exact Or.inl ⟨_, hlt, hI.wf.sub _ f hb⟩
      · right
        have : G.up (min dn' S'.next) = G.cb S.next :=
          EnvF.up_eq_of_between (by omega) (by unfold EnvF.cb at hlt; omega)
        show f ∈ G.L (G.up (min dn' S'.next))
        rw [this]; exact hb
  refine exact_history_step hH hacc (fun f => count_pos_accF hI)
    (fun f ha h0 => ?_) (fun f hna hc0 => ?_) hrm
  · -- already removed: stays removed
    have hg := gone_for_goodF hI hnr hc ha h0
    rw [count_zero_iffF hI']
    refine ⟨fun hm => hg _ hcb (hI'.wf.sub _ f hm), fun k hk => ?_⟩
    have hk' := (hI'.rfd.2 k).mp hk
    have hik : G.inst k := hk'.2.1
    by_cases hko : k ∈ S.referenced
    · exact ((count_zero_iffF hI f).mp h0).2 k hko
    · have hkr : k ∉ G.rel := fun h => hk'.2.2 (hrel k h)
      have : ¬ k < S.next := fun h => hko ((hI.rfd.2 k).mpr ⟨h, hik, hkr⟩)
      exact hg k (cb_le_liveF G (by omega) hik)
  · -- not accounted before, accounted now with counter zero: impossible
    rintro ⟨ha', h0'⟩
    obtain ⟨hb', href'⟩ := (count_zero_iffF hI' f).mp h0'
    rcases ha' with ⟨k, hk, hfk⟩ | hb
    · by_cases hko : k < S.next
      · exact hna (Or.inl ⟨k, hko, hfk⟩)
      · rcases hnx with h | ⟨hn1, hr, hd, hrd⟩
        · omega
        have hkeq : k = S.next := by omega
        subst hkeq hr hd
        have hik : G.inst S.next := EnvF.mem_T_inst hfk
        by_cases hkr : S.next ∈ G.rel
        · -- released and passed by the release loop: its delta was applied
          have hknd := hrd hkr
          obtain ⟨hcbk, hcbk'⟩ := cb_pass_instF hik hknd
          refine hb' ?_
          rw [hn1]
          show f ∈ G.L (G.cb (S.next + 1))
          rw [hcbk']
          exact hI.wf.keep S.next hknd hik f hfk fun h => hna (Or.inr (by rw [hcbk]; exact h))
        · exact href' S.next ((hI'.rfd.2 _).mpr ⟨hk, hik, hkr⟩) hfk
    · exact hb' hb

theorem hist_stepF_nil {S S' : State} {G : EnvF} {dn' : Nat} {rel' R : List Nat} (hI : InvF S G)
    (hI' : InvF S' { G with dn := dn', rel := rel' }) (hH : HistC S G R)
    (hnx : S'.next = S.next ∨ S'.next = S.next + 1 ∧ rel' = G.rel ∧ dn' = G.dn ∧ (S.next ∈ G.rel → S.next < G.dn))
    (hdn : G.dn ≤ dn') (hrel : ∀ k, k ∈ G.rel → k ∈ rel')
    (hcnt : ∀ f, 1 ≤ S.fileRef.count f → S'.fileRef.count f ≠ 0) : HistC S' { G with dn := dn', rel := rel' } R := by
  have := hist_stepF hI hI' hH hnx hdn hrel ⟨List.nodup_nil, fun f => by
    simp only [List.not_mem_nil, false_iff, not_and]; exact hcnt f⟩
  simpa using this

theorem EnvF.init_not_inst (k : Nat) : ¬ EnvF.init.inst k := fun hi => by
  have := EnvF.inst_lt hi; simp [EnvF.init, EnvF.N] at this

/-- The loop and the history before the first message (the base case of the basic environment too: the empty basic
history embeds as the empty full one). -/
theorem invF_init : InvF State.init EnvF.init := by
  have hT : ∀ k, EnvF.init.T k = [] := fun k => EnvF.T_not_inst (EnvF.init_not_inst k)
  have hL : ∀ k, EnvF.init.L k = [] := fun k => EnvF.L_not_inst (EnvF.init_not_inst k)
  refine ⟨⟨?_, ?_, ?_, ?_, Or.inl ⟨rfl, rfl⟩, ?_, ?_, ?_, ?_⟩, Nat.le_refl _, ⟨List.nodup_nil, ?_⟩, ?_, ?_, ?_,
    ⟨List.nodup_nil, ?_⟩, ?_⟩
  · intro k; rw [hT]; exact List.nodup_nil
  · intro k; rw [hL]; exact List.nodup_nil
  · intro k f hf; rw [hL] at hf; cases hf
  · intro h; simp [EnvF.init, EnvF.N] at h
  · intro b hb; simp [EnvF.init] at hb
  · intro k hk; simp [EnvF.init] at hk
  · intro b hb; simp [EnvF.init] at hb
  · intro h; simp [EnvF.init] at h
  · intro k; simp [State.init, EnvF.init, EnvF.N]
  · intro k; simp [State.init, EnvF.init_not_inst k]
  · intro k; simp [State.init, EnvF.init]
  · intro k; simp [State.init, EnvF.init]
  · intro k; simp [State.init]
  · intro f; rw [hL]; simp [State.init, ind]

theorem hist_initF : HistF State.init EnvF.init [] := by
  intro f
  refine ⟨fun h => ?_, fun _ => rfl⟩
  obtain ⟨⟨k, hk, _⟩ | h, _⟩ := h
  · simp [State.init] at hk
  · rw [EnvF.L_not_inst (EnvF.init_not_inst _)] at h; cases h

end GoLevel.RefLoop

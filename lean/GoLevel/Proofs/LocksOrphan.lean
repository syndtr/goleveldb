import GoLevel.Proofs.LocksInv
/-! Orphaned resources stay orphaned: the invariants behind the leak witnesses of C09 (any configuration). -/
namespace GoLevel.Locks
open CompErr
variable {cfg : Cfg} {n n' : Cnt} {s s' : St}

/-- the token is in `writeLockC` and nobody will ever take it out: no thread, no transaction and not `Close` holds
it (no `Close` is in `db.closeW.Wait()`: every thread inside `Close` is still before the lock), and `compactionError`
either does not claim it (then neither blind take-back of `compWriteLocking` can run) or has exited without releasing
the one `SetReadOnly` took for it -/
def Cnt.TokOrphan (n : Cnt) (s : St) : Prop :=
  s.tok = true ∧ n.tok = 0 ∧ s.trOpen = false ∧ s.closeTok = false ∧ n.cl ≤ n.pre ∧ n.sr = 0 ∧
  ((s.ehTok = false ∧ s.cwl = false ∧ s.eh ≠ .closing) ∨ (s.ehTok = true ∧ s.eh = .exited))

def TokOrphan (s : St) : Prop := (totC s.ws).TokOrphan s.sc

theorem no_clWait {ws : List Pc} (h : tot clAllW ws ≤ tot clPreW ws) {i : Nat} (hi : ws[i]? = some .clWait) : False := by
  have := clPre_le_clAll (ws.eraseIdx i)
  rw [tot_eraseIdx clAllW hi, tot_eraseIdx clPreW hi] at h
  exact absurd (Nat.le_trans h this) (Nat.not_succ_le_self _)

/-- an internal transaction of `DB.Write` is open, owns the token, and nobody has its handle; this lasts
until `Close` -/
def Cnt.TxOrphan (n : Cnt) (s : St) : Prop :=
  s.closed = true ∨
  (s.tok = true ∧ n.tok = 0 ∧ s.trOpen = true ∧ s.trUser = false ∧ n.tx = 0 ∧ s.eh ≠ .closing ∧ n.sr = 0)

def TxOrphan (s : St) : Prop := (totC s.ws).TxOrphan s.sc

/-- `compCommitLk` is locked and nobody will unlock it; `mCompaction` is blocked in `compCommitLk.Lock()` -/
def Cnt.ClkOrphan (n : Cnt) (s : St) : Prop :=
  s.clk = true ∧ n.clk = 0 ∧ bgClk s.tc = 0 ∧ ∃ w, s.mc = .run w .lockClk

def ClkOrphan (s : St) : Prop := (totC s.ws).ClkOrphan s.sc

/-- `mCompaction` is blocked in `compCommitLk.Lock()`: a step of a goroutine `b` at another phase is `tCompaction`'s, which
does not hold `compCommitLk` -/
theorem tc_of_lockClk {s : St} {w0 : Option Nat} (h4 : s.mc = .run w0 .lockClk) (h3 : bgClk s.tc = 0) {b : Bool} {v : Bg}
    (hb : s.bg b = v) (hv : ∀ w, v ≠ .run w .lockClk := by exact fun _ => nofun) : b = true ∧ bgClk v = 0 := by
  cases b
  · rw [St.bg, if_neg Bool.false_ne_true, h4] at hb; exact absurd hb.symm (hv _)
  · exact ⟨rfl, hb ▸ h3⟩

namespace Tr

theorem tokOrphan (h : Tr cfg s n n' s') (inv : n.TokOrphan s) :
    n'.TokOrphan s' := by
  obtain ⟨h1, h2, h3, h4, h5, h6, h7⟩ := inv
  cases h with
  | takeTok ht | takeTokSR ht | clAcq ht | ehAcquire _ ht => rw [h1] at ht; cases ht
  | relTok | otxFail | openTx => cases h2
  | srSend | srGiveBack | srGiveUp => cases h6
  | endTx _ _ ho => rw [h3] at ho; cases ho
  | clKept he | ehTake he =>
    rcases h7 with ⟨_, _, hn⟩ | ⟨_, hx⟩
    · exact absurd he hn
    · rw [hx] at he; cases he
  | ehClose he =>
    rcases h7 with ⟨a, b, _⟩ | ⟨_, hx⟩
    · refine ⟨h1, h2, h3, h4, h5, h6, .inl ⟨a, b, ?_⟩⟩
      show onClose cfg.m s.eh s.cwl ≠ .closing
      rw [b, onClose_false]; intro e; cases e
    · rw [hx] at he; cases he
  | bgSetErr _ _ _ _ _ he | bgSetErrCorrupt _ _ _ _ he =>
    rcases h7 with ⟨a, b', hn⟩ | ⟨_, hx⟩
    · exact ⟨h1, h2, h3, h4, h5, h6, .inl ⟨a, b', next_ne_closing _ _ _ hn⟩⟩
    · rw [hx] at he; cases he
  | exitClose => exact ⟨h1, h2, h3, h4, Nat.le_of_succ_le h5, h6, h7⟩
  | setClosed => exact ⟨h1, h2, h3, h4, Nat.succ_le_succ h5, h6, h7⟩
  | _ => exact ⟨h1, h2, h3, h4, h5, h6, h7⟩

theorem txOrphan (h : Tr cfg s n n' s') (inv : n.TxOrphan s) :
    n'.TxOrphan s' := by
  rcases inv with hc | ⟨h1, h2, h3, h4, h5, h6, h7⟩
  · exact .inl (h.flags.1 hc)
  cases h with
  | setClosed => exact .inl rfl
  | ehClose _ hc => exact .inl hc
  | takeTok ht | takeTokSR ht | clAcq ht | ehAcquire _ ht => rw [h1] at ht; cases ht
  | startTx hu => rw [h4] at hu; cases hu   -- nobody has the handle
  | relTok | otxFail | openTx => cases h2
  | unlockTr | endTx | exitTx | dropLg => cases h5   -- no thread is where it could end the transaction
  | srSend | srGiveBack | srGiveUp => cases h7
  | clKept he | ehTake he => exact absurd he h6
  | bgSetErr | bgSetErrCorrupt => exact .inr ⟨h1, h2, h3, h4, h5, next_ne_closing _ _ _ h6, h7⟩
  | _ => exact .inr ⟨h1, h2, h3, h4, h5, h6, h7⟩

theorem clkOrphan (h : Tr cfg s n n' s') (inv : n.ClkOrphan s) :
    n'.ClkOrphan s' := by
  obtain ⟨h1, h2, h3, w0, h4⟩ := inv
  cases h with
  | lockClk hl | bgLockClk _ _ _ hl => rw [h1] at hl; cases hl
  | unlockClk | unlockBoth | fail3 => cases h2
  | park | bgExitParked => exact ⟨h1, h2, rfl, w0, h4⟩
  | unwait b i =>
    cases b
    · obtain ⟨w', hw'⟩ := clearW_run w0 .lockClk i
      exact ⟨h1, h2, h3, w', by show clearW s.mc i = _; rw [h4]; exact hw'⟩
    · exact ⟨h1, h2, (bgClk_clearW _ _).trans h3, w0, h4⟩
  | cmd _ _ hb | bgExitIdle _ hb | bgAck _ _ hb =>
    cases (tc_of_lockClk h4 h3 hb).1
    exact ⟨h1, h2, by first | rfl | exact bgClk_afterCmd cfg s true, w0, h4⟩
  -- the other steps of a goroutine: `tCompaction` does not hold `compCommitLk`, so it is not in a committing phase and
  -- does not enter one
  | bgPhase _ _ _ _ hb hp hk =>
    obtain ⟨rfl, h3⟩ := tc_of_lockClk h4 h3 hb (fun _ => by intro e; cases e; exact hp rfl)
    exact ⟨h1, h2, hk.trans h3, w0, h4⟩
  | bgSetErr _ _ ok c hb =>
    obtain ⟨rfl, h3⟩ := tc_of_lockClk h4 h3 hb
    cases ok <;> cases c <;> first | exact ⟨h1, h2, rfl, w0, h4⟩ | cases h3
  | bgSetErrPer _ _ c hb | bgSetErrCorrupt _ _ c hb =>
    obtain ⟨rfl, h3⟩ := tc_of_lockClk h4 h3 hb
    cases c <;> first | exact ⟨h1, h2, rfl, w0, h4⟩ | cases h3
  | bgExit _ _ ph hb hx =>
    obtain ⟨rfl, h3⟩ := tc_of_lockClk h4 h3 hb (fun _ => by
      intro e; cases e
      rcases hx with ⟨_, hx, _⟩ | ⟨_, c, hx | hx⟩
      · exact hx rfl
      · cases hx
      · cases hx)
    refine ⟨?_, h2, rfl, w0, h4⟩
    show (if bphClk ph = 1 then false else s.clk) = true
    rw [if_neg (by rw [show bphClk ph = 0 from h3]; decide)]; exact h1
  | _ => exact ⟨h1, h2, h3, w0, h4⟩

end Tr

/-- the orphaned token stays in `writeLockC` for ever: no writer ever acquires the lock, no `Close` gets past it -/
theorem TokOrphan.stuck {cfg : Cfg} {s t : St} (h0 : TokOrphan s) (ht : Steps cfg s t) :
    t.tok = true ∧ tot tokW t.ws = 0 ∧ t.closeTok = false ∧ ∀ (i : Nat), t.ws[i]? ≠ some .clWait :=
  have ⟨h1, h2, _, h4, h5, _⟩ := steps_inv_of_step TokOrphan (fun _ _ _ h => (sim h).tokOrphan) _ _ ht h0
  ⟨h1, h2, h4, fun _ hi => no_clWait h5 hi⟩

theorem TxOrphan.steps {cfg : Cfg} {s t : St} (h0 : TxOrphan s) (ht : Steps cfg s t) : TxOrphan t :=
  steps_inv_of_step TxOrphan (fun _ _ _ h => (sim h).txOrphan) _ _ ht h0

theorem ClkOrphan.steps {cfg : Cfg} {s t : St} (h0 : ClkOrphan s) (ht : Steps cfg s t) : ClkOrphan t :=
  steps_inv_of_step ClkOrphan (fun _ _ _ h => (sim h).clkOrphan) _ _ ht h0

/-- `Close` leaves `db.closeW.Wait()` only when both compaction goroutines have exited -/
theorem clWait_step (cfg : Cfg) (s t : St) (f : Bool) (h : Step cfg f s t) (i' : Nat)
    (hi' : s.ws[i']? = some .clWait) :
    t.ws[i']? = some .clWait ∨ (s.mc = .exited ∧ s.tc = .exited) := by
  rcases step_at h hi' with e | ⟨_, _, _, e, _⟩ | ⟨_, _, o⟩
  · exact .inl e
  · cases e
  · exact .inr (o.2.1 rfl)

/-- with `compCommitLk` leaked and `mCompaction` blocked on it, a `Close` in `closeW.Wait()` stays there -/
theorem clkOrphan_close_stuck (cfg : Cfg) (s t : St) (h : Steps cfg s t) (ho : ClkOrphan s) (i : Nat)
    (hi : s.ws[i]? = some .clWait) : t.ws[i]? = some .clWait := by
  induction h with
  | refl => exact hi
  | tail h1 h2 ih =>
    rcases clWait_step cfg _ _ _ h2 i ih with h | ⟨h, _⟩
    · exact h
    · obtain ⟨_, _, _, w, hw⟩ := ho.steps h1
      exact nomatch h.symm.trans hw

end GoLevel.Locks

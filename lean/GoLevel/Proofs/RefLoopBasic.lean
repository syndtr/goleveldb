import GoLevel.Model.RefLoop
import GoLevel.Proofs.Order
/-! What the proofs about the reference loop (C07) share, whatever the environment: counters, exact removal
histories, association lists, the loops of `processTasks` by one iteration. -/
namespace GoLevel.RefLoop

theorem count_incrAll (m fs : List Nat) (f : Nat) : (incrAll m fs).count f = m.count f + fs.count f := by
  unfold incrAll
  induction fs generalizing m with
  | nil => simp
  | cons a fs ih =>
    simp only [List.foldl_cons, incr]
    rw [ih, List.count_cons, List.count_cons]
    omega

theorem mem_incrAll {m fs : List Nat} {f : Nat} : f ∈ incrAll m fs ↔ f ∈ m ∨ f ∈ fs := by
  rw [← List.count_pos_iff, count_incrAll, ← List.count_pos_iff, ← List.count_pos_iff]
  omega

theorem decrAll_filter (m fs : List Nat) (hnd : fs.Nodup) (hpos : ∀ t ∈ fs, t ∈ m) :
    ∃ m', decrAll m fs = some (m', fs.filter (fun t => m.count t = 1)) ∧
      ∀ f, m'.count f = m.count f - (if f ∈ fs then 1 else 0) := by
  induction fs generalizing m with
  | nil => exact ⟨m, rfl, fun f => by simp⟩
  | cons t ts ih =>
    have hnd' := List.nodup_cons.mp hnd
    have ht : t ∈ m := hpos t List.mem_cons_self
    have hpos' : ∀ u ∈ ts, u ∈ m.erase t := by
      intro u hu
      have hne : u ≠ t := fun h => hnd'.1 (h ▸ hu)
      exact (List.mem_erase_of_ne hne).mpr (hpos u (List.mem_cons_of_mem _ hu))
    obtain ⟨m', hm', hc⟩ := ih (m.erase t) hnd'.2 hpos'
    refine ⟨m', ?_, ?_⟩
    · simp only [decrAll, decr, ht, if_true, hm']
      have hfil : ts.filter (fun u => (m.erase t).count u = 1) = ts.filter (fun u => m.count u = 1) := by
        apply List.filter_congr
        intro u hu
        have hne : u ≠ t := fun h => hnd'.1 (h ▸ hu)
        rw [List.count_erase_of_ne hne]
      rw [hfil]
      have hct : (m.erase t).count t = m.count t - 1 := List.count_erase_self
      simp only [List.filter_cons]
      have hpos1 := List.count_pos_iff.mpr ht
      by_cases h1 : m.count t = 1
      · simp [h1]
      · have h0 : ¬ (m.erase t).count t = 0 := by omega
        have h0' : ¬ m.count t - 1 = 0 := by omega
        simp [h1, h0']
    · intro f
      rw [hc f]
      by_cases hft : f = t
      · subst hft
        have : f ∉ ts := hnd'.1
        simp only [this, if_false, List.mem_cons, true_or, if_true]
        rw [List.count_erase_self]; omega
      · rw [List.count_erase_of_ne hft]
        simp [hft]

/-- What a pass over the counters (`m` before, `m'` after) must hand to `tOps.remove`: `rm` lists, once each,
exactly the tables whose counter drops from positive to zero. -/
structure Drops (m m' rm : List Nat) : Prop where
  nodup : rm.Nodup
  mem : ∀ f, f ∈ rm ↔ 1 ≤ m.count f ∧ m'.count f = 0

/-- `for … { if addFileRef(t, -1) == 0 { remove(t) } }` over tables that are all counted -/
theorem decrAll_spec (m fs : List Nat) (hnd : fs.Nodup) (hpos : ∀ t ∈ fs, t ∈ m) :
    ∃ m' rm, decrAll m fs = some (m', rm) ∧ (∀ f, m'.count f = m.count f - (if f ∈ fs then 1 else 0)) ∧
      Drops m m' rm := by
  obtain ⟨m', h1, h2⟩ := decrAll_filter m fs hnd hpos
  refine ⟨m', _, h1, h2, hnd.filter _, fun f => ?_⟩
  simp only [List.mem_filter, decide_eq_true_eq]
  rw [h2 f]
  by_cases hd : f ∈ fs
  · simp only [hd, if_true, true_and]; omega
  · simp only [hd, if_false, false_and, false_iff]; omega

theorem applyDelta_spec (m : List Nat) (d : Delta) (hnd : d.deleted.Nodup) (hpos : ∀ t ∈ d.deleted, t ∈ m) :
    ∃ m' rm, applyDelta m d = some (m', rm) ∧
      (∀ f, m'.count f = m.count f + d.added.count f - (if f ∈ d.deleted then 1 else 0)) ∧ Drops m m' rm := by
  obtain ⟨m', rm, h1, h2, h3, h4⟩ :=
    decrAll_spec (incrAll m d.added) d.deleted hnd (fun t ht => mem_incrAll.mpr (Or.inl (hpos t ht)))
  simp only [count_incrAll] at h2 h4
  refine ⟨m', rm, h1, h2, h3, fun f => (h4 f).trans (and_congr_left fun h0 => ⟨fun h => ?_, fun h => by omega⟩)⟩
  -- a table whose counter ends at zero was deleted, so it was counted before anything was added
  rw [h2 f] at h0
  by_cases hd : f ∈ d.deleted
  · exact List.count_pos_iff.mpr (hpos f hd)
  · simp only [hd, if_false] at h0; omega

def ind (p : Prop) [Decidable p] : Nat := if p then 1 else 0

theorem ind_pos {p : Prop} [Decidable p] (h : p) : ind p = 1 := by simp [ind, h]
theorem ind_neg {p : Prop} [Decidable p] (h : ¬ p) : ind p = 0 := by simp [ind, h]
theorem ind_le (p : Prop) [Decidable p] : ind p ≤ 1 := by unfold ind; split <;> omega
theorem ind_eq_one {p : Prop} [Decidable p] : ind p = 1 ↔ p := by unfold ind; split <;> simp_all
theorem ind_eq_zero {p : Prop} [Decidable p] : ind p = 0 ↔ ¬ p := by unfold ind; split <;> simp_all

/-- The delta `d` turns the loop's view `A` into `B`: each table listed once on either side (the D13 repair
for `added`), every deleted table is counted, and the NET effect is exact — a table may be listed on both
sides (a trivial move: `rec.delTable(level, n); rec.addTableFile(level+1, t)`). -/
structure NetExact (A : List Nat) (d : Delta) (B : List Nat) : Prop where
  na : d.added.Nodup
  nd : d.deleted.Nodup
  del : ∀ r ∈ d.deleted, r ∈ A
  net : ∀ f, ind (f ∈ B) + ind (f ∈ d.deleted) = ind (f ∈ A) + ind (f ∈ d.added)

theorem netExact_of_mem {A B : List Nat} {d : Delta} (na : d.added.Nodup) (nd : d.deleted.Nodup)
    (del : ∀ r ∈ d.deleted, r ∈ A) (mem : ∀ f, f ∈ B ↔ (f ∈ A ∧ f ∉ d.deleted) ∨ f ∈ d.added)
    (fresh : ∀ f ∈ d.added, f ∉ A ∨ f ∈ d.deleted) : NetExact A d B := by
  refine ⟨na, nd, del, fun f => ?_⟩
  have hm := mem f
  have hd := del f
  have hf := fresh f
  by_cases ha : f ∈ d.added
  · rw [ind_pos (hm.mpr (Or.inr ha)), ind_pos ha]
    by_cases hdel : f ∈ d.deleted
    · rw [ind_pos hdel, ind_pos (hd hdel)]
    · rw [ind_neg hdel, ind_neg ((hf ha).resolve_right hdel)]
  · rw [ind_neg ha]
    by_cases hdel : f ∈ d.deleted
    · rw [ind_pos hdel, ind_pos (hd hdel), ind_neg (fun h1 => (hm.mp h1).elim (fun h2 => h2.2 hdel) ha)]
    · rw [ind_neg hdel]
      by_cases hold : f ∈ A
      · rw [ind_pos hold, ind_pos (hm.mpr (Or.inl ⟨hold, hdel⟩))]
      · rw [ind_neg hold, ind_neg (fun h1 => (hm.mp h1).elim (fun h2 => hold h2.1) ha)]

theorem apply_net {A B : List Nat} {d : Delta} (hx : NetExact A d B) {m : List Nat} {extra : Nat → Nat}
    (hc : ∀ f, m.count f = ind (f ∈ A) + extra f) :
    ∃ m' rm, applyDelta m d = some (m', rm) ∧
      (∀ f, m'.count f = ind (f ∈ B) + extra f) ∧
      (∀ r ∈ rm, r ∈ A ∧ r ∉ B ∧ extra r = 0) ∧ Drops m m' rm := by
  obtain ⟨m', rm, h1, h2, hrm⟩ := applyDelta_spec m d hx.nd (by
    intro t ht
    have := hc t
    rw [ind_pos (hx.del t ht)] at this
    exact List.count_pos_iff.mp (by omega))
  have hcnt : ∀ f, m'.count f = ind (f ∈ B) + extra f := by
    intro f
    have h3 := h2 f
    rw [hc f, hx.na.count] at h3
    have h4 := hx.net f
    have h5 : ind (f ∈ d.added) = if f ∈ d.added then 1 else 0 := rfl
    have h6 : ind (f ∈ d.deleted) = if f ∈ d.deleted then 1 else 0 := rfl
    have hB := ind_le (f ∈ B)
    have hD := ind_le (f ∈ d.deleted)
    have hAd := ind_le (f ∈ d.added)
    rw [h3, ← h5, ← h6]
    omega
  refine ⟨m', rm, h1, hcnt, fun r hr => ?_, hrm⟩
  obtain ⟨h3, h4⟩ := (hrm.mem r).mp hr
  rw [hc r] at h3
  rw [hcnt r] at h4
  have hA := ind_le (r ∈ A)
  exact ⟨ind_eq_one.mp (by omega), ind_eq_zero.mp (by omega), by omega⟩

/-- Dropping the full references of a released version: reported are the tables nothing else counts, once each. -/
theorem release_refs {fs : List Nat} (hnd : fs.Nodup) {m : List Nat} {base extra : Nat → Nat}
    (hc : ∀ f, m.count f = base f + extra f + (if f ∈ fs then 1 else 0)) :
    ∃ m' rm, decrAll m fs = some (m', rm) ∧ (∀ f, m'.count f = base f + extra f) ∧
      (∀ r ∈ rm, r ∈ fs ∧ base r = 0 ∧ extra r = 0) ∧ Drops m m' rm := by
  obtain ⟨m', rm, h1, h2, hrm⟩ := decrAll_spec m fs hnd (by
    intro t ht
    have := hc t
    simp only [ht, if_true] at this
    exact List.count_pos_iff.mp (by omega))
  have hcnt : ∀ f, m'.count f = base f + extra f := by
    intro f; rw [h2 f, hc f]; split <;> omega
  refine ⟨m', rm, h1, hcnt, fun r hr => ?_, hrm⟩
  obtain ⟨h3, h4⟩ := (hrm.mem r).mp hr
  rw [hc r] at h3
  rw [hcnt r] at h4
  refine ⟨Classical.byContradiction fun h => ?_, by omega, by omega⟩
  simp only [h, if_false] at h3; omega

/-- a list without repetitions is its member `k` and the rest, in some order -/
theorem filter_length_remove {l : List Nat} (hnd : l.Nodup) {k : Nat} (hk : k ∈ l) (P : Nat → Bool) :
    (l.filter P).length = ((l.filter (· != k)).filter P).length + (if P k = true then 1 else 0) := by
  rw [← hnd.erase_eq_filter, ← List.countP_eq_length_filter, ← List.countP_eq_length_filter,
    (List.perm_cons_erase hk).countP_eq, List.countP_cons]

/-- A removal history that is exact — `R` lists, once each, the accounted tables (`P`) whose counter is zero — stays
exact over a transition that reports in `rm` what it must. -/
theorem exact_history_step {P P' : Nat → Prop} {m m' R rm : List Nat}
    (hH : ∀ f, (P f ∧ m.count f = 0 → R.count f = 1) ∧ (¬ (P f ∧ m.count f = 0) → R.count f = 0))
    (hacc : ∀ f, P f → P' f) (hpos : ∀ f, 0 < m.count f → P f)
    (hstay : ∀ f, P f → m.count f = 0 → m'.count f = 0)
    (hnew : ∀ f, ¬ P f → m.count f = 0 → ¬ (P' f ∧ m'.count f = 0))
    (hrm : Drops m m' rm) (f : Nat) :
    (P' f ∧ m'.count f = 0 → (R ++ rm).count f = 1) ∧ (¬ (P' f ∧ m'.count f = 0) → (R ++ rm).count f = 0) := by
  rw [List.count_append, hrm.nodup.count]
  by_cases hfr : f ∈ rm
  · obtain ⟨h1, h2⟩ := (hrm.mem f).mp hfr
    have hR : R.count f = 0 := (hH f).2 (fun h => by omega)
    simp only [hfr, if_true, hR]
    exact ⟨fun _ => trivial, fun h => absurd ⟨hacc f (hpos f (by omega)), h2⟩ h⟩
  · simp only [hfr, if_false, Nat.add_zero]
    by_cases hold : P f ∧ m.count f = 0
    · exact ⟨fun _ => (hH f).1 hold, fun h => absurd ⟨hacc f hold.1, hstay f hold.1 hold.2⟩ h⟩
    · have hnew' : ¬ (P' f ∧ m'.count f = 0) := by
        rintro ⟨ha', h0'⟩
        by_cases hc : m.count f = 0
        · exact hnew f (fun h => hold ⟨h, hc⟩) hc ⟨ha', h0'⟩
        · exact hfr ((hrm.mem f).mpr ⟨by omega, h0'⟩)
      exact ⟨fun h => absurd h hnew', fun _ => (hH f).2 hold⟩

theorem nodup_of_exact_history {A : Nat → Prop} {R : List Nat}
    (h : ∀ f, (A f → R.count f = 1) ∧ (¬ A f → R.count f = 0)) : R.Nodup := by
  refine List.nodup_iff_count.mpr (fun f => ?_)
  by_cases hc : A f
  · rw [(h f).1 hc]; exact Nat.le_refl _
  · rw [(h f).2 hc]; exact Nat.zero_le _

theorem lookup_cons_eq {β : Type} (l : List (Nat × β)) (k j : Nat) (v : β) :
    ((k, v) :: l).lookup j = if j = k then some v else l.lookup j := by
  simp only [List.lookup_cons]
  by_cases h : j = k
  · simp [h]
  · have : (j == k) = false := by simp [h]
    simp [h, this]

theorem lookup_congr {β : Type} {l : List (Nat × β)} {C C' : Nat → Prop} [DecidablePred C] [DecidablePred C']
    {v v' : Nat → β} (h : ∀ j, l.lookup j = if C j then some (v j) else none)
    (hc : ∀ j, C j ↔ C' j) (hv : ∀ j, C j → v j = v' j) :
    ∀ j, l.lookup j = if C' j then some (v' j) else none := by
  intro j; rw [h j]
  by_cases hj : C j
  · rw [if_pos hj, if_pos ((hc j).mp hj), hv j hj]
  · rw [if_neg hj, if_neg (fun h' => hj ((hc j).mpr h'))]

theorem length_filter_lt_of_lookup {β : Type} {l : List (Nat × β)} {k : Nat} (h : (l.lookup k).isSome = true) :
    (l.filter (fun p => p.1 != k)).length < l.length := by
  -- otherwise every key differs from `k` and the lookup finds nothing
  refine List.length_filter_lt_length_iff_exists.mpr (Classical.byContradiction fun hn => ?_)
  rw [List.lookup_eq_none_iff.mpr fun p hp => Classical.byContradiction fun h' =>
    hn ⟨p, hp, by simpa [bne_comm] using h'⟩] at h
  cases h

theorem lookup_pass_filter {β : Type} {l : List (Nat × β)} {n : Nat} {P : Nat → Prop} [DecidablePred P]
    {v : Nat → β} (h : ∀ k, l.lookup k = if n ≤ k ∧ P k then some (v k) else none) :
    ∀ k, (l.filter (fun p => p.1 != n)).lookup k = if n + 1 ≤ k ∧ P k then some (v k) else none := by
  intro k
  rw [lookup_filter_ne, h k]
  by_cases hk : k = n
  · subst hk; simp; omega
  · have : (n + 1 ≤ k) ↔ (n ≤ k) := by omega
    simp [hk, this]

theorem lookup_pass_keep {β : Type} {l : List (Nat × β)} {n : Nat} {P : Nat → Prop} [DecidablePred P]
    {v : Nat → β} (h : ∀ k, l.lookup k = if n ≤ k ∧ P k then some (v k) else none) (hn : ¬ P n) :
    ∀ k, l.lookup k = if n + 1 ≤ k ∧ P k then some (v k) else none := by
  intro k
  rw [h k]
  by_cases hk : k = n
  · subst hk; simp [hn]
  · have : (n + 1 ≤ k) ↔ (n ≤ k) := by omega
    simp [this]

/-- `next` passes the id `n`: lists that hold the ids below `next`, or from `next` on, with property `Q` -/
theorem mem_below_keep {l : List Nat} {n : Nat} {Q : Nat → Prop} (h : ∀ k, k ∈ l ↔ k < n ∧ Q k) (hn : ¬ Q n) :
    ∀ k, k ∈ l ↔ k < n + 1 ∧ Q k := by
  intro k; rw [h k]
  constructor
  · rintro ⟨h1, h2⟩; exact ⟨by omega, h2⟩
  · rintro ⟨h1, h2⟩
    refine ⟨?_, h2⟩
    by_cases hk : k = n
    · subst hk; exact absurd h2 hn
    · omega

theorem mem_below_cons {l : List Nat} {n : Nat} {Q : Nat → Prop} (h : ∀ k, k ∈ l ↔ k < n ∧ Q k) (hn : Q n) :
    ∀ k, k ∈ n :: l ↔ k < n + 1 ∧ Q k := by
  intro k; rw [List.mem_cons, h k]
  constructor
  · rintro (rfl | ⟨h1, h2⟩)
    · exact ⟨by omega, hn⟩
    · exact ⟨by omega, h2⟩
  · rintro ⟨h1, h2⟩
    by_cases hk : k = n
    · exact Or.inl hk
    · exact Or.inr ⟨by omega, h2⟩

theorem mem_from_keep {l : List Nat} {n : Nat} {Q : Nat → Prop} (h : ∀ k, k ∈ l ↔ n ≤ k ∧ Q k) (hn : ¬ Q n) :
    ∀ k, k ∈ l ↔ n + 1 ≤ k ∧ Q k := by
  intro k; rw [h k]
  constructor
  · rintro ⟨h1, h2⟩
    refine ⟨?_, h2⟩
    by_cases hk : k = n
    · subst hk; exact absurd h2 hn
    · omega
  · rintro ⟨h1, h2⟩; exact ⟨by omega, h2⟩

def convState (S : State) (m : List Nat) : State :=
  { S with fileRef := m, referenced := S.next :: S.referenced,
           ref := S.ref.filter (fun p => p.1 != S.next),
           deltas := S.deltas.filter (fun p => p.1 != S.next), next := S.next + 1 }

/-- `if d := deltas[next]; d != nil { applyDelta(d) }` / `if d != nil { applyDelta(d) }` -/
def optApply (od : Option Delta) (m : List Nat) : Option (List Nat × List Nat) :=
  match od with
  | some d => applyDelta m d
  | none => some (m, [])

def relState (S : State) (m : List Nat) : State :=
  { S with fileRef := m, released := S.released.filter (fun p => p.1 != S.next), next := S.next + 1 }

def lastAfter (S : State) : Msg → Nat
  | .ref vid _ => if vid > S.last then vid else S.last
  | _ => S.last

theorem handle_frame {S S1 : State} {m : Msg} {rm : List Nat} (h : handle S m = some (S1, rm)) :
    S1.next = S.next ∧ S1.last = lastAfter S m := by
  cases m <;> simp only [handle] at h <;> (repeat' split at h) <;> cases h <;> exact ⟨rfl, by simp [lastAfter, *]⟩

theorem convertLoop_succ (fuel : Nat) (s : State) : convertLoop (fuel + 1) s =
    if s.next ∈ s.abandoned then
      convertLoop fuel { s with abandoned := s.abandoned.erase s.next, next := s.next + 1 }
    else if (s.released.lookup s.next).isSome then some (s, [])
    else
      match s.ref.lookup s.next with
      | none => some (s, [])
      | some files =>
        if s.last - s.next < Gen.maxCachedNumber ∧ s.next ∉ s.old then some (s, [])
        else
          match optApply (s.deltas.lookup s.next) (incrAll s.fileRef files) with
          | none => none
          | some (m2, rm) =>
            match convertLoop fuel (convState s m2) with
            | none => none
            | some (s', rm') => some (s', rm ++ rm') := rfl

theorem releaseLoop_succ (fuel : Nat) (s : State) : releaseLoop (fuel + 1) s =
    if s.next ∈ s.abandoned then
      releaseLoop fuel { s with abandoned := s.abandoned.erase s.next, next := s.next + 1 }
    else
      match s.released.lookup s.next with
      | none => some (s, [])
      | some od =>
        match optApply od s.fileRef with
        | none => none
        | some (m, rm) =>
          match releaseLoop fuel (relState s m) with
          | none => none
          | some (s', rm') => some (s', rm ++ rm') := rfl

/-- `processTasks` ran to completion -/
def Settled (S : State) : Prop := S.released.lookup S.next = none ∧ S.next ∉ S.abandoned

theorem release_settled (fuel : Nat) {S S' : State} {rm : List Nat}
    (hf : S.abandoned.length + S.released.length < fuel) (h : releaseLoop fuel S = some (S', rm)) : Settled S' := by
  induction fuel generalizing S rm with
  | zero => omega
  | succ fuel ih =>
    rw [releaseLoop_succ] at h
    by_cases hab : S.next ∈ S.abandoned
    · simp only [hab, if_true] at h
      refine ih ?_ h
      show (S.abandoned.erase S.next).length + S.released.length < fuel
      rw [List.length_erase_of_mem hab]
      have := List.length_pos_of_mem hab
      omega
    · simp only [hab, if_false] at h
      cases hl : S.released.lookup S.next with
      | none =>
        simp only [hl, Option.some.injEq, Prod.mk.injEq] at h
        obtain ⟨rfl, _⟩ := h
        exact ⟨hl, hab⟩
      | some od =>
        simp only [hl] at h
        have hlt := length_filter_lt_of_lookup (l := S.released) (k := S.next) (by rw [hl]; rfl)
        split at h
        · cases h
        · rename_i m rm1 hr
          split at h
          · cases h
          · rename_i S2 rm2 hrec
            simp only [Option.some.injEq, Prod.mk.injEq] at h
            obtain ⟨rfl, _⟩ := h
            refine ih ?_ hrec
            show S.abandoned.length + (S.released.filter _).length < fuel
            omega

theorem processTasks_settled {S S' : State} {rm : List Nat} (h : processTasks S = some (S', rm)) : Settled S' := by
  simp only [processTasks] at h
  split at h
  · cases h
  · rename_i S1 rm1 h1
    split at h
    · cases h
    · rename_i S2 rm2 h2
      simp only [Option.some.injEq, Prod.mk.injEq] at h
      obtain ⟨rfl, _⟩ := h
      exact release_settled _ (by omega) h2

theorem step_settled {S S' : State} {m : Msg} {rm : List Nat} (h : step S m = some (S', rm)) : Settled S' := by
  simp only [step] at h
  split at h
  · cases h
  · split at h
    · cases h
    · rename_i S2 rm2 h2
      simp only [Option.some.injEq, Prod.mk.injEq] at h
      obtain ⟨rfl, _⟩ := h
      exact processTasks_settled h2

theorem run_cons {S S1 S2 : State} {m : Msg} {ms : List Msg} {rm rm' : List Nat}
    (h1 : step S m = some (S1, rm)) (h2 : run S1 ms = some (S2, rm')) :
    run S (m :: ms) = some (S2, rm ++ rm') := by
  simp [run, h1, h2]

theorem run_append {S S1 S2 : State} {ms ms' : List Msg} {rm rm' : List Nat}
    (h1 : run S ms = some (S1, rm)) (h2 : run S1 ms' = some (S2, rm')) :
    run S (ms ++ ms') = some (S2, rm ++ rm') := by
  induction ms generalizing S rm with
  | nil =>
    simp only [run, Option.some.injEq, Prod.mk.injEq] at h1
    obtain ⟨rfl, rfl⟩ := h1
    simpa using h2
  | cons m ms ih =>
    simp only [run] at h1
    split at h1
    · cases h1
    · rename_i Sa rma ha
      split at h1
      · cases h1
      · rename_i Sb rmb hb
        simp only [Option.some.injEq, Prod.mk.injEq] at h1
        obtain ⟨rfl, rfl⟩ := h1
        have := ih hb
        rw [List.cons_append, List.append_assoc]
        exact run_cons ha this

theorem run_settled {S S' : State} {ms : List Msg} {rm : List Nat} (h0 : Settled S)
    (h : run S ms = some (S', rm)) : Settled S' := by
  induction ms generalizing S rm with
  | nil =>
    simp only [run, Option.some.injEq, Prod.mk.injEq] at h
    rw [← h.1]; exact h0
  | cons m ms ih =>
    simp only [run] at h
    split at h
    · cases h
    · rename_i S1 rm1 h1
      split at h
      · cases h
      · rename_i S2 rm2 h2
        simp only [Option.some.injEq, Prod.mk.injEq] at h
        obtain ⟨rfl, _⟩ := h
        exact ih (step_settled h1) h2

end GoLevel.RefLoop

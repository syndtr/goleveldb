import GoLevel.Model.CacheLocks
import GoLevel.Proofs.CacheSys
/-! The lock-level cache system (C17): it is a restriction of the base interleaving system — every
lock-level step is a base step of the same thread or touches lock state only — so every safety theorem proved for
`Reachable false` holds for the states the lock-level system reaches. -/
namespace GoLevel.CacheL
open GoLevel.CacheM

@[simp] theorem setLock_base (ls : LSys) (l : LockId) (rw : RW) : (ls.setLock l rw).base = ls.base := by
  cases l <;> rfl

@[simp] theorem setLock_tl (ls : LSys) (l : LockId) (rw : RW) : (ls.setLock l rw).tl = ls.tl := by
  cases l <;> rfl

@[simp] theorem setLock_uum (ls : LSys) (l : LockId) (rw : RW) :
    (ls.setLock l rw).unrefUsesMu = ls.unrefUsesMu := by
  cases l <;> rfl

theorem afterBase_cases (ls : LSys) (t : Nat) (th : LThread) (i : Instr) (b' : Sys) :
    ((i = .runlock → th.held = []) ∧
      (∀ l, rlockOf ls i = some l → b'.sh.rlock ≠ ls.base.sh.rlock + 1) ∧
      afterBase ls t th i b' = { ls with base := b' }) ∨
    (∃ l, rlockOf ls i = some l ∧ b'.sh.rlock = ls.base.sh.rlock + 1 ∧
      afterBase ls t th i b' = { (ls.setLock l { ls.lock l with readers := (ls.lock l).readers + 1 }) with
        base := b', tl := ls.tl.set t { th with held := l :: th.held } }) ∨
    (∃ l rest, i = .runlock ∧ th.held = l :: rest ∧
      afterBase ls t th i b' = { (ls.setLock l { ls.lock l with readers := (ls.lock l).readers - 1 }) with
        base := b', tl := ls.tl.set t { th with held := rest } }) := by
  unfold afterBase
  cases hro : rlockOf ls i with
  | some l =>
    by_cases hup : b'.sh.rlock = ls.base.sh.rlock + 1
    · right; left
      refine ⟨l, rfl, hup, ?_⟩
      simp only [if_pos hup]
    · left
      refine ⟨fun hi => (by subst hi; cases hro), fun l' hl' => ?_, ?_⟩
      · cases hl'; exact hup
      · simp only [if_neg hup]
  | none =>
    by_cases hrun : i = .runlock
    · subst hrun
      cases hh : th.held with
      | nil => exact .inl ⟨fun _ => rfl, nofun, rfl⟩
      | cons l rest => exact .inr (.inr ⟨l, rest, rfl, rfl, rfl⟩)
    · left
      have : isRunlock i = false := by cases i <;> first | rfl | exact absurd rfl hrun
      refine ⟨fun h => absurd h hrun, nofun, ?_⟩
      simp only [this, Bool.false_eq_true, if_false]

theorem afterBase_base (ls : LSys) (t : Nat) (th : LThread) (i : Instr) (b' : Sys) :
    (afterBase ls t th i b').base = b' := by
  rcases afterBase_cases ls t th i b' with ⟨_, _, h⟩ | ⟨_, _, _, h⟩ | ⟨_, _, _, _, h⟩ <;> rw [h]

theorem afterBase_frame (ls : LSys) (t : Nat) (th : LThread) (i : Instr) (b' : Sys) :
    (afterBase ls t th i b').unrefUsesMu = ls.unrefUsesMu ∧
    ∀ w, w ≠ t → (afterBase ls t th i b').tl[w]? = ls.tl[w]? := by
  rcases afterBase_cases ls t th i b' with ⟨_, _, h⟩ | ⟨_, _, _, h⟩ | ⟨_, _, _, _, h⟩ <;> rw [h] <;>
    exact ⟨by simp, fun w hw => by simp [List.getElem?_set_ne hw.symm]⟩

theorem lstepThread_idle {ls ls' : LSys} {t : Nat} {th : LThread} {i : Instr} {rest : List Instr}
    (hth : ls.tl[t]? = some th) (hT : ls.base.threads[t]? = some (i :: rest)) (hp : th.phase = .idle)
    (hcl : isCloseLock i = false) :
    lstepThread ls t = some ls' ↔ (∀ l, rlockOf ls i = some l → (ls.lock l).writer = none) ∧
      ∃ b', sysStep false ls.base (.step t) = some b' ∧ ls' = afterBase ls t th i b' := by
  have : lstepThread ls t = if blocked ls i = true then none
      else match sysStep false ls.base (.step t) with
        | some b' => some (afterBase ls t th i b')
        | none => none := by
    unfold lstepThread
    simp only [hth, hT, hp]
    cases i <;> first | rfl | cases hcl
  have hb : blocked ls i = false ↔ ∀ l, rlockOf ls i = some l → (ls.lock l).writer = none := by
    unfold blocked; cases rlockOf ls i <;> simp
  rw [this, ← hb]
  cases blocked ls i <;> cases sysStep false ls.base (.step t) <;> simp [eq_comm]

/-- The steps through `Close`'s locking that change lock state only: phase before and after, `mu` and `un` after. -/
inductive LockStep (ls : LSys) (t : Nat) (T : List Instr) : Phase → Phase → RW → RW → Prop
  | lockMu : ls.mu.readers = 0 → LockStep ls t T .annMu .hasMu { ls.mu with held := true } ls.un
  | annUn : ls.unrefUsesMu = false → ls.un.writer = none →
      LockStep ls t T .hasMu .annUn ls.mu { ls.un with writer := some t }
  | lockUn : ls.un.readers = 0 → LockStep ls t T .annUn .hasBoth ls.mu { ls.un with held := true }
  | relUn : LockStep ls t T .relUn .relMu ls.mu { ls.un with writer := none, held := false }
  | relMu : LockStep ls t T .relMu .idle { ls.mu with writer := none, held := false } ls.un
  | annMu : (∃ f rest, T = .closeLock f :: rest) → ls.mu.writer = none →
      LockStep ls t T .idle .annMu { ls.mu with writer := some t } ls.un

theorem lstepThread_cases {ls ls' : LSys} {t : Nat} (h : lstepThread ls t = some ls') :
    ∃ th T, ls.tl[t]? = some th ∧ ls.base.threads[t]? = some T ∧
      ((∃ p' mu' un', LockStep ls t T th.phase p' mu' un' ∧
          ls' = { ls with tl := ls.tl.set t { th with phase := p' }, mu := mu', un := un' }) ∨
       (((th.phase = .hasMu ∧ ls.unrefUsesMu = true) ∨ th.phase = .hasBoth) ∧ closeBody ls t th = some ls') ∨
       (th.phase = .idle ∧ ∃ i rest b', T = i :: rest ∧ isCloseLock i = false ∧
          (∀ l, rlockOf ls i = some l → (ls.lock l).writer = none) ∧
          sysStep false ls.base (.step t) = some b' ∧ ls' = afterBase ls t th i b')) := by
  have h0 := h
  unfold lstepThread at h
  cases hth : ls.tl[t]? with
  | none => simp [hth] at h
  | some th =>
    cases hT : ls.base.threads[t]? with
    | none => simp [hth, hT] at h
    | some T =>
      refine ⟨th, T, rfl, rfl, ?_⟩
      simp only [hth, hT] at h
      cases hp : th.phase <;> simp only [hp] at h
      case annMu =>
        split at h
        · exact Or.inl ⟨_, _, _, .lockMu ‹_›, (Option.some.inj h).symm⟩
        · cases h
      case hasMu =>
        split at h
        · exact Or.inr (Or.inl ⟨Or.inl ⟨rfl, ‹_›⟩, h⟩)
        · split at h
          · exact Or.inl ⟨_, _, _, .annUn (by simpa using ‹¬ls.unrefUsesMu = true›) ‹_›, (Option.some.inj h).symm⟩
          · cases h
      case annUn =>
        split at h
        · exact Or.inl ⟨_, _, _, .lockUn ‹_›, (Option.some.inj h).symm⟩
        · cases h
      case hasBoth => exact Or.inr (Or.inl ⟨Or.inr rfl, h⟩)
      case relUn => exact Or.inl ⟨_, _, _, .relUn, (Option.some.inj h).symm⟩
      case relMu => exact Or.inl ⟨_, _, _, .relMu, (Option.some.inj h).symm⟩
      case idle =>
        cases T with
        | nil => simp at h
        | cons i rest =>
          by_cases hcl : isCloseLock i = true
          · cases i <;> simp [isCloseLock] at hcl
            simp only [] at h
            by_cases hw : ls.mu.writer = none
            · rw [if_pos hw] at h
              exact Or.inl ⟨_, _, _, .annMu ⟨_, _, rfl⟩ hw, (Option.some.inj h).symm⟩
            · rw [if_neg hw] at h; cases h
          · have hcl' : isCloseLock i = false := by simpa using hcl
            obtain ⟨hfree, b', hs, rfl⟩ := (lstepThread_idle hth hT hp hcl').mp h0
            exact Or.inr (Or.inr ⟨rfl, i, rest, b', rfl, hcl', hfree, hs, rfl⟩)

theorem LockStep.pre {ls : LSys} {t : Nat} {T : List Instr} {p p' : Phase} {mu' un' : RW}
    (h : LockStep ls t T p p' mu' un') : p ≠ .idle ∨ ls.mu.writer = none := by
  cases h with
  | annMu _ hw => exact .inr hw
  | _ => exact .inl nofun

theorem closeBody_cases {ls ls' : LSys} {t : Nat} {th : LThread} (h : closeBody ls t th = some ls') :
    ∃ b', sysStep false ls.base (.step t) = some b' ∧
      ls' = { (setPhase ls t th (if ls.unrefUsesMu then .relMu else .relUn)) with base := b' } := by
  unfold closeBody at h
  cases hs : sysStep false ls.base (.step t) with
  | none => rw [hs] at h; cases h
  | some b' => rw [hs] at h; exact ⟨b', rfl, (Option.some.inj h).symm⟩

theorem lstep_call {ls ls' : LSys} {t : Nat} {c : Call} (h : lstep ls (.call t c) = some ls') :
    ∃ th, ls.tl[t]? = some th ∧ th.phase = .idle ∧ ls.base.threads[t]? = some [] ∧
      sysStep false ls.base (.call t c) = some ls'.base ∧
      ls' = { ls with base := { ls.base with threads := ls.base.threads.set t (startCall c) } } := by
  simp only [lstep] at h
  cases hth : ls.tl[t]? with
  | none => simp [hth] at h
  | some th =>
    simp only [hth] at h
    by_cases hp : th.phase = .idle
    · rw [if_pos hp] at h
      cases hb : sysStep false ls.base (.call t c) with
      | none => rw [hb] at h; cases h
      | some b' =>
        rw [hb] at h
        have hls := (Option.some.inj h).symm; subst hls
        rcases sysStep_cases hb with ⟨t', c', hact, ht', _, rfl⟩ | ⟨_, _, _, _, _, _, hact, _⟩
        · injection hact with h1 h2; subst h1; subst h2
          exact ⟨th, rfl, hp, ht', rfl, rfl⟩
        · cases hact
    · rw [if_neg hp] at h; cases h

theorem lstep_frame {ls ls' : LSys} {a : Act} (h : lstep ls a = some ls') :
    ls'.unrefUsesMu = ls.unrefUsesMu ∧ (ls'.base = ls.base ∨ sysStep false ls.base a = some ls'.base) ∧
    ∀ w, a ≠ .step w → ls'.tl[w]? = ls.tl[w]? := by
  cases a with
  | call t c => obtain ⟨_, _, _, _, hs, rfl⟩ := lstep_call h; exact ⟨rfl, Or.inr hs, fun _ _ => rfl⟩
  | step t =>
    have hne : ∀ w, Act.step t ≠ .step w → w ≠ t := fun w hw e => hw (e ▸ rfl)
    obtain ⟨th, T, _, _, hc⟩ := lstepThread_cases h
    rcases hc with ⟨_, _, _, _, rfl⟩ | ⟨_, hb⟩ | ⟨_, i, rest, b', _, _, _, hs, rfl⟩
    · exact ⟨rfl, Or.inl rfl, fun w hw => List.getElem?_set_ne (hne w hw).symm⟩
    · obtain ⟨b', hs, rfl⟩ := closeBody_cases hb
      exact ⟨rfl, Or.inr hs, fun w hw => List.getElem?_set_ne (hne w hw).symm⟩
    · exact ⟨(afterBase_frame ..).1, Or.inr (by rw [afterBase_base]; exact hs),
        fun w hw => (afterBase_frame ..).2 w (hne w hw)⟩

theorem lreachable_base {ls : LSys} (h : LReachable ls) : Reachable false ls.base := by
  induction h with
  | init cfg uum c n => exact Reachable.init cfg c n
  | @step ls ls' a _ hs ih =>
    rcases (lstep_frame hs).2.1 with h1 | h1
    · rw [h1]; exact ih
    · exact Reachable.step a ih h1

theorem lrun_induct {P : LSys → Prop} (hstep : ∀ {ls ls' : LSys} {a : Act}, P ls → lstep ls a = some ls' → P ls')
    {ls ls' : LSys} {sched : List Act} (h0 : P ls) (h : lrun ls sched = some ls') : P ls' := by
  induction sched generalizing ls with
  | nil => simp only [lrun, Option.some.injEq] at h; exact h ▸ h0
  | cons a as ih =>
    simp only [lrun] at h
    cases hs : lstep ls a with
    | none => rw [hs] at h; cases h
    | some s1 => rw [hs] at h; exact ih (hstep h0 hs) h

theorem lreachable_lrun {ls ls' : LSys} {sched : List Act} (hr : LReachable ls) (h : lrun ls sched = some ls') :
    LReachable ls' :=
  lrun_induct (LReachable.step _) hr h

end GoLevel.CacheL

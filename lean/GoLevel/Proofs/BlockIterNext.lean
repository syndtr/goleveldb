import GoLevel.Proofs.BlockIterLayout
import GoLevel.Proofs.Cursor
/-!
# The simulation relation between a byte-level `blockIter` and the cursor; the methods by direction; `blockIter.Next`

The iterator is sliced to the entries `[lo, hi)` (restart slots `[q0, q1)`); the cursor runs over `hi - lo` pairs.
`nextBody_lands`: from the start of entry `j` with a usable key buffer (`KeyOK`) the body of `Next` lands on entry
`max j lo` or at the end of the slice; `Next` from `.soi`, from an entry, and the first pass of `Seek` are instances.
-/
namespace GoLevel.C13
open GoLevel

variable {b : BlockR} {kvs : List KV} {off : Nat → Nat} {R : Nat} {rs : Nat → Nat}

/-- `prevKeys` holding the keys of entries `s … s+c-1` -/
def cKeys (kvs : List KV) (s : Nat) : Nat → Bytes
  | 0 => []
  | c + 1 => cKeys kvs s c ++ kAt kvs (s + c)

/-- `prevNode` (without its first element) holding the nodes of entries `s … s+c-1` -/
def cNodes (kvs : List KV) (off : Nat → Nat) (s : Nat) : Nat → List Nat
  | 0 => []
  | c + 1 => cNodes kvs off s c ++
      [(cKeys kvs s c).length, off (s + c + 1) - (vAt kvs (s + c)).length, (vAt kvs (s + c)).length]

theorem cNodes_length (s c : Nat) : (cNodes kvs off s c).length = 3 * c := by
  induction c with
  | zero => rfl
  | succ c ih => simp [cNodes, ih]; omega

/-- the slice: entries `[lo, hi)`, restart slots `[q0, q1)`; slot `q0` is the last one at or before `lo`, slot
`q1 - 1` points at or before `hi` (it need not be the last such slot: `newBlockIter` sets `riLimit` from the
restart index `Seek` started at) -/
structure SliceCfg (kvs : List KV) (R : Nat) (rs : Nat → Nat) (lo hi q0 q1 : Nat) : Prop where
  lohi : lo ≤ hi
  hin : hi ≤ kvs.length
  q01 : q0 < q1
  q1R : q1 ≤ R
  q0lo : rs q0 ≤ lo
  q0max : ∀ q, q0 < q → q < R → lo < rs q
  q1hi : rs (q1 - 1) ≤ hi

/-- the first slice entry of a restart range: `lo` in the range of slot `q0`, the restart entry in a later one -/
theorem SliceCfg.start_cases {lo hi q0 q1 : Nat} (S : SliceCfg kvs R rs lo hi q0 q1) {r : Nat} (h0 : q0 ≤ r)
    (hR : r < R) : (r = q0 ∧ max (rs r) lo = lo) ∨ (q0 < r ∧ lo < rs r ∧ max (rs r) lo = rs r) := by
  rcases Nat.eq_or_lt_of_le h0 with rfl | h
  · exact Or.inl ⟨rfl, Nat.max_eq_right S.q0lo⟩
  · exact Or.inr ⟨h, S.q0max r h hR, Nat.max_eq_left (Nat.le_of_lt (S.q0max r h hR))⟩

structure HasCfg (off rs : Nat → Nat) (it : BIter) (lo hi q0 q1 : Nat) : Prop where
  riStart : it.riStart = q0
  riLimit : it.riLimit = q1
  offsetStart : it.offsetStart = off (rs q0)
  real : it.offsetRealStart = off lo
  limit : it.offsetLimit = off hi

structure Fwd (kvs : List KV) (off rs : Nat → Nat) (it : BIter) (q0 q1 c : Nat) : Prop where
  dir : it.dir = .forward
  prevOffset : it.prevOffset = off c
  offset : it.offset = off (c + 1)
  key : it.key = kAt kvs c
  value : it.value = some (vAt kvs c)
  rlo : q0 ≤ it.restartIndex
  rhi : it.restartIndex < q1
  rc : rs it.restartIndex ≤ c
  node : it.prevNode = []
  keys : it.prevKeys = []

/-- on entry `c`, moving backward: one cache node (keys offset, value offset, value length) per entry in
`[max (rs restartIndex) lo, c)` -/
structure Bwd (kvs : List KV) (off rs : Nat → Nat) (it : BIter) (lo q0 q1 c : Nat) : Prop where
  dir : it.dir = .backward
  offset : it.offset = off (c + 1)
  key : it.key = kAt kvs c
  value : it.value = some (vAt kvs c)
  rlo : q0 ≤ it.restartIndex
  rhi : it.restartIndex < q1
  rc : rs it.restartIndex ≤ c
  node : it.prevNode = off (rs it.restartIndex) ::
    cNodes kvs off (max (rs it.restartIndex) lo) (c - max (rs it.restartIndex) lo)
  keys : it.prevKeys = cKeys kvs (max (rs it.restartIndex) lo) (c - max (rs it.restartIndex) lo)

/-- cursor position `.at i` is block entry `lo + i`, in the state `Next` leaves (`Fwd`) or `Prev` leaves (`Bwd`) -/
def PosRel (kvs : List KV) (off rs : Nat → Nat) (it : BIter) (lo hi q0 q1 : Nat) : Pos → Prop
  | .soi => it.dir = .soi ∧ it.prevNode = [] ∧ it.prevKeys = []
  | .eoi => it.dir = .eoi ∧ it.prevNode = [] ∧ it.prevKeys = []
  | .at i => lo + i < hi ∧ (Fwd kvs off rs it q0 q1 (lo + i) ∨ Bwd kvs off rs it lo q0 q1 (lo + i))

structure Rel (kvs : List KV) (off rs : Nat → Nat) (lo hi q0 q1 : Nat) (it : BIter) (p : Pos) : Prop where
  cfg : HasCfg off rs it lo hi q0 q1
  err : it.err = none
  pos : PosRel kvs off rs it lo hi q0 q1 p

def posOk : Pos → Bool
  | .at _ => true
  | _ => false

/-- the call that returned `r` left the iterator at `p`, not moving backward -/
structure Lands (kvs : List KV) (off rs : Nat → Nat) (lo hi q0 q1 : Nat) (r : Bool × BIter) (p : Pos) : Prop where
  rel : Rel kvs off rs lo hi q0 q1 r.2 p
  ok : r.1 = posOk p
  fwd : r.2.dir ≠ .backward

theorem Lands.fwd_at {lo hi q0 q1 : Nat} {r : Bool × BIter} {i : Nat} (h : Lands kvs off rs lo hi q0 q1 r (.at i)) :
    Fwd kvs off rs r.2 q0 q1 (lo + i) :=
  h.rel.pos.2.resolve_right fun f => h.fwd f.dir

theorem HasCfg.congr {it it' : BIter} {lo hi q0 q1 : Nat} (h : HasCfg off rs it lo hi q0 q1)
    (h1 : it'.riStart = it.riStart) (h2 : it'.riLimit = it.riLimit) (h3 : it'.offsetStart = it.offsetStart)
    (h4 : it'.offsetRealStart = it.offsetRealStart) (h5 : it'.offsetLimit = it.offsetLimit) :
    HasCfg off rs it' lo hi q0 q1 :=
  ⟨h1.trans h.riStart, h2.trans h.riLimit, h3.trans h.offsetStart, h4.trans h.real, h5.trans h.limit⟩

/-- an iterator whose slice fields describe `[lo, hi)` / `[q0, q1)` and that `Seek` and `reset` can take -/
structure Mid (kvs : List KV) (off : Nat → Nat) (R : Nat) (rs : Nat → Nat) (it : BIter) (lo hi q0 q1 : Nat) :
    Prop where
  cfg : HasCfg off rs it lo hi q0 q1
  slice : SliceCfg kvs R rs lo hi q0 q1
  err : it.err = none
  dirs : it.dir = .soi ∨ it.dir = .eoi ∨ it.dir = .forward ∨ it.dir = .backward
  node : it.dir = .backward ∨ it.prevNode = []
  keys : it.dir = .backward ∨ it.prevKeys = []

theorem Rel.mid {it : BIter} {lo hi q0 q1 : Nat} {p : Pos} (h : Rel kvs off rs lo hi q0 q1 it p)
    (S : SliceCfg kvs R rs lo hi q0 q1) : Mid kvs off R rs it lo hi q0 q1 := by
  obtain ⟨hcfg, herr, hpos⟩ := h
  cases p with
  | soi => exact ⟨hcfg, S, herr, Or.inl hpos.1, Or.inr hpos.2.1, Or.inr hpos.2.2⟩
  | eoi => exact ⟨hcfg, S, herr, Or.inr (Or.inl hpos.1), Or.inr hpos.2.1, Or.inr hpos.2.2⟩
  | «at» i =>
    rcases hpos.2 with f | f
    · exact ⟨hcfg, S, herr, Or.inr (Or.inr (Or.inl f.dir)), Or.inr f.node, Or.inr f.keys⟩
    · exact ⟨hcfg, S, herr, Or.inr (Or.inr (Or.inr f.dir)), Or.inl f.dir, Or.inl f.dir⟩

theorem Rel.at_facts {lo hi q0 q1 : Nat} {it : BIter} {i : Nat} (h : Rel kvs off rs lo hi q0 q1 it (.at i)) :
    (it.dir = .forward ∨ it.dir = .backward) ∧ it.offset = off (lo + i + 1) ∧ it.key = kAt kvs (lo + i) ∧
      it.value = some (vAt kvs (lo + i)) ∧ q0 ≤ it.restartIndex ∧ it.restartIndex < q1 ∧
      rs it.restartIndex ≤ lo + i := by
  rcases h.pos.2 with f | f
  · exact ⟨Or.inl f.dir, f.offset, f.key, f.value, f.rlo, f.rhi, f.rc⟩
  · exact ⟨Or.inr f.dir, f.offset, f.key, f.value, f.rlo, f.rhi, f.rc⟩

@[simp] theorem dropCache_eq (it : BIter) : it.dropCache =
    { it with prevNode := if it.dir = .backward then [] else it.prevNode,
              prevKeys := if it.dir = .backward then [] else it.prevKeys } := by
  unfold BIter.dropCache; split <;> rfl

section dropCache
variable (it : BIter)
@[simp] theorem dc_value : it.dropCache.value = it.value := by rw [dropCache_eq]
@[simp] theorem dc_prevOffset : it.dropCache.prevOffset = it.prevOffset := by rw [dropCache_eq]
@[simp] theorem dc_dir : it.dropCache.dir = it.dir := by rw [dropCache_eq]
end dropCache

theorem Mid.dc {it : BIter} {lo hi q0 q1 : Nat} (M : Mid kvs off R rs it lo hi q0 q1) :
    it.dropCache.prevNode = [] ∧ it.dropCache.prevKeys = [] := by
  rw [dropCache_eq]
  show (if _ then _ else _) = _ ∧ (if _ then _ else _) = _
  split
  · exact ⟨rfl, rfl⟩
  · exact ⟨M.node.resolve_left ‹_›, M.keys.resolve_left ‹_›⟩

theorem HasCfg.dropCache {it : BIter} {lo hi q0 q1 : Nat} (h : HasCfg off rs it lo hi q0 q1) :
    HasCfg off rs it.dropCache lo hi q0 q1 := by
  rw [dropCache_eq]; exact h.congr rfl rfl rfl rfl rfl

theorem next_soi {it : BIter} (herr : it.err = none) (hd : it.dir = .soi) :
    BIter.next b it = BIter.nextBody b { it with restartIndex := it.riStart, offset := it.offsetStart } := by
  unfold BIter.next
  rw [if_neg (by rw [herr, hd]; simp), if_neg (by rw [hd]; simp), if_pos hd]

theorem next_eoi {it : BIter} (hd : it.dir = .eoi) : BIter.next b it = (false, it) := by
  unfold BIter.next; rw [if_pos (Or.inl hd)]

theorem next_entry {it : BIter} (herr : it.err = none) (hdir : it.dir = .forward ∨ it.dir = .backward) :
    BIter.next b it = BIter.nextBody b it.dropCache := by
  unfold BIter.next
  rw [if_neg (by rw [herr]; rcases hdir with h | h <;> simp [h]),
    if_neg (by rcases hdir with h | h <;> simp [h]), if_neg (by rcases hdir with h | h <;> simp [h])]

theorem prev_soi {it : BIter} (hd : it.dir = .soi) : BIter.prev b it = (false, it) := by
  unfold BIter.prev; rw [if_pos (Or.inl hd)]

theorem prev_eoi {it : BIter} (herr : it.err = none) (hd : it.dir = .eoi) : BIter.prev b it =
    (if it.offsetLimit = it.offsetRealStart then
      (false, { it with restartIndex := it.riLimit, offset := it.offsetLimit, dir := .soi })
    else if it.riLimit = 0 then
      (false, BIter.sErr { it with restartIndex := it.riLimit, offset := it.offsetLimit } .corrupted)
    else BIter.prevBuild b (it.riLimit - 1)
      { it with restartIndex := it.riLimit, offset := it.offsetLimit, dir := .backward }) := by
  unfold BIter.prev
  rw [if_neg (by rw [herr, hd]; simp), if_neg (by rw [hd]; simp), if_neg (by rw [hd]; simp), if_pos hd]

theorem prev_fwd {it : BIter} (herr : it.err = none) (hd : it.dir = .forward) : BIter.prev b it =
    (if it.prevOffset = it.offsetRealStart then (false, { it with offset := it.prevOffset, dir := .soi })
    else
      match b.restartIndex it.restartIndex it.riLimit it.prevOffset with
      | none => (false, BIter.sErr { it with offset := it.prevOffset } .corrupted)
      | some ri => BIter.prevBuild b ri { it with offset := it.prevOffset, dir := .backward }) := by
  unfold BIter.prev
  rw [if_neg (by rw [herr, hd]; simp), if_neg (by rw [hd]; simp), if_pos hd]
  rfl

theorem prev_bwd_end {it : BIter} (herr : it.err = none) (hd : it.dir = .backward) (h1 : it.prevNode.length = 1) :
    BIter.prev b it =
    (if it.restartIndex = it.riStart then
      (false, { it with offset := it.prevNode.headD 0, prevNode := [], dir := .soi })
    else if it.restartIndex = 0 then
      (false, BIter.sErr { it with offset := it.prevNode.headD 0, prevNode := [] } .corrupted)
    else BIter.prevBuild b (it.restartIndex - 1)
      { it with offset := it.prevNode.headD 0, prevNode := [], restartIndex := it.restartIndex - 1 }) := by
  unfold BIter.prev
  rw [if_neg (by rw [herr, hd]; simp), if_neg (by rw [hd]; simp), if_neg (by rw [hd]; simp),
    if_neg (by rw [hd]; simp), if_pos h1]

theorem first_eq {it : BIter} (herr : it.err = none) (hnr : it.dir ≠ .released) :
    BIter.first b it = BIter.next b { it.dropCache with dir := .soi } := by
  unfold BIter.first; rw [if_neg (by rw [herr]; simp), if_neg hnr]

theorem last_eq {it : BIter} (herr : it.err = none) (hnr : it.dir ≠ .released) :
    BIter.last b it = BIter.prev b { it.dropCache with dir := .eoi } := by
  unfold BIter.last; rw [if_neg (by rw [herr]; simp), if_neg hnr]

theorem seek_eq {cmp : Bytes → Bytes → Ordering} {key : Bytes} {it : BIter} {q o : Nat} (herr : it.err = none)
    (hnr : it.dir ≠ .released) (hq : b.seekR cmp it.riStart it.riLimit key = some (q, o)) :
    BIter.seek cmp b key it = BIter.seekLoop cmp b key (b.restartsOffset + 1)
      (if it.dir = .soi ∨ it.dir = .eoi then
        { it with restartIndex := q, offset := max it.offsetStart o, dir := .forward }
       else { it with restartIndex := q, offset := max it.offsetStart o }) := by
  unfold BIter.seek
  rw [if_neg (by rw [herr]; simp), if_neg hnr, hq]

theorem nextSkip_ok (L : Layout b kvs off R rs) (lo : Nat) (hlo : lo ≤ kvs.length) :
    ∀ (fuel : Nat) (it : BIter) (j : Nat), lo - j < fuel → j ≤ kvs.length → it.offsetRealStart = off lo →
      it.offset = off j → KeyOK kvs R rs j it.key →
      ∃ kb val, BIter.nextSkip b fuel it = (true, { it with key := kb, value := val, offset := off (max j lo) }) ∧
        KeyOK kvs R rs (max j lo) kb := by
  intro fuel
  induction fuel with
  | zero => intro it j hf; omega
  | succ fuel ih =>
    intro it j hf hj hreal hoff hk
    by_cases hjl : j < lo
    · have hlt : it.offset < it.offsetRealStart := by
        rw [hoff, hreal]; exact L.off_lt hjl hlo
      obtain ⟨sh, he, hsh, hkey⟩ := L.decode (by omega : j < kvs.length) hk
      obtain ⟨kb, val, hres, hkb⟩ := ih
        { it with key := kAt kvs j, value := some (vAt kvs j), offset := off (j + 1) } (j + 1)
        (by omega) (by omega) hreal rfl (Or.inr ⟨by omega, by simp⟩)
      have hm : max (j + 1) lo = max j lo := by omega
      rw [hm] at hres hkb
      refine ⟨kb, val, ?_, hkb⟩
      rw [← hoff] at he
      rw [BIter.nextSkip, if_pos hlt, he]
      simp only [if_neg hsh, hkey]
      rw [hoff, L.off_succ (by omega), hres]
    · have hm : max j lo = j := by omega
      refine ⟨it.key, it.value, ?_, by rw [hm]; exact hk⟩
      have : ¬ (it.offset < it.offsetRealStart) := by
        rw [hoff, hreal]; exact Nat.not_lt.2 (L.off_le (Nat.le_of_not_lt hjl) hj)
      rw [BIter.nextSkip, if_neg this, hm, ← hoff]

theorem nextBody_lands (L : Layout b kvs off R rs) {lo hi q0 q1 : Nat} (S : SliceCfg kvs R rs lo hi q0 q1)
    {it : BIter} (hcfg : HasCfg off rs it lo hi q0 q1) (herr : it.err = none) {j i : Nat}
    (hoff : it.offset = off j) (hk : KeyOK kvs R rs j it.key) (hj : j ≤ hi) (hm : max j lo = lo + i)
    (hr0 : q0 ≤ it.restartIndex) (hr1 : it.restartIndex < q1) (hrc : rs it.restartIndex ≤ lo + i)
    (hn : it.prevNode = []) (hks : it.prevKeys = []) :
    Lands kvs off rs lo hi q0 q1 (BIter.nextBody b it) (if i < hi - lo then .at i else .eoi) := by
  have hin := S.hin
  have hlohi := S.lohi
  obtain ⟨kb, val, hs, hkb⟩ := nextSkip_ok L lo (by omega) (b.restartsOffset + 1) it j
    (by have := L.fuel_ok (j := lo) (by omega); omega) (by omega) hcfg.real hoff hk
  rw [hm] at hs hkb
  by_cases hlt : i < hi - lo
  · obtain ⟨sh, he, hsh, hkey⟩ := L.decode (by omega : lo + i < kvs.length) hkb
    have hnl : ¬ (off (lo + i) ≥ off hi) := by have := L.off_lt (i := lo + i) (j := hi) (by omega) hin; omega
    have hres : BIter.nextBody b it = (true,
        { it with key := kAt kvs (lo + i), value := some (vAt kvs (lo + i)), prevOffset := off (lo + i),
                  offset := off (lo + i + 1), dir := .forward }) := by
      simp only [BIter.nextBody, hs, hcfg.limit, hnl, if_false, he, hsh]
      rw [hkey, L.off_succ (by omega)]
    rw [hres, if_pos hlt]
    exact ⟨⟨hcfg.congr rfl rfl rfl rfl rfl, herr, by omega, Or.inl ⟨rfl, rfl, rfl, rfl, rfl, hr0, hr1, hrc, hn, hks⟩⟩,
      rfl, by simp⟩
  · have he : lo + i = hi := by omega
    have hres : BIter.nextBody b it = (false, { it with key := kb, value := val, offset := off hi, dir := .eoi }) := by
      simp only [BIter.nextBody, hs, hcfg.limit, he]
      simp
    rw [hres, if_neg hlt]
    exact ⟨⟨hcfg.congr rfl rfl rfl rfl rfl, herr, rfl, hn, hks⟩, rfl, by simp⟩

theorem next_lands (L : Layout b kvs off R rs) {lo hi q0 q1 : Nat} {it : BIter} (M : Mid kvs off R rs it lo hi q0 q1)
    (hdir : it.dir = .forward ∨ it.dir = .backward) {j i : Nat} (hoff : it.offset = off j)
    (hk : KeyOK kvs R rs j it.key) (hj : j ≤ hi) (hm : max j lo = lo + i)
    (hr0 : q0 ≤ it.restartIndex) (hr1 : it.restartIndex < q1) (hrc : rs it.restartIndex ≤ lo + i) :
    Lands kvs off rs lo hi q0 q1 (BIter.next b it) (if i < hi - lo then .at i else .eoi) := by
  rw [next_entry M.err hdir]
  exact nextBody_lands L M.slice M.cfg.dropCache (by simpa using M.err) (by simpa using hoff) (by simpa using hk) hj hm
    (by simpa using hr0) (by simpa using hr1) (by simpa using hrc) M.dc.1 M.dc.2

theorem rel_next (L : Layout b kvs off R rs) {lo hi q0 q1 : Nat} (S : SliceCfg kvs R rs lo hi q0 q1)
    {α : Type} (xs : List α) (hlen : xs.length = hi - lo) {it : BIter} {p : Pos}
    (h : Rel kvs off rs lo hi q0 q1 it p) :
    Lands kvs off rs lo hi q0 q1 (BIter.next b it) (Cursor.next xs p) := by
  obtain ⟨hcfg, herr, hpos⟩ := h
  cases p with
  | soi =>
    obtain ⟨hd, hn, hk⟩ := hpos
    have hq0 := S.q0lo
    have h01 := S.q01
    have hrs := hcfg.riStart
    rw [next_soi herr hd]
    simp only [Cursor.next, Cursor.first_eq, IndexedIter.atOr, hlen]
    exact nextBody_lands L S (it := { it with restartIndex := it.riStart, offset := it.offsetStart })
      (hcfg.congr rfl rfl rfl rfl rfl) herr hcfg.offsetStart
      (Or.inl ⟨q0, by have := S.q1R; omega, rfl⟩) (by have := S.lohi; omega) (by omega : max (rs q0) lo = lo + 0)
      (by show q0 ≤ it.riStart; omega) (by show it.riStart < q1; omega)
      (by show rs it.riStart ≤ lo + 0; rw [hrs]; omega) hn hk
  | eoi =>
    rw [next_eoi hpos.1]
    exact ⟨⟨hcfg, herr, hpos⟩, rfl, by rw [hpos.1]; simp⟩
  | «at» i =>
    have h : Rel kvs off rs lo hi q0 q1 it (.at i) := ⟨hcfg, herr, hpos⟩
    obtain ⟨hdir, hoff, hkey, _, hr1, hr2, hr3⟩ := h.at_facts
    have hi' := hpos.1
    simp only [Cursor.next, hlen]
    exact next_lands L (h.mid S) hdir hoff (Or.inr ⟨by omega, by rw [hkey]; congr 1⟩) (by omega)
      (by omega : max (lo + i + 1) lo = lo + (i + 1)) hr1 hr2 (by omega)

end GoLevel.C13

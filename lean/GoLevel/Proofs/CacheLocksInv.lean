import GoLevel.Proofs.CacheLocks
import GoLevel.Proofs.ListSum
import GoLevel.Proofs.Order
/-! The lock-level cache system (C17): the lock invariant.  `LInv` says that every thread is `TOK` (its
read locks against its instruction list), that each of the two `RWMutex`es is `WOK` (its reader count and announced
writer against the threads' `held` lists and `Close` phases — one statement, instantiated for `mu` and `unrefMu`
through `ann` and `hel`), and that the base system's reader count is the sum of the two.  A step changes one thread:
`linv_set` is the frame, `WOK.phase` / `WOK.held` keep a lock `WOK` when that thread changes phase / takes or
releases read locks. -/
namespace GoLevel.CacheL
open GoLevel.CacheM

theorem sysStep_at {b b' : Sys} {t : Nat} {i : Instr} {rest : List Instr} (hT : b.threads[t]? = some (i :: rest))
    (hs : sysStep false b (.step t) = some b') :
    ∃ sh' push evs, exec b.sh i = some (sh', push, evs) ∧
      b' = { sh := sh', threads := b.threads.set t (push ++ rest), log := b.log ++ evs } := by
  rcases sysStep_cases hs with ⟨_, _, hcall, _⟩ | ⟨t', i', rest', sh', push, evs, hact, ht', he, _, rfl⟩
  · cases hcall
  · injection hact with hact; subst hact
    rw [hT] at ht'; injection ht' with ht'; injection ht' with hi hr; subst hi; subst hr
    exact ⟨sh', push, evs, he, rfl⟩

/-- Where `unrefMu` is read-locked: the rest of `unRefExternal` follows, then its `RUnlock`. -/
def unShape (T : List Instr) : Prop :=
  (∃ r, T = .runlock :: r) ∨ (∃ k r, T = .delz k :: .runlock :: r) ∨ (∃ id f r, T = .fin id f :: .runlock :: r)

def preBody : Phase → Bool
  | .annMu | .hasMu | .annUn | .hasBoth => true
  | _ => false

def unPhase : Phase → Bool
  | .annUn | .hasBoth | .relUn => true
  | _ => false

def muHeld : Phase → Bool
  | .hasMu | .annUn | .hasBoth | .relUn | .relMu => true
  | _ => false

def unHeld : Phase → Bool
  | .hasBoth | .relUn => true
  | _ => false

def cnt (l : LockId) (tl : List LThread) : Nat := (tl.map fun th => th.held.count l).sum

theorem get_set_self {α : Type} {l : List α} {t : Nat} {a b : α} (h : l[t]? = some a) :
    (l.set t b)[t]? = some b := by
  rw [List.getElem?_set]; simp [(List.getElem?_eq_some_iff.mp h).1]

theorem set_self {α : Type} {l : List α} {t : Nat} {a : α} (h : l[t]? = some a) : l.set t a = l := by
  apply List.ext_getElem?; intro j
  by_cases hj : j = t
  · subst hj; rw [get_set_self h, h]
  · rw [List.getElem?_set_ne (Ne.symm hj)]

theorem sum_set {l : List Nat} {i a b : Nat} (h : l[i]? = some a) : (l.set i b).sum + a = l.sum + b := by
  simpa using sum_map_set id h b

theorem cnt_set {l : LockId} {tl : List LThread} {t : Nat} {th th' : LThread} (h : tl[t]? = some th) :
    cnt l (tl.set t th') + th.held.count l = cnt l tl + th'.held.count l :=
  sum_map_set (fun th : LThread => th.held.count l) h th'

theorem cnt_pos {l : LockId} {tl : List LThread} (h : 0 < cnt l tl) :
    ∃ (t : Nat) (th : LThread), tl[t]? = some th ∧ l ∈ th.held :=
  let ⟨t, th, h1, h2⟩ := exists_of_sum_map_pos (fun th : LThread => th.held.count l) h
  ⟨t, th, h1, List.count_pos_iff.mp h2⟩

/-- The phases in which a thread has announced itself as writer of `l` … -/
def ann : LockId → Phase → Bool
  | .mu, .idle => false
  | .mu, _ => true
  | .un, p => unPhase p

/-- … and those in which it holds `l`. -/
def hel : LockId → Phase → Bool
  | .mu, p => muHeld p
  | .un, p => unHeld p

theorem ann_idle (l : LockId) : ann l .idle = false := by cases l <;> rfl
theorem ann_of_hel {l : LockId} {p : Phase} (h : hel l p = true) : ann l p = true := by
  cases l <;> cases p <;> first | rfl | cases h
theorem ann_mu {p : Phase} : ann .mu p = true ↔ p ≠ .idle := by cases p <;> simp [ann]

structure WOK (l : LockId) (rw : RW) (tl : List LThread) : Prop where
  count : rw.readers = cnt l tl
  writer_of_ann : ∀ (t : Nat) (th : LThread), tl[t]? = some th → ann l th.phase = true → rw.writer = some t
  ann_of_writer : ∀ t, rw.writer = some t → ∃ th : LThread, tl[t]? = some th ∧ ann l th.phase = true
  excl : ∀ (t : Nat) (th : LThread), tl[t]? = some th → hel l th.phase = true → rw.readers = 0

theorem WOK.writer_eq {l : LockId} {rw : RW} {tl : List LThread} {t : Nat} {th : LThread} (h : WOK l rw tl)
    (hth : tl[t]? = some th) (hoth : ∀ t2 th2, t2 ≠ t → tl[t2]? = some th2 → th2.phase = .idle) :
    rw.writer = if ann l th.phase = true then some t else none := by
  split
  · exact h.writer_of_ann t th hth ‹_›
  · cases hl : rw.writer with
    | none => rfl
    | some t' =>
      obtain ⟨th', h1, h2⟩ := h.ann_of_writer t' hl
      by_cases ht : t' = t
      · subst ht; rw [hth] at h1; cases h1; exact absurd h2 ‹_›
      · rw [hoth t' th' ht h1, ann_idle] at h2; cases h2

theorem WOK.phase {l : LockId} {rw rw' : RW} {tl : List LThread} {t : Nat} {th : LThread} {p' : Phase}
    (h : WOK l rw tl) (hth : tl[t]? = some th)
    (hoth : ∀ t2 th2, t2 ≠ t → tl[t2]? = some th2 → th2.phase = .idle)
    (hr : rw'.readers = rw.readers) (hw : rw'.writer = if ann l p' = true then some t else none)
    (hx : hel l p' = true → rw.readers = 0) : WOK l rw' (tl.set t { th with phase := p' }) := by
  have hnew : ∀ {t2 : Nat} {th2 : LThread}, (tl.set t { th with phase := p' })[t2]? = some th2 →
      ann l th2.phase = true → t2 = t ∧ th2.phase = p' := by
    intro t2 th2 h1 ha
    rcases getElem?_set_cases h1 with ⟨rfl, rfl⟩ | ⟨hne, h1'⟩
    · exact ⟨rfl, rfl⟩
    · rw [hoth t2 th2 hne.symm h1', ann_idle] at ha; cases ha
  refine ⟨?_, fun t2 th2 h1 ha => ?_, fun t2 hw2 => ?_, fun t2 th2 h1 hh => ?_⟩
  · have := cnt_set (l := l) (th' := { th with phase := p' }) hth
    rw [hr, h.count]; simp only [] at this; omega
  · obtain ⟨rfl, hq⟩ := hnew h1 ha
    rw [hw, if_pos (hq ▸ ha)]
  · rw [hw] at hw2
    split at hw2
    · cases hw2; exact ⟨_, get_set_self hth, ‹_›⟩
    · cases hw2
  · obtain ⟨rfl, hq⟩ := hnew h1 (ann_of_hel hh)
    rw [hr]; exact hx (hq ▸ hh)

/-- `hle`: a new reader only comes in while no writer is announced. -/
theorem WOK.held {l : LockId} {rw rw' : RW} {tl : List LThread} {t : Nat} {th : LThread} {held' : List LockId}
    (h : WOK l rw tl) (hth : tl[t]? = some th) (hw : rw'.writer = rw.writer)
    (hr : rw'.readers + th.held.count l = rw.readers + held'.count l)
    (hle : rw'.readers ≤ rw.readers ∨ rw.writer = none) : WOK l rw' (tl.set t { th with held := held' }) := by
  have hfwd : ∀ {t2 : Nat} {th2 : LThread}, (tl.set t { th with held := held' })[t2]? = some th2 →
      ∃ th0, tl[t2]? = some th0 ∧ th0.phase = th2.phase := by
    intro t2 th2 h1
    rcases getElem?_set_cases h1 with ⟨rfl, rfl⟩ | ⟨_, h1'⟩
    · exact ⟨th, hth, rfl⟩
    · exact ⟨th2, h1', rfl⟩
  refine ⟨?_, fun t2 th2 h1 ha => ?_, fun t2 hw2 => ?_, fun t2 th2 h1 hh => ?_⟩
  · have := cnt_set (l := l) (th' := { th with held := held' }) hth
    have := h.count
    simp only [] at *; omega
  · obtain ⟨th0, h0, hq⟩ := hfwd h1
    rw [hw]; exact h.writer_of_ann _ th0 h0 (hq ▸ ha)
  · obtain ⟨th0, h1, h2⟩ := h.ann_of_writer t2 (hw ▸ hw2)
    by_cases hne : t2 = t
    · subst hne; rw [hth] at h1; cases h1; exact ⟨_, get_set_self hth, h2⟩
    · exact ⟨th0, (List.getElem?_set_ne (Ne.symm hne)).trans h1, h2⟩
  · obtain ⟨th0, h0, hq⟩ := hfwd h1
    rw [← hq] at hh
    have h00 := h.excl _ th0 h0 hh
    rcases hle with h1 | h1
    · omega
    · rw [h.writer_of_ann _ th0 h0 (ann_of_hel hh)] at h1; cases h1

/-- `held` is a stack: `unrefMu` is held at most once, innermost. -/
structure TOK (th : LThread) (T : List Instr) : Prop where
  runlocks : th.held.length = T.count .runlock
  closing : th.phase ≠ .idle → th.held = [] ∧ (preBody th.phase = true → ∃ f, T = [Instr.closeLock f])
  unref : LockId.un ∈ th.held → (∃ hs, th.held = LockId.un :: hs ∧ LockId.un ∉ hs) ∧ unShape T

theorem TOK.of_holder {th : LThread} {T : List Instr} {l : LockId} (h : TOK th T) (hl : l ∈ th.held) :
    th.phase = .idle ∧ Instr.runlock ∈ T :=
  ⟨Decidable.byContradiction fun hne => (by rw [(h.closing hne).1] at hl; cases hl),
    List.count_pos_iff.mp (by rw [← h.runlocks]; exact List.length_pos_of_mem hl)⟩

/-- Invariant of the lock-level system for the code as it is: `unRefExternal` uses `unrefMu`. -/
structure LInv (ls : LSys) : Prop where
  len : ls.tl.length = ls.base.threads.length
  thr : ∀ (t : Nat) (th : LThread) (T : List Instr), ls.tl[t]? = some th → ls.base.threads[t]? = some T → TOK th T
  lk : ∀ l, WOK l (ls.lock l) ls.tl
  readers : ls.base.sh.rlock = ls.mu.readers + ls.un.readers

theorem LInv.mu_writer {ls : LSys} (h : LInv ls) : ∀ (t : Nat) (th : LThread), ls.tl[t]? = some th →
    th.phase ≠ Phase.idle → ls.mu.writer = some t := fun t th a hp => (h.lk .mu).writer_of_ann t th a (ann_mu.mpr hp)

theorem linv_set {ls : LSys} {t : Nat} {th' : LThread} {T T' : List Instr} {b' : Sys} {mu' un' : RW}
    (h : LInv ls) (hT : ls.base.threads[t]? = some T)
    (hthr : b'.threads = ls.base.threads.set t T') (hok : TOK th' T')
    (hmu : WOK .mu mu' (ls.tl.set t th')) (hun : WOK .un un' (ls.tl.set t th'))
    (hk7 : b'.sh.rlock = mu'.readers + un'.readers) :
    LInv { ls with base := b', tl := ls.tl.set t th', mu := mu', un := un' } := by
  refine ⟨by simp [h.len, hthr], fun t2 th2 T2 h1 h2 => ?_, fun l => by cases l <;> assumption, hk7⟩
  simp only [] at h2
  rcases getElem?_set_cases h1 with ⟨rfl, rfl⟩ | ⟨hne, h1'⟩
  · rw [hthr, get_set_self hT] at h2; cases h2; exact hok
  · rw [hthr, List.getElem?_set_ne hne] at h2; exact h.thr _ _ _ h1' h2

end GoLevel.CacheL

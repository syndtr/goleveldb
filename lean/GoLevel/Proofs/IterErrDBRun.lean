import GoLevel.Proofs.IterErrDB
/-!
# `EDBIter`: every call sequence (C02 / C08)
-/
namespace GoLevel

namespace DBIter
variable {σ τ : Type} {o : EIterOps σ} {sh : IterOps τ} {π : σ → τ} {H : σ → Prop} {F : σ → Err → Prop}

theorem step_raw_failed (hf : FailSim o sh π H F) (c : UCmp) (cl : Call Bytes) (d : DBIter σ) (e : Err)
    (hv : d.dir.valid = true) (he : F d.raw e) :
    (step o.toIterOps c cl d).dir.valid = false ∧ F (step o.toIterOps c cl d).raw e := by
  have hnr : d.dir ≠ .released := by intro h; rw [h] at hv; cases hv
  have hne : d.dir ≠ .eoi := by intro h; rw [h] at hv; cases hv
  have hns : d.dir ≠ .soi := by intro h; rw [h] at hv; cases hv
  have nok : ∀ s, F s e → o.ok s = false := fun s h => hf.nok_of_failed s e h
  have mv : ∀ cl', F (o.toIterOps.step cl' d.raw) e := fun cl' => hf.sticky _ e cl' he
  cases cl with
  | first =>
    have h1 : F (o.first d.raw) e := mv .first
    simp only [step, first, hnr, if_false, nok _ h1, Bool.false_eq_true]
    exact ⟨rfl, h1⟩
  | last =>
    have h1 : F (o.last d.raw) e := mv .last
    simp only [step, last, hnr, if_false, nok _ h1, Bool.false_eq_true]
    exact ⟨rfl, h1⟩
  | seek k =>
    have h1 : F (o.seek (mkIKey k d.seq Gen.keyTypeSeek) d.raw) e := mv (.seek _)
    simp only [step, seek, hnr, if_false, nok _ h1, Bool.false_eq_true]
    exact ⟨rfl, h1⟩
  | next =>
    have h1 : F (o.next d.raw) e := mv .next
    simp only [step, next, hnr, hne, or_self, if_false, nok _ h1, Bool.not_false, if_true]
    exact ⟨rfl, h1⟩
  | prev =>
    simp only [step]
    cases hd : d.dir with
    | soi => exact absurd hd hns
    | eoi => exact absurd hd hne
    | released => exact absurd hd hnr
    | forward =>
      rw [prev_forward_eq d hd]
      have hb : (backLoop o.toIterOps c d.fuel d).2 = false ∧
          F (backLoop o.toIterOps c d.fuel d).1.raw e := by
        cases d.fuel with
        | zero => exact ⟨rfl, he⟩
        | succ n =>
          rw [backLoop_succ, show o.cur (o.prev d.raw) = none from hf.masked _ e (mv .prev)]
          exact ⟨rfl, mv .prev⟩
      simp only [hb.1, Bool.false_eq_true, if_false]
      exact ⟨rfl, hb.2⟩
    | backward =>
      simp only [prev, hd, prevScan, nok _ he, Bool.false_eq_true, if_false, if_true]
      exact ⟨rfl, he⟩

end DBIter

namespace EDBIter
variable {σ τ : Type} {o : EIterOps σ} {sh : IterOps τ} {π : σ → τ} {H : σ → Prop} {F : σ → Err → Prop}

/-- behind the guards `i.dir == dirEOI` of `Next` and `i.dir == dirSOI` of `Prev` the error-free call does nothing -/
theorem atEnd_step (p : IterOps σ) (c : UCmp) (cl : Call Bytes) (d : EDBIter σ) (h : atEnd cl d = true) :
    DBIter.step p c cl d.base = d.base := by
  cases cl with
  | next =>
    have : d.base.dir = .eoi := by simpa [atEnd] using h
    simp [DBIter.step, DBIter.next, this]
  | prev =>
    have : d.base.dir = .soi := by simpa [atEnd] using h
    simp [DBIter.step, DBIter.prev, this]
  | first => simp [atEnd] at h
  | last => simp [atEnd] at h
  | seek k => simp [atEnd] at h

theorem step_sticky (chk : Bool) (o : EIterOps σ) (c : UCmp) (cl : Call Bytes) (d : EDBIter σ) (e : Err)
    (h : d.err = some e) : step chk o c cl d = d := by
  simp [step, h]

theorem run_failed (chk : Bool) (o : EIterOps σ) (c : UCmp) (cs : List (Call Bytes)) (d : EDBIter σ) (e : Err)
    (h : d.err = some e) : ∀ r ∈ run chk o c d cs, r = (none, some e) := by
  induction cs with
  | nil => intro r hr; cases hr
  | cons cl cs ih =>
    intro r hr
    simp only [run, step_sticky chk o c cl d e h, List.mem_cons] at hr
    rcases hr with rfl | hr
    · simp [out, h]
    · exact ih r hr

theorem iterErr_failed (o : EIterOps σ) (d : EDBIter σ) (e : Err) (h : o.err d.base.raw = some e) :
    (iterErr o d).err = some e := by
  simp [iterErr, h, setErr]

theorem iterErr_healthy (o : EIterOps σ) (d : EDBIter σ) (h : o.err d.base.raw = none) :
    iterErr o d = d := by
  simp [iterErr, h]

theorem iterErr_of_none (o : EIterOps σ) (d : EDBIter σ) (h : (iterErr o d).err = none) : iterErr o d = d := by
  unfold iterErr at h ⊢
  split
  · rename_i e he; rw [he] at h; cases h
  · rfl

/-- `Error()` nil after the method: `iterErr()`, if consulted, found nothing -/
theorem finish_of_none (chk : Bool) (o : EIterOps σ) (cl : Call Bytes) (d : EDBIter σ) (b : DBIter σ)
    (h : (finish chk o cl d b).err = none) : finish chk o cl d b = { d with base := b } := by
  have hi := iterErr_of_none o { d with base := b }
  unfold finish at h ⊢
  split
  · split
    · rw [if_pos ‹_›, if_pos ‹_›] at h; exact hi h
    · rfl
  · rw [if_neg ‹_›] at h; exact hi h

theorem finish_healthy (chk : Bool) (o : EIterOps σ) (cl : Call Bytes) (d : EDBIter σ) (b : DBIter σ)
    (h : o.err b.raw = none) : finish chk o cl d b = { d with base := b } := by
  unfold finish
  have : iterErr o { d with base := b } = { d with base := b } := iterErr_healthy o _ h
  rw [this]; simp

theorem finish_failed_invalid (chk : Bool) (o : EIterOps σ) (cl : Call Bytes) (d : EDBIter σ) (b : DBIter σ)
    (e : Err) (h : o.err b.raw = some e) (hv : b.dir.valid = false) : (finish chk o cl d b).err = some e := by
  unfold finish
  simp only [hv, Bool.false_eq_true, if_false]
  exact iterErr_failed o _ e h

theorem finish_failed_chk (o : EIterOps σ) (cl : Call Bytes) (d : EDBIter σ) (b : DBIter σ)
    (e : Err) (h : o.err b.raw = some e) (hp : viaPrev cl = true) (hok : o.ok b.raw = false) :
    (finish true o cl d b).err = some e := by
  unfold finish
  simp only [hp, hok, Bool.not_false, Bool.and_self, if_true]
  split <;> exact iterErr_failed o _ e h

theorem finish_nochk (o : EIterOps σ) (cl : Call Bytes) (d : EDBIter σ) (b : DBIter σ)
    (hv : b.dir.valid = true) : finish false o cl d b = { d with base := b } := by
  unfold finish
  simp [hv]

theorem step_after_raw_failed (hf : FailSim o sh π H F) (chk : Bool) (c : UCmp) (cl : Call Bytes)
    (d : EDBIter σ) (e : Err) (herr : d.err = none) (hv : d.base.dir.valid = true)
    (hraw : F d.base.raw e) : (step chk o c cl d).err = some e := by
  obtain ⟨h1, h2⟩ := DBIter.step_raw_failed hf c cl d.base e hv hraw
  have hnr : d.base.dir ≠ .released := by intro h; rw [h] at hv; cases hv
  have hne : d.base.dir ≠ .eoi := by intro h; rw [h] at hv; cases hv
  have hns : d.base.dir ≠ .soi := by intro h; rw [h] at hv; cases hv
  have hend : atEnd cl d = false := by
    cases cl <;> simp [atEnd, hne, hns]
  unfold step
  simp only [herr, Option.isSome_none, Bool.false_eq_true, if_false, hend, hnr]
  exact finish_failed_invalid chk o cl d _ e (hf.ferr _ e h2) h1

theorem run_after_raw_failed (hf : FailSim o sh π H F) (chk : Bool) (c : UCmp) (cs : List (Call Bytes))
    (d : EDBIter σ) (e : Err) (herr : d.err = none) (hv : d.base.dir.valid = true)
    (hraw : F d.base.raw e) : ∀ r ∈ run chk o c d cs, r = (none, some e) := by
  cases cs with
  | nil => intro r hr; cases hr
  | cons cl cs =>
    intro r hr
    have h1 := step_after_raw_failed hf chk c cl d e herr hv hraw
    simp only [run, List.mem_cons] at hr
    rcases hr with rfl | hr
    · simp [out, h1]
    · exact run_failed chk o c cs _ e h1 r hr

section
variable (hf : FailSim o sh π H F) (chk : Bool) (c : UCmp)
include hf

theorem step_cases (cl : Call Bytes) (d : EDBIter σ) (herr : d.err = none) (hH : H d.base.raw) :
    ((step chk o c cl d).err = none ∧ H (step chk o c cl d).base.raw ∧
      (step chk o c cl d).base.mapRaw π = DBIter.step sh c cl (d.base.mapRaw π)) ∨
    (∃ e, (step chk o c cl d).err = some e) ∨
    (chk = false ∧ (step chk o c cl d).err = none ∧ (step chk o c cl d).base.dir.valid = true ∧
      ∃ e, F (step chk o c cl d).base.raw e) := by
  unfold step
  simp only [herr, Option.isSome_none, Bool.false_eq_true, if_false]
  cases hend : atEnd cl d with
  | true =>
    simp only [if_true]
    refine .inl ⟨herr, hH, ?_⟩
    rw [atEnd_step sh c cl ⟨d.base.mapRaw π, d.err⟩ hend]
  | false =>
    simp only [Bool.false_eq_true, if_false]
    split
    · exact .inr (.inl ⟨.released, rfl⟩)
    · rcases DBIter.step_couple hf c cl d.base hH with ⟨h1, h2⟩ | ⟨⟨e, he⟩, hnp⟩
      · have hno := hf.herr _ h1
        rw [finish_healthy chk o cl d _ hno]
        exact .inl ⟨herr, h1, h2⟩
      · have nok : o.ok (DBIter.step o.toIterOps c cl d.base).raw = false := hf.nok_of_failed _ e he
        have he' := hf.ferr _ e he
        cases hv : (DBIter.step o.toIterOps c cl d.base).dir.valid with
        | false => exact .inr (.inl ⟨e, finish_failed_invalid chk o cl d _ e he' hv⟩)
        | true =>
          have hvp : viaPrev cl = true := by
            cases hvp : viaPrev cl with
            | true => rfl
            | false => rw [hnp hvp] at hv; cases hv
          cases chk with
          | true => exact .inr (.inl ⟨e, finish_failed_chk o cl d _ e he' hvp nok⟩)
          | false =>
            rw [finish_nochk o cl d _ hv]
            exact .inr (.inr ⟨rfl, herr, hv, e, he⟩)

/-- **every call sequence**, against the answers of the error-free `DBIter` over the twin, whatever the twin is (when
it simulates a cursor they are, by C02, the cursor's): as found (D40, `chk = false`) the failing call may still serve
a pair (`ReportedLate`); since the repair (`chk = true`) it returns `false` with the error (`Reported`) -/
theorem run_reported_twin (cs : List (Call Bytes)) (d : EDBIter σ) (herr : d.err = none) (hH : H d.base.raw) :
    ReportedLate (run chk o c d cs) (DBIter.run sh c (d.base.mapRaw π) cs) ∧
    (chk = true → Reported (run chk o c d cs) (DBIter.run sh c (d.base.mapRaw π) cs)) := by
  induction cs generalizing d with
  | nil => exact ⟨trivial, fun _ => trivial⟩
  | cons cl cs ih =>
    simp only [run, DBIter.run]
    rcases step_cases hf chk c cl d herr hH with ⟨h1, h2, h3⟩ | ⟨e, h1⟩ | ⟨h0, h1, hv, e, he⟩
    · rw [h1, ← h3]
      have hout : (step chk o c cl d).out = ((step chk o c cl d).base.mapRaw π).out := by
        simp only [out, h1, Option.isSome_none, Bool.false_eq_true, if_false]; rfl
      have := ih _ h1 h2
      exact ⟨.inl ⟨hout, this.1⟩, fun hc => ⟨hout, this.2 hc⟩⟩
    · rw [h1]
      have := run_failed chk o c cs _ e h1
      exact ⟨⟨by simp [out, h1], this⟩, fun _ => ⟨by simp [out, h1], this⟩⟩
    · rw [h1]
      exact ⟨.inr ⟨by simp [out, h1, DBIter.out, hv], e, run_after_raw_failed hf chk c cs _ e h1 hv he⟩,
        fun hc => by rw [hc] at h0; cases h0⟩

end
end EDBIter
end GoLevel

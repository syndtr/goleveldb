import GoLevel.Proofs.FSMetaLive
import GoLevel.Proofs.FSMetaShape
/-! `setMeta` from a clean directory with exactly one failing system call: which failures are "with effect". -/
namespace GoLevel.FSMeta

def oneFault (k : Nat) (f : Fault) : Nat → Fault := fun j => if j = k then f else .ok

/-- the system calls of `setMeta b` from a clean directory are, in order: 0 `Stat(CURRENT)`, 1 `ReadFile(CURRENT)`,
    2-5 `OpenFile`/`Write`/`Sync`/`Close` of `CURRENT.bak`, 6-9 the same of `CURRENT.<b>`, 10 `rename`, 11 `syncDir`.
    If exactly the `k`-th fails, `setMeta` returns the error and `GetMeta` then answers: `a` for `k ≤ 7` (up to and
    including the `Write` of the new file); for `k ∈ {8, 9, 10}` (its `Sync`, its `Close`, the `rename`) `b` when `b`
    is the greater number and `a` otherwise; `b` for `k = 11` (`syncDir`). -/
theorem failure_table (p : CleanP) (hp : p.Ok) (k : Nat) (hk : k < 12) (f : Fault) (hf : f = .fail ∨ f = .failPartial)
    (ro : Bool) :
    (setMeta {} (m p.b) (W.of p.fs (oneFault k f))).1 = .error .io ∧
    (setMeta {} (m p.b) (W.of p.fs (oneFault k f))).2.dead = false ∧
    ask {} ro (setMeta {} (m p.b) (W.of p.fs (oneFault k f))).2.fs =
      .ok (if k ≤ 7 then m p.a else if k ≤ 10 then (if p.a < p.b then m p.b else m p.a) else m p.b) := by
  -- `GetMeta` need not be run: its answer is `liveAnswer`, a test on two file contents
  have hs := setMeta_shape p hp (oneFault k f)
  rw [shape_live p hp hs]
  obtain ⟨a, b, ca, bak, files⟩ := p
  obtain ⟨hne, fa, fb⟩ := hp
  try simp only at hne fa fb
  have hne' : ¬ b = a := fun h => hne h.symm
  clear hs
  -- `sys_soft` goes in as a pre-lemma (`↓`): it has to be tried before `sys` is unfolded, and its side conditions are
  -- met only by a world written as a record, hence `W.of` first
  simp only [W.of]
  by_cases hw : k = 3 ∨ k = 7
  · -- the two `Write`s: the only calls with a partial effect
    cases bak <;> rcases hw with rfl | rfl <;> rcases hf with rfl | rfl <;> simp [*, oneFault, liveAnswer, fsm_eval]
  · have hk' : k = 0 ∨ k = 1 ∨ k = 2 ∨ k = 4 ∨ k = 5 ∨ k = 6 ∨ k = 8 ∨ k = 9 ∨ k = 10 ∨ k = 11 := by omega
    cases bak <;> rcases hk' with rfl | rfl | rfl | rfl | rfl | rfl | rfl | rfl | rfl | rfl <;>
      simp [*, oneFault, liveAnswer, fsm_eval, ↓sys_soft hf, nxt]

end GoLevel.FSMeta

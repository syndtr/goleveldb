import GoLevel.Proofs.SessionOps
/-! `session.setVersion` installing a version: the simulation after `v.incref()` and the delta; the operations built on
it: `session.commit` (success), `session.recover`, and `session.close` (the closing version is referenced, the current
version released without a delta) (C07). -/
namespace GoLevel.Session
open GoLevel GoLevel.RefLoop

theorem envInstalled_T (G : EnvF) (s : Slot) (k : Nat) : (envInstalled G s).T k = (G.push s).T k :=
  EnvF.T_congr (G := G.push s) (G' := envInstalled G s) rfl k
theorem envInstalled_L (G : EnvF) (s : Slot) (k : Nat) : (envInstalled G s).L k = (G.push s).L k :=
  EnvF.L_congr (G := G.push s) (G' := envInstalled G s) rfl k
theorem envInstalled_inst (G : EnvF) (s : Slot) (k : Nat) : (envInstalled G s).inst k ↔ (G.push s).inst k :=
  EnvF.inst_congr (G := G.push s) (G' := envInstalled G s) rfl k

/-- The session after `nv.incref()`, the delta and `s.stVersion = nv`, before the old version is released. -/
def installed (s : Sess) (mf : Bool) (nv : Version) : Sess :=
  { s with objs := s.objs ++ [⟨s.nt, nv.nums, 0⟩], cur := s.nt, lsm := nv, nt := s.nt + 1, manifest := mf }

theorem sim_installed {y : Sys} {G : EnvF} {U : List Nat} (h : Sim y G U) (hc : y.sess.closed = false)
    {nv : Version} {L : List Nat} {din : Delta} {mf : Bool} {l1 : State} {rm1 : List Nat}
    (ok1 : LoopOK l1 (envInstalled G (.inst nv.nums L din)) (y.requests ++ rm1))
    (le1 : y.loop.next ≤ l1.next)
    (sf1 : SafeF (envInstalled G (.inst nv.nums L din)) l1.next rm1)
    (hview : L = if mf then nv.nums else []) :
    Sim ⟨installed y.sess mf nv, l1, y.requests ++ rm1⟩ (envInstalled G (.inst nv.nums L din))
      ((U ++ nv.nums).filter (fun f => decide (f ∉ rm1))) := by
  have hN := h.N_open hc
  obtain ⟨hdn, hcur⟩ := h.cur hc
  have hNpos := h.N_pos
  obtain ⟨hids, hobjs⟩ := h.objs_push hN (fs := nv.nums) (L := L) (din := din)
    (G' := envInstalled G (.inst nv.nums L din)) rfl rfl
  refine ⟨ok1, ?_, Nat.succ_pos _, ?_, ?_, hids, fun o ho => (hobjs o ho).1, ?_, fun o ho => (hobjs o ho).2,
    ?_, ?_, ?_, ?_⟩
  · show (G.vs ++ [_]).length = (y.sess.nt + 1) + _
    simp only [List.length_append, List.length_singleton]
    have : G.vs.length = y.sess.nt := hN
    rw [this]; simp [installed, hc]
  · exact hc.symm
  · intro _
    refine ⟨hN, ?_⟩
    show (G.vs ++ [_]).length ≤ (envInstalled G _).up (G.N + 1)
    rw [EnvF.up_of_ge (by show (G.vs ++ [_]).length ≤ _; simp [EnvF.N])]
    simp [EnvF.N]
  · intro _ k h1 h2
    rcases EnvF.push_inst_cases ((envInstalled_inst _ _ _).mp h1) with ⟨h3, h4⟩ | ⟨h3, _⟩
    · obtain ⟨o, ho, rfl⟩ := h.objs' hc k h4 h2
      exact ⟨o, List.mem_append_left _ ho, rfl⟩
    · exact ⟨_, List.mem_append_right _ List.mem_cons_self, by rw [h3, hN]⟩
  · intro _
    show nv.nums = (envInstalled G _).T y.sess.nt
    rw [envInstalled_T, ← hN, EnvF.push_T_eq]; rfl
  · intro _
    show (envInstalled G _).L y.sess.nt = if mf then (envInstalled G _).T y.sess.nt else []
    rw [envInstalled_L, envInstalled_T, ← hN, EnvF.push_L_eq, EnvF.push_T_eq, hview]; rfl
  · intro _
    refine used_step (new := nv.nums) (h.used hc) (fun k hik hal => ?_) sf1 rfl
    rcases EnvF.push_inst_cases ((envInstalled_inst _ _ _).mp hik) with ⟨h3, h4⟩ | ⟨h3, _⟩
    · left
      refine ⟨h4, hal.anti (fun _ h => h) ?_, by rw [envInstalled_T, EnvF.push_T_lt h3]⟩
      rw [← (cb_pushF h.ok.inv.wf (s := .inst nv.nums L din) hNpos y.loop.next).1]
      exact cb_installed (h.ok.inv.wf.dn_lt hNpos) _ le1
    · right
      intro f hf
      rw [envInstalled_T, h3, EnvF.push_T_eq] at hf; exact hf
  · intro hc'; rw [show (installed y.sess mf nv).closed = y.sess.closed from rfl, hc] at hc'; cases hc'

theorem filter_filter_notin (l rm1 rm2 : List Nat) :
    (l.filter (fun f => decide (f ∉ rm1))).filter (fun f => decide (f ∉ rm2)) =
    l.filter (fun f => decide (f ∉ rm1 ++ rm2)) := by
  rw [List.filter_filter]
  apply List.filter_congr
  intro f _
  simp [List.mem_append, not_or, Bool.and_comm]

theorem sim_setVersion {y : Sys} {G : EnvF} {U : List Nat} (h : Sim y G U) (hc : y.sess.closed = false)
    {nv : Version} {r' : Edit} {L : List Nat} {mf : Bool}
    (hnd : nv.nums.Nodup) (hnl : L.Nodup) (hsub : ∀ f ∈ L, f ∈ nv.nums)
    (hmono : ∀ f ∈ nv.nums, ∀ j l, j < l → G.inst l → G.alive y.loop.next j → f ∈ G.T j → f ∈ G.T l)
    (hleft : ∀ f ∈ nv.nums, ∀ j, G.alive y.loop.next j → f ∈ G.T j → f ∈ L)
    (hex : NetExact (G.L G.dn) (mkDelta r') L) (hkeep : ∀ f, f ∈ G.T G.dn → f ∉ G.L G.dn → f ∈ L)
    (hview : L = if mf then nv.nums else []) {p : Sess × List Msg}
    (hp : ({ y.sess with nt := y.sess.nt + 1, manifest := mf }).setVersion (some r') y.sess.nt nv = p) :
    ∃ l' rm G', deliver y.loop p.2 = some (l', rm) ∧
      Sim ⟨p.1, l', y.requests ++ rm⟩ G' ((U ++ nv.nums).filter (fun f => decide (f ∉ rm))) ∧
      SafeF G' l'.next rm := by
  subst hp
  have hGc : G.closing = false := by rw [h.closing]; exact hc
  have hN := h.N_open hc
  obtain ⟨hdn, hcur⟩ := h.cur hc
  obtain ⟨l1, rm1, e1, ok1, le1, sf1⟩ :=
    install_chain h.ok hGc h.N_pos hcur hnd hnl hsub hmono hleft hex hkeep
  have hs1 := sim_installed h hc ok1 le1 sf1 hview
  obtain ⟨_, _, o, ho, hoid⟩ := h.cur_obj hc
  have hlt := h.ok.inv.wf.dn_lt h.N_pos
  obtain ⟨l2, rm2, G', e2, hs2, sf2⟩ := sim_drop hs1 (o := o) (List.mem_append_left _ ho)
    (fun hh => by have : o.id = y.sess.nt := hh.1; omega) (Or.inl (by rw [hoid]; exact hlt)) sf1
  rw [hoid, hdn] at e2 hs2
  rw [filter_filter_notin, List.append_assoc] at hs2
  rw [hN, hdn] at e1
  exact ⟨l2, rm1 ++ rm2, G', run_append e1 e2, hs2, sf2⟩

theorem commit_mono {y : Sys} {G : EnvF} {U : List Nat} (h : Sim y G U) (hc : y.sess.closed = false)
    {c : UCmp} {r : Edit} (hf : EditFacts y.sess.lsm c r U) :
    ∀ f ∈ (y.sess.lsm.apply c r).nums, ∀ j l, j < l → G.inst l → G.alive y.loop.next j → f ∈ G.T j → f ∈ G.T l := by
  intro f hfn j l hjl hil hal hfj
  obtain ⟨hdn, hcur⟩ := h.cur hc
  have hfU : f ∈ U := h.used hc j (EnvF.mem_T_inst hfj) hal f hfj
  have hfcur : f ∈ G.T G.dn := by
    rw [hdn, ← h.lsm hc]
    rcases (hf.mem f).mp hfn with h1 | h1
    · exact h1.1
    · rcases hf.fresh f h1 with h2 | h2
      · exact absurd hfU h2
      · exact hf.del f h2
  have hl : l ≤ G.dn := by
    rcases Nat.lt_or_ge G.dn l with h1 | h1
    · have h2 : G.up (G.dn + 1) ≤ l := EnvF.up_le_of_inst (by omega) hil
      have := EnvF.inst_lt hil
      omega
    · exact h1
  by_cases hld : l = G.dn
  · rw [hld]; exact hfcur
  · apply Classical.byContradiction
    intro hnl
    exact h.ok.gl.gone f j l G.dn hjl (by omega) hil hal hfj hnl hfcur

theorem step_commit {y : Sys} {G : EnvF} {U : List Nat} (h : Sim y G U) (c : UCmp) (r : Edit)
    (hok : OpOK y.sess U (.commit c r)) : StepOK y U (.commit c r) := by
  intro s' ms hop
  obtain ⟨hf, hdel⟩ := hok
  obtain ⟨hc, hop⟩ := of_guard hop
  obtain ⟨hdn, hcur⟩ := h.cur hc
  -- the loop's view of the current version is its table list, or empty before the first manifest
  obtain ⟨hex, hkeep⟩ : NetExact (G.L G.dn)
        (mkDelta (if y.sess.manifest then r else fillRecord r (y.sess.lsm.apply c r))) (y.sess.lsm.apply c r).nums ∧
      ∀ f, f ∈ G.T G.dn → f ∉ G.L G.dn → f ∈ (y.sess.lsm.apply c r).nums := by
    have hv := h.view hc
    rw [hdn]
    cases hm : y.sess.manifest
    · rw [hm] at hv
      simp only [Bool.false_eq_true, if_false] at hv ⊢
      rw [hv]
      exact ⟨netExact_first hf (hdel hm), fun f h1 _ =>
        (hf.mem f).mpr (Or.inl ⟨by rw [h.lsm hc]; exact h1, by simp [Edit.delNums, hdel hm]⟩)⟩
    · rw [hm] at hv
      simp only [if_true] at hv ⊢
      rw [hv, ← h.lsm hc]
      exact ⟨netExact_commit hf (h.cur_used hc), fun f h1 h2 => absurd h1 h2⟩
  exact sim_setVersion h hc (mf := true) (L := (y.sess.lsm.apply c r).nums)
    (r' := if y.sess.manifest then r else fillRecord r (y.sess.lsm.apply c r))
    hf.nodup hf.nodup (fun _ hx => hx) (commit_mono h hc hf) (fun f hx _ _ _ => hx) hex hkeep rfl hop

theorem step_recover {y : Sys} {G : EnvF} {U : List Nat} (h : Sim y G U) (v : Version)
    (hok : OpOK y.sess U (.recover v)) : StepOK y U (.recover v) := by
  intro s' ms hop
  obtain ⟨hnt, hmf, hnd, hfresh⟩ := hok
  obtain ⟨hc, hop⟩ := of_guard hop
  obtain ⟨hdn, hcur⟩ := h.cur hc
  have hN : G.N = 1 := (h.N_open hc).trans hnt
  have hd0 : G.dn = 0 := by have := h.ok.inv.wf.dn_lt h.N_pos; omega
  have hT0 : G.T G.dn = [] := by rw [hd0]; exact (h.ok.inv.wf.first h.N_pos).2
  have hL0 : G.L G.dn = [] := by
    have := h.view hc; rw [hmf] at this; rw [hdn]; simpa using this
  have hno : ∀ f ∈ v.nums, ∀ j, G.alive y.loop.next j → f ∉ G.T j := by
    intro f hf j hal hfj
    exact hfresh f hf (h.used hc j (EnvF.mem_T_inst hfj) hal f hfj)
  have hex : NetExact (G.L G.dn) (mkDelta ⟨[], []⟩) [] := by
    rw [hL0]
    exact ⟨List.nodup_nil, List.nodup_nil, (fun _ hx => by cases hx), fun _ => rfl⟩
  exact sim_setVersion h hc (mf := y.sess.manifest) (L := []) (r' := ⟨[], []⟩)
    (nv := v) hnd List.nodup_nil (fun _ hx => by cases hx)
    (fun f hf j l _ _ hal hfj => absurd hfj (hno f hf j hal))
    (fun f hf j hal hfj => absurd hfj (hno f hf j hal)) hex
    (fun f h1 _ => by rw [hT0] at h1; cases h1) (by rw [hmf]; rfl) hop

/-- the session after `setVersion(nil, closingVersion)` and `close(s.closeC)`, before the release of the old
current version is accounted for -/
def closedSess (s : Sess) : Sess :=
  { s with objs := s.objs ++ [⟨s.nt, [], 0⟩], cur := s.nt, lsm := ⟨[]⟩, closed := true }

def envClosing (G : EnvF) : EnvF := { G.push (.inst [] [] ⟨[], []⟩) with closing := true }

theorem sim_closing {y : Sys} {G : EnvF} {U : List Nat} (h : Sim y G U) (hc : y.sess.closed = false) :
    ∃ l1 rm1, run y.loop [.ref y.sess.nt []] = some (l1, rm1) ∧
      Sim ⟨closedSess y.sess, l1, y.requests ++ rm1⟩ (envClosing G) (U.filter (fun f => decide (f ∉ rm1))) ∧
      SafeF (envClosing G) l1.next rm1 := by
  have hGc : G.closing = false := by rw [h.closing]; exact hc
  have hN := h.N_open hc
  obtain ⟨hdn, hcur⟩ := h.cur hc
  have hs : EnvStepF y.loop.next G (.ref G.N []) (envClosing G) := EnvStepF.refClose G hGc h.N_pos hcur
  rw [hN] at hs
  obtain ⟨l1, rm1, e1, ok1, le1, sf1⟩ := single_chain h.ok hs
  have hlt : ∀ o ∈ y.sess.objs, o.id < G.N := fun o ho => EnvF.inst_lt (h.objs o ho).1
  obtain ⟨hids, hobjs⟩ := h.objs_push hN (fs := []) (L := []) (din := ⟨[], []⟩) (G' := envClosing G) rfl rfl
  have nc : ∀ {P : Prop}, (closedSess y.sess).closed = false → P := fun hc' => by cases hc'
  refine ⟨l1, rm1, e1, ⟨ok1, ?_, h.ntpos, rfl, nc, hids, fun o ho => (hobjs o ho).1, nc,
    fun o ho => (hobjs o ho).2, nc, nc, nc, ?_⟩, sf1⟩
  · show (G.push _).N = y.sess.nt + _
    rw [EnvF.push_N, hN]; rfl
  · intro _ o ho hid
    have hid' : o.id + 1 = G.N + 1 := by rw [hid]; show (G.push _).N = _; rw [EnvF.push_N]
    rcases List.mem_append.mp ho with ho | ho
    · have := hlt o ho; omega
    · simp only [List.mem_singleton] at ho
      subst ho; rfl

/-- `close(s.closeC)` commutes with the release of the old current version inside `setVersion` -/
theorem op_close {s : Sess} (hc : s.closed = false) (hne : s.cur ≠ s.nt) :
    s.op .close = some (((closedSess s).drop s.cur).1, .ref s.nt [] :: ((closedSess s).drop s.cur).2) := by
  simp only [Sess.op, hc, Bool.false_eq_true, if_false]
  rw [show closedSess s = { ({ s with objs := s.objs ++ [⟨s.nt, [], 0⟩], cur := s.nt, lsm := ⟨[]⟩ } : Sess) with
    closed := true } from rfl, drop_closed _ hne]
  rfl

theorem step_close {y : Sys} {G : EnvF} {U : List Nat} (h : Sim y G U) : StepOK y U .close := by
  intro s' ms hop
  by_cases hc : y.sess.closed = false
  · obtain ⟨hdn, hcur⟩ := h.cur hc
    have hlt := h.ok.inv.wf.dn_lt h.N_pos
    have hN := h.N_open hc
    rw [op_close hc (by omega), Option.some.injEq, Prod.mk.injEq] at hop
    obtain ⟨rfl, rfl⟩ := hop
    obtain ⟨l1, rm1, e1, hs1, sf1⟩ := sim_closing h hc
    obtain ⟨_, _, o, ho, hoid⟩ := h.cur_obj hc
    obtain ⟨l2, rm2, G', e2, hs2, sf2⟩ := sim_drop hs1 (o := o) (List.mem_append_left _ ho)
      (fun hh => hh.2 rfl) (Or.inr ⟨rfl, hoid⟩) sf1
    rw [hoid, hdn] at e2 hs2
    rw [filter_filter_notin, List.append_assoc] at hs2
    have hU : nextUsed U y.sess .close (rm1 ++ rm2) = U.filter (fun f => decide (f ∉ rm1 ++ rm2)) := by
      simp [nextUsed, newNums]
    exact ⟨l2, rm1 ++ rm2, G', run_append e1 e2, by rw [hU]; exact hs2, sf2⟩
  · simp [Sess.op, hc] at hop

end GoLevel.Session

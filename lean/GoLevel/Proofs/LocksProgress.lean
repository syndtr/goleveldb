import GoLevel.Proofs.LocksInv
/-! Progress (`compactionError` as coded, given the invariants `Good`): while a call is pending some fault-free step is
enabled, unless the only thing everybody waits for is the user's open transaction. -/
namespace GoLevel.Locks

open CompErr

/-- all invariants (they hold with the three fixes, `compactionError` as coded, and the fourth fix or no
`SetReadOnly`) -/
structure Good (s : St) : Prop where
  r : RInvW s
  a : PInvA s
  b : PInvB s
  c : PInvC s
  d : PInvD s
  e : PInvE s
  w : W1 s

variable {R : Cfg}

theorem offPer_of (hm : R.m = .asCoded R.closeSel) {e : Eh} (h : e = .hasperr) : offPer R.m e = true := by
  rw [hm]; exact (offPer_asCoded _ e).mpr h
theorem offErr_of (hm : R.m = .asCoded R.closeSel) {e : Eh} (h : e = .hasperr) : offErr R.m e = true := by
  rw [hm]; exact (offErr_asCoded _ e).mpr (Or.inr h)
theorem closes_of (hm : R.m = .asCoded R.closeSel) {e : Eh} (h : e = .hasperr) : closes R.m e = true := by
  rw [hm]; exact (closes_asCoded _ e).mpr (Or.inr (Or.inr h))

/-- program counters at which a thread never blocks -/
def free : Pc → Bool
  | .putFlush | .putJournal | .putUnlock _ | .otxBranch _ | .otxNewMem _ | .otxWaitComp _ | .otxFail _ | .otxRel _
  | .otxDone _ | .lgWrite | .cmFlush _ | .cmTry _ _ | .cmSleep _ _ | .cmFail3 _ | .cmAfterOk _ | .cmWaitComp _
  | .cmDone _ | .cmRet _ _ | .dcBody _ | .crCheck | .crNewMem | .crRelM | .crRelOk | .crRelFail | .clCheckTr
  | .clBody => true
  | _ => false

theorem free_step {s : St} {i : Nat} {p : Pc} (hi : s.ws[i]? = some p) (hp : free p = true) :
    ∃ t, Step R false s t := by
  cases p with
  | putFlush => exact ⟨_, .putNoWait _ _ hi⟩
  | putJournal => exact ⟨_, .putJournalOk _ _ hi⟩
  | putUnlock => exact ⟨_, .putUnlock _ _ _ hi⟩
  | otxBranch => exact ⟨_, .otxRotate _ _ _ hi⟩
  | otxNewMem => exact ⟨_, .otxNewMemOk _ _ _ hi⟩
  | otxWaitComp => exact ⟨_, .otxNoWaitComp _ _ _ hi⟩
  | otxFail => exact ⟨_, .otxFail _ _ _ hi⟩
  | otxRel => exact ⟨_, .otxRel _ _ _ hi⟩
  | otxDone => exact ⟨_, .otxDone _ _ _ hi⟩
  | lgWrite => exact ⟨_, .lgWriteOk _ _ hi⟩
  | cmFlush => exact ⟨_, .cmFlushOk _ _ _ hi⟩
  | cmTry => exact ⟨_, .cmTryOk _ _ _ _ hi⟩
  | cmSleep => exact ⟨_, .cmSleepTimer _ _ _ _ hi⟩
  | cmFail3 => exact ⟨_, .cmFail3 _ _ _ hi⟩
  | cmAfterOk => exact ⟨_, .cmAfterOk _ _ _ hi⟩
  | cmWaitComp => exact ⟨_, .cmNoWaitComp _ _ _ hi⟩
  | cmDone => exact ⟨_, .cmDone _ _ _ hi⟩
  | cmRet => exact ⟨_, .cmRet _ _ _ _ hi⟩
  | dcBody => exact ⟨_, .dcBody _ _ _ hi⟩
  | crCheck => exact ⟨_, .crNoOverlap _ _ hi⟩
  | crNewMem => exact ⟨_, .crNewMemOk _ _ hi⟩
  | crRelM => exact ⟨_, .crRelM _ _ hi⟩
  | crRelOk => exact ⟨_, .crRelOk _ _ hi⟩
  | crRelFail => exact ⟨_, .crRelFail _ _ hi⟩
  | clCheckTr => exact ⟨_, .clCheckTr _ _ hi⟩
  | clBody => exact ⟨_, .clBody _ _ hi⟩
  | _ => cases hp

/-- a `select` that talks to `compactionError` always has an enabled arm: the machine receives from `compErrSetC` (in
`noerr`, `haserr`), offers its persistent error (in `hasperr`), or has seen `closeC` -/
theorem eh_arms (hm : R.m = .asCoded R.closeSel) {s : St} (a : PInvA s) :
    recvs R.m s.eh = true ∨ offPer R.m s.eh = true ∨ s.closed = true := by
  rw [hm, recvs_asCoded, offPer_asCoded]
  cases he : s.eh with
  | noerr => exact .inl (.inl rfl)
  | haserr => exact .inl (.inr rfl)
  | hasperr => exact .inr (.inl rfl)
  | closing => exact .inr (.inr (a.eh_closing he))
  | exited => exact .inr (.inr (a.eh_exited he))

theorem setErr_step (hm : R.m = .asCoded R.closeSel) (s : St) (g : Good s) (b : Bool) (w : Option Nat) (ok c : Bool)
    (hb : s.bg b = .run w (.setErr ok c)) : ∃ t, Step R false s t := by
  rcases eh_arms hm g.a with he | he | hc
  · exact ⟨_, .bgSetErr s b w ok c hb he⟩
  · cases ok with
    | true => exact ⟨_, .bgSetErrPer s b w c hb he⟩
    | false => exact ⟨_, .bgExit s b w _ hb (.inr ⟨he, c, .inl rfl⟩)⟩
  · exact ⟨_, .bgExit s b w _ hb (.inl ⟨hc, nofun, nofun⟩)⟩

theorem setErrC_step (hm : R.m = .asCoded R.closeSel) (s : St) (g : Good s) (b : Bool) (w : Option Nat) (c : Bool)
    (hb : s.bg b = .run w (.setErrC c)) : ∃ t, Step R false s t := by
  rcases eh_arms hm g.a with he | he | hc
  · exact ⟨_, .bgSetErrCorrupt s b w c hb he⟩
  · exact ⟨_, .bgExit s b w _ hb (.inr ⟨he, c, .inr rfl⟩)⟩
  · exact ⟨_, .bgExit s b w _ hb (.inl ⟨hc, nofun, nofun⟩)⟩

theorem bgClk_step (hm : R.m = .asCoded R.closeSel) (s : St) (g : Good s) (b : Bool) (h : 0 < bgClk (s.bg b)) :
    ∃ t, Step R false s t := by
  cases hb : s.bg b with
  | run w ph =>
    rw [hb] at h
    cases ph with
    | commit => exact ⟨_, Step.bgCommitOk s b w hb⟩
    | setErr ok c => exact setErr_step hm s g b w ok c hb
    | setErrC c => exact setErrC_step hm s g b w c hb
    | backoff c => exact ⟨_, Step.bgBackoff s b w c hb⟩
    | _ => simp [bphClk] at h
  | _ => simp [hb] at h

/-- whoever holds `compCommitLk` can move -/
theorem clk_step (hm : R.m = .asCoded R.closeSel) (s : St) (g : Good s) (hc : s.clk = true) : ∃ t, Step R false s t := by
  have h := g.r.clkI
  rw [hc] at h; simp only [b2n_true] at h
  by_cases h1 : 0 < tot clkW s.ws
  · obtain ⟨i, p, hi, hp⟩ := exists_of_tot_pos clkW s.ws h1
    cases p <;> first | exact free_step hi rfl | exact absurd hp (Nat.lt_irrefl 0)
  · by_cases h2 : 0 < bgClk s.mc
    · exact bgClk_step hm s g false h2
    · exact bgClk_step hm s g true (show 0 < bgClk s.tc by omega)

theorem bg_run_step (hm : R.m = .asCoded R.closeSel) (s : St) (g : Good s) (b : Bool) (w : Option Nat) (ph : BPh)
    (hb : s.bg b = .run w ph) :
    ∃ t, Step R false s t := by
  cases ph with
  | work => exact ⟨_, Step.bgWorkOk s b w hb⟩
  | setErr ok c => exact setErr_step hm s g b w ok c hb
  | setErrC c => exact setErrC_step hm s g b w c hb
  | backoff c => exact ⟨_, Step.bgBackoff s b w c hb⟩
  | lockClk =>
    cases hc : s.clk with
    | false => exact ⟨_, Step.bgLockClk s b w hb hc⟩
    | true => exact clk_step hm s g hc
  | commit => exact ⟨_, Step.bgCommitOk s b w hb⟩
  | ackW => exact ⟨_, Step.bgAck s b w hb⟩

/-- `closed ∨ hasperr` enables the error arm of every wait -/
theorem alt_he (hm : R.m = .asCoded R.closeSel) (s : St) (h : Alt s) : offErr R.m s.eh = true ∨ s.closed = true := by
  rcases h with h | h
  · exact Or.inr h
  · exact Or.inl (offErr_of hm h)

theorem bg_exited_alt (s : St) (g : Good s) (b : Bool) (hb : s.bg b = .exited) : Alt s := by
  cases b with
  | false => exact g.a.mc_exited (by simpa [St.bg] using hb)
  | true => exact g.a.tc_exited (by simpa [St.bg] using hb)

theorem bg_parked_alt (s : St) (g : Good s) (b : Bool) (hb : s.bg b = .parked) : Alt s := by
  cases b with
  | false => exact absurd (by simpa [St.bg] using hb) g.a.mc_not_parked
  | true => exact g.a.ro_alt (g.a.tc_parked (by simpa [St.bg] using hb))

/-- a thread sending a compaction command can move, or the goroutine it talks to can -/
theorem cwSend_step (hm : R.m = .asCoded R.closeSel) (s : St) (g : Good s) (i : Nat) (b : Bool) (site : Site) (lg : Bool)
    (hi : s.ws[i]? = some (.cwSend b site lg)) : ∃ t, Step R false s t := by
  cases hb : s.bg b with
  | idle =>
    cases hro : (b && R.roParks && s.ro) with
    | false => exact ⟨_, Step.cwSendGo s i b site lg hi hb hro⟩
    | true =>
      simp only [Bool.and_eq_true] at hro
      obtain ⟨⟨h1, h2⟩, h3⟩ := hro
      subst h1
      exact ⟨_, Step.cwSendRO s i site lg hi (by simpa [St.bg] using hb) h2 h3⟩
  | run w ph => exact bg_run_step hm s g b w ph hb
  | exited => exact ⟨_, Step.cwSendErr s i b site lg hi (alt_he hm s (bg_exited_alt s g b hb))⟩
  | parked => exact ⟨_, Step.cwSendErr s i b site lg hi (alt_he hm s (bg_parked_alt s g b hb))⟩

/-- a thread waiting for its ack can move: its compaction has a step, or an alternative of the wait is enabled -/
theorem cwAck_step (hm : R.m = .asCoded R.closeSel) (s : St) (g : Good s) (i : Nat) (b : Bool) (site : Site) (lg : Bool)
    (hi : s.ws[i]? = some (.cwAck b site lg)) : ∃ t, Step R false s t := by
  rcases g.w i b site lg hi with ⟨ph, hb⟩ | ha
  · exact bg_run_step hm s g b (some i) ph hb
  · exact ⟨_, Step.cwAckErr s i b site lg hi (alt_he hm s ha)⟩

theorem lockClk_or (hm : R.m = .asCoded R.closeSel) (s : St) (g : Good s) (hstep : s.clk = false → ∃ t, Step R false s t) :
    ∃ t, Step R false s t := by
  cases hc : s.clk with
  | false => exact hstep hc
  | true => exact clk_step hm s g hc

/-- program counters at which a thread waits at most for a compaction goroutine or for `compCommitLk` -/
def low : Pc → Bool
  | .cwSend .. | .cwAck .. | .cmLockClk _ => true
  | p => free p

theorem low_step (hm : R.m = .asCoded R.closeSel) (s : St) (g : Good s) {i : Nat} {p : Pc} (hi : s.ws[i]? = some p)
    (hp : low p = true) : ∃ t, Step R false s t := by
  cases p with
  | cwSend b site lg => exact cwSend_step hm s g i b site lg hi
  | cwAck b site lg => exact cwAck_step hm s g i b site lg hi
  | cmLockClk lg => exact lockClk_or hm s g fun hc => ⟨_, .cmLockClk s i lg hi hc⟩
  | _ => exact free_step hi hp

/-- whoever holds `tr.lk` can move -/
theorem trlk_step (hm : R.m = .asCoded R.closeSel) (s : St) (g : Good s) (hl : s.trlk = true) : ∃ t, Step R false s t := by
  have h := g.r.trlkI
  rw [hl] at h; simp only [b2n_true] at h
  obtain ⟨i, p, hi, hp⟩ := exists_of_tot_pos trlkW s.ws (by omega)
  cases p <;> first | exact low_step hm s g hi rfl | exact absurd hp (Nat.lt_irrefl 0)

/-- `SetReadOnly`'s second `select` has an enabled arm in every state of the machine -/
theorem srSet_step (hm : R.m = .asCoded R.closeSel) (s : St) (g : Good s) (i : Nat) (hi : s.ws[i]? = some .srSet) :
    ∃ t, Step R false s t := by
  rcases eh_arms hm g.a with he | he | hc
  · exact ⟨_, .srSend s i hi he⟩
  · exact ⟨_, .srPerErr s i hi he⟩
  · exact ⟨_, .srClosed s i hi hc⟩

/-- a step that only needs `tr.lk` free: it is enabled, or the holder of `tr.lk` can move -/
theorem lockTr_or (hm : R.m = .asCoded R.closeSel) (s : St) (g : Good s) (hstep : s.trlk = false → ∃ t, Step R false s t) :
    ∃ t, Step R false s t := by
  cases hl : s.trlk with
  | false => exact hstep hl
  | true => exact trlk_step hm s g hl

/-- whoever holds the token can move — or it is the user's transaction, `compactionError` in its
persistent-error loop, or `Close` -/
theorem tok_step (hm : R.m = .asCoded R.closeSel) (s : St) (g : Good s) (ht : s.tok = true) :
    (∃ t, Step R false s t) ∨ (s.trOpen = true ∧ s.trUser = true) ∨ (s.eh = .hasperr ∨ s.eh = .closing) ∨
    s.closeTok = true := by
  have h := g.r.tokI
  rw [ht] at h; simp only [b2n_true] at h
  by_cases h1 : 0 < tot tokW s.ws
  · left
    obtain ⟨i, p, hi, hp⟩ := exists_of_tot_pos tokW s.ws h1
    cases p <;> first | exact low_step hm s g hi rfl | exact absurd hp (Nat.lt_irrefl 0)
  · by_cases h2 : 0 < b2n s.trOpen
    · have hto := b2n_pos _ h2
      by_cases hu' : s.trUser = true
      · exact Or.inr (Or.inl ⟨hto, hu'⟩)
      · have hu : s.trUser = false := by cases h : s.trUser <;> simp_all
        left
        have hd := g.d
        unfold PInvD at hd
        rw [hto, hu] at hd
        simp only [Bool.not_false, Bool.and_self, b2n_true] at hd
        obtain ⟨i, p, hi, hp⟩ := exists_of_tot_pos lgW s.ws (by omega)
        cases p with
        | cmLockTr lg => exact lockTr_or hm s g (fun hl => ⟨_, Step.cmLockTr s i lg hi hl⟩)
        | dcLockTr lg => exact lockTr_or hm s g (fun hl => ⟨_, Step.dcLockTr s i lg hi hl⟩)
        | _ => first | exact low_step hm s g hi rfl | exact absurd hp (Nat.lt_irrefl 0)
    · by_cases h3 : 0 < b2n s.ehTok
      · have hb := g.b.1
        by_cases hper : s.eh = .hasperr ∨ s.eh = .closing
        · exact Or.inr (Or.inr (Or.inl hper))
        · left
          have : perW s.eh = 0 := by cases he : s.eh <;> simp_all
          obtain ⟨i, p, hi, hp⟩ := exists_of_tot_pos srW s.ws (by omega)
          cases p <;> simp [srW] at hp
          exact srSet_step hm s g i hi
      · exact Or.inr (Or.inr (Or.inr (b2n_pos _ (by omega))))

/-- the `select` on `writeLockC`: some arm is enabled, or the token holder can move -/
theorem sel_step (hm : R.m = .asCoded R.closeSel) (s : St) (g : Good s) (i : Nat) (p q : Pc) (hi : s.ws[i]? = some p)
    (hq : selNext p = some q) :
    (∃ t, Step R false s t) ∨ (s.trOpen = true ∧ s.trUser = true) := by
  cases ht : s.tok with
  | false => exact Or.inl ⟨_, Step.selTok s i p q hi hq ht⟩
  | true =>
    rcases tok_step hm s g ht with h | h | (h | h) | h
    · exact Or.inl h
    · exact Or.inr h
    · exact Or.inl ⟨_, Step.selPerErr s i p q hi hq (offPer_of hm h)⟩
    · exact Or.inl ⟨_, Step.selClosed s i p q hi hq (g.a.eh_closing h)⟩
    · have := g.c.2.1
      rw [h] at this
      simp only [b2n_true] at this
      exact Or.inl ⟨_, Step.selClosed s i p q hi hq (b2n_pos _ (by omega))⟩

theorem close_closed (s : St) (g : Good s) (i : Nat) (p : Pc) (hi : s.ws[i]? = some p) (hp : 0 < clAllW p) :
    s.closed = true := by
  have := le_tot clAllW s.ws i p hi
  have := g.c.1
  exact b2n_pos _ (by omega)

/-- **progress**: while a call is pending, a fault-free step is enabled, unless everybody waits for the
user to commit or discard the open transaction -/
theorem progress (hm : R.m = .asCoded R.closeSel) (s : St) (g : Good s) (i : Nat) (p : Pc) (hi : s.ws[i]? = some p)
    (hp : pending p = true) :
    (∃ t, Step R false s t) ∨ (s.trOpen = true ∧ s.trUser = true) := by
  cases p with
  | idle | ret | retE => cases hp
  | putSel | otxSel | crSel | srSel => exact sel_step hm s g i _ _ hi rfl
  | cmLockTr lg => exact Or.inl (lockTr_or hm s g (fun hl => ⟨_, Step.cmLockTr s i lg hi hl⟩))
  | dcLockTr lg => exact Or.inl (lockTr_or hm s g (fun hl => ⟨_, Step.dcLockTr s i lg hi hl⟩))
  | clLockTr => exact Or.inl (lockTr_or hm s g (fun hl => ⟨_, Step.clLockTr s i hi hl⟩))
  | srSet => exact Or.inl (srSet_step hm s g i hi)
  | clAcq =>
    have hcl := close_closed s g i _ hi (by simp [clAllW])
    cases ht : s.tok with
    | false => exact Or.inl ⟨_, Step.clAcq s i hi ht⟩
    | true =>
      rcases tok_step hm s g ht with h | h | (h | h) | h
      · exact Or.inl h
      · exact Or.inr h
      · exact Or.inl ⟨_, Step.ehClose s (closes_of hm h) hcl⟩
      · cases hk : R.closeSel with
        | false => exact Or.inl ⟨_, Step.ehTake s h ht (by rw [hm, hk]; rfl)⟩
        | true => exact Or.inl ⟨_, Step.clAcqKept s i hi h (by rw [hm, hk]; rfl) hk⟩
      · exfalso
        have h1 := le_tot clPreW s.ws i _ hi
        have h2 := g.c.2.2
        rw [h] at h2
        simp [clPreW] at h1 h2
        omega
  | clWait =>
    have hcl := close_closed s g i _ hi (by simp [clAllW])
    left
    cases hmc : s.mc with
    | idle => exact ⟨_, Step.bgExitIdle s false (by simp [St.bg, hmc]) hcl⟩
    | run w ph => exact bg_run_step hm s g false w ph (by simp [St.bg, hmc])
    | parked => exact absurd hmc g.a.mc_not_parked
    | exited =>
      cases htc : s.tc with
      | idle => exact ⟨_, Step.bgExitIdle s true (by simp [St.bg, htc]) hcl⟩
      | run w ph => exact bg_run_step hm s g true w ph (by simp [St.bg, htc])
      | parked => exact ⟨_, Step.bgExitParked s htc hcl⟩
      | exited => exact ⟨_, Step.clWait s i hi hmc htc⟩
  | _ => exact .inl (low_step hm s g hi rfl)

end GoLevel.Locks

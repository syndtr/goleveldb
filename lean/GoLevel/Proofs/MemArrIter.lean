import GoLevel.Proofs.MemArrDelete
import GoLevel.Proofs.MemDBIterOps
/-! `dbIter` over the arrays (`fill`, `First/Last/Seek/Next/Prev`) yields the same key/value pairs as the iterator of
the ideal skip list; operation sequences on the arrays answer like the ideal table (C14). -/
namespace GoLevel.MemArr
open GoLevel.Gen (nKV nKey nVal nHeight nNext tMaxHeight)
open GoLevel.MemDB (Node LawfulCmp Sorted pred below ins Op Ans outOf seekKey)

variable {cmp : Cmp} {a : DB} {d : MemDB.DB} {ix : Bytes → Nat}

/-- the array iterator `ai` is the ideal iterator `it`: same bounds and direction, the node index is the index of the
ideal node, and a valid iterator holds the key and value of its node -/
structure IterRep (a : DB) (d : MemDB.DB) (ix : Bytes → Nat) (ai : Iter) (it : MemDB.Iter) : Prop where
  start : ai.start = it.start
  limit : ai.limit = it.limit
  forward : ai.forward = it.forward
  node : ai.node = nix ix it.node
  mem : ∀ k, it.node = some k → k ∈ d.level0 ∧ ai.key = some k ∧ ai.value = some (d.value k)
  gen : ai.node ≠ 0 → ai.gen = a.gen

theorem IterRep.positioned {ai : Iter} {it : MemDB.Iter} (r : Rep cmp a d ix) (h : IterRep a d ix ai it) {k : Bytes}
    (hn : it.node = some k) :
    k ∈ d.level0 ∧ ai.node = ix k ∧ ¬ ix k = 0 ∧ ai.gen = a.gen ∧ ai.key = some k := by
  obtain ⟨hk, hkey, _⟩ := h.mem k hn
  have hix : ai.node = ix k := by rw [h.node, hn]; rfl
  have hne : ¬ ix k = 0 := r.ix_ne_zero hk
  exact ⟨hk, hix, hne, h.gen (hix ▸ hne), hkey⟩

theorem IterRep.out {ai : Iter} {it : MemDB.Iter} (r : Rep cmp a d ix) (h : IterRep a d ix ai it) :
    ai.out = it.out d := by
  unfold Iter.out MemDB.Iter.out
  cases hn : it.node with
  | none => simp [h.node, hn]
  | some k =>
    obtain ⟨_, hix, hne, _, hkey⟩ := h.positioned r hn
    simp [hix, hne, hkey, (h.mem k hn).2.2]

theorem IterRep.node_zero {ai : Iter} {it : MemDB.Iter} (r : Rep cmp a d ix) (h : IterRep a d ix ai it) :
    ai.node = 0 ↔ it.node = none := by
  cases hn : it.node with
  | none => simp [h.node, hn]
  | some k => obtain ⟨_, hix, hne, _⟩ := h.positioned r hn; simp [hix, hne]

theorem IterRep.unpositioned (a : DB) (d : MemDB.DB) (ix : Bytes → Nat) {ai : Iter} (h0 : ai.node = 0) :
    IterRep a d ix ai ⟨ai.start, ai.limit, none, ai.forward⟩ :=
  ⟨rfl, rfl, rfl, h0, fun k hk => absurd hk (by simp), fun h => absurd h0 h⟩

theorem arr_fill_zero {ai : Iter} (h : ai.node = 0) (cs cl : Bool) :
    Iter.fill cmp a ai cs cl = some ({ ai with key := none, value := none, gen := a.gen }, false) := by
  unfold Iter.fill; simp [h]

theorem arr_next_zero {ai : Iter} (h : ai.node = 0) :
    ai.next cmp a = if ai.forward then some (ai, false) else ai.first cmp a := by
  unfold Iter.next; cases ai.forward <;> simp [h]

theorem arr_prev_zero {ai : Iter} (h : ai.node = 0) :
    ai.prev cmp a = if ai.forward then ai.last cmp a else some (ai, false) := by
  unfold Iter.prev; simp [h]

theorem arr_next_pos {ai : Iter} (h : ai.node ≠ 0) :
    ai.next cmp a = (if ai.gen = a.gen then a.nodeData[ai.node + nNext]? else some 0).bind fun node =>
      Iter.fill cmp a { ai with forward := true, node := node } false true := by
  by_cases hg : ai.gen = a.gen <;> simp [Iter.next, h, hg]

theorem arr_prev_pos {ai : Iter} (h : ai.node ≠ 0) :
    ai.prev cmp a = (if ai.gen = a.gen then findLT cmp a (ai.key.getD []) else some 0).bind fun node =>
      Iter.fill cmp a { ai with forward := false, node := node } true false := by
  by_cases hg : ai.gen = a.gen <;> simp [Iter.prev, h, hg]

theorem arr_fill_node {ai : Iter} {st lm : Option Bytes} {i o : Nat} {k v : Bytes} (hs : ai.start = st)
    (hl : ai.limit = lm) (hi : ai.node = i) (hne : i ≠ 0)
    (h0 : a.nodeData[i]? = some o) (h1 : a.nodeData[i + nKey]? = some k.length)
    (h2 : slice a.kvData o (o + k.length) = some k) (h3 : a.nodeData[i + nVal]? = some v.length)
    (h4 : slice a.kvData (o + k.length) (o + k.length + v.length) = some v) (cs cl : Bool) :
    Iter.fill cmp a ai cs cl =
      if outOf cmp st lm k cs cl then
        some ({ ai with node := 0, key := none, value := none, gen := a.gen }, false)
      else some ({ ai with key := some k, value := some v, gen := a.gen }, true) := by
  subst hs hl hi
  unfold Iter.fill outOf
  have : (ai.node != 0) = true := by simpa using hne
  simp only [this, if_true, h0, h1, h2, h3, h4, Option.bind_some, Option.bind_eq_bind]
  rfl

theorem fill_sim (r : Rep cmp a d ix) (ai : Iter) (it : MemDB.Iter) (hs : ai.start = it.start)
    (hl : ai.limit = it.limit) (hf : ai.forward = it.forward) (hn : ai.node = nix ix it.node)
    (hm : ∀ k, it.node = some k → k ∈ d.level0) (cs cl : Bool) :
    ∃ ai', Iter.fill cmp a ai cs cl = some (ai', (it.fill cmp cs cl).node.isSome) ∧
      IterRep a d ix ai' (it.fill cmp cs cl) ∧ ai'.gen = a.gen := by
  obtain ⟨st, lm, nd, fw⟩ := it
  simp only at hs hl hf hn hm
  subst hs hl hf
  cases nd with
  | none => exact ⟨_, arr_fill_zero hn cs cl, .unpositioned a d ix hn, rfl⟩
  | some k =>
    have hk := hm k rfl
    have hnk := r.node k hk
    obtain ⟨o, o1, o2, o3⟩ := hnk.off
    rw [MemDB.fill_some rfl, arr_fill_node (cmp := cmp) rfl rfl hn (r.ix_ne_zero hk) o1 hnk.klen o2 hnk.vlen o3]
    by_cases hout : outOf cmp ai.start ai.limit k cs cl = true
    · simp only [hout, if_true]
      exact ⟨_, rfl, .unpositioned a d ix rfl, rfl⟩
    · simp only [hout, Bool.false_eq_true, if_false, Option.isSome_some]
      exact ⟨_, rfl, ⟨rfl, rfl, rfl, hn, fun k' hk' => by cases hk'; exact ⟨hk, rfl, rfl⟩, fun _ => rfl⟩, rfl⟩

section
variable (hc : LawfulCmp cmp) (r : Rep cmp a d ix)
include hc r

omit hc in
theorem move_sim {ai : Iter} {it : MemDB.Iter} (hs : ai.start = it.start) (hl : ai.limit = it.limit) (fw : Bool)
    (nd0 : Node)
    (hm : ∀ k, nd0 = some k → k ∈ d.level0) (cs cl : Bool) (arrNode : Option Nat)
    (hnode : arrNode = some (nix ix nd0)) :
    ∃ ai', (arrNode.bind fun node => Iter.fill cmp a { ai with forward := fw, node := node } cs cl) =
        some (ai', (({ it with forward := fw, node := nd0 } : MemDB.Iter).fill cmp cs cl).node.isSome) ∧
      IterRep a d ix ai' (({ it with forward := fw, node := nd0 } : MemDB.Iter).fill cmp cs cl) ∧ ai'.gen = a.gen := by
  rw [hnode, Option.bind_some]
  exact fill_sim r { ai with forward := fw, node := nix ix nd0 } { it with forward := fw, node := nd0 }
    hs hl rfl rfl hm cs cl

omit hc in
theorem level0_head : a.nodeData[nNext]? = some (nix ix d.level0.head?) := by
  have := (r.chain_lv (i := 0) (by decide)).head
  rw [lv_zero] at this
  simpa using this

omit hc in
theorem next_ptr {k : Bytes} (hk : k ∈ d.level0) :
    a.nodeData[ix k + nNext]? = some (nix ix (MemDB.after d.level0 (some k)).head?) := by
  have hc0 := r.chain_lv (i := 0) (by decide)
  rw [lv_zero] at hc0
  simpa using (hc0.after hk).head

theorem first_sim {ai : Iter} {it : MemDB.Iter} (hs : ai.start = it.start) (hl : ai.limit = it.limit) :
    ∃ ai', ai.first cmp a = some (ai', (it.first cmp d).node.isSome) ∧ IterRep a d ix ai' (it.first cmp d) ∧
      ai'.gen = a.gen := by
  cases hst : it.start with
  | some s =>
    obtain ⟨pn', g1, _⟩ := findGE_sim r s false
    simpa only [Iter.first, Option.bind_eq_bind, MemDB.Iter.first, hs.trans hst, hst, g1] using
      move_sim r hs hl true _ (fun k hk => findGE_node_mem hc r s hk) false true _ (congrArg (Option.map (·.1)) g1)
  | none =>
    simpa only [Iter.first, Option.bind_eq_bind, MemDB.Iter.first, hs.trans hst, hst, MemDB.after] using
      move_sim r hs hl true _ (fun k hk => List.mem_of_mem_head? hk) false true _ (level0_head r)

theorem last_sim {ai : Iter} {it : MemDB.Iter} (hs : ai.start = it.start) (hl : ai.limit = it.limit) :
    ∃ ai', ai.last cmp a = some (ai', (it.last cmp d).node.isSome) ∧ IterRep a d ix ai' (it.last cmp d) ∧
      ai'.gen = a.gen := by
  cases hlm : it.limit with
  | some l =>
    simpa only [Iter.last, Option.bind_eq_bind, MemDB.Iter.last, hl.trans hlm, hlm] using
      move_sim r hs hl false _ (fun k hk => (MemDB.pred_mem (MemDB.findLT_eq hc r.inv l ▸ hk)).1) true false _
        (findLT_sim r l)
  | none =>
    simpa only [Iter.last, Option.bind_eq_bind, MemDB.Iter.last, hl.trans hlm, hlm] using
      move_sim r hs hl false _ (fun k hk => List.mem_of_getLast? (MemDB.findLast_eq hc r.inv ▸ hk)) true false _
        (findLast_sim r)

omit hc r in
theorem arr_seek_eq (ai : Iter) (key : Bytes) : ai.seek cmp a key =
    (findGE cmp a (seekKey cmp ai.start key) false).bind fun r =>
      Iter.fill cmp a { ai with forward := true, node := r.1 } false true := by
  unfold Iter.seek seekKey; cases ai.start <;> rfl

theorem seek_sim {ai : Iter} {it : MemDB.Iter} (hs : ai.start = it.start) (hl : ai.limit = it.limit)
    (key : Bytes) :
    ∃ ai', ai.seek cmp a key = some (ai', (it.seek cmp d key).node.isSome) ∧
      IterRep a d ix ai' (it.seek cmp d key) ∧ ai'.gen = a.gen := by
  obtain ⟨pn', g1, _⟩ := findGE_sim r (seekKey cmp it.start key) false
  simpa only [arr_seek_eq, MemDB.seek_eq, hs, g1, Option.bind_some] using
    move_sim r hs hl true _ (fun k hk => findGE_node_mem hc r (seekKey cmp it.start key) hk) false true _ rfl

/-- `First`, `Last` and `Seek` do not look at the iterator's position: they are the moves of any ideal iterator with the
same bounds -/
theorem abs_step_sim {c : Call Bytes} (hcall : c = .first ∨ c = .last ∨ ∃ k, c = .seek k) {ai : Iter}
    {it : MemDB.Iter} (hs : ai.start = it.start) (hl : ai.limit = it.limit) :
    ∃ ai', Iter.step cmp a c ai = some (ai', (MemDB.Iter.step cmp d c it).node.isSome) ∧
      IterRep a d ix ai' (MemDB.Iter.step cmp d c it) ∧ ai'.gen = a.gen := by
  rcases hcall with rfl | rfl | ⟨k, rfl⟩
  · exact first_sim hc r hs hl
  · exact last_sim hc r hs hl
  · exact seek_sim hc r hs hl k

theorem next_sim {ai : Iter} {it : MemDB.Iter} (h : IterRep a d ix ai it) :
    ∃ ai', ai.next cmp a = some (ai', (it.next cmp d).node.isSome) ∧ IterRep a d ix ai' (it.next cmp d) := by
  cases hn : it.node with
  | none =>
    rw [arr_next_zero ((h.node_zero r).2 hn), MemDB.next_none hn, h.forward]
    cases it.forward with
    | true => exact ⟨ai, by simp [hn], h⟩
    | false => exact (first_sim hc r h.start h.limit).imp fun _ h => ⟨h.1, h.2.1⟩
  | some k =>
    unfold MemDB.Iter.next
    simp only [hn]
    obtain ⟨hk, hix, hne, hg, _⟩ := h.positioned r hn
    obtain ⟨ai', e, h', _⟩ := move_sim r h.start h.limit true (MemDB.after d.level0 (some k)).head?
      (fun k' hk' => (after_sublist _ _).subset (List.mem_of_mem_head? hk')) false true _ rfl
    rw [arr_next_pos (hix ▸ hne), if_pos hg, hix, next_ptr r hk]
    exact ⟨ai', e, h'⟩

theorem prev_sim {ai : Iter} {it : MemDB.Iter} (h : IterRep a d ix ai it) :
    ∃ ai', ai.prev cmp a = some (ai', (it.prev cmp d).node.isSome) ∧ IterRep a d ix ai' (it.prev cmp d) := by
  cases hn : it.node with
  | none =>
    rw [arr_prev_zero ((h.node_zero r).2 hn), MemDB.prev_none hn, h.forward]
    cases it.forward with
    | true => exact (last_sim hc r h.start h.limit).imp fun _ h => ⟨h.1, h.2.1⟩
    | false => exact ⟨ai, by simp [hn], h⟩
  | some k =>
    unfold MemDB.Iter.prev
    simp only [hn]
    obtain ⟨hk, hix, hne, hg, hkey⟩ := h.positioned r hn
    obtain ⟨ai', e, h', _⟩ := move_sim r h.start h.limit false (MemDB.findLT cmp d k)
      (fun k' hk' => by rw [MemDB.findLT_eq hc r.inv] at hk'; exact (MemDB.pred_mem hk').1) true false _ rfl
    rw [arr_prev_pos (hix ▸ hne), if_pos hg, hkey, Option.getD_some, findLT_sim r k]
    exact ⟨ai', e, h'⟩

theorem iter_step_sim {ai : Iter} {it : MemDB.Iter} (h : IterRep a d ix ai it) (c : Call Bytes) :
    ∃ ai', Iter.step cmp a c ai = some (ai', (MemDB.Iter.step cmp d c it).node.isSome) ∧
      IterRep a d ix ai' (MemDB.Iter.step cmp d c it) := by
  cases c with
  | next => exact next_sim hc r h
  | prev => exact prev_sim hc r h
  | _ => exact (abs_step_sim hc r (by simp) h.start h.limit).imp fun _ h => ⟨h.1, h.2.1⟩

theorem iter_run_sim : ∀ (calls : List (Call Bytes)) {ai : Iter} {it : MemDB.Iter}, IterRep a d ix ai it →
    Iter.run cmp a ai calls = some (MemDB.Iter.run cmp d it calls) := by
  intro calls
  induction calls with
  | nil => intro ai it _; rfl
  | cons c cs ih =>
    intro ai it h
    obtain ⟨ai', e, h'⟩ := iter_step_sim hc r h c
    simp only [Iter.run, e, Option.bind_some, Option.bind_eq_bind, ih h', MemDB.Iter.run, h'.out r]

end

def _root_.GoLevel.MemDB.Op.isRead : Op → Bool
  | .put .. | .delete _ | .reset => false
  | _ => true

theorem step_read (hc : LawfulCmp cmp) (r : Rep cmp a d ix) {op : Op} (ho : op.isRead = true) :
    step cmp a op = some (a, (MemDB.step cmp d op).2) := by
  cases op with
  | get k => simp only [step, get_sim hc r k, MemDB.step, Option.map_some]; cases MemDB.get cmp d k <;> rfl
  | find k => simp only [step, find_sim hc r k, MemDB.step, Option.map_some]; cases MemDB.find cmp d k <;> rfl
  | contains k => simp [step, contains_sim r k, MemDB.step]
  | len => simp [step, MemDB.step, r.n]
  | size => simp [step, MemDB.step, r.kvSize]
  | _ => cases ho

theorem step_sim (hc : LawfulCmp cmp) (r : Rep cmp a d ix) (op : Op) (hv : op.valid) :
    ∃ a' ix', step cmp a op = some (a', (MemDB.step cmp d op).2) ∧ Rep cmp a' (MemDB.step cmp d op).1 ix' := by
  cases op with
  | put k v h =>
    obtain ⟨h1, h2⟩ := hv
    by_cases hk : k ∈ d.level0
    · obtain ⟨a', e, r', _⟩ := put_old_sim hc r hk v h
      exact ⟨a', ix, by simp [step, e, MemDB.step], r'⟩
    · obtain ⟨a', e, r', _⟩ := put_new_sim hc r hk v h1 h2
      exact ⟨a', _, by simp [step, e, MemDB.step], r'⟩
  | delete k =>
    obtain ⟨a', e, r'⟩ := delete_sim hc r k
    exact ⟨a', ix, by simp [step, e, MemDB.step], r'⟩
  | reset =>
    obtain ⟨a', e, r', _⟩ := reset_sim r
    exact ⟨a', ix, by simp [step, e, MemDB.step], r'⟩
  | _ => exact ⟨a, ix, step_read hc r rfl, r⟩

theorem exec_run_sim (hc : LawfulCmp cmp) : ∀ (ops : List Op) {a : DB} {d : MemDB.DB} {ix : Bytes → Nat},
    Rep cmp a d ix → (∀ op ∈ ops, op.valid) →
    run cmp a ops = some (MemDB.run cmp d ops) ∧
      ∃ a' ix', exec cmp a ops = some a' ∧ Rep cmp a' (MemDB.exec cmp d ops) ix' := by
  intro ops
  induction ops with
  | nil => intro a d ix r _; exact ⟨rfl, a, ix, rfl, r⟩
  | cons o os ih =>
    intro a d ix r hv
    obtain ⟨a', ix', e, r'⟩ := step_sim hc r o (hv o (by simp))
    obtain ⟨hr, a'', ix'', e', r''⟩ := ih r' (fun op hop => hv op (by simp [hop]))
    exact ⟨by simp only [run, e, Option.bind_some, Option.bind_eq_bind, MemDB.run, hr],
      a'', ix'', by simp only [exec, e, Option.bind_some, Option.bind_eq_bind, e'], r''⟩

end GoLevel.MemArr

import GoLevel.Proofs.RefLoopFRel
/-! `next` passes an id over the full history — abandoned, converted to full references (first loop of
`processTasks`) or released (second loop): the invariant and the removal history (C07). -/
namespace GoLevel.RefLoop

/-- `skipAbandoned` + `next++`. -/
theorem skip_abandonedF {S : State} {G : EnvF} {R : List Nat} (hI : InvF S G)
    (hH : HistC S G R) (hab : S.next ∈ S.abandoned) :
    InvF { S with abandoned := S.abandoned.erase S.next, next := S.next + 1 } G ∧
    HistC { S with abandoned := S.abandoned.erase S.next, next := S.next + 1 } G R := by
  obtain ⟨_, hn, hni⟩ := (hI.ab.2 _).mp hab
  have hnr : S.next ∉ G.rel := fun h => hni (hI.wf.rel _ h).1
  have hI' : InvF { S with abandoned := S.abandoned.erase S.next, next := S.next + 1 } G := by
    refine ⟨hI.wf, by show S.next + 1 ≤ G.N; omega, ⟨hI.ab.1.erase _, ?_⟩, ?_, ?_, ?_, ⟨hI.rfd.1, ?_⟩, ?_⟩
    · intro k
      show k ∈ S.abandoned.erase S.next ↔ S.next + 1 ≤ k ∧ _
      rw [hI.ab.1.mem_erase_iff, hI.ab.2 k]
      constructor
      · rintro ⟨h1, h2, h3⟩; exact ⟨by omega, h3⟩
      · rintro ⟨h1, h2⟩; exact ⟨by omega, by omega, h2⟩
    · exact lookup_pass_keep hI.ref (fun h => hni h.1)
    · exact lookup_pass_keep hI.rld hnr
    · exact lookup_pass_keep hI.dl (fun h => hni h.2.1)
    · exact mem_below_keep hI.rfd.2 (fun h => hni h.1)
    · intro f
      show S.fileRef.count f = ind (f ∈ G.L (G.cb (S.next + 1))) + _
      rw [cb_pass_sameF hn (Or.inl hni)]
      exact hI.cnt f
  exact ⟨hI', hist_stepF_nil hI hI' hH (.inr ⟨rfl, rfl, rfl, fun h => absurd h hnr⟩)
    (Nat.le_refl _) (fun _ h => h) (fun _ h => Nat.ne_of_gt h)⟩

/-- everything but the counters -/
theorem conv_invF {S : State} {G : EnvF} (hI : InvF S G) (hi : G.inst S.next) (hnr : S.next ∉ G.rel)
    {m : List Nat}
    (hcnt : ∀ f, m.count f = ind (f ∈ G.L (G.cb (S.next + 1))) +
      ((S.next :: S.referenced).filter (fun k => decide (f ∈ G.T k))).length) :
    InvF (convState S m) G := by
  have hn := EnvF.inst_lt hi
  refine ⟨hI.wf, by show S.next + 1 ≤ G.N; omega, ⟨hI.ab.1, ?_⟩, ?_, ?_, ?_, ⟨?_, ?_⟩, hcnt⟩
  · exact mem_from_keep hI.ab.2 (fun h => h.2 hi)
  · exact lookup_pass_filter hI.ref
  · exact lookup_pass_keep hI.rld hnr
  · exact lookup_pass_filter hI.dl
  · refine List.nodup_cons.mpr ⟨fun h => ?_, hI.rfd.1⟩
    have := ((hI.rfd.2 _).mp h).1; omega
  · exact mem_below_cons hI.rfd.2 ⟨hi, hnr⟩

theorem conv_countF {S : State} {G : EnvF} (hI : InvF S G) (f : Nat) :
    (incrAll S.fileRef (G.T S.next)).count f = ind (f ∈ G.L (G.cb S.next)) +
      ((S.next :: S.referenced).filter (fun k => decide (f ∈ G.T k))).length := by
  rw [count_incrAll, hI.cnt f, (hI.wf.nodupT _).count]
  simp only [List.filter_cons, decide_eq_true_eq]
  split <;> simp <;> omega

/-- One conversion: no panic, and nothing is removed (the full references are added before the delta is applied). -/
theorem convert_oneF {S : State} {G : EnvF} {R : List Nat} (hI : InvF S G)
    (hH : HistC S G R) (hi : G.inst S.next) (hnr : S.next ∉ G.rel) :
    ∃ m2, optApply (S.deltas.lookup S.next) (incrAll S.fileRef (G.T S.next)) = some (m2, []) ∧
      InvF (convState S m2) G ∧ HistC (convState S m2) G R := by
  have hn := EnvF.inst_lt hi
  have hstep : ∀ {m2 : List Nat}, InvF (convState S m2) G → (∀ f, 1 ≤ S.fileRef.count f → m2.count f ≠ 0) →
      HistC (convState S m2) G R := fun hI' hle =>
    hist_stepF_nil hI hI' hH (.inr ⟨rfl, rfl, rfl, fun h => absurd h hnr⟩)
      (Nat.le_refl _) (fun _ h => h) hle
  by_cases hd : S.next < G.dn
  · have hdl : S.deltas.lookup S.next = some (G.din (G.up (S.next + 1))) := by
      rw [hI.dl]; simp [hd, hi, hnr]
    obtain ⟨hcb, hcb'⟩ := cb_pass_instF hi hd
    have hcnt := fun f => by have := conv_countF hI f; rw [hcb] at this; exact this
    obtain ⟨m2, rm, h1, h2, h3, h5⟩ := apply_net (hI.wf.chain _ hd hi) hcnt
    have hnil : rm = [] := List.eq_nil_iff_forall_not_mem.mpr fun r hr => by
      obtain ⟨hrL, _, he⟩ := h3 r hr
      have := hI.wf.sub _ r hrL
      simp only [List.filter_cons, this, decide_true, if_true, List.length_cons] at he
      omega
    subst hnil
    have hI' : InvF (convState S m2) G := conv_invF hI hi hnr (by intro f; rw [hcb']; exact h2 f)
    refine ⟨m2, by rw [hdl]; exact h1, hI', hstep hI' fun f h => ?_⟩
    have := h5.mem f
    rw [count_incrAll] at this
    simp only [List.not_mem_nil, false_iff, not_and] at this
    exact this (by omega)
  · have hdl : S.deltas.lookup S.next = none := by rw [hI.dl]; simp [hd]
    have hI' : InvF (convState S (incrAll S.fileRef (G.T S.next))) G :=
      conv_invF hI hi hnr (by
        intro f
        rw [cb_pass_sameF hn (Or.inr (by omega))]
        exact conv_countF hI f)
    exact ⟨_, by rw [hdl]; rfl, hI', hstep hI' fun f h => by rw [count_incrAll]; omega⟩

theorem rel_invF {S : State} {G : EnvF} (hI : InvF S G) (hrel : S.next ∈ G.rel) {m : List Nat}
    (hcnt : ∀ f, m.count f = ind (f ∈ G.L (G.cb (S.next + 1))) +
      (S.referenced.filter (fun k => decide (f ∈ G.T k))).length) :
    InvF (relState S m) G := by
  have hi := (hI.wf.rel _ hrel).1
  have hn := EnvF.inst_lt hi
  refine ⟨hI.wf, by show S.next + 1 ≤ G.N; omega, ⟨hI.ab.1, ?_⟩, ?_, ?_, ?_, ⟨hI.rfd.1, ?_⟩, hcnt⟩
  · exact mem_from_keep hI.ab.2 (fun h => h.2 hi)
  · exact lookup_pass_keep hI.ref (fun h => h.2 hrel)
  · exact lookup_pass_filter hI.rld
  · exact lookup_pass_keep hI.dl (fun h => h.2.2 hrel)
  · exact mem_below_keep hI.rfd.2 (fun h => h.2 hrel)

theorem release_oneF {S : State} {G : EnvF} {R : List Nat} (hI : InvF S G) (hG : GL G S.next)
    (hH : HistC S G R) (hrel : S.next ∈ G.rel) :
    ∃ od m rm, S.released.lookup S.next = some od ∧
      optApply od S.fileRef = some (m, rm) ∧
      InvF (relState S m) G ∧ SafeF G (S.next + 1) rm ∧ HistC (relState S m) G (R ++ rm) := by
  obtain ⟨hi, hkd⟩ := hI.wf.rel _ hrel
  have hn := EnvF.inst_lt hi
  have hlook : S.released.lookup S.next =
      some (if S.next < G.dn then some (G.din (G.up (S.next + 1))) else none) := by
    rw [hI.rld]; simp [hrel]
  by_cases hd : S.next < G.dn
  · obtain ⟨hcb, hcb'⟩ := cb_pass_instF hi hd
    have hcnt := fun f => by have := hI.cnt f; rw [hcb] at this; exact this
    obtain ⟨m2, rm, h1, h2, h3, h4⟩ := apply_net (hI.wf.chain _ hd hi) hcnt
    have hI' : InvF (relState S m2) G := rel_invF hI hrel (by intro f; rw [hcb']; exact h2 f)
    have hwi : G.inst (G.up (S.next + 1)) := by
      have := hI.wf.up_le_dn hd
      have hN : 0 < G.N := by omega
      exact G.up_inst_of_lt _ (Nat.lt_of_le_of_lt this (hI.wf.dn_lt hN))
    refine ⟨_, m2, rm, hlook, by simp only [hd, if_true]; exact h1, hI', ?_, ?_⟩
    · exact safeF_of_gone hI'.rfd.2 (fun k hk hik => EnvF.up_le_of_inst hk hik)
        (fun _ => by rw [hcb']; exact Nat.le_refl _) (fun r hr => ⟨(h3 r hr).2.2,
          hG.gone_from (Nat.lt_of_lt_of_le (Nat.lt_succ_self _) (G.up_ge_self _)) hwi
            (Or.inr (by rw [hcb]; exact Nat.le_refl _)) (hI.wf.sub _ r (h3 r hr).1) (h3 r hr).2.1⟩)
    · exact hist_stepF hI hI' hH (.inr ⟨rfl, rfl, rfl, fun _ => hd⟩)
        (Nat.le_refl _) (fun _ h => h) h4
  · -- the current version released by `session.close`: no delta
    have hcl : G.closing = true := by
      rcases hkd with h | ⟨h, _⟩
      · omega
      · exact h
    have hI' : InvF (relState S S.fileRef) G := rel_invF hI hrel (by
      intro f
      rw [cb_pass_sameF hn (Or.inr (by omega))]
      exact hI.cnt f)
    refine ⟨_, S.fileRef, [], hlook, by simp only [hd, if_false]; rfl, hI', safeF_nil _ _, fun hc _ => ?_⟩
    rw [hcl] at hc; cases hc

end GoLevel.RefLoop

import GoLevel.Proofs.WriteProtoGInvAll
namespace GoLevel.WP

theorem finish_exact (s t : St) (h : Step s t) (c : CInv s) (j : Nat) (l l' : Thread) (ph : Ph) (m : Nat)
    (o : Bool) (r : Res) (hj : s.ws[j]? = some l) (hl : l.pc = .lead ph m o) (hj' : t.ws[j]? = some l')
    (hr : l'.pc = .returned r) :
    (o = false ∧ t.token = false ∧ t.cur = none ∧
      (∀ (a : Nat) (x : Thread), t.ws[a]? = some x → holds x.pc = 0) ∧
      (∀ a, a ≠ j → t.ws[a]? = s.ws[a]?)) ∨
    (o = true ∧ t.token = true ∧ ∃ (i : Nat) (w : Thread), s.ws[i]? = some w ∧ w.pc = .waitMerged ∧
      t.ws[i]? = some w.asLeader ∧ t.cur = some i ∧
      (∀ (a : Nat) (x : Thread), t.ws[a]? = some x → 0 < holds x.pc → a = i) ∧
      (∀ a, a ≠ i → a ≠ j → t.ws[a]? = s.ws[a]?)) := by
  have ct := step_cinv s t h c
  have hne : l'.pc ≠ l.pc := by rw [hr, hl]; exact Pc.noConfusion
  cases h with
  | release j2 l2 m2 r2 hj2 hp2 =>
    obtain ⟨rfl, rfl⟩ := moved hj hj' hne
    rw [hj] at hj2; cases hj2
    rw [hl] at hp2; cases hp2
    exact Or.inl ⟨rfl, rfl, rfl, no_holder _ ct rfl, fun a ha => List.getElem?_set_ne (Ne.symm ha)⟩
  | handoff i2 j2 w2 l2 m2 r2 g2 hj2 hi2 hp2 hq2 hc2 =>
    have hij : i2 ≠ j2 := ne_of_pc_ne hi2 hj2 (by simp [hp2, hq2])
    rcases moved2 hj hj' hne with ⟨rfl, rfl⟩ | ⟨rfl, rfl⟩
    · simp at hr
    rw [hj] at hj2; cases hj2
    rw [hl] at hp2; cases hp2
    have hti : (set2 s.ws j2 (l.setPc (.returned r2)) i2 w2.asLeader)[i2]? = some w2.asLeader := get_set2_left hi2
    refine Or.inr ⟨rfl, token_of_holder _ ct i2 w2.asLeader hti Nat.one_pos, i2, w2, hi2, hq2, hti, rfl,
      fun a x hx hh => holder_unique _ ct a i2 x w2.asLeader hx hti hh Nat.one_pos, fun a h1 h2 => ?_⟩
    show (set2 _ _ _ _ _)[a]? = _
    unfold set2
    rw [List.getElem?_set_ne (Ne.symm h1), List.getElem?_set_ne (Ne.symm h2)]
  | releaseLost j2 l2 m2 r2 hj2 hp2 hc2 hr2 => exact absurd c.cfgH (by simp [hc2])
  | publish j2 l2 m2 o2 rot hj2 hp2 hrot =>
    obtain ⟨rfl, rfl⟩ := moved hj hj' hne
    cases rot <;> simp at hr
  | _ =>
    -- in every other step the record at `j` stays, is not `returned` afterwards, or was not a leader's
    exfalso
    first
    | obtain ⟨rfl, rfl⟩ := moved hj hj' hne; simp_all
    | rcases moved2 hj hj' hne with ⟨rfl, rfl⟩ | ⟨rfl, rfl⟩ <;> simp_all

inductive StepsN : Nat → St → St → Prop
  | refl (s : St) : StepsN 0 s s
  | tail {n : Nat} {s t u : St} : StepsN n s t → Step t u → StepsN (n + 1) s u

theorem stepsN_measure {n : Nat} {s t : St} (h : StepsN n s t) (c : CInv s) :
    CInv t ∧ n + measure t ≤ measure s := by
  induction h with
  | refl => exact ⟨c, by omega⟩
  | tail _ h2 ih =>
    have ⟨c', hm⟩ := step_cinv_meas _ _ h2 (ih c).1
    exact ⟨c', by have := (ih c).2; omega⟩

theorem measure_init (s : St) (h : Init s) : measure s = 14 * s.ws.length :=
  tot_idle wt s.ws fun w hw => (h.2.2.2 w hw).1

theorem step_wf : WellFounded (fun t s : St => Reachable s ∧ Step s t) := by
  apply Subrelation.wf (r := InvImage (· < ·) measure)
  · intro t s ⟨hr, hs⟩
    exact step_measure s t hs (reachable_cinv s hr)
  · exact InvImage.wf measure Nat.lt_wfRel.wf

theorem final_all_returned (s : St) (hr : Reachable s) (hf : ¬ ∃ t, Step s t) (i : Nat) (w : Thread)
    (hi : s.ws[i]? = some w) (hk : w.kind = .writer) : ∃ r, w.pc = .returned r := by
  false_or_by_contra
  rename_i hn
  exact hf (no_stuck s (reachable_cinv s hr) (reachable_pinv s hr) i w hi hk
    (fun r hpc => hn ⟨r, hpc⟩))

end GoLevel.WP

import GoLevel.Proofs.IterRank
import GoLevel.Proofs.IterSim
/-!
# Visible entries of a sorted raw list, by index

`Vis es seq i e`: the entry `e` at index `i` is a value with `seq ≤ seq`, and no earlier entry of its user
key has `seq ≤ seq` — in an `ecmp`-sorted list that is `isVisible`.  `rk c es seq j`, the number of visible
entries before index `j`, is where the cursor over the visible entries stands when the raw one stands on a
visible entry at `j`; "nothing visible in `[a, b)`" is `rk b = rk a`.
-/
namespace GoLevel

theorem keyTypeDel_eq : Gen.keyTypeDel = 0 := by decide
theorem keyTypeVal_eq : Gen.keyTypeVal = 1 := by decide

theorem kind_cases (e : Entry) (h : e.kind ≤ Gen.keyTypeVal) :
    e.kind = Gen.keyTypeDel ∨ e.kind = Gen.keyTypeVal := by
  rw [keyTypeVal_eq] at h; rw [keyTypeDel_eq, keyTypeVal_eq]; exact Nat.le_one_iff_eq_zero_or_eq_one.1 h

theorem kind_del_ne_val (e : Entry) (h : e.kind = Gen.keyTypeDel) : e.kind ≠ Gen.keyTypeVal := by
  rw [h, keyTypeDel_eq, keyTypeVal_eq]; exact Nat.zero_ne_one

section
variable {c : UCmp} (hl : LawfulUCmp c) {es : List Entry} (hs : SortedEntries c es)
include hl hs

theorem ukey_le_idx (i j : Nat) (a b : Entry) (hij : i ≤ j) (ha : es[i]? = some a) (hb : es[j]? = some b) :
    c.cmp a.ukey b.ukey ≠ .gt := by
  rcases Nat.lt_or_ge i j with hlt | hge
  · exact ecmp_ule hl (hs.lt_of_lt ha hb hlt)
  · obtain rfl : i = j := Nat.le_antisymm hij hge
    rw [ha] at hb; cases hb
    exact hl.ord.le_refl _

theorem num_lt_idx (i j : Nat) (a b : Entry) (hij : i < j) (ha : es[i]? = some a) (hb : es[j]? = some b)
    (hu : a.ukey = b.ukey) : b.key.num < a.key.num := by
  have := hs.lt_of_lt ha hb hij
  rw [icmp_same_ukey hl a.key b.key hu, Nat.compare_eq_lt] at this
  exact this

omit hl hs in
theorem cmp_lt_ne (hl : LawfulUCmp c) (a b : Bytes) (h : c.cmp a b = .lt) : a ≠ b := hl.ord.ne_of_lt h

omit hl hs in
theorem cmp_gt_ne (hl : LawfulUCmp c) (a b : Bytes) (h : c.cmp a b = .gt) : a ≠ b :=
  (hl.ord.ne_of_lt ((hl.gt_iff _ _).1 h)).symm

omit hs in
theorem cmp_lt_trans_le (a b d : Bytes) (h1 : c.cmp a b = .lt) (h2 : c.cmp b d ≠ .gt) : c.cmp a d = .lt :=
  hl.ord.lt_of_lt_of_le h1 h2

omit hs in
theorem cmp_le_trans_lt (a b d : Bytes) (h1 : c.cmp a b ≠ .gt) (h2 : c.cmp b d = .lt) : c.cmp a d = .lt :=
  hl.ord.lt_of_le_of_lt h1 h2

end

def NoEarlier (es : List Entry) (seq : Nat) (j : Nat) (u : Bytes) : Prop :=
  ∀ (i : Nat) (e : Entry), i < j → es[i]? = some e → e.ukey = u → seq < e.seq

def Vis (es : List Entry) (seq : Nat) (i : Nat) (e : Entry) : Prop :=
  e.seq ≤ seq ∧ e.kind = Gen.keyTypeVal ∧ NoEarlier es seq i e.ukey

theorem isVisible_iff {c : UCmp} (hl : LawfulUCmp c) {es : List Entry} (hs : SortedEntries c es) (seq : Nat)
    (i : Nat) (e : Entry) (he : es[i]? = some e) :
    isVisible c es seq e = true ↔ Vis es seq i e := by
  simp only [isVisible, Bool.and_eq_true, decide_eq_true_eq, List.all_eq_true, Bool.or_eq_true,
    Bool.not_eq_true', Bool.and_eq_false_iff, beq_eq_false_iff_ne, ne_eq, decide_eq_false_iff_not, Vis]
  constructor
  · rintro ⟨⟨h1, h2⟩, h3⟩
    refine ⟨h1, h2, ?_⟩
    intro i' e' hi' he' hu
    have hmem : e' ∈ es := List.mem_of_getElem? he'
    have hn := num_lt_idx hl hs i' i e' e hi' he' he hu
    rcases h3 e' hmem with (h | h) | h
    · rw [hu, hl.refl] at h; exact absurd rfl h
    · exact Nat.lt_of_not_le h
    · exact absurd hn (Nat.not_lt_of_le h)
  · rintro ⟨h1, h2, h3⟩
    refine ⟨⟨h1, h2⟩, ?_⟩
    intro e' hmem
    obtain ⟨i', hi', rfl⟩ := List.getElem_of_mem hmem
    have he' : es[i']? = some es[i'] := List.getElem?_eq_getElem hi'
    by_cases hc : c.cmp es[i'].ukey e.ukey = .eq
    · have hu := hl.eq_of _ _ hc
      rcases Nat.lt_trichotomy i' i with hlt | heq | hgt
      · exact .inl (.inr (Nat.not_le_of_gt (h3 i' _ hlt he' hu)))
      · subst heq; rw [he'] at he; cases he; exact .inr (Nat.le_refl _)
      · exact .inr (Nat.le_of_lt (num_lt_idx hl hs i i' e _ hgt he he' hu.symm))
    · exact .inl (.inl hc)

/-- the visible entries (before projection to user key / value) -/
def visList (c : UCmp) (es : List Entry) (seq : Nat) : List Entry := es.filter (isVisible c es seq)

def rk (c : UCmp) (es : List Entry) (seq : Nat) (j : Nat) : Nat := rank (isVisible c es seq) es j

section
variable {c : UCmp} {es : List Entry}

theorem rk_zero (seq : Nat) : rk c es seq 0 = 0 := rank_zero _ es

theorem rk_of_ge (seq j : Nat) (h : es.length ≤ j) : rk c es seq j = (visList c es seq).length :=
  rank_of_ge _ es j h

variable (hl : LawfulUCmp c) (hs : SortedEntries c es)
include hl hs

theorem vis_true (seq i : Nat) (e : Entry) (he : es[i]? = some e) (hv : Vis es seq i e) :
    isVisible c es seq e = true := (isVisible_iff hl hs seq i e he).2 hv

theorem vis_false (seq i : Nat) (e : Entry) (he : es[i]? = some e) (hv : ¬ Vis es seq i e) :
    isVisible c es seq e = false := by
  cases h : isVisible c es seq e with
  | false => rfl
  | true => exact absurd ((isVisible_iff hl hs seq i e he).1 h) hv

theorem rk_newer (seq j j' : Nat) (hle : j ≤ j')
    (h : ∀ (i : Nat) (e : Entry), j ≤ i → i < j' → es[i]? = some e → seq < e.seq) :
    rk c es seq j' = rk c es seq j :=
  rank_gap _ es j j' hle (fun i e h1 h2 h3 =>
    vis_false hl hs seq i e h3 (fun hv => Nat.not_le_of_gt (h i e h1 h2 h3) hv.1))

theorem rk_succ (seq j : Nat) (e : Entry) (he : es[j]? = some e) (hv : Vis es seq j e) :
    rk c es seq (j + 1) = rk c es seq j + 1 := by
  simp only [rk, rank_succ _ es j e he, vis_true hl hs seq j e he hv, if_true]

theorem rk_succ_of_not (seq j : Nat) (e : Entry) (he : es[j]? = some e) (hv : ¬ Vis es seq j e) :
    rk c es seq (j + 1) = rk c es seq j := by
  simp only [rk, rank_succ _ es j e he, vis_false hl hs seq j e he hv, Bool.false_eq_true, if_false, Nat.add_zero]

theorem rk_lt (seq j : Nat) (e : Entry) (he : es[j]? = some e) (hv : Vis es seq j e) :
    rk c es seq j < (visList c es seq).length :=
  rank_lt _ es j e he (vis_true hl hs seq j e he hv)

theorem next_at_rk (seq j : Nat) (e : Entry) (he : es[j]? = some e) (hv : Vis es seq j e) :
    Cursor.next (visList c es seq) (.at (rk c es seq j)) =
      IndexedIter.atOr (visList c es seq).length (rk c es seq (j + 1)) := by
  rw [rk_succ hl hs seq j e he hv]; rfl

end

end GoLevel

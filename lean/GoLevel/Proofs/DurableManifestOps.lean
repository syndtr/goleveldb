import GoLevel.Proofs.DurableDisk
/-!
`DiskOK` under a change of the manifest `CURRENT` names — append, sync, `SetMeta` to another manifest
(instances of `DiskOK.of_manifest`) — and the view after an edit.
-/
namespace GoLevel.Dur

theorem view_step {cfg : Cfg} {a : MAcc} {v : MView} (h : a.view? = some v) (r : MRec) (hr : r.torn = false) :
    (a.step cfg r).view? = some ⟨applyEdit v.live r, r.jn.getD v.jn, r.sq.getD v.sq, r.nf⟩ := by
  obtain ⟨live, jn, sq, nf, cmp⟩ := a
  cases cmp <;> cases jn <;> cases sq <;> cases nf <;> simp only [MAcc.view?, Bool.false_eq_true, if_false, if_true,
    Option.some.injEq, reduceCtorEq] at h
  subst h
  cases hj : r.jn <;> cases hs : r.sq <;> simp [MAcc.step, MAcc.view?, hr, hj, hs]
theorem viewAt_append_le (cfg : Cfg) (mf : LogFile MRec) (r : MRec) {k : Nat} (hk : k ≤ mf.unsynced.length) :
    viewAt cfg (mf.append r) k = viewAt cfg mf k := by
  unfold viewAt LogFile.append
  simp only [List.take_append_of_le_length hk]

theorem viewAt_all (cfg : Cfg) (mf : LogFile MRec) :
    viewAt cfg mf mf.unsynced.length = (replayM cfg mf.all).view? := by
  unfold viewAt LogFile.all
  rw [List.take_length]

theorem viewAt_append_last (cfg : Cfg) (mf : LogFile MRec) (r : MRec) :
    viewAt cfg (mf.append r) (mf.unsynced.length + 1) =
      ((replayM cfg mf.all).step cfg r).view? := by
  rw [← mf.append_unsynced_length r, viewAt_all, mf.append_all, replayM_snoc]

theorem viewAt_sync (cfg : Cfg) (mf : LogFile MRec) : viewAt cfg mf.sync 0 = viewAt cfg mf mf.unsynced.length := by
  rw [viewAt_all, ← mf.sync_all]
  exact viewAt_all cfg mf.sync

theorem curManifest_modify {d : Disk} {m : Nat} (hc : d.current = some m) (f : LogFile MRec → LogFile MRec) :
    curManifest { d with manifests := d.manifests.modify m f } = (curManifest d).map f := by
  simp only [curManifest, hc, Option.bind_some, lookup_modify, if_true]

theorem curManifest_other {d : Disk} {ms : Files (LogFile MRec)}
    (h : ∀ m, d.current = some m → lookup ms m = lookup d.manifests m) :
    curManifest { d with manifests := ms } = curManifest d := by
  unfold curManifest
  cases hc : d.current with
  | none => rfl
  | some m => simp only [Option.bind_some]; exact h m hc

theorem DiskOK.manifest_append {cfg : Cfg} {d : Disk} {must issued : List Grp} {m : Nat} {mf : LogFile MRec} {v0 : MView}
    (h : DiskOK cfg d must issued) (hp : DiskOK.Parts cfg d must issued mf v0) (hc : d.current = some m) (r : MRec)
    (hnew : ∃ v', ((replayM cfg mf.all).step cfg r).view? = some v' ∧ ViewOK d must issued v' ∧ v0.jn ≤ v'.jn) :
    DiskOK cfg { d with manifests := d.manifests.modify m (·.append r) } must issued := by
  refine h.of_manifest hp (mf' := mf.append r) rfl h.tnodup
    (pairwise_keys_modify (R := (· ≠ ·)) m (·.append r) h.mnodup) (by rw [curManifest_modify hc, hp.cur]; rfl)
    (by rw [viewAt_append_le cfg mf r (Nat.zero_le _)]; exact hp.hv0) (fun k hk => ?_) (Nat.le_refl _)
    (fun _ h => h) (fun _ h => h)
  have hlen := mf.append_unsynced_length r
  by_cases hk' : k ≤ mf.unsynced.length
  · rw [viewAt_append_le cfg mf r hk']
    exact (hp.views k hk').imp fun v hv => ⟨hv.1, hv.2.1, hv.2.2, fun _ _ => rfl⟩
  · obtain rfl : k = mf.unsynced.length + 1 := by omega
    rw [viewAt_append_last]
    exact hnew.imp fun v hv => ⟨hv.1, hv.2.1, hv.2.2, fun _ _ => rfl⟩

/-- `Sync` of the current manifest: only the last view remains admissible -/
theorem DiskOK.manifest_sync {cfg : Cfg} {d : Disk} {must issued : List Grp} {m : Nat}
    (h : DiskOK cfg d must issued) (hc : d.current = some m) :
    DiskOK cfg { d with manifests := d.manifests.modify m (·.sync) } must issued := by
  obtain ⟨mf, v0, hp⟩ := h.parts
  obtain ⟨v, hv, hok, hmono⟩ := hp.views mf.unsynced.length (Nat.le_refl _)
  refine h.of_manifest hp (mf' := mf.sync) rfl h.tnodup (pairwise_keys_modify (R := (· ≠ ·)) m (·.sync) h.mnodup)
    (by rw [curManifest_modify hc, hp.cur]; rfl) (by rw [viewAt_sync]; exact hv) (fun k hk => ?_) hmono
    (fun _ h => h) (fun _ h => h)
  obtain rfl : k = 0 := Nat.le_zero.1 hk
  exact ⟨v, by rw [viewAt_sync]; exact hv, hok, Nat.le_refl _, fun _ _ => rfl⟩

theorem DiskOK.set_meta {cfg : Cfg} {d : Disk} {must issued : List Grp} {m : Nat} {mf mf' : LogFile MRec} {v0 v' : MView}
    (h : DiskOK cfg d must issued) (hp : DiskOK.Parts cfg d must issued mf v0)
    (hl : lookup d.manifests m = some mf') (hu : mf'.unsynced = [])
    (hv' : viewAt cfg mf' 0 = some v') (hok' : ViewOK d must issued v') (hle : v0.jn ≤ v'.jn) :
    DiskOK cfg { d with current := some m } must issued := by
  refine h.of_manifest hp rfl h.tnodup h.mnodup (by simp [curManifest, hl]) hv' (fun k hk => ?_) hle (fun _ h => h)
    (fun _ h => h)
  obtain rfl : k = 0 := by simpa [hu] using hk
  exact ⟨v', hv', hok', Nat.le_refl _, fun _ _ => rfl⟩

theorem applyEdit_fresh {live : List Nat} {e : MRec} (hd : e.deleted = []) (hf : ∀ t ∈ e.added, t ∉ live) :
    applyEdit live e = live ++ e.added := by
  unfold applyEdit
  congr 1
  rw [List.filter_eq_self]
  intro t ht
  simp [hd]
  exact fun h => hf t h ht

theorem liveGrps_append (d : Disk) (v : MView) (l : List Nat) (jn sq nf : Nat) :
    liveGrps d ⟨v.live ++ l, jn, sq, nf⟩ = liveGrps d v ++ l.flatMap (tableGrpsOf d) := by
  simp [liveGrps, List.flatMap_append]

theorem outs_tableGrps (d : Disk) (outs : List (Nat × List Grp))
    (h : ∀ o ∈ outs, lookup d.tables o.1 = some ⟨o.2, true, false⟩) :
    (outs.map (·.1)).flatMap (tableGrpsOf d) = outs.flatMap (·.2) := by
  induction outs with
  | nil => rfl
  | cons o os ih =>
    simp only [List.map_cons, List.flatMap_cons, tableGrpsOf, h o List.mem_cons_self, Option.map_some,
      Option.getD_some]
    congr 1
    exact ih (fun x hx => h x (List.mem_cons_of_mem _ hx))

/-- the next-file number of a view only matters for the table numbers and the journal number -/
theorem ViewOK.with_nf {d : Disk} {must issued : List Grp} {l : List Nat} {jn sq nf nf' : Nat}
    (h : ViewOK d must issued ⟨l, jn, sq, nf⟩) (htl : ∀ t ∈ l, t < nf') (hj : jn < nf') :
    ViewOK d must issued ⟨l, jn, sq, nf'⟩ :=
  ⟨fun t ht => ⟨htl t ht, (h.tables t ht).2⟩, h.tseq, h.tdisj, h.jseq, h.tj, h.cover, hj⟩

theorem mem_applyEdit {live : List Nat} {e : MRec} {t : Nat} :
    t ∈ applyEdit live e ↔ (t ∈ live ∧ t ∉ e.deleted ∧ t ∉ e.added) ∨ t ∈ e.added := by
  simp [applyEdit]

theorem liveGrps_applyEdit (d : Disk) (v : MView) (e : MRec) (jn sq nf : Nat) :
    liveGrps d ⟨applyEdit v.live e, jn, sq, nf⟩ =
      (v.live.filter fun t => !(e.deleted.contains t) && !(e.added.contains t)).flatMap (tableGrpsOf d) ++
      e.added.flatMap (tableGrpsOf d) := by
  simp [liveGrps, applyEdit, List.flatMap_append]

theorem ViewOK.extend {s : St} {d : Disk} {must issued : List Grp} {j : Job} {e : MRec} {v : MView}
    (hok : ViewOK d must issued v) (he : EditOK s d j e v) (hi : ∀ g ∈ issuedGrps s, g ∈ issued)
    (hmust : ∀ g ∈ must, g ∈ Dur.must s)
    (houts : ∀ o ∈ j.outs, lookup d.tables o.1 = some ⟨o.2, true, false⟩) (nf : Nat) (hnf : v.nf ≤ nf)
    (hnf' : ∀ o ∈ j.outs, o.1 < nf) (hjnf : e.jn.getD v.jn < nf) :
    ViewOK d must issued ⟨applyEdit v.live e, e.jn.getD v.jn, e.sq.getD v.sq, nf⟩ := by
  obtain ⟨ha, _, _⟩ := he.shape
  obtain ⟨hdl, hdg⟩ := he.dels
  have hskip := he.skip
  have houtsE := he.outs
  have hkeep := he.keep
  have hmono := he.mono
  generalize e.jn.getD v.jn = jn' at *
  generalize e.sq.getD v.sq = sq' at *
  have hfresh : ∀ t ∈ e.added, t ∉ v.live := by
    intro t ht htl
    rw [ha] at ht
    obtain ⟨o, ho, rfl⟩ := List.mem_map.1 ht
    have := (he.fresh o ho).1
    have := (hok.tables o.1 htl).1
    omega
  have hlg : liveGrps d ⟨applyEdit v.live e, jn', sq', nf⟩ =
      (v.live.filter fun t => !(e.deleted.contains t) && !(e.added.contains t)).flatMap (tableGrpsOf d) ++
      outsGrps j := by
    rw [liveGrps_applyEdit, ha, outs_tableGrps d j.outs houts]; rfl
  have hsub : ∀ g ∈ (v.live.filter fun t => !(e.deleted.contains t) && !(e.added.contains t)).flatMap (tableGrpsOf d),
      g ∈ liveGrps d v := by
    intro g hg
    obtain ⟨t, ht, hgt⟩ := List.mem_flatMap.1 hg
    exact List.mem_flatMap.2 ⟨t, (List.mem_filter.1 ht).1, hgt⟩
  have hmj := hmono.1
  have hms := hmono.2.1
  constructor
  · intro t ht
    rcases mem_applyEdit.1 ht with ⟨htl, _, _⟩ | hta
    · obtain ⟨a, b⟩ := hok.tables t htl
      exact ⟨by simp only; omega, b⟩
    · rw [ha] at hta
      obtain ⟨o, ho, rfl⟩ := List.mem_map.1 hta
      refine ⟨hnf' o ho, ?_⟩
      rw [houts o ho]; simp [Holds]
  · intro g hg
    rw [hlg, List.mem_append] at hg
    rcases hg with hg | hg
    · obtain ⟨a, b, c⟩ := hok.tseq g (hsub g hg)
      exact ⟨by simp only; omega, b, c⟩
    · obtain ⟨a, b, c, _⟩ := houtsE g hg
      exact ⟨a, hi g b, c⟩
  · intro g hg g' hg'
    rw [hlg, List.mem_append] at hg hg'
    rcases hg with hg | hg <;> rcases hg' with hg' | hg'
    · exact hok.tdisj g (hsub g hg) g' (hsub g' hg')
    · exact ((houtsE g' hg').2.2.2.1 g (hsub g hg)).symm
    · exact (houtsE g hg).2.2.2.1 g' (hsub g' hg')
    · exact (houtsE g hg).2.2.2.2 g' hg'
  · intro p hp g hg
    have hp' := mem_relJournals.1 hp
    exact ⟨(hkeep p hp'.1 hp'.2 g hg).1.imp id (fun u w => u (hmust g w)), (hok.jseq p (relJournals_mono hmj hp) g hg).2⟩
  · intro g hg p hp g' hg'
    rw [hlg, List.mem_append] at hg
    have hp' := mem_relJournals.1 hp
    rcases hg with hg | hg
    · exact hok.tj g (hsub g hg) p (relJournals_mono hmj hp) g' hg'
    · exact (hkeep p hp'.1 hp'.2 g' hg').2 g hg
  · intro g hg
    rw [hlg]
    rcases hok.cover g hg with h1 | ⟨p, hp, hgp⟩
    · obtain ⟨t, ht, hgt⟩ := List.mem_flatMap.1 h1
      by_cases hdel : t ∈ e.deleted
      · exact Or.inl (List.mem_append_right _ (hdg g (List.mem_flatMap.2 ⟨t, hdel, hgt⟩)))
      · refine Or.inl (List.mem_append_left _ (List.mem_flatMap.2 ⟨t, ?_, hgt⟩))
        rw [List.mem_filter]
        refine ⟨ht, ?_⟩
        have hna : t ∉ e.added := fun hx => hfresh t hx ht
        simp [hdel, hna]
    · have hp' := mem_relJournals.1 hp
      by_cases hlt : p.1 < jn'
      · exact Or.inl (List.mem_append_right _
          (hskip p hp'.1 hp'.2 hlt g (by simp [LogFile.all, hgp]) (hmust g hg)))
      · exact Or.inr ⟨p, mem_relJournals.2 ⟨hp'.1, by simp only; omega⟩, hgp⟩
  · show jn' < nf
    exact hjnf

end GoLevel.Dur

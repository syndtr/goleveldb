import GoLevel.Proofs.CacheSys
/-! The cache interleaving system never deadlocks (C17): in every reachable state that is not quiescent some thread
can take a step.  `Close` is the only instruction that can be disabled — while a reader is inside, and, in the
guarded system, while a thread sits in the zero branch of `unRefExternal`; in both cases that other thread can move. -/
namespace GoLevel.CacheM

/-- A thread is about to take the write lock in `Close`, or to start one of the calls that begin with
`r.mu.RLock()` (and has nothing else to do), or contains neither `closeLock` nor `enter`. -/
def WC (t : List Instr) : Prop :=
  (∃ f, t = [Instr.closeLock f]) ∨ (∃ c, t = [Instr.enter c] ∧ enterOK (.enter c) = true) ∨
    ∀ j ∈ t, isCloseLock j = false ∧ isEnter j = false

theorem WC.head {i : Instr} {rest : List Instr} (h : WC (i :: rest)) :
    (∃ f, i = Instr.closeLock f ∧ rest = []) ∨ isCloseLock i = false ∧ enterOK i = true := by
  rcases h with ⟨f, hf⟩ | ⟨c, hc, hok⟩ | hpl
  · injection hf with h1 h2; exact .inl ⟨f, h1, h2⟩
  · injection hc with h1 _; subst h1; exact .inr ⟨rfl, hok⟩
  · exact .inr ⟨(hpl i List.mem_cons_self).1, enterOK_of_not_enter (hpl i List.mem_cons_self).2⟩

theorem exec_total (sh : Shared) {i : Instr} (h1 : isCloseLock i = false) (h2 : enterOK i = true) :
    ∃ r, exec sh i = some r := by
  cases i
  case closeLock f => simp [isCloseLock] at h1
  case enter c =>
    cases c <;> simp [enterOK] at h2 <;> simp only [exec, execEnter] <;> (repeat' split) <;> exact ⟨_, rfl⟩
  all_goals (simp only [exec, execBget, execSetv, execPromote, execBan, execLevict, execSetcap, execDelz,
    execUnref, execFin, execFinStale])
  all_goals (repeat' split)
  all_goals exact ⟨_, rfl⟩

theorem exec_closeLock {sh : Shared} {f : Bool} (h0 : sh.rlock = 0) : ∃ r, exec sh (.closeLock f) = some r := by
  simp only [exec, execCloseLock, h0, ne_eq, not_true_eq_false, if_false]
  split <;> exact ⟨_, rfl⟩

theorem stepOK_of_not_close {g : Bool} {ts : List (List Instr)} {i : Instr} (h : g = false ∨ isCloseLock i = false) :
    stepOK g ts i = true := by
  rcases h with rfl | h <;> cases i <;> first | rfl | cases h

theorem sysStep_enabled {g : Bool} {s : Sys} {t : Nat} {i : Instr} {rest : List Instr}
    (ht : s.threads[t]? = some (i :: rest)) (hok : stepOK g s.threads i = true) (he : ∃ r, exec s.sh i = some r) :
    ∃ s', sysStep g s (.step t) = some s' := by
  obtain ⟨⟨sh', push, evs⟩, he⟩ := he
  exact ⟨_, by simp only [sysStep, ht, if_pos hok, he]; rfl⟩

theorem wc_reachable {g : Bool} {s : Sys} (hr : Reachable g s) : ∀ t ∈ s.threads, WC t := by
  refine threads_reachable (.inr (.inr fun j hj => by cases hj)) (fun c => ?_) (fun {_ _ i push _ rest} hw he => .inr (.inr ?_)) hr
  · cases c <;> first
      | exact .inl ⟨_, rfl⟩
      | exact .inr (.inl ⟨_, rfl, rfl⟩)
      | exact .inr (.inr (List.forall_mem_singleton.mpr ⟨rfl, rfl⟩))
  · have hp := fun j hj => (exec_pushes he j hj).plain
    rcases hw with ⟨f, hf⟩ | ⟨c, hf, _⟩ | hpl
    iterate 2 (injection hf with h2 h3; subst h3; simpa using hp)
    · intro j hj
      rcases List.mem_append.mp hj with hj | hj
      · exact hp j hj
      · exact hpl j (List.mem_cons_of_mem _ hj)

theorem progress {g : Bool} {s : Sys} (hr : Reachable g s) (hnq : pending s ≠ []) :
    ∃ t s', sysStep g s (.step t) = some s' := by
  have hwc := wc_reachable hr
  have hinv := inv_reachable hr
  by_cases hex : ∃ (t : Nat) (i : Instr) (rest : List Instr), s.threads[t]? = some (i :: rest) ∧ isCloseLock i = false
  · obtain ⟨t, i, rest, ht, hcl⟩ := hex
    have hen : enterOK i = true := by
      rcases (hwc _ (List.mem_of_getElem? ht)).head with ⟨f, rfl, _⟩ | hpl
      · cases hcl
      · exact hpl.2
    exact ⟨t, sysStep_enabled ht (stepOK_of_not_close (.inr hcl)) (exec_total s.sh hcl hen)⟩
  · -- every non-empty thread is `[closeLock f]`
    have hall : ∀ t ∈ s.threads, t = [] ∨ ∃ f, t = [Instr.closeLock f] := by
      intro t ht
      cases t with
      | nil => exact Or.inl rfl
      | cons i rest =>
        right
        obtain ⟨k, hk⟩ := List.getElem?_of_mem ht
        rcases (hwc _ ht).head with ⟨f, rfl, rfl⟩ | hpl
        · exact ⟨f, rfl⟩
        · exact absurd ⟨k, i, rest, hk, hpl.1⟩ hex
    have hpend : ∀ j ∈ pending s, ∃ f, j = Instr.closeLock f := by
      intro j hj
      obtain ⟨t, ht, hjt⟩ := List.mem_flatten.mp hj
      rcases hall t ht with rfl | ⟨f, rfl⟩
      · cases hjt
      · exact ⟨f, by simpa using hjt⟩
    obtain ⟨j, hj⟩ := List.exists_mem_of_ne_nil _ hnq
    obtain ⟨t, ht, hjt⟩ := List.mem_flatten.mp hj
    obtain ⟨k, hk⟩ := List.getElem?_of_mem ht
    rcases hall t ht with rfl | ⟨f, rfl⟩
    · cases hjt
    · have hr0 : s.sh.rlock = 0 := by
        rw [hinv.core.rl, List.count_eq_zero]
        intro hm; obtain ⟨f', hf'⟩ := hpend _ hm; cases hf'
      have hne : noPendingExtz s.threads = true := by
        simp only [noPendingExtz, List.all_eq_true]
        intro t' ht' j' hj'
        obtain ⟨f', hf'⟩ := hpend j' (List.mem_flatten.mpr ⟨t', ht', hj'⟩)
        subst hf'; rfl
      exact ⟨k, sysStep_enabled hk (by simp [stepOK, hne]) (exec_closeLock hr0)⟩

end GoLevel.CacheM

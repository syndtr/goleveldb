import GoLevel.Proofs.FilterP
import GoLevel.Proofs.TableR
/-! C13(f), reader half: `readFilterBlock` / `filterBlock.contains` on a written filter block. -/
namespace GoLevel.C13
open GoLevel

theorem flat_append (pol : FilterPolicy) (a b : List (List Bytes)) : flat pol (a ++ b) = flat pol a ++ flat pol b := by
  simp [flat]

/-- entry `i` of the offset array (with the trailing total) is the length of the first `i` filters -/
theorem offs_getElem? (pol : FilterPolicy) : ∀ (segs : List (List Bytes)) (base i : Nat), i ≤ segs.length →
    (offs pol segs base ++ [base + (flat pol segs).length])[i]? = some (base + (flat pol (segs.take i)).length) := by
  intro segs
  induction segs with
  | nil => intro base i hi; have : i = 0 := by simpa using hi
           subst this; simp [offs, flat]
  | cons s rest ih =>
    intro base i hi
    cases i with
    | zero => simp [offs, flat]
    | succ i =>
      have := ih (base + (segBytes pol s).length) i (by simpa using hi)
      simp only [offs, List.cons_append, List.getElem?_cons_succ, List.take_succ_cons]
      have e1 : base + (flat pol (s :: rest)).length = base + (segBytes pol s).length + (flat pol rest).length := by
        simp [flat]; omega
      have e2 : base + (flat pol (s :: rest.take i)).length = base + (segBytes pol s).length + (flat pol (rest.take i)).length := by
        simp [flat]; omega
      rw [e1, e2]; exact this

theorem flat_take_succ (pol : FilterPolicy) (segs : List (List Bytes)) (i : Nat) (hi : i < segs.length) :
    flat pol (segs.take (i + 1)) = flat pol (segs.take i) ++ segBytes pol (segs.getD i []) := by
  have : segs.getD i [] = segs[i] := by simp [List.getD, List.getElem?_eq_getElem hi]
  rw [this, List.take_succ_eq_append_getElem hi, flat_snoc]

theorem flat_split (pol : FilterPolicy) (segs : List (List Bytes)) (i : Nat) (hi : i < segs.length) :
    flat pol segs = flat pol (segs.take i) ++ (segBytes pol (segs.getD i []) ++ flat pol (segs.drop (i + 1))) := by
  conv => lhs; rw [← List.take_append_drop (i + 1) segs]
  rw [flat_append, flat_take_succ pol segs i hi, List.append_assoc]

theorem readFilterBlock_at {cksum : Bytes → Nat} (hck : Cksum32 cksum) (A C : Bytes) (pol : FilterPolicy) (lg : Nat)
    (segs : List (List Bytes)) (hlg : lg < 256) (hsz : (flat pol segs).length < 2 ^ 32) :
    readFilterBlock cksum (A ++ (withTrailer cksum (filterBlockBytes pol lg segs) ++ C))
        ⟨A.length, (filterBlockBytes pol lg segs).length⟩ =
      some ⟨filterBlockBytes pol lg segs, (flat pol segs).length, lg, segs.length⟩ := by
  unfold readFilterBlock
  rw [readRawBlock_at hck]
  simp only
  have hlen : (filterBlockBytes pol lg segs).length = (flat pol segs).length + 4 * (segs.length + 1) + 1 := by
    simp only [filterBlockBytes, List.length_append, flatMap_le32_length, offs_length, List.length_singleton]
  have h5 : ¬ ((filterBlockBytes pol lg segs).length < 5) := by omega
  simp only [h5, if_false]
  have hdrop : (filterBlockBytes pol lg segs).drop ((filterBlockBytes pol lg segs).length - 5) =
      le32 (flat pol segs).length ++ [lg.toUInt8] := by
    rw [hlen]
    simp only [filterBlockBytes, List.flatMap_append, List.flatMap_cons, List.flatMap_nil, List.append_nil,
      List.append_assoc]
    rw [← List.append_assoc, List.drop_left' (by
      simp only [List.length_append, flatMap_le32_length, offs_length]; omega)]
  rw [hdrop, rd32_le32_append _ _ hsz]
  have : ¬ ((flat pol segs).length > (filterBlockBytes pol lg segs).length - 5) := by omega
  simp only [this, if_false]
  have hlast : (filterBlockBytes pol lg segs).drop ((filterBlockBytes pol lg segs).length - 1) = [lg.toUInt8] := by
    rw [hlen]
    simp only [filterBlockBytes]
    rw [List.drop_left' (by
      simp only [List.length_append, flatMap_le32_length, offs_length, List.length_singleton]; omega)]
  rw [hlast]
  simp only [List.headD_cons, toNat_toUInt8_of_lt hlg]
  congr 2
  omega

/-- `Generate` writes at least one byte for a non-empty key set (true of the bloom filter; the reader takes an
empty filter to mean "no keys") -/
def GenNonempty (pol : FilterPolicy) : Prop := ∀ ks, ks ≠ [] → pol.generate ks ≠ []

/-- C13(f), reader half: `filterBlock.contains` for a data block at offset `o` consults exactly the filter number
`o >>> lg`, i.e. the one generated from the key list `segs[o >>> lg]` -/
theorem contains_written (pol : FilterPolicy) (lg : Nat) (segs : List (List Bytes)) (hsz : (flat pol segs).length < 2 ^ 32)
    (o : Nat) (key : Bytes) (hi : o >>> lg < segs.length) (hne : segBytes pol (segs.getD (o >>> lg) []) ≠ []) :
    (⟨filterBlockBytes pol lg segs, (flat pol segs).length, lg, segs.length⟩ : FilterBlockR).contains pol o key =
      pol.contains (segBytes pol (segs.getD (o >>> lg) [])) key := by
  generalize hidef : o >>> lg = i at hi hne ⊢
  unfold FilterBlockR.contains
  simp only [hidef, hi, if_true]
  have hx0 := offs_getElem? pol segs 0 i (by omega)
  have hx1 := offs_getElem? pol segs 0 (i + 1) (by omega)
  simp only [Nat.zero_add] at hx0 hx1
  have hsplit := flat_split pol segs i hi
  have htake1 : (flat pol (segs.take (i + 1))).length =
      (flat pol (segs.take i)).length + (segBytes pol (segs.getD i [])).length := by
    rw [flat_take_succ pol segs i hi, List.length_append]
  have hle : (flat pol (segs.take i)).length + (segBytes pol (segs.getD i [])).length ≤ (flat pol segs).length := by
    rw [hsplit]; simp only [List.length_append]; omega
  -- the two slots of the offset array
  have hl : i + 1 < (offs pol segs 0 ++ [(flat pol segs).length]).length := by
    rw [List.length_append, offs_length, List.length_singleton]; omega
  have g0 := (List.getElem?_eq_some_iff.1 hx0).2
  have g1 := (List.getElem?_eq_some_iff.1 hx1).2
  have hn := rd32_at (flat pol segs) [lg.toUInt8] (offs pol segs 0 ++ [(flat pol segs).length]) i (by omega)
    (by rw [g0]; omega)
  have hm := rd32_at (flat pol segs) [lg.toUInt8] (offs pol segs 0 ++ [(flat pol segs).length]) (i + 1) hl
    (by rw [g1]; omega)
  rw [g0] at hn
  rw [g1, htake1] at hm
  have hdata : filterBlockBytes pol lg segs =
      flat pol segs ++ ((offs pol segs 0 ++ [(flat pol segs).length]).flatMap le32 ++ [lg.toUInt8]) := by
    simp only [filterBlockBytes, List.append_assoc]
  rw [List.drop_drop, Nat.mul_comm i 4, show (flat pol segs).length + 4 * i + 4 = (flat pol segs).length + 4 * (i + 1) by omega,
    hdata, hn, hm, ← hdata]
  have hpos : 0 < (segBytes pol (segs.getD i [])).length := List.length_pos_iff.mpr hne
  have hc : (flat pol (segs.take i)).length < (flat pol (segs.take i)).length + (segBytes pol (segs.getD i [])).length ∧
      (flat pol (segs.take i)).length + (segBytes pol (segs.getD i [])).length ≤ (flat pol segs).length := ⟨by omega, hle⟩
  simp only [hc, and_self, if_true]
  congr 1
  simp only [filterBlockBytes, List.append_assoc]
  conv => lhs; rw [hsplit]
  simp only [List.append_assoc]
  rw [List.drop_left, Nat.add_sub_cancel_left, List.take_left' rfl]

end GoLevel.C13

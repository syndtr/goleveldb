import GoLevel.Proofs.LocksCount
/-! The counting abstraction of `Locks.Step`.  The invariants of the lock model do not follow single threads: they see
the thread list only through a few sums (`tot tokW`, `tot srW`, …).  `Cnt` is the vector of those sums, `cnt p` what one
thread at `p` contributes, and `Tr cfg s n n' s'` lists what a step can do to the sums `n` and the scalar fields of `s`
(the list of `s` is not looked at).  Thread steps whose two program counters contribute the same and that leave the
scalars alone are all `Tr.same`; a step that takes, passes on or gives back a resource is one kind per resource, whatever
call it belongs to; the steps of the goroutines are as in `Step`.  `sim` is the one case analysis over `Step`; every
invariant that reads only sums and scalars is proved for `Tr` (`LocksInv.lean`). -/
namespace GoLevel.Locks
open CompErr

/-- threads of `DB.Write`'s large-batch path that will still end the internal transaction -/
def lgW : Pc → Nat
  | .lgWrite | .cmLockTr true | .cmFlush true | .cmLockClk true | .cmTry _ true | .cmSleep _ true
  | .cmFail3 true | .cmAfterOk true | .cmWaitComp true | .cmDone true | .cmRet false true
  | .dcLockTr true | .dcBody true => 1
  | .cwSend _ .cmWaitT true | .cwAck _ .cmWaitT true => 1
  | _ => 0
def clAllW : Pc → Nat | .clCheckTr | .clLockTr | .clBody | .clAcq | .clWait => 1 | _ => 0
def clPreW : Pc → Nat | .clCheckTr | .clLockTr | .clBody | .clAcq => 1 | _ => 0

/-- program counters from which the open transaction could still be ended -/
def txW : Pc → Nat
  | .lgWrite | .cmLockTr _ | .cmFlush _ | .cmLockClk _ | .cmTry _ _ | .cmSleep _ _ | .cmFail3 _ | .cmAfterOk _
  | .cmWaitComp _ | .cmDone _ | .cmRet _ _ | .dcLockTr _ | .dcBody _ | .clCheckTr | .clLockTr | .clBody => 1
  | .cwSend _ s _ | .cwAck _ s _ => (match s with | .cmWaitT => 1 | _ => 0)
  | _ => 0

def corrB : BPh → Nat
  | .setErrC _ => 1
  | _ => 0
def corrPh : Bg → Nat
  | .run _ ph => corrB ph
  | _ => 0
@[simp] theorem corrPh_run (w : Option Nat) (ph : BPh) : corrPh (.run w ph) = corrB ph := rfl
@[simp] theorem corrPh_idle : corrPh .idle = 0 := rfl
@[simp] theorem corrPh_exited : corrPh .exited = 0 := rfl
@[simp] theorem corrPh_parked : corrPh .parked = 0 := rfl

/-- what the threads hold or are in the middle of, summed: the write-lock token, `compCommitLk`, `tr.lk`; threads between
the two `select`s of `SetReadOnly`, on the large-batch path, inside `Close`, inside `Close` before it has the lock,
inside `SetReadOnly`, where they could still end the open transaction -/
structure Cnt where
  tok : Nat
  clk : Nat
  trlk : Nat
  sr : Nat
  lg : Nat
  cl : Nat
  pre : Nat
  srAll : Nat
  tx : Nat

namespace Cnt

instance : Add Cnt :=
  ⟨fun a b => ⟨a.tok + b.tok, a.clk + b.clk, a.trlk + b.trlk, a.sr + b.sr, a.lg + b.lg, a.cl + b.cl, a.pre + b.pre,
    a.srAll + b.srAll, a.tx + b.tx⟩⟩

/-- with the unit vectors below being abbreviations, `simp only [add_def]` turns a component of a sum into arithmetic -/
theorem add_def (a b : Cnt) :
    a + b = ⟨a.tok + b.tok, a.clk + b.clk, a.trlk + b.trlk, a.sr + b.sr, a.lg + b.lg, a.cl + b.cl, a.pre + b.pre,
      a.srAll + b.srAll, a.tx + b.tx⟩ := rfl

theorem add_assoc (a b c : Cnt) : a + b + c = a + (b + c) := by
  simp only [add_def, Nat.add_assoc]

abbrev zero : Cnt := ⟨0, 0, 0, 0, 0, 0, 0, 0, 0⟩
abbrev oneTok : Cnt := { zero with tok := 1 }
abbrev oneClk : Cnt := { zero with clk := 1 }
abbrev oneTrlk : Cnt := { zero with trlk := 1 }
/-- a thread at `srSet` -/
abbrev oneSrSet : Cnt := { zero with sr := 1, srAll := 1 }
abbrev oneSrAll : Cnt := { zero with srAll := 1 }
abbrev oneLg (lg : Bool) : Cnt := { zero with lg := b2n lg }
abbrev oneTx (b : Bool) : Cnt := { zero with tx := b2n b }
/-- a thread at `lgWrite`, or one whose `Commit` inside `DB.Write` failed -/
abbrev oneLgTx (lg : Bool) : Cnt := { zero with lg := b2n lg, tx := b2n lg }
/-- a `Close` that has not yet acquired the write lock -/
abbrev oneCl : Cnt := { zero with cl := 1, pre := 1, tx := 1 }
abbrev onePre : Cnt := { zero with pre := 1 }
abbrev oneClAll : Cnt := { zero with cl := 1 }

end Cnt

def cnt (p : Pc) : Cnt := ⟨tokW p, clkW p, trlkW p, srW p, lgW p, clAllW p, clPreW p, srAllW p, txW p⟩

def totC (ws : List Pc) : Cnt :=
  ⟨tot tokW ws, tot clkW ws, tot trlkW ws, tot srW ws, tot lgW ws, tot clAllW ws, tot clPreW ws, tot srAllW ws,
   tot txW ws⟩

theorem totC_eraseIdx {ws : List Pc} {i : Nat} {p : Pc} (h : ws[i]? = some p) :
    totC ws = totC (ws.eraseIdx i) + cnt p := by
  simp only [totC, cnt, Cnt.add_def, tot_eraseIdx _ h]

theorem totC_set {ws : List Pc} {i : Nat} {p : Pc} (h : ws[i]? = some p) (q : Pc) :
    totC (ws.set i q) = totC (ws.eraseIdx i) + cnt q := by
  simp only [totC, cnt, Cnt.add_def, tot_set_eraseIdx _ h]

/-- a thread contributes the same from sending a compaction command until it has left the wait, either way -/
theorem cnt_send (b : Bool) (site : Site) (lg : Bool) : cnt (.cwSend b site lg) = cnt (onErr site lg) := by
  cases site <;> cases lg <;> rfl
theorem cnt_ack (b : Bool) (site : Site) (lg : Bool) : cnt (.cwAck b site lg) = cnt (onErr site lg) := by
  cases site <;> cases lg <;> rfl
theorem cnt_ok (site : Site) (lg : Bool) : cnt (onOk site lg) = cnt (onErr site lg) := by
  cases site <;> cases lg <;> rfl

theorem totC_ackWs (ws : List Pc) (w : Option Nat) (b : Bool) : totC (ackWs ws w b) = totC ws := by
  unfold ackWs
  split
  · split
    · rename_i i _ b' site lg hw
      split
      · rw [totC_set hw, totC_eraseIdx hw, cnt_ack, cnt_ok]
      · rfl
    · rfl
  · rfl

/-- the scalar fields of a state -/
def St.sc (s : St) : St := { s with ws := [] }

/-- `St.setBg` as one record update (`St.setBg_eq`): every field but `mc`, `tc` reduces whatever `b` is -/
def St.putBg (s : St) (b : Bool) (v : Bg) : St := { s with mc := if b then s.mc else v, tc := if b then v else s.tc }

/-- What a step does to the sums `n` and the scalars of `s`.  A kind that takes something from a thread is stated with
the sums after the step as `n`, so that no subtraction occurs. -/
inductive Tr (cfg : Cfg) (s : St) : Cnt → Cnt → St → Prop
  | same {n : Cnt} : Tr cfg s n n s
  /-- a thread leaves the first `select` of `SetReadOnly` by another arm; `Close` returns -/
  | exitSR {n : Cnt} : Tr cfg s (n + .oneSrAll) n s
  | exitClose {n : Cnt} : Tr cfg s (n + .oneClAll) n s
  | startSR {n : Cnt} (h : s.sr = true) : Tr cfg s n (n + .oneSrAll) s
  /-- `Commit` or `Discard` of the user's transaction is called -/
  | startTx {n : Cnt} (h : s.trUser = true) : Tr cfg s n (n + .oneTx true) s
  /-- a thread is past the point where it could end the open transaction -/
  | exitTx {n : Cnt} : Tr cfg s (n + .oneTx true) n s
  | setClosed {n : Cnt} (h : s.closed = false) : Tr cfg s n (n + .oneCl) { s with closed := true }
  /-- the `writeLockC` arm of a first `select` -/
  | takeTok {n : Cnt} (h : s.tok = false) : Tr cfg s n (n + .oneTok) { s with tok := true }
  /-- … of the first `select` of `SetReadOnly`: the thread is between its two `select`s -/
  | takeTokSR {n : Cnt} (h : s.tok = false) :
      Tr cfg s (n + .oneSrAll) (n + .oneSrSet)
        { s with tok := true, ehTok := true, cwl := s.cwl || cfg.srSetsWriteLocking }
  | relTok {n : Cnt} : Tr cfg s (n + .oneTok) n { s with tok := false }
  | otxFail {n : Cnt} :
      Tr cfg s (n + .oneTok) n { s with tok := if cfg.openTxReleasesOnError then false else s.tok }
  | openTx {n : Cnt} (lg : Bool) :
      Tr cfg s (n + .oneTok) (n + .oneLgTx lg) { s with trOpen := true, trUser := !lg }
  | clAcq {n : Cnt} (h : s.tok = false) : Tr cfg s (n + .onePre) n { s with tok := true, closeTok := true }
  | clKept {n : Cnt} (he : s.eh = .closing) :
      Tr cfg s (n + .onePre) n { s with eh := .exited, ehTok := false, closeTok := true }
  | lockTr {n : Cnt} (h : s.trlk = false) : Tr cfg s n (n + .oneTrlk) { s with trlk := true }
  /-- `tr.lk` is unlocked by a thread that could still have ended the transaction (`stays`: and still can) -/
  | unlockTr {n : Cnt} (lg stays : Bool) (h : lg = true → s.trOpen = false) :
      Tr cfg s (n + (.oneTrlk + (.oneLg lg + .oneTx true))) (n + .oneTx stays) { s with trlk := false }
  | endTx {n : Cnt} (lg stays : Bool) (h : s.trOpen = true) :
      Tr cfg s (n + (.oneTrlk + (.oneLg lg + .oneTx true))) (n + .oneTx stays)
        { s with trOpen := false, trUser := false, tok := false, trlk := false }
  | lockClk {n : Cnt} (h : s.clk = false) : Tr cfg s n (n + .oneClk) { s with clk := true }
  | unlockClk {n : Cnt} : Tr cfg s (n + .oneClk) n { s with clk := false }
  | unlockBoth {n : Cnt} : Tr cfg s (n + (.oneClk + .oneTrlk)) n { s with clk := false, trlk := false }
  | fail3 {n : Cnt} :
      Tr cfg s (n + (.oneClk + .oneTrlk)) n
        { s with trlk := false, clk := if cfg.commitUnlocksOnError then false else s.clk }
  /-- a failed `Commit` inside `DB.Write` returns without `tr.Discard()` -/
  | dropLg {n : Cnt} (h : cfg.largeBatchDiscardsOnCommitError = false) : Tr cfg s (n + .oneLgTx true) n s
  -- the second `select` of `SetReadOnly`
  | srSend {n : Cnt} (he : recvs cfg.m s.eh = true) :
      Tr cfg s (n + .oneSrSet) n
        { s with eh := next cfg.m s.eh .readonly, ehErr := .readonly, ro := true, cwl := s.cwl || roSets cfg s.eh }
  | srGiveBack {n : Cnt} :
      Tr cfg s (n + .oneSrSet) n { s with tok := false, ehTok := false }
  | srGiveUp {n : Cnt}
      (hg : offPer cfg.m s.eh = true ∧ cfg.srPerErrGivesBack = false ∨
            s.closed = true ∧ cfg.setReadOnlyReleasesOnClose = false) : Tr cfg s (n + .oneSrSet) n s
  -- a wait
  | cmd {n : Cnt} (b : Bool) (w : Option Nat) (hb : s.bg b = .idle) :
      Tr cfg s n n (s.putBg b (.run w .work))
  | park {n : Cnt} (hb : s.tc = .idle) (hro : s.ro = true) :
      Tr cfg s n n { s with tc := .parked }
  | unwait {n : Cnt} (b : Bool) (i : Nat) : Tr cfg s n n (s.putBg b (clearW (s.bg b) i))
  | ehAcquire {n : Cnt} (he : offLock cfg.m s.eh = true) (ht : s.tok = false) :
      Tr cfg s n n { s with tok := true, ehTok := true, cwl := true }
  | ehClose {n : Cnt} (he : closes cfg.m s.eh = true) (hc : s.closed = true) :
      Tr cfg s n n { s with eh := onClose cfg.m s.eh s.cwl }
  | ehTake {n : Cnt} (he : s.eh = .closing) (hg : cfg.m.hasperrGivesBack = true) :
      Tr cfg s n n { s with eh := .exited, tok := false, ehTok := false }
  | bgExitIdle {n : Cnt} (b : Bool) (hb : s.bg b = .idle) (hc : s.closed = true) :
      Tr cfg s n n (s.putBg b .exited)
  | bgExitParked {n : Cnt} (hb : s.tc = .parked) : Tr cfg s n n { s with tc := .exited }
  /-- a storage action ends, or the back-off does: `compCommitLk` stays as it is -/
  | bgPhase {n : Cnt} (b : Bool) (w : Option Nat) (ph ph' : BPh) (hb : s.bg b = .run w ph)
      (hp : ph ≠ .lockClk) (hk : bphClk ph' = bphClk ph) (hc : corrB ph' = 0 ∨ s.corr = true) :
      Tr cfg s n n (s.putBg b (.run w ph'))
  | bgSetErr {n : Cnt} (b : Bool) (w : Option Nat) (ok c : Bool) (hb : s.bg b = .run w (.setErr ok c))
      (he : recvs cfg.m s.eh = true) :
      Tr cfg s n n ({ s with eh := next cfg.m s.eh (if ok then .nil else .transient),
                             ehErr := if ok then .nil else .transient,
                             clk := if ok && c then false else s.clk }.putBg b (.run w (afterSetErr ok c)))
  | bgSetErrCorrupt {n : Cnt} (b : Bool) (w : Option Nat) (c : Bool) (hb : s.bg b = .run w (.setErrC c))
      (he : recvs cfg.m s.eh = true) :
      Tr cfg s n n ({ s with eh := next cfg.m s.eh .corrupt, ehErr := .corrupt,
                             clk := if c then false else s.clk }.putBg b .exited)
  | bgSetErrPer {n : Cnt} (b : Bool) (w : Option Nat) (c : Bool) (hb : s.bg b = .run w (.setErr true c)) :
      Tr cfg s n n ({ s with clk := if c then false else s.clk }.putBg b (.run w (afterSetErr true c)))
  | bgLockClk {n : Cnt} (b : Bool) (w : Option Nat) (hb : s.bg b = .run w .lockClk) (hl : s.clk = false) :
      Tr cfg s n n ({ s with clk := true }.putBg b (.run w .commit))
  | bgAck {n : Cnt} (b : Bool) (w : Option Nat) (hb : s.bg b = .run w .ackW) :
      Tr cfg s n n (s.putBg b (afterCmd cfg s b))
  | bgExit {n : Cnt} (b : Bool) (w : Option Nat) (ph : BPh) (hb : s.bg b = .run w ph)
      (hx : (s.closed = true ∧ ph ≠ .lockClk ∧ ph ≠ .ackW) ∨
            (offPer cfg.m s.eh = true ∧ ∃ c, ph = .setErr false c ∨ ph = .setErrC c)) :
      Tr cfg s n n ({ s with clk := if bphClk ph = 1 then false else s.clk }.putBg b .exited)

abbrev Sim (cfg : Cfg) (s t : St) : Prop := Tr cfg s.sc (totC s.ws) (totC t.ws) t.sc

section
variable {cfg : Cfg} {s t : St} {i : Nat} {p q : Pc}

/-- thread `i` goes from `p` to `q`; `d` is what it holds only before, `e` what it holds only after -/
theorem sim_thr (hi : s.ws[i]? = some p) (hws : t.ws = s.ws.set i q) {c : Cnt} (d e : Cnt) (hp : cnt p = c + d)
    (hq : cnt q = c + e) (k : ∀ {n}, Tr cfg s.sc (n + d) (n + e) t.sc) : Sim cfg s t := by
  unfold Sim
  rw [totC_eraseIdx hi, hws, totC_set hi, hp, hq, ← Cnt.add_assoc, ← Cnt.add_assoc]
  exact k

theorem sim_same (hi : s.ws[i]? = some p) (hws : t.ws = s.ws.set i q) (hq : cnt q = cnt p)
    (k : ∀ {n}, Tr cfg s.sc n n t.sc) : Sim cfg s t := by
  unfold Sim
  rw [totC_eraseIdx hi, hws, totC_set hi, hq]
  exact k

theorem sim_up (hi : s.ws[i]? = some p) (hws : t.ws = s.ws.set i q) (d : Cnt) (hq : cnt q = cnt p + d)
    (k : ∀ {n}, Tr cfg s.sc n (n + d) t.sc) : Sim cfg s t := by
  unfold Sim
  rw [totC_eraseIdx hi, hws, totC_set hi, hq, ← Cnt.add_assoc]
  exact k

theorem sim_down (hi : s.ws[i]? = some p) (hws : t.ws = s.ws.set i q) (d : Cnt) (hp : cnt p = cnt q + d)
    (k : ∀ {n}, Tr cfg s.sc (n + d) n t.sc) : Sim cfg s t := by
  unfold Sim
  rw [totC_eraseIdx hi, hws, totC_set hi, hp, ← Cnt.add_assoc]
  exact k

/-- thread `i` unlocks `tr.lk` after `setDone`, which ends the transaction if one is open -/
theorem sim_setDone (hi : s.ws[i]? = some p) (lg stays : Bool) {c : Cnt}
    (hp : cnt p = c + (.oneTrlk + (.oneLg lg + .oneTx true))) (hq : cnt q = c + .oneTx stays) :
    Sim cfg s { s.setDone with ws := s.ws.set i q, trlk := false } := by
  unfold St.setDone
  split
  · exact sim_thr hi rfl _ _ hp hq (.endTx lg stays ‹_›)
  · exact sim_thr hi rfl _ _ hp hq (.unlockTr lg stays fun _ => Bool.eq_false_iff.2 ‹_›)

theorem sim_bg {s' : St} (b : Bool) (v : Bg) (hn : totC s'.ws = totC s.ws)
    (k : Tr cfg s.sc (totC s.ws) (totC s.ws) (s'.sc.putBg b v)) : Sim cfg s (s'.setBg b v) := by
  rw [St.setBg_eq]
  show Tr cfg _ _ (totC s'.ws) (s'.sc.putBg b v)
  rw [hn]
  exact k

end

theorem sim {cfg : Cfg} {s t : St} {f : Bool} (h : Step cfg f s t) : Sim cfg s t := by
  cases h with
  | startSR _ _ hi ha => exact sim_up hi rfl .oneSrAll rfl (.startSR ha)
  | startCommit _ _ hi hu | startDiscard _ _ hi hu => exact sim_up hi rfl (.oneTx true) rfl (.startTx hu)
  | startClose _ _ hi =>
    split
    · exact sim_same hi rfl rfl .same
    · exact sim_up hi rfl .oneCl rfl (.setClosed (Bool.eq_false_iff.2 ‹_›))
  | selTok _ _ _ _ hi hq ht =>
    obtain ⟨rfl, rfl⟩ | ⟨lg, rfl, rfl⟩ | ⟨rfl, rfl⟩ | ⟨rfl, rfl⟩ := selNext_some hq
    · rw [show (s.cwl || (Pc.putSel == .srSel && cfg.srSetsWriteLocking)) = s.cwl from Bool.or_false _]
      exact sim_up hi rfl .oneTok rfl (.takeTok ht)
    · rw [show (s.cwl || (Pc.otxSel lg == .srSel && cfg.srSetsWriteLocking)) = s.cwl from Bool.or_false _]
      exact sim_up hi rfl .oneTok rfl (.takeTok ht)
    · rw [show (s.cwl || (Pc.crSel == .srSel && cfg.srSetsWriteLocking)) = s.cwl from Bool.or_false _]
      exact sim_up hi rfl .oneTok rfl (.takeTok ht)
    · exact sim_thr hi rfl (c := .zero) .oneSrAll .oneSrSet rfl rfl (.takeTokSR ht)
  | selPerErr _ _ _ _ hi hq | selClosed _ _ _ _ hi hq =>
    obtain ⟨rfl, rfl⟩ | ⟨lg, rfl, rfl⟩ | ⟨rfl, rfl⟩ | ⟨rfl, rfl⟩ := selNext_some hq
    · exact sim_same hi rfl rfl .same
    · exact sim_same hi rfl rfl .same
    · exact sim_same hi rfl rfl .same
    · exact sim_down hi rfl .oneSrAll rfl .exitSR
  | putUnlock _ _ _ hi | otxRel _ _ _ hi | crRelM _ _ hi | crRelOk _ _ hi | crRelFail _ _ hi =>
    exact sim_down hi rfl .oneTok rfl .relTok
  | otxFail _ _ _ hi => exact sim_down hi rfl .oneTok rfl .otxFail
  | otxDone _ _ lg hi =>
    exact sim_thr hi rfl (c := .zero) .oneTok (.oneLgTx lg) rfl (by cases lg <;> rfl) (.openTx lg)
  | cwSendGo _ _ b _ _ hi hb =>
    rw [St.setBg_eq]
    exact sim_same hi rfl ((cnt_ack _ _ _).trans (cnt_send _ _ _).symm) (.cmd b _ hb)
  | cwSendRO _ _ _ _ hi hb hp hro => exact sim_same hi rfl (cnt_send _ _ _).symm (.park hb hro)
  | cwSendErr _ _ _ _ _ hi => exact sim_same hi rfl (cnt_send _ _ _).symm .same
  | cwAckErr _ i b _ _ hi =>
    rw [St.setBg_eq]
    exact sim_same hi rfl (cnt_ack _ _ _).symm (.unwait b i)
  | cmLockTr _ _ lg hi hl =>
    split
    · cases lg <;> exact sim_up hi rfl .oneTrlk rfl (.lockTr hl)
    · cases lg <;> exact sim_same hi rfl rfl .same
  | dcLockTr _ _ lg hi hl => cases lg <;> exact sim_up hi rfl .oneTrlk rfl (.lockTr hl)
  | clLockTr _ _ hi hl => exact sim_up hi rfl .oneTrlk rfl (.lockTr hl)
  | cmFlushFail _ _ lg hi =>
    exact sim_thr hi rfl (c := .oneLg lg) (.oneTrlk + (.oneLg false + .oneTx true)) (.oneTx true) (by cases lg <;> rfl)
      (by cases lg <;> rfl) (.unlockTr false true nofun)
  | cmDone _ _ lg hi => exact sim_setDone hi lg true (c := .zero) (by cases lg <;> rfl) (by cases lg <;> rfl)
  | dcBody _ _ lg hi => exact sim_setDone hi lg false (c := .zero) (by cases lg <;> rfl) (by cases lg <;> rfl)
  | clBody _ _ hi => exact sim_setDone hi false false (c := cnt .clAcq) rfl rfl
  | cmLockClk _ _ lg hi hl => cases lg <;> exact sim_up hi rfl .oneClk rfl (.lockClk hl)
  | cmAfterOk _ _ lg hi => cases lg <;> exact sim_down hi rfl .oneClk rfl .unlockClk
  | cmSleepClosed _ _ _ lg hi => cases lg <;> exact sim_down hi rfl (.oneClk + .oneTrlk) rfl .unlockBoth
  | cmFail3 _ _ lg hi => cases lg <;> exact sim_down hi rfl (.oneClk + .oneTrlk) rfl .fail3
  | cmSleepTimer _ _ k lg hi => cases k <;> cases lg <;> exact sim_same hi rfl rfl .same
  | cmRet _ _ ok lg hi =>
    cases ok <;> cases lg <;> try exact sim_down hi rfl (.oneTx true) rfl .exitTx
    cases hf : cfg.largeBatchDiscardsOnCommitError
    · exact sim_down hi rfl (.oneLgTx true) rfl (.dropLg hf)
    · exact sim_same hi rfl rfl .same
  | clCheckTr _ _ hi =>
    split
    · exact sim_same hi rfl rfl .same
    · exact sim_down hi rfl (.oneTx true) rfl .exitTx
  | srSend _ _ hi he => exact sim_down hi rfl .oneSrSet rfl (.srSend he)
  | srPerErr _ _ hi he =>
    split
    · exact sim_down hi rfl .oneSrSet rfl .srGiveBack
    · exact sim_down hi rfl .oneSrSet rfl (.srGiveUp (.inl ⟨he, Bool.eq_false_iff.2 ‹_›⟩))
  | srClosed _ _ hi hc =>
    split
    · exact sim_down hi rfl .oneSrSet rfl .srGiveBack
    · exact sim_down hi rfl .oneSrSet rfl (.srGiveUp (.inr ⟨hc, Bool.eq_false_iff.2 ‹_›⟩))
  | clAcq _ _ hi ht => exact sim_down hi rfl .onePre rfl (.clAcq ht)
  | clAcqKept _ _ hi he hk hs => exact sim_down hi rfl .onePre rfl (.clKept he)
  | clWait _ _ hi => exact sim_down hi rfl .oneClAll rfl .exitClose
  | ehAcquire _ he ht => exact .ehAcquire he ht
  | ehClose _ he hc => exact .ehClose he hc
  | ehTake _ he _ hg => exact .ehTake he hg
  | bgExitIdle _ b hb hc => exact sim_bg _ _ rfl (.bgExitIdle b hb hc)
  | bgExitParked _ hb => exact .bgExitParked hb
  | bgWorkOk _ b w hb | bgWorkFail _ b w hb | bgCommitOk _ b w hb | bgCommitFail _ b w hb =>
    exact sim_bg _ _ rfl (.bgPhase b w _ _ hb nofun rfl (.inl rfl))
  | bgWorkCorrupt _ b w hb hk | bgCommitCorrupt _ b w hb hk =>
    exact sim_bg _ _ rfl (.bgPhase b w _ _ hb nofun rfl (.inr hk))
  | bgBackoff _ b w c hb => cases c <;> exact sim_bg _ _ rfl (.bgPhase b w _ _ hb nofun rfl (.inl rfl))
  | bgSetErr _ b w ok c hb he => exact sim_bg _ _ rfl (.bgSetErr b w ok c hb he)
  | bgSetErrCorrupt _ b w c hb he => exact sim_bg _ _ rfl (.bgSetErrCorrupt b w c hb he)
  | bgSetErrPer _ b w c hb => exact sim_bg _ _ rfl (.bgSetErrPer b w c hb)
  | bgLockClk _ b w hb hl => exact sim_bg _ _ rfl (.bgLockClk b w hb hl)
  | bgAck _ b w hb => exact sim_bg _ _ (totC_ackWs _ _ _) (.bgAck b w hb)
  | bgExit _ b w ph hb hx => exact sim_bg _ _ rfl (.bgExit b w ph hb hx)
  | cmFlushOk _ _ lg hi | cmFlushEmpty _ _ lg hi | cmNoWaitComp _ _ lg hi | cmWaitComp _ _ lg hi
  | cmTryOk _ _ _ lg hi | cmTryFail _ _ _ lg hi =>
    cases lg <;> exact sim_same hi rfl rfl .same
  | _ =>
    have hi : s.ws[_]? = some _ := ‹_›
    exact sim_same hi rfl rfl .same

end GoLevel.Locks

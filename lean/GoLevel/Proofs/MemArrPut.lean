import GoLevel.Proofs.MemArrOwn
/-! `Put` over the arrays: the overwrite branch, and what the insert branch does to `nodeData` (C14). -/
namespace GoLevel.MemArr
open GoLevel.Gen (nKV nKey nVal nHeight nNext tMaxHeight)
open GoLevel.MemDB (Node LawfulCmp Sorted pred below ins)

variable {cmp : Cmp} {a : DB} {d : MemDB.DB} {ix : Bytes → Nat}

/-- the ideal table after `Put` of a key that is present (`MemDB.put_old`) -/
def putOld (d : MemDB.DB) (key v : Bytes) : MemDB.DB :=
  { d with kv := (key, v) :: d.kv.filter (·.1 != key)
           kvSize := d.kvSize + v.length - (d.value key).length
           used := d.used + key.length + v.length }

theorem putOverwrite_sim (hc : LawfulCmp cmp) (r : Rep cmp a d ix) {key : Bytes} (hk : key ∈ d.level0) (v : Bytes) :
    ∃ a', putOverwrite a (ix key) key v = some a' ∧
      Rep cmp a' (putOld d key v) ix ∧ a'.gen = a.gen ∧
      a'.kvData = a.kvData ++ key.toArray ++ v.toArray ∧ a'.nodeData.size = a.nodeData.size ∧
      ∀ x, x ≠ ix key → x ≠ ix key + nVal → a'.nodeData[x]? = a.nodeData[x]? := by
  have e4 := nNext_eq
  have e1 := nKey_eq
  have e2 := nVal_eq
  have e3 := nHeight_eq
  have hn := r.node key hk
  obtain ⟨nd1, w1, s1, g1⟩ := wr_some (a := a.nodeData) (i := ix key) a.kvData.size (by have := hn.hi; omega)
  obtain ⟨nd2, w2, s2, g2⟩ := wr_some (a := nd1) (i := ix key + nVal) v.length (by have := hn.hi; omega)
  have hm : nd1[ix key + nVal]? = some (d.value key).length := by
    rw [g1, if_neg (by omega)]; exact hn.vlen
  have hoff : ∀ x, x ≠ ix key → x ≠ ix key + nVal → nd2[x]? = a.nodeData[x]? := by
    intro x h1 h2; rw [g2, if_neg h2, g1, if_neg h1]
  have hsz : nd2.size = a.nodeData.size := s2.trans s1
  have hd' := MemDB.put_inv hc r.inv key v (ht := 1) (by omega) (by decide)
  rw [MemDB.put_old hc r.inv hk] at hd'
  change MemDB.Inv cmp (putOld d key v) at hd'
  refine ⟨{ a with kvData := a.kvData ++ key.toArray ++ v.toArray, nodeData := nd2,
                   kvSize := a.kvSize + v.length - (d.value key).length },
    by simp only [putOverwrite, w1, hm, w2, Option.bind_some, Option.bind_eq_bind], ?_, rfl, rfl,
    hsz, hoff⟩
  have hchain : ∀ i, i < tMaxHeight → Chain nd2 ix i 0 0 (lv d.levels i) := fun i hit =>
    (r.chain_lv hit).frame (fun _ _ => rfl) (fun z hz =>
      hoff _ (fun e => r.field_ne_slot hk (f := 0) (by omega) (r.cell_owner hit hz) e.symm)
        (fun e => r.field_ne_slot hk (by omega) (r.cell_owner hit hz) e.symm))
  refine
    { inv := hd', mh := r.mh, n := r.n, kvSize := ?_, used := ?_, pn := r.pn, fuel := ?_,
      top := (top_chain_of_lv r.inv.height hchain).1, chain := (top_chain_of_lv r.inv.height hchain).2,
      node := ?_, sep := r.sep }
  · show a.kvSize + v.length - (d.value key).length = _
    rw [r.kvSize]; rfl
  · show (a.kvData ++ key.toArray ++ v.toArray).size = d.used + key.length + v.length
    simp [Array.size_append, r.used, Nat.add_assoc]
  · exact hsz ▸ r.fuel
  · intro k hk'
    have hk0 : k ∈ d.level0 := hk'
    have hnk := r.node k hk0
    show NodeAt _ (ix k) k (MemDB.DB.value _ k) (d.height k)
    by_cases hkk : k = key
    · subst hkk
      have hv : (putOld d k v).value k = v := MemDB.value_put_self d k v _ _ _ _
      rw [hv]
      refine ⟨hnk.lo, hsz ▸ hnk.hi,
        ⟨a.kvData.size, ?_, slice_put_key _ _ _, slice_put_val _ _ _⟩, ?_, ?_, ?_⟩
      · rw [g2, if_neg (by omega), g1, if_pos rfl]
      · exact (hoff _ (by omega) (by omega)).trans hnk.klen
      · rw [g2, if_pos rfl]
      · exact (hoff _ (by omega) (by omega)).trans hnk.height
    · have hv : (putOld d key v).value k = d.value k := MemDB.value_put_other d hkk v _ _ _ _
      rw [hv]
      have hsep := r.sep k hk0 key hk hkk
      exact hnk.frame _ (Array.append_assoc ..) (Nat.le_of_eq hsz.symm)
        (fun f hf => hoff _ (by omega) (by omega))

theorem put_old_sim (hc : LawfulCmp cmp) (r : Rep cmp a d ix) {key : Bytes} (hk : key ∈ d.level0) (v : Bytes)
    (h : Nat) : ∃ a', put cmp a key v h = some a' ∧ Rep cmp a' (MemDB.put cmp d key v h) ix ∧
      a'.gen = a.gen ∧ a'.kvData = a.kvData ++ key.toArray ++ v.toArray ∧ a'.nodeData.size = a.nodeData.size ∧
      ∀ x, x ≠ ix key → x ≠ ix key + nVal → a'.nodeData[x]? = a.nodeData[x]? := by
  obtain ⟨node, pn', h1, hn, hlen, _⟩ := findGE_path hc r key
  obtain ⟨a', e, r', f1, f2, f3, f4⟩ := putOverwrite_sim hc (r.setPrev pn' (hlen.trans r.pn.symm)) hk v
  refine ⟨a', ?_, by rw [MemDB.put_old hc r.inv hk]; exact r', f1, f2, f3, f4⟩
  simp only [put, h1, hn hk, hk, decide_true, Option.bind_some, Option.bind_eq_bind, if_true]
  exact e

/-- the facts about `nodeData` after the insert branch of `Put`, for a `prevNode` that holds the search path below
the current height -/
structure Inserted (cmp : Cmp) (a : DB) (d : MemDB.DB) (ix : Bytes → Nat) (key v : Bytes) (h : Nat)
    (nd' : Array Nat) : Prop where
  size : nd'.size = a.nodeData.size + 4 + h
  same : ∀ x, x < a.nodeData.size → (∀ j, j < h → x ≠ nix ix (pth cmp d key j) + nNext + j) →
    nd'[x]? = a.nodeData[x]?
  link : ∀ j, j < h → nd'[nix ix (pth cmp d key j) + nNext + j]? = some a.nodeData.size
  next : ∀ j, j < h → nd'[a.nodeData.size + nNext + j]? = a.nodeData[nix ix (pth cmp d key j) + nNext + j]?
  fields : ∀ f, f < 4 → nd'[a.nodeData.size + f]? = #[a.kvData.size, key.length, v.length, h][f]?

theorem putInsert_arrays (r : Rep cmp a d ix) (key v : Bytes) {h : Nat} (h2 : h ≤ tMaxHeight)
    (pn1 : List Nat) (hlen : pn1.length = tMaxHeight)
    (hpath : ∀ j, j < a.maxHeight → pn1[j]? = some (nix ix (pth cmp d key j))) :
    ∃ nd' pn2, putInsert { a with prevNode := pn1 } key v h =
        some { kvData := a.kvData ++ key.toArray ++ v.toArray, nodeData := nd', prevNode := pn2,
               maxHeight := if h > a.maxHeight then h else a.maxHeight, n := a.n + 1,
               kvSize := a.kvSize + (key.length + v.length), gen := a.gen } ∧
      pn2.length = tMaxHeight ∧ Inserted cmp a d ix key v h nd' := by
  have e4 := nNext_eq
  -- raising the height is `clearLoop` over `h - maxHeight` levels, and no round at all when `h ≤ maxHeight`
  obtain ⟨pn2, p1, p2, p3⟩ : ∃ pn2, clearLoop pn1 a.maxHeight (h - a.maxHeight) = some pn2 ∧
      pn2.length = tMaxHeight ∧ ∀ j, j < h → pn2[j]? = some (nix ix (pth cmp d key j)) := by
    have hmh : a.maxHeight ≤ tMaxHeight := r.mh ▸ r.inv.height
    obtain ⟨pn2, c1, c2, c3⟩ := clearLoop_spec (h - a.maxHeight) pn1 a.maxHeight (by omega)
    refine ⟨pn2, c1, c2.trans hlen, fun j hj => ?_⟩
    rw [c3 j]
    by_cases hjm : j < a.maxHeight
    · rw [if_neg (by omega)]; exact hpath j hjm
    · rw [if_pos (by omega), pth_ge d key (by rw [← r.mh]; omega)]; rfl
  have hown : ∀ j, j < h → Slot d ix (nix ix (pth cmp d key j)) j := fun j hj => r.pth_owner key (by omega)
  -- the four pushes append the new node's record
  let nd1 := a.nodeData ++ #[a.kvData.size, key.length, v.length, h]
  have hsz1 : nd1.size = a.nodeData.size + 4 := by simp [nd1]
  have hnd1 : ∀ x, x < a.nodeData.size → nd1[x]? = a.nodeData[x]? := fun x hx => Array.getElem?_append_left hx
  have hlt : ∀ j, j < h → nix ix (pth cmp d key j) + nNext + j < a.nodeData.size :=
    fun j hj => r.owner_lt (hown j hj)
  obtain ⟨nd', l1, l2, l3, l4, l5⟩ := linkLoop_spec a.nodeData.size pn2 (fun j => nix ix (pth cmp d key j)) h nd1 p3
    (fun j hj => by have := hlt j hj; omega)
    (fun j j' hjj hj' e => Nat.ne_of_lt hjj (r.slot_inj (hown j (Nat.lt_trans hjj hj')) (hown j' hj') (by omega)).2)
  have hN : ∀ f, f < 4 → nd'[a.nodeData.size + f]? = #[a.kvData.size, key.length, v.length, h][f]? := fun f hf => by
    rw [l3 _ (by omega) (fun j hj => by have := hlt j hj; omega),
      Array.getElem?_append_right (Nat.le_add_right _ _), Nat.add_sub_cancel_left]
  refine ⟨nd', pn2, ?_, p2, ?_⟩
  · have hnl : ¬ h > pn2.length := by omega
    have l1' : linkLoop a.nodeData.size (pn2.take h) 0
        ((((a.nodeData.push a.kvData.size).push key.length).push v.length).push h) = some nd' := l1
    unfold putInsert
    by_cases hgt : h > a.maxHeight
    · simp only [hgt, if_true, p1, Option.map_some, Option.bind_some, Option.bind_eq_bind, hnl, if_false, l1']
    · rw [show h - a.maxHeight = 0 by omega] at p1
      obtain rfl : pn1 = pn2 := Option.some.inj p1
      simp only [hgt, if_false, Option.bind_some, Option.bind_eq_bind, hnl, l1']
  · refine ⟨?_, ?_, ?_, ?_, hN⟩
    · rw [l2, hsz1]
    · intro x hx hne
      rw [l3 x (by omega) hne, hnd1 x hx]
    · exact l4
    · intro j hj
      rw [show a.nodeData.size + nNext + j = nd1.size + j by omega, l5 j hj]
      exact hnd1 _ (hlt j hj)

end GoLevel.MemArr

import GoLevel.Proofs.KeyIndex
/-!
# Property C15 — ordering of internal keys, probe placement, shortened index keys

"Entries are ordered by user key under the configured comparer, ascending, and for equal user keys newest
first; this is a strict total order for every valid comparer and agrees with how lookups are positioned
(the probe for 'key k as of sequence s' sorts immediately before the newest entry of k that is not newer
than s).  The shortened keys used in table indexes always satisfy a <= separator(a,b) < b and
successor(b) >= b in that order, for the built-in and for custom comparers, so an index built from them
sends every lookup to the block holding the sought entry."

Models: `GoLevel/Model/Key.lean` (`key.go`, `comparer.go`, `comparer/bytes_comparer.go`); `seekGE` in
`GoLevel/Proofs/Key.lean`; `tableFind` (`table.Reader.find`) and `buildIndex` (`table.Writer.flushPendingBH`) in
`GoLevel/Proofs/KeyIndex.lean`.

"Valid comparer" is `LawfulUCmp`, whose `sep_ok` clause is read for `a ≤ b` (every call the DB makes), so
that it forces `Separator(u,u) = nil`.  Under the weaker reading "only for `a < b`" the statement
`a ≤ separator(a,b) < b` is false for custom comparers: see `sep_premise_needed`.
-/
namespace GoLevel.C15

/-- concrete entries used by the non-vacuity examples: user key `[1]` at seq 9, 5 (a deletion), 2 and user
key `[1,7]`, `[2]` -/
def exEntries : List IKey :=
  [mkIKey [1] 9 1, mkIKey [1] 5 0, mkIKey [1] 2 1, mkIKey [1, 7] 4 1, mkIKey [2] 7 1]

/-! ## encoding -/

/-- Every key `makeInternalKey` can build (it panics outside these bounds) parses back to itself, its
sequence number and kind are recovered from the packed number, and the packed number is at most `keyMaxNum`. -/
theorem parse_encode (u : Bytes) (seq kt : Nat) (hs : seq ≤ Gen.keyMaxSeq) (hk : kt ≤ Gen.keyTypeVal) :
    parseIKey (mkIKey u seq kt).encode = some (mkIKey u seq kt)
    ∧ (mkIKey u seq kt).seq = seq ∧ (mkIKey u seq kt).kind = kt
    ∧ (mkIKey u seq kt).num ≤ Gen.keyMaxNum
    ∧ (mkIKey u seq kt).num = Gen.packNum seq kt := by
  have hkt : kt < 256 := Nat.lt_of_le_of_lt hk keyTypeVal_lt
  have hkind := mkIKey_kind u seq kt hkt
  refine ⟨parseIKey_encode _ (Nat.lt_of_le_of_lt (mkIKey_num_le u seq kt hs hk) (by decide)) (by rw [hkind]; exact hk),
    mkIKey_seq u seq kt hkt, hkind, mkIKey_num_le u seq kt hs hk, ?_⟩
  rw [packNum_eq seq kt hkt]; rfl

example : parseIKey (mkIKey [1, 2, 3] 77 1).encode = some ⟨[1, 2, 3], 77 * 256 + 1⟩ :=
  (parse_encode [1, 2, 3] 77 1 (by decide) (by decide)).1
example : (mkIKey [1, 2, 3] 77 1).encode = [1, 2, 3, 1, 77, 0, 0, 0, 0, 0, 0] := by decide
/-- the bounds matter: a kind above `keyTypeVal` is rejected by the parser -/
example : parseIKey (mkIKey [1] 77 2).encode = none := by decide

/-- `parseInternalKey` accepts nothing but encodings of keys within the bounds -/
theorem parse_only_encodings (bs : Bytes) (k : IKey) (h : parseIKey bs = some k) :
    k.encode = bs ∧ k.num < 2 ^ 64 ∧ k.kind ≤ Gen.keyTypeVal := by
  simp only [parseIKey] at h
  split at h
  · cases h
  · split at h
    · cases h
    · rename_i h8 hk
      cases h
      have hlen : (bs.drop (bs.length - 8)).length = 8 := by
        rw [List.length_drop]; exact Nat.sub_sub_self (Nat.le_of_not_lt h8)
      -- the trailer is exactly eight bytes, so writing back what was read restores it
      have hd := leN_rdLE (bs.drop (bs.length - 8))
      rw [hlen] at hd
      refine ⟨?_, rd64_lt _, Nat.le_of_not_lt hk⟩
      simp only [IKey.encode, rd64, le64, List.take_of_length_le (Nat.le_of_eq hlen), hd,
        List.take_append_drop]

example : parseIKey [9, 1, 5, 0, 0, 0, 0, 0, 0] = some ⟨[9], 5 * 256 + 1⟩ := by decide

/-- the comparer on raw bytes (what memdb and tables call) is the comparer on parsed keys -/
theorem icmpBytes_encode (c : UCmp) (a b : IKey) (ha : a.num < 2 ^ 64) (hb : b.num < 2 ^ 64) :
    icmpBytes c a.encode b.encode = icmp c a b := by
  simp only [icmpBytes, IKey.encode_take, IKey.encode_drop, rd64_le64 _ ha, rd64_le64 _ hb]

example : icmpBytes bytewise (mkIKey [1] 9 1).encode (mkIKey [1] 5 0).encode = .lt := by decide

/-! ## strict total order: user key ascending, then newest first -/

section order
variable {c : UCmp} (hl : LawfulUCmp c)
include hl

theorem icmp_order (a b : IKey) :
    icmp c a b = .lt ↔ (c.cmp a.ukey b.ukey = .lt ∨ (a.ukey = b.ukey ∧ b.num < a.num)) :=
  GoLevel.icmp_order hl a b

theorem icmp_irrefl (a : IKey) : icmp c a a ≠ .lt := (icmp_ord hl).irrefl a

theorem icmp_eq_iff (a b : IKey) : icmp c a b = .eq ↔ a = b := GoLevel.icmp_eq_iff hl a b

theorem icmp_gt_iff (a b : IKey) : icmp c a b = .gt ↔ icmp c b a = .lt := GoLevel.icmp_gt_iff hl a b

theorem icmp_trans (a b d : IKey) (h1 : icmp c a b = .lt) (h2 : icmp c b d = .lt) :
    icmp c a d = .lt := GoLevel.icmp_trans hl a b d h1 h2

/-- trichotomy (with `icmp_irrefl`, `icmp_trans`: a strict total order) -/
theorem icmp_total (a b : IKey) : icmp c a b = .lt ∨ a = b ∨ icmp c b a = .lt :=
  (icmp_ord hl).total a b

end order

/-- newest first inside a user key, then the next user key -/
example : exEntries.Pairwise (fun a b => icmp bytewise a b = .lt) := by decide
example : icmp bytewise (mkIKey [1] 9 1) (mkIKey [1] 5 0) = .lt
    ∧ icmp bytewise (mkIKey [1] 5 0) (mkIKey [1] 9 1) = .gt
    ∧ icmp bytewise (mkIKey [2] 0 0) (mkIKey [1, 7] 4 1) = .gt
    ∧ icmp bytewise (mkIKey [1] 5 0) (mkIKey [1] 5 0) = .eq := by decide
/-- same sequence number: the value sorts before the deletion (kind is part of the packed number) -/
example : icmp bytewise (mkIKey [1] 5 1) (mkIKey [1] 5 0) = .lt := by decide

/-! ## where the probe lands -/

section probe
variable {c : UCmp} (hl : LawfulUCmp c)
include hl

/-- The cut made by the probe for "`k` as of `s`": an entry is at or after it exactly when its user key is
larger, or it is an entry of `k` not newer than `s`. -/
theorem probe_cut (e : IKey) (k : Bytes) (s : Nat) (hkind : e.kind ≤ Gen.keyTypeVal) :
    (icmp c e (probe k s) != .lt) = true ↔ (c.cmp e.ukey k = .gt ∨ (e.ukey = k ∧ e.seq ≤ s)) :=
  icmp_probe_ge hl e k s hkind

/-- In a sorted run, seeking the probe for "`k` as of `s`" either lands on an entry of `k`, which is then
the newest entry of `k` that is not newer than `s`; or it lands on another user key or runs off the end, and
then the run holds no entry of `k` at or below `s`. -/
theorem probe_placement (es : List IKey) (hs : es.Pairwise (fun a b => icmp c a b = .lt))
    (hkind : ∀ e ∈ es, e.kind ≤ Gen.keyTypeVal) (k : Bytes) (s : Nat) :
    (∀ e, es.find? (fun e => icmp c e (probe k s) != .lt) = some e → e.ukey = k →
        e ∈ es ∧ e.seq ≤ s ∧ ∀ e' ∈ es, e'.ukey = k → e'.seq ≤ s → e'.seq ≤ e.seq)
    ∧ ((∀ e, es.find? (fun e => icmp c e (probe k s) != .lt) = some e → e.ukey ≠ k) →
        ∀ e' ∈ es, e'.ukey = k → ¬ e'.seq ≤ s) := by
  constructor
  · intro e hf hk
    obtain ⟨h1, _, h3, h4⟩ := seekGE_newest hl es hs hkind k s e hf hk
    exact ⟨h1, h3, h4⟩
  · intro hf e' he' hk' hle'
    have hge := (ge_probe_same_key hl e' k s hk' (hkind e' he')).2 hle'
    cases hfind : seekGE c es (probe k s) with
    | none => exact hge ((seekGE_eq_none es _).1 hfind e' he')
    | some e =>
      -- the seek returned `e ≤ e'`, yet the user key of `e` is above `k`
      obtain ⟨hm, hpe, hleast⟩ := seekGE_least hl es hs _ e hfind
      have hgt := ((probe_cut hl e k s (hkind e hm)).1 (bne_iff_ne.2 hpe)).resolve_right
        fun h => hf e hfind h.1
      refine hleast e' he' hge ?_
      rw [icmp_eq_then, hk', hgt]; rfl

end probe

/-- as of 6 the visible entry of `[1]` is the deletion at 5; as of 1 there is none and the seek lands on
the next user key; the probe for a missing key lands on the next key too -/
example : exEntries.find? (fun e => icmp bytewise e (probe [1] 6) != .lt) = some (mkIKey [1] 5 0) := by decide
example : exEntries.find? (fun e => icmp bytewise e (probe [1] 1) != .lt) = some (mkIKey [1, 7] 4 1) := by decide
example : exEntries.find? (fun e => icmp bytewise e (probe [3] 9) != .lt) = none := by decide
example : ∀ e ∈ exEntries, e.kind ≤ Gen.keyTypeVal := by decide

/-! ## shortened keys -/

section shorten
variable {c : UCmp} (hl : LawfulUCmp c)
include hl

/-- the shape of a shortened separator: a strictly larger, strictly shorter user key with the largest
packed number (so it sorts before every real entry of that user key) -/
theorem iSep_shape (a b x : IKey) (hle : c.cmp a.ukey b.ukey ≠ .gt) (h : iSep c a b = some x) :
    icmp c a x = .lt ∧ icmp c x b = .lt ∧ x.num = Gen.keyMaxNum ∧ x.ukey.length < a.ukey.length := by
  simp only [iSep] at h
  split at h
  · rename_i d hd
    split at h
    · rename_i hcond
      have := Option.some.inj h; subst this
      have hs := hl.sep_ok _ _ _ hle hd
      exact ⟨(icmp_order hl _ _).2 (.inl hcond.2), (icmp_order hl _ _).2 (.inl hs.2), rfl, hcond.1⟩
    · exact absurd h (by simp)
  · exact absurd h (by simp)

/-- `a ≤ separator(a,b) < b` for the key the table writer stores (`a` itself when `iComparer.Separator`
returns nil), for any two entries `a < b` — including two entries of the same user key.  No bound on the
packed numbers is needed. -/
theorem iSep_between (a b : IKey) (hab : icmp c a b = .lt) :
    icmp c a (indexSep c a b) ≠ .gt ∧ icmp c (indexSep c a b) b = .lt := by
  unfold indexSep
  cases hs : iSep c a b with
  | none => exact ⟨(icmp_ord hl).le_refl a, hab⟩
  | some x =>
    have hle : c.cmp a.ukey b.ukey ≠ .gt := by
      rcases (icmp_order hl a b).1 hab with h | ⟨h, _⟩
      · rw [h]; nofun
      · rw [h, hl.refl]; nofun
    obtain ⟨h1, h2, _⟩ := iSep_shape hl a b x hle hs
    exact ⟨by rw [Option.getD_some, h1]; nofun, h2⟩

/-- a valid comparer answers `Separator(u, u)` with nil: `sep_ok` read at `a = b` would ask for `u ≤ x < u` -/
theorem sep_self (u : Bytes) : c.sep u u = none := by
  cases h : c.sep u u with
  | none => rfl
  | some d =>
    have hs := hl.sep_ok u u d (by rw [hl.refl]; exact fun h => Ordering.noConfusion h) h
    exact absurd ((hl.gt_iff u d).2 hs.2) hs.1

/-- `successor(b) ≥ b` for the key the table writer stores after the last block -/
theorem iSucc_ge (b : IKey) : icmp c b (indexSucc c b) ≠ .gt := by
  simp only [indexSucc, iSucc]
  split
  · split
    · rename_i hcond
      rw [Option.getD_some, (icmp_order hl _ _).2 (.inl hcond.2)]; nofun
    · exact (icmp_ord hl).le_refl b
  · exact (icmp_ord hl).le_refl b

end shorten

/-- **Why `sep_ok` has the premise `a ≤ b` and not `a < b`.**  `sepOnEqCmp` (bytewise, except that
`Separator(u,u) = [2]`) satisfies every clause of the contract when `sep_ok` is only demanded for `a < b`;
yet for the consecutive entries `[1,0]@7 < [1,0]@3` the writer would store the index key `[2]@max`, which
sorts after both.  With the premise `a ≤ b` this comparer is not lawful. -/
theorem sep_premise_needed :
    (∀ a b d, sepOnEqCmp.cmp a b = .lt → sepOnEqCmp.sep a b = some d →
        sepOnEqCmp.cmp a d ≠ .gt ∧ sepOnEqCmp.cmp d b = .lt)
    ∧ (∃ a b, icmp sepOnEqCmp a b = .lt ∧ icmp sepOnEqCmp (indexSep sepOnEqCmp a b) b = .gt)
    ∧ ¬ LawfulUCmp sepOnEqCmp := by
  refine ⟨fun a b d hab hs => ?_, ⟨mkIKey [1, 0] 7 1, mkIKey [1, 0] 3 1, by decide, by decide⟩, fun h => ?_⟩
  · have hne : a ≠ b := by
      rintro rfl
      rw [show sepOnEqCmp.cmp a a = .eq from bytesCompare_refl a] at hab; cases hab
    exact bytesSep_between a b d (by simpa [sepOnEqCmp, hne] using hs)
  · exact absurd (h.sep_ok [1, 0] [1, 0] [2] (by decide) (by decide)).2 (by decide)

/-- the built-in comparer satisfies the comparer contract (all six clauses, including those about
`Separator` and `Successor`) -/
theorem bytewise_lawful : LawfulUCmp bytewise := GoLevel.bytewise_lawful

/-- a real shortening: between `[1,2,3]@9` and `[1,5]@4` the index stores `[1,3]@max` -/
example : indexSep bytewise (mkIKey [1, 2, 3] 9 1) (mkIKey [1, 5] 4 1) = ⟨[1, 3], Gen.keyMaxNum⟩ := by decide
example : icmp bytewise (mkIKey [1, 2, 3] 9 1) ⟨[1, 3], Gen.keyMaxNum⟩ = .lt
    ∧ icmp bytewise ⟨[1, 3], Gen.keyMaxNum⟩ (mkIKey [1, 5] 4 1) = .lt := by decide
/-- no shortening between entries of one user key, or when the separator would not be shorter -/
example : indexSep bytewise (mkIKey [1] 9 1) (mkIKey [1] 5 0) = mkIKey [1] 9 1 := by decide
example : indexSep bytewise (mkIKey [1] 9 1) (mkIKey [3] 5 0) = mkIKey [1] 9 1 := by decide
example : indexSucc bytewise (mkIKey [1, 2, 3] 9 1) = ⟨[2], Gen.keyMaxNum⟩ := by decide
example : indexSucc bytewise (mkIKey [255] 9 1) = mkIKey [255] 9 1 := by decide
example : bytesSep [1, 2, 3] [1, 5] = some [1, 3] ∧ bytesSucc [255, 255, 4] = some [255, 255, 5] := by decide

/-! ## routing through the index -/

section route
variable {c : UCmp} (hl : LawfulUCmp c)
include hl

/-- **Routing.**  Blocks `bs` (non-empty, concatenation strictly sorted) with index keys `ix` such that
`last(b_i) ≤ ix_i` and `ix_i < first(b_{i+1})` (`IndexOK`).  For every probe `p`, what `table.Reader.find`
computes — seek the index for the first `ix_i ≥ p`, seek inside block `i`, and if that block has nothing
`≥ p` take the first entry of block `i+1` — is the first entry `≥ p` of the whole table, and "not found"
exactly when the table has no entry `≥ p`. -/
theorem index_routes (bs : List (List IKey)) (ix : List IKey) (hok : IndexOK c bs ix)
    (hs : bs.flatten.Pairwise (fun a b => icmp c a b = .lt)) (p : IKey) :
    tableFind c bs ix p = seekGE c bs.flatten p := by
  induction bs generalizing ix with
  | nil => cases ix with
    | nil => rfl
    | cons => cases hok.len
  | cons b bs ih =>
    cases ix with
    | nil => cases hok.len
    | cons k ix =>
      rw [List.flatten_cons] at hs ⊢
      obtain ⟨hsb, hsrest, _⟩ := List.pairwise_append.1 hs
      rw [seekGE_append]
      by_cases hk : icmp c k p = .lt
      · -- everything in this block is at most `k`, hence below `p`
        obtain ⟨l, hlast⟩ := Option.isSome_iff_exists.1 (List.getLast?_isSome.2 (hok.nonempty b (by simp)))
        have hbnone : seekGE c b p = none := (seekGE_eq_none b p).2 fun e he =>
          (icmp_ord hl).lt_of_le_of_lt ((icmp_ord hl).le_trans (le_getLast_of_sorted hl b hsb l hlast e he)
            (hok.lo 0 b k l rfl rfl hlast)) hk
        rw [hbnone, Option.none_or, ← ih ix hok.tail hsrest]
        simp only [tableFind, List.findIdx?_cons, hk, bne_self_eq_false, Bool.false_eq_true, if_false]
        cases ix.findIdx? (fun k => icmp c k p != .lt) <;> rfl
      · -- the index sends us to this block; the first entry of the next block (if any) is above `p`
        simp only [tableFind, List.findIdx?_cons, bne_iff_ne, ne_eq, hk, not_false_eq_true, if_true,
          List.getElem?_cons_zero, Option.getD_some, Nat.zero_add, List.getElem?_cons_succ]
        congr 1
        cases bs with
        | nil => rfl
        | cons b' bs' =>
          cases b' with
          | nil => exact absurd rfl (hok.nonempty [] (by simp))
          | cons f fs =>
            have hpf : icmp c p f = .lt := (icmp_ord hl).lt_of_le_of_lt (((icmp_ord hl).not_lt_iff k p).1 hk)
              (hok.hi 0 (f :: fs) k f rfl rfl rfl)
            simp [seekGE, (icmp_ord hl).asymm hpf]

/-- the special case asked for: when the block chosen by the index has an entry `≥ p`, it is the answer -/
theorem index_routes_some (bs : List (List IKey)) (ix : List IKey) (hok : IndexOK c bs ix)
    (hs : bs.flatten.Pairwise (fun a b => icmp c a b = .lt)) (p : IKey) (i : Nat) (e : IKey)
    (hi : ix.findIdx? (fun k => icmp c k p != .lt) = some i)
    (he : seekGE c (bs[i]?.getD []) p = some e) :
    seekGE c bs.flatten p = some e := by
  rw [← index_routes hl bs ix hok hs p]
  simp [tableFind, hi, he]

/-- the fall-through case: the chosen block has nothing `≥ p` (possible, because `ix_i` may be strictly
above `last(b_i)`); then the answer is the first entry of the next block, or "not found" after the last -/
theorem index_routes_none (bs : List (List IKey)) (ix : List IKey) (hok : IndexOK c bs ix)
    (hs : bs.flatten.Pairwise (fun a b => icmp c a b = .lt)) (p : IKey) (i : Nat)
    (hi : ix.findIdx? (fun k => icmp c k p != .lt) = some i)
    (he : seekGE c (bs[i]?.getD []) p = none) :
    seekGE c bs.flatten p = (bs[i + 1]?).bind List.head? := by
  rw [← index_routes hl bs ix hok hs p]
  simp [tableFind, hi, he]

/-- the index has no key `≥ p`: the table has no entry `≥ p` -/
theorem index_routes_past_end (bs : List (List IKey)) (ix : List IKey) (hok : IndexOK c bs ix)
    (hs : bs.flatten.Pairwise (fun a b => icmp c a b = .lt)) (p : IKey)
    (hi : ix.findIdx? (fun k => icmp c k p != .lt) = none) :
    seekGE c bs.flatten p = none := by
  rw [← index_routes hl bs ix hok hs p]
  simp [tableFind, hi]

/-- The index the writer builds (`buildIndex`: `indexSep` between blocks, `indexSucc` after the last)
satisfies `IndexOK`, for every lawful comparer. -/
theorem built_index_ok (bs : List (List IKey)) (hne : ∀ b ∈ bs, b ≠ [])
    (hs : bs.flatten.Pairwise (fun a b => icmp c a b = .lt)) : IndexOK c bs (buildIndex c bs) := by
  induction bs with
  | nil => exact ⟨rfl, nofun, nofun, nofun⟩
  | cons b bs ih =>
    obtain ⟨l, hlast⟩ := Option.isSome_iff_exists.1 (List.getLast?_isSome.2 (hne b (by simp)))
    rw [List.flatten_cons] at hs
    obtain ⟨_, hsrest, hcross⟩ := List.pairwise_append.1 hs
    have ih' := ih (fun b' hb' => hne b' (List.mem_cons_of_mem _ hb')) hsrest
    cases bs with
    | nil =>
      simp only [buildIndex, hlast, Option.map_some, Option.toList_some]
      exact ih'.cons hlast (iSucc_ge hl l) nofun
    | cons b' rest =>
      cases b' with
      | nil => exact absurd rfl (hne [] (by simp))
      | cons f fs =>
        simp only [buildIndex, hlast, List.head?_cons, List.singleton_append]
        have hbetween := iSep_between hl l f (hcross l (List.mem_of_getLast? hlast) f (by simp))
        exact ih'.cons hlast hbetween.1 fun b'' f' h1 h2 => by cases h1; cases h2; exact hbetween.2

/-- End to end: a lookup of "`k` as of `s`" through the index built from the shortened keys returns the
newest entry of `k` not newer than `s` of the whole table whenever it returns an entry of `k`, and
otherwise the table has no such entry. -/
theorem lookup_through_index (bs : List (List IKey)) (hne : ∀ b ∈ bs, b ≠ [])
    (hs : bs.flatten.Pairwise (fun a b => icmp c a b = .lt))
    (hkind : ∀ e ∈ bs.flatten, e.kind ≤ Gen.keyTypeVal) (k : Bytes) (s : Nat) :
    (∀ e, tableFind c bs (buildIndex c bs) (probe k s) = some e → e.ukey = k →
        IsNewest bs.flatten k s e)
    ∧ ((∀ e, tableFind c bs (buildIndex c bs) (probe k s) = some e → e.ukey ≠ k) →
        ∀ e' ∈ bs.flatten, e'.ukey = k → ¬ e'.seq ≤ s) := by
  rw [index_routes hl bs _ (built_index_ok hl bs hne hs) hs]
  exact ⟨fun e hf hk => seekGE_newest hl _ hs hkind k s e hf hk, (probe_placement hl _ hs hkind k s).2⟩

end route

/-- three blocks; the index holds a shortened separator `[1,3]@max`, an unshortened one and a successor -/
def exBlocks : List (List IKey) :=
  [[mkIKey [1] 9 1, mkIKey [1, 2, 3] 5 0], [mkIKey [1, 5] 2 1, mkIKey [1, 7] 4 1], [mkIKey [1, 7] 3 1, mkIKey [2, 0] 7 1]]

example : buildIndex bytewise exBlocks = [⟨[1, 3], Gen.keyMaxNum⟩, mkIKey [1, 7] 4 1, ⟨[3], Gen.keyMaxNum⟩] := by decide
example : exBlocks.flatten.Pairwise (fun a b => icmp bytewise a b = .lt) := by decide
example : IndexOK bytewise exBlocks (buildIndex bytewise exBlocks) :=
  built_index_ok bytewise_lawful exBlocks (by decide) (by decide)
/-- found inside the chosen block -/
example : tableFind bytewise exBlocks (buildIndex bytewise exBlocks) (probe [1, 5] 8) = some (mkIKey [1, 5] 2 1) := by decide
/-- fall-through: `[1,2,4]` is routed to block 0 (`[1,2,4] < [1,3]`), which has nothing `≥` it -/
example : tableFind bytewise exBlocks (buildIndex bytewise exBlocks) (probe [1, 2, 4] 8) = some (mkIKey [1, 5] 2 1)
    ∧ seekGE bytewise (exBlocks[0]?.getD []) (probe [1, 2, 4] 8) = none := by decide
/-- one user key spanning two blocks: as of 3 the entry is the first of block 2 -/
example : tableFind bytewise exBlocks (buildIndex bytewise exBlocks) (probe [1, 7] 3) = some (mkIKey [1, 7] 3 1) := by decide
example : tableFind bytewise exBlocks (buildIndex bytewise exBlocks) (probe [4] 3) = none := by decide

end GoLevel.C15

namespace GoLevel
def C15.theorems : List String :=
  ["GoLevel.C15.parse_encode", "GoLevel.C15.parse_only_encodings", "GoLevel.C15.icmpBytes_encode",
   "GoLevel.C15.icmp_order", "GoLevel.C15.icmp_irrefl", "GoLevel.C15.icmp_eq_iff",
   "GoLevel.C15.icmp_gt_iff", "GoLevel.C15.icmp_trans", "GoLevel.C15.icmp_total",
   "GoLevel.C15.probe_cut", "GoLevel.C15.probe_placement",
   "GoLevel.C15.iSep_between", "GoLevel.C15.iSep_shape", "GoLevel.C15.sep_self", "GoLevel.C15.iSucc_ge",
   "GoLevel.C15.sep_premise_needed",
   "GoLevel.C15.bytewise_lawful",
   "GoLevel.C15.index_routes", "GoLevel.C15.index_routes_some", "GoLevel.C15.index_routes_none",
   "GoLevel.C15.index_routes_past_end", "GoLevel.C15.built_index_ok", "GoLevel.C15.lookup_through_index"]
end GoLevel

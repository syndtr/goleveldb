import GoLevel.Proofs.DurableView
import GoLevel.Proofs.ConcView
import GoLevel.Props.C01
import GoLevel.Proofs.RecoverOpsMain
/-!
# Property C19 — `Recover`

"If the manifest or its pointer is lost or damaged after a clean, settled shutdown, Recover reopens the DB from
the remaining files with exactly the same logical contents …  If some table data blocks are damaged as well,
Recover still succeeds, every entry that sits in an undamaged block and has no newer version is returned, and
nothing is returned that was never written."

Model: `Dur.rebuild` (`Model/Durable.lean`, part 3): `recoverTable` + `openDB`.  It does not look at `CURRENT`
or at any manifest — lost, truncated or garbled, they make no difference — and it is a total function
(`Recover` "succeeds").  A *settled* state is described by what the property needs of it: every table file on
storage is live and every journal on storage is unflushed, i.e. its records are ascending and start at or above
the largest sequence number in the tables (`Settled`); sequence numbers identify entries (`Conc.Uniq`).

Theorems: `recover_rebuilds`, `recover_rebuilds_damaged`, and `rebuilt_lookup_refines_view` (the rebuilt version is
all level 0 with arbitrarily overlapping tables; the max-sequence rule of `version.get` still returns `view`).

`Recover` as storage operations (`Model/RecoverOps.lean`: `recoverTable`'s scan / temp file / `Sync` / `Rename`, the
one-step manifest switch of `newManifest`, then `openDB`'s journal flushes, commits, removals and janitor) ties the
three theorems to the code's operation sequence and adds crash-atomicity:

`recover_ops_equals_rebuild`, `recover_crash_atomic` (`…_settled`, `…_damaged`) and `recover_crash_open_partial` (false
before commit 170f82e: `pre_repair_empty_manifest_loses_tables`; the flag is tied to the source by
`code_recover_commits_only`).  For crash points inside `openDB` the statement (`recover_crash_open_full`) is that of an
interrupted ordinary `Open` (C04) and is not proved over this model.

Not covered here: D19 (the rebuild of a damaged table is written with the user comparer and unwrapped filter)
is about the bytes of the rewritten table, below this model.
-/
namespace GoLevel.C19
open GoLevel GoLevel.Dur GoLevel.Conc

/-! ## the settled case -/

/-- the state `Recover` is applied to: sequence numbers identify entries, the journals are unflushed (their
    records ascending, none below the largest sequence number in the tables), groups are well-formed -/
structure Settled (inp : RebuildIn) : Prop where
  uniq : Uniq (inp.tables.flatMap (·.2) ++ (inp.journals.flatMap (·.2)).flatMap Grp.ents)
  asc : AscFrom (maxSeqOf (inp.tables.flatMap (·.2))) (inp.journals.flatMap (·.2))
  wf : ∀ g ∈ inp.journals.flatMap (·.2), g.wf

/-- **Recover rebuilds the same contents.**  `s0` is any sequence number not below the entries — e.g. `db.seq`
    after a normal `Open` of the same files with the manifest intact. -/
theorem recover_rebuilds (c : UCmp) (inp : RebuildIn) (h : Settled inp) (s0 : Nat)
    (hs0 : ∀ e ∈ inp.tables.flatMap (·.2) ++ (inp.journals.flatMap (·.2)).flatMap Grp.ents, e.seq ≤ s0)
    (k : Bytes) :
    (rebuild inp).entries = inp.tables.flatMap (·.2) ++ (inp.journals.flatMap (·.2)).flatMap Grp.ents ∧
    (rebuild inp).get c k =
      view c (inp.tables.flatMap (·.2) ++ (inp.journals.flatMap (·.2)).flatMap Grp.ents) k s0 := by
  obtain ⟨hent, hvis⟩ := rebuild_of_asc h.asc h.wf
  refine ⟨hent, ?_⟩
  unfold Rebuilt.get
  rw [← hent] at hs0 ⊢
  exact view_above hvis hs0 k

/-! ## damaged tables -/

/-- `inp'` is `inp` with some entries of its tables unreadable: same files, each table yields a part of what it
    held; the journals are intact -/
structure Damaged (inp inp' : RebuildIn) : Prop where
  journals : inp'.journals = inp.journals
  part : ∀ e ∈ inp'.tables.flatMap (·.2), e ∈ inp.tables.flatMap (·.2)

theorem Settled.of_damaged {inp inp' : RebuildIn} (h : Settled inp) (hd : Damaged inp inp') : Settled inp' := by
  refine ⟨?_, ?_, ?_⟩
  · rw [hd.journals]
    apply h.uniq.sub
    intro e he
    rcases List.mem_append.1 he with h1 | h1
    · exact List.mem_append_left _ (hd.part e h1)
    · exact List.mem_append_right _ h1
  · rw [hd.journals]
    exact h.asc.mono (maxSeqOf_le_iff.2 fun e he => maxSeqOf_ge _ e (hd.part e he))
  · rw [hd.journals]; exact h.wf

/-- **Recover with damaged table blocks**: it returns (i) only entries that were written, and (ii) for every
    readable entry `e` that has no newer version of its key among all entries, the rebuilt DB answers `e`'s
    value (or "deleted") for that key. -/
theorem recover_rebuilds_damaged {c : UCmp} (hl : LawfulUCmp c) (inp inp' : RebuildIn) (h : Settled inp)
    (hd : Damaged inp inp') :
    (∀ e ∈ (rebuild inp').entries, e ∈ (rebuild inp).entries) ∧
    ∀ e ∈ (rebuild inp').entries,
      (∀ e' ∈ (rebuild inp).entries, c.cmp e'.ukey e.ukey = .eq → e'.key.num ≤ e.key.num) →
      (rebuild inp').get c e.ukey = e.hit.toOption := by
  -- the journals are replayed completely in both cases
  have h' := h.of_damaged hd
  obtain ⟨hent, _⟩ := rebuild_of_asc h.asc h.wf
  obtain ⟨hent', hvis'⟩ := rebuild_of_asc h'.asc h'.wf
  have hsub : ∀ e ∈ (rebuild inp').entries, e ∈ (rebuild inp).entries := by
    intro e he
    rw [hent', hd.journals] at he; rw [hent]
    rcases List.mem_append.1 he with h1 | h1
    · exact List.mem_append_left _ (hd.part e h1)
    · exact List.mem_append_right _ h1
  refine ⟨hsub, fun e he hnew => ?_⟩
  have hU' : Uniq (rebuild inp').entries := by rw [hent']; exact h'.uniq
  have hbest : IsNewestE c (rebuild inp').entries e.ukey (rebuild inp').seq e :=
    ⟨he, ⟨hl.refl _, hvis' e he⟩, fun e' he' hm => hnew e' (hsub e' he') hm.1⟩
  unfold Rebuilt.get view
  rw [newest_of_best hU' hbest]

/-! ## the rebuilt version: everything in level 0 -/

/-- Every table `Recover` keeps is put into level 0, where key ranges overlap arbitrarily; `version.get`
    consults every overlapping table and keeps the hit with the largest sequence number — that is `view`. -/
theorem rebuilt_lookup_refines_view {c : UCmp} (hl : LawfulUCmp c) (l0 : Level) (hwf : ∀ t ∈ l0, t.wfB c = true)
    (hu : UniqSeq (Level.entries l0)) (k : Bytes) (s : Nat) :
    (dbGet c none [] [] none ⟨[l0]⟩ k s).toOption = view c (Level.entries l0) k s := by
  have hso : C01.SourcesOK c none [] [] none ⟨[l0]⟩ := by
    refine ⟨rfl, ?_, rfl, ?_, rfl, ?_, (fun t ht => by cases ht), ?_, ?_, hu, rfl, rfl, rfl, rfl⟩
    · intro e he; cases he
    · intro e he; cases he
    · intro e he; cases he
    · intro a ha; cases ha
    · simp only [Version.wfB, List.all_cons, List.all_nil, Bool.and_true, List.drop_succ_cons, List.drop_zero,
        levelsOrderedB, List.all_eq_true]
      exact hwf
  have := C01.lookup_refines_view hl none [] [] none ⟨[l0]⟩ hso k s
  rw [this]
  simp [dbEntries, Version.entries, Level.entries]

/-! ## non-vacuity -/

/-- a settled DB: `Put(k, v1)` (sequence 1) flushed to table 4, `Put(k, v2)` (sequence 2) and `Put(j, w)`
    (sequence 3) in journal 5 -/
def exIn : RebuildIn :=
  { tables := [(4, [⟨mkIKey [107] 1 1, [1]⟩])]
    journals := [(5, [⟨2, [⟨1, [107], [2]⟩], true⟩, ⟨3, [⟨1, [106], [9]⟩], false⟩])] }

theorem exIn_settled : Settled exIn := by
  refine ⟨by unfold Uniq; decide, by decide, by unfold Grp.wf; decide⟩

/-- `Recover` reads what the DB read: the newer value of `k`, and `j` -/
example : (rebuild exIn).get bytewise [107] = some [2] ∧ (rebuild exIn).get bytewise [106] = some [9] := by
  decide +kernel

example : (rebuild exIn).get bytewise [107] = view bytewise (exIn.tables.flatMap (·.2) ++
    (exIn.journals.flatMap (·.2)).flatMap Grp.ents) [107] 10 :=
  (recover_rebuilds bytewise exIn exIn_settled 10 (by decide) [107]).2

/-- the same files with the table's block unreadable -/
def exDamaged : RebuildIn := { exIn with tables := [(4, [])] }

example : Damaged exIn exDamaged := ⟨rfl, fun e he => by cases he⟩

/-- the surviving newest version of `k` is returned; nothing is invented -/
example : (rebuild exDamaged).get bytewise [107] = some [2] ∧
    (rebuild exDamaged).entries.all (fun e => (rebuild exIn).entries.contains e) = true := by decide +kernel

/-- on a disk of the machine: after the flush-with-rotation run of C04, `Recover` (which ignores `CURRENT` and the
    manifests) finds the value in the flushed table -/
example :
    (run {} init
      [.wAppend [⟨1, [107], [118]⟩] true .ok, .wSync .ok, .wApply, .wPublish, .wAck, .rotate .ok, .flushStart,
       .job false .ok, .job false .ok, .job false .ok, .job false .ok, .job false .ok, .job false .ok,
       .job false .ok, .job false .ok, .job false .ok, .job false .ok]).map
      (fun sd => (rebuild (rebuildInOf { sd.2 with current := none, manifests := [] })).get bytewise [107]) =
    some (some [118]) := by decide +kernel

/-! ## `Recover` as a sequence of storage operations -/

/-- the model follows the code in the tree: `recoverTable` commits once and does nothing else to the manifest
    (`tools/extract`: no `s.create()`, no `newManifest`, no `SetMeta`; last statement `return s.commit(rec, false)`),
    and `newManifest` is `Create`, one record, `Sync`, `SetMeta` -/
theorem code_recover_commits_only :
    (∀ s, (codeRCfg s).createsEmptyManifestFirst = false) ∧ Gen.recoverTableCommitsOnly = true ∧
    Gen.newManifestWriteSyncSetMeta = true := by decide +kernel

/-- the number of the manifest `Recover` writes (`manifestNum`) lies above EVERY file number in the storage, as the
    code makes it since the repair of D47 (`tools/extract`: `recoverTable` marks every number
    `s.stor.List(storage.TypeAll)` returns before its commit).  Before the repair only the last table's number was
    marked: a manifest still on disk with a larger number — e.g. the target of a pending `CURRENT.<n>` left behind by
    an interrupted `SetMeta` — outranked the recovered one at the next `GetMeta` (`C04FS.stale_pending_wins` is the
    storage-level trace; exhibited on the real file storage by the check's `recover:file-storage:reopen-failed`). -/
theorem code_recover_outranks_all_files :
    Gen.recoverMarksAllFileNums = true ∧
    ∀ (r : RDisk) (n : Nat),
      (n ∈ r.disk.tables.nums ∨ n ∈ r.disk.journals.nums ∨ n ∈ r.disk.manifests.nums ∨ n ∈ r.temps.nums) →
      n < manifestNum r := by
  refine ⟨by decide, fun r n h => lt_manifestNum_of_mem ?_⟩
  simp only [allNums, List.mem_append]
  rcases h with h | h | h | h <;> simp [h]

/-- **the operations compute the abstract rebuild**: when `recoverTable` has made all its operations, `openDB`'s
    `session.recover` + journal replay (`Dur.recoverR`) succeeds on the storage, runs on the recorded tables, and
    delivers exactly the entries, the sequence number and hence every read of `Dur.rebuild` applied to what the scan
    read — so `recover_rebuilds`, `recover_rebuilds_damaged` and `rebuilt_lookup_refines_view` speak about the
    operational model. -/
theorem recover_ops_equals_rebuild (dcfg : Dur.Cfg) {cfg : RCfg} (hcfg : cfg.createsEmptyManifestFirst = false)
    (r0 : RDisk) (hd : r0.durable) (c : UCmp) (k : Bytes) :
    ∃ rs, recoverR dcfg (r0.applyAll (recoverTableOps cfg r0)).disk = .ok rs ∧
      rs.entries = (rebuild (scanIn cfg r0)).entries ∧ rs.seq = (rebuild (scanIn cfg r0)).seq ∧
      rs.get c k = (rebuild (scanIn cfg r0)).get c k ∧
      rs.mv.live = (tablePhase cfg r0).2.added ∧ rs.mv.jn = 0 := by
  obtain ⟨hT, hc, mf, hm, ha⟩ := recoverTable_done hcfg hd
  obtain ⟨rs, h1, h2, h3, h4⟩ := open_on_recover_manifest dcfg hT hc hm ha
  refine ⟨rs, h1, h2, h3, ?_, by rw [h4], by rw [h4]⟩
  unfold RState.get Rebuilt.get; rw [h2, h3]

/-- **`Recover` is crash-atomic.**  `r0`: a durable storage (the image a crash or exit left) whose readable part is
    settled; `k`: how many of `Recover`'s storage operations were made — table rebuilds, the manifest switch, the
    journal flushes, commits and removals of `openDB`, the janitor — before the machine died; `ch`: what the crash
    left of unsynced data.  A `Recover` run on that image reads, for every key, what the uninterrupted `Recover`
    reads, and ends with the same set of entries. -/
theorem recover_crash_atomic (c : UCmp) {cfg : RCfg} (r0 : RDisk) (hd : r0.durable)
    (hjs : r0.disk.journals.Pairwise (fun p q => p.1 < q.1)) (hdm : ∀ n ∈ r0.dmg, n ∈ r0.disk.tables.nums)
    (h : Settled (scanIn cfg r0)) (k : Nat) (ch : RCrash) (key : Bytes) :
    (rebuild (scanIn cfg (crashAt cfg r0 k ch))).get c key = (rebuild (scanIn cfg r0)).get c key ∧
    ∀ e, e ∈ (rebuild (scanIn cfg (crashAt cfg r0 k ch))).entries ↔ e ∈ (rebuild (scanIn cfg r0)).entries := by
  obtain ⟨P, Q, R, hmid⟩ := recover_reach_atomic hd hjs h.asc hdm k ch
  exact rebuild_mid h.uniq h.asc h.wf hmid key

/-- undamaged tables: the second `Recover` returns exactly the settled contents -/
theorem recover_crash_atomic_settled (c : UCmp) {cfg : RCfg} (r0 : RDisk) (hd : r0.durable)
    (hjs : r0.disk.journals.Pairwise (fun p q => p.1 < q.1)) (hdm : ∀ n ∈ r0.dmg, n ∈ r0.disk.tables.nums)
    (h : Settled (scanIn cfg r0)) (s0 : Nat)
    (hs0 : ∀ e ∈ (scanIn cfg r0).tables.flatMap (·.2) ++ ((scanIn cfg r0).journals.flatMap (·.2)).flatMap Grp.ents,
      e.seq ≤ s0)
    (k : Nat) (ch : RCrash) (key : Bytes) :
    (rebuild (scanIn cfg (crashAt cfg r0 k ch))).get c key =
      view c ((scanIn cfg r0).tables.flatMap (·.2) ++ ((scanIn cfg r0).journals.flatMap (·.2)).flatMap Grp.ents)
        key s0 := by
  rw [(recover_crash_atomic c r0 hd hjs hdm h k ch key).1]
  exact (recover_rebuilds c (scanIn cfg r0) h s0 hs0 key).2

/-- damaged tables: the second `Recover` gives the guarantee of `recover_rebuilds_damaged` relative to the
    undamaged DB `inp` — nothing invented, and every readable entry without a newer version is what is returned -/
theorem recover_crash_atomic_damaged {c : UCmp} (hl : LawfulUCmp c) {cfg : RCfg} (r0 : RDisk) (hd : r0.durable)
    (hjs : r0.disk.journals.Pairwise (fun p q => p.1 < q.1)) (hdm : ∀ n ∈ r0.dmg, n ∈ r0.disk.tables.nums)
    (inp : RebuildIn) (h : Settled inp) (hdmg : Damaged inp (scanIn cfg r0)) (k : Nat) (ch : RCrash) :
    (∀ e ∈ (rebuild (scanIn cfg (crashAt cfg r0 k ch))).entries, e ∈ (rebuild inp).entries) ∧
    ∀ e ∈ (rebuild (scanIn cfg (crashAt cfg r0 k ch))).entries,
      (∀ e' ∈ (rebuild inp).entries, c.cmp e'.ukey e.ukey = .eq → e'.key.num ≤ e.key.num) →
      (rebuild (scanIn cfg (crashAt cfg r0 k ch))).get c e.ukey = e.hit.toOption := by
  have h' : Settled (scanIn cfg r0) := h.of_damaged hdmg
  obtain ⟨d1, d2⟩ := recover_rebuilds_damaged hl inp (scanIn cfg r0) h hdmg
  have hA := recover_crash_atomic c r0 hd hjs hdm h' k ch
  refine ⟨fun e he => d1 e (((hA []).2 e).1 he), fun e he hnew => ?_⟩
  rw [(hA e.ukey).1]
  exact d2 e (((hA []).2 e).1 he) hnew

/-- **an `Open` that succeeds on a crash image of `recoverTable` is complete** (the code since 170f82e).  `r0`: a
    durable storage whose `CURRENT` does not lead to a readable manifest; the crash comes after `k` operations of
    `recoverTable` (scan, rebuilds, `newManifest`: `Create`, record, `Sync`, `SetMeta`).  If `Open` succeeds on the
    image it delivers exactly the entries and sequence number of `Dur.rebuild`, and — unless there was no table and no
    journal at all — `CURRENT` names the manifest `Recover` wrote, which holds its one record with all recovered
    tables. -/
theorem recover_crash_open_partial (dcfg : Dur.Cfg) (hc : dcfg.failedRecordLeavesNoTrace = true) {cfg : RCfg}
    (hcfg : cfg.createsEmptyManifestFirst = false) (r0 : RDisk) (hd : r0.durable) (hold : OldUnreadable dcfg r0)
    (k : Nat) (hk : k ≤ (recoverTableOps cfg r0).length) (ch : RCrash) (rs : RState)
    (hopen : recoverR dcfg (crashAt cfg r0 k ch).disk = .ok rs) :
    rs.entries = (rebuild (scanIn cfg r0)).entries ∧ rs.seq = (rebuild (scanIn cfg r0)).seq ∧
    ((r0.disk.tables ≠ [] ∨ r0.disk.journals ≠ []) →
      (crashAt cfg r0 k ch).disk.current = some (manifestNum r0) ∧
      ∃ mf, lookup (crashAt cfg r0 k ch).disk.manifests (manifestNum r0) = some mf ∧
        mf.all = [recoverRec (manifestNum r0) (tablePhase cfg r0).2] ∧
        rs.mv.live = (tablePhase cfg r0).2.added) := by
  obtain ⟨r', hr, e⟩ := crashAt_recoverTable hk ch
  rw [e] at hopen ⊢
  obtain ⟨hT, hG⟩ := recoverTable_reach hc hcfg hd hold hr ch
  exact open_of_mgood dcfg hT hG hopen

/-- the same for every crash point, those inside `openDB` included.  Not proved over this model: from the return of
    `recoverTable` on, the storage is that of an ordinary `Open` that replays journals, whose crash consistency is
    C04 (`C04.crash_consistent`, over `Dur.step`'s recovery steps `recOpen`/`recStep`/`job`); the simulation
    between `openOps` and those steps is missing.  (`open_complete_on_example` checks it on the example.) -/
def recover_crash_open_full : Prop :=
  ∀ (dcfg : Dur.Cfg), dcfg.failedRecordLeavesNoTrace = true → ∀ (c : UCmp) (cfg : RCfg),
    cfg.createsEmptyManifestFirst = false → ∀ (r0 : RDisk), r0.durable → OldUnreadable dcfg r0 →
    r0.disk.journals.Pairwise (fun p q => p.1 < q.1) → (∀ n ∈ r0.dmg, n ∈ r0.disk.tables.nums) →
    Settled (scanIn cfg r0) → ∀ (k : Nat) (ch : RCrash) (rs : RState),
    recoverR dcfg (crashAt cfg r0 k ch).disk = .ok rs → ∀ key, rs.get c key = (rebuild (scanIn cfg r0)).get c key

/-! ### non-vacuity: two tables, one with a corrupted block, one journal, a garbage manifest -/

def g1 : Grp := ⟨1, [⟨1, [107], [1]⟩], true⟩
/-- table 6 held `Put(l, 2)`, `Put(m, 3)` (sequence 2, 3) … -/
def g2 : Grp := ⟨2, [⟨1, [108], [2]⟩, ⟨1, [109], [3]⟩], true⟩
/-- … the block with `l` is corrupted: an iterator still yields `m` -/
def g2r : Grp := ⟨3, [⟨1, [109], [3]⟩], true⟩
def g4 : Grp := ⟨4, [⟨1, [107], [4]⟩], true⟩
def g5 : Grp := ⟨5, [⟨0, [109], []⟩], false⟩

/-- tables 4 and 6 (6 damaged), journal 8 with `Put(k, 4)` and `Delete(m)`, `CURRENT` → manifest 9, which holds a
    torn record only -/
def exR : RDisk :=
  { disk := { current := some 9
              manifests := [(9, ⟨[{ torn := true }], []⟩)]
              journals := [(8, ⟨[g4, g5], []⟩)]
              tables := [(4, ⟨[g1], true, false⟩), (6, ⟨[g2r], true, false⟩)] }
    dmg := [6] }

/-- the DB before the damage -/
def exOrig : RebuildIn :=
  { tables := [(4, g1.ents), (6, g2.ents)], journals := [(8, [g4, g5])] }

theorem exR_durable : exR.durable := by decide +kernel
/-- `code_recover_outranks_all_files` on the example: the unreadable manifest 9 is outranked -/
example : manifestNum exR = 10 := by decide +kernel
theorem exR_old_unreadable : OldUnreadable {} exR := by
  intro c mf h1 h2
  have hc : c = 9 := by cases h1; rfl
  subst hc
  have : mf = ⟨[{ torn := true }], []⟩ := by
    have : lookup exR.disk.manifests 9 = some ⟨[{ torn := true }], []⟩ := by decide +kernel
    rw [this] at h2; cases h2; rfl
  subst this
  decide +kernel
theorem exR_settled : Settled (scanIn {} exR) :=
  ⟨by unfold Uniq; decide, by decide, by unfold Grp.wf; decide⟩
theorem exOrig_settled : Settled exOrig :=
  ⟨by unfold Uniq; decide, by decide, by unfold Grp.wf; decide⟩
theorem exR_damaged : Damaged exOrig (scanIn {} exR) := ⟨by decide, by decide⟩

/-- the operations of `Recover` on the example: table 6 is rebuilt through temp file 0; every file number in the
    storage is in use (the repair of D47), so the manifest gets number 10 — above the unreadable manifest 9 —, is
    written and made current; journal 8 is flushed to table 11, journal 12 is created, the edit is committed, journal 8
    removed, and `checkAndCleanFiles` removes manifest 9, which is older than the current one -/
example : recoverOps {} exR =
    [.createTemp 0, .writeTemp 0 [g2r], .syncTemp 0, .renameTemp 0 6,
     .base (.create .manifest 10),
     .base (.writeM 10 { snapshot := true, jn := some 0, sq := some 3, nf := 11, added := [4, 6] }),
     .base (.sync .manifest 10), .base (.setMeta 10),
     .base (.create .table 11), .base (.writeT 11 [g4, g5]), .base (.sync .table 11),
     .base (.create .journal 12), .base (.writeM 10 { jn := some 12, sq := some 6, nf := 13, added := [11] }),
     .base (.sync .manifest 10), .base (.remove .journal 8), .base (.remove .manifest 9)] := by decide +kernel

/-- `recover_ops_equals_rebuild` on the example: `m` is deleted, `k` has its newer value, `l` sat in the corrupted
    block -/
example : (recoverR {} (exR.applyAll (recoverTableOps {} exR)).disk).toOption.map
      (fun rs => (rs.get bytewise [107], rs.get bytewise [108], rs.get bytewise [109], rs.mv.live)) =
    some (some [4], none, none, [4, 6]) ∧
    ((rebuild (scanIn {} exR)).get bytewise [107], (rebuild (scanIn {} exR)).get bytewise [109]) = (some [4], none) := by
  decide +kernel

example : ∃ rs, recoverR {} (exR.applyAll (recoverTableOps {} exR)).disk = .ok rs ∧
    rs.get bytewise [107] = (rebuild (scanIn {} exR)).get bytewise [107] := by
  obtain ⟨rs, h1, _, _, h4, _⟩ := recover_ops_equals_rebuild {} (cfg := {}) rfl exR exR_durable bytewise [107]
  exact ⟨rs, h1, h4⟩

/-- crash after the `Rename` (4 operations), after the unsynced manifest record (6), in the middle of the journal
    flush (10, table 11 lost): the second `Recover` reads the same -/
example : ∀ k ∈ [4, 6, 10], (rebuild (scanIn {} (crashAt {} exR k {}))).get bytewise [107] = some [4] := by decide +kernel

example (k : Nat) (ch : RCrash) :
    (rebuild (scanIn {} (crashAt {} exR k ch))).get bytewise [107] = (rebuild (scanIn {} exR)).get bytewise [107] :=
  (recover_crash_atomic bytewise exR exR_durable (by decide) (by decide) exR_settled k ch [107]).1

/-- the damaged-table guarantee after a crash: `k`'s newest version is in the journal, it is returned -/
example (k : Nat) (ch : RCrash) : ∀ e ∈ (rebuild (scanIn {} (crashAt {} exR k ch))).entries, e ∈ (rebuild exOrig).entries :=
  (recover_crash_atomic_damaged bytewise_lawful exR exR_durable (by decide) (by decide) exOrig exOrig_settled
    exR_damaged k ch).1

/-- `recover_crash_open_partial` on the example: before `SetMeta` (7 operations) `Open` refuses — `CURRENT` still
    names the garbage manifest; after it (8) `Open` succeeds on manifest 10 with both tables -/
example : (recoverR {} (crashAt {} exR 7 {}).disk).toOption.map (·.mv.live) = none ∧
    (recoverR {} (crashAt {} exR 8 {}).disk).toOption.map (fun rs => (rs.mv.live, rs.get bytewise [107])) =
      some ([4, 6], some [4]) := by decide +kernel

example (rs : RState) (h : recoverR {} (crashAt {} exR 8 {}).disk = .ok rs) : rs.mv.live = [4, 6] := by
  obtain ⟨_, _, h3⟩ := recover_crash_open_partial {} rfl (cfg := {}) rfl exR exR_durable exR_old_unreadable 8
    (by decide) {} rs h
  obtain ⟨_, _, _, _, h4⟩ := h3 (Or.inl (by decide))
  rw [h4]; decide +kernel

/-- the crash images used for bounded checks: everything unsynced lost, everything kept, the manifest record torn -/
def exChoices : List RCrash :=
  [{}, { base := { cutM := fun _ => 5, cutJ := fun _ => 5, keepT := fun _ => true }, keepTemp := fun _ => true },
   { base := { tornM := fun _ => true } }]

/-- on the crash image after `k` operations, `Open` refuses or reads the three keys as `Recover` does -/
def openOKAt (k : Nat) (ch : RCrash) : Bool :=
  match recoverR {} (crashAt {} exR k ch).disk with
  | .error _ => true
  | .ok rs => [[107], [108], [109]].all fun key =>
      decide (rs.get bytewise key = (rebuild (scanIn {} exR)).get bytewise key)

/-- `recover_crash_open_full` checked on the example: at every crash point of the whole of `Recover` (16
    operations) and for the three crash images, `Open` refuses or reads what `Recover` reads; it does succeed from the
    `SetMeta` on -/
theorem open_complete_on_example :
    ((List.range 17).all fun k => exChoices.all fun ch => openOKAt k ch) = true ∧
    ((List.range 17).filter fun k => (recoverR {} (crashAt {} exR k {}).disk).toOption.isSome) =
      [8, 9, 10, 11, 12, 13, 14, 15, 16] := by
  decide +kernel

/-! ### the code as found (D33): an empty manifest became current first -/

/-- the code before 170f82e -/
def preRepair : RCfg := { createsEmptyManifestFirst := true }

/-- **D33.**  The operations of the old `recoverTable` on the example: after the 8th, `SetMeta` of the *empty*
    manifest 10, the machine dies.  `Open` succeeds on the image — on a version without tables; `k` is read from the
    journal, `m`'s and the older data of the tables are gone; and `Open`'s janitor (`Dur.step`: `recOpen`, the journal
    loop, the final commit, `checkAndCleanFiles`) removes tables 4 and 6.  With the repaired code the same crash
    point has `CURRENT` on the complete manifest. -/
theorem pre_repair_empty_manifest_loses_tables :
    (recoverTableOps preRepair exR).take 8 =
      [.createTemp 0, .writeTemp 0 [g2r], .syncTemp 0, .renameTemp 0 6, .base (.create .manifest 10),
       .base (.writeM 10 { snapshot := true, jn := some 0, sq := some 0, nf := 11 }), .base (.sync .manifest 10),
       .base (.setMeta 10)] ∧
    (recoverR {} (crashAt preRepair exR 8 {}).disk).toOption.map (fun rs => (rs.mv.live, rs.tableGrps)) =
      some ([], []) ∧
    (run {} ({}, (crashAt preRepair exR 8 {}).disk)
        ([.recOpen, .recStep, .recStep] ++ List.replicate 19 (.job false .ok))).map
      (fun sd => (sd.1.phase, sd.2.tables.nums)) = some (.running, [11]) ∧
    (recoverR {} (crashAt {} exR 8 {}).disk).toOption.map (·.mv.live) = some [4, 6] := by
  decide +kernel

/-- the old code is not crash-atomic for `Open`: the statement of `recover_crash_open_partial` fails for it -/
theorem pre_repair_open_incomplete :
    ∃ (k : Nat) (rs : RState), k ≤ (recoverTableOps preRepair exR).length ∧
      recoverR {} (crashAt preRepair exR k {}).disk = .ok rs ∧
      rs.entries ≠ (rebuild (scanIn preRepair exR)).entries := by
  refine ⟨8, ?_⟩
  have key : ((recoverR {} (crashAt preRepair exR 8 {}).disk).toOption.map fun rs =>
      decide (rs.entries ≠ (rebuild (scanIn preRepair exR)).entries)) = some true := by decide +kernel
  cases h : recoverR {} (crashAt preRepair exR 8 {}).disk with
  | error e => rw [h] at key; cases key
  | ok rs => rw [h] at key; exact ⟨rs, by decide, rfl, of_decide_eq_true (Option.some.inj key)⟩

/-- The property theorems of this file (for the audit). -/
def theorems : List String :=
  ["GoLevel.C19.recover_rebuilds", "GoLevel.C19.recover_rebuilds_damaged",
   "GoLevel.C19.rebuilt_lookup_refines_view",
   "GoLevel.C19.code_recover_commits_only", "GoLevel.C19.code_recover_outranks_all_files",
   "GoLevel.C19.recover_ops_equals_rebuild",
   "GoLevel.C19.recover_crash_atomic", "GoLevel.C19.recover_crash_atomic_settled",
   "GoLevel.C19.recover_crash_atomic_damaged", "GoLevel.C19.recover_crash_open_partial",
   "GoLevel.C19.open_complete_on_example", "GoLevel.C19.pre_repair_empty_manifest_loses_tables",
   "GoLevel.C19.pre_repair_open_incomplete"]

end GoLevel.C19

import GoLevel.Proofs.Life
/-!
# Property C18 — ownership and lifecycle

"A storage can be owned by at most one open DB at a time and becomes available again after Close.  A DB opened
read-only never creates, modifies, renames or deletes any stored file, yet serves all previously written data
including data still only in the journal; a DB opened or switched to read-only rejects writes with a read-only
error, keeps serving reads, and once in-flight background work has drained mutates nothing further.  After Close
every method returns a closed error instead of crashing, hanging or touching storage; a second Close is harmless;
released snapshots and iterators report their own 'released' errors."

Model: `GoLevel/Model/Lifecycle.lean` — the method tables (`dbTable`, `snapTable`, `txTable`, `iterTable`: what
`db.go`, `db_write.go`, `db_snapshot.go`, `db_transaction.go`, `db_iter.go` return in each state), the machine of
one DB with its background loops (`St`, `step`, `run`: `db_compaction.go`), the machine of one storage and the
DBs competing for its lock (`Sys`).  The harness check C18 calls every method in every state on the real code
and compares class and storage mutations with the tables (`life …` lines), so the tables are *observed*; the
theorems below say what follows from them.  That data is served (journal-only data included) is checked on the
implementation only.

Where the code does not do what the property asks, the table records the code and the theorem lists the
exception explicitly (`closedExceptions`, `releasedExceptions`, `roWriteExceptions`,
`sharedRO_two_owners`, `heldIterator_unspecified`).  Five earlier exceptions
are gone because the repository was repaired (read-only `Open` with several journals, `NewIterator` racing `Close`,
`Snapshot.String` on a released snapshot, `Transaction.Write` of an empty batch on a finished transaction, table
compaction after `SetReadOnly` — D14, see `setReadOnly_quiesces_refuted_without_parking`): the
tables and theorems state the repaired behaviour, the old one is kept as a remark where it was recorded.

Calls racing `Close` (the last clause of the property; six defects found by wp40, D41–D46): the four that are a
wrong result of a single call are tied to the source by `code_close_race_repairs` below; the two that are about who
holds the write lock while `Close` runs are theorems of C09 (`readonly_no_write_after_close`,
`tx_close_no_live_transaction`, `tx_close_returns`, with their ties `code_keeps_lock`, `code_tx_registration`); the
check `c18race.go` exercises all six on the real code.
-/
namespace GoLevel.C18
open GoLevel.Life

/-! ## ownership -/

/-- On a storage with an exclusive lock (`memStorage`, read-write `fileStorage`, the harness storage), whatever
sequence of `Open` (read-write or read-only, succeeding or failing) and `Close` calls is made by whatever DBs:
at most one DB is open, and it is the holder of the lock. -/
theorem single_owner (evs : List SysEv) :
    ((Sys.run (Sys.init .exclusive) evs).1.opened.length ≤ 1)
    ∧ (Sys.run (Sys.init .exclusive) evs).1.owners = (Sys.run (Sys.init .exclusive) evs).1.opened := by
  have h := Sys.run_fst_inv (Sys.init .exclusive) evs Sys.init_inv
  exact ⟨h.2.2, h.2.1⟩

/-- non-vacuity: DB 1 opens, DB 2 is refused twice (read-write and read-only), DB 1 closes, closes again
(`ErrClosed`), DB 2 opens -/
example : Sys.run (Sys.init .exclusive) [.open 1 false 1, .open 2 false 1, .open 2 true 1, .close 1, .close 1, .open 2 true 1]
    = (⟨.exclusive, [2], [2]⟩, [.ok, .locked, .locked, .ok, .closed, .ok]) := by decide

/-- While a DB is open every further `Open` is refused with the lock error and changes nothing. -/
theorem second_open_refused (evs : List SysEv) (id : Nat) (ro : Bool) (j : Nat)
    (h : (Sys.run (Sys.init .exclusive) evs).1.opened ≠ []) :
    (Sys.run (Sys.init .exclusive) evs).1.step (.open id ro j) = ((Sys.run (Sys.init .exclusive) evs).1, .locked) := by
  have hi := Sys.run_fst_inv (Sys.init .exclusive) evs Sys.init_inv
  simp [Sys.step, hi.canLock_eq, h]

example : (Sys.run (Sys.init .exclusive) [.open 7 true 1]).1.step (.open 8 false 1)
    = (⟨.exclusive, [7], [7]⟩, .locked) := by decide

/-- After the owner's `Close` the storage is free: the next `Open` (read-write or read-only, whatever the number
`j` of journals it has to replay) succeeds and becomes the owner. -/
theorem available_after_close (evs : List SysEv) (id id' : Nat) (ro : Bool) (j : Nat)
    (h : (Sys.run (Sys.init .exclusive) evs).1.opened = [id]) :
    ((Sys.run (Sys.init .exclusive) evs).1.step (.close id)).2 = .ok
    ∧ ((Sys.run (Sys.init .exclusive) evs).1.step (.close id)).1.owners = []
    ∧ ((Sys.run (Sys.init .exclusive) evs).1.step (.close id)).1.opened = []
    ∧ ((((Sys.run (Sys.init .exclusive) evs).1.step (.close id)).1.step (.open id' ro j)).2 = .ok)
    ∧ ((((Sys.run (Sys.init .exclusive) evs).1.step (.close id)).1.step (.open id' ro j)).1.opened = [id']) := by
  -- the lock is exclusive and its holders are the open DBs, here `[id]`: both steps compute
  obtain ⟨hk, ho, _⟩ := Sys.run_fst_inv (Sys.init .exclusive) evs Sys.init_inv
  simp [Sys.step, Sys.canLock, openCls, hk, ho, h]

example : (((Sys.run (Sys.init .exclusive) [.open 1 false 1]).1.step (.close 1)).1.step (.open 2 true 1))
    = (⟨.exclusive, [2], [2]⟩, .ok) := by decide

/-- The code as it is: a `fileStorage` opened read-only hands out a dummy lock, so two (read-only) DBs can be
open on the same storage object at the same time — `single_owner` is about exclusive locks only. -/
theorem sharedRO_two_owners :
    (Sys.run (Sys.init .sharedRO) [.open 1 true 1, .open 2 true 1]).1.opened = [2, 1] := by decide

/-- A read-only `Open` of a free storage succeeds whatever the number of journals it has to replay (a frozen
buffer that was still unflushed at `Close` leaves two), becomes the owner, and issues no mutating storage action
while opening; that it then serves exactly the data written before — journal-only data included — is checked on
the implementation by the harness.  (Remark: before the repair of `recoverJournalRO` such an `Open` failed with
`io.EOF` as soon as two journals had to be replayed — the finding `openRO:eof-two-journals`.) -/
theorem openRO_any_journals (k : LockKind) (id j : Nat) :
    (Sys.init k).step (.open id true j) = (⟨k, [id], [id]⟩, .ok)
    ∧ (openActs true).all (fun a => !a.mutating) = true
    ∧ (opened true 0).mode = .openRO := by
  refine ⟨?_, by decide, rfl⟩
  cases k <;> simp [Sys.init, Sys.step, Sys.canLock, openCls]

example : Sys.run (Sys.init .exclusive) [.open 1 true 2, .close 1, .open 2 true 3, .open 3 false 1]
      = (⟨.exclusive, [2], [2]⟩, [.ok, .ok, .ok, .locked]) := by decide

/-! ## closed -/

/-- Methods without an error result: nothing to return a closed error through. -/
def voidMethods : List (String × String) :=
  [("Snapshot", "Release"), ("Snapshot", "String"), ("Transaction", "Discard"), ("Iterator", "Release"),
   ("Iterator", "Valid"), ("Iterator", "Key"), ("Iterator", "Value"), ("Iterator", "SetReleaser")]

/-- After `Close`, `Discard` has no error result.  (`Write` of an empty batch used to be listed here too: it
returned nil before looking at anything; repaired, it now reports the finished transaction.) -/
def closedExceptions : List TxM := [.discard]

/-- After `Close`: every `DB` method returns `ErrClosed` (so does a second `Close`); no event — method call on the
DB or on any handle, background step — emits any storage action or changes the state; snapshots still held
return `ErrClosed` from every method that has an error result; transactions (the open one was discarded by
`Close`) return their own done-error or `ErrClosed`, except for `closedExceptions`; no table entry allows a
mutation. -/
theorem closed_is_closed :
    (∀ tx m, dbTable .closed tx m = ⟨.closed, [], false⟩)
    ∧ (∀ (c : Cfg) (s : St) (e : Ev), s.mode = .closed → (step c s e).st = s ∧ (step c s e).acts = [])
    ∧ (∀ (c : Cfg) (s : St) (m : DBm) (p : Nat), s.mode = .closed → (step c s (.db m p)).cls = .closed)
    ∧ (∀ m, m ≠ .release → m ≠ .string → snapTable .closed .live m = ⟨.closed, [], false⟩)
    ∧ (∀ t m, t ≠ .none → m ∉ closedExceptions →
        (txTable .closed t m).cls = .txdone ∨ (txTable .closed t m).cls = .closed)
    ∧ (∀ h m, (snapTable .closed h m).mutates = false) ∧ (∀ t m, (txTable .closed t m).mutates = false)
    ∧ (∀ h m, (iterTable .closed h m).mutates = false) := by
  refine ⟨?_, ?_, ?_, ?_, ?_, ?_, ?_, ?_⟩
  · intro tx m; rfl
  · intro c s e hm
    exact step_closed c s e hm
  · intro c s m p hm
    rw [step_db_cls, hm]; rfl
  · exact SnapM.forall_of_all (by decide)
  · intro t; cases t <;> exact TxM.forall_of_all (by decide)
  · intro h; cases h <;> exact SnapM.forall_of_all (by decide)
  · intro t; cases t <;> exact TxM.forall_of_all (by decide)
  · intro h; cases h <;> exact IterM.forall_of_all (by decide)

/-- non-vacuity: close an open DB with an open transaction, then call things -/
example : (run ⟨true, false⟩ ⟨.openRW, true, true, 2, 0, .live, false⟩
      [.db .close 1, .db .close 0, .db .get 1, .db .put 1, .tx .get 0, .tx .commit 0, .bgFlush 1, .bgCompact 1,
       .snap .live .get 1, .iter .live .next 1]).2 = [.remove, .remove, .closeFile, .unlock] := by decide
example : (step ⟨true, false⟩ ⟨.closed, false, true, 2, 0, .discarded, false⟩ (.db .close 0)).cls = .closed := by decide
/-- the transaction that was open at `Close` has been discarded by it: even an empty `Write` says so -/
example : (txTable .closed .live .writeEmpty).cls = .txdone ∧ (txTable .closed .live .discard).cls = .ok := by decide

/-- The code as it is: an iterator that is still held when the DB is closed (which the documentation of `Close`
declares not safe) is not covered: moves may succeed, report `ErrClosed` or `table.ErrReaderReleased`, report a bogus corruption error or panic. -/
theorem heldIterator_unspecified (m : IterM) (h : m.isMove = true) :
    iterTable .closed .live m = ⟨.ok, [.closed, .released, .other, .panic], false⟩ := by
  revert m; exact IterM.forall_of_all (by decide)

/-! ## released handles -/

/-- What released / finished handles do that is not "their own error": `Snapshot.String` has no error result
(it prints `leveldb.Snapshot{released}`; it used to panic on the nil `snap.elem`: repaired); `SetReleaser` on a
released iterator panics (documented for `util.ReleaseSetter`); `Release`/`Discard` again are no-ops; `Commit`
of a finished transaction after `Close` returns `ErrClosed`; and on a released iterator `Valid`/`Key`/`Value`/
`Error` report nothing until a move is attempted (`it.Release(); it.Error()` is the documented idiom).
(`Transaction.Write` of an empty batch used to be listed: repaired, it answers the done-error.) -/
def releasedExceptions : List (String × String) :=
  [("Snapshot", "String"), ("Snapshot", "Release"), ("Iterator", "SetReleaser"), ("Iterator", "Release"),
   ("Iterator", "Valid"), ("Iterator", "Key"), ("Iterator", "Value"), ("Iterator", "Error"),
   ("Transaction", "Discard"), ("Transaction", "Commit")]

/-- In every mode of the DB: a released snapshot answers `ErrSnapshotReleased` (the iterator it hands out carries
that error); a released iterator answers `ErrIterReleased` to every move, and from then on through `Error()`;
a committed or discarded transaction answers its done-error; none of this touches storage.  The remaining
methods are `releasedExceptions`, and what they do is stated too. -/
theorem released_handles (mode : Mode) :
    (∀ m, m ≠ .release → m ≠ .string → snapTable mode .released m = ⟨.released, [], false⟩)
    ∧ snapTable mode .released .release = ⟨.ok, [], false⟩
    ∧ snapTable mode .released .string = ⟨.ok, [], false⟩
    ∧ (∀ m, m.isMove = true → iterTable mode .released m = ⟨.released, [], false⟩)
    ∧ (∀ m, m.isMove = false → m ≠ .setReleaser → iterTable mode .released m = ⟨.ok, [], false⟩)
    ∧ (∀ m, m ≠ .setReleaser → iterTable mode .releasedUsed m = ⟨.released, [], false⟩)
    ∧ (∀ h, h ≠ .live → iterTable mode h .setReleaser = ⟨.panic, [], false⟩)
    ∧ (∀ t m, t.done = true → m ≠ .discard → m ≠ .commit →
        txTable mode t m = ⟨.txdone, [], false⟩)
    ∧ (∀ t, t.done = true → txTable mode t .discard = ⟨.ok, [], false⟩
        ∧ txTable mode t .commit = ⟨if mode = .closed then .closed else .txdone, [], false⟩) := by
  -- the rows of released snapshots and iterators do not look at the mode; a finished transaction is not touched by `Close`
  have hdone : ∀ t, t.done = true → txTable mode t = txDoneRow mode := by
    intro t ht; cases t <;> simp [TxSt.done] at ht <;> cases mode <;> rfl
  refine ⟨fun m h1 h2 => by simp [snapTable, h1, h2], rfl, rfl, fun m h => by simp [iterTable, h],
    fun m h1 h2 => by simp [iterTable, h1, h2], fun m h => by simp [iterTable, h],
    fun h hl => by cases h <;> first | exact absurd rfl hl | rfl,
    fun t m ht h1 h2 => by rw [hdone t ht]; simp [txDoneRow, h1, h2],
    fun t ht => by rw [hdone t ht]; exact ⟨rfl, rfl⟩⟩

example : snapTable .openRW .released .get = ⟨.released, [], false⟩ := by decide
example : iterTable .switchedRO .released .seek = ⟨.released, [], false⟩ := by decide
example : iterTable .openRO .released .error = ⟨.ok, [], false⟩ ∧ iterTable .openRO .releasedUsed .error = ⟨.released, [], false⟩ := by decide
example : txTable .openRW .committed .put = ⟨.txdone, [], false⟩ := by decide
example : txTable .openRW .discarded .writeEmpty = ⟨.txdone, [], false⟩ ∧ snapTable .closed .released .string = ⟨.ok, [], false⟩ := by decide

/-! ## read-only -/

/-- `Write` of an empty or nil batch is not rejected on a read-only DB: it returns nil before the mode is looked
at (nothing is written). -/
def roWriteExceptions : List DBm := [.writeEmpty, .writeNil]

/-- A DB opened or switched to read-only rejects every method that would change data or layout with
`ErrReadOnly` (a second `SetReadOnly` too), and answers the reading methods as an open DB does. -/
theorem ro_rejects_writes (mode : Mode) (h : mode = .openRO ∨ mode = .switchedRO) (tx : Bool) :
    (∀ m, m.isWrite = true → (dbTable mode tx m).cls = .readonly ∧ (dbTable mode tx m).mutates = false)
    ∧ (dbTable mode tx .setReadOnly).cls = .readonly
    ∧ (∀ m, m.isWrite = false → m ≠ .setReadOnly → m ≠ .close → (dbTable mode tx m).cls = readCls m)
    ∧ (∀ m ∈ roWriteExceptions, (dbTable mode tx m).cls = .ok ∧ (dbTable mode tx m).mutates = false) := by
  rcases h with h | h <;> subst h <;> cases tx <;>
    exact ⟨DBm.forall_of_all (by decide), rfl, DBm.forall_of_all (by decide), by decide⟩

example : (dbTable .openRO false .put).cls = .readonly ∧ (dbTable .switchedRO false .compactRange).cls = .readonly
    ∧ (dbTable .openRO false .get).cls = .ok ∧ (dbTable .switchedRO false .getMiss).cls = .notfound := by decide

/-- From a DB opened read-only, no reachable step — any method of the DB or of any snapshot, transaction or
iterator handle with any argument behaviour, any background event, `Close`, and anything after it — emits
`create`, `write`, `sync`, `remove`, `rename` or `setMeta`; neither does the read-only `Open` itself. -/
theorem ro_no_mutation (c : Cfg) (due : Nat) (es : List Ev) :
    (∀ a ∈ openActs true, a.mutating = false)
    ∧ (∀ a ∈ (run c (opened true due) es).2, a.mutating = false) := by
  exact ⟨by decide, (RoInv_run c _ es ⟨Or.inl rfl, rfl, rfl, by simp [opened]⟩).2⟩

/-- non-vacuity: a read-only session with writes refused, reads that exhaust seek allowances, handles, background
events and `Close` emits only non-mutating actions — and some actions are emitted -/
example : (run ⟨true, false⟩ (opened true 3)
      [.db .put 1, .db .get 1, .db .sizeOf 0, .snap .live .get 1, .iter .live .next 1, .iter .live .release 1,
       .bgCompact 1, .bgFlush 1, .db .openTransaction 1, .tx .put 1, .db .close 0, .db .get 0]).2
    = [.open, .read, .closeFile, .unlock] := by decide
/-- the same events on a DB that is open read-write do mutate -/
example : nMut (run ⟨true, false⟩ (opened false 3)
      [.db .put 1, .db .get 1, .bgCompact 1, .bgFlush 1]).2 > 0 := by decide

/-! ## SetReadOnly -/

/-- `SetReadOnly` on an open DB without an open transaction: the DB is read-only from then on; what the
background loops had to do is unchanged (the call does not wait for it; `p > 0` says that one of the due table
compactions is running at that moment).  With an open transaction it blocks. -/
theorem setReadOnly_enters (c : Cfg) (s : St) (p : Nat) (hm : s.mode = .openRW) :
    (s.tx ≠ .live → (step c s (.db .setReadOnly p)).st =
          { s with mode := .switchedRO, running := s.bg && decide (p > 0) && decide (s.due > 0) }
        ∧ (step c s (.db .setReadOnly p)).cls = .ok ∧ (step c s (.db .setReadOnly p)).acts = [])
    ∧ (s.tx = .live → (step c s (.db .setReadOnly p)).st = s ∧ (step c s (.db .setReadOnly p)).cls = .blocks) := by
  obtain ⟨mode, bg, frozen, due, pins, tx, running⟩ := s
  simp only at hm; subst hm
  cases tx <;> simp [step, stepDB, stepRW, dbTable, DBm.needsWriteLock, DBm.isWrite, DBm.isRead]

/-- The events that complete the work that was in flight when `SetReadOnly` was called: the pending flush, the
table compaction that was running (when `tCompaction` does not park: every due compaction — none of which makes
another one due or is deferred), the release of the iterators that pin replaced tables. -/
def drainEvents (c : Cfg) (s : St) : List Ev :=
  [.bgFlush 0] ++ (if c.parks then [.bgCompact 0] else List.replicate s.due (.bgCompact 0))
    ++ List.replicate s.pins (.iter .live .release 1)

/-- no seek-triggered compaction can start: the option is off, or no read of the history exhausts an allowance -/
def NoSeekTrigger (c : Cfg) (es : List Ev) : Prop := c.seeks = false ∨ ∀ e ∈ es, e.seekHit = false

/-- The full statement, for a `tCompaction` that parks once the DB is read-only (`c.parks`).  After `SetReadOnly`
and the completion of the work that was in flight (`s.settled`: the pending flush has completed, the table
compaction that was running has completed, no replaced tables are still pinned by an iterator — compactions may
well be *due*), whatever is called afterwards — every method of the DB and of every snapshot, transaction and
iterator handle with any argument behaviour, including reads that exhaust seek allowances, background events,
`Close` and anything after it — no `create`/`write`/`sync`/`remove`/`rename`/`setMeta` is emitted, and the state
stays settled.  No assumption on the events.  What is modelled: `mCompaction` completes a pending flush whatever
the mode; `tCompaction` consults the read-only flag before it starts anything; writers are refused before they
reach the journal; reads charge seeks (`due` grows) but nobody acts on it. -/
theorem setReadOnly_quiesces (c : Cfg) (hc : c.parks = true) (s : St) (es : List Ev)
    (hm : s.mode = .switchedRO) (ht : s.tx ≠ .live) (hd : s.settled = true) :
    (∀ a ∈ (run c s es).2, a.mutating = false) ∧ (run c s es).1.settled = true := by
  have h := PkInv_run c hc s es ⟨Or.inl hm, hd, ht⟩
  exact ⟨h.2, h.1.2.1⟩

/-- The code as it is parks (`Gen.roCompactionParks`, regenerated from `tCompaction`/`SetReadOnly` on every run:
un-fixing the source turns the fact to `false` and breaks this proof): the full statement holds for the code's
configuration, with seek compaction enabled or not. -/
theorem code_setReadOnly_quiesces (seeks : Bool) (s : St) (es : List Ev)
    (hm : s.mode = .switchedRO) (ht : s.tx ≠ .live) (hd : s.settled = true) :
    (∀ a ∈ (run (codeCfg seeks) s es).2, a.mutating = false) ∧ (run (codeCfg seeks) s es).1.settled = true :=
  setReadOnly_quiesces (codeCfg seeks) (show Gen.roCompactionParks = true by decide) s es hm ht hd

/-- non-vacuity: SetReadOnly with a flush pending, two compactions due of which one is running, and one pinned
table set; the drain mutates and settles with a compaction still due; afterwards a long history of calls —
reads that exhaust seek allowances and wake-ups of `tCompaction` included — mutates nothing -/
example :
    let c := codeCfg true
    let s1 := (run c ⟨.openRW, true, true, 2, 1, .committed, false⟩ [.db .setReadOnly 1]).1
    let s2 := (run c s1 (drainEvents c s1)).1
    s1.mode = .switchedRO ∧ s1.running = true ∧ nMut (run c s1 (drainEvents c s1)).2 > 0
    ∧ s2.settled = true ∧ s2.due = 1
    ∧ (run c s2 [.db .get 1, .bgCompact 0, .snap .live .get 1, .bgCompact 1, .iter .live .next 1, .bgCompact 2,
          .db .put 1, .db .compactRange 1, .iter .live .release 1, .bgFlush 1, .tx .put 1, .db .close 0,
          .db .get 1]).2 = [.closeFile, .unlock] := by decide

/-- The drain completes the work in flight (parking loop): flush, the running compaction, the pinned tables. -/
theorem drain_settles (c : Cfg) (hc : c.parks = true) (s : St) (hm : s.mode = .switchedRO) (hb : s.bg = true) :
    (run c s (drainEvents c s)).1.settled = true ∧ (run c s (drainEvents c s)).1.mode = .switchedRO := by
  obtain ⟨mode, bg, frozen, due, pins, tx, running⟩ := s
  simp only at hm hb; subst hm hb
  simp only [drainEvents, hc, if_true]
  simp only [run_append]
  rw [run_flush, run_finish_running c hc, run_unpins]
  exact ⟨by simp [St.settled], rfl⟩

/-! ### the loop as it was before the repair (record of D14) -/

/-- the statement `setReadOnly_quiesces` for one configuration, with "drained" (nothing due either) as the
premise — the most that could be asked of a loop that does not park -/
def QuiescesFrom (c : Cfg) : Prop :=
  ∀ (s : St) (es : List Ev), s.mode = .switchedRO → s.tx ≠ .live → s.drained = true →
    ∀ a ∈ (run c s es).2, a.mutating = false

/-- Whatever the configuration: after `SetReadOnly`, once the work in flight has completed and nothing is due
(`s.drained`), and **assuming that no read starts a seek-triggered compaction** (`NoSeekTrigger`:
`DisableSeeksCompaction`, or no read exhausts a table's seek allowance), no mutating storage action is emitted
and the DB stays drained.  This is all that held for the loop that did not look at the read-only state. -/
theorem setReadOnly_quiesces_partial (c : Cfg) (s : St) (es : List Ev)
    (hm : s.mode = .switchedRO) (ht : s.tx ≠ .live) (hd : s.drained = true) (hq : NoSeekTrigger c es) :
    (∀ a ∈ (run c s es).2, a.mutating = false) ∧ (run c s es).1.drained = true := by
  have h := SwInv_run c s es ⟨Or.inl hm, hd, ht⟩ (fun e he => hq.imp id (· e he))
  exact ⟨h.2, h.1.2.1⟩

/-- The drain completes the work in flight when nothing new becomes due during it (loop that does not park). -/
theorem drain_completes (c : Cfg) (hc : c.parks = false) (s : St) (hm : s.mode = .switchedRO) (hb : s.bg = true)
    (hr : s.running = true → s.due > 0) :
    (run c s (drainEvents c s)).1.drained = true ∧ (run c s (drainEvents c s)).1.mode = .switchedRO := by
  obtain ⟨mode, bg, frozen, due, pins, tx, running⟩ := s
  simp only at hm hb hr; subst hm hb
  simp only [drainEvents, hc, Bool.false_eq_true, if_false]
  simp only [run_append]
  rw [run_flush, run_compacts c hc _ _ _ _ hr, run_unpins]
  exact ⟨by simp [St.drained], rfl⟩

/-- Record of D14 (repaired in the repository; `code_setReadOnly_quiesces` is the statement for the code as it is
now): with a `tCompaction` that does not consult the read-only state and seek compaction enabled, a drained,
switched-to-read-only DB does not stay quiet — one read that exhausts a seek allowance makes the loop run a
compaction, creating, writing, syncing and removing files.  With parking the same history is silent. -/
theorem setReadOnly_quiesces_refuted_without_parking :
    ¬ QuiescesFrom ⟨true, false⟩ ∧ QuiescesFrom ⟨true, true⟩ := by
  constructor
  · intro h
    have := h ⟨.switchedRO, true, false, 0, 0, .none, false⟩ [.db .get 1, .bgCompact 0] rfl (by decide) rfl
      .create (by decide)
    exact absurd this (by decide)
  · intro s es hm ht hd
    have hs : s.settled = true := by
      have := (drained_iff s).mp hd
      simp [St.settled, this.1, this.2.2.1, this.2.2.2]
    exact (setReadOnly_quiesces ⟨true, true⟩ rfl s es hm ht hs).1

example : nMut (run ⟨true, false⟩ ⟨.switchedRO, true, false, 0, 0, .none, false⟩ [.db .get 1, .bgCompact 0]).2 > 0
    ∧ nMut (run (codeCfg true) ⟨.switchedRO, true, false, 0, 0, .none, false⟩ [.db .get 1, .bgCompact 0]).2 = 0 := by
  decide

/-! ## the tables and the machine agree -/

/-- background work a state still enables (a due compaction counts only where `tCompaction` would start it) -/
def bgWork (c : Cfg) (s : St) : Nat :=
  if s.bg && s.mode != .closed then
    b2n s.frozen + (if c.parks && s.mode == .switchedRO then b2n s.running else s.due) + s.pins
  else 0

/-- reachable shape: a DB opened read-only has no background goroutines and pins nothing; a live transaction
exists only on an open read-write DB -/
def Wf (s : St) : Prop := (s.mode = .openRO → s.bg = false ∧ s.pins = 0) ∧ txReachable s.mode s.tx = true

theorem bgWork_nobg (c : Cfg) (s : St) (h : s.bg = false) : bgWork c s = 0 := by simp [bgWork, h]

theorem bgWork_charge_parked (c : Cfg) (hc : c.parks = true) (s : St) (b : Bool) (hm : s.mode = .switchedRO) :
    bgWork c (chargeSeek c s b) = bgWork c s := by
  rw [chargeSeek_eq]; simp [bgWork, hc, hm]

/-- `SetReadOnly` enables nothing: the compaction it marks as running was due -/
theorem bgWork_setReadOnly (c : Cfg) (s : St) (p : Nat) (hm : s.mode = .openRW) :
    bgWork c { s with mode := .switchedRO, running := s.bg && decide (p > 0) && decide (s.due > 0) } ≤ bgWork c s := by
  cases hb : s.bg
  · simp [bgWork, hb]
  · simp only [bgWork, hm, hb]
    cases c.parks <;> by_cases hd : 0 < s.due <;> by_cases hp : 0 < p <;> simp [b2n, hd, hp] <;> omega

theorem DBm.read_needs_no_lock {m : DBm} (h : m.isRead = true) : m.needsWriteLock = false := by
  cases m <;> simp [DBm.isRead] at h <;> rfl

theorem DBm.write_needs_lock {m : DBm} (h : m.needsWriteLock = false) : m.isWrite = false := by
  cases m <;> first | exact h | rfl

/-- The machine returns the class of the table, and a table entry "does not mutate" means for the machine: the
call emits no mutating action and leaves no more background work enabled than there was.  (This is the link
between the `life` lines, which test the tables against the implementation, and the machine theorems.)  The tables
describe the code as it is, so the machine is taken in a configuration that agrees with the code on whether
`tCompaction` parks. -/
theorem table_sound (c : Cfg) (hcfg : c.parks = Gen.roCompactionParks) (s : St) (m : DBm) (p : Nat) (hw : Wf s) :
    (step c s (.db m p)).cls = (dbTable s.mode (s.tx == .live) m).cls
    ∧ ((dbTable s.mode (s.tx == .live) m).mutates = false →
        (∀ a ∈ (step c s (.db m p)).acts, a.mutating = false) ∧ bgWork c (step c s (.db m p)).st ≤ bgWork c s) := by
  refine ⟨step_db_cls c s m p, fun hmut => ?_⟩
  obtain ⟨h1, h2⟩ := hw
  cases hmode : s.mode <;> rw [hmode] at hmut h2
  · -- openRW: the entry says "no mutation" for what blocks on the transaction's lock and for what is neither
    -- `Close`, a read nor a write
    have hc : m ≠ .close := by rintro rfl; simp [dbTable] at hmut
    have hr : m.isRead = false := by
      cases hr : m.isRead
      · rfl
      · simp [dbTable, hc, hr] at hmut
    simp only [step, stepDB, hmode]
    split
    · exact ⟨by simp, Nat.le_refl _⟩
    · rename_i hlk
      have hwr : m.isWrite = false := by
        cases hn : m.needsWriteLock
        · exact DBm.write_needs_lock hn
        · simpa [dbTable, hc, hr, hn, (by simpa [hn] using hlk : (s.tx == .live) = false)] using hmut
      obtain ⟨hacts, hst | hst⟩ := stepRW_of_quiet c s p (dbTable .openRW (s.tx == .live) m).cls hc hr hwr <;>
        rw [hst]
      · exact ⟨hacts, Nat.le_refl _⟩
      · exact ⟨hacts, bgWork_setReadOnly c s p hmode⟩
  · -- openRO: no goroutines, nothing to enable
    have ht : s.tx ≠ .live := by intro h; simp [h, txReachable] at h2
    have hr := RoInv_run c s [.db m p] ⟨Or.inl hmode, (h1 hmode).1, (h1 hmode).2, ht⟩
    simp only [run, List.append_nil] at hr
    exact ⟨hr.2, by rw [bgWork_nobg c _ hr.1.2.1]; exact Nat.zero_le _⟩
  · -- switchedRO: the entries of the reads say "no mutation" exactly when the loop parks
    have hs : step c s (.db m p) = stepRO c s m p (dbTable .switchedRO (s.tx == .live) m).cls := by
      simp only [step, stepDB, hmode]
    have hc : m ≠ .close := by rintro rfl; simp [dbTable] at hmut
    obtain ⟨hst, hacts⟩ := stepRO_of_ne_close c s p (dbTable .switchedRO (s.tx == .live) m).cls hc
    rw [hs, hst]
    refine ⟨hacts, ?_⟩
    cases hr : m.isRead
    · rw [Bool.false_and, chargeSeek_false]; exact Nat.le_refl _
    · cases hpk : c.parks
      · simp [dbTable, hc, DBm.read_needs_no_lock hr, hr, roReadsWakeCompaction, ← hcfg, hpk] at hmut
      · exact Nat.le_of_eq (bgWork_charge_parked c hpk s _ hmode)
  · rw [(step_closed c s _ hmode).1, (step_closed c s _ hmode).2]
    exact ⟨by simp, Nat.le_refl _⟩

example : Wf (opened true 2) ∧ Wf (opened false 2) := by
  refine ⟨⟨fun _ => ⟨rfl, rfl⟩, rfl⟩, ⟨fun h => ?_, rfl⟩⟩
  simp [opened] at h
/-- non-vacuity: an entry that does not mutate, and one that may -/
example : (dbTable .openRO false .get).mutates = false ∧ (dbTable .switchedRO false .get).mutates = false
    ∧ (dbTable .switchedRO false .close).mutates = true
    ∧ (dbTable .openRW false .put).mutates = true := by decide

/-- The regenerated fact "every public `*DB` method checks `db.ok()` before it touches anything" holds for the source as it
is (the extractor lists the exported methods of `*DB` from the AST on every run and requires the check in the first
statement; `Put`/`Delete` go through `putRec`, `Close` flips the flag itself); a method added or rewritten without the
check turns it false.  The "closed" row of the method table rests on it. -/
theorem code_methods_guarded : Gen.lifeDBMethodsGuarded = true := by decide

/-! ## calls racing `Close` (wp40 / wp51)

"… concurrent calls racing with Close either complete normally or return the closed error."  A call that passed
`db.ok()` before `Close` set the flag goes on while `Close` tears the DB down; what it meets there is listed below,
one line per thing `Close` takes away, with what the call then returns as a function of one source fact each
(`RaceCfg`; `true` = the repaired source).  The harness check C18 (`c18race.go`) drives exactly these races on the real
code at yield points and accepts only `normal` (with a correct answer) and `closed`. -/

/-- what a call that overlaps `Close` can come back with -/
inductive RaceOutcome | normal | closed | internalError | madeUpAnswer | panic
deriving DecidableEq, Repr

/-- what `Close` has already taken away when the call gets there -/
inductive RaceWindow
  /-- `Cache.Close` has stored nil into the bucket table (`DB.Stats` → `Cache.GetStats`) -/
  | cacheClosed
  /-- `fileCache.Close(true)` has released the table reader under the handle the call holds (`Get`, `Has`, `SizeOf`,
  iterators: `tOps.find` / `findKey` / `offsetOf`, `dbIter.iterErr`) -/
  | readerReleased
  /-- `session.close` has installed the empty stand-in version (`SizeOf`, `GetProperty`, `Stats` after `db.ok()`) -/
  | closingVersion
  /-- the released reader's preloaded index block is walked by an iterator created while `Close` ran (no block cache) -/
  | indexBlockWalked
deriving DecidableEq, Repr

structure RaceCfg where
  getStatsNilSafe : Bool
  readerReleasedIsClosed : Bool
  closingVersionIsClosed : Bool
  releaseKeepsIndexBlock : Bool
deriving DecidableEq, Repr

/-- the source as it is now (regenerated facts) -/
def codeRaceCfg : RaceCfg :=
  ⟨Gen.lifeGetStatsNilSafe, Gen.lifeReaderReleasedIsClosed, Gen.lifeClosingVersionIsClosed,
   Gen.lifeReleaseKeepsIndexBlock⟩

/-- the source as found by wp40 (98bd5c2) -/
def RaceCfg.asFound : RaceCfg := ⟨false, false, false, false⟩

def raceOutcome (c : RaceCfg) : RaceWindow → RaceOutcome
  | .cacheClosed => if c.getStatsNilSafe then .normal else .panic
  | .readerReleased => if c.readerReleasedIsClosed then .closed else .internalError
  | .closingVersion => if c.closingVersionIsClosed then .closed else .madeUpAnswer
  | .indexBlockWalked =>
    if c.releaseKeepsIndexBlock then (if c.readerReleasedIsClosed then .closed else .internalError) else .panic

/-- **the tie of the repairs of D41, D44, D45, D46**: `Cache.GetStats` checks the loaded bucket-table pointer for nil;
`tOps.find` / `findKey` / `offsetOf` and `dbIter.iterErr` map `table.ErrReaderReleased` to `ErrClosed`; `GetProperty`,
`Stats` and `SizeOf` return `ErrClosed` on the stand-in version of a closed session before they read its levels;
`table.Reader.Release` does not recycle the preloaded index block (regenerated facts `lifeGetStatsNilSafe`,
`lifeReaderReleasedIsClosed`, `lifeClosingVersionIsClosed`, `lifeReleaseKeepsIndexBlock`: each turns false when its
repair is reverted) — hence in each of the four windows the call completes normally or returns the closed error. -/
theorem code_close_race_repairs :
    codeRaceCfg = ⟨true, true, true, true⟩ ∧
    ∀ w, raceOutcome codeRaceCfg w = .normal ∨ raceOutcome codeRaceCfg w = .closed := by
  refine ⟨by decide, fun w => ?_⟩
  cases w <;> decide

/-- The five regenerated lock-release facts hold for the source as it is (they are the ones C09's theorems are built on,
`C09.code_all_fixed`): `Transaction.Commit` unlocks `compCommitLk` on its error returns,
`OpenTransaction` returns the token on each of its error returns (also the one behind `waitCompaction`, taken when
`Close` or a compaction error arrives while it waits at the level-0 pause trigger), `DB.Write` discards its internal
transaction after a failed commit, `SetReadOnly` gives the token back when `Close` overtakes it, and `Close` selects
on `compLockedC`.  A change that drops one of these releases turns the fact false.  What they are for here: `Close`
acquires the write lock (or learns that the error goroutine keeps it), and every error return of the calls that take it
gives it back, so `Close` does not wait on a leaked lock. -/
theorem code_error_paths_release_the_lock :
    Gen.lkCommitUnlocksOnError = true ∧ Gen.lkOpenTxReleasesOnError = true ∧
    Gen.lkLargeBatchDiscardsOnCommitError = true ∧ Gen.lkSetReadOnlyReleasesOnClose = true ∧
    Gen.lkCloseSelectsCompLocked = true := by decide

/-- every one of the four facts is needed: without it some window yields a panic, an internal error or a made-up
answer (the source as found: all four) -/
theorem close_race_repairs_needed (c : RaceCfg) :
    (∀ w, raceOutcome c w = .normal ∨ raceOutcome c w = .closed) ↔ c = ⟨true, true, true, true⟩ := by
  obtain ⟨a, b, d, e⟩ := c
  constructor
  · intro h
    cases a
    · exact absurd (h .cacheClosed) (by simp [raceOutcome])
    cases b
    · exact absurd (h .readerReleased) (by simp [raceOutcome])
    cases d
    · exact absurd (h .closingVersion) (by simp [raceOutcome])
    cases e
    · exact absurd (h .indexBlockWalked) (by simp [raceOutcome])
    rfl
  · intro h; cases h; intro w; cases w <;> decide

example : raceOutcome RaceCfg.asFound .cacheClosed = .panic ∧ raceOutcome RaceCfg.asFound .readerReleased = .internalError ∧
    raceOutcome RaceCfg.asFound .closingVersion = .madeUpAnswer ∧ raceOutcome RaceCfg.asFound .indexBlockWalked = .panic := by
  decide

end GoLevel.C18

namespace GoLevel
def C18.theorems : List String :=
  ["GoLevel.C18.single_owner", "GoLevel.C18.second_open_refused", "GoLevel.C18.available_after_close",
   "GoLevel.C18.sharedRO_two_owners", "GoLevel.C18.openRO_any_journals",
   "GoLevel.C18.closed_is_closed", "GoLevel.C18.heldIterator_unspecified", "GoLevel.C18.released_handles",
   "GoLevel.C18.ro_rejects_writes", "GoLevel.C18.ro_no_mutation",
   "GoLevel.C18.setReadOnly_enters", "GoLevel.C18.setReadOnly_quiesces", "GoLevel.C18.code_setReadOnly_quiesces",
   "GoLevel.C18.drain_settles", "GoLevel.C18.setReadOnly_quiesces_partial", "GoLevel.C18.drain_completes",
   "GoLevel.C18.setReadOnly_quiesces_refuted_without_parking", "GoLevel.C18.table_sound",
   "GoLevel.C18.code_methods_guarded", "GoLevel.C18.code_error_paths_release_the_lock", "GoLevel.C18.code_close_race_repairs",
   "GoLevel.C18.close_race_repairs_needed"]
end GoLevel

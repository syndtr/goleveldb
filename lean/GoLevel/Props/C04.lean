import GoLevel.Proofs.DurableView
import GoLevel.Proofs.DurableMain
import GoLevel.Proofs.ManifestRead
import GoLevel.Proofs.Batch
import GoLevel.Proofs.DurableBytesDisk
import GoLevel.Proofs.DurableBytesSilent
import GoLevel.Proofs.DurableBytesExample
import GoLevel.Proofs.DurableCreate
import GoLevel.Gen.Consts
/-!
# Property C04 — crash consistency

"If the process or machine dies at any instant - including during a flush, a compaction, a manifest switch
or a previous recovery - the DB opens again without error and contains every write and every committed
transaction that had been acknowledged with the sync option before the crash.  The recovered contents are
what some subset of the issued batches, applied in their original order, would produce: every batch is
entirely present or entirely absent and nothing that was never written appears.  The reopened DB is fully
usable and again satisfies all other properties."

Model: `Model/Disk.lean` (the storage contract at record granularity) and `Model/Durable.lean`
(`Dur.step`: the storage actions of the write path, `newMem`, memdb flush, table compaction, transactions,
`session.commit` with manifest rotation, crash, process exit and recovery itself, in the code's order;
`Dur.recoverR` = `Open`).

What is proved (`crash_consistent_core`, and `crash_consistent` = `crash_consistent_full`): for the whole
machine {write groups, buffer rotation, memdb flush, table compaction (concurrent with the writer and with
`newMem`), transactions (`OpenTransaction` … `Commit`/`Discard`, a committed transaction being a group
acknowledged with `Sync`), manifest rotation at any commit, crash / exit at any point, recovery with its own
flushes and commits — hence nested crashes}, with no injected storage fault, for a configuration `cfg.Good`
(the repaired code): every crash image of every reachable state opens, contains every group acknowledged with
`Sync` (and every synced group that was about to be acknowledged), consists of whole issued groups only, all of
them visible at the recovered sequence number, and the state after the crash is again a reachable state of the
machine (so the statement applies to the reopened DB and to crashes during recovery).  The invariant
(`Proofs/DurableInv.lean`) is decidable; it was also evaluated on random walks of the machine, outside this
framework (4000 runs x 200 steps per configuration).

The byte level, end to end (`Model/DurableBytes.lean`, last section of this file): the storage as byte strings with a
synced prefix per file (`ByteDisk`), `encodeDisk` (journals = `Journal.encode` of `Batch.encode`d groups, manifests =
`Journal.encode` of `sessionRecord.encode`d records, tables abstract), byte-level crash images (`crashWithB`: synced
prefix kept, unsynced tail cut at ANY byte, optional junk behind it) and `recoverBytes` (the real readers in the modes
`Open` uses, then `recoverR`; it is what the driver's `dur recover` runs on the real crash images of the harness).
Theorems (a) `recoverBytes_encodeDisk`, (b) `crash_image_decodes`, (c) `crash_consistent_bytes`.
Side conditions, all explicit: the records are within the limits of the wire formats (`Disk.Encodable`,
`EncCtx.Valid`: 64-bit sequence numbers, 32-bit record counts, 63-bit file numbers, a deletion carries no value);
the junk behind the surviving bytes is `Dur.Silent` (the tolerant reader with checksums gets the same complete
records with and without it; `silent_nil`, `silent_zeros`, `silent_rejected` give it for no junk, for zeros behind a
record boundary and for a chunk that fails the reader's header/CRC test).

Negative results: explicit losing runs for the orderings and code versions the hypotheses exclude (Negative 1–4 and
D12 below, each with its comment).

The creation of the DB is covered as well (`crash_consistent_created`, `crash_consistent_bytes_created`): the
runs of `Dur.bigStep` start on an empty storage, `Open` runs `session.create` (`Create`, record, `Sync`, `SetMeta`
of manifest 1) and goes on with `Dur.step` from `Dur.created`; a crash inside the creation leaves at most manifest
files without `CURRENT`, which the next `Open` takes for "no DB" (`Cfg.manifestsAloneAreNoDB`, commit 1dcbac1,
tied to the source by `code_creation_window_guard`) and creates the DB again.  `init_is_created`: the start state
`Dur.init` of the other theorems is what `openDB` reaches from `Dur.created`.
-/
namespace GoLevel.C04
open GoLevel GoLevel.Dur

/-! ## the bridge from bytes to records -/

/-- **A torn or zero-extended journal image reads back as a prefix of the records written** (tolerant reader,
    the default): cut at any byte offset it yields exactly the records that lie wholly before the cut, never
    an error; followed by any number of zero bytes it yields all records. -/
theorem image_reads_prefix (checksum : Bool) (rs : List Bytes) :
    (∀ n, ∃ j, (Journal.decode false checksum ((Journal.encode rs).take n)).records = rs.take j ∧
      (Journal.decode false checksum ((Journal.encode rs).take n)).final = .eof) ∧
    (∀ k, (Journal.decode false checksum (Journal.encode rs ++ List.replicate k 0)).records = rs ∧
      (Journal.decode false checksum (Journal.encode rs ++ List.replicate k 0)).final = .eof) := by
  refine ⟨fun n => ⟨_, (C12.decode_truncate_tolerant checksum rs n).1, (C12.decode_truncate_tolerant checksum rs n).2.1⟩,
    fun k => ⟨(C12.decode_zero_tail checksum rs k).1, (C12.decode_zero_tail checksum rs k).2.1⟩⟩

example : (Journal.decode false true ((Journal.encode [[1, 2, 3], [4, 5], [6]]).take 20)).records
    = [[1, 2, 3], [4, 5]] := by
  rw [(C12.decode_truncate_tolerant true _ 20).1]; decide

/-- The same for the reader `session.recover` uses on a manifest: its *complete* deliveries are a prefix of
    the records written. -/
theorem manifest_image_reads_prefix (rs : List Bytes) (n : Nat) :
    ∃ j, Manifest.completeOnes (Manifest.readRecords false ((Journal.encode rs).take n)).1 = rs.take j ∧
      (Manifest.readRecords false ((Journal.encode rs).take n)).2 = .eof := by
  obtain ⟨h1, h2⟩ := Manifest.readRecords_spec false ((Journal.encode rs).take n)
  refine ⟨Journal.fits 0 rs n, ?_, ?_⟩
  · rw [h1]; exact (C12.decode_truncate_tolerant true rs n).1
  · rw [h2]; exact (C12.decode_truncate_tolerant true rs n).2.1

/-- … and, with the repair of D22 (`failedRecordLeavesNoTrace`), an incomplete delivery (the leading chunks
    of a torn record) leaves the replay state of `session.recover` untouched. -/
theorem torn_manifest_record_no_trace (cfg : Cfg) (h : cfg.failedRecordLeavesNoTrace = true)
    (s : ReplayState) (payload : Bytes) :
    replayStep cfg false s payload false = .ok ⟨s.cur.resetLists, s.staging⟩ := by
  unfold replayStep
  have := Manifest.decodeInto_incomplete s.cur payload
  cases hd : Manifest.decodeInto s.cur payload false with
  | mk p e =>
    rw [hd] at this
    simp only at this
    subst this
    simp [h]

/-- whole batches come back whole: a journal payload written by `writeBatchesWithHeader` is decoded by
    `decodeBatchToMem` into exactly the entries of the group, or (sequence number below `db.seq`) into
    nothing at all -/
theorem group_all_or_nothing (seq expect : Nat) (rs : List Batch.Rec) (hs : seq < 2 ^ 64) (hn : rs.length < 2 ^ 32)
    (h : ∀ r ∈ rs, r.valid) :
    (expect ≤ seq → (Batch.decodeToMem (Batch.encode seq rs) expect).puts = Batch.entries seq rs) ∧
    (seq < expect → (Batch.decodeToMem (Batch.encode seq rs) expect).puts = []) := by
  refine ⟨fun he => ?_, fun he => ?_⟩
  · rw [Batch.decodeToMem_encode seq expect rs hs hn h he]
  · rw [Batch.decodeToMem_stale seq expect rs hs hn he]

/-! ## crash consistency without storage faults -/

def ackedSync (s : St) : List Grp := Dur.ackedSync s.issued

/-- what the reopened DB must be, relative to the history `s.issued`: `sel` is the selection of groups it
    contains -/
structure Consistent (c : UCmp) (s : St) (r : RState) (sel : List Grp) : Prop where
  /-- a sub-list of the issued groups, in issue order … -/
  sub : sel.Sublist (issuedGrps s)
  /-- … that contains every group acknowledged with `Sync` … -/
  acked : ∀ g ∈ ackedSync s, g ∈ sel
  /-- … and is exactly what was recovered: whole groups, nothing else -/
  whole : ∀ g, g ∈ sel ↔ g ∈ r.grps
  /-- every recovered entry is visible at the recovered sequence number -/
  visible : ∀ e ∈ r.entries, e.seq ≤ r.seq
  /-- a reader of the reopened DB sees the newest entry among the selected groups -/
  reads : ∀ k, r.get c k = view c (sel.flatMap Grp.ents) k r.seq

theorem consistent_of_good {c : UCmp} (hl : LawfulUCmp c) {s : St} {r : RState}
    (hw : ∀ g ∈ issuedGrps s, g.wf) (hgood : GoodOpen (must s) (issuedGrps s) r) :
    ∃ sel, Consistent c s r sel := by
  have hwr : ∀ g ∈ r.grps, g.wf := fun g hg => hw g (hgood.only g hg)
  have hsel : ∀ g, g ∈ (issuedGrps s).filter (fun g => decide (g ∈ r.grps)) ↔ g ∈ r.grps := fun g => by
    simp only [List.mem_filter, decide_eq_true_eq]
    exact ⟨fun h => h.2, fun h => ⟨hgood.only g h, h⟩⟩
  refine ⟨_, List.filter_sublist, fun g hg => (hsel g).2 (hgood.has g ?_), hsel, fun e he => ?_, fun k => ?_⟩
  · rw [must_eq]; exact List.mem_append_left _ hg
  · obtain ⟨g, hg, heg⟩ := List.mem_flatMap.1 he
    obtain ⟨_, h2, h3⟩ := ents_seq_range (hwr g hg) heg
    have := hgood.visible g hg
    rw [h3]; omega
  · unfold RState.get RState.entries
    exact view_groups_congr hl hwr hgood.disj hsel k r.seq

theorem consistent_of_inv {cfg : Cfg} (hn : cfg.failedRecordLeavesNoTrace = true) {s : St} {d : Disk}
    (h : Inv cfg s d) (ch : CrashChoice) {c : UCmp} (hl : LawfulUCmp c) (hw : ∀ g ∈ issuedGrps s, g.wf) :
    ∃ r, recoverR cfg (crashWith ch d) = .ok r ∧ ∃ sel, Consistent c s r sel := by
  obtain ⟨r, hrec, hgood⟩ := (h.disk.crash hn ch).open_ok
  exact ⟨r, hrec, consistent_of_good hl hw hgood⟩

theorem consistent_of_bigInv {cfg : Cfg} (hn : cfg.failedRecordLeavesNoTrace = true)
    (hc : cfg.manifestsAloneAreNoDB = true) {b : Big} (h : BigInv cfg b) (ch : CrashChoice) {c : UCmp}
    (hl : LawfulUCmp c) (hw : ∀ g ∈ issuedGrps b.st, g.wf) :
    ∃ r, recoverR cfg (crashWith ch b.disk) = .ok r ∧ ∃ sel, Consistent c b.st r sel := by
  obtain ⟨r, hrec, hgood⟩ := h.open_ok hn hc ch
  exact ⟨r, hrec, consistent_of_good hl hw hgood⟩

theorem bigInv_noFault {cfg : Cfg} (hg : cfg.Good) {xs : List BAct} {b : Big}
    (hal : bigAllowed cfg (fun _ a => a.noFault) CPc.noFault init0 xs = true) (hr : bigRun cfg init0 xs = some b) :
    BigInv cfg b := by
  refine bigInv_run (fun s d a s' d' h hp hs => invL_step hg h hp hs) ?_ (bigInv_init0 cfg) xs hal hr
  intro pc o gm hq _ ho
  subst ho
  simp [CPc.noFault] at hq

theorem good_default : Cfg.Good {} := ⟨rfl, rfl, rfl, rfl⟩

theorem run_append {cfg : Cfg} {sd sd' : St × Disk} {l l' : List Act} (h : run cfg sd l = some sd') :
    run cfg sd (l ++ l') = run cfg sd' l' := by
  induction l generalizing sd with
  | nil => simp only [run, Option.some.injEq] at h; subst h; rfl
  | cons a l ih =>
    obtain ⟨s0, d0⟩ := sd
    simp only [List.cons_append, run] at h ⊢
    split at h
    · exact ih h
    · cases h

/-- **C04 without storage faults.**  Every crash image `d'` of every state reachable without storage
    faults opens, and the reopened DB is consistent with the history; in addition to `crash_consistent` below: the
    crashed state is again reachable, so the statement applies to crashes during the recovery that follows. -/
theorem crash_consistent_core {cfg : Cfg} (hg : cfg.Good) {s : St} {d : Disk} (hr : ReachableFF cfg (s, d))
    {d' : Disk} (hc : IsCrashImage d d') {c : UCmp} (hl : LawfulUCmp c) (hw : ∀ g ∈ issuedGrps s, g.wf) :
    ∃ r, recoverR cfg d' = .ok r ∧ (∃ sel, Consistent c s r sel) ∧ ReachableFF cfg (crashSt s, d') := by
  obtain ⟨ch, rfl⟩ := hc
  obtain ⟨r, hrec, hsel⟩ := consistent_of_inv hg.noTrace (inv_reachable hg hr) ch hl hw
  refine ⟨r, hrec, hsel, ?_⟩
  obtain ⟨as, hff, hrun⟩ := hr
  refine ⟨as ++ [.crash ch], ?_, ?_⟩
  · intro a ha
    rcases List.mem_append.1 ha with h1 | h1
    · exact hff a h1
    · simp only [List.mem_singleton] at h1; subst h1; rfl
  · rw [run_append hrun]; rfl

/-- the same when the process merely exits (the OS keeps what was written) -/
theorem reopen_after_exit {cfg : Cfg} (hg : cfg.Good) {s : St} {d : Disk} (hr : ReachableFF cfg (s, d))
    {c : UCmp} (hl : LawfulUCmp c) (hw : ∀ g ∈ issuedGrps s, g.wf) :
    ∃ r, recoverR cfg d = .ok r ∧ ∃ sel, Consistent c s r sel := by
  have hinv := inv_reachable hg hr
  obtain ⟨r, hrec, hgood⟩ := hinv.disk.open_ok
  exact ⟨r, hrec, consistent_of_good hl hw hgood⟩

/-- The statement of the property as a closed proposition: the first two conclusions of `crash_consistent_core`,
    over the same runs (`Act.noFault` is `Act.faultFree`) — every action of the machine, i.e. including table
    compactions (outputs synced; one edit that deletes the inputs and adds the output; deferred removal of the
    inputs) and transactions (table synced, one edit with `seqNum := tr.seq`, then publication and
    acknowledgement), a committed transaction being a group acknowledged with `Sync`. -/
def crash_consistent_full : Prop :=
  ∀ (cfg : Cfg), cfg.Good → ∀ (s : St) (d : Disk),
    (∃ as, (∀ a ∈ as, a.noFault = true) ∧ run cfg init as = some (s, d)) →
    ∀ d', IsCrashImage d d' → ∀ (c : UCmp), LawfulUCmp c → (∀ g ∈ issuedGrps s, g.wf) →
      ∃ r, recoverR cfg d' = .ok r ∧ ∃ sel, Consistent c s r sel

theorem crash_consistent : crash_consistent_full := by
  intro cfg hg s d hr d' hi c hl hw
  obtain ⟨r, h1, h2, _⟩ := crash_consistent_core hg hr hi hl hw
  exact ⟨r, h1, h2⟩

/-! ## explicit runs: the theorem is not vacuous, and the ordering obligations are needed -/

/-- one write group: `Put("k", "v")` -/
def putKV : List Batch.Rec := [⟨1, [107], [118]⟩]

/-- a synced write, buffer rotation, and the flush of the frozen buffer up to and including the append of its
    edit to the manifest (not yet synced) -/
def flushUpToAppend : List Act :=
  [.wAppend putKV true .ok, .wSync .ok, .wApply, .wPublish, .wAck, .rotate .ok, .flushStart,
   .job false .ok, .job false .ok, .job false .ok, .job false .ok]

/-- the same with the commit rotating the manifest (`newManifest`), run to the end of the job -/
def flushWithRotation : List Act :=
  [.wAppend putKV true .ok, .wSync .ok, .wApply, .wPublish, .wAck, .rotate .ok, .flushStart,
   .job false .ok, .job false .ok, .job false .ok,
   .job true .ok,      -- append: create the new manifest
   .job false .ok,     -- rotWrite
   .job false .ok,     -- rotSync
   .job false .ok,     -- rotSetMeta
   .job false .ok,     -- rotRemove
   .job false .ok,     -- install
   .job false .ok, .job false .ok, .job false .ok, .job false .ok]   -- removals, done

/-- is some group acknowledged with `Sync` missing after a crash with choice `ch` (or does `Open` fail)? -/
def losesAcked (cfg : Cfg) (ch : CrashChoice) (as : List Act) : Option Bool :=
  (run cfg init as).map fun sd =>
    match recoverR cfg (crashWith ch sd.2) with
    | .ok r => (ackedSync sd.1).any fun g => !(r.grps.contains g)
    | .error _ => true

/-- what a reader of the DB reopened after the run (no crash) gets for key `"k"` -/
def readsK (cfg : Cfg) (as : List Act) : Option (Option Bytes) :=
  (run cfg init as).map fun sd =>
    match recoverR cfg sd.2 with
    | .ok r => r.get bytewise [107]
    | .error _ => none

def openError (cfg : Cfg) (d : Disk) : Option ErrClass :=
  match recoverR cfg d with
  | .error e => some e
  | .ok _ => none

/-- the repaired protocol: the acknowledged write survives a crash right after the (unsynced) edit, whatever
    is lost … -/
example : losesAcked {} {} flushUpToAppend = some false := by decide +kernel
/-- … also when the edit survives as a torn record … -/
example : losesAcked {} { tornM := fun _ => true } flushUpToAppend = some false := by decide +kernel
/-- … and a reader of the reopened DB finds the value, also after a manifest rotation -/
example : readsK {} flushWithRotation = some (some [118]) := by decide +kernel

/-- a committed transaction followed by a flush and a compaction of the two tables -/
def trThenCompact : List Act :=
  [.trBegin, .trPut putKV, .trCommit,
   .job false .ok, .job false .ok, .job false .ok,                   -- the transaction's table
   .job false .ok, .job false .ok, .job false .ok,                   -- its edit, installed
   .job false .ok, .job false .ok, .job false .ok,                   -- (no removals), acknowledged
   .wAppend [⟨1, [108], [119]⟩] true .ok, .wSync .ok, .wApply, .wPublish, .wAck, .rotate .ok, .flushStart,
   .job false .ok, .job false .ok, .job false .ok, .job false .ok, .job false .ok, .job false .ok,
   .job false .ok, .job false .ok, .job false .ok, .job false .ok,   -- flush done
   .compactStart [3, 5],
   .job false .ok, .job false .ok, .job false .ok, .job false .ok, .job false .ok, .job false .ok,
   .job false .ok, .job false .ok]                                   -- the first input table is removed

/-- … the transaction and the write survive a crash in the middle of the removal of the compaction's inputs,
    and the transaction's value is read after reopening -/
example : losesAcked {} {} trThenCompact = some false := by decide +kernel
example : (run {} init trThenCompact).map (fun sd => (ackedSync sd.1).length) = some 2 := by decide +kernel
example : readsK {} trThenCompact = some (some [118]) := by decide +kernel
/-- … and a crash before the transaction's edit is synced loses it as a whole (it was not acknowledged) -/
example : (run {} init (trThenCompact.take 7)).map (fun sd =>
    match recoverR {} (crashWith {} sd.2) with
    | .ok r => r.grps.length
    | .error _ => 99) = some 0 := by decide +kernel

/-- **Negative 1.**  If the flushed journal is removed before the edit is synced, a crash that loses the edit
    loses the acknowledged write. -/
theorem early_journal_removal_loses_write :
    losesAcked { editSyncedBeforeJournalRemoval := false } {} (flushUpToAppend ++ [.job false .ok]) = some true := by
  decide +kernel

/-- **Negative 2 (D2 before its repair).**  A rotation that does not carry the commit's journal and sequence
    numbers leaves `seqNum` below the flushed entries: after a clean reopen the value is invisible. -/
theorem rotation_without_nums_hides_data :
    readsK { rotationCarriesNums := false } flushWithRotation = some none := by decide +kernel

/-- **Negative 3.**  `SetMeta` before the new manifest is synced: a crash leaves `CURRENT` pointing to an
    empty manifest and `Open` fails. -/
theorem setmeta_before_sync_fails_to_reopen :
    (run { manifestSyncedBeforeSetMeta := false } init
        (flushUpToAppend.take 10 ++ [.job true .ok, .job false .ok, .job false .ok])).map
      (fun sd => openError { manifestSyncedBeforeSetMeta := false } (crashWith {} sd.2)) =
      some (some .corrupted) := by decide +kernel

/-- **Negative 4 (D22, the code as found).**  The edit of the flush is torn by the crash; the streaming
    decoder of `session.recover` has kept its journal number: the frozen journal is skipped, the table is not
    in the version, the acknowledged write is gone. -/
theorem d22_torn_manifest_record_loses_write :
    losesAcked { failedRecordLeavesNoTrace := false } { tornM := fun _ => true } flushUpToAppend = some true := by
  decide +kernel

/-- **D12 (the code as found, `manifestsAloneAreNoDB = false`).**  A crash between the creation of the first
    manifest and the first `SetMeta`: files without `CURRENT`, which `Open` refuses although nothing was ever
    acknowledged — here as a run of the machine with the creation in front: `Create`, the record, `Sync`, crash;
    the next `Open` fails, and so does every later one (`bigStep` has no step). -/
theorem d12_creation_window :
    openError { manifestsAloneAreNoDB := false }
      { current := none, manifests := [(1, ⟨[{ snapshot := true, jn := some 0, sq := some 0, nf := 2 }], []⟩)] }
      = some .corrupted ∧
    (bigRun { manifestsAloneAreNoDB := false } init0 [.c .ok false, .c .ok false, .c .ok false, .ccrash {}]).map
      (fun b => (openError { manifestsAloneAreNoDB := false } b.disk,
                 (bigStep { manifestsAloneAreNoDB := false } b (.c .ok false)).isSome)) =
      some (some .corrupted, false) := by decide +kernel

/-- … repaired (commit 1dcbac1): the same storage is "no DB", `Open` creates it again -/
example : openError {} { current := none, manifests := [(1, ⟨[snap0], []⟩)] } = none := by decide +kernel
example : (bigRun {} init0 [.c .ok false, .c .ok false, .c .ok false, .ccrash {}, .c .ok false, .c .ok false,
    .c .ok false, .c .ok false]).map (fun b => decide (b.disk = created.2)) = some true := by decide +kernel

/-- the configuration the extractor reads off the source tree: the four flags tied to extracted facts, the others at
    their defaults -/
def codeCfg : Cfg :=
  { discardKeepsTablesWhenUncertain := Gen.discardGuardsUncertainManifest
    cleanupChecksCurrent := Gen.newManifestCleanupChecksCurrent
    cleanupKeepsWhenGetMetaFails := Gen.newManifestCleanupChecksCurrent
    manifestsAloneAreNoDB := Gen.recoverNoMetaNeedsData }

/-- the model follows the code in the tree: `session.recover` turns "not exist" into "corrupted" only when the
    storage holds a journal or a table (`tools/extract`: the error is raised inside
    `if jt, _ := s.stor.List(TypeJournal|TypeTable); !noMeta || len(jt) > 0`, `noMeta` from `GetMeta`'s error) -/
theorem code_creation_window_guard :
    codeCfg.manifestsAloneAreNoDB = true ∧ Gen.recoverNoMetaNeedsData = true ∧ codeCfg = {} := by decide

/-- the batch decoder of the model compares record lengths in ℕ, which is what `decodeBatch` does since the repair of
    D49 (`x > uint64(len(data)-o)`; before, `o+int(x)` wrapped for lengths of 2^63 and more and `Batch.Load`
    panicked or accepted a record of length -1), and a failed `Batch.decode` leaves an empty batch (D48; before, the
    records decoded so far stayed with the malformed buffer and a later `Write` put it into the journal).  Both facts
    are regenerated from the source; `Batch.Load` on mutated dumps incl. such lengths is compared with
    `Batch.decodeRecs` on every run (`dur bbody`). -/
theorem code_batch_decode_guards :
    Gen.batchLenCheckUnsigned = true ∧ Gen.batchDecodeClearsOnError = true ∧
    -- a record whose key length is 2^63 is rejected, whatever follows
    (∀ rest : Bytes, rest.length < 2 ^ 63 →
      Batch.decodeRec (1 :: ([0x80, 0x80, 0x80, 0x80, 0x80, 0x80, 0x80, 0x80, 0x80, 0x01] ++ rest)) = .error .badKeyLen) := by
  refine ⟨by decide, by decide, fun rest h => ?_⟩
  have hv : readUvarint ([0x80, 0x80, 0x80, 0x80, 0x80, 0x80, 0x80, 0x80, 0x80, 0x01] ++ rest) = some (2 ^ 63, 10) := by
    simp [readUvarint, readUvarintAux]
  simp only [Batch.decodeRec, hv]
  have hk : Gen.keyTypeVal = 1 := by decide
  have hl : rest.length < 9223372036854775808 := by simpa using h
  simp [hk, hl]

/-! ## the creation of the DB in front -/

/-- the start state of the theorems above is what `openDB` reaches after `session.create` -/
theorem init_is_created :
    run {} created ([.recStep] ++ List.replicate 8 (.job false .ok)) = some init := by decide +kernel

/-- **C04 from an empty storage** (`Dur.bigStep`, see the header): while the DB is being created the crash images open
    as "no DB" and nothing has been issued. -/
theorem crash_consistent_created {cfg : Cfg} (hg : cfg.Good) (hc : cfg.manifestsAloneAreNoDB = true)
    {xs : List BAct} {b : Big}
    (hal : bigAllowed cfg (fun _ a => a.noFault) CPc.noFault init0 xs = true) (hr : bigRun cfg init0 xs = some b)
    {d' : Disk} (hi : IsCrashImage b.disk d') {c : UCmp} (hl : LawfulUCmp c) (hw : ∀ g ∈ issuedGrps b.st, g.wf) :
    ∃ r, recoverR cfg d' = .ok r ∧ ∃ sel, Consistent c b.st r sel := by
  obtain ⟨ch, rfl⟩ := hi
  exact consistent_of_bigInv hg.noTrace hc (bigInv_noFault hg hal hr) ch hl hw

/-- a run through the creation with a crash after every one of its operations, then a write, a crash, the recovery -/
def createdWithCrashes : List BAct :=
  [.c .ok false, .ccrash {}, .c .ok false, .c .ok false, .ccrash { cutM := fun _ => 1 }, .c .ok false, .c .ok false,
   .c .ok false, .ccrash {}, .c .ok false, .c .ok false, .c .ok false, .c .ok false] ++
  (([Act.recStep] ++ List.replicate 8 (Act.job false .ok) ++
    [Act.wAppend putKV true .ok, Act.wSync .ok, Act.wApply, Act.wPublish, Act.wAck, Act.crash {}, Act.recOpen] :
    List Act).map BAct.a)

example : bigAllowed {} (fun _ a => a.noFault) CPc.noFault init0 createdWithCrashes = true := by decide +kernel
example : (bigRun {} init0 createdWithCrashes).map (fun b => (openError {} b.disk, b.st.phase)) =
    some (none, .recovering) := by decide +kernel
/-- every prefix: every crash image (nothing unsynced survives) opens -/
example : (List.range (createdWithCrashes.length + 1)).all (fun n =>
    ((bigRun {} init0 (createdWithCrashes.take n)).map fun b => openError {} (crashWith {} b.disk)) == some none) = true := by
  decide +kernel

/-! ## the byte level, end to end -/

/-- live tables, journals replayed, first sequence numbers of the recovered groups, `db.seq` -/
def summary : Except ErrClass RState → Option (List Nat × List Nat × List Nat × Nat)
  | .ok r => some (r.mv.live, r.replayed, r.grps.map (·.seq), r.seq)
  | .error _ => none

/-- **(a) Round trip.**  `Open` on the bytes the writers produced for a record-level disk is `Open` at record
    level (up to the ghost `sync` flag of the groups replayed from journals, which is not on the disk). -/
theorem recoverBytes_encodeDisk (cfg : Cfg) (hn : cfg.failedRecordLeavesNoTrace = true) (x : EncCtx) (hx : x.Valid)
    (d : Disk) (hd : d.Encodable) :
    recoverBytes cfg x.cmpName (encodeDisk x d) = (recoverR cfg d).map RState.onDisk := by
  rw [recoverBytes_eq (manifestCheck_whole x hx d hd) (decode_encodeDisk x hx d hd), recoverR_onDisk cfg hn]

example : recoverBytes {} exCtx.cmpName (encodeDisk exCtx exDisk) = (recoverR {} exDisk).map RState.onDisk :=
  recoverBytes_encodeDisk {} rfl exCtx exCtx_valid exDisk exDisk_encodable
/-- … which is: table 4 is live, journal 5 is replayed, all four groups are there -/
example : summary (recoverR {} exDisk) = some ([4], [5], [1, 2, 3, 5], 6) := by decide +kernel

/-- **(b) Simulation.**  Every byte-level crash image of the encoded disk — per file the synced bytes, any number of
    bytes of the unsynced tail, silent junk — decodes with the real readers to (the physical part of) a
    record-level crash image in the sense of `Model/Disk.lean`: the records wholly inside the surviving bytes
    survive, the record that was cut is lost, no manifest record is left torn. -/
theorem crash_image_decodes (x : EncCtx) (hx : x.Valid) (d : Disk) (hd : d.Encodable)
    (hm : d.manifests.Pairwise (fun p q => p.1 ≠ q.1)) (hj : d.journals.Pairwise (fun p q => p.1 ≠ q.1))
    {bd' : ByteDisk} (hi : IsByteCrashImage (encodeDisk x d) bd') :
    ∃ d', IsCrashImage d d' ∧ decodeDisk bd' = d'.onDisk ∧
      (bd'.current.bind (lookup bd'.manifests)).bind (fun f => manifestCheck x.cmpName f.all) = none := by
  obtain ⟨ch, ha, rfl⟩ := hi
  obtain ⟨ch', e⟩ := crash_image_decodes_aux x hx d hd hm hj ch ha
  exact ⟨crashWith ch' d, ⟨ch', rfl⟩, e, manifestCheck_image x hx d hd ch ha⟩

/-- one journal file with the number of surviving records explicit: `keptRecs` counts the unsynced records that
    lie wholly within the first `k` unsynced bytes -/
theorem journal_image_decodes (f : LogFile Grp) (hf : ∀ g ∈ f.all, g.Encodable) (k : Nat) (junk : Bytes)
    (hs : Silent ((encJournal f).kept k) junk) :
    decJournal (crashFile k junk (encJournal f)).all =
      (f.synced ++ f.unsynced.take (keptRecs (f.synced.map encGrpBytes) (f.unsynced.map encGrpBytes) k)).map
        Grp.onDisk := by
  rw [decJournal_image f hf k junk hs]; simp [crashLog, LogFile.all]

/-- … and one manifest file (without crash artefacts from earlier crashes) -/
theorem manifest_image_decodes (x : EncCtx) (hx : x.Valid) (f : LogFile MRec)
    (hf : ∀ r ∈ f.all, r.torn = false ∧ r.Encodable) (k : Nat) (junk : Bytes)
    (hs : Silent ((encManifest x f).kept k) junk) :
    decManifest (crashFile k junk (encManifest x f)).all =
      f.synced ++ f.unsynced.take (keptRecs (f.synced.map (encMRecBytes x)) (f.unsynced.map (encMRecBytes x)) k) := by
  have e1 : (f.synced.filter fun r => !r.torn) = f.synced :=
    List.filter_eq_self.2 fun r hr => by simp [(hf r (List.mem_append_left _ hr)).1]
  have e2 : (f.unsynced.filter fun r => !r.torn) = f.unsynced :=
    List.filter_eq_self.2 fun r hr => by simp [(hf r (List.mem_append_right _ hr)).1]
  rw [encManifest, e1, e2] at hs ⊢
  rw [decManifest_payloads x hx _ (fun r hr => hf r (mem_crashLog_all hr)) _
    (crash_file_records (encMRecBytes x) f k junk hs)]
  simp [crashLog, LogFile.all]

/-! ### the side condition on junk -/

/-- no junk: every cut, at every byte offset, is covered -/
theorem silent_nil (base : Bytes) : Silent base [] := by simp [Silent]

/-- zeros (a preallocated extent) behind a cut at a record boundary — in particular behind a tail that was kept
    or lost entirely -/
theorem silent_zeros (S U : List Bytes) (j z : Nat) :
    Silent ((encLog S U).kept (Journal.encodeFrom (Journal.endPos 0 S) (U.take j)).length) (List.replicate z 0) := by
  rw [kept_at_boundary, Silent, (C12.decode_zero_tail true _ z).1, (C12.decode_encode false true _).1]

/-- junk that ends in the block of the chunk that was cut: `X` an intact prefix up to a chunk boundary
    (`Journal.Boundary`), `T0` what survives of the chunk starting there, `J` the junk; both `T0` and `T0 ++ J` are
    too short for a header or fail the reader's header/CRC test (`Dead`, i.e. `¬ Journal.Accepts` — the hypothesis
    of `C12.decode_damage_partial`; `C12.altered_payload_rejected` discharges it for single-byte changes). -/
theorem silent_rejected {rs done : List Bytes} {X : Bytes} {pos : Nat} {cur y : Option Bytes} {rest : List Bytes}
    (hB : Journal.Boundary rs done X pos cur y rest) (T0 J : Bytes) (h0 : Dead pos y T0) (h1 : Dead pos y (T0 ++ J)) :
    Silent (X ++ T0) J := by
  have hpos := hB.shape.1
  unfold Silent Journal.decode
  rw [List.append_assoc, hB.reader false true (T0 ++ J), hB.reader false true T0, Journal.records_mk,
    Journal.records_mk, decodeLoop_dead pos cur y _ hpos h0, decodeLoop_dead pos cur y _ hpos h1]

example : Silent (Journal.encode [[1, 2, 3]] ++ [9, 9, 9]) [] := silent_nil _
-- the unsynced record `[4]` takes 8 bytes (header and payload): a cut at the boundary behind it
example : Silent ((encLog [[1, 2, 3]] [[4], [5, 6]]).kept 8) (List.replicate 50 0) :=
  silent_zeros [[1, 2, 3]] [[4], [5, 6]] 1 50
set_option maxRecDepth 8000 in
/-- after the record `[1,2,3]`, three bytes of the next chunk header survive, followed by garbage `0xFF…`: the
    chunk type `0xFF` is invalid, the junk is silent -/
example : Silent (Journal.encode [[1, 2, 3]] ++ ((Journal.chunk 1 [4]).take 3)) (List.replicate 9 0xFF) := by
  have hB : Journal.Boundary [[1, 2, 3], [4]] [[1, 2, 3]] _ _ none none [[4]] :=
    Journal.Boundary.record [[1, 2, 3]] [4] [] rfl
  have hp : (Journal.pad (Journal.endPos 0 [[1, 2, 3]])).1 = [] := by decide
  have := silent_rejected hB ((Journal.chunk 1 [4]).take 3) (List.replicate 9 0xFF) (by decide +kernel)
    ⟨by decide +kernel, Or.inr fun h => h.2.1 (Or.inr (by decide +kernel))⟩
  rw [hp, List.append_nil] at this
  exact this

/-! ### C04 for byte-level crash images -/

/-- what the DB reopened from bytes must be, relative to the history: as `Consistent`, with group identity up to
    the `sync` flag (which is not on the disk) -/
structure ConsistentBytes (c : UCmp) (s : St) (rb : RState) (sel : List Grp) : Prop where
  sub : sel.Sublist (issuedGrps s)
  acked : ∀ g ∈ ackedSync s, g ∈ sel
  whole : ∀ g, g ∈ sel.map Grp.onDisk ↔ g ∈ rb.grps.map Grp.onDisk
  visible : ∀ e ∈ rb.entries, e.seq ≤ rb.seq
  reads : ∀ k, rb.get c k = view c (sel.flatMap Grp.ents) k rb.seq

theorem consistentBytes_of {c : UCmp} {s : St} {r : RState} {sel : List Grp} (h : Consistent c s r sel) :
    ConsistentBytes c s r.onDisk sel := by
  refine ⟨h.sub, h.acked, ?_, ?_, ?_⟩
  · intro g
    have e : r.onDisk.grps.map Grp.onDisk = r.grps.map Grp.onDisk := by
      simp [RState.grps, RState.onDisk, Grp.onDisk]
    rw [e]
    simp only [List.mem_map]
    exact ⟨fun ⟨a, ha, e⟩ => ⟨a, (h.whole a).1 ha, e⟩, fun ⟨a, ha, e⟩ => ⟨a, (h.whole a).2 ha, e⟩⟩
  · rw [RState.onDisk_entries]; exact h.visible
  · intro k; rw [RState.onDisk_get]; exact h.reads k

/-- **(c) C04, bytes.**  For every state of the machine reachable without storage faults, every BYTE-level crash
    image of its encoded disk (any cut per file, silent junk) opens — `recoverBytes`, i.e. the real readers followed
    by the record-level recovery, succeeds — and the reopened DB is `r.onDisk` for an `r` that satisfies `Consistent`. -/
theorem crash_consistent_bytes {cfg : Cfg} (hg : cfg.Good) {s : St} {d : Disk} (hr : ReachableFF cfg (s, d))
    (x : EncCtx) (hx : x.Valid) (hd : d.Encodable) {bd' : ByteDisk} (hi : IsByteCrashImage (encodeDisk x d) bd')
    {c : UCmp} (hl : LawfulUCmp c) (hw : ∀ g ∈ issuedGrps s, g.wf) :
    ∃ r sel, recoverBytes cfg x.cmpName bd' = .ok r.onDisk ∧ Consistent c s r sel := by
  have hinv := inv_reachable hg hr
  obtain ⟨ch, e⟩ := recoverBytes_image hg.noTrace x hx hd hinv.disk.mnodup (sorted_nodup hinv.disk.jsorted) hi
  obtain ⟨r, hrec, ⟨sel, hsel⟩, _⟩ := crash_consistent_core hg hr ⟨ch, rfl⟩ hl hw
  exact ⟨r, sel, by rw [e, hrec]; rfl, hsel⟩

/-- … stated on the recovered byte-level state alone -/
theorem crash_consistent_bytes_reads {cfg : Cfg} (hg : cfg.Good) {s : St} {d : Disk} (hr : ReachableFF cfg (s, d))
    (x : EncCtx) (hx : x.Valid) (hd : d.Encodable) {bd' : ByteDisk} (hi : IsByteCrashImage (encodeDisk x d) bd')
    {c : UCmp} (hl : LawfulUCmp c) (hw : ∀ g ∈ issuedGrps s, g.wf) :
    ∃ rb sel, recoverBytes cfg x.cmpName bd' = .ok rb ∧ ConsistentBytes c s rb sel := by
  obtain ⟨r, sel, h1, h2⟩ := crash_consistent_bytes hg hr x hx hd hi hl hw
  exact ⟨r.onDisk, sel, h1, consistentBytes_of h2⟩

/-- **C04, bytes, from an empty storage**: `crash_consistent_bytes` for the machine with the creation of the DB in
    front — every byte-level crash image taken inside `session.create` opens as "no DB". -/
theorem crash_consistent_bytes_created {cfg : Cfg} (hg : cfg.Good) (hc : cfg.manifestsAloneAreNoDB = true)
    {xs : List BAct} {b : Big}
    (hal : bigAllowed cfg (fun _ a => a.noFault) CPc.noFault init0 xs = true) (hr : bigRun cfg init0 xs = some b)
    (x : EncCtx) (hx : x.Valid) (hd : b.disk.Encodable) {bd' : ByteDisk}
    (hi : IsByteCrashImage (encodeDisk x b.disk) bd')
    {c : UCmp} (hl : LawfulUCmp c) (hw : ∀ g ∈ issuedGrps b.st, g.wf) :
    ∃ r sel, recoverBytes cfg x.cmpName bd' = .ok r.onDisk ∧ Consistent c b.st r sel := by
  have hinv := bigInv_noFault hg hal hr
  obtain ⟨ch, e⟩ := recoverBytes_image hg.noTrace x hx hd hinv.nodup.1 hinv.nodup.2 hi
  obtain ⟨r, hrec, sel, hsel⟩ := consistent_of_bigInv hg.noTrace hc hinv ch hl hw
  exact ⟨r, sel, by rw [e, hrec]; rfl, hsel⟩

/-! ### explicit byte-level crash images -/

/-- `exDisk` (manifest 1 with an unsynced edit, the frozen journal 3, the current journal 5 with one synced and two
    unsynced groups, table 4).  Crash: the manifest is cut after 10 of the 19 unsynced bytes — in the **payload** of
    the edit; journal 5 is cut after 30 of its 51 unsynced bytes — in the **header** of its last record. -/
def exCrash : ByteCrashChoice := { cutM := fun _ => 10, cutJ := fun _ => 30 }

theorem admissible_no_junk (cutM cutJ : Nat → Nat) (bd : ByteDisk) :
    ({ cutM := cutM, cutJ := cutJ } : ByteCrashChoice).Admissible bd :=
  ⟨fun _ _ => silent_nil _, fun _ _ => silent_nil _⟩

theorem exCrash_admissible : exCrash.Admissible (encodeDisk exCtx exDisk) := admissible_no_junk _ _ _

/-- what the real readers make of that image: the edit is gone (no trace of it), journal 5 keeps its synced group
    and the first unsynced one -/
theorem exCrash_decodes : decodeDisk (crashWithB exCrash (encodeDisk exCtx exDisk)) =
    { current := some 1
      manifests := [(1, ⟨[mSnap, mFirst], []⟩)]
      journals := [(3, ⟨[gA.onDisk], []⟩), (5, ⟨[gB.onDisk, gC.onDisk], []⟩)]
      tables := [(4, ⟨[gA], true, false⟩)] } := by
  have hM := manifest_image_decodes exCtx exCtx_valid ⟨[mSnap, mFirst], [mFlush]⟩ (by decide) 10 [] (silent_nil _)
  have h3 := journal_image_decodes ⟨[gA], []⟩ (by decide) 30 [] (silent_nil _)
  have h5 := journal_image_decodes ⟨[gB], [gC, gD]⟩ (by decide) 30 [] (silent_nil _)
  simp only [kept_m1_10, kept_j3, kept_j5_30, List.take_zero, List.take_succ_cons, List.take_nil, List.append_nil,
    List.cons_append, List.nil_append, List.map_cons, List.map_nil] at hM h3 h5
  simp only [decodeDisk, crashWithB, encodeDisk, exDisk, exCrash, List.map_cons, List.map_nil, crashTable, if_true,
    hM, h3, h5]

/-- … and `Open` on it: the flush is undone (journal 3 is replayed again), the group whose record header was cut
    is gone as a whole, the three others — both synced ones among them — are there -/
example : summary (recoverBytes {} exCtx.cmpName (crashWithB exCrash (encodeDisk exCtx exDisk))) =
    some ([], [3, 5], [1, 2, 3], 5) := by
  rw [recoverBytes_eq (manifestCheck_image exCtx exCtx_valid exDisk exDisk_encodable exCrash exCrash_admissible)
    exCrash_decodes]
  decide +kernel

/-- `bigDisk`: journal 2 holds a 40 KiB put (its record fills block 0 and continues in block 1) and a small one,
    nothing synced.  Cut **between the blocks** (32768 bytes survive: a whole first chunk, then end of file) or
    inside the header of the second chunk (32771): the reader drops the partial record ("missing chunk part"),
    the journal reads as empty. -/
example (k : Nat) (hk : k = 32768 ∨ k = 32771) :
    decJournal (crashFile k [] (encJournal ⟨[], [gBig, gD]⟩)).all = [] := by
  have h := journal_image_decodes ⟨[], [gBig, gD]⟩ (bigDisk_encodable.2 (2, ⟨[], [gBig, gD]⟩) (by simp [bigDisk])) k []
    (silent_nil _)
  have hk' := kept_big k (by omega)
  simp only [List.map_cons, List.map_nil] at h
  rw [h, hk']
  rfl

/-- … and the whole disk still opens as a record-level crash image -/
example : ∃ d', IsCrashImage bigDisk d' ∧
    decodeDisk (crashWithB { cutJ := fun _ => 32768 } (encodeDisk exCtx bigDisk)) = d'.onDisk := by
  obtain ⟨d', h1, h2, _⟩ := crash_image_decodes exCtx exCtx_valid bigDisk bigDisk_encodable
    (List.pairwise_singleton _ _) (List.pairwise_singleton _ _) ⟨{ cutJ := fun _ => 32768 }, admissible_no_junk _ _ _, rfl⟩
  exact ⟨d', h1, h2⟩

/-- the run `flushUpToAppend` (a synced write, rotation, flush up to the unsynced edit) reaches a state whose disk
    is within the limits of the wire formats -/
theorem flushRun_ok : (run {} init flushUpToAppend).all
    (fun sd => decide (sd.2.Encodable ∧ ∀ g ∈ issuedGrps sd.1, g.wf)) = true ∧
    (run {} init flushUpToAppend).isSome = true := by decide +kernel

theorem flushRun_state {sd : St × Disk} (h : run {} init flushUpToAppend = some sd) :
    sd.2.Encodable ∧ ∀ g ∈ issuedGrps sd.1, g.wf := by
  have hall := flushRun_ok.1
  rw [h] at hall
  simpa only [Option.all_some, decide_eq_true_eq] using hall

/-- `crash_consistent_bytes` on that state, the crash cutting every file after 5 of its unsynced bytes (the manifest
    in the header of the unsynced edit): the DB opens from the bytes and contains the acknowledged write -/
example (sd : St × Disk) (h : run {} init flushUpToAppend = some sd) :
    ∃ r sel, recoverBytes {} exCtx.cmpName
        (crashWithB { cutM := fun _ => 5, cutJ := fun _ => 5 } (encodeDisk exCtx sd.2)) = .ok r.onDisk ∧
      Consistent bytewise sd.1 r sel ∧ ⟨1, putKV, true⟩ ∈ sel := by
  have hall := flushRun_state h
  obtain ⟨r, sel, h1, h2⟩ := crash_consistent_bytes good_default ⟨flushUpToAppend, by decide, h⟩ exCtx
    exCtx_valid hall.1 ⟨{ cutM := fun _ => 5, cutJ := fun _ => 5 }, admissible_no_junk _ _ _, rfl⟩
    bytewise_lawful hall.2
  refine ⟨r, sel, h1, h2, h2.acked _ ?_⟩
  have : (run {} init flushUpToAppend).all (fun sd => decide ((⟨1, putKV, true⟩ : Grp) ∈ ackedSync sd.1)) = true := by
    decide +kernel
  rw [h] at this
  simpa using this

example (sd : St × Disk) (h : run {} init flushUpToAppend = some sd) (ch : ByteCrashChoice)
    (ha : ch.Admissible (encodeDisk exCtx sd.2)) :
    ∃ rb sel, recoverBytes {} exCtx.cmpName (crashWithB ch (encodeDisk exCtx sd.2)) = .ok rb ∧
      ConsistentBytes bytewise sd.1 rb sel := by
  have hall := flushRun_state h
  exact crash_consistent_bytes_reads good_default ⟨flushUpToAppend, by decide, h⟩ exCtx exCtx_valid hall.1
    ⟨ch, ha, rfl⟩ bytewise_lawful hall.2

/-- The property theorems of this file (for the audit). -/
def theorems : List String :=
  ["GoLevel.C04.image_reads_prefix", "GoLevel.C04.manifest_image_reads_prefix",
   "GoLevel.C04.torn_manifest_record_no_trace", "GoLevel.C04.group_all_or_nothing",
   "GoLevel.C04.crash_consistent_core", "GoLevel.C04.crash_consistent", "GoLevel.C04.reopen_after_exit",
   "GoLevel.C04.early_journal_removal_loses_write", "GoLevel.C04.rotation_without_nums_hides_data",
   "GoLevel.C04.setmeta_before_sync_fails_to_reopen", "GoLevel.C04.d22_torn_manifest_record_loses_write",
   "GoLevel.C04.d12_creation_window", "GoLevel.C04.code_creation_window_guard", "GoLevel.C04.code_batch_decode_guards", "GoLevel.C04.init_is_created",
   "GoLevel.C04.crash_consistent_created", "GoLevel.C04.crash_consistent_bytes_created",
   "GoLevel.C04.recoverBytes_encodeDisk", "GoLevel.C04.crash_image_decodes", "GoLevel.C04.journal_image_decodes",
   "GoLevel.C04.manifest_image_decodes", "GoLevel.C04.silent_nil", "GoLevel.C04.silent_zeros",
   "GoLevel.C04.silent_rejected", "GoLevel.C04.crash_consistent_bytes", "GoLevel.C04.crash_consistent_bytes_reads"]

end GoLevel.C04

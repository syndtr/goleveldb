import GoLevel.Proofs.IterRange
import GoLevel.Proofs.IterLSM
import GoLevel.Proofs.MergeHeapSim
import GoLevel.Props.C01
import GoLevel.Props.C02Err
/-!
# Property C02 — iterators present exactly the live pairs of their view, as a cursor over the sorted list

"An iterator created on a DB, snapshot or transaction, optionally restricted to a key range, presents exactly
the live key/value pairs of that view whose keys lie in [Start, Limit), each once, in strictly increasing
comparer order.  Any sequence of First, Last, Seek, Next and Prev calls - including direction reversals,
stepping off either end and coming back - positions it exactly as the same calls would position a cursor
over that sorted list; Seek(k) lands on the first key >= k, and Key/Value return the pair under the cursor.
Deleted and overwritten entries never surface, whatever the physical layout."

Models (`GoLevel/Model/Iter.lean`): `DBIter` (`db_iter.go`), `MergedIter` (`iterator/merged_iter.go`),
`IndexedIter` (`iterator/indexed_iter.go`), `ArrIter` (observable behaviour of `iterator/array_iter.go`,
memdb's and the table reader's iterators); `GoLevel/Model/MergeHeap.lean`: `GoHeap` (Go's `container/heap`) and
`HeapMerged` (`mergedIterator` with the real heap; section g shows it refines `MergedIter`).  Specification: `GoLevel/Spec/Cursor.lean` (`Cursor.run`), the
live pairs `visible c es seq` (per user key the newest entry with `seq ≤ seq`, if it is a value), related to
`view` by `visible_iff_view`.

The range-restricted full stack (`stack_range_refines_cursor`) covers the real layout: array-like sources and
sorted levels whose indexed iterator is built by `levelIter` (`tFiles.newIndexIterator`, proved equal to
per-table range filtering in `level_iter_is_range_filter`).  `db_iterator_presents_view` ties the stack to the
LSM model of C01: over `dbGet`'s sources the iterator is the cursor over the sorted list of `(k, v)` with
`view … k seq = some v`, i.e. of what `Get` returns.

The error paths (children that fail, strict / non-strict mode, `Error()`; defect D40) are in
`GoLevel/Props/C02Err.lean` (section h below lists its theorems).

Every theorem quantifies over **every finite sequence of the five calls** (`cs : List (Call _)`), every lawful
comparer, every sorted raw content, every snapshot sequence number.  `fuel` is the bound of the scanning
loops of `DBIter`; any value above the number of raw entries works (the driver uses `length + 1`).
-/
namespace GoLevel.C02

/-! ## example data for the non-vacuity checks

user key `[1]`: value@9, deletion@5, value@2;  `[2]`: deletion@8, value@3;  `[3]`: value@4;
`[4]`: value@7, deletion@6;  `[5]`: value@1.  At `seq = 7` a reader sees `[2]↦[23] [3]↦[34] [4]↦[47] [5]↦[51]`
(`[1]` is deleted at 5, its newer value@9 is not yet visible; the deletion of `[2]`@8 is not yet visible). -/

def exEs : List Entry :=
  [⟨mkIKey [1] 9 1, [19]⟩, ⟨mkIKey [1] 5 0, []⟩, ⟨mkIKey [1] 2 1, [12]⟩,
   ⟨mkIKey [2] 8 0, []⟩, ⟨mkIKey [2] 3 1, [23]⟩,
   ⟨mkIKey [3] 4 1, [34]⟩,
   ⟨mkIKey [4] 7 1, [47]⟩, ⟨mkIKey [4] 6 0, []⟩,
   ⟨mkIKey [5] 1 1, [51]⟩]

theorem exEs_sorted : SortedEntries bytewise exEs := by decide +kernel
theorem exEs_kinds : ∀ e ∈ exEs, e.kind ≤ Gen.keyTypeVal := by decide +kernel
theorem exEs_seqs : ∀ e ∈ exEs, e.seq ≤ Gen.keyMaxSeq := by decide +kernel

example : visible bytewise exEs 7 = [([2], [23]), ([3], [34]), ([4], [47]), ([5], [51])] := by decide +kernel

/-- the calls used in the examples: forwards, a reversal, off the front and back, a seek to a deleted key,
a reversal right after the seek, off the end and back -/
def exCalls : List (Call Bytes) :=
  [.next, .next, .prev, .prev, .prev, .next, .seek [1], .prev, .next, .seek [4, 0], .prev, .last, .next, .next,
   .prev, .first]

/-! ## a. the DB iterator over a sorted raw array -/

/-- **C02, core.**  For every lawful comparer, every strictly `ecmp`-sorted list of raw entries with kinds
deletion/value, every snapshot sequence number and EVERY finite sequence of `First/Last/Seek/Next/Prev`
calls, what `DBIter` (over an array iterator on the raw entries) shows after each call — valid or not, key,
value — is what the specification cursor over the visible pairs shows. -/
theorem dbiter_refines_cursor {c : UCmp} (hl : LawfulUCmp c) (es : List Entry) (hs : SortedEntries c es)
    (hk : ∀ e ∈ es, e.kind ≤ Gen.keyTypeVal) (seq fuel : Nat) (hfuel : es.length < fuel)
    (cs : List (Call Bytes)) :
    DBIter.run (ArrIter.ops c) c (DBIter.new (ArrIter.new c es none none) seq fuel) cs
      = Cursor.run (visible c es seq) (geUser c) .soi cs := by
  have hR := ArrIter.rel_new c es none none
  rw [show sliceOf c es none none = es by simp [sliceOf]] at hR
  exact run_new (ArrIter.sim c es) hl hs hk hR seq fuel hfuel cs

example : DBIter.run (ArrIter.ops bytewise) bytewise (DBIter.new (ArrIter.new bytewise exEs none none) 7 10) exCalls
    = [some ([2], [23]), some ([3], [34]), some ([2], [23]), none, none, some ([2], [23]),
       some ([2], [23]), none, some ([2], [23]), some ([5], [51]), some ([4], [47]), some ([5], [51]), none, none,
       some ([5], [51]), some ([2], [23])] := by
  rw [dbiter_refines_cursor bytewise_lawful exEs exEs_sorted exEs_kinds 7 10 (by decide)]
  decide +kernel

/-- the model itself computes the same answers (the theorem is not about a degenerate model) -/
example : DBIter.run (ArrIter.ops bytewise) bytewise (DBIter.new (ArrIter.new bytewise exEs none none) 7 10)
    [.last, .prev, .prev, .prev, .prev, .next]
    = [some ([5], [51]), some ([4], [47]), some ([3], [34]), some ([2], [23]), none, some ([2], [23])] := by
  decide +kernel

/-- the presented pairs are strictly increasing in comparer order (so every user key appears at most once) -/
theorem visible_sorted {c : UCmp} (hl : LawfulUCmp c) (es : List Entry) (hs : SortedEntries c es) (seq : Nat) :
    (visible c es seq).Pairwise (fun a b => c.cmp a.1 b.1 = .lt) :=
  GoLevel.visible_sorted hl hs seq

example : (visible bytewise exEs 7).Pairwise (fun a b => bytesCompare a.1 b.1 = .lt) :=
  visible_sorted bytewise_lawful exEs exEs_sorted 7

/-- the presented pairs are exactly the view: `k ↦ v` is listed iff a reader at `seq` sees `v` for `k`
(`view` = newest entry of `k` with `seq ≤ seq`, if it is a value) -/
theorem visible_iff_view {c : UCmp} (hl : LawfulUCmp c) (es : List Entry) (hs : SortedEntries c es) (seq : Nat)
    (k v : Bytes) : (k, v) ∈ visible c es seq ↔ view c es k seq = some v :=
  mem_visible_iff_view hl hs seq k v

example : view bytewise exEs [2] 7 = some [23] ∧ view bytewise exEs [1] 7 = none
    ∧ view bytewise exEs [1] 4 = some [12] ∧ view bytewise exEs [2] 8 = none := by decide +kernel

/-! ## b. with a key range -/

/-- **C02 with `util.Range`.**  `DB.newIterator` restricts every raw child iterator to the internal range
`[makeInternalKey(Start, keyMaxSeq, keyTypeSeek), makeInternalKey(Limit, keyMaxSeq, keyTypeSeek))`; over
such a raw iterator `DBIter` is the cursor over the visible pairs with `Start ≤ key < Limit`. -/
theorem dbiter_range_refines_cursor {c : UCmp} (hl : LawfulUCmp c) (es : List Entry) (hs : SortedEntries c es)
    (hk : ∀ e ∈ es, e.kind ≤ Gen.keyTypeVal) (hq : ∀ e ∈ es, e.seq ≤ Gen.keyMaxSeq)
    (seq : Nat) (start limit : Option Bytes) (fuel : Nat) (hfuel : es.length < fuel) (cs : List (Call Bytes)) :
    DBIter.run (ArrIter.ops c) c
        (DBIter.new (ArrIter.new c es (start.map (probe · Gen.keyMaxSeq)) (limit.map (probe · Gen.keyMaxSeq)))
          seq fuel) cs
      = Cursor.run ((visible c es seq).filter (fun p => inRange c start limit p.1)) (geUser c) .soi cs :=
  run_new_range hl start limit (ArrIter.sim c _) hs hk hq (ArrIter.rel_new c es _ _) seq fuel hfuel cs

example : DBIter.run (ArrIter.ops bytewise) bytewise
      (DBIter.new (ArrIter.new bytewise exEs ((some [2, 0]).map (probe · Gen.keyMaxSeq))
        ((some [5]).map (probe · Gen.keyMaxSeq))) 7 10)
      [.first, .prev, .next, .next, .next, .prev, .seek [1], .seek [5], .last]
    = [some ([3], [34]), none, some ([3], [34]), some ([4], [47]), none, some ([4], [47]), some ([3], [34]), none,
       some ([4], [47])] := by
  rw [dbiter_range_refines_cursor bytewise_lawful exEs exEs_sorted exEs_kinds exEs_seqs 7 (some [2, 0]) (some [5])
    10 (by decide)]
  decide +kernel

/-! ## c. the merged iterator -/

/-- **Merged iterator.**  Children sorted with pairwise distinct keys, `U` their sorted union: for every call
sequence `MergedIter` (heap, `keys`, `dir`, the re-seek of all other children on a direction change) answers
like the cursor over `U`.  (`MergedIter.sim` is the general form: children of any type that simulate a
cursor, e.g. indexed iterators.) -/
theorem merged_refines_cursor {c : UCmp} (hl : LawfulUCmp c) (Ls : List (List Entry)) (U : List Entry)
    (hok : MergeOK c Ls U) (cs : List (Call IKey)) :
    (MergedIter.ops (ArrIter.ops c) c).run (MergedIter.new (Ls.map fun L => (⟨L, .soi⟩ : ArrIter))) cs
      = Cursor.run U (geKey c) .soi cs := by
  exact (MergedIter.sim hl (ArrIter.ops c) _ Ls U hok (MergedIter.arr_sim c Ls)).run cs _ _
    (MergedIter.arr_rel_new c Ls U)

example (cs : List (Call IKey)) :
    (MergedIter.ops (ArrIter.ops bytewise) bytewise).run
      (MergedIter.new (MergedExample.Ls.map fun L => (⟨L, .soi⟩ : ArrIter))) cs
      = Cursor.run MergedExample.U (geKey bytewise) .soi cs :=
  merged_refines_cursor bytewise_lawful _ _ MergedExample.mergeOK cs

example : ((MergedIter.ops (ArrIter.ops bytewise) bytewise).run
      (MergedIter.new (MergedExample.Ls.map fun L => (⟨L, .soi⟩ : ArrIter)))
      [.first, .next, .next, .prev, .next, .next, .next, .next, .prev, .seek ⟨[2], 4⟩, .prev]).map
        (·.map (·.val))
    = [some [10], some [20], some [30], some [20], some [30], some [40], some [], none, some [], some [30],
       some [20]] := by decide +kernel

/-! ## d. the indexed iterator -/

/-- **Indexed iterator.**  Children (possibly empty) whose concatenation is sorted, with index keys
`last(child i) ≤ sep i ≤ first(child j)` for `i < j`: `IndexedIter` (`setData`, skipping empty data iterators
in both directions, `Seek` through the index) answers like the cursor over the concatenation. -/
theorem indexed_refines_cursor {c : UCmp} (hl : LawfulUCmp c) (chs : List IdxChild) (hok : IdxOK c chs)
    (cs : List (Call IKey)) :
    (IndexedIter.ops c).run (IndexedIter.new chs) cs = Cursor.run (chs.flatMap (·.es)) (geKey c) .soi cs :=
  (IndexedIter.sim hl chs hok).run cs _ _ (IndexedIter.rel_new c chs)

example (cs : List (Call IKey)) :
    (IndexedIter.ops bytewise).run (IndexedIter.new IndexedIter.demo) cs
      = Cursor.run (IndexedIter.demo.flatMap (·.es)) (geKey bytewise) .soi cs :=
  indexed_refines_cursor bytewise_lawful _ IndexedIter.demo_ok cs

/-! ## e. the whole stack, and the corollaries of the property statement -/

/-- **Whatever the physical layout.**  The raw iterator of a DB is a merged iterator over memdb / level-0
table iterators (`NodeSpec.arr`) and one indexed iterator per sorted level (`NodeSpec.idx`); if the children
hold pairwise distinct internal keys with sorted union `U`, then `DBIter` over that stack answers every call
sequence like the cursor over `visible c U seq` — the layout does not show. -/
theorem stack_refines_cursor {c : UCmp} (hl : LawfulUCmp c) (specs : List NodeSpec)
    (hok : ∀ sp ∈ specs, sp.OK c) (U : List Entry) (hU : MergeOK c (specs.map (·.list)) U)
    (hk : ∀ e ∈ U, e.kind ≤ Gen.keyTypeVal) (seq fuel : Nat) (hfuel : U.length < fuel)
    (cs : List (Call Bytes)) :
    DBIter.run (MergedIter.ops (Node.ops c) c) c
        (DBIter.new (MergedIter.new (specs.map (·.fresh))) seq fuel) cs
      = Cursor.run (visible c U seq) (geUser c) .soi cs := by
  exact run_new (stack_sim hl specs hok U hU) hl hU.sortedU hk (stack_rel_new c specs U) seq fuel hfuel cs

/-- **`tFiles.newIndexIterator` is per-table range filtering.**  For a well-formed sorted level (non-empty
tables whose concatenation is strictly sorted: tables ordered and disjoint, `imin`/`imax` the first/last key)
and ANY internal range — including an inverted one, where the limit is clamped to the start — the children
of the level's indexed iterator (`tf[searchMax(Start) : searchMin(Limit)]`, only the first and last table
sliced) hold exactly the level's entries inside `[start, limit)`, and they satisfy the index contract. -/
theorem level_iter_is_range_filter {c : UCmp} (hl : LawfulUCmp c) (tables : List (List Entry))
    (hok : LevelOK c tables) (start limit : Option IKey) :
    (levelIter c tables start limit).children.flatMap (·.es) = sliceOf c tables.flatten start limit
    ∧ IdxOK c (levelIter c tables start limit).children :=
  ⟨levelIter_flat hl hok start limit, levelIter_idxOK hl hok start limit⟩

/-- three tables of a sorted level -/
def exLevel : List (List Entry) :=
  [[⟨mkIKey [1] 2 1, [12]⟩], [⟨mkIKey [2] 3 1, [23]⟩, ⟨mkIKey [3] 4 1, [34]⟩], [⟨mkIKey [5] 1 1, [51]⟩]]

theorem exLevel_ok : LevelOK bytewise exLevel := ⟨by decide, by decide⟩

example : ((levelIter bytewise exLevel (some (probe [3] Gen.keyMaxSeq)) none).children.map (·.es.length)) = [1, 1]
    ∧ ((levelIter bytewise exLevel (some (probe [5] Gen.keyMaxSeq)) (some (probe [2] Gen.keyMaxSeq))).children = [])
    := by decide +kernel

/-- **The full stack with a key range, for the real layout.**  Sources before restriction: array-like ones
(aux memdb, write buffer, frozen buffer, level-0 / aux tables: `Source.arr`) and sorted levels
(`Source.level`, one indexed iterator each, built by `levelIter`).  `DB.newIterator` hands every child the
internal range `[probe(Start, keyMaxSeq), probe(Limit, keyMaxSeq))`; over that raw iterator `DBIter` is the
cursor over the visible pairs of the sorted union with `Start ≤ key < Limit`. -/
theorem stack_range_refines_cursor {c : UCmp} (hl : LawfulUCmp c) (srcs : List Source)
    (hok : ∀ s ∈ srcs, s.OK c) (U : List Entry) (hU : MergeOK c (srcs.map (·.list)) U)
    (hk : ∀ e ∈ U, e.kind ≤ Gen.keyTypeVal) (hq : ∀ e ∈ U, e.seq ≤ Gen.keyMaxSeq)
    (seq : Nat) (start limit : Option Bytes) (fuel : Nat) (hfuel : U.length < fuel) (cs : List (Call Bytes)) :
    DBIter.run (MergedIter.ops (Node.ops c) c) c
        (DBIter.new (MergedIter.new (srcs.map
          (·.node c (start.map (probe · Gen.keyMaxSeq)) (limit.map (probe · Gen.keyMaxSeq))))) seq fuel) cs
      = Cursor.run ((visible c U seq).filter (fun p => inRange c start limit p.1)) (geUser c) .soi cs := by
  let st := start.map (probe · Gen.keyMaxSeq)
  let lm := limit.map (probe · Gen.keyMaxSeq)
  let specs : List NodeSpec := srcs.map (·.spec c st lm)
  have hfresh : specs.map (·.fresh) = srcs.map (·.node c st lm) := by
    simp only [specs, List.map_map]
    apply List.map_congr_left
    intro s _; exact Source.spec_fresh c st lm s
  have hlist : specs.map (·.list) = (srcs.map (·.list)).map (·.filter (slicePred c st lm)) := by
    simp only [specs, List.map_map]
    apply List.map_congr_left
    intro s hs; exact Source.spec_list hl st lm s (hok s hs)
  have hU' : MergeOK c (specs.map (·.list)) (sliceOf c U st lm) := by
    rw [hlist]; exact MergeOK.filter hU _
  have hok' : ∀ sp ∈ specs, sp.OK c := by
    intro sp hsp
    obtain ⟨s, hs, rfl⟩ := List.mem_map.1 hsp
    exact Source.spec_ok hl st lm s (hok s hs)
  rw [← hfresh]
  exact run_new_range hl start limit (stack_sim hl specs hok' _ hU') hU.sortedU hk hq (stack_rel_new c specs _)
    seq fuel hfuel cs

/-- a three-level layout of `exEs`: a memdb, a level-0 table, and a sorted level of four children one of which
is empty -/
def exSpecs : List NodeSpec :=
  [.arr [⟨mkIKey [1] 9 1, [19]⟩, ⟨mkIKey [2] 8 0, []⟩, ⟨mkIKey [4] 7 1, [47]⟩],
   .arr [⟨mkIKey [1] 5 0, []⟩, ⟨mkIKey [4] 6 0, []⟩],
   .idx [⟨mkIKey [1] 2 1, [⟨mkIKey [1] 2 1, [12]⟩]⟩, ⟨mkIKey [2] 3 1, []⟩,
         ⟨mkIKey [3] 4 1, [⟨mkIKey [2] 3 1, [23]⟩, ⟨mkIKey [3] 4 1, [34]⟩]⟩,
         ⟨mkIKey [5] 1 1, [⟨mkIKey [5] 1 1, [51]⟩]⟩]]

theorem exSpecs_ok : ∀ sp ∈ exSpecs, sp.OK bytewise := by
  simp only [exSpecs, List.mem_cons, List.not_mem_nil, or_false, forall_eq_or_imp, forall_eq, NodeSpec.OK, true_and]
  exact IdxOK.of_pairwise (by decide) (by decide) (by decide)

theorem exSpecs_merge : MergeOK bytewise (exSpecs.map (·.list)) exEs :=
  .of_perm bytewise_lawful exEs_sorted (by decide) (by decide)

example : DBIter.run (MergedIter.ops (Node.ops bytewise) bytewise) bytewise
      (DBIter.new (MergedIter.new (exSpecs.map (·.fresh))) 7 10) exCalls
    = Cursor.run (visible bytewise exEs 7) (geUser bytewise) .soi exCalls :=
  stack_refines_cursor bytewise_lawful exSpecs exSpecs_ok exEs exSpecs_merge exEs_kinds 7 10 (by decide) exCalls

/-- the layout of `exSpecs` as sources before range restriction -/
def exSrcs : List Source :=
  [.arr [⟨mkIKey [1] 9 1, [19]⟩, ⟨mkIKey [2] 8 0, []⟩, ⟨mkIKey [4] 7 1, [47]⟩],
   .arr [⟨mkIKey [1] 5 0, []⟩, ⟨mkIKey [4] 6 0, []⟩],
   .level exLevel]

example : DBIter.run (MergedIter.ops (Node.ops bytewise) bytewise) bytewise
      (DBIter.new (MergedIter.new (exSrcs.map
        (·.node bytewise ((some [2, 0]).map (probe · Gen.keyMaxSeq)) ((some [5]).map (probe · Gen.keyMaxSeq))))) 7 10)
      [.first, .prev, .next, .next, .next, .prev, .seek [1], .seek [5], .last]
    = [some ([3], [34]), none, some ([3], [34]), some ([4], [47]), none, some ([4], [47]), some ([3], [34]), none,
       some ([4], [47])] := by decide +kernel

/-! ## f. the tie to the LSM model (C01): the iterator presents the view that `Get` reads -/

/-- **The DB iterator presents the view.**  For the sources `dbGet` searches (aux memdb and tables of a
transaction, write buffer, frozen buffer, a version with `Version.wfB` — `C01.SourcesOK`), when no internal
key occurs twice: the iterator `DB.newIterator` builds (merged raw iterator over `dbSources`, every child
restricted to the range, `DBIter` on top) is, for every call sequence, the cursor over THE strictly sorted
list `V` of pairs `(k, v)` with `view c (all entries) k seq = some v` and `Start ≤ k < Limit` — equivalently
of the pairs for which `Get(k)` at `seq` returns `v` (`C01.lookup_refines_view`). -/
theorem db_iterator_presents_view {c : UCmp} (hl : LawfulUCmp c) (auxm : Option (List Entry)) (aux : Level)
    (mem : List Entry) (frozen : Option (List Entry)) (v : Version)
    (h : C01.SourcesOK c auxm aux mem frozen v)
    (hd : (dbEntries auxm aux mem frozen v).Pairwise (fun a b => a.key ≠ b.key))
    (hq : ∀ e ∈ dbEntries auxm aux mem frozen v, e.seq ≤ Gen.keyMaxSeq)
    (seq : Nat) (start limit : Option Bytes) :
    ∃ V : List (Bytes × Bytes),
      V.Pairwise (fun a b => c.cmp a.1 b.1 = .lt) ∧
      (∀ k val, (k, val) ∈ V ↔
        view c (dbEntries auxm aux mem frozen v) k seq = some val ∧ inRange c start limit k = true) ∧
      (∀ k val, (k, val) ∈ V ↔
        (dbGet c auxm aux mem frozen v k seq).toOption = some val ∧ inRange c start limit k = true) ∧
      ∀ fuel, (dbEntries auxm aux mem frozen v).length < fuel → ∀ cs : List (Call Bytes),
        DBIter.run (MergedIter.ops (Node.ops c) c) c
          (DBIter.new (MergedIter.new ((dbSources auxm aux mem frozen v).map
            (·.node c (start.map (probe · Gen.keyMaxSeq)) (limit.map (probe · Gen.keyMaxSeq))))) seq fuel) cs
          = Cursor.run V (geUser c) .soi cs := by
  let srcs := dbSources auxm aux mem frozen v
  let all := srcs.flatMap (·.list)
  let U := sortedUnion c all
  have hok : ∀ s ∈ srcs, s.OK c :=
    dbSources_ok hl auxm aux mem frozen v ((sortedB_iff hl _).1 h.auxm_sorted) ((sortedB_iff hl _).1 h.mem_sorted)
      ((sortedB_iff hl _).1 h.frozen_sorted) h.aux_wf h.wf
  have hperm := dbSources_perm auxm aux mem frozen v
  have hd' : all.Pairwise (fun a b => a.key ≠ b.key) :=
    (List.Perm.pairwise_iff (fun {a b} (h : a.key ≠ b.key) => h.symm) hperm).2 hd
  have hU : MergeOK c (srcs.map (·.list)) U := mergeOK_sortedUnion hl srcs hok hd'
  have hUperm : U.Perm (dbEntries auxm aux mem frozen v) := (sortedUnion_perm c all).trans hperm
  have hmemU : ∀ e, e ∈ U ↔ e ∈ dbEntries auxm aux mem frozen v := fun e => hUperm.mem_iff
  have hkinds : ∀ e ∈ dbEntries auxm aux mem frozen v, e.kind ≤ Gen.keyTypeVal := by
    intro e he
    simp only [dbEntries, List.mem_append, Version.entries, Level.entries, List.mem_flatMap] at he
    rcases he with he | he | he | ⟨t, ht, he⟩ | ⟨l, hlm, t, ht, he⟩
    · exact h.auxm_kinds e he
    · exact h.mem_kinds e he
    · exact h.frozen_kinds e he
    · exact Table.wf_kinds (h.aux_wf t ht) e he
    · exact Table.wf_kinds (Version.wfB_tables h.wf l hlm t ht) e he
  have hview : ∀ k, view c U k seq = view c (dbEntries auxm aux mem frozen v) k seq :=
    fun k => view_congr hl (ESorted.uniqNum hl hU.sortedU) hmemU k seq
  have hV1 : ∀ k val, (k, val) ∈ (visible c U seq).filter (fun p => inRange c start limit p.1) ↔
      view c (dbEntries auxm aux mem frozen v) k seq = some val ∧ inRange c start limit k = true := by
    intro k val
    rw [List.mem_filter, visible_iff_view hl U hU.sortedU seq k val, hview]
  refine ⟨(visible c U seq).filter (fun p => inRange c start limit p.1),
    List.Pairwise.sublist List.filter_sublist (visible_sorted hl U hU.sortedU seq), hV1, ?_, ?_⟩
  · intro k val
    rw [hV1, C01.lookup_refines_view hl auxm aux mem frozen v h k seq]
  · intro fuel hfuel cs
    exact stack_range_refines_cursor hl srcs hok U hU (fun e he => hkinds e ((hmemU e).1 he))
      (fun e he => hq e ((hmemU e).1 he)) seq start limit fuel (by rw [hUperm.length_eq]; exact hfuel) cs

/-- the iterator stack `DB.newIterator` builds over C01's example state (write buffer, two overlapping level-0
tables, one level-1 table) shows at sequence 9: `[1]` deleted, `[2]` ↦ b2, `[3]` ↦ c2 … -/
example : DBIter.run (MergedIter.ops (Node.ops bytewise) bytewise) bytewise
      (DBIter.new (MergedIter.new ((dbSources none [] C01.exMem none C01.exV).map (·.node bytewise none none))) 9 10)
      [.first, .next, .next, .prev, .seek [1], .last]
    = [some ([2], [0xb2]), some ([3], [0xc2]), none, some ([3], [0xc2]), some ([2], [0xb2]), some ([3], [0xc2])] := by
  decide +kernel

/-- … and at sequence 6, before the deletion of `[1]` and the newer versions: exactly what `Get` returns -/
example : DBIter.run (MergedIter.ops (Node.ops bytewise) bytewise) bytewise
      (DBIter.new (MergedIter.new ((dbSources none [] C01.exMem none C01.exV).map (·.node bytewise none none))) 6 10)
      [.first, .next, .next, .next]
    = [some ([1], [0xa1]), some ([2], [0xb2]), some ([3], [0xc1]), none]
    ∧ (dbGet bytewise none [] C01.exMem none C01.exV [1] 6).toOption = some [0xa1] := by decide +kernel

example := db_iterator_presents_view bytewise_lawful none [] C01.exMem none C01.exV C01.exSourcesOK
  (by decide) (by decide) 9 none (some [3])

/-- **each live pair exactly once, in strictly increasing order.**  `First` followed by `Next`s shows the
visible pairs one after the other and then reports exhaustion; the list is strictly increasing. -/
theorem forward_walk_enumerates {c : UCmp} (hl : LawfulUCmp c) (es : List Entry) (hs : SortedEntries c es)
    (hk : ∀ e ∈ es, e.kind ≤ Gen.keyTypeVal) (seq fuel : Nat) (hfuel : es.length < fuel) :
    DBIter.run (ArrIter.ops c) c (DBIter.new (ArrIter.new c es none none) seq fuel)
        (.first :: List.replicate (visible c es seq).length .next)
      = (visible c es seq).map some ++ [none]
    ∧ (visible c es seq).Pairwise (fun a b => c.cmp a.1 b.1 = .lt) := by
  rw [dbiter_refines_cursor hl es hs hk seq fuel hfuel, Cursor.run_first_next]
  exact ⟨rfl, visible_sorted hl es hs seq⟩

/-- the mirror image: `Last` followed by `Prev`s shows them in decreasing order -/
theorem backward_walk_enumerates {c : UCmp} (hl : LawfulUCmp c) (es : List Entry) (hs : SortedEntries c es)
    (hk : ∀ e ∈ es, e.kind ≤ Gen.keyTypeVal) (seq fuel : Nat) (hfuel : es.length < fuel) :
    DBIter.run (ArrIter.ops c) c (DBIter.new (ArrIter.new c es none none) seq fuel)
        (.last :: List.replicate (visible c es seq).length .prev)
      = (visible c es seq).reverse.map some ++ [none] := by
  rw [dbiter_refines_cursor hl es hs hk seq fuel hfuel, Cursor.run_last_prev]

example : DBIter.run (ArrIter.ops bytewise) bytewise (DBIter.new (ArrIter.new bytewise exEs none none) 7 10)
    [.first, .next, .next, .next, .next]
    = [some ([2], [23]), some ([3], [34]), some ([4], [47]), some ([5], [51]), none] :=
  (forward_walk_enumerates bytewise_lawful exEs exEs_sorted exEs_kinds 7 10 (by decide)).1

/-- **`Seek(k)` lands on the first key `≥ k`**, whatever calls came before -/
theorem seek_lands_on_first_ge {c : UCmp} (hl : LawfulUCmp c) (es : List Entry) (hs : SortedEntries c es)
    (hk : ∀ e ∈ es, e.kind ≤ Gen.keyTypeVal) (seq fuel : Nat) (hfuel : es.length < fuel)
    (cs : List (Call Bytes)) (k : Bytes) :
    DBIter.run (ArrIter.ops c) c (DBIter.new (ArrIter.new c es none none) seq fuel) (cs ++ [.seek k])
      = DBIter.run (ArrIter.ops c) c (DBIter.new (ArrIter.new c es none none) seq fuel) cs
        ++ [(visible c es seq).find? (fun p => c.cmp p.1 k != .lt)] := by
  rw [dbiter_refines_cursor hl es hs hk seq fuel hfuel, dbiter_refines_cursor hl es hs hk seq fuel hfuel,
    Cursor.run_seek]
  rfl

example : (visible bytewise exEs 7).find? (fun p => bytesCompare p.1 [1] != .lt) = some ([2], [23]) := by decide +kernel

/-- **deleted and overwritten entries never surface**: every pair ever shown, by any call sequence, is what
a reader at `seq` sees for that key -/
theorem only_live_pairs_surface {c : UCmp} (hl : LawfulUCmp c) (es : List Entry) (hs : SortedEntries c es)
    (hk : ∀ e ∈ es, e.kind ≤ Gen.keyTypeVal) (seq fuel : Nat) (hfuel : es.length < fuel)
    (cs : List (Call Bytes)) (k v : Bytes)
    (h : some (k, v) ∈ DBIter.run (ArrIter.ops c) c (DBIter.new (ArrIter.new c es none none) seq fuel) cs) :
    view c es k seq = some v := by
  rw [dbiter_refines_cursor hl es hs hk seq fuel hfuel] at h
  exact (visible_iff_view hl es hs seq k v).1 (Cursor.run_mem _ _ _ _ _ h)

/-- the same for the full stack (any physical layout): this corollary and the forward walk -/
theorem stack_only_live_pairs_surface {c : UCmp} (hl : LawfulUCmp c) (specs : List NodeSpec)
    (hok : ∀ sp ∈ specs, sp.OK c) (U : List Entry) (hU : MergeOK c (specs.map (·.list)) U)
    (hk : ∀ e ∈ U, e.kind ≤ Gen.keyTypeVal) (seq fuel : Nat) (hfuel : U.length < fuel)
    (cs : List (Call Bytes)) (k v : Bytes)
    (h : some (k, v) ∈ DBIter.run (MergedIter.ops (Node.ops c) c) c
        (DBIter.new (MergedIter.new (specs.map (·.fresh))) seq fuel) cs) :
    view c U k seq = some v := by
  rw [stack_refines_cursor hl specs hok U hU hk seq fuel hfuel] at h
  exact (visible_iff_view hl U hU.sortedU seq k v).1 (Cursor.run_mem _ _ _ _ _ h)

theorem stack_forward_walk_enumerates {c : UCmp} (hl : LawfulUCmp c) (specs : List NodeSpec)
    (hok : ∀ sp ∈ specs, sp.OK c) (U : List Entry) (hU : MergeOK c (specs.map (·.list)) U)
    (hk : ∀ e ∈ U, e.kind ≤ Gen.keyTypeVal) (seq fuel : Nat) (hfuel : U.length < fuel) :
    DBIter.run (MergedIter.ops (Node.ops c) c) c (DBIter.new (MergedIter.new (specs.map (·.fresh))) seq fuel)
        (.first :: List.replicate (visible c U seq).length .next)
      = (visible c U seq).map some ++ [none] := by
  rw [stack_refines_cursor hl specs hok U hU hk seq fuel hfuel, Cursor.run_first_next]

/-! ## g. the real heap inside `mergedIterator` (`container/heap`, `Model/MergeHeap.lean`)

`GoHeap` transcribes `up`/`down`/`Init`/`Push`/`Pop` of Go's `container/heap` over the slice `indexes` of
child indices; `HeapMerged` is `mergedIterator` with these in place of the abstract "take a least element of
the bag" of `MergedIter`.  `GoHeap.IsHeap less h` is the invariant of `container/heap`:
`!h.Less(j, (j-1)/2)` for every `0 < j < h.Len()`. -/

/-- `a < b` on child indices themselves: the order of the numeric examples -/
def natLt (a b : Nat) : Bool := decide (a < b)

theorem natLt_swo : GoHeap.SWO natLt (fun _ => True) where
  irrefl := by intro a _; simp [natLt]
  trans := by intro a b d _ _ _ h1 h2; simp only [natLt, decide_eq_true_eq] at *; omega
  negtrans := by intro a b d _ _ _ h1 h2; simp only [natLt, decide_eq_false_iff_not] at *; omega

/-- `indexHeap.Less` (`Compare(keys[i], keys[j]) < 0`, `> 0` when `reverse`) is a strict weak order on the
children whose key is set — for ANY keys, equal ones included (they are incomparable, not ordered) -/
theorem index_less_strict_weak_order {c : UCmp} (hl : LawfulUCmp c) (rev : Bool) (keys : List (Option IKey)) :
    GoHeap.SWO (MergedIter.less c rev keys) (fun x => (MergedIter.keyAt keys x).isSome) :=
  HeapMerged.swo_less hl rev keys

/-- **`heap.Init`** establishes the heap invariant and permutes the slice (strict weak order `less`). -/
theorem heap_init_establishes_invariant {less : Nat → Nat → Bool} {S : Nat → Prop} (hs : GoHeap.SWO less S)
    (h : List Nat) (hS : ∀ x ∈ h, S x) :
    GoHeap.IsHeap less (GoHeap.init less h) ∧ (GoHeap.init less h).Perm h :=
  ⟨GoHeap.init_isHeap hs hS, GoHeap.init_perm less h⟩

example : GoHeap.init natLt [5, 3, 8, 1, 9, 2] = [1, 3, 2, 5, 9, 8] := by decide +kernel
example := heap_init_establishes_invariant natLt_swo [5, 3, 8, 1, 9, 2] (fun _ _ => trivial)

/-- **`heap.Push`** preserves the heap invariant; the new slice is a permutation of the old one plus `x`. -/
theorem heap_push_preserves_invariant {less : Nat → Nat → Bool} {S : Nat → Prop} (hs : GoHeap.SWO less S)
    (h : List Nat) (x : Nat) (hS : ∀ y ∈ h ++ [x], S y) (hh : GoHeap.IsHeap less h) :
    GoHeap.IsHeap less (GoHeap.push less h x) ∧ (GoHeap.push less h x).Perm (h ++ [x]) :=
  ⟨GoHeap.push_isHeap hs hS hh, GoHeap.push_perm less h x⟩

example : GoHeap.push natLt [1, 3, 2, 5, 9, 8] 0 = [0, 3, 1, 5, 9, 8, 2] := by decide +kernel
example := heap_push_preserves_invariant natLt_swo _ 0 (fun _ _ => trivial)
  (heap_init_establishes_invariant natLt_swo [5, 3, 8, 1, 9, 2] (fun _ _ => trivial)).1

/-- **`heap.Pop`** on a non-empty heap returns a minimum w.r.t. `less` (nothing in the heap is `less` than
it); what it leaves is a heap again, and together with the returned element a permutation of the old heap. -/
theorem heap_pop_returns_minimum {less : Nat → Nat → Bool} {S : Nat → Prop} (hs : GoHeap.SWO less S)
    (h : List Nat) (hS : ∀ x ∈ h, S x) (hh : GoHeap.IsHeap less h) (hne : h ≠ []) :
    ∃ x rest, GoHeap.pop less h = some (x, rest) ∧ (∀ y ∈ h, less y x = false) ∧ (x :: rest).Perm h ∧
      GoHeap.IsHeap less rest := by
  obtain ⟨rest, h1, h2, h3, h4⟩ := GoHeap.pop_spec hs hS hh hne
  exact ⟨_, rest, h1, h4, h2, h3⟩

example : GoHeap.pop natLt [1, 3, 2, 5, 9, 8] = some (1, [2, 3, 8, 5, 9]) := by decide +kernel
example := heap_pop_returns_minimum natLt_swo (GoHeap.init natLt [5, 3, 8, 1, 9, 2]) (fun _ _ => trivial)
  (heap_init_establishes_invariant natLt_swo [5, 3, 8, 1, 9, 2] (fun _ _ => trivial)).1 (by decide)

/-- **The heap-based merged iterator answers like the abstract one.**  Children sorted with pairwise distinct
keys (`MergeOK`, the hypothesis of `merged_refines_cursor`; internal keys are unique in the DB): for every call
sequence `HeapMerged` — `heap.Init` after `First`/`Last`/`Seek` and after the re-seek of the other children on
a `Prev` after `Next`, `heap.Push` of the moved child, `heap.Pop` in `next()`/`prev()` — gives the same
answers as `MergedIter`.  (`HeapMerged.heap_run_eq_abstract` is the general form: any related states, children
of any type that simulate a cursor.) -/
theorem merged_heap_refines_abstract {c : UCmp} (hl : LawfulUCmp c) (Ls : List (List Entry)) (U : List Entry)
    (hok : MergeOK c Ls U) (cs : List (Call IKey)) :
    (HeapMerged.ops (ArrIter.ops c) c).run (MergedIter.new (Ls.map fun L => (⟨L, .soi⟩ : ArrIter))) cs
      = (MergedIter.ops (ArrIter.ops c) c).run (MergedIter.new (Ls.map fun L => (⟨L, .soi⟩ : ArrIter))) cs := by
  exact HeapMerged.heap_run_eq_abstract hl (ArrIter.ops c) _ Ls U hok (MergedIter.arr_sim c Ls) cs _ _ .soi
    (MergedIter.arr_rel_new c Ls U) (HeapMerged.hrel_new c _)

/-- **The heap-based merged iterator refines the cursor** over the sorted union, for every call sequence. -/
theorem merged_heap_refines_cursor {c : UCmp} (hl : LawfulUCmp c) (Ls : List (List Entry)) (U : List Entry)
    (hok : MergeOK c Ls U) (cs : List (Call IKey)) :
    (HeapMerged.ops (ArrIter.ops c) c).run (MergedIter.new (Ls.map fun L => (⟨L, .soi⟩ : ArrIter))) cs
      = Cursor.run U (geKey c) .soi cs := by
  rw [merged_heap_refines_abstract hl Ls U hok cs]
  exact merged_refines_cursor hl Ls U hok cs

/-- four children `[a,d] [b] [] [c,e]` (one exhausted from the start, the others run dry during the walk) -/
example (cs : List (Call IKey)) :
    (HeapMerged.ops (ArrIter.ops bytewise) bytewise).run
      (MergedIter.new (MergedExample.Ls.map fun L => (⟨L, .soi⟩ : ArrIter))) cs
      = Cursor.run MergedExample.U (geKey bytewise) .soi cs :=
  merged_heap_refines_cursor bytewise_lawful _ _ MergedExample.mergeOK cs

/-- three children, both direction changes (`Prev` after `Next`: re-seek + `heap.Init` in reverse order;
`Next` after `Prev`: `Seek(key)` + `Next`), children exhausted at either end, stepping off and back -/
def heapExLs : List (List Entry) := [[MergedExample.a, MergedExample.d], [MergedExample.b, MergedExample.e],
  [MergedExample.c]]

example : (HeapMerged.ops (ArrIter.ops bytewise) bytewise).run
      (MergedIter.new (heapExLs.map fun L => (⟨L, .soi⟩ : ArrIter)))
      [.first, .next, .next, .prev, .prev, .prev, .next, .next, .next, .next, .next, .next, .prev, .prev,
       .seek ⟨[3], 0⟩, .prev, .next, .last, .next, .prev] =
    (open MergedExample in
      [some a, some b, some c, some b, some a, none, some a, some b, some c, some d, some e, none, some e, some d,
       some d, some c, some d, some e, none, some e]) := by decide +kernel

/-- the heap layouts differ from the abstract bag while the answers agree: after `Last, Prev` on the four
children the real slice `indexes` is `[3, 1]`, the abstract bag `[1, 3]` -/
example : (((HeapMerged.ops (ArrIter.ops bytewise) bytewise).step .prev
      ((HeapMerged.ops (ArrIter.ops bytewise) bytewise).step .last
        (MergedIter.new (MergedExample.Ls.map fun L => (⟨L, .soi⟩ : ArrIter))))).heap,
    ((MergedIter.ops (ArrIter.ops bytewise) bytewise).step .prev
      ((MergedIter.ops (ArrIter.ops bytewise) bytewise).step .last
        (MergedIter.new (MergedExample.Ls.map fun L => (⟨L, .soi⟩ : ArrIter))))).heap) = ([3, 1], [1, 3]) := by
  decide +kernel

/-- **Ties: the heap is not stable.**  Three children each holding the same key (values `0,1,2` name the
child): the real code shows child `0`, then `2`, then `1` going forwards — and, coming back from the end with
`Prev` (`Last` rebuilds a max-heap: again `[0,1,2]`), the same order `0, 2, 1`, not its mirror image.  The
abstract `MergedIter` (first least element in bag order) would show `0, 1, 2`: with duplicate keys — excluded
by the contract of `NewMergedIterator` — the refinement theorems above do not hold, and the differential
walks with duplicate keys (`it new hmerged`) can only be answered by the heap model. -/
def tieLs : List (List Entry) := [[⟨⟨[1], 5⟩, [0]⟩], [⟨⟨[1], 5⟩, [1]⟩], [⟨⟨[1], 5⟩, [2]⟩]]

theorem tie_order_example :
    ((HeapMerged.ops (ArrIter.ops bytewise) bytewise).run (MergedIter.new (tieLs.map fun L => (⟨L, .soi⟩ : ArrIter)))
        [.first, .next, .next, .next, .prev, .prev, .prev, .prev]).map (·.map (·.val))
      = [some [0], some [2], some [1], none, some [0], some [2], some [1], none]
    ∧ ((MergedIter.ops (ArrIter.ops bytewise) bytewise).run (MergedIter.new (tieLs.map fun L => (⟨L, .soi⟩ : ArrIter)))
        [.first, .next, .next, .next]).map (·.map (·.val))
      = [some [0], some [1], some [2], none] := by decide +kernel

/-- with a tie a direction change loses / repeats entries (real behaviour, reproduced by the heap model):
two children `[k]`, `[k]`: `First` shows child 0; `Prev` re-seeks child 1 to `k` and steps it back, so the
iterator falls off the front although child 1's `k` was never shown; `Next` then shows child 0's `k` again
and only then child 1's. -/
example : ((HeapMerged.ops (ArrIter.ops bytewise) bytewise).run
      (MergedIter.new ((tieLs.take 2).map fun L => (⟨L, .soi⟩ : ArrIter)))
      [.first, .prev, .next, .next, .next, .prev, .next]).map (·.map (·.val))
    = [some [0], none, some [0], some [1], none, some [0], some [1]] := by decide +kernel

/-- **The whole stack with the real heap.**  As `stack_refines_cursor`, with the raw iterator being the
heap-based merged iterator: `DBIter` over it answers every call sequence like the cursor over the visible
pairs of the sorted union. -/
theorem stack_heap_refines_cursor {c : UCmp} (hl : LawfulUCmp c) (specs : List NodeSpec)
    (hok : ∀ sp ∈ specs, sp.OK c) (U : List Entry) (hU : MergeOK c (specs.map (·.list)) U)
    (hk : ∀ e ∈ U, e.kind ≤ Gen.keyTypeVal) (seq fuel : Nat) (hfuel : U.length < fuel)
    (cs : List (Call Bytes)) :
    DBIter.run (HeapMerged.ops (Node.ops c) c) c
        (DBIter.new (MergedIter.new (specs.map (·.fresh))) seq fuel) cs
      = Cursor.run (visible c U seq) (geUser c) .soi cs := by
  exact run_new (HeapMerged.sim hl _ _ _ U hU (stack_children_sim hl specs hok)) hl hU.sortedU hk
    ⟨_, stack_rel_new c specs U, HeapMerged.hrel_new c _⟩ seq fuel hfuel cs

example : DBIter.run (HeapMerged.ops (Node.ops bytewise) bytewise) bytewise
      (DBIter.new (MergedIter.new (exSpecs.map (·.fresh))) 7 10) exCalls
    = Cursor.run (visible bytewise exEs 7) (geUser bytewise) .soi exCalls :=
  stack_heap_refines_cursor bytewise_lawful exSpecs exSpecs_ok exEs exSpecs_merge exEs_kinds 7 10 (by decide) exCalls

def theorems : List String :=
  ["GoLevel.C02.dbiter_refines_cursor", "GoLevel.C02.visible_sorted", "GoLevel.C02.visible_iff_view",
   "GoLevel.C02.dbiter_range_refines_cursor", "GoLevel.C02.merged_refines_cursor",
   "GoLevel.C02.indexed_refines_cursor", "GoLevel.C02.stack_refines_cursor",
   "GoLevel.C02.level_iter_is_range_filter", "GoLevel.C02.stack_range_refines_cursor",
   "GoLevel.C02.db_iterator_presents_view", "GoLevel.C02.forward_walk_enumerates",
   "GoLevel.C02.backward_walk_enumerates", "GoLevel.C02.seek_lands_on_first_ge",
   "GoLevel.C02.only_live_pairs_surface", "GoLevel.C02.stack_only_live_pairs_surface",
   "GoLevel.C02.stack_forward_walk_enumerates", "GoLevel.C02.index_less_strict_weak_order",
   "GoLevel.C02.heap_init_establishes_invariant", "GoLevel.C02.heap_push_preserves_invariant",
   "GoLevel.C02.heap_pop_returns_minimum", "GoLevel.C02.merged_heap_refines_abstract",
   "GoLevel.C02.merged_heap_refines_cursor", "GoLevel.C02.stack_heap_refines_cursor"]
  -- h. the error paths (`Props/C02Err.lean`)
  ++ errTheorems

end GoLevel.C02

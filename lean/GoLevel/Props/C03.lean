import GoLevel.Proofs.LSMCompactView
import GoLevel.Proofs.PickInputs
/-!
# Property C03 — snapshots and iterators keep returning the contents at creation

"A snapshot or iterator keeps returning the contents as of its creation, however many compactions,
trivial moves and flushes happen afterwards."

A reader created at sequence number `s` sees `view c es k s` for every key `k`, `es` being all entries
of all sources (C01).  The background work rewrites the sources; this file shows that it never changes
`view … k s` for any `s ≥ minSeq`, `minSeq` being the smallest sequence number a live reader holds
(`DB.minSeq`, which the compaction reads once before it starts).

Model: `GoLevel/Model/LSM.lean` — `mergeAll` (the merged input iterator), `bstep`/`build`
(`tableCompactionBuilder.run`, rules (A) and (B)), `baseLevelForKey`, `legalCut`, `Version.apply`.
Helper lemmas: `GoLevel/Proofs/LSMCompact.lean`, `LSMWf.lean`, `LSMEdits.lean`, `LSMCompactView.lean`.

What a trace validator must check at each committed compaction is `CompactionOK` (see C06 for why each
clause is needed), `minSeq ≤ s` for every live reader, `UniqSeq` (no two entries share user key and
sequence number) and distinct table numbers per level.
-/
namespace GoLevel.C03

/-! ## concrete instance

level 0 = {A, B}, level 1 = {C, D}, level 2 = {F}.  Key `[1]`: written at 2, overwritten at 5, deleted at 7;
`[2]`: written at 1 (level 2), 3, 6; `[3]` at 4; `[5]` at 3.  The compaction takes A, B (level 0) and C
(the only level-1 table meeting `[1]..[3]`) with `minSeq = 5` and writes N1, N2. -/

def e (k : UInt8) (seq kind : Nat) (v : UInt8) : Entry := ⟨mkIKey [k] seq kind, [v]⟩

def tA : Table := ⟨5, 10, [e 1 7 0 0, e 2 6 1 0xb2], mkIKey [1] 7 0, mkIKey [2] 6 1⟩
def tB : Table := ⟨4, 10, [e 1 5 1 0xa1, e 3 4 1 0xc1], mkIKey [1] 5 1, mkIKey [3] 4 1⟩
def tC : Table := ⟨2, 10, [e 1 2 1 0xa0, e 2 3 1 0xb0], mkIKey [1] 2 1, mkIKey [2] 3 1⟩
def tD : Table := ⟨3, 10, [e 5 3 1 0xe0], mkIKey [5] 3 1, mkIKey [5] 3 1⟩
def tF : Table := ⟨1, 10, [e 2 1 1 0xbb], mkIKey [2] 1 1, mkIKey [2] 1 1⟩
def exV : Version := ⟨[[tA, tB], [tC, tD], [tF]]⟩

def tN1 : Table := ⟨6, 10, [e 1 7 0 0, e 1 5 1 0xa1], mkIKey [1] 7 0, mkIKey [1] 5 1⟩
def tN2 : Table := ⟨7, 10, [e 2 6 1 0xb2, e 2 3 1 0xb0, e 3 4 1 0xc1], mkIKey [2] 6 1, mkIKey [3] 4 1⟩
def exV' : Version := exV.apply bytewise (replaceEdit 0 [tA, tB] [tC] [tN1, tN2])

example : exV' = ⟨[[], [tN1, tN2, tD], [tF]]⟩ := by decide +kernel
example : mergeAll bytewise [tA, tB, tC] =
    [e 1 7 0 0, e 1 5 1 0xa1, e 1 2 1 0xa0, e 2 6 1 0xb2, e 2 3 1 0xb0, e 3 4 1 0xc1] := by decide +kernel
/-- `minSeq = 5`: `[1]@2` is shadowed by `[1]@5` (rule A); the tombstone `[1]@7` is above `minSeq` and stays -/
example : build bytewise 5 (baseLevelForKey bytewise exV 0) {} (mergeAll bytewise [tA, tB, tC]) =
    [e 1 7 0 0, e 1 5 1 0xa1, e 2 6 1 0xb2, e 2 3 1 0xb0, e 3 4 1 0xc1] := by decide +kernel
/-- `minSeq = 9` (no reader below 9): rule (B) drops the tombstone of `[1]` (no level ≥ 2 table covers
`[1]`) and rule (A) everything under it; `[2]@6` hides `[2]@3` -/
example : build bytewise 9 (baseLevelForKey bytewise exV 0) {} (mergeAll bytewise [tA, tB, tC]) =
    [e 2 6 1 0xb2, e 3 4 1 0xc1] := by decide +kernel

theorem mergeAll_sorted_perm {c : UCmp} (hl : LawfulUCmp c) (tables : List Table)
    (hd : (tables.flatMap (·.entries)).Pairwise (fun a b => a.key ≠ b.key)) :
    sortedB c (mergeAll c tables) = true ∧ ESorted c (mergeAll c tables) ∧
    (mergeAll c tables).Perm (tables.flatMap (·.entries)) :=
  ⟨(sortedB_iff hl _).2 (mergeAll_sorted hl tables hd), mergeAll_sorted hl tables hd, mergeAll_perm tables⟩

example : ([tA, tB, tC].flatMap (·.entries)).Pairwise (fun a b => a.key ≠ b.key) := by decide +kernel

theorem build_subset (c : UCmp) (minSeq : Nat) (base : Bytes → Bool) (st : BState) (es : List Entry) :
    (build c minSeq base st es).Sublist es := build_sublist c minSeq base es st

theorem build_sorted {c : UCmp} (hl : LawfulUCmp c) (minSeq : Nat) (base : Bytes → Bool) (st : BState)
    (es : List Entry) (hs : sortedB c es = true) : sortedB c (build c minSeq base st es) = true :=
  (sortedB_iff hl _).2 (GoLevel.build_sorted c minSeq base es st ((sortedB_iff hl _).1 hs))

/-- **The drop rules preserve every admissible reader's view.**  `es` is the sorted merged input, `rest`
the entries of the sources searched after the compacted ones (they are older per user key), and `base`
may answer `true` only for user keys that none of them holds.  For every reader at `s ≥ minSeq` the
builder output followed by `rest` shows what the input followed by `rest` shows. -/
theorem build_preserves_view {c : UCmp} (hl : LawfulUCmp c) (minSeq : Nat) (base : Bytes → Bool)
    (es rest : List Entry) (hs : sortedB c es = true) (hnewer : newerThanB c es rest = true)
    (hbase : ∀ x ∈ es, base x.ukey = true → ∀ r ∈ rest, r.ukey ≠ x.ukey)
    (k : Bytes) (s : Nat) (hms : minSeq ≤ s) :
    view c (build c minSeq base {} es ++ rest) k s = view c (es ++ rest) k s :=
  build_view hl minSeq base es rest ((sortedB_iff hl _).1 hs) ((newerThanB_iff hl _ _).1 hnewer) hbase k s hms

theorem build_newest_cases {c : UCmp} (hl : LawfulUCmp c) (minSeq : Nat) (base : Bytes → Bool)
    (es : List Entry) (hs : sortedB c es = true) (k : Bytes) (s : Nat) (hms : minSeq ≤ s) :
    newest c (build c minSeq base {} es) k s = newest c es k s ∨
    (∃ x, newest c es k s = some x ∧ DropDel minSeq base x ∧ newest c (build c minSeq base {} es) k s = none) :=
  build_newest hl minSeq base k s hms es none ((sortedB_iff hl _).1 hs) (by simp)

example :
    let es := mergeAll bytewise [tA, tB, tC]
    let base := baseLevelForKey bytewise exV 0
    newest bytewise es [1] 9 = some (e 1 7 0 0) ∧ newest bytewise (build bytewise 9 base {} es) [1] 9 = none ∧
    view bytewise (build bytewise 9 base {} es ++ Level.entries [tF]) [1] 9
      = view bytewise (es ++ Level.entries [tF]) [1] 9 := by decide +kernel

/-- `minSeq ≤ s` is needed: a reader at 2 < minSeq = 5 loses `[1]@2` -/
example :
    let es := mergeAll bytewise [tA, tB, tC]
    let base := baseLevelForKey bytewise exV 0
    view bytewise es [1] 2 = some [0xa0] ∧ view bytewise (build bytewise 5 base {} es) [1] 2 = none := by
  decide +kernel

/-- the side condition on `base` is needed: claiming "base level" for `[2]` although level 2 holds `[2]@1`
resurrects the old value once the tombstone is dropped -/
example :
    let es := [e 2 6 0 0, e 2 3 1 0xb0]
    let rest := Level.entries [tF]
    view bytewise (es ++ rest) [2] 9 = none ∧
    view bytewise (build bytewise 9 (fun _ => true) {} es ++ rest) [2] 9 = some [0xbb] := by decide +kernel

/-- **`compaction_preserves_lookup`.**  Replacing `S0 ⊆ level ℓ` and `S1` (= all tables of level `ℓ+1`
meeting `S0`'s user-key range) by a legal cut of `build … (mergeAll (S0 ++ S1))` at level `ℓ+1`:
the new version is well formed, holds only entries the old one held, and every reader at `s ≥ minSeq`
sees the same plain-map view and gets the same result from `version.get`. -/
theorem compaction_preserves_lookup {c : UCmp} (hl : LawfulUCmp c) (v : Version) (ℓ : Nat)
    (S0 S1 nts : List Table) (minSeq : Nat) (umin umax : Bytes)
    (hv : v.wfB c = true) (hu : UniqSeq v.entries)
    (hnum : ∀ i, ∀ x ∈ v.lvl i, ∀ y ∈ v.lvl i, x.num = y.num → x = y)
    (h : CompactionOK c v ℓ S0 S1 nts minSeq umin umax) :
    (v.apply c (replaceEdit ℓ S0 S1 nts)).wfB c = true ∧
    UniqSeq (v.apply c (replaceEdit ℓ S0 S1 nts)).entries ∧
    ∀ (k : Bytes) (s : Nat), minSeq ≤ s →
      view c (v.apply c (replaceEdit ℓ S0 S1 nts)).entries k s = view c v.entries k s ∧
      (versionGet c [] (v.apply c (replaceEdit ℓ S0 S1 nts)) k s).toOption
        = (versionGet c [] v k s).toOption := by
  have hwf' := compaction_wf hl hv h
  obtain ⟨hsub, hview⟩ := compaction_view hl hv hu hnum h
  have hu' := hu.of_subset hsub
  refine ⟨hwf', hu', fun k s hms => ⟨hview k s hms, ?_⟩⟩
  rw [versionGet_view hl _ hwf' hu', versionGet_view hl v hv hu]
  exact hview k s hms

theorem exOK : CompactionOK bytewise exV 0 [tA, tB] [tC] [tN1, tN2] 5 [1] [3] := by decide +kernel
example : exV.wfB bytewise = true ∧ UniqSeq exV.entries ∧
    (∀ i ∈ [0, 1, 2], ∀ x ∈ exV.lvl i, ∀ y ∈ exV.lvl i, x.num = y.num → x = y) := by decide +kernel
example : exV'.wfB bytewise = true := by decide +kernel
example : view bytewise exV'.entries [1] 5 = some [0xa1] ∧ view bytewise exV.entries [1] 5 = some [0xa1]
    ∧ view bytewise exV'.entries [1] 9 = none ∧ view bytewise exV.entries [1] 9 = none
    ∧ view bytewise exV'.entries [2] 5 = some [0xb0] ∧ view bytewise exV.entries [2] 5 = some [0xb0]
    ∧ versionGet bytewise [] exV' [2] 9 = .value [0xb2] ∧ versionGet bytewise [] exV [2] 9 = .value [0xb2] := by
  decide +kernel
/-- below `minSeq` the view does change: the theorem's premise `minSeq ≤ s` is sharp -/
example : view bytewise exV.entries [1] 2 = some [0xa0] ∧ view bytewise exV'.entries [1] 2 = none := by decide +kernel

theorem trivial_move_preserves_view {c : UCmp} (hl : LawfulUCmp c) (v : Version) (ℓ : Nat) (t : Table)
    (hu : UniqSeq v.entries) (hnum : ∀ i, ∀ x ∈ v.lvl i, ∀ y ∈ v.lvl i, x.num = y.num → x = y)
    (ht : t ∈ v.lvl ℓ) (k : Bytes) (s : Nat) :
    view c (v.apply c (replaceEdit ℓ [t] [] [t])).entries k s = view c v.entries k s := by
  have hmem := replace_entries_same c v ℓ [t] [] [t] hnum (List.forall_mem_singleton.2 ht) (fun s hs => nomatch hs)
    (fun x => by simp)
  exact view_congr hl (hu.uniqNum.of_subset (fun x hx => (hmem x).1 hx)) hmem k s

example : (exV.apply bytewise (replaceEdit 1 [tD] [] [tD])) = ⟨[[tA, tB], [tC], [tF, tD]]⟩ := by decide +kernel

/-- background work as seen by a reader at sequence `s`: any number of table compactions whose `minSeq`
is at most `s`, and trivial moves -/
inductive Maintenance (c : UCmp) (s : Nat) : Version → Version → Prop
  | refl (v : Version) : Maintenance c s v v
  | compact {v v1 : Version} (ℓ : Nat) (S0 S1 nts : List Table) (minSeq : Nat) (umin umax : Bytes) :
      Maintenance c s v v1 → v1.wfB c = true → UniqSeq v1.entries →
      (∀ i, ∀ x ∈ v1.lvl i, ∀ y ∈ v1.lvl i, x.num = y.num → x = y) →
      CompactionOK c v1 ℓ S0 S1 nts minSeq umin umax → minSeq ≤ s →
      Maintenance c s v (v1.apply c (replaceEdit ℓ S0 S1 nts))
  | move {v v1 : Version} (ℓ : Nat) (t : Table) :
      Maintenance c s v v1 → UniqSeq v1.entries →
      (∀ i, ∀ x ∈ v1.lvl i, ∀ y ∈ v1.lvl i, x.num = y.num → x = y) → t ∈ v1.lvl ℓ →
      Maintenance c s v (v1.apply c (replaceEdit ℓ [t] [] [t]))

/-- **However many compactions happen, the reader's view of the version stays what it was.** -/
theorem maintenance_preserves_view {c : UCmp} (hl : LawfulUCmp c) (s : Nat) (v v' : Version)
    (h : Maintenance c s v v') (k : Bytes) : view c v'.entries k s = view c v.entries k s := by
  induction h with
  | refl => rfl
  | compact ℓ S0 S1 nts minSeq umin umax _ hv hu hnum hok hms ih =>
    rw [← ih]
    exact ((compaction_preserves_lookup hl _ ℓ S0 S1 nts minSeq umin umax hv hu hnum hok).2.2 k s hms).1
  | move ℓ t _ hu hnum ht ih =>
    rw [← ih]
    exact trivial_move_preserves_view hl _ ℓ t hu hnum ht k s

example : Maintenance bytewise 5 exV (exV'.apply bytewise (replaceEdit 1 [tD] [] [tD])) :=
  .move 1 tD (.compact 0 [tA, tB] [tC] [tN1, tN2] 5 [1] [3] (.refl exV) (by decide +kernel) (by decide +kernel)
    (nums_nodup_lvl exV (by decide +kernel)) exOK (by decide +kernel))
    (by decide +kernel) (nums_nodup_lvl exV' (by decide +kernel)) (by decide +kernel)

/-! ## the side condition on `base`, derived from the code (`compaction.baseLevelForKey` and its cursor)

`build_preserves_view` assumes (H2): `base k = true` only if no source searched after the compacted ones holds
`k`.  The Go function is *stateful*: per level `≥ src+2` it keeps a cursor `tPtrs[level]` that only moves
forward, which is right only because `tableCompactionBuilder.run` asks for the keys of a merged iterator, i.e.
in non-decreasing order.  Model: `Pick.Compaction.baseLevelForKey`, `Pick.baseRun`, `Pick.buildC`
(`GoLevel/Model/Pick.lean`); invariant `Pick.CursorInv` and proofs in `GoLevel/Proofs/PickBase.lean`. -/

/-- **`base_level_for_key_sound`** (P2).  On a well-formed version, a compaction fresh from `newCompaction`
asked for a non-decreasing sequence of user keys answers `true` for a key **iff** no table of a level
`≥ src+2` has the key within `[imin.ukey, imax.ukey]` — so a `true` answer means no entry of such a level has
that user key (H2) — and all answers together are those of the cursor-free specification. -/
theorem base_level_for_key_sound {c : UCmp} (hl : LawfulUCmp c) (o : Pick.Limits) (v : Version)
    (hv : v.wfB c = true) (src : Nat) (t0 : List Table) (cm : Pick.Compaction)
    (hcm : Pick.newCompaction c o v src t0 = some cm) (ks : List Bytes) (hs : ks.Pairwise c.le) :
    (Pick.baseRun c cm ks).1 = ks.map (baseLevelForKey c v src) ∧
    ∀ k b, (k, b) ∈ ks.zip (Pick.baseRun c cm ks).1 →
      (b = true ↔ ∀ j, src + 2 ≤ j → ∀ t ∈ v.lvl j, t.overlapsKey c k = false) ∧
      (b = true → ∀ j, src + 2 ≤ j → ∀ x ∈ Level.entries (v.lvl j), x.ukey ≠ k) := by
  have hw := (Version.wfB_iff_WFi hl v).1 hv
  obtain ⟨hv', hs', hinit⟩ := Pick.newCompaction_cursorInv c o v src t0 cm hcm
  have heq : (Pick.baseRun c cm ks).1 = ks.map (baseLevelForKey c v src) :=
    Pick.baseRun_eq hl cm hv' hs' hw ks hs (fun k _ => hinit k)
  refine ⟨heq, ?_⟩
  intro k b hkb
  rw [heq] at hkb
  have hb : b = baseLevelForKey c v src k := by
    obtain ⟨i, hi⟩ := List.mem_iff_getElem?.1 hkb
    obtain ⟨h1, h2⟩ := List.getElem?_zip_eq_some.1 hi
    rw [List.getElem?_map, h1] at h2
    exact (Option.some.inj h2).symm
  subst hb
  exact ⟨baseLevelForKey_iff c v src k, fun hb => baseLevelForKey_sound hl v hw src k hb⟩

/-- non-vacuity on the 3-level `exV` (level 2 = {`F` = `[2]..[2]`}), level-0 compaction: `[1]` and `[3]` are at
their base level, `[2]` is not -/
example :
    ((Pick.newCompaction bytewise ⟨fun _ => 100, fun _ => 100, fun _ => 100⟩ exV 0 [tA]).map
      (fun cm => (Pick.baseRun bytewise cm [[1], [2], [2], [3]]).1)) = some [true, false, false, true] := by decide +kernel

/-- **The order matters.**  `Pick.bV`: level 2 = {`[4]..[6]`, `[8]..[9]`}.  Asked for `[7]` and then `[5]`, the
stateful function answers `true` for `[5]` although the first table holds it (the cursor has moved past it):
the invariant `Pick.CursorInv` fails for `[5]`, and a deletion marker of `[5]` would be dropped. -/
example :
    (Pick.baseRun bytewise Pick.bCm [[7], [5]]).1 = [true, true] ∧ baseLevelForKey bytewise Pick.bV 0 [5] = false ∧
    ¬ Pick.CursorInv bytewise Pick.bV 0 (Pick.bCm.baseLevelForKey bytewise [7]).2.tPtrs [5] :=
  Pick.baseLevelForKey_out_of_order

/-- **`builder_cursor_preserves_view`**: `tableCompactionBuilder.run` with the *stateful* `baseLevelForKey`,
evaluated exactly when Go's `switch` evaluates it, on the sorted merged input of a compaction fresh from
`newCompaction`: it keeps exactly what the model builder keeps, and — `rest` being entries of levels `≥ src+2`,
older per user key than the input — every reader at `s ≥ minSeq` sees the same.  No hypothesis on `base` is left. -/
theorem builder_cursor_preserves_view {c : UCmp} (hl : LawfulUCmp c) (o : Pick.Limits) (v : Version)
    (hv : v.wfB c = true) (src : Nat) (t0 : List Table) (cm : Pick.Compaction)
    (hcm : Pick.newCompaction c o v src t0 = some cm) (minSeq : Nat) (es rest : List Entry)
    (hs : sortedB c es = true) (hrest : ∀ r ∈ rest, ∃ j, src + 2 ≤ j ∧ r ∈ Level.entries (v.lvl j))
    (hnewer : newerThanB c es rest = true) (k : Bytes) (s : Nat) (hms : minSeq ≤ s) :
    (Pick.buildC c minSeq cm {} es).1 = build c minSeq (baseLevelForKey c v src) {} es ∧
    view c ((Pick.buildC c minSeq cm {} es).1 ++ rest) k s = view c (es ++ rest) k s := by
  have hw := (Version.wfB_iff_WFi hl v).1 hv
  obtain ⟨hv', hs', hinit⟩ := Pick.newCompaction_cursorInv c o v src t0 cm hcm
  have hES := (sortedB_iff hl es).1 hs
  have heq : (Pick.buildC c minSeq cm {} es).1 = build c minSeq (baseLevelForKey c v src) {} es :=
    Pick.buildC_eq_build hl minSeq cm hv' hs' hw es
      (Pick.ukeys_sorted_of_ESorted hl es hES) (fun e _ => hinit e.ukey) {}
  refine ⟨heq, ?_⟩
  rw [heq]
  apply build_preserves_view hl minSeq _ es rest hs hnewer _ k s hms
  intro x _ hb r hr
  obtain ⟨j, hj, hrj⟩ := hrest r hr
  exact baseLevelForKey_sound hl v hw src x.ukey hb j hj r hrj

/-- non-vacuity: the level-0 compaction of `exV` (inputs `A`, `B`, `C`), `minSeq = 9`: the tombstone of `[1]` is
dropped (rule (B), `[1]` is at its base level), everything under it by rule (A); the cursor ends at `[0, 0, 0]`
because `[2]`, `[3]` are never asked for -/
example :
    (Pick.newCompaction bytewise ⟨fun _ => 100, fun _ => 100, fun _ => 100⟩ exV 0 [tA]).map
      (fun cm => ((Pick.buildC bytewise 9 cm {} (mergeAll bytewise (cm.s0 ++ cm.s1))).1,
        (Pick.buildC bytewise 9 cm {} (mergeAll bytewise (cm.s0 ++ cm.s1))).2.tPtrs)) =
      some ([e 2 6 1 0xb2, e 3 4 1 0xc1], [0, 0, 0]) := by decide +kernel

/-- a memdb flush moves the frozen buffer's entries into a table: together with whatever else is
searched (`pre`: the write buffer), the reader's view is unchanged -/
theorem flush_preserves_view {c : UCmp} (hl : LawfulUCmp c) (v : Version) (L : Nat) (t : Table)
    (pre : List Entry) (hu : UniqSeq (pre ++ (t.entries ++ v.entries))) (k : Bytes) (s : Nat) :
    view c (pre ++ (v.apply c (flushEdit L t)).entries) k s = view c (pre ++ (t.entries ++ v.entries)) k s := by
  have hmem : ∀ x, x ∈ pre ++ (v.apply c (flushEdit L t)).entries ↔ x ∈ pre ++ (t.entries ++ v.entries) := by
    intro x
    simp only [List.mem_append, flush_entries]
  exact view_congr hl (hu.uniqNum.of_subset (fun x hx => (hmem x).1 hx)) hmem k s

example :
    let t : Table := ⟨9, 1, [e 3 8 1 0xc2], mkIKey [3] 8 1, mkIKey [3] 8 1⟩
    view bytewise (exV.apply bytewise (flushEdit 0 t)).entries [3] 9 = some [0xc2] ∧
    view bytewise (exV.apply bytewise (flushEdit 0 t)).entries [3] 7 = some [0xc1] := by decide +kernel

/-- `base_level_for_key_sound` is about a cursor that starts at zero and only moves forward within ONE run of the
builder.  A compaction that is retried after a transient storage error resumes from `compaction.restore()`: the
extractor reads off that `save` copies the cursor and `restore` copies it back (an aliased snapshot would leave the
cursor where the failed attempt stopped, and tables already passed would be skipped: a deletion marker could then be
dropped above an older value). -/
theorem code_save_copies_cursor : Gen.pickSaveCopiesCursor = true := by decide

end GoLevel.C03

def GoLevel.C03.theorems : List String :=
  ["GoLevel.C03.mergeAll_sorted_perm", "GoLevel.C03.build_subset", "GoLevel.C03.build_sorted",
   "GoLevel.C03.build_preserves_view", "GoLevel.C03.build_newest_cases",
   "GoLevel.C03.compaction_preserves_lookup", "GoLevel.C03.trivial_move_preserves_view",
   "GoLevel.C03.maintenance_preserves_view", "GoLevel.C03.flush_preserves_view",
   "GoLevel.C03.base_level_for_key_sound", "GoLevel.C03.builder_cursor_preserves_view",
   "GoLevel.C03.code_save_copies_cursor"]

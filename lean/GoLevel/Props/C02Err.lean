import GoLevel.Proofs.IterErrStack
import GoLevel.Proofs.IterDBOps
import GoLevel.Proofs.IterErrGenuine
/-!
# Properties C02 / C08 on the error paths of the iterator stack

C08: "with checksum verification on (the default) damaged data is reported as an error rather than served";
C02's cursor semantics is claimed for undamaged data.  Here: what `indexedIterator`, `mergedIterator` and
`dbIter` do when a child iterator fails (`GoLevel/Model/IterErr.lean`: `EIndexed`, `EMerged`, `EDBIter` over
children that fail at an arbitrary movement with a corruption or an I/O error).

* strict mode (the default, `opt.DefaultStrict ∋ StrictReader`): `strict_error_is_reported` (raw iterator) and
  `strict_error_is_reported_db` (DB iterator, for the code as it is: `code_prev_checks_err`) — for EVERY call
  sequence, every answer given while `Error()` is nil is the specification cursor's answer (over all entries of
  all children, as if nothing were damaged); the call during which a child fails returns `false` with that
  error, and so does every later call; `strict_hides_no_error`: while `Error()` is nil no child has failed.
* the code as found (defect D40: `dbIter.prev()` returned its candidate without consulting the raw iterator's
  error): `d40_backward_serves_stale_pair` is the decided run, `strict_error_is_reported_db_pre_repair` what
  held then (the error shows one call late).
* non-strict mode: `nonstrict_yields_only_genuine_pairs_partial` (never an error for corruption; every pair
  shown is the pair under one of the children) and the decided run `nonstrict_skips_healthy_entry`.
* `errors_coincide_when_no_child_fails`, `call_without_error_is_error_free_call`: the error-free models of
  C02 are the special case.
-/
namespace GoLevel.C02

open EMerged (Healthy)

/-- the error-free counterparts of the children -/
abbrev plain (specs : List ENodeSpec) : List NodeSpec := specs.map (·.spec)

/-- **Strict mode, raw iterator.**  Children: memdb / table iterators that fail as a whole at any movement
(`ENodeSpec.arr xs plan`) and indexed iterators whose blocks fail at any movement of their data iterator
(`ENodeSpec.idx`), with a corruption or an I/O error; `U` the sorted union of ALL their entries.  For every call
sequence the strict merged iterator answers like the cursor over `U` while `Error()` is nil; the first
answer with an error is "invalid", and every later answer is "invalid, the same error" (`Reported`). -/
theorem strict_error_is_reported {c : UCmp} (hl : LawfulUCmp c) (specs : List ENodeSpec)
    (hok : ∀ sp ∈ plain specs, sp.OK c) (U : List Entry) (hU : MergeOK c ((plain specs).map (·.list)) U)
    (cs : List (Call IKey)) :
    Reported ((EMerged.ops (ENode.ops c) c).run (eRaw specs) cs) (Cursor.run U (geKey c) .soi cs) := by
  rw [← (stack_sim hl (plain specs) hok U hU).run cs _ .soi (eRaw_rel c specs U)]
  exact (EMerged.failSim (ENode.failSim c) c).run_reported cs (eRaw specs) (eRaw_healthy specs)

/-- **Nothing is hidden.**  As long as every answer had `Error()` nil, no child has failed: the state is
healthy (no error at the merged iterator, every array child without error, every nested indexed iterator
without error and with a healthy data iterator). -/
theorem strict_hides_no_error (c : UCmp) (specs : List ENodeSpec) (cs : List (Call IKey))
    (h : ∀ r ∈ (EMerged.ops (ENode.ops c) c).run (eRaw specs) cs, r.2 = none) :
    Healthy ENode.Healthy (EMerged.after (ENode.ops c) c (eRaw specs) cs) :=
  (EMerged.failSim (ENode.failSim c) c).run_healthy cs (eRaw specs) (eRaw_healthy specs) h

/-- the four children `[a,d] [b] [] [c,e]` of C02's merged example; the second fails at its movement number 2
with a corruption, the fourth at its movement number 3 with an I/O error -/
def exArr : List ENodeSpec :=
  [.arr [MergedExample.a, MergedExample.d] none, .arr [MergedExample.b] (some (2, .corrupted)), .arr [] none,
   .arr [MergedExample.c, MergedExample.e] (some (3, .io))]

example (cs : List (Call IKey)) :
    Reported ((EMerged.ops (ENode.ops bytewise) bytewise).run (eRaw exArr) cs)
      (Cursor.run MergedExample.U (geKey bytewise) .soi cs) :=
  strict_error_is_reported bytewise_lawful exArr (fun sp h => by
    simp only [plain, exArr, List.map_cons, List.map_nil, List.mem_cons, List.not_mem_nil, or_false] at h
    rcases h with rfl | rfl | rfl | rfl <;> trivial) MergedExample.U MergedExample.mergeOK cs

/-- two calls without an error: every child is still healthy -/
example : Healthy ENode.Healthy (EMerged.after (ENode.ops bytewise) bytewise (eRaw exArr) [.first, .next]) :=
  strict_hides_no_error bytewise exArr [.first, .next] (by decide +kernel)

/-- the run: `First` (movement 0 of every child), `Next`, `Next` show `a b c` (the second `Next` is child 1's
movement 1); `Prev` re-seeks every other child: child 1's movement 2 fails: the call returns `false`, `Error()` is
the corruption, for ever -/
example : ((EMerged.ops (ENode.ops bytewise) bytewise).run (eRaw exArr) [.first, .next, .next, .prev, .next, .first]).map
      (fun r => (r.1.map (·.val), r.2))
    = [(some [10], none), (some [20], none), (some [30], none), (none, some .corrupted), (none, some .corrupted),
       (none, some .corrupted)] := by decide +kernel

/-- the extracted fact: the last exit of `dbIter.prev` is `if i.iterErr(); i.err != nil { return false };
return true` (the repair of D40) -/
theorem code_prev_checks_err : Gen.iterPrevChecksErr = true := by decide

example : Gen.iterPrevChecksErr = true := code_prev_checks_err

/-- **Strict mode, DB iterator (the code as it is).**  `DBIter` with `setErr`/`iterErr` over the strict raw
iterator over failing children: for every call sequence the answers are those of the cursor over the visible
pairs of ALL entries while `Error()` is nil; the call during which a child fails returns `false`, `Key()` and
`Value()` are nil and `Error()` is the error, and so for every later call.  No wrong pair and no pair after a
gap is ever shown, forwards or backwards. -/
theorem strict_error_is_reported_db {c : UCmp} (hl : LawfulUCmp c) (specs : List ENodeSpec)
    (hok : ∀ sp ∈ plain specs, sp.OK c) (U : List Entry) (hU : MergeOK c ((plain specs).map (·.list)) U)
    (hk : ∀ e ∈ U, e.kind ≤ Gen.keyTypeVal) (seq fuel : Nat) (hfuel : U.length < fuel)
    (cs : List (Call Bytes)) :
    Reported (EDBIter.run Gen.iterPrevChecksErr (EMerged.ops (ENode.ops c) c) c (EDBIter.new (eRaw specs) seq fuel) cs)
      (Cursor.run (visible c U seq) (geUser c) .soi cs) := by
  rw [code_prev_checks_err,
    ← run_rel (stack_sim hl (plain specs) hok U hU) hl hU.sortedU hk cs (eDB_rel c specs U seq fuel hfuel)]
  exact (EDBIter.run_reported_twin (EMerged.failSim (ENode.failSim c) c) true c cs _ rfl (eRaw_healthy specs)).2 rfl

/-- **The code as found (D40).**  Without the check at the end of `prev()` the call during which the raw
iterator failed could still serve the pair it was holding (`ReportedLate`); the error showed at the next
call. -/
theorem strict_error_is_reported_db_pre_repair {c : UCmp} (hl : LawfulUCmp c) (specs : List ENodeSpec)
    (hok : ∀ sp ∈ plain specs, sp.OK c) (U : List Entry) (hU : MergeOK c ((plain specs).map (·.list)) U)
    (hk : ∀ e ∈ U, e.kind ≤ Gen.keyTypeVal) (seq fuel : Nat) (hfuel : U.length < fuel)
    (cs : List (Call Bytes)) :
    ReportedLate (EDBIter.run false (EMerged.ops (ENode.ops c) c) c (EDBIter.new (eRaw specs) seq fuel) cs)
      (Cursor.run (visible c U seq) (geUser c) .soi cs) := by
  rw [← run_rel (stack_sim hl (plain specs) hok U hU) hl hU.sortedU hk cs (eDB_rel c specs U seq fuel hfuel)]
  exact (EDBIter.run_reported_twin (EMerged.failSim (ENode.failSim c) c) false c cs _ rfl (eRaw_healthy specs)).1

/-- one table of three blocks: `[ [1]@1 ]`, `[ [5]@2, deletion of [9]@13 ]`, `[ [9]@12 ↦ AA ]`; the middle block
fails its checksum (`plan = (0, corrupted)`: its data iterator is `NewEmptyIterator(err)`) -/
def d40Blocks : List EIdxChild :=
  [⟨mkIKey [1] 1 1, [⟨mkIKey [1] 1 1, [10]⟩], none⟩,
   ⟨mkIKey [9] 13 0, [⟨mkIKey [5] 2 1, [50]⟩, ⟨mkIKey [9] 13 0, []⟩], some (0, .corrupted)⟩,
   ⟨mkIKey [9] 12 1, [⟨mkIKey [9] 12 1, [0xAA]⟩], none⟩]

def d40Entries : List Entry :=
  [⟨mkIKey [1] 1 1, [10]⟩, ⟨mkIKey [5] 2 1, [50]⟩, ⟨mkIKey [9] 13 0, []⟩, ⟨mkIKey [9] 12 1, [0xAA]⟩]

/-- undamaged, a reader at sequence 100 sees `[1] ↦ 10, [5] ↦ 50` (`[9]` is deleted) -/
example : visible bytewise d40Entries 100 = [([1], [10]), ([5], [50])] := by decide +kernel

/-- **Defect D40, the decided run.**  Default (strict) configuration, the code as found (`chk = false`):
`Last()` positions the table iterator on `[9]@12` in the healthy last block; `prev()` takes it as candidate and
asks the raw iterator for the entry before it — the damaged block: the raw iterator fails — and returns `true`:
the DELETED key `[9]` is served with its old value and `Error()` is nil; only the next call reports the
corruption.  With the repair (`chk = true`) `Last()` returns `false` with the error.  (Replayed on the real DB:
`harness/checks/c08.go`, "d40" scenario, and `TestD40BackwardStale`.) -/
theorem d40_backward_serves_stale_pair :
    EDBIter.run false (EMerged.ops (ENode.ops bytewise) bytewise) bytewise
        (EDBIter.new (eRaw [.idx d40Blocks]) 100 10) [.last, .prev]
      = [(some ([9], [0xAA]), none), (none, some .corrupted)]
    ∧ EDBIter.run true (EMerged.ops (ENode.ops bytewise) bytewise) bytewise
        (EDBIter.new (eRaw [.idx d40Blocks]) 100 10) [.last, .prev]
      = [(none, some .corrupted), (none, some .corrupted)]
    ∧ ¬ Reported (EDBIter.run false (EMerged.ops (ENode.ops bytewise) bytewise) bytewise
        (EDBIter.new (eRaw [.idx d40Blocks]) 100 10) [.last, .prev])
      (Cursor.run (visible bytewise d40Entries 100) (geUser bytewise) .soi [.last, .prev]) := by
  have h1 : EDBIter.run false (EMerged.ops (ENode.ops bytewise) bytewise) bytewise
        (EDBIter.new (eRaw [.idx d40Blocks]) 100 10) [.last, .prev]
      = [(some ([9], [0xAA]), none), (none, some .corrupted)] := by decide +kernel
  have h2 : Cursor.run (visible bytewise d40Entries 100) (geUser bytewise) .soi [.last, .prev]
      = [some ([5], [50]), some ([1], [10])] := by decide +kernel
  refine ⟨h1, by decide +kernel, ?_⟩
  rw [h1, h2]
  simp [Reported]

/-- forward scans were never affected: the damaged block is reported by the `Next` that reaches it -/
example : EDBIter.run false (EMerged.ops (ENode.ops bytewise) bytewise) bytewise
      (EDBIter.new (eRaw [.idx d40Blocks]) 100 10) [.first, .next, .next]
    = [(some ([1], [10]), none), (none, some .corrupted), (none, some .corrupted)] := by decide +kernel

theorem mergeOK_single {c : UCmp} {L : List Entry} (hs : SortedEntries c L) : MergeOK c [L] L where
  sortedU := hs
  mem := fun e => by simp
  sortedL := fun L' h => by
    have : L' = L := by simpa using h
    rw [this]; exact hs
  distinct := by
    intro i j Li Lj a b hij hi hj _ _
    have hi' := getElem?_lt hi
    have hj' := getElem?_lt hj
    simp only [List.length_singleton] at hi' hj'
    omega

/-- non-vacuity: a memdb-like child holding `d40Entries` that fails at its movement number 4 -/
example (cs : List (Call Bytes)) :
    Reported (EDBIter.run Gen.iterPrevChecksErr (EMerged.ops (ENode.ops bytewise) bytewise) bytewise
        (EDBIter.new (eRaw [.arr d40Entries (some (4, .io))]) 100 10) cs)
      (Cursor.run (visible bytewise d40Entries 100) (geUser bytewise) .soi cs) :=
  strict_error_is_reported_db bytewise_lawful [.arr d40Entries (some (4, .io))]
    (fun sp h => by
      simp only [plain, List.map_cons, List.map_nil, List.mem_cons, List.not_mem_nil, or_false] at h
      rw [h]; trivial)
    d40Entries (mergeOK_single (by decide)) (by decide) 100 10 (by decide) cs

example (cs : List (Call Bytes)) :
    ReportedLate (EDBIter.run false (EMerged.ops (ENode.ops bytewise) bytewise) bytewise
        (EDBIter.new (eRaw [.arr d40Entries (some (4, .io))]) 100 10) cs)
      (Cursor.run (visible bytewise d40Entries 100) (geUser bytewise) .soi cs) :=
  strict_error_is_reported_db_pre_repair bytewise_lawful [.arr d40Entries (some (4, .io))]
    (fun sp h => by
      simp only [plain, List.map_cons, List.map_nil, List.mem_cons, List.not_mem_nil, or_false] at h
      rw [h]; trivial)
    d40Entries (mergeOK_single (by decide)) (by decide) 100 10 (by decide) cs

/-- **Non-strict mode (partial).**  Over ANY children (no contract: they may be unsorted, fail at any time,
come back) whose errors are all corruptions, the non-strict merged iterator never reports an error, and after
every call sequence the pair it shows is the pair under the cursor of one of its children, as that child
reports it — a genuine pair of some child.  (What is NOT guaranteed: that nothing is skipped, see
`nonstrict_skips_healthy_entry`.) -/
theorem nonstrict_yields_only_genuine_pairs_partial {σ : Type} (o : EIterOps σ) (c : UCmp)
    (hcorr : ∀ s e, o.err s = some e → e.isCorrupted = true) (iters : List σ) (cs : List (Call IKey)) :
    (EMerged.after o c (EMerged.new iters false) cs).err = none ∧
    ∀ e, (EMerged.ops o c).cur (EMerged.after o c (EMerged.new iters false) cs) = some e →
      ∃ s ∈ (EMerged.after o c (EMerged.new iters false) cs).base.iters, o.cur s = some e := by
  have := EMerged.nonstrict_run o c hcorr cs (EMerged.new iters false) rfl rfl (MergedIter.gen_new _ iters)
  exact ⟨this.1, this.2.2⟩

/-- the full statement asked for: additionally, within one direction the pairs come in comparer order
(consecutive `Next` answers increase, consecutive `Prev` answers decrease) for sorted children with distinct
keys.  Not proved (it needs the positional invariant of `Proofs/IterMerged.lean` redone for children that drop
out); checked on every non-strict walk of the differential (`wp/c02`: oracle `nonstrict-order`, no
violation). -/
def nonstrict_yields_only_genuine_pairs_full : Prop :=
  ∀ (c : UCmp), LawfulUCmp c → ∀ (Ls : List (List Entry)) (U : List Entry), MergeOK c Ls U →
  ∀ (plans : List (Option (Nat × Err))), (∀ p ∈ plans, ∀ k e, p = some (k, e) → e = .corrupted) →
  ∀ (cs : List (Call IKey)) (fwd : Bool),
    let cl : Call IKey := if fwd then .next else .prev
    let o := FailChild.ops (ArrIter.ops c)
    let m0 := EMerged.new ((Ls.zip plans).map fun lp => FailChild.new (⟨lp.1, .soi⟩ : ArrIter) lp.2) false
    let m1 := EMerged.after o c m0 cs
    let m2 := (EMerged.ops o c).toIterOps.step cl ((EMerged.ops o c).toIterOps.step cl m1)
    let m1' := (EMerged.ops o c).toIterOps.step cl m1
    ∀ e1 e2, (EMerged.ops o c).cur m1' = some e1 → (EMerged.ops o c).cur m2 = some e2 →
      e1 ∈ U ∧ e2 ∈ U ∧ icmp c e1.key e2.key = (if fwd then Ordering.lt else Ordering.gt)

/-- three children `[a, d]`, `[b]`, `[c, e]` of C02's example, non-strict; child 1 (`[b]`) fails at its movement
number 1 with a corruption -/
def oddLs : List (FailChild ArrIter) :=
  [FailChild.new ⟨[MergedExample.a, MergedExample.d], .soi⟩ none,
   FailChild.new ⟨[MergedExample.b], .soi⟩ (some (1, .corrupted)),
   FailChild.new ⟨[MergedExample.c, MergedExample.e], .soi⟩ none]

/-- **The non-strict oddity, decided.**  `Last` shows `e`, three `Prev`s show `d c b` (child 1 has made one
movement, `Last`).  `Next` after `Prev`: `mergedIterator.Next` re-seeks every child to the current key `b`;
child 1 — the one standing on `b` — fails at this movement and is dropped (`errf` is called, `Error()` stays
nil); the re-seek therefore lands on `c`, and the unconditional follow-up `Next()` steps over it: the call shows
`d`.  The healthy entry `c` of the healthy child 2 is skipped and `Error()` is nil (the strict iterator reports
the corruption at this call).  (Replayed on the real code: `wp/c02` `TestNonStrictSkipsHealthyEntry`.) -/
theorem nonstrict_skips_healthy_entry :
    ((EMerged.ops (FailChild.ops (ArrIter.ops bytewise)) bytewise).run (EMerged.new oddLs false)
        [.last, .prev, .prev, .prev, .next, .next]).map (fun r => (r.1.map (·.val), r.2))
      = [(some [], none), (some [40], none), (some [30], none), (some [20], none), (some [40], none),
         (some [], none)]
    ∧ ((EMerged.ops (FailChild.ops (ArrIter.ops bytewise)) bytewise).run (EMerged.new oddLs true)
        [.last, .prev, .prev, .prev, .next, .next]).map (fun r => (r.1.map (·.val), r.2))
      = [(some [], none), (some [40], none), (some [30], none), (some [20], none), (none, some .corrupted),
         (none, some .corrupted)]
    ∧ (EMerged.after (FailChild.ops (ArrIter.ops bytewise)) bytewise (EMerged.new oddLs false)
        [.last, .prev, .prev, .prev, .next]).errf = [.corrupted] := by
  refine ⟨by decide +kernel, by decide +kernel, by decide +kernel⟩

/-- any children, with every error they report classified as a corruption -/
def corrOnly {σ : Type} (o : EIterOps σ) : EIterOps σ :=
  { o with err := fun s => (o.err s).map fun _ => Err.corrupted }

/-- non-vacuity: the children of the oddity; after `Last, Prev, Prev, Prev, Next` the iterator shows `d`, which
is the pair under child 0 -/
example : (EMerged.after (corrOnly (FailChild.ops (ArrIter.ops bytewise))) bytewise (EMerged.new oddLs false)
      [.last, .prev, .prev, .prev, .next]).err = none ∧
    ∀ e, (EMerged.ops (corrOnly (FailChild.ops (ArrIter.ops bytewise))) bytewise).cur
        (EMerged.after (corrOnly (FailChild.ops (ArrIter.ops bytewise))) bytewise (EMerged.new oddLs false)
          [.last, .prev, .prev, .prev, .next]) = some e →
      ∃ s ∈ (EMerged.after (corrOnly (FailChild.ops (ArrIter.ops bytewise))) bytewise (EMerged.new oddLs false)
          [.last, .prev, .prev, .prev, .next]).base.iters,
        (corrOnly (FailChild.ops (ArrIter.ops bytewise))).cur s = some e :=
  nonstrict_yields_only_genuine_pairs_partial (corrOnly (FailChild.ops (ArrIter.ops bytewise))) bytewise
    (fun s e h => by
      simp only [corrOnly, Option.map_eq_some_iff] at h
      obtain ⟨_, _, rfl⟩ := h
      rfl) oddLs [.last, .prev, .prev, .prev, .next]

example : (EMerged.ops (corrOnly (FailChild.ops (ArrIter.ops bytewise))) bytewise).cur
    (EMerged.after (corrOnly (FailChild.ops (ArrIter.ops bytewise))) bytewise (EMerged.new oddLs false)
      [.last, .prev, .prev, .prev, .next]) = some MergedExample.d := by decide +kernel

/-- **A call that leaves `Error()` nil is the error-free call** — for any children, strict or not: the state
after it is the state `MergedIter` (C02's model) reaches over the same children, a failed child being seen
through its masked `Key()`, i.e. as an exhausted one. -/
theorem call_without_error_is_error_free_call {σ : Type} (o : EIterOps σ) (c : UCmp) (cl : Call IKey)
    (m : EMerged σ) (hm : m.err = none) (h : ((EMerged.ops o c).toIterOps.step cl m).err = none) :
    ((EMerged.ops o c).toIterOps.step cl m).base = (MergedIter.ops o.toIterOps c).step cl m.base ∧
    (EMerged.ops o c).cur ((EMerged.ops o c).toIterOps.step cl m) =
      (MergedIter.ops o.toIterOps c).cur ((MergedIter.ops o.toIterOps c).step cl m.base) := by
  obtain ⟨h1, _⟩ := (EMerged.step_spec o c cl m hm).1 h
  refine ⟨h1, ?_⟩
  show EMerged.cur o _ = MergedIter.cur o.toIterOps _
  rw [EMerged.cur_base o _ h, h1]

example := call_without_error_is_error_free_call (FailChild.ops (ArrIter.ops bytewise)) bytewise .last
  (EMerged.new oddLs false) rfl (by decide)

/-- **Children that never fail**: the merged iterator with error handling, strict or not, answers every call
sequence exactly like `MergedIter` and never has an error — all theorems of C02 apply to it. -/
theorem errors_coincide_when_no_child_fails {σ : Type} (o : IterOps σ) (c : UCmp) (strict : Bool)
    (iters : List σ) (cs : List (Call IKey)) :
    (EMerged.ops o.noErr c).run (EMerged.new iters strict) cs
      = ((MergedIter.ops o c).run (MergedIter.new iters) cs).map (fun out => (out, none)) := by
  suffices h : ∀ (m : EMerged σ), m.err = none → MergedIter.Gen o m.base →
      (EMerged.ops o.noErr c).run m cs = ((MergedIter.ops o c).run m.base cs).map (fun out => (out, none)) from
    h _ rfl (MergedIter.gen_new o iters)
  induction cs with
  | nil => intro m _ _; rfl
  | cons cl cs ih =>
    intro m hm hg
    obtain ⟨he, _, hb⟩ := EMerged.step_of_no_fatal o.noErr c cl m hm hg.nrel fun _ _ h => nomatch h
    have hb : ((EMerged.ops o.noErr c).toIterOps.step cl m).base = (MergedIter.ops o c).step cl m.base := hb
    have hg' : MergedIter.Gen o ((EMerged.ops o.noErr c).toIterOps.step cl m).base := by
      rw [hb]; exact MergedIter.gen_step hg c cl
    simp only [EIterOps.run, IterOps.run, List.map_cons]
    rw [ih _ he hg', hb]
    congr 1
    show (EMerged.cur o.noErr _, ((EMerged.ops o.noErr c).toIterOps.step cl m).err) = _
    rw [EMerged.cur_base _ _ he, he, hb]
    rfl

example : (EMerged.ops (ArrIter.ops bytewise).noErr bytewise).run
      (EMerged.new (MergedExample.Ls.map fun L => (⟨L, .soi⟩ : ArrIter)) true) [.first, .next, .prev]
    = [(some MergedExample.a, none), (some MergedExample.b, none), (some MergedExample.a, none)] := by
  rw [errors_coincide_when_no_child_fails]; decide +kernel

/-- the same for the strict indexed iterator: a call on a healthy state that leaves `Error()` nil is the call of
`IndexedIter` (C02's model) on the same blocks, and the state is healthy again -/
theorem indexed_call_without_error_is_error_free_call (c : UCmp) (cl : Call IKey) (x : EIndexed)
    (hx : EIndexed.Healthy x) (h : ((EIndexed.ops c).toIterOps.step cl x).err = none) :
    EIndexed.Healthy ((EIndexed.ops c).toIterOps.step cl x) ∧
    EIndexed.proj ((EIndexed.ops c).toIterOps.step cl x) = (IndexedIter.ops c).step cl (EIndexed.proj x) ∧
    (EIndexed.ops c).cur ((EIndexed.ops c).toIterOps.step cl x)
      = (IndexedIter.ops c).cur ((IndexedIter.ops c).step cl (EIndexed.proj x)) := by
  obtain ⟨h1, h2⟩ := (EIndexed.failSim c).hstep x cl hx h
  exact ⟨h1, h2, by rw [← h2]; exact (EIndexed.failSim c).hcur _ h1⟩

example := indexed_call_without_error_is_error_free_call bytewise .first (EIndexed.new d40Blocks true)
  ⟨rfl, rfl, fun _ h => by cases h⟩ (by decide)

/-- … and for the DB iterator: whatever the raw iterator does, a call that leaves `Error()` nil has done to
the iterator state exactly what `DBIter` (C02's model) does over the raw iterator seen through `Key()`/`Valid()` -/
theorem dbiter_call_without_error_is_error_free_call {σ : Type} (chk : Bool) (o : EIterOps σ) (c : UCmp)
    (cl : Call Bytes) (d : EDBIter σ) (hd : d.err = none) (hr : d.base.dir ≠ .released)
    (h : (EDBIter.step chk o c cl d).err = none) :
    (EDBIter.step chk o c cl d).base = DBIter.step o.toIterOps c cl d.base := by
  unfold EDBIter.step at h ⊢
  simp only [hd, Option.isSome_none, Bool.false_eq_true, if_false, hr] at h ⊢
  cases hend : EDBIter.atEnd cl d with
  | true =>
    simp only [if_true]
    exact (EDBIter.atEnd_step o.toIterOps c cl d hend).symm
  | false =>
    simp only [hend, Bool.false_eq_true, if_false] at h ⊢
    rw [EDBIter.finish_of_none _ _ _ _ _ h]

example := dbiter_call_without_error_is_error_free_call true (EMerged.ops (ENode.ops bytewise) bytewise) bytewise
  .first (EDBIter.new (eRaw [.idx d40Blocks]) 100 10) rfl (by decide) (by decide)

def errTheorems : List String :=
  ["GoLevel.C02.strict_error_is_reported", "GoLevel.C02.strict_hides_no_error",
   "GoLevel.C02.code_prev_checks_err", "GoLevel.C02.strict_error_is_reported_db",
   "GoLevel.C02.strict_error_is_reported_db_pre_repair", "GoLevel.C02.d40_backward_serves_stale_pair",
   "GoLevel.C02.nonstrict_yields_only_genuine_pairs_partial", "GoLevel.C02.nonstrict_skips_healthy_entry",
   "GoLevel.C02.call_without_error_is_error_free_call", "GoLevel.C02.errors_coincide_when_no_child_fails",
   "GoLevel.C02.indexed_call_without_error_is_error_free_call",
   "GoLevel.C02.dbiter_call_without_error_is_error_free_call"]

end GoLevel.C02

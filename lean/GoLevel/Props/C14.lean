import GoLevel.Proofs.MemDBConc
import GoLevel.Proofs.MemArrIter
import GoLevel.Proofs.MemArrConcMain
import GoLevel.Proofs.MemArrGen
import GoLevel.Proofs.Key
/-!
# Property C14 — the in-memory table (`leveldb/memdb`)

"For any sequence of Put, Delete, Get, Find, Contains and iterator movements (with or without a range), the
in-memory table answers like a sorted map and reports Len and Size consistent with its contents.  Readers and
iterators running concurrently with a writer never crash, never yield keys out of order and never yield a
pair that was never stored."

Model: `GoLevel/Model/MemDB.lean` — an ideal skip list (`levels`, level 0 = all keys) with the search loops
`findGE` (with and without the `prev` path), `findLT`, `findLast` descending the towers like the Go loops,
`put` (tower height = the argument `h`, the value `randHeight` drew), `delete`, `reset`, the counters `n`,
`kvSize`, `used`, and `dbIter` (`fill`, `First/Last/Seek/Next/Prev`).  Specification: a sorted association
list (`SMap`) and the cursor of `GoLevel/Spec/Cursor.lean`.

The comparer is any `cmp` with `LawfulCmp cmp` (strict total order identifying only identical byte strings);
`lawful_bytewise` instantiates it for the built-in comparer.  The theorems quantify over all byte strings as
keys; the internal-key comparer is such an order only on well-formed internal keys (C15), for it the
correspondence is checked by the harness (`i:<cmp>` tables).

The array encoding: `GoLevel/Model/MemArr.lean` transcribes `memdb.go` over the flat arrays `kvData`/`nodeData`
(`prevNode`, `maxHeight`, `n`, `kvSize`), every function returning `none` for a Go panic or exhausted fuel.
`memarr_simulates_ideal` relates it to the ideal skip list through the representation relation `MemArr.Rep`
(`GoLevel/Proofs/MemArrBasic.lean`), `memarr_refines_map` composes that with `memdb_refines_map`.

After `Reset` (generation counter `gen`, repairs of D31 and D32) and after `Delete` of the node under an iterator:
`iterator_after_reset` gives the sorted-map reading of every move sequence of an iterator positioned before the last
`Reset` (arrays and ideal list with generations), `concurrent_readers` covers every interleaving of one writer doing
`Put`/`Delete`/`Reset` with readers and iterators at the array level (dead nodes included).  Only the array-level model
has dead nodes: the ideal list's `Next` from a deleted key ends the walk, the code (and `MemArr`) follows the dead
node's pointer; the harness sends those moves to the array-level model only.
-/
namespace GoLevel.C14
open GoLevel.MemDB

variable {cmp : Cmp}

/-- the built-in bytewise comparer satisfies the contract -/
theorem lawful_bytewise : LawfulCmp bytesCompare where
  refl := bytesCompare_refl
  eq_of := bytesCompare_eq
  gt_iff := bytesCompare_gt_iff
  trans := bytesCompare_trans

/-! ## the representation invariant -/

/-- `Inv`: every level strictly sorted, every higher level a sublist of every lower one, level 0 = the
domain of the key ↦ value map, `1 ≤ maxHeight ≤ tMaxHeight`, `n` and `kvSize` say what the contents are.
It holds for `New` and after every operation, whatever tower height in `1 … tMaxHeight` each `Put` draws;
adjacent levels in particular: level `h+1` is a sublist of level `h`. -/
theorem inv_preserved (hc : LawfulCmp cmp) :
    Inv cmp DB.empty ∧
    (∀ (db : DB) (op : Op), Inv cmp db → op.valid → Inv cmp (step cmp db op).1) ∧
    (∀ (ops : List Op), (∀ op ∈ ops, op.valid) → Inv cmp (exec cmp DB.empty ops)) ∧
    (∀ (db : DB), Inv cmp db → ∀ (h : Nat) (hh : h + 1 < db.levels.length),
      (db.levels[h + 1]).Sublist (db.levels[h])) := by
  refine ⟨inv_empty cmp, ?_, ?_, ?_⟩
  · intro db op h hv; exact (step_refines hc h op hv).1
  · intro ops hv; exact (exec_run_refines hc ops DB.empty (inv_empty cmp) hv).1
  · intro db h i hi
    exact (List.pairwise_iff_getElem.1 h.towers) i (i + 1) (by omega) hi (by omega)

/-- a table with towers of height 3, 1, 2: three levels, the higher ones thinner -/
example : (exec bytesCompare DB.empty [.put [2] [20] 3, .put [1] [10] 1, .put [3] [] 2]).levels =
    [[[1], [2], [3]], [[2], [3]], [[2]]] := by decide
example : (exec bytesCompare DB.empty [.put [2] [20] 3, .put [1] [10] 1, .put [3] [] 2, .delete [2]]).levels =
    [[[1], [3]], [[3]], []] := by decide

/-! ## the table is a sorted map -/

/-- For EVERY operation sequence (any tower heights) the answers of `Put`/`Delete`/`Get`/`Find`/`Contains`/
`Len`/`Size` are those of the sorted association list (`SMap.run` never looks at a height); the map the
table stands for is the sorted association list, strictly sorted by key; and on the table reached, every
sequence of iterator calls of a fresh iterator over any `[start, limit)` (either bound may be absent, the
range may be inverted) observes exactly what the specification cursor observes over the range-filtered
pairs. -/
theorem memdb_refines_map (hc : LawfulCmp cmp) (ops : List Op) (hv : ∀ op ∈ ops, op.valid) :
    run cmp DB.empty ops = SMap.run cmp [] ops ∧
    (exec cmp DB.empty ops).abs = SMap.exec cmp [] ops ∧
    MemDB.Sorted cmp ((SMap.exec cmp [] ops).map (·.1)) ∧
    ∀ (start limit : Option Bytes) (calls : List (Call Bytes)),
      Iter.run cmp (exec cmp DB.empty ops) { start := start, limit := limit } calls =
        Cursor.run (SMap.slice cmp start limit (SMap.exec cmp [] ops)) (SMap.ge cmp) .soi calls := by
  obtain ⟨hinv, habs, hrun⟩ := exec_run_refines hc ops DB.empty (inv_empty cmp) hv
  rw [abs_empty] at habs hrun
  refine ⟨hrun, habs, ?_, ?_⟩
  · rw [← habs, abs_eq, List.map_map]
    have : ((fun p : Bytes × Bytes => p.1) ∘ (exec cmp DB.empty ops).pair) = id := by funext x; rfl
    rw [this, List.map_id]
    exact hinv.sorted0
  · intro start limit calls
    rw [← habs]
    exact iter_run_eq_cursor hc hinv start limit false calls

/-- the same for the bytewise comparer -/
theorem memdb_refines_map_bytewise (ops : List Op) (hv : ∀ op ∈ ops, op.valid) :
    run bytesCompare DB.empty ops = SMap.run bytesCompare [] ops :=
  (memdb_refines_map lawful_bytewise ops hv).1

/-- an overwrite that changes the value length, a delete, a miss, Find past a gap, Len and Size -/
example : run bytesCompare DB.empty
    [.put [2] [20] 3, .put [1] [10] 1, .put [2] [21, 22] 1, .get [2], .find [1, 0], .size, .delete [1],
     .delete [1], .contains [1], .len, .size, .find [3]] =
    [.ok, .ok, .ok, .val [21, 22], .pair [2] [21, 22], .num 5, .ok, .notFound, .bool false, .num 1, .num 3,
     .notFound] := by decide
/-- a ranged iterator: Last, Prev off the start, Next back in, Seek below the start is clamped, Next off the limit -/
example : Iter.run bytesCompare (exec bytesCompare DB.empty [.put [1] [] 1, .put [2] [7] 2, .put [3] [8] 1, .put [4] [] 4])
    { start := some [2], limit := some [4] } [.last, .prev, .prev, .next, .seek [0], .next, .next, .prev] =
    [some ([3], [8]), some ([2], [7]), none, some ([2], [7]), some ([2], [7]), some ([3], [8]), none,
     some ([3], [8])] := by decide

/-! ## the array encoding (`kvData`, `nodeData`) -/

/-- The arrays simulate the ideal skip list.  `MemArr.Rep cmp a d ix` says that the arrays `a` represent the ideal
list `d` with the live node of key `k` at index `ix k`: every ideal level is the chain of next pointers of that level
from the head, the node fields are offset/lengths/height with the key and value bytes at those offsets of `kvData`, no
index dangles, the index ranges of live nodes are disjoint, `maxHeight`/`n`/`kvSize`/`len(kvData)` are the ideal
counters, the head's pointers above `maxHeight` are 0, `prevNode` is unconstrained scratch of length `tMaxHeight`.
Then: `New` is represented; every operation (`Put` with a height in `1 … tMaxHeight`, `Delete`, `Reset`, `Get`,
`Find`, `Contains`, `Len`, `Size`) on a represented state does not panic (result `some`), needs no more than
`len(nodeData)` loop iterations in any search (`lvlFuel d.levels ≤ a.nodeData.size`), returns the ideal answer and
re-establishes the relation; and every sequence of iterator moves (`fill` with its range checks inside
`First/Last/Seek/Next/Prev`) of a fresh iterator on a represented state yields the ideal iterator's pairs. -/
theorem memarr_simulates_ideal (hc : LawfulCmp cmp) :
    (∀ ix, MemArr.Rep cmp MemArr.DB.new DB.empty ix) ∧
    (∀ (a : MemArr.DB) (d : DB) (ix : Bytes → Nat) (op : Op), MemArr.Rep cmp a d ix → op.valid →
      MemArr.lvlFuel d.levels ≤ a.nodeData.size ∧
      ∃ a' ix', MemArr.step cmp a op = some (a', (step cmp d op).2) ∧ MemArr.Rep cmp a' (step cmp d op).1 ix') ∧
    (∀ (a : MemArr.DB) (d : DB) (ix : Bytes → Nat), MemArr.Rep cmp a d ix →
      ∀ (start limit : Option Bytes) (calls : List (Call Bytes)),
        MemArr.Iter.run cmp a { start := start, limit := limit } calls =
          some (Iter.run cmp d { start := start, limit := limit } calls)) := by
  refine ⟨fun ix => MemArr.rep_new ix, ?_, ?_⟩
  · intro a d ix op r hv
    exact ⟨r.fuel_ok, MemArr.step_sim hc r op hv⟩
  · intro a d ix r start limit calls
    exact MemArr.iter_run_sim hc r calls (MemArr.IterRep.unpositioned a d ix rfl)

/-- the arrays after `Put [2]→[20]` (height 3), `Put [1]→[10]` (height 1), the overwrite `Put [2]→[21,22]` and
`Delete [1]`: the overwritten bytes `[2,20]` and the deleted pair `[1,10]` stay in `kvData`, node 16 (key `[2]`) has
the new offset 4 and value length 2 but its old key length, the dead node 23 still points to node 16, the head
points to node 16 on all three levels -/
example : (MemArr.exec bytesCompare MemArr.DB.new
      [.put [2] [20] 3, .put [1] [10] 1, .put [2] [21, 22] 1, .delete [1]]).map
    (fun a => (a.nodeData.toList, a.kvData.toList, a.maxHeight, a.n, a.kvSize)) =
    some ([0, 0, 0, 12, 16, 16, 16, 0, 0, 0, 0, 0, 0, 0, 0, 0, 4, 1, 2, 3, 0, 0, 0, 2, 1, 1, 1, 16],
      [2, 20, 1, 10, 2, 21, 22], 3, 1, 3) := by decide +kernel

/-- For EVERY operation sequence with heights in `1 … tMaxHeight` the array implementation started from `New` never
panics and answers `Put`/`Delete`/`Get`/`Find`/`Contains`/`Len`/`Size` exactly like the sorted association list; the
state reached has `n` = number of pairs and `kvSize` = the sum of their key and value lengths; and on it every sequence
of iterator calls of a fresh iterator over any `[start, limit)` observes exactly what the specification cursor observes
over the range-filtered pairs (`memarr_simulates_ideal` composed with `memdb_refines_map`). -/
theorem memarr_refines_map (hc : LawfulCmp cmp) (ops : List Op) (hv : ∀ op ∈ ops, op.valid) :
    MemArr.run cmp MemArr.DB.new ops = some (SMap.run cmp [] ops) ∧
    ∃ a, MemArr.exec cmp MemArr.DB.new ops = some a ∧
      a.n = (SMap.exec cmp [] ops).length ∧ a.kvSize = SMap.size (SMap.exec cmp [] ops) ∧
      ∀ (start limit : Option Bytes) (calls : List (Call Bytes)),
        MemArr.Iter.run cmp a { start := start, limit := limit } calls =
          some (Cursor.run (SMap.slice cmp start limit (SMap.exec cmp [] ops)) (SMap.ge cmp) .soi calls) := by
  obtain ⟨h1, h2, _, h4⟩ := memdb_refines_map hc ops hv
  obtain ⟨hrun, a, ix, e, r⟩ := MemArr.exec_run_sim hc ops (MemArr.rep_new (cmp := cmp) (fun _ => 0)) hv
  refine ⟨by rw [hrun, h1], a, e, ?_, ?_, ?_⟩
  · rw [r.n, r.inv.len, ← h2, abs_eq, List.length_map]
  · rw [r.kvSize, r.inv.size, h2]
  · intro start limit calls
    rw [MemArr.iter_run_sim hc r calls (MemArr.IterRep.unpositioned a _ ix (ai := { start := start, limit := limit }) rfl), h4]

/-- `kvData` is append-only (no hypothesis on the state): every operation other than `Reset` leaves the bytes already
in `kvData` where they are — `Put` appends key and value (also when it overwrites: the old bytes stay), `Delete`
reclaims nothing.  This is what makes the `Key()`/`Value()` slices handed out by `Get`/`Find`/iterators stable until
the next `Reset`. -/
theorem memarr_kvdata_append_only (a a' : MemArr.DB) (op : Op) (ans : Ans) (hop : op ≠ .reset)
    (h : MemArr.step cmp a op = some (a', ans)) : ∃ ext : Array UInt8, a'.kvData = a.kvData ++ ext :=
  MemArr.step_kvData_grows hop h

/-- an overwrite appends the new pair behind the old one -/
example : (MemArr.exec bytesCompare MemArr.DB.new [.put [1] [10] 1, .put [1] [11] 1]).map (·.kvData.toList) =
    some [1, 10, 1, 11] := by decide +kernel

/-- the same for the bytewise comparer -/
theorem memarr_refines_map_bytewise (ops : List Op) (hv : ∀ op ∈ ops, op.valid) :
    MemArr.run bytesCompare MemArr.DB.new ops = some (SMap.run bytesCompare [] ops) :=
  (memarr_refines_map lawful_bytewise ops hv).1

/-- the op list of the ideal model's example, answered by the arrays -/
example : MemArr.run bytesCompare MemArr.DB.new
    [.put [2] [20] 3, .put [1] [10] 1, .put [2] [21, 22] 1, .get [2], .find [1, 0], .size, .delete [1],
     .delete [1], .contains [1], .len, .size, .find [3]] =
    some [.ok, .ok, .ok, .val [21, 22], .pair [2] [21, 22], .num 5, .ok, .notFound, .bool false, .num 1, .num 3,
     .notFound] := by decide +kernel
/-- a ranged iterator over the arrays: the same moves and pairs as the ideal model's example -/
example : (MemArr.exec bytesCompare MemArr.DB.new [.put [1] [] 1, .put [2] [7] 2, .put [3] [8] 1, .put [4] [] 4]).bind
    (fun a => MemArr.Iter.run bytesCompare a { start := some [2], limit := some [4] }
      [.last, .prev, .prev, .next, .seek [0], .next, .next, .prev]) =
    some [some ([3], [8]), some ([2], [7]), none, some ([2], [7]), some ([2], [7]), some ([3], [8]), none,
     some ([3], [8])] := by decide +kernel
/-- what only the arrays can say: `Next` from a node that has just been deleted follows the dead node's pointer
(here to the successor `[3]`), `Prev` searches with the dead node's key -/
example : (MemArr.exec bytesCompare MemArr.DB.new [.put [1] [10] 1, .put [2] [20] 2, .put [3] [30] 1]).bind
    (fun a => (MemArr.Iter.seek bytesCompare a [2] {}).bind fun s =>
      (MemArr.delete bytesCompare a [2]).bind fun r =>
        (MemArr.Iter.next bytesCompare r.1 s.1).bind fun n =>
          (MemArr.Iter.prev bytesCompare r.1 s.1).map fun p => (s.1.node, [n.1.out, p.1.out])) =
    some (21, [some ([3], [30]), some ([1], [10])]) := by decide +kernel

/-! ## readers and iterators interleaved with a writer -/

/-- The statement over the IDEAL list: arbitrary writer operations (`Put`, `Delete`, `Reset`) interleaved with the moves
of an iterator.  Kept as a statement only: the ideal list has no unlinked nodes and no generations, so it does not
describe what the code does after `Delete` of the node under an iterator or after `Reset`.  The property is proved at
full strength over the array-level model, where those exist: `concurrent_readers` below. -/
def concurrent_readers_full (cmp : Cmp) : Prop :=
  ∀ (st lm : Option Bytes) (evs : List Ev),
    (∀ e ∈ evs, match e with | .put _ _ h => 1 ≤ h ∧ h ≤ Gen.tMaxHeight | _ => True) →
    let s := cexec cmp { db := DB.empty, it := { start := st, limit := lm } } evs
    (∀ c k v, cyield cmp s c = some (k, v) → ∃ h, Ev.put k v h ∈ evs) ∧
    (∀ c1 k1 v1, cyield cmp s c1 = some (k1, v1) → ∀ ws : List Ev, (∀ e ∈ ws, e.isMove = false) →
      ∀ k2 v2, cyield cmp (cexec cmp (cstep cmp s (.move c1)) ws) .next = some (k2, v2) → cmp k1 k2 = .lt)

/-- Interleaving model: every public method and every iterator step is atomic (this is what `mu` gives —
ASSUMED, together with the absence of any other shared mutable state on the read paths, which holds for
`findGE(…, false)`/`findLT`/`findLast`/`fill`: only `findGE(…, true)` writes `prevNode`, under the write
lock).  Operations admitted while the iterator is in use (`Ev.putOnly`): `Put` of new keys and overwrites
with any tower height in `1 … tMaxHeight`, steps that do not change the table (`Get`/`Find`/`Contains`/
`Len`/`Size`, steps of other iterators), and the iterator's own `First/Last/Seek/Next/Prev` — no `Delete`,
no `Reset`.  Then, from an empty table and a fresh iterator over any range, after any such interleaving:
every pair a move yields was put at some earlier time (with exactly that value) and lies in the range; and
whatever the writer does between two moves, a `Next` yields a key strictly above the previously yielded one
and a `Prev` a key strictly below it. -/
theorem concurrent_readers_partial (hc : LawfulCmp cmp) (st lm : Option Bytes) (evs : List Ev)
    (hev : ∀ e ∈ evs, e.putOnly) :
    let s := cexec cmp { db := DB.empty, it := { start := st, limit := lm } } evs
    (∀ c k v, cyield cmp s c = some (k, v) → (∃ h, Ev.put k v h ∈ evs) ∧ inR cmp st lm k = true) ∧
    (∀ c1 k1 v1, cyield cmp s c1 = some (k1, v1) →
      ∀ ws : List Ev, (∀ e ∈ ws, e.putOnly ∧ e.isMove = false) →
        (∀ k2 v2, cyield cmp (cexec cmp (cstep cmp s (.move c1)) ws) .next = some (k2, v2) → cmp k1 k2 = .lt) ∧
        (∀ k2 v2, cyield cmp (cexec cmp (cstep cmp s (.move c1)) ws) .prev = some (k2, v2) → cmp k2 k1 = .lt)) := by
  intro s
  have hinit := cinv_init cmp st lm
  have hs : CInv cmp st lm s := cexec_cinv hc evs _ hinit hev
  have hall : AllPut s evs := by
    have := cexec_allPut hc evs [] _ hinit hev (by intro p hp; simp [abs_empty] at hp)
    simpa using this
  refine ⟨?_, ?_⟩
  · intro c k v hy
    obtain ⟨_, hk, hmem⟩ := cyield_mem hc hs c hy
    exact ⟨hall (k, v) hmem, (mem_sliceKeys.1 hk).2⟩
  · intro c1 k1 v1 hy ws hws
    have hnode := (cyield_mem hc hs c1 hy).1
    have h2 := cexec_cinv hc ws _ (move_cinv hc hs c1) (fun e he => (hws e he).1)
    have hit : (cexec cmp (cstep cmp s (.move c1)) ws).it.node = some k1 := by
      rw [cexec_it_of_noMove ws _ (fun e he => (hws e he).2)]
      exact hnode
    exact next_prev_order hc h2 hit

/-- a writer putting between the moves: the iterator sees the new key 2 on `Next`, the overwritten value of
key 3 afterwards, and every yielded pair was put -/
example :
    let evs := [Ev.put [1] [10] 1, .put [3] [30] 2, .move .first, .put [2] [20] 3, .move .next, .put [3] [31] 1]
    let s := cexec bytesCompare {} evs
    s.it.node = some [2] ∧ cyield bytesCompare s .next = some ([3], [31]) ∧ cyield bytesCompare s .prev = some ([1], [10]) := by
  decide
/-- the restriction matters: after `Delete` of the node under the iterator the model's `Next` ends the walk,
whereas the Go code would continue from the dead node — these histories are outside the theorem -/
example : cyield bytesCompare (cexec bytesCompare {} [Ev.put [1] [] 1, .put [2] [] 1, .move .first, .delete [1]]) .next = none := by
  decide

/-! ## iterator moves after `Reset` (generation counter: repairs of D31 and D32) -/

/-- On the table reached by ANY operation sequence (`Reset`s included), an iterator that was positioned in an older
generation (`node ≠ 0`, `gen ≠ DB.gen` — every iterator positioned before the last `Reset` is such: generations only
grow, `concurrent_readers` keeps `it.gen ≤ DB.gen`) answers every sequence of moves like the cursor over the range-filtered
pairs of the CURRENT table that is first moved by `staleStep`: `Next` finds it exhausted at the end (a following `Prev`
goes to the last pair), `Prev` finds it exhausted at the start (a following `Next` goes to the first pair), `First`/
`Last`/`Seek` are absolute.  Nothing of the old generation is read: no node index, no key bytes.  An iterator that is not
positioned continues as the cursor at the start/end, whatever its generation.  The same holds for the ideal list with
generations (`MemDB.GIter`, the model the driver runs). -/
theorem iterator_after_reset (hc : LawfulCmp cmp) (ops : List Op) (hv : ∀ op ∈ ops, op.valid) :
    ∃ a, MemArr.exec cmp MemArr.DB.new ops = some a ∧
      (∀ ai : MemArr.Iter, ai.node ≠ 0 → ai.gen ≠ a.gen → ∀ (c : Call Bytes) (cs : List (Call Bytes)),
        MemArr.Iter.run cmp a ai (c :: cs) =
          some (let S := SMap.slice cmp ai.start ai.limit (SMap.exec cmp [] ops)
                Cursor.get S (staleStep S (SMap.ge cmp) c) ::
                  Cursor.run S (SMap.ge cmp) (staleStep S (SMap.ge cmp) c) cs)) ∧
      (∀ ai : MemArr.Iter, ai.node = 0 → ∀ cs : List (Call Bytes),
        MemArr.Iter.run cmp a ai cs =
          some (Cursor.run (SMap.slice cmp ai.start ai.limit (SMap.exec cmp [] ops)) (SMap.ge cmp)
            (if ai.forward then .eoi else .soi) cs)) ∧
      (∀ (g : Nat) (x : GIter) (k : Bytes), x.it.node = some k → x.gen ≠ g →
        ∀ (c : Call Bytes) (cs : List (Call Bytes)),
        GIter.run cmp (exec cmp DB.empty ops) g x (c :: cs) =
          (let S := SMap.slice cmp x.it.start x.it.limit (SMap.exec cmp [] ops)
           Cursor.get S (staleStep S (SMap.ge cmp) c) ::
             Cursor.run S (SMap.ge cmp) (staleStep S (SMap.ge cmp) c) cs)) := by
  obtain ⟨_, h2, _, _⟩ := memdb_refines_map hc ops hv
  obtain ⟨_, a, ix, e, r⟩ := MemArr.exec_run_sim hc ops (MemArr.rep_new (cmp := cmp) (fun _ => 0)) hv
  refine ⟨a, e, ?_, ?_, ?_⟩
  · intro ai hne hg c cs
    rw [MemArr.iter_run_stale hc r ai hne hg c cs, h2]
  · intro ai h0 cs
    rw [MemArr.iter_run_unpositioned hc r ai h0 cs, h2]
  · intro g x k hn hg c cs
    rw [GIter.run_stale hc r.inv g x hn hg c cs, h2]

/-- an iterator over `[[2], [9])` positioned on `[3]`; `Reset`; `Put [1]`, `[4]`, `[5]`: `Next` is exhausted, the `Prev`
after it goes to the last pair `[5]`; in the same situation `Prev` is exhausted and the `Next` after it goes to the
first pair of the range, `[4]` -/
example :
    let evs : List MemArr.Ev :=
      [.op (.put [3] [30] 2), .op (.put [7] [70] 1), .move (.seek [3]), .op .reset, .op (.put [1] [10] 1),
       .op (.put [4] [40] 1), .op (.put [5] [50] 2)]
    (MemArr.cexec bytesCompare ⟨MemArr.DB.new, { start := some [2], limit := some [9] }⟩ evs).bind (fun s =>
      (MemArr.Iter.run bytesCompare s.db s.it [.next, .prev, .next]).bind fun o1 =>
      (MemArr.Iter.run bytesCompare s.db s.it [.prev, .next, .prev]).map fun o2 => [o1, o2]) =
    some [[none, some ([5], [50]), none], [none, some ([4], [40]), none]] ∧
    (MemArr.cexec bytesCompare ⟨MemArr.DB.new, { start := some [2], limit := some [9] }⟩ evs).map
      (fun s => [s.it.node, s.it.gen, s.db.gen]) = some [16, 0, 1] := by decide +kernel

/-! ## one writer (`Put`, `Delete`, `Reset`), readers and iterators: the array-level interleaving model -/

/-- Interleaving model `MemArr.cexec` (`Model/MemArr.lean`): every public method and every iterator movement is one
atomic step (this is what `mu` gives — ASSUMED, see `code_methods_atomic`); an execution observed from one iterator over
`[st, lm)` is any interleaving of operations (`op`: the writer's `Put` with any height `randHeight` can draw, `Delete`,
`Reset`; `Get`/`Find`/`Contains`/`Len`/`Size` of any reader; steps of other iterators do not change the table) and moves
of the observed iterator, on the arrays as the code has them (dead nodes, generations).  From `New` and a fresh
iterator, for EVERY such history:
* no step panics — the whole history runs (`some s`), and so does any further step of any participant;
* every pair a move yields was put since the last `Reset` with exactly that value (`MemArr.putsOf`; by
  `concurrent_puts_were_put` some `Put k v` is in the history) and lies in the range.  The pair may have been deleted
  or overwritten in the meantime: an iterator sitting on a node that is deleted afterwards walks on through the dead
  node's pointer and may land on — and yield — further deleted nodes; what it yields is the last value each had;
* after a move that yielded `k1`, whatever the writer and the other readers do next (`ws`): if nobody resets the table,
  `Next` yields a key strictly above `k1` and `Prev` a key strictly below `k1` (or nothing); if somebody resets it, `Next`
  and `Prev` both find the iterator exhausted (D31/D32), whatever has been put since.
Before the repair of D32 the range clause was false for `Prev` after `Reset`: `Prev` searched with the stale key
slice and `fill(true, false)` does not test the limit — `New; Put b; it=[nil,m); First; Reset; Put z; Put y; Prev`
yielded `y` (replayed on the code of commit 795d208). -/
theorem concurrent_readers (hc : LawfulCmp cmp) (st lm : Option Bytes) (evs : List MemArr.Ev)
    (hv : ∀ e ∈ evs, e.valid) :
    ∃ s, MemArr.cexec cmp ⟨MemArr.DB.new, { start := st, limit := lm }⟩ evs = some s ∧
      (∀ e : MemArr.Ev, e.valid → (MemArr.cstep cmp s e).isSome) ∧
      (∀ c, ∃ r, MemArr.cyield cmp s c = some r ∧
        ∀ k v, r = some (k, v) → (k, v) ∈ MemArr.putsOf evs ∧ inR cmp st lm k = true) ∧
      (∀ c1 k1 v1, MemArr.cyield cmp s c1 = some (some (k1, v1)) →
        ∀ ws : List MemArr.Ev, (∀ e ∈ ws, e.valid ∧ e.isMove = false) →
        ∃ s1 s2, MemArr.cstep cmp s (.move c1) = some s1 ∧ MemArr.cexec cmp s1 ws = some s2 ∧
          (if ws.any MemArr.Ev.isReset then
            MemArr.cyield cmp s2 .next = some none ∧ MemArr.cyield cmp s2 .prev = some none
          else
            (∀ k2 v2, MemArr.cyield cmp s2 .next = some (some (k2, v2)) → cmp k1 k2 = .lt) ∧
            (∀ k2 v2, MemArr.cyield cmp s2 .prev = some (some (k2, v2)) → cmp k2 k1 = .lt))) := by
  obtain ⟨s, e, h, _⟩ := MemArr.cexec_ok hc evs (MemArr.cinvA_init cmp st lm) hv
  refine ⟨s, e, ?_, ?_, ?_⟩
  · intro ev hev
    obtain ⟨s', e', _⟩ := MemArr.cstep_ok hc h ev hev
    simp [e']
  · intro c; exact MemArr.cyield_ok hc h c
  · intro c1 k1 v1 hy ws hws; exact MemArr.corder_ok hc h c1 hy ws hws

/-- the pairs `concurrent_readers` speaks of were put by events of the history -/
theorem concurrent_puts_were_put (evs : List MemArr.Ev) (k v : Bytes) (h : (k, v) ∈ MemArr.putsOf evs) :
    ∃ ht, MemArr.Ev.op (.put k v ht) ∈ evs := by
  rcases MemArr.putsOf_sub evs [] (k, v) h with h | h
  · simp at h
  · exact h

/-- an iterator sits on `[2]`; `[2]` and its successor `[3]` are deleted, `[2,5]` is put: `Next` walks through the dead
node `[2]` to the dead node `[3]` and yields the deleted pair (it was put), then reaches `[4]`; after a `Reset` and new
puts, `Next` and `Prev` are exhausted -/
example :
    let evs : List MemArr.Ev :=
      [.op (.put [1] [10] 1), .op (.put [2] [20] 2), .op (.put [3] [30] 1), .op (.put [4] [40] 3), .move (.seek [2]),
       .op (.delete [2]), .op (.delete [3]), .op (.put [2, 5] [25] 1)]
    (MemArr.cexec bytesCompare ⟨MemArr.DB.new, {}⟩ evs).bind (fun s =>
      (MemArr.cexec bytesCompare s [.move .next, .move .next]).bind fun s2 =>
      (MemArr.cexec bytesCompare s2 [.op .reset, .op (.put [9] [90] 1)]).map fun s3 =>
        [MemArr.cyield bytesCompare s .next, MemArr.cyield bytesCompare s .prev,
         MemArr.cyield bytesCompare s2 .prev, MemArr.cyield bytesCompare s3 .next,
         MemArr.cyield bytesCompare s3 .prev]) =
    some [some (some ([3], [30])), some (some ([1], [10])), some (some ([2, 5], [25])), some none, some none] := by
  decide +kernel

/-- The atomicity assumed by `concurrent_readers_partial`, as far as the source shows it: the extractor reads
off `memdb.go` that every public `DB` method and every iterator movement touches the skip-list arrays only
between taking `mu` and releasing it — one critical section per call (`Gen.memMethodsAtomic`, regenerated
from the Go AST on every run).  That Go's `sync.RWMutex` then makes those sections atomic is assumed. -/
theorem code_methods_atomic : Gen.memMethodsAtomic = true := by decide

/-- The theorems of this file are about comparers under which equal keys are the same bytes (`LawfulCmp.eq_of`);
there an overwrite never changes the key's length.  For the comparers outside that class (lawful, but calling keys of
different lengths equal) the code keeps the node in step with the key it appends since the repair of D56 — the
regenerated fact below — and the check exercises such a comparer against a map keyed by canonical forms
(`harness/checks/c14ninj.go`). -/
theorem code_put_sets_key_length : Gen.memPutSetsKeyLenOnOverwrite = true := by decide

end GoLevel.C14

namespace GoLevel
def C14.theorems : List String :=
  ["GoLevel.C14.code_put_sets_key_length", "GoLevel.C14.lawful_bytewise", "GoLevel.C14.inv_preserved", "GoLevel.C14.memdb_refines_map",
   "GoLevel.C14.memdb_refines_map_bytewise", "GoLevel.C14.concurrent_readers_partial",
   "GoLevel.C14.code_methods_atomic", "GoLevel.C14.memarr_simulates_ideal", "GoLevel.C14.memarr_refines_map",
   "GoLevel.C14.memarr_refines_map_bytewise", "GoLevel.C14.memarr_kvdata_append_only", "GoLevel.C14.concurrent_readers",
   "GoLevel.C14.concurrent_puts_were_put", "GoLevel.C14.iterator_after_reset"]
end GoLevel

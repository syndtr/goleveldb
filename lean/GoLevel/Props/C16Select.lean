import GoLevel.Model.FilterSelect
/-!
# C16 / C13 — a table is only ever read with the policy it names

Model: `GoLevel/Model/FilterSelect.lean` (the choice `table.NewReader` makes for the `filter.<name>` metaindex entry
among `Options.Filter` and `Options.AltFilters`).

* `select_name` — the adopted policy carries the recorded name and is one of the configured policies;
* `select_none_iff` — the table is read WITHOUT a filter exactly when no configured policy carries the recorded name;
* `select_hides_nothing` — under the `Name` contract of `filter.Filter` (same name ⇒ same encoding) and for a lawful
  writer policy, whatever `NewReader` adopts reports every stored key present: the filtered lookups of C13 / C16 lose
  nothing, for every `Filter` / `AltFilters` configuration;
* `foreign_policy_hides_key` — the contract is needed: handing a filter block to a lawful policy of ANOTHER name can hide a
  stored key (what a reader that adopts "the last alternative" does; seeded change `C13-altfilter-last-adopted`).

Tie: `tbl select` lines — tables written under three policies of unrelated formats are opened by the real `NewReader` under
every `Filter` / `AltFilters` combination drawn from them; the name of the policy the real reader adopted (read off
the reader by reflection) must be the model's.
-/
namespace GoLevel.C16Select
open GoLevel GoLevel.FilterSelect

/-- the two-stage choice of `NewReader` is one search through `Filter` followed by `AltFilters` -/
theorem select_eq_find (main : Option FilterPolicy) (alts : List FilterPolicy) (fn : Bytes) :
    select main alts fn = (main.toList ++ alts).find? (fun f => f.name == fn) := by
  cases main with
  | none => rfl
  | some f0 => by_cases h : f0.name = fn <;> simp [select, h]

theorem select_name (main : Option FilterPolicy) (alts : List FilterPolicy) (fn : Bytes) (p : FilterPolicy)
    (h : select main alts fn = some p) : p.name = fn ∧ p ∈ main.toList ++ alts := by
  rw [select_eq_find] at h
  have hn := List.find?_some h
  exact ⟨beq_iff_eq.1 hn, List.mem_of_find?_eq_some h⟩

theorem select_none_iff (main : Option FilterPolicy) (alts : List FilterPolicy) (fn : Bytes) :
    select main alts fn = none ↔ ∀ p ∈ main.toList ++ alts, p.name ≠ fn := by
  simp only [select_eq_find, List.find?_eq_none, beq_iff_eq, ne_eq]

theorem select_hides_nothing (w : FilterPolicy) (hw : LawfulFilter w) (main : Option FilterPolicy)
    (alts : List FilterPolicy)
    (hcontract : ∀ p ∈ main.toList ++ alts, p.name = w.name → p.contains = w.contains)
    (keys : List Bytes) (k : Bytes) (hk : k ∈ keys) :
    match select main alts w.name with
    | some p => p.contains (w.generate keys) k = true
    | none => True := by
  cases hs : select main alts w.name with
  | none => trivial
  | some p =>
    obtain ⟨hn, hm⟩ := select_name main alts w.name p hs
    show p.contains (w.generate keys) k = true
    rw [hcontract p hm hn]
    exact hw keys k hk

private def polA : FilterPolicy := ⟨[65], fun _ => [1], fun _ _ => true⟩
private def polB : FilterPolicy := ⟨[66], fun _ => [2], fun f _ => f == [2]⟩

theorem foreign_policy_hides_key :
    LawfulFilter polA ∧ LawfulFilter polB ∧ polA.name ≠ polB.name ∧
    polB.contains (polA.generate [[7]]) [7] = false ∧
    (select none [polB] polA.name).isNone = true ∧
    (select (some polB) [polA] polA.name).map (·.name) = some polA.name := by
  refine ⟨fun _ _ _ => rfl, fun _ _ _ => rfl, by decide, by decide, by decide, by decide⟩

end GoLevel.C16Select

def GoLevel.C16Select.theorems : List String :=
  ["GoLevel.C16Select.select_name", "GoLevel.C16Select.select_none_iff", "GoLevel.C16Select.select_hides_nothing",
   "GoLevel.C16Select.foreign_policy_hides_key"]

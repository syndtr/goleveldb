import GoLevel.Proofs.DurableTrans
import GoLevel.Props.C08
/-!
# Property C11 on the durable machine — transactions are atomic and leave no residue when discarded

`Props/C11.lean` has the isolation theorems over `Model/Conc`.  Here: what the durable state machine
(`Model/Durable.lean`, the machine of C04/C08) gives for `OpenTransaction … Commit / Discard`.  A transaction is the
write group `St.tr` (numbered from `db.seq + 1`, `sync = true`); `Commit` is a job of kind `tr` (one table with the
group, one manifest edit with `seqNum := tr.seq`, then `db.setSeq`, the acknowledgement); `Discard` drops it —
before `Commit` (`stepTr .trDiscard`: nothing is on the storage) or after a failed `Commit`
(`Dur.trDiscardJob`: the table is removed, unless the manifest is uncertain).

* **(a) `tr_commit_crash_atomic`** (from `C04.crash_consistent`): every crash image of every reachable state opens,
  what it delivers are whole issued groups — for every issued group, the transaction's included, all of its
  entries or none as a group — and every group acknowledged with `Sync`, hence every committed transaction
  (`tr_commit_acknowledged`), is among them.  `tr_commit_crash_atomic_faults`: the same under the storage faults of
  `C08.fault_safe_writer` (every good configuration); `tr_commit_crash_atomic_any_fault`: under every storage fault
  (the repaired configuration).
* **(b) `tr_discard_no_residue`**: no crash image taken while the transaction is open and its commit record has
  not been written — from `OpenTransaction` through every `Put`, through the table phase of `Commit`, up to the
  append — delivers a group that reaches into the transaction's sequence numbers (`tr_invisible_before_commit`);
  `Discard` after a failed `Commit` removes every table file of the transaction (`discard_removes_tables`), none of
  which is live in any admissible view of the manifest (`discard_tables_never_live`), the invariant holds afterwards
  (`Dur.inv_trDiscardJob`), and still no crash image delivers anything of the transaction.
  *Not stated*: "never named by any manifest record" for manifest files other than the one `CURRENT` names — the
  invariant speaks about the admissible views of the current manifest only (in a fault-free run there is no other
  manifest at that point, but that is not a theorem here).
* **(c) with faults (the shape of D10)**: while `session.manifestFailed` is set `Discard` keeps the tables
  (`discard_keeps_tables_when_uncertain`).  What the model gives after that, as explicit runs: if the record of the
  failed commit did reach the manifest and the DB is reopened before the next rotation, `Open` sees the
  transaction as a whole (`adopted_after_reopen`); otherwise the next successful commit writes a new manifest from
  the session's version, which does not name the table: the file is an orphan, and the janitor of the next `Open`
  removes it — that *is* in the model (`stepJob` at `.install` of the final commit of a recovery:
  `checkAndCleanFiles` removes every table the new version does not need; `orphan_removed_by_next_open`).  The general
  theorem for both cases is `tr_commit_crash_atomic_any_fault` (from `C08.fault_safe`, the repaired configuration, every
  storage fault): whatever fails, a crash image holds the discarded transaction as a whole or not at all, and every
  acknowledged commit.  In the invariant the discarded transaction whose record is in the manifest is
  `Dur.OrphanOK`: one synced table with one group, reported as failed, its sequence numbers consumed.
-/
namespace GoLevel.C11Dur
open GoLevel GoLevel.Dur

/-! ## (a) a committed transaction is all there or not at all, and there once acknowledged -/

theorem atomic_of_consistent {c : UCmp} {s : St} {r : RState} {sel : List Grp} (h : C04.Consistent c s r sel) :
    (∀ g ∈ issuedGrps s, (g ∈ r.grps ∧ ∀ e ∈ g.ents, e ∈ r.entries) ∨ g ∉ r.grps) ∧
    (∀ e ∈ r.entries, ∃ g ∈ issuedGrps s, g ∈ r.grps ∧ e ∈ g.ents ∧ ∀ e' ∈ g.ents, e' ∈ r.entries) ∧
    (∀ g ∈ C04.ackedSync s, ∀ e ∈ g.ents, e ∈ r.entries) := by
  have hin : ∀ g ∈ r.grps, ∀ e ∈ g.ents, e ∈ r.entries := fun g hg e he =>
    List.mem_flatMap.2 ⟨g, hg, he⟩
  refine ⟨fun g _ => ?_, fun e he => ?_, fun g hg e he => ?_⟩
  · by_cases hgr : g ∈ r.grps
    · exact Or.inl ⟨hgr, hin g hgr⟩
    · exact Or.inr hgr
  · obtain ⟨g, hg, heg⟩ := List.mem_flatMap.1 he
    exact ⟨g, h.sub.subset ((h.whole g).2 hg), hg, heg, hin g hg⟩
  · exact hin g ((h.whole g).1 (h.acked g hg)) e he

/-- **(a)** every crash image of every state reachable without storage faults opens; it delivers whole issued
    groups only — all entries of a group or the group not at all —, and every group acknowledged with `Sync`
    (a committed transaction is one: `tr_commit_acknowledged`) -/
theorem tr_commit_crash_atomic {cfg : Cfg} (hg : cfg.Good) {s : St} {d : Disk}
    (hr : ∃ as, (∀ a ∈ as, a.noFault = true) ∧ run cfg init as = some (s, d))
    {d' : Disk} (hi : IsCrashImage d d') {c : UCmp} (hl : LawfulUCmp c) (hw : ∀ g ∈ issuedGrps s, g.wf) :
    ∃ r, recoverR cfg d' = .ok r ∧
      (∀ g ∈ issuedGrps s, (g ∈ r.grps ∧ ∀ e ∈ g.ents, e ∈ r.entries) ∨ g ∉ r.grps) ∧
      (∀ e ∈ r.entries, ∃ g ∈ issuedGrps s, g ∈ r.grps ∧ e ∈ g.ents ∧ ∀ e' ∈ g.ents, e' ∈ r.entries) ∧
      (∀ g ∈ C04.ackedSync s, ∀ e ∈ g.ents, e ∈ r.entries) := by
  obtain ⟨r, hrec, sel, hsel⟩ := C04.crash_consistent cfg hg s d hr d' hi c hl hw
  exact ⟨r, hrec, atomic_of_consistent hsel⟩

/-- … and under the storage faults of `C08.fault_safe_writer` -/
theorem tr_commit_crash_atomic_faults {cfg : Cfg} (hg : cfg.Good) (hcs : cfg.consumeSeqOnJournalError = true)
    {as : List Act} {s : St} {d : Disk}
    (hal : Allowed cfg Act.faultsOK init as) (hr : run cfg init as = some (s, d))
    {d' : Disk} (hi : IsCrashImage d d') {c : UCmp} (hl : LawfulUCmp c) (hw : ∀ g ∈ issuedGrps s, g.wf) :
    ∃ r, recoverR cfg d' = .ok r ∧
      (∀ g ∈ issuedGrps s, (g ∈ r.grps ∧ ∀ e ∈ g.ents, e ∈ r.entries) ∨ g ∉ r.grps) ∧
      (∀ e ∈ r.entries, ∃ g ∈ issuedGrps s, g ∈ r.grps ∧ e ∈ g.ents ∧ ∀ e' ∈ g.ents, e' ∈ r.entries) ∧
      (∀ g ∈ C04.ackedSync s, ∀ e ∈ g.ents, e ∈ r.entries) := by
  obtain ⟨r, hrec, sel, hsel⟩ := C08.fault_safe_writer hg hcs hal hr hi hl hw
  exact ⟨r, hrec, atomic_of_consistent hsel⟩

/-- … and, for the repaired code, under **every** storage fault (`C08.fault_safe_running`): also when the append of the
    transaction's record, the manifest `Sync` or `SetMeta` reported an error with the record in the manifest and the
    client discarded the transaction — a crash image then holds the transaction as a whole (its table, adopted by the
    next `Open`) or not at all, never a part of it, and every acknowledged commit is there -/
theorem tr_commit_crash_atomic_any_fault {cfg : Cfg} (hg : cfg.Good) (hcs : cfg.consumeSeqOnJournalError = true)
    (h10 : cfg.discardKeepsTablesWhenUncertain = true)
    (h26a : cfg.cleanupChecksCurrent = true) (h26b : cfg.cleanupKeepsWhenGetMetaFails = true)
    {as : List Act} {s : St} {d : Disk} (hr : run cfg init as = some (s, d))
    {d' : Disk} (hi : IsCrashImage d d') {c : UCmp} (hl : LawfulUCmp c) (hw : ∀ g ∈ issuedGrps s, g.wf) :
    ∃ r, recoverR cfg d' = .ok r ∧
      (∀ g ∈ issuedGrps s, (g ∈ r.grps ∧ ∀ e ∈ g.ents, e ∈ r.entries) ∨ g ∉ r.grps) ∧
      (∀ e ∈ r.entries, ∃ g ∈ issuedGrps s, g ∈ r.grps ∧ e ∈ g.ents ∧ ∀ e' ∈ g.ents, e' ∈ r.entries) ∧
      (∀ g ∈ C04.ackedSync s, ∀ e ∈ g.ents, e ∈ r.entries) := by
  obtain ⟨r, hrec, sel, hsel⟩ := C08.fault_safe_running hg hcs h10 h26a h26b hr hi hl hw
  exact ⟨r, hrec, atomic_of_consistent hsel⟩

/-- the last step of `Commit` (`db.setSeq(tr.seq)`, the call returns `nil`) makes the transaction a group
    acknowledged with `Sync` -/
theorem tr_commit_acknowledged {cfg : Cfg} {s : St} {d : Disk} (h : Inv cfg s d) {j : Job} (hj : s.job = some j)
    (hk : j.kind = .tr) {g : Grp} (hg : s.tr = some g) : g ∈ C04.ackedSync (finishJob s j) := by
  obtain ⟨_, ht⟩ := h.tr_job hj hk hg
  have hsync : g.sync = true := (h.trOK hg).2.2.2.2
  unfold finishJob
  rw [hk]
  simp only [hg]
  obtain ⟨i, hi, rfl⟩ := List.mem_map.1 ht.issued
  unfold C04.ackedSync Dur.ackedSync
  simp only [List.mem_map, List.mem_filter, decide_eq_true_eq, setStatus]
  exact ⟨{ i with status := .acked }, ⟨⟨i, hi, by simp⟩, rfl, hsync⟩, rfl⟩

/-! ## (b) an open or discarded transaction leaves nothing behind -/

theorem ents_not_recovered {r : RState} {g : Grp} (hgw : g.wf) (hrw : ∀ x ∈ r.grps, x.wf)
    (hb : ∀ x ∈ r.grps, x.fin ≤ g.seq) : ∀ e ∈ g.ents, e ∉ r.entries := by
  intro e he her
  obtain ⟨x, hx, hex⟩ := List.mem_flatMap.1 her
  have h1 := ents_seq_range (hrw x hx) hex
  have h2 := ents_seq_range hgw he
  have := hb x hx
  omega

/-- **while the transaction is open and its commit record has not been written** (no job, or the commit job before
    its manifest step) no crash image delivers a group that reaches into the transaction's sequence numbers: every
    recovered group ends where the transaction starts; in particular none of its entries is recovered -/
theorem tr_invisible_before_commit {cfg : Cfg} (hg : cfg.Good) {s : St} {d : Disk}
    (hr : ∃ as, (∀ a ∈ as, a.noFault = true) ∧ run cfg init as = some (s, d)) {g : Grp} (htr : s.tr = some g)
    (hjob : Holds' s.job fun j => j.pc.beforeCommit = true) {d' : Disk} (hi : IsCrashImage d d')
    (hw : ∀ x ∈ issuedGrps s, x.wf) (hgw : g.wf) :
    ∃ r, recoverR cfg d' = .ok r ∧ (∀ x ∈ r.grps, x.fin ≤ g.seq) ∧ ∀ e ∈ g.ents, e ∉ r.entries := by
  obtain ⟨ch, rfl⟩ := hi
  have hinv : Inv cfg s d := inv_reachable hg hr
  have hl : s.limbo = none := limbo_none_reachable hg hr
  obtain ⟨r, hrec, hgood, hb⟩ := hinv.tr_invisible hg.noTrace htr hjob hl hinv.disk rfl rfl (.of_forall fun _ _ _ => rfl) ch
  exact ⟨r, hrec, hb, ents_not_recovered hgw (fun x hx => hw x (hgood.only x hx)) hb⟩

/-- `Discard` after a failed `Commit`, the manifest not being uncertain: every table file of the transaction is gone -/
theorem discard_removes_tables {cfg : Cfg} {s : St} {d : Disk} {s' : St} {d' : Disk}
    (hs : trDiscardJob cfg s d = some (s', d'))
    (hu : (cfg.discardKeepsTablesWhenUncertain && s.manifestFailed) = false) {j : Job} (hj : s.job = some j) :
    ∀ o ∈ j.outs, lookup d'.tables o.1 = none := by
  obtain ⟨_, j', _, hj', _, _, _, rfl⟩ := trDiscardJob_spec hs
  cases hj.symm.trans hj'
  rw [if_neg (by simp [hu])]
  exact lookup_remove_all j.outs d

/-- … and none of them was ever live in an admissible view of the manifest `CURRENT` names -/
theorem discard_tables_never_live {cfg : Cfg} {s : St} {d : Disk} (h : Inv cfg s d) {j : Job} (hj : s.job = some j)
    (hbc : j.pc.beforeCommit = true) (hl : s.limbo = none) :
    AllViews cfg d fun v => ∀ o ∈ j.outs, o.1 ∉ v.live :=
  h.outs_not_live hj hbc (.inr hl)

/-- **(b)** a transaction that is discarded after its `Commit` failed (no storage fault that leaves the manifest
    uncertain): the step preserves the invariant, removes every table file the transaction created — none of them
    live in any admissible view of the manifest, before or after —, and no crash image of the resulting storage
    delivers anything of the transaction -/
theorem tr_discard_no_residue {cfg : Cfg} (hg : cfg.Good) {s : St} {d : Disk}
    (hr : ∃ as, (∀ a ∈ as, a.noFault = true) ∧ run cfg init as = some (s, d)) {g : Grp} (htr : s.tr = some g)
    {j : Job} (hj : s.job = some j) (hu : (cfg.discardKeepsTablesWhenUncertain && s.manifestFailed) = false)
    {s' : St} {d' : Disk} (hs : step cfg s d .trDiscard = some (s', d'))
    (hw : ∀ x ∈ issuedGrps s, x.wf) :
    (∀ o ∈ j.outs, lookup d'.tables o.1 = none) ∧
    (AllViews cfg d' fun v => ∀ o ∈ j.outs, o.1 ∉ v.live) ∧
    ∀ d'', IsCrashImage d' d'' → ∃ r, recoverR cfg d'' = .ok r ∧ g ∉ r.grps ∧ ∀ e ∈ g.ents, e ∉ r.entries := by
  have hinv : Inv cfg s d := inv_reachable hg hr
  have hl : s.limbo = none := limbo_none_reachable hg hr
  have hs' : trDiscardJob cfg s d = some (s', d') := by
    simp only [step, hj, reduceCtorEq, if_false] at hs
    exact hs
  have hinv' : Inv cfg s' d' := inv_trDiscardJob hinv (Or.inl hl) hs'
  have hgone := discard_removes_tables hs' hu hj
  obtain ⟨g', j', htr', hj', hkind, hpc, rfl, rfl⟩ := trDiscardJob_spec hs'
  cases htr.symm.trans htr'
  cases hj.symm.trans hj'
  rw [if_neg (by simp [hu])] at hinv' hgone ⊢
  obtain ⟨hjs, hms, hcur0⟩ := remove_all_frame j.outs d
  have hbc : j.pc.beforeCommit = true := by rw [hpc]; rfl
  have hcur : curManifest (j.outs.foldl (fun d o => d.apply (.remove .table o.1)) d) = curManifest d := by
    unfold curManifest
    rw [hms, hcur0]
  refine ⟨hgone, ?_, ?_⟩
  · intro mf hc k hk v hv
    rw [hcur] at hc
    exact discard_tables_never_live hinv hj hbc hl mf hc k hk v hv
  · -- the transaction's group is the job's only output; it was pending, it is `failed` now: if a crash image had
    -- it, it would be in a live table or in a journal, but everything there ends below it
    rintro d'' ⟨ch, rfl⟩
    obtain ⟨e, htj⟩ := hinv.tr_job hj hkind htr
    -- the new storage differs from the old one in the transaction's table, which is live nowhere
    obtain ⟨r, hrec, hgood, hb⟩ := hinv.tr_invisible hg.noTrace htr (by rw [hj]; exact hbc) hl hinv'.disk hcur hjs
      (by rw [htj.outs]; exact hinv.erase_out hj hbc hl (by rw [htj.outs]; exact List.mem_singleton.2 rfl)) ch
    have hfin := Grp.seq_lt_fin htj.recs
    have hiss' : issuedGrps (s.discarded g) = issuedGrps s := by simp only [issuedGrps, issuedGrps_setStatus]
    refine ⟨r, hrec, fun hgr => ?_, ents_not_recovered (hw g htj.issued) (fun x hx => hw x (hiss' ▸ hgood.only x hx)) hb⟩
    have := hb g hgr
    omega

/-! ## (c) with the manifest uncertain (the shape of D10) -/

/-- while `session.manifestFailed` is set (`manifestUncertain()`), `Discard` leaves the storage as it is: the
    transaction's tables stay (the repair of D10, `Cfg.discardKeepsTablesWhenUncertain`) -/
theorem discard_keeps_tables_when_uncertain {cfg : Cfg} (hc : cfg.discardKeepsTablesWhenUncertain = true)
    {s : St} {d : Disk} (hm : s.manifestFailed = true) {s' : St} {d' : Disk}
    (hs : trDiscardJob cfg s d = some (s', d')) : d' = d := by
  obtain ⟨_, _, _, _, _, _, _, rfl⟩ := trDiscardJob_spec hs
  rw [hc, hm]; rfl

/-- the commit of a transaction fails at the manifest `Sync` *after* the record became durable; the client
    discards it -/
def commitUncertainThenDiscard : List Act :=
  [.trBegin, .trPut C04.putKV, .trCommit, .job false .ok, .job false .ok, .job false .ok,
   .job false .ok, .job false .failEffect, .trDiscard]

/-- **adopted**: the record did reach the manifest; reopened before the next rotation, `Open` sees the transaction
    as a whole — although `Commit` had returned an error — and its table is live -/
theorem adopted_after_reopen :
    ((run {} init commitUncertainThenDiscard).map fun sd =>
      (C04.openError {} sd.2, sd.2.tables.map (·.1), (recoverR {} sd.2).toOption.map (·.mv.live))) =
      some (none, [3], some [3]) ∧
    C04.readsK {} commitUncertainThenDiscard = some (some [118]) := by decide +kernel

/-- the DB goes on instead: a write, its flush — the commit takes the `newManifest` path (`manifestFailed`) and
    writes the session's version, which does not name the discarded transaction's table 3 -/
def thenFlush : List Act :=
  [.wAppend [⟨1, [97], [1]⟩] true .ok, .wSync .ok, .wApply, .wPublish, .wAck, .rotate .ok, .flushStart] ++
  List.replicate 13 (.job false .ok)

/-- a clean exit and the next `Open`, run to its end (`checkAndCleanFiles` included) -/
def thenReopen : List Act :=
  [.exit, .recOpen, .recStep, .recStep] ++ List.replicate 14 (.job false .ok)

/-- **orphaned, then removed by the janitor of the next `Open`**: after the rotation table 3 is on the storage
    but live in no view; the next `Open` removes it; the discarded transaction's key is not there, the later write is -/
theorem orphan_removed_by_next_open :
    ((run {} init (commitUncertainThenDiscard ++ thenFlush)).map fun sd =>
      (sd.1.job, sd.2.tables.map (·.1), (recoverR {} sd.2).toOption.map (·.mv.live), sd.1.manifestFailed)) =
      some (none, [3, 5], some [5], false) ∧
    ((run {} init (commitUncertainThenDiscard ++ thenFlush ++ thenReopen)).map fun sd =>
      (sd.1.phase, sd.1.job, sd.2.tables.map (·.1), C04.openError {} sd.2)) =
      some (.running, none, [5], none) ∧
    C04.readsK {} (commitUncertainThenDiscard ++ thenFlush ++ thenReopen) = some none := by decide +kernel

/-! ## (d) non-vacuity: a concrete transaction -/

/-- `OpenTransaction`, two `Put`s, `Commit` to its end -/
def trCommitted : List Act :=
  [.trBegin, .trPut C04.putKV, .trPut [⟨1, [98], [2]⟩], .trCommit] ++ List.replicate 9 (.job false .ok)

/-- it is a fault-free run; after it the transaction is a group acknowledged with `Sync` … -/
example : (∀ a ∈ trCommitted, a.noFault = true) ∧
    (run {} init trCommitted).map (fun sd => (sd.1.tr, sd.1.job, (C04.ackedSync sd.1).map (·.n))) =
      some (none, none, [2]) := by decide +kernel
/-- … which every crash image delivers; during the commit every crash image has all of it or none of it -/
example : (List.range (trCommitted.length + 1)).all (fun n =>
    ((run {} init (trCommitted.take n)).map fun sd =>
      match recoverR {} (crashWith {} sd.2) with
      | .ok r => decide (r.grps.map (·.n) = [] ∨ r.grps.map (·.n) = [2])
      | .error _ => false) == some true) = true := by decide +kernel
example : C04.losesAcked {} {} trCommitted = some false := by decide +kernel

/-- `OpenTransaction`, `Put`, `Commit` up to its retry point, `Discard` (the client gives up without a fault) -/
def trDiscarded : List Act :=
  [.trBegin, .trPut C04.putKV, .trCommit, .job false .ok, .job false .ok, .job false .ok, .trDiscard]

/-- the table the transaction created (3) is gone, nothing is live, no crash image along the way delivers
    anything, the sequence numbers stay consumed -/
example : (run {} init trDiscarded).map (fun sd =>
    (sd.1.tr.isNone, sd.1.job.isNone, sd.2.tables.map (·.1), (recoverR {} sd.2).toOption.map (·.mv.live), sd.1.seq)) =
    some (true, true, [], some [], 1) := by decide +kernel
example : (List.range (trDiscarded.length + 1)).all (fun n =>
    ((run {} init (trDiscarded.take n)).map fun sd =>
      match recoverR {} (crashWith { keepT := fun _ => true } sd.2) with
      | .ok r => r.grps.isEmpty
      | .error _ => false) == some true) = true := by decide +kernel

/-- The property theorems of this file (for the audit). -/
def theorems : List String :=
  ["GoLevel.C11Dur.tr_commit_crash_atomic", "GoLevel.C11Dur.tr_commit_crash_atomic_faults",
   "GoLevel.C11Dur.tr_commit_crash_atomic_any_fault",
   "GoLevel.C11Dur.tr_commit_acknowledged", "GoLevel.C11Dur.tr_invisible_before_commit",
   "GoLevel.C11Dur.discard_removes_tables", "GoLevel.C11Dur.discard_tables_never_live",
   "GoLevel.C11Dur.tr_discard_no_residue", "GoLevel.C11Dur.discard_keeps_tables_when_uncertain",
   "GoLevel.C11Dur.adopted_after_reopen", "GoLevel.C11Dur.orphan_removed_by_next_open"]

end GoLevel.C11Dur

import GoLevel.Props.C05
/-!
# Property C11 (isolation part) — transactions on the shared DB

"While a transaction is open nobody outside it sees any of its writes; reads inside it see the DB as of
its opening plus its own writes; commit makes all of them visible at once; after a discard nobody ever
sees any of them."

Same model as C05 (`GoLevel/Model/Conc.lean`): `trOpen` (`OpenTransaction`, under the write lock,
`tr.seq = db.seq`), `trPut` (`Transaction.put`: private memdb / private tables, sequence numbers
`tr.seq+1…`), `trGet` (`Transaction.Get` = `db.get(tr.mem, tr.tables, key, tr.seq)`), `trInstall`
(`Commit`: `s.commit(&tr.rec)` puts the private tables into the current version), `trPublish`
(`db.setSeq(tr.seq)`), `trDiscard` (`Discard`: `db.seq` is moved over the numbers the transaction used, so
they are never handed out again — the fix of D16; `Cfg.discardReusesSeq` is the code before it).
A transaction's entries enter the ghost history only at `trPublish`.

Assumption made by the model and needed by the proofs (see `C05.trOverFrozen_breaks`): no frozen buffer is
pending when the transaction opens.
-/
namespace GoLevel.C11

open GoLevel.Conc GoLevel.C05

variable {c : UCmp}

/-- **Reads inside the transaction.**  While a transaction is open nothing is published (`pub` stays at its
base), the history is exactly what was published when it opened, its private entries carry the sequence
numbers `base+1 … base+n`, and every `Transaction.Get` returned the view of (history ∪ private entries)
at the transaction's sequence number of that moment. -/
theorem tr_reads {σ : State} (h : Reachable Cfg.real c σ) (t : TrState) (ht : σ.tr = some t) :
    t.base = σ.pub ∧ σ.pending = []
    ∧ (∀ e ∈ σ.hist, e.seq ≤ t.base)
    ∧ (∀ e ∈ t.priv, t.base < e.seq ∧ e.seq ≤ t.base + t.priv.length)
    ∧ (∀ k s v, (k, s, v) ∈ t.results →
        t.base ≤ s ∧ s ≤ t.base + t.priv.length ∧ v = view c (σ.hist ++ t.priv) k s) := by
  have hb := (inv_reachable h).basic
  obtain ⟨x1, x2, x3, x4⟩ := hb.trExcl t ht
  refine ⟨x4, x1, ?_, ?_, ?_⟩
  · intro e he; rw [x4]; exact hb.hist_le x1 e he
  · intro e he
    have h1 := (hb.tr_facts ht).2.2.1 e he
    have h2 := (hb.tr_facts ht).2.1 e (List.mem_append_right _ he)
    omega
  · intro k s v hx
    exact trinv_reachable h t ht (k, s, v) hx

/-- while the same transaction stays open, a step neither publishes nor changes the history -/
theorem tr_freezes_history {σ σ' : State} {a : Action} (h : Reachable Cfg.real c σ)
    (hs : Step Cfg.real c σ a σ') (h1 : σ.tr ≠ none) (h2 : σ'.tr ≠ none) :
    σ'.hist = σ.hist ∧ σ'.pub = σ.pub :=
  (stepSum (inv_reachable h).basic hs).frozenHist h1 h2

/-- **Nobody outside sees them.**  While the transaction is open — even after its tables were installed
into the current version — none of its entries is in the history, in a buffer, or (before install) in the
tables, and every lookup any reader performs returns the view of the history alone. -/
theorem tr_isolation {σ : State} (h : Reachable Cfg.real c σ) (t : TrState) (ht : σ.tr = some t) :
    (∀ e ∈ t.priv, e ∉ σ.hist ∧ (∀ id, e ∉ getBuf σ id) ∧ (t.installed = false → e ∉ σ.tabs))
    ∧ (∀ (i : Nat) (r : Reader), σ.readers[i]? = some r →
        (∀ k v, (k, v) ∈ r.results → ∃ s, r.seq? = some s ∧ s ≤ t.base ∧ v = view c σ.hist k s)
        ∧ (∀ s mf ver, r.seq? = some s → r.mems? = some mf → r.ver? = some ver →
            ∀ k, view c (readSrc σ mf ver) k s = view c σ.hist k s)) := by
  have hb := (inv_reachable h).basic
  obtain ⟨x1, x2, x3, x4⟩ := hb.trExcl t ht
  have hps : ∀ e ∈ t.priv, σ.pub < e.seq := fun e he => hb.privSeq e (by rw [ht]; exact he)
  have hnh : ∀ e ∈ t.priv, e ∉ σ.hist := by
    intro e he hh
    have := hb.hist_le x1 e hh; have := hps e he; omega
  refine ⟨fun e he => ⟨hnh e he, fun id hid => hnh e he (hb.bufSub id e hid),
    fun hinst htab => hnh e he (hb.tabs_hist ht hinst e htab)⟩, ?_⟩
  · intro i r hi
    refine ⟨?_, fun s mf ver hs hm hv k => lookup_correct h i r hi s mf ver hs hm hv k⟩
    intro k v hkv
    obtain ⟨s, h1, h2, h3, _⟩ := read_linearizable h i r hi k v hkv
    exact ⟨s, h1, by omega, h3⟩

/-- **Commit is one instant.**  `trPublish` appends exactly the private entries to the history and moves
`pub` over all of them in that one step; it is recorded as a group, so `C05.batch_atomic` applies: every
reader position is below all of them or at/above all of them. -/
theorem tr_commit_atomic {σ σ' : State} (h : Reachable Cfg.real c σ) (hs : Step Cfg.real c σ .trPublish σ') :
    ∃ t, σ.tr = some t ∧ σ'.tr = none ∧ σ'.hist = σ.hist ++ t.priv ∧ σ.pub = t.base
      ∧ σ'.pub = t.base + t.priv.length
      ∧ σ'.groups = ⟨t.base, t.base + t.priv.length, t.priv⟩ :: σ.groups
      ∧ (∀ r ∈ σ'.readers, ∀ s, r.seq? = some s → s ≤ t.base)
      ∧ (∀ p ∈ σ'.snaps, p.2 ≤ t.base) := by
  have hinv := inv_reachable h
  obtain ⟨t, g1, g2, rfl⟩ := doTrPublish_some hs.1
  obtain ⟨x1, x2, x3, x4⟩ := hinv.basic.trExcl t g1
  refine ⟨t, g1, rfl, rfl, x4.symm, rfl, rfl, ?_, ?_⟩
  · intro r hr s hs'
    obtain ⟨i, hi⟩ := List.getElem?_of_mem hr
    have := (hinv.readers i r hi).seqLe s hs'; omega
  · intro p hp
    have := hinv.basic.snapsLe p hp; omega

/-- **Discard leaves no trace.**  `trDiscard` is possible only before the tables were installed; it
changes neither history nor buffers nor tables, none of which contains a private entry; `db.seq` moves
over the numbers the transaction used (a gap: no entry with those numbers exists) — and all later reads are
views of the history (`C05.read_linearizable`), which only gains entries from later writes. -/
theorem tr_discard_clean {σ σ' : State} (h : Reachable Cfg.real c σ) (hs : Step Cfg.real c σ .trDiscard σ') :
    ∃ t, σ.tr = some t ∧ t.installed = false ∧ σ'.tr = none ∧ σ'.hist = σ.hist ∧ σ'.tabs = σ.tabs
      ∧ σ'.bufs = σ.bufs ∧ σ'.pub = t.base + t.priv.length
      ∧ (∀ e ∈ σ'.hist, e.seq ≤ t.base)
      ∧ (∀ e ∈ t.priv, e ∉ σ'.hist ∧ e ∉ σ'.tabs ∧ ∀ id, e ∉ getBuf σ' id) := by
  obtain ⟨t, g1, g2, rfl⟩ := doTrDiscard_some hs.1
  obtain ⟨hiso, _⟩ := tr_isolation h t g1
  obtain ⟨x4, _, hh, _, _⟩ := tr_reads h t g1
  refine ⟨t, g1, g2, rfl, rfl, rfl, rfl, ?_, hh,
    fun e he => ⟨(hiso e he).1, (hiso e he).2.2 g2, (hiso e he).2.1⟩⟩
  show max σ.pub (t.base + t.priv.length) = t.base + t.priv.length
  omega

/-- **The discarded numbers are never handed out again** (the fix of D16).  After `trDiscard` of a
transaction with top number `base + n`, whatever happens later:
every later `writeInsert` (and so every entry that later enters the history or any buffer) carries a number
strictly above `base + n`, i.e. above every private entry of the discarded transaction.  Hence an iterator
obtained from the transaction — one that pinned the private entries, any buffers and any table collection
at a position `s ≤ base + n` — keeps returning exactly what it returned at the time of the discard. -/
theorem tr_discard_no_reuse {σ σ' σ'' : State} (h : Reachable Cfg.real c σ)
    (hs : Step Cfg.real c σ .trDiscard σ') (hs' : Steps Cfg.real c σ' σ'') :
    ∃ t, σ.tr = some t ∧ σ'.pub = t.base + t.priv.length
      ∧ (∀ p ∈ t.priv, p.seq ≤ t.base + t.priv.length)
      ∧ (∀ es σ₃, Step Cfg.real c σ'' (.writeInsert es) σ₃ → ∀ e ∈ es, t.base + t.priv.length < e.seq)
      ∧ (∀ e ∈ σ''.hist, e ∈ σ.hist ∨ t.base + t.priv.length < e.seq)
      ∧ (∀ id, ∃ ext, getBuf σ'' id = getBuf σ id ++ ext ∧ ∀ e ∈ ext, t.base + t.priv.length < e.seq)
      ∧ (∀ (mf : Nat × Option Nat) (v : List Entry) (k : Bytes) (s : Nat), s ≤ t.base + t.priv.length →
          view c (t.priv ++ readSrc σ'' mf v) k s = view c (t.priv ++ readSrc σ mf v) k s) := by
  obtain ⟨t, g1, _, _, hhist, _, hbufs, hpub, _, _⟩ := tr_discard_clean h hs
  have h' : Reachable Cfg.real c σ' := Steps.tail _ h hs
  have hb' := (inv_reachable h').basic
  have hgr := runSum hb' hs'
  have hple := hgr.pubLe
  obtain ⟨_, _, _, hpriv, _⟩ := tr_reads h t g1
  have hgrow : ∀ id, Grow (t.base + t.priv.length) (getBuf σ id) (getBuf σ'' id) := fun id => by
    have := hgr.bufGrow id
    rwa [hpub, show getBuf σ' id = getBuf σ id by simp [getBuf, hbufs]] at this
  refine ⟨t, g1, hpub, fun p hp => (hpriv p hp).2, ?_, ?_, hgrow, ?_⟩
  · intro es σ₃ hw e he
    obtain ⟨_, g2, _⟩ := doWriteInsert_some hw.1
    have := ((consec_spec _ _ g2).1 e he).1
    omega
  · intro e he
    have := hgr.histGrow.old e he
    rwa [hhist, hpub] at this
  · intro mf v k s hle
    have hopt : Grow (t.base + t.priv.length) (optBuf σ mf.2) (optBuf σ'' mf.2) := by
      cases mf.2 with
      | none => exact .refl ..
      | some f => exact hgrow f
    apply view_eq_of_leF
    simp only [readSrc, leF_append, (hgrow mf.1).leF hle, hopt.leF hle]

/-- **Negative result: the old `Discard`** (`db.seq` left alone).  The next write gets the numbers of the
discarded transaction; it lands in the write buffer which an iterator of the transaction still holds, and
at the iterator's position `base + n` the later write is visible: the iterator's answer for key `[3]`
changes after the transaction is gone. -/
def reuseTrace1 : List Action :=
  [.writeInsert [ent 1 1 1 10], .publish, .rotate, .flushInstall, .flushDrop, .trOpen, .trPut (ent 1 2 0 0)]
def reuseTrace2 : List Action := [.trDiscard, .writeInsert [ent 3 2 1 30], .publish]

theorem discardReuse_breaks : ∃ (σ σ'' : State) (t : TrState),
    Reachable { discardReusesSeq := true } bytewise σ ∧ σ.tr = some t
    ∧ Steps { discardReusesSeq := true } bytewise σ σ''
    ∧ (∃ e ∈ σ''.hist, e ∉ σ.hist ∧ e.seq ≤ t.base + t.priv.length)
    ∧ view bytewise (t.priv ++ readSrc σ (σ.mem, σ.frozen) σ.tabs) [3] (t.base + t.priv.length) = none
    ∧ view bytewise (t.priv ++ readSrc σ'' (σ.mem, σ.frozen) σ.tabs) [3] (t.base + t.priv.length) = some [30] := by
  refine ⟨(run { discardReusesSeq := true } bytewise init reuseTrace1).getD init,
    (run { discardReusesSeq := true } bytewise init (reuseTrace1 ++ reuseTrace2)).getD init,
    ⟨1, [ent 1 2 0 0], false, []⟩,
    steps_of_run reuseTrace1 init _ (by decide) (by decide +kernel), by decide +kernel,
    steps_of_run reuseTrace2 _ _ (by decide) (by decide +kernel),
    ⟨ent 3 2 1 30, by decide +kernel, by decide +kernel, by decide +kernel⟩, by decide +kernel, by decide +kernel⟩

/-- the code as it is now refuses that write: after the discard the next number is `base + n + 1` -/
example : run Cfg.real bytewise init (reuseTrace1 ++ reuseTrace2) = none
    ∧ (run Cfg.real bytewise init (reuseTrace1 ++ [.trDiscard, .writeInsert [ent 3 3 1 30], .publish])).isSome = true := by
  decide +kernel

/-- a transaction that overwrites key 1 and deletes key 2, with a reader outside before and after the
install, a `Transaction.Get` inside, a compaction started meanwhile; then the commit, then a reader -/
def trTrace : List Action :=
  [.writeInsert [ent 1 1 1 10, ent 2 2 1 20], .publish, .rotate, .flushInstall, .flushDrop,
   .trOpen, .trPut (ent 1 3 1 11), .rNew, .rSeq 0, .rMems 0, .trPut (ent 2 4 0 0), .trGet [1], .trGet [2],
   .trGet [3], .compStart, .trInstall, .rVer 0, .rLookup 0 [1], .rLookup 0 [2], .rNew, .rSeq 1]

def trState : State := (run Cfg.real bytewise init trTrace).getD init

theorem trState_reachable : Reachable Cfg.real bytewise trState :=
  steps_of_run trTrace init trState (by decide) (by decide +kernel)

example : trState.tr.map (·.base) = some 2 ∧ trState.tr.map (·.installed) = some true
    ∧ trState.tr.map (·.results) = some [([1], 4, some [11]), ([2], 4, none), ([3], 4, none)]
    ∧ trState.tabs.length = 4 ∧ trState.hist.length = 2 ∧ trState.pub = 2 ∧ trState.comp = some 2
    ∧ trState.readers.map (·.results) = [[([1], some [10]), ([2], some [20])], []] := by decide +kernel

example : ∀ t, trState.tr = some t → ∀ e ∈ t.priv, e ∉ trState.hist :=
  fun t ht e he => ((tr_isolation trState_reachable t ht).1 e he).1

/-- commit: reader 1 (position 2, taken before) still sees the old values, a new reader sees both changes -/
def trTrace2 : List Action :=
  [.trPublish, .rMems 1, .rVer 1, .rLookup 1 [1], .rLookup 1 [2],
   .rNew, .rSeq 2, .rMems 2, .rVer 2, .rLookup 2 [1], .rLookup 2 [2]]

example : ∃ σ, run Cfg.real bytewise trState trTrace2 = some σ ∧ σ.pub = 4 ∧ σ.hist.length = 4
    ∧ σ.readers.map (·.results) =
      [[([1], some [10]), ([2], some [20])], [([1], some [10]), ([2], some [20])], [([1], some [11]), ([2], none)]] :=
  ⟨(run Cfg.real bytewise trState trTrace2).getD init, by decide +kernel⟩

/-- discard instead of commit: number 2 is skipped for good, the next write gets 3, nobody ever saw the
private entry -/
def trTrace3 : List Action :=
  [.writeInsert [ent 1 1 1 10], .publish, .rotate, .flushInstall, .flushDrop,
   .trOpen, .trPut (ent 1 2 0 0), .trGet [1], .trDiscard,
   .writeInsert [ent 3 3 1 30], .publish, .rNew, .rSeq 0, .rMems 0, .rVer 0, .rLookup 0 [1], .rLookup 0 [3]]

example : ∃ σ, run Cfg.real bytewise init trTrace3 = some σ ∧ σ.pub = 3 ∧ σ.hist.length = 2
    ∧ σ.readers.map (·.results) = [[([1], some [10]), ([3], some [30])]] :=
  ⟨(run Cfg.real bytewise init trTrace3).getD init, by decide +kernel⟩

def theorems : List String :=
  ["GoLevel.C11.tr_reads", "GoLevel.C11.tr_freezes_history", "GoLevel.C11.tr_isolation",
   "GoLevel.C11.tr_commit_atomic", "GoLevel.C11.tr_discard_clean", "GoLevel.C11.tr_discard_no_reuse",
   "GoLevel.C11.discardReuse_breaks"]

end GoLevel.C11

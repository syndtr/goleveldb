import GoLevel.Proofs.JournalDamage
import GoLevel.Proofs.JournalWriter
/-!
# Property C12 — journal writer / reader

"Any sequence of records of any sizes written through the journal writer (with any pattern of flushes) is
read back as exactly that sequence.  If the byte stream is cut at any offset or damaged anywhere, the reader
with checksums on never crashes and never yields a record that was not written: in tolerant mode it yields
the original records in order minus only those that touch a damaged 32 KiB block, in strict mode it stops
with a corruption error."

Model: `GoLevel/Model/Journal.lean` (tied to the Go code byte-exactly by `harness/wp/c12`).
`decode strict checksum` is a total function, so "never crashes" is part of the model's type; the Go side
of that claim is the differential run (no panic in any case).

Everything below is proved (no `_full`/`_partial` split) except the hypothesis-free damage statement
`decode_damage_full`, which is false for an adversary who can forge CRC32C; `decode_damage_partial` proves
it under the explicit hypothesis that the first altered chunk fails the reader's header/CRC test, and
`altered_payload_rejected` discharges that hypothesis for every single-byte change of a chunk payload.
-/
namespace GoLevel.C12
open GoLevel GoLevel.Journal
open GoLevel.Gen (journalBlockSize journalHeaderSize)

/-! ## a. round trip -/

/-- Every list of records (any lengths, including empty and multi-block ones) is read back exactly, with no
    `Drop` call, ending with `io.EOF` — for all four `(strict, checksum)` combinations. -/
theorem decode_encode (strict checksum : Bool) (rs : List Bytes) :
    (decode strict checksum (encode rs)).records = rs ∧
    (decode strict checksum (encode rs)).drops = [] ∧
    (decode strict checksum (encode rs)).final = .eof := by
  rw [decode, encode, decodeLoop_encodeFrom_end]
  exact ⟨eventRecords_map_record rs, eventDrops_map_record rs, rfl⟩

example : (decode true true (encode [[1, 2, 3], [], List.replicate 70000 7])).records
    = [[1, 2, 3], [], List.replicate 70000 7] := (decode_encode true true _).1

/-! ## b. append-only, and the writer machine -/

/-- Appending records only appends bytes. -/
theorem encode_append_prefix (rs rs' : List Bytes) : encode rs <+: encode (rs ++ rs') := by
  unfold encode
  rw [encodeFrom_append]
  exact List.prefix_append _ _

example : encode [[1], List.replicate 40000 2] <+: encode ([[1], List.replicate 40000 2] ++ [[3]]) :=
  encode_append_prefix _ _

/-- For any sequence of `Next`/`Write`/`Flush`/`Close` calls (flushes anywhere, writes split anyhow, stale
    writes, calls after `Close`): the writer never panics, the bytes handed to the underlying `io.Writer`
    are a prefix of `encode (recordsOf ops)`, and they are equal to it whenever no record is open, in
    particular right after a `Flush` or `Close`. -/
theorem writer_refines_encode (ops : List Op) :
    (Writer.run {} ops).bad = false ∧
    (Writer.run {} ops).out <+: encode (recordsOf ops) ∧
    ((recState ops).cur = none → (Writer.run {} ops).out = encode (recordsOf ops)) :=
  (Rel.init.run ops).out

/-- … and after a final `Flush` or `Close` nothing is missing. -/
theorem writer_flush_complete (ops : List Op) (last : Op) (h : last = .flush ∨ last = .close) :
    (Writer.run {} (ops ++ [last])).out = encode (recordsOf (ops ++ [last])) := by
  refine (writer_refines_encode (ops ++ [last])).2.2 ?_
  unfold recState
  rw [List.foldl_append]
  simp only [List.foldl_cons, List.foldl_nil, RecState.step]
  split
  · rename_i hc
    exact (Rel.init.run ops).closedCur hc
  · rcases h with rfl | rfl <;> rfl

/-- The bytes already handed out are never changed by later calls. -/
theorem writer_out_monotone (ops ops' : List Op) :
    (Writer.run {} ops).out <+: (Writer.run {} (ops ++ ops')).out := by
  unfold Writer.run
  rw [List.foldl_append]
  exact run_out_prefix _ ops'

example : (Writer.run {} [.next, .write [1, 2], .flush, .next, .write [3], .write [4], .close]).out
    = encode [[1, 2], [3, 4]] :=
  writer_flush_complete [.next, .write [1, 2], .flush, .next, .write [3], .write [4]] .close (Or.inr rfl)

example : recordsOf [.next, .write [1, 2], .flush, .write [9], .next, .write [3], .write [4], .close]
    = [[1, 2], [3, 4]] := by decide

/-! ## c. CRC32C detects every single-byte change -/

/-- Changing the byte at one position of the input changes CRC32C, hence also the masked value stored in
    chunk headers. -/
theorem crc_single_byte (a c : Bytes) (x y : UInt8) (h : x ≠ y) :
    CRC.crc32c (a ++ x :: c) ≠ CRC.crc32c (a ++ y :: c) ∧
    CRC.crcValue (a ++ x :: c) ≠ CRC.crcValue (a ++ y :: c) :=
  ⟨CRC.crc32c_single_byte a c x y h, CRC.crcValue_single_byte a c x y h⟩

example : CRC.crc32c [1, 2, 3] ≠ CRC.crc32c [1, 9, 3] := (crc_single_byte [1] [3] 2 9 (by decide)).1

/-- A chunk in which one payload byte was altered fails the reader's test (checksums on). -/
theorem altered_payload_rejected (pos n : Nat) (first last : Bool) (a b : Bytes) (x x' : UInt8) (more : Bytes)
    (hx : x ≠ x') (hp : (a ++ x :: b).length < 65536) :
    ¬ Accepts true pos (chunkHeader (chunkType first last) (a ++ x :: b) ++ (a ++ x' :: b) ++ more) n :=
  Journal.altered_payload_rejected pos n first last a b x x' more hx hp

example : ¬ Accepts true 0 (chunkHeader (chunkType true true) [1, 2, 3] ++ [1, 7, 3] ++ []) 10 :=
  altered_payload_rejected 0 10 true true [1] [3] 2 7 [] (by decide) (by decide)

/-! ## d. truncation -/

/-- **Cut at any offset.**  `fits 0 rs n` is the number of leading records that lie wholly within the first
    `n` bytes of `encode rs` (`fits_complete`).  Reading `(encode rs).take n` delivers exactly these
    records, in order, followed by what the torn record produces (`Torn`): nothing, or a single `Drop` —
    "chunk length overflows block" (the cut is inside a chunk payload; size = bytes of that chunk that are
    present) or "missing chunk part" with size 0 (the cut is at a block boundary inside a record, or inside
    the header of a non-first chunk).  A cut at a record boundary, inside padding, or inside the header of
    the first chunk of a record is silent.  Tolerant mode always ends with `io.EOF`; strict mode ends with
    the corruption error exactly when there was such a `Drop`, with `io.EOF` otherwise. -/
theorem decode_truncate (strict checksum : Bool) (rs : List Bytes) (n : Nat) :
    ∃ t, Torn strict t ∧
      decode strict checksum ((encode rs).take n) =
        ⟨(rs.take (fits 0 rs n)).map .record ++ t.events, t.final⟩ :=
  decodeLoop_truncate strict checksum 0 rs n

/-- `fits` counts exactly the records wholly contained in the first `n` bytes. -/
theorem fits_complete (rs : List Bytes) (n k : Nat) (hk : k ≤ rs.length) :
    k ≤ fits 0 rs n ↔ (encode (rs.take k)).length ≤ n :=
  fits_spec 0 rs n k hk

/-- Tolerant reader on a truncated stream: a prefix of the records (all the complete ones), never an error,
    at most one `Drop`. -/
theorem decode_truncate_tolerant (checksum : Bool) (rs : List Bytes) (n : Nat) :
    (decode false checksum ((encode rs).take n)).records = rs.take (fits 0 rs n) ∧
    (decode false checksum ((encode rs).take n)).final = .eof ∧
    (decode false checksum ((encode rs).take n)).drops.length ≤ 1 := by
  obtain ⟨t, ht, e⟩ := decode_truncate false checksum rs n
  rw [e, records_mk, drops_mk]
  rcases ht with rfl | ⟨x, w, rfl, _⟩
  · simp [eventRecords, eventDrops]
  · simp [eventRecords, eventDrops]

/-- Strict reader on a truncated stream: the same prefix, then `io.EOF` without any `Drop`, or exactly one
    `Drop` and the corruption error. -/
theorem decode_truncate_strict (checksum : Bool) (rs : List Bytes) (n : Nat) :
    (decode true checksum ((encode rs).take n)).records = rs.take (fits 0 rs n) ∧
    (((decode true checksum ((encode rs).take n)).final = .eof ∧
        (decode true checksum ((encode rs).take n)).drops = []) ∨
     ((decode true checksum ((encode rs).take n)).final = .corrupt ∧
        (decode true checksum ((encode rs).take n)).drops.length = 1)) := by
  obtain ⟨t, ht, e⟩ := decode_truncate true checksum rs n
  rw [e, records_mk, drops_mk]
  rcases ht with rfl | ⟨x, w, rfl, _⟩
  · simp [eventRecords, eventDrops]
  · simp [eventRecords, eventDrops]

example : (decode false true ((encode [[1, 2, 3], [4, 5], [6]]).take 20)).records
    = [[1, 2, 3], [4, 5], [6]].take (fits 0 [[1, 2, 3], [4, 5], [6]] 20) :=
  (decode_truncate_tolerant true _ 20).1

/-- in the example above two records (10 + 9 bytes) fit into 20 bytes, the third is torn -/
example : fits 0 [[1, 2, 3], [4, 5], [6]] 20 = 2 := by decide

/-! ## e. zero tail, one damaged block -/

/-- A stream followed by any number of zero bytes (preallocated file): the tolerant reader delivers the same
    records and ends with `io.EOF`; every `Drop` is a "zero header". -/
theorem decode_zero_tail (checksum : Bool) (rs : List Bytes) (k : Nat) :
    (decode false checksum (encode rs ++ List.replicate k 0)).records = rs ∧
    (decode false checksum (encode rs ++ List.replicate k 0)).final = .eof ∧
    ∀ d ∈ (decode false checksum (encode rs ++ List.replicate k 0)).drops, d.2 = .zeroHeader := by
  obtain ⟨xs, e⟩ := decodeLoop_zeros_tolerant checksum (endPos 0 rs) k
  unfold decode encode
  rw [decodeLoop_encodeFrom, e, records_mk, drops_mk, eventRecords_map_drop, eventDrops_map_drop, List.append_nil]
  exact ⟨rfl, rfl, fun d hd => by obtain ⟨x, _, rfl⟩ := List.mem_map.mp hd; rfl⟩

/-- The strict reader on a zero-extended stream delivers the same records; it ends with `io.EOF` if it
    never sees seven zero bytes at a chunk position, otherwise with one "zero header" corruption error
    (Go: `corrupt(…, "zero header", false)` — not skipped in strict mode). -/
theorem decode_zero_tail_strict (checksum : Bool) (rs : List Bytes) (k : Nat) :
    (decode true checksum (encode rs ++ List.replicate k 0)).records = rs ∧
    ((decode true checksum (encode rs ++ List.replicate k 0)).final = .eof ∧
       (decode true checksum (encode rs ++ List.replicate k 0)).drops = [] ∨
     (decode true checksum (encode rs ++ List.replicate k 0)).final = .corrupt ∧
       ∃ x, (decode true checksum (encode rs ++ List.replicate k 0)).drops = [(x, .zeroHeader)]) := by
  unfold decode encode
  rw [decodeLoop_encodeFrom]
  rcases decodeLoop_zeros_strict checksum (endPos 0 rs) k with e | ⟨x, e⟩
  · rw [e]
    simp only [records_mk, drops_mk]
    simp [eventRecords, eventDrops]
  · rw [e]
    simp only [records_mk, drops_mk]
    exact ⟨by simp [eventRecords], Or.inr ⟨trivial, x, by simp [eventDrops]⟩⟩

example : (decode false true (encode [[1, 2], List.replicate 33000 5] ++ List.replicate 100000 0)).records
    = [[1, 2], List.replicate 33000 5] := (decode_zero_tail true _ 100000).1

/-- The hypothesis-free statement for one damaged block.  **Not provable** (and false against an adversary):
    CRC32C is not collision-free, so a block can be overwritten with well-formed chunks carrying records that
    were never written; also with `checksum = false` any payload change goes unnoticed.
    `(encode (rs.take k)).length` is the offset at which record `k` (or its padding) starts. -/
def decode_damage_full : Prop :=
  ∀ (rs : List Bytes) (E' : Bytes) (b : Nat),
    E'.length = (encode rs).length →
    (∀ i, i / journalBlockSize ≠ b → E'[i]? = (encode rs)[i]?) →
    (decode false true E').records.Sublist rs ∧
    ∀ k, k < rs.length →
      ((encode (rs.take (k + 1))).length ≤ b * journalBlockSize ∨
        (b + 1) * journalBlockSize ≤ (encode (rs.take k)).length) →
      rs[k]? ∈ (decode false true E').records.map some

/-- **One damaged block.**  Let `X` be an intact prefix of `encode rs` that ends at a chunk boundary
    (`Boundary`: `done` = records wholly inside `X`; `y`/`cur` describe the record the boundary is in, if any;
    `rest` = the records after it), let `Z'` replace the bytes from that boundary to the end of the block
    (or of the stream), and let the remaining bytes be intact.  **Hypothesis:** the chunk now found at the
    boundary fails the reader's test (zero header, invalid type, length overflowing the block, or checksum
    mismatch — `¬ Accepts`).  Then the tolerant reader delivers exactly `done ++ survivors`, in order, where
    `survivors` are the records that start after the damaged block (a suffix of `rest`): it invents nothing,
    and loses only records that have a chunk in the dropped part of the damaged block.  It ends with
    `io.EOF`.  The strict reader delivers `done` and stops with the corruption error. -/
theorem decode_damage_partial {rs done : List Bytes} {X : Bytes} {pos : Nat} {cur y : Option Bytes}
    {rest : List Bytes} (hB : Boundary rs done X pos cur y rest) (checksum : Bool) (Z' : Bytes)
    (hlen : Z'.length = zoneLen pos y rest)
    (hrej : ¬ Accepts checksum (zoneStart pos y) (Z' ++ (tailBytes pos y rest).drop (zoneLen pos y rest))
      (zoneStart pos y + zoneLen pos y rest)) :
    -- the undamaged stream is `encode rs`, the damaged one differs from it only in the zone
    X ++ (tailBytes pos y rest).take (zoneLen pos y rest) ++ (tailBytes pos y rest).drop (zoneLen pos y rest)
      = encode rs ∧
    -- the records: before / lost / surviving
    (∃ lost, rs = done ++ lost ++ survivors pos y rest) ∧
    (decode false checksum (X ++ Z' ++ (tailBytes pos y rest).drop (zoneLen pos y rest))).records
      = done ++ survivors pos y rest ∧
    (decode false checksum (X ++ Z' ++ (tailBytes pos y rest).drop (zoneLen pos y rest))).final = .eof ∧
    (decode true checksum (X ++ Z' ++ (tailBytes pos y rest).drop (zoneLen pos y rest))).records = done ∧
    (decode true checksum (X ++ Z' ++ (tailBytes pos y rest).drop (zoneLen pos y rest))).final = .corrupt := by
  obtain ⟨ds, hds, e⟩ := hB.damage checksum Z' hlen hrej
  obtain ⟨w, hn⟩ := hB.zone_rejected true checksum Z' hlen hrej
  have e' : decode true checksum (X ++ Z' ++ (tailBytes pos y rest).drop (zoneLen pos y rest)) =
      ⟨done.map .record ++ [.drop (zoneLen pos y rest) w], .corrupt⟩ := by
    unfold decode; rw [List.append_assoc, hB.reader, decodeLoop_corrupt hn]
  obtain ⟨mid, hmid, _, _⟩ := hB.records
  obtain ⟨lost, hl⟩ := survivors_suffix pos y rest
  refine ⟨?_, ⟨mid ++ lost, ?_⟩, ?_, ?_, ?_, ?_⟩
  · rw [List.append_assoc, List.take_append_drop, hB.stream]
  · rw [hmid]; conv => lhs; rw [hl]
    simp [List.append_assoc]
  · rw [e, List.append_assoc, records_mk, eventRecords_append, hds, eventRecords_map_record]; simp
  · rw [e]
  · rw [e', records_mk]; simp [eventRecords]
  · rw [e']

/-- Non-vacuity: records `[1,2,3]`, `[4]`, `[5,6]`; the chunk of the second record (8 bytes at offset 10) is
    overwritten with `0xFF` bytes (invalid chunk type).  The block ends with the stream, so the third record
    is lost as well: the tolerant reader returns the first record only. -/
example :
    (decode false true (encode [[1, 2, 3]] ++ List.replicate 17 0xFF ++ [])).records = [[1, 2, 3]] := by
  have hB : Boundary [[1, 2, 3], [4], [5, 6]] [[1, 2, 3]] _ _ none none [[4], [5, 6]] :=
    Boundary.record [[1, 2, 3]] [4] [[5, 6]] rfl
  have hz : zoneLen (pad (endPos 0 [[1, 2, 3]])).2 none [[4], [5, 6]] = 17 := by decide
  have hd : (tailBytes (pad (endPos 0 [[1, 2, 3]])).2 none [[4], [5, 6]]).drop 17 = [] := by
    apply List.drop_eq_nil_of_le; decide
  have hp : (pad (endPos 0 [[1, 2, 3]])).1 = [] := by decide
  have hs : survivors (pad (endPos 0 [[1, 2, 3]])).2 none [[4], [5, 6]] = [] := by decide
  have := (decode_damage_partial hB true (List.replicate 17 0xFF) (by rw [hz]; rfl)
    (by rw [hz, hd]; decide)).2.2.1
  rw [hz, hd, hs, hp] at this
  simpa [encode] using this

/-- Non-vacuity with survivors: `exampleRecords` = `[1,2,3]`, 32744 × `5`, `[]`, `[9]`; the first three records
    fill block 0 exactly.  Block 0 is overwritten with `0xFF`; block 1 is intact.  The tolerant reader returns
    the fourth record only, the strict reader nothing and a corruption error. -/
example :
    (decode false true (List.replicate 32768 0xFF ++ (encode exampleRecords).drop 32768)).records = [[9]] ∧
    (decode true true (List.replicate 32768 0xFF ++ (encode exampleRecords).drop 32768)).final = .corrupt := by
  have hB : Boundary exampleRecords [] ([] ++ []) 0 none none exampleRecords :=
    Boundary.record [] [1, 2, 3] [List.replicate 32744 5, [], [9]] rfl
  have := decode_damage_partial hB true (List.replicate 32768 0xFF)
    (by rw [example_zoneLen, List.length_replicate]) (by rw [example_zoneLen]; exact example_rejected)
  rw [example_zoneLen, example_survivors] at this
  exact ⟨this.2.2.1, this.2.2.2.2.2⟩

/-- The property theorems of this file (for the audit). -/
def theorems : List String :=
  ["GoLevel.C12.decode_encode", "GoLevel.C12.encode_append_prefix", "GoLevel.C12.writer_refines_encode",
   "GoLevel.C12.writer_flush_complete", "GoLevel.C12.writer_out_monotone", "GoLevel.C12.crc_single_byte",
   "GoLevel.C12.altered_payload_rejected", "GoLevel.C12.decode_truncate", "GoLevel.C12.fits_complete",
   "GoLevel.C12.decode_truncate_tolerant", "GoLevel.C12.decode_truncate_strict", "GoLevel.C12.decode_zero_tail",
   "GoLevel.C12.decode_zero_tail_strict", "GoLevel.C12.decode_damage_partial"]

end GoLevel.C12

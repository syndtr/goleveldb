import GoLevel.Proofs.LocksLive
import GoLevel.Proofs.LocksWitness
import GoLevel.Proofs.LocksOrphan
import GoLevel.Proofs.LocksRO
import GoLevel.Proofs.LocksEnabled
import GoLevel.Proofs.LocksRuns
import GoLevel.Proofs.LocksKeep
import GoLevel.Proofs.TrClose
/-!
# Property C09 — every call returns; a failing call releases what it acquired; the DB recovers

"Under every interleaving of clients, background work, storage failures and Close, each Put, Write, Get,
iterator step, OpenTransaction, Commit, Discard, CompactRange and Close eventually returns: concurrent
writers all get an answer, an operation that fails releases whatever it had acquired, and once injected
failures stop the DB serves subsequent calls again (or fails them immediately with its persistent error)."

Model: `GoLevel/Model/Locks.lean` — any number of client threads, each performing one public call as a
control-flow graph over the blocking resources (write-lock token, `compCommitLk`, `tr.lk`, the command/ack
rendezvous with `mCompaction` / `tCompaction` and their `closeC` / `compErrC` / `compPerErrC` alternatives),
the two compaction goroutines with `compactionTransact`'s retry loop and `compactionCommit`, the
`compactionError` state machine, `Close`.  Every storage action may succeed or fail; the failing steps are
`Step cfg true`, all others `Step cfg false`.  `Get` and iterator steps take none of these resources and are
not threads of the model.

**The error goroutine.**  `compactionError` is modelled case by case (`Model/CompErr.lean`): `Cfg.m` has one flag
per `select` case and `switch` case of the function, `codeCfg.m` takes them from `Gen/Consts.lean`, which
`tools/extract` regenerates from the Go AST on every run, and `code_comperr_machine` (a `decide`) states that the
source has every case the proofs rely on.  `SetReadOnly` is modelled as coded now (since 832d000,
`code_hands_over`): it takes the token, posts `ErrReadOnly` — `compactionError`, taking it, sets
`compWriteLocking`: the token is handed over — and sets `compReadOnly` (consulted by `tCompaction`); if it gives
up (`compPerErrC`, `closeC`) it takes its own token back.  Compactions end with `nil`, a transient error (retry
loop) or a corruption (`compactionExitTransact`).

**What is proved about the current code** (`codeCfg`; `code_all_fixed`: it is `Cfg.repaired`), for every run —
`SetReadOnly` at any point, also during the retry loop of a failing compaction and concurrently with `Close`,
storage failures and corruption errors anywhere: `code_all_released_on_return` (the exact accounting of the three
locks, full strength), `code_all_progress`, `code_all_recovers_after_faults`, `code_all_close_returns`,
`setReadOnly_takes_effect` (once `SetReadOnly` returned nil every write-side call fails at its first `select`
with `ErrReadOnly`, nothing blocks, `Close` returns), `persistent_error_fails_fast`.  `hang_without_…` /
`write_succeeds_without_…`: for each `select` case of the machine whose removal breaks one of these, the run
that hangs (a `decide`d deadlock), in particular the `err == ErrReadOnly` case of `haserr`.

**The defect 832d000 repaired** (`Cfg.before832`, `write_lock_lost`, `released_on_return_fails_before_832d000`):
`SetReadOnly` used to set `compWriteLocking` itself, and both take-backs of that token were blind.  If a
compaction reported a corruption while a `SetReadOnly` was between its two `select`s, a following `Close` let
`compactionError` take `SetReadOnly`'s token, `Close` acquired the lock, and `SetReadOnly`'s `closeC` arm took
*`Close`'s* token out: `Close` went on tearing the DB down without the write lock, and a writer waiting in its
`select` could acquire it.  For that configuration everything but the exact accounting holds
(`before832_covered`; the accounting: `released_on_return_partial`).

**The defect repaired by wp51 (D42)** (`Cfg.asFound`, `readonly_write_slips_through_on_close`): on `closeC` the
persistent-error loop, holding the write lock of a read-only (or corrupted) DB, gave it back so that `Close` could take
it with its plain send; a writer that had passed `db.ok()` and was parked in its `select` could take it first — write
to a read-only DB (`SetReadOnly`), or dereference the nil journal of a DB opened read-only and leave the lock taken
(`Close` hangs).  Now (`code_keeps_lock`) the loop keeps the lock and closes `compLockedC`, `Close` selects on
`writeLockC <-` / `<-compLockedC`: `readonly_no_write_after_close` — once `compWriteLocking` is set the token never
leaves `writeLockC` again, no `Put`/`Write`/`OpenTransaction`/`CompactRange`/`SetReadOnly` gets the lock, before, during
or after `Close` — and `Close` still returns in every schedule (`code_all_close_returns`, `code_all_progress`: the
`compLockedC` arm is the step `clAcqKept`; `hang_without_hasperr_keep`, `hang_without_close_select`: each half of the
repair alone hangs `Close`).  Everything but `readonly_no_write_after_close` also holds for the configuration as found
(`asFound_covered`).

**`OpenTransaction` racing `Close`** (D43, `Model/TrClose.lean`): the lock-flow model above has one transaction object
and lets `Close` look at it once (`clCheckTr`), which is why `close_returns` carries the exception "unless a user
transaction was opened behind its back".  The interleaving model `TrClose` has any number of `OpenTransaction`
callers against one `Close`, with `db.tr`, `trMu`, the closed flag and `closeC` explicit.  For the source since
bfb31ce (`code_tx_registration`: `OpenTransaction` registers under `trMu`, reads the closed flag in the same critical
section and discards its own transaction if it is set; `Close` reads `db.tr` under `trMu` after `setClosed` and
`close(closeC)`), in EVERY interleaving: when `Close` reaches its lock acquisition no transaction is in a client's
hands — `Close` saw and discarded it, or its `OpenTransaction` saw the flag and is discarding it itself, returning
`ErrClosed` (`tx_close_no_live_transaction`) — hence `Close` acquires the lock in every schedule, with clients that
never call `Discard` after `ErrClosed` (`tx_close_returns`).  For the source as found, the decided run in which
`Close` waits for ever for a transaction nobody will end (`tx_close_hangs_as_found`), and the same for the
unsynchronised look at `db.tr` alone (`tx_close_hangs_with_racy_read`).

The leak theorems (`leak_commit`, `leak_opentx`, `leak_largebatch`, `leak_setreadonly`, stated for `Cfg.asIs`)
show what each of the four repairs prevents: an explicit run and an invariant proving that the resource is
never released afterwards and which later calls therefore never complete.

Liveness is termination: `measure` strictly decreases on every fault-free step, so every schedule, fair or
not, that contains finitely many storage failures is finite, and by `progress` it can only end when no call
is pending — except that calls queueing behind a transaction the *user* holds open wait for the user's
`Commit`/`Discard` (`s.trOpen ∧ s.trUser`).

Modelling limits: one transaction object at a time (a stale handle is not distinguished from the current
transaction); `tcompPauseC` and non-waiting triggers are not modelled; see the header of `Model/Locks.lean`.
-/
namespace GoLevel.C09

open GoLevel.Locks

/-- the three leaks are closed in the Go source (regenerated facts) -/
theorem code_three_fixed :
    codeCfg.commitUnlocksOnError = true ∧ codeCfg.openTxReleasesOnError = true ∧
    codeCfg.largeBatchDiscardsOnCommitError = true := by decide

/-- **the tie of the machine**: `compactionError` in the source has every `select` case and `switch` case of
`CompErr.MCfg.asCoded`, and nothing else (regenerated facts `Gen.ce…`) -/
theorem code_comperr_machine : codeCfg.m = CompErr.MCfg.asCoded true := by decide

/-- … in the form `Covered` asks for: the machine keeps the lock on `closeC` iff `Close` selects on `compLockedC` -/
theorem code_m : codeCfg.m = CompErr.MCfg.asCoded codeCfg.closeSel := by decide

/-- **the tie of the hand-over**: `SetReadOnly` does not set `compWriteLocking` and gives its own token back on
its `compPerErrC` arm; `compactionError` sets `compWriteLocking` when it takes `ErrReadOnly`, in `noerr` and in
`haserr` (regenerated facts; the shape since 832d000) -/
theorem code_hands_over : codeCfg.HandsOver := by decide

/-- **the tie of the repair of D42**: `compactionError`'s `closeC` case in `hasperr` does
`if db.compWriteLocking { close(db.compLockedC) }` (not `<-db.writeLockC`), `Close` acquires the write lock with
`select { case db.writeLockC <- struct{}{}: case <-db.compLockedC: }`, and the rest is as `Cfg.repaired` (regenerated
facts `ceHasperrKeepsLockOnClose`, `ceHasperrGivesBack`, `lkCloseSelectsCompLocked`, …) -/
theorem code_keeps_lock : codeCfg.Keeps :=
  ⟨code_three_fixed, code_comperr_machine, by decide, code_hands_over, by decide⟩

theorem code_covered (s : St) (hr : ReachableNoSR codeCfg s) : Covered codeCfg s :=
  ⟨code_three_fixed, code_m, Or.inl code_hands_over, Or.inr hr⟩

theorem repaired_covered (s : St) (hr : Reachable Cfg.repaired s) : Covered Cfg.repaired s :=
  ⟨⟨rfl, rfl, rfl⟩, rfl, Or.inl (by decide), Or.inl ⟨rfl, Or.inl hr⟩⟩

/-- the source as found by wp51 (the machine gives the lock back on `closeC`, `Close` takes it with a plain send) is
covered too: accounting, progress, recovery and `Close` returning do not depend on the repair of D42 -/
theorem asFound_covered (s : St) (hr : Reachable Cfg.asFound s) : Covered Cfg.asFound s :=
  ⟨⟨rfl, rfl, rfl⟩, rfl, Or.inl (by decide), Or.inl ⟨rfl, Or.inl hr⟩⟩

/-- the source between the repair of D23 and 832d000 is covered too (everything but the exact accounting) -/
theorem before832_covered (s : St) (hr : Reachable Cfg.before832 s) : Covered Cfg.before832 s :=
  ⟨⟨rfl, rfl, rfl⟩, rfl, Or.inr (by decide), Or.inl ⟨rfl, Or.inl hr⟩⟩

/-- every held resource has exactly its owners, and a returned call owns nothing -/
def ReleasedOnReturn (s : St) : Prop :=
  (tot tokW s.ws + b2n s.trOpen + b2n s.ehTok + b2n s.closeTok = b2n s.tok) ∧
  (tot clkW s.ws + bgClk s.mc + bgClk s.tc = b2n s.clk) ∧
  (tot trlkW s.ws = b2n s.trlk) ∧
  (∀ ok, tokW (.ret ok) = 0 ∧ clkW (.ret ok) = 0 ∧ trlkW (.ret ok) = 0)

/-- `compCommitLk` and `tr.lk` have exactly their owners, and a token in `writeLockC` has an owner -/
def LocksHaveOwners (s : St) : Prop :=
  (b2n s.tok ≤ tot tokW s.ws + b2n s.trOpen + b2n s.ehTok + b2n s.closeTok) ∧
  (tot clkW s.ws + bgClk s.mc + bgClk s.tc = b2n s.clk) ∧
  (tot trlkW s.ws = b2n s.trlk)

/-- while a call is pending a fault-free step is enabled, or a user transaction is open -/
def Progress (cfg : Cfg) (s : St) : Prop :=
  ∀ (i : Nat) (p : Pc), s.ws[i]? = some p → pending p = true →
    (∃ t, Step cfg false s t) ∨ (s.trOpen = true ∧ s.trUser = true)

/-- fault-free steps decrease `measure`; fault-free runs from `s` have at most `measure s` steps; one of
them cannot be extended; and when one cannot be extended, no call is pending (or a user transaction is open) -/
def RecoversAfterFaults (cfg : Cfg) (s : St) : Prop :=
  (∀ t u, Step cfg false t u → measure u < measure t) ∧
  (∀ n t, StepsNFN cfg n s t → n ≤ measure s) ∧
  (∃ t, StepsNF cfg s t ∧ ¬ ∃ u, Step cfg false t u) ∧
  (∀ t, StepsNF cfg s t → (¬ ∃ u, Step cfg false t u) →
    (∀ (i : Nat) (p : Pc), t.ws[i]? = some p → pending p = false) ∨ (t.trOpen = true ∧ t.trUser = true))

/-- every fault-free run from `s` that cannot be extended ends with each `Close` that was in progress in `s`
returned (or a user transaction is open) -/
def CloseReturns (cfg : Cfg) (s : St) : Prop :=
  ∀ (i : Nat) (p : Pc), s.ws[i]? = some p → clAllW p = 1 →
    ∀ t, StepsNF cfg s t → (¬ ∃ u, Step cfg false t u) →
      t.ws[i]? = some (.ret true) ∨ (t.trOpen = true ∧ t.trUser = true)

/-- **Every held resource has exactly its owners**, in every state of every run (storage failures, corruption
errors, `SetReadOnly` and `Close` anywhere) of a configuration with the four releases, the machine as coded and the
hand-over of the token as coded since 832d000: the token is in `writeLockC` iff exactly one of — a thread
between acquiring and releasing it, the open transaction, `compWriteLocking` (or the `SetReadOnly` that is about to
hand it over), `Close` — holds it; likewise `compCommitLk` (a committing `Commit` or compaction) and `tr.lk`.  A
thread that has returned (`ret`, `retE`) or not started (`idle`) is never an owner: whatever a call acquired is
released when it returns, whatever its outcome — except the token of a successful `OpenTransaction`, which passes
to the transaction (`trOpen`) and is released by `Commit`(ok) / `Discard` / `Close` (`St.setDone`), and the token
a successful `SetReadOnly` hands to `compactionError` (`ehTok`), released on `Close`. -/
theorem released_on_return (cfg : Cfg) (s : St) (hc : Covered cfg s) (hh : cfg.HandsOver)
    (h4 : cfg.setReadOnlyReleasesOnClose = true) : ReleasedOnReturn s := by
  have g := (covered_good cfg s hc).r
  exact ⟨(exact_handsOver cfg s hc hh h4).1, g.clkI, g.trlkI, fun _ => ⟨rfl, rfl, rfl⟩⟩

/-- the same for the other covered configurations (the hand-over as coded before 832d000, or without the fourth
release in runs without `SetReadOnly`): while the DB is open, and throughout runs without corruption errors or
without `SetReadOnly`.  Not in general: `write_lock_lost`. -/
theorem released_on_return_partial (cfg : Cfg) (s : St) (hc : Covered cfg s)
    (hx : s.closed = false ∨ (cfg.setReadOnlyReleasesOnClose = true ∧ ReachableNC cfg s) ∨ ReachableNoSR cfg s) :
    ReleasedOnReturn s := by
  have g := (covered_goodE cfg s hc)
  have ht : TokE s := by
    rcases hx with hx | ⟨h4, hx⟩ | hx
    · exact g.2 hx
    · exact (exact_noCorr cfg hc.1 hc.2.1 h4 s hx).1
    · exact exact_noSR cfg hc.1 hc.2.1 s hx
  exact ⟨ht, g.1.r.clkI, g.1.r.trlkI, fun _ => ⟨rfl, rfl, rfl⟩⟩

/-- **Every held lock has an owner**, in every covered state: `compCommitLk` and `tr.lk` exactly, and a token in
`writeLockC` belongs to a thread between acquiring and releasing it, to the open transaction, to
`compWriteLocking` or to `Close`. -/
theorem locks_have_owners (cfg : Cfg) (s : St) (hc : Covered cfg s) : LocksHaveOwners s :=
  have g := (covered_good cfg s hc).r
  ⟨g.tokI, g.clkI, g.trlkI⟩

/-- corollary: when no call is in progress, no transaction is open and the DB is neither read-only nor
closed, all three locks are free -/
theorem nothing_held_when_quiet (cfg : Cfg) (s : St) (hr : Covered cfg s)
    (hq : ∀ (i : Nat) (p : Pc), s.ws[i]? = some p → pending p = false) (ht : s.trOpen = false)
    (he : s.ehTok = false) (hc : s.closeTok = false) (hm : bgClk s.mc = 0) (htc : bgClk s.tc = 0) :
    s.tok = false ∧ s.clk = false ∧ s.trlk = false := by
  obtain ⟨h1, h2, h3⟩ := locks_have_owners cfg s hr
  have z : ∀ (f : Pc → Nat), f .idle = 0 → (∀ ok, f (.ret ok) = 0) → (∀ e, f (.retE e) = 0) → tot f s.ws = 0 := by
    intro f h0 hret hrete
    cases hz : tot f s.ws with
    | zero => rfl
    | succ n =>
      obtain ⟨i, p, hi, hp⟩ := exists_of_tot_pos f s.ws (by omega)
      have hpp := hq i p hi
      cases p with
      | idle => rw [h0] at hp; omega
      | ret ok => rw [hret ok] at hp; omega
      | retE e => rw [hrete e] at hp; omega
      | _ => simp [pending] at hpp
  have bz : ∀ b : Bool, 0 = b2n b → b = false := by intro b; cases b <;> simp [b2n]
  rw [z tokW rfl (fun _ => rfl) (fun _ => rfl), ht, he, hc] at h1
  rw [z clkW rfl (fun _ => rfl) (fun _ => rfl), hm, htc] at h2
  rw [z trlkW rfl (fun _ => rfl) (fun _ => rfl)] at h3
  exact ⟨bz _ (by simp only [b2n_false] at h1; omega), bz _ (by simpa using h2), bz _ h3⟩

/-- **No covered state is stuck while a call is pending**: some fault-free step is enabled — or the
pending calls queue behind a transaction that the user holds open. -/
theorem progress (cfg : Cfg) (s : St) (hc : Covered cfg s) : Progress cfg s :=
  fun i p hi hp => Locks.progress hc.2.1 s (covered_good cfg s hc) i p hi hp

theorem covered_nf (cfg : Cfg) (s t : St) (hc : Covered cfg s) (h : StepsNF cfg s t) : Covered cfg t :=
  covered_steps cfg s t hc (stepsNF_steps h)

/-- **Once failures stop, every call completes** (or fails at once with the persistent error — the
`selPerErr` / `cwSendErr` arms are ordinary steps): every fault-free step decreases `measure`; a fault-free
run from `s` has at most `measure s` steps, whatever the scheduler; and when it cannot be extended no call is
pending any more (or the user holds a transaction open). -/
theorem recovers_after_faults (cfg : Cfg) (s : St) (hc : Covered cfg s) : RecoversAfterFaults cfg s := by
  refine ⟨fun t u h => step_measure _ t u h, ?_, settle _ s, ?_⟩
  · intro n t h; have := stepsNFN_measure h; omega
  · intro t ht hq
    by_cases hu : t.trOpen = true ∧ t.trUser = true
    · exact Or.inr hu
    · left
      intro i p hi
      cases hp : pending p with
      | false => rfl
      | true =>
        rcases progress cfg t (covered_nf cfg s t hc ht) i p hi hp with h | h
        · exact absurd h hq
        · exact absurd h hu

/-- **`Close` returns**: from every covered state in which a thread is inside `Close`, every fault-free
run that cannot be extended (one exists, and all are shorter than `measure s`) ends with that `Close`
returned — it needs nothing but the steps of the calls and compactions already started — unless a user
transaction was opened behind its back and is still open. -/
theorem close_returns (cfg : Cfg) (s : St) (hc : Covered cfg s) : CloseReturns cfg s := by
  intro i p hi hp t ht hq
  have hcl : ∃ q, t.ws[i]? = some q ∧ (clAllW q = 1 ∨ q = .ret true) := by
    clear hq
    induction ht with
    | refl => exact ⟨p, hi, Or.inl hp⟩
    | tail _ h2 ih =>
      obtain ⟨q, hq1, hq2⟩ := ih
      exact close_thread_step _ _ _ _ h2 i q hq1 hq2
  obtain ⟨q, hq1, hq2⟩ := hcl
  rcases hq2 with hq2 | hq2
  · have hpend : pending q = true := by cases q <;> simp [clAllW] at hq2 <;> rfl
    rcases progress cfg t (covered_nf cfg s t hc ht) i q hq1 hpend with h | h
    · exact absurd h hq
    · exact Or.inr h
  · subst hq2; exact Or.inl hq1

theorem code_released_on_return (s : St) (hr : ReachableNoSR codeCfg s) : ReleasedOnReturn s :=
  released_on_return codeCfg s (code_covered s hr) code_hands_over (by decide)
theorem code_progress (s : St) (hr : ReachableNoSR codeCfg s) : Progress codeCfg s :=
  progress codeCfg s (code_covered s hr)
theorem code_recovers_after_faults (s : St) (hr : ReachableNoSR codeCfg s) : RecoversAfterFaults codeCfg s :=
  recovers_after_faults codeCfg s (code_covered s hr)
theorem code_close_returns (s : St) (hr : ReachableNoSR codeCfg s) : CloseReturns codeCfg s :=
  close_returns codeCfg s (code_covered s hr)

theorem repaired_released_on_return (s : St) (hr : Reachable Cfg.repaired s) : ReleasedOnReturn s :=
  released_on_return Cfg.repaired s (repaired_covered s hr) (by decide) rfl
theorem repaired_progress (s : St) (hr : Reachable Cfg.repaired s) : Progress Cfg.repaired s :=
  progress Cfg.repaired s (repaired_covered s hr)
theorem repaired_recovers_after_faults (s : St) (hr : Reachable Cfg.repaired s) : RecoversAfterFaults Cfg.repaired s :=
  recovers_after_faults Cfg.repaired s (repaired_covered s hr)
theorem repaired_close_returns (s : St) (hr : Reachable Cfg.repaired s) : CloseReturns Cfg.repaired s :=
  close_returns Cfg.repaired s (repaired_covered s hr)

/-- `OpenTransaction` fails in `rotateMem`: the token is back -/
example : Steps Cfg.repaired (init 2) { ws := [.ret false, .idle] } := otxFailRun Cfg.repaired (k := true) rfl

/-- a `Close` racing with `SetReadOnly` completes -/
example : Steps Cfg.repaired (init 2)
    { ws := [.ret false, .ret true], tok := true, closeTok := true, closed := true, eh := .exited,
      mc := .exited, tc := .exited } :=
  ((((srCloseRun Cfg.repaired rfl).step (Step.clAcq _ 1 rfl rfl)).step (Step.bgExitIdle _ false rfl rfl)).step
    (Step.bgExitIdle _ true rfl rfl)).step (Step.clWait _ 1 rfl rfl rfl)

example : measure (init 3) = 371 := by decide

/-- **`OpenTransaction` leaks the write lock** when `rotateMem` (or `waitCompaction`) fails: there is a
reachable state in which the call has returned its error, nobody owns the token, and yet it is in
`writeLockC` — and from then on, for ever: no `Put`/`Write`/`OpenTransaction`/`CompactRange` ever acquires
it (`tot tokW = 0`: they block, or fail once the DB is closed), no `Close` gets past
`db.writeLockC <- struct{}{}` (`closeTok = false`, nobody in `closeW.Wait()`). -/
theorem leak_opentx :
    ∃ s, Reachable Cfg.asIs s ∧ s.ws[0]? = some (.ret false) ∧
      (∀ (i : Nat) (p : Pc), s.ws[i]? = some p → pending p = false) ∧
      ∀ t, Steps Cfg.asIs s t →
        t.tok = true ∧ tot tokW t.ws = 0 ∧ t.closeTok = false ∧
        ∀ (i : Nat), t.ws[i]? ≠ some .clWait := by
  refine ⟨otxLeakSt, ⟨2, otxLeakRun⟩, rfl, ?_, ?_⟩
  · exact fun i p hi => (by decide : ∀ p ∈ otxLeakSt.ws, pending p = false) p (List.mem_of_getElem? hi)
  · exact fun t =>
      TokOrphan.stuck (s := otxLeakSt) ⟨rfl, by decide, rfl, rfl, by decide, by decide, .inl ⟨rfl, rfl, by decide⟩⟩

/-- **`Transaction.Commit` leaks `compCommitLk`** after three failed `s.commit` attempts: in a reachable
state the `Commit` (thread 1) has returned, nobody owns `compCommitLk`, it is locked, and the next memdb
compaction (requested here by a `Put`) blocks in `compCommitLk.Lock()` — for ever; hence `mCompaction`
never exits and a `Close` that reaches `db.closeW.Wait()` never returns. -/
theorem leak_commit :
    ∃ s, Reachable Cfg.asIs s ∧ s.ws[1]? = some (.ret false) ∧ s.clk = true ∧ tot clkW s.ws = 0 ∧
      (∀ t, Steps Cfg.asIs s t → t.clk = true ∧ ∃ w, t.mc = .run w .lockClk) ∧
      (∀ t, Steps Cfg.asIs s t → ∀ (i : Nat), t.ws[i]? = some .clWait →
        ∀ u, Steps Cfg.asIs t u → u.ws[i]? = some .clWait) := by
  have h0 : ClkOrphan commitLeakSt := ⟨rfl, by decide, rfl, some 2, rfl⟩
  refine ⟨commitLeakSt, ⟨5, commitLeakRun⟩, rfl, rfl, by decide, ?_, ?_⟩
  · intro t ht
    obtain ⟨h1, _, _, h4⟩ := h0.steps ht
    exact ⟨h1, h4⟩
  · intro t ht i hi u hu
    exact clkOrphan_close_stuck Cfg.asIs t u hu (h0.steps ht) i hi

/-- **`DB.Write` (large batch) orphans its transaction** when `tr.Commit()` fails: the call has returned,
the internal transaction is still open and owns the token, nobody has its handle; until the DB is closed no
other writer ever acquires the write lock. -/
theorem leak_largebatch :
    ∃ s, Reachable Cfg.asIs s ∧ s.ws[0]? = some (.ret false) ∧
      (∀ (i : Nat) (p : Pc), s.ws[i]? = some p → pending p = false) ∧
      ∀ t, Steps Cfg.asIs s t → t.closed = false →
        t.tok = true ∧ tot tokW t.ws = 0 ∧ t.trOpen = true ∧ t.trUser = false := by
  refine ⟨lgLeakSt, ⟨2, lgLeakRun⟩, rfl, ?_, ?_⟩
  · exact fun i p hi => (by decide : ∀ p ∈ lgLeakSt.ws, pending p = false) p (List.mem_of_getElem? hi)
  · intro t ht hc
    have h0 : TxOrphan lgLeakSt := Or.inr ⟨rfl, by decide, rfl, rfl, by decide, by decide, by decide⟩
    rcases h0.steps ht with h | ⟨h1, h2, h3, h4, _, _, _⟩
    · exact nomatch hc.symm.trans h
    · exact ⟨h1, h2, h3, h4⟩

/-- **`SetReadOnly` racing with `Close` leaks the write lock** (any configuration without the fourth fix):
`SetReadOnly` has taken the token, `Close` closes `closeC`, `compactionError` leaves its `noerr` loop (it
releases the token only from `hasperr`), `SetReadOnly` takes the `closeC` arm of its second `select` and
returns `ErrClosed`: the token stays in `writeLockC`, `Close` (thread 1) blocks in
`db.writeLockC <- struct{}{}` for ever. -/
theorem leak_setreadonly_of (cfg : Cfg) (hm : cfg.m = CompErr.MCfg.asCoded cfg.closeSel)
    (hf : cfg.setReadOnlyReleasesOnClose = false) :
    ∃ s, Reachable cfg s ∧ s.ws[0]? = some (.ret false) ∧ s.ws[1]? = some .clAcq ∧
      ∀ t, Steps cfg s t →
        t.tok = true ∧ tot tokW t.ws = 0 ∧ t.closeTok = false ∧ ∀ (i : Nat), t.ws[i]? ≠ some .clWait := by
  exact ⟨srCloseSt false cfg.srSetsWriteLocking, ⟨2, hf ▸ srCloseRun cfg hm⟩, rfl, rfl, fun t =>
    TokOrphan.stuck ⟨rfl, rfl, rfl, rfl, Nat.le_refl _, rfl, .inr ⟨rfl, rfl⟩⟩⟩

theorem leak_setreadonly :
    ∃ s, Reachable Cfg.asIs s ∧ s.ws[0]? = some (.ret false) ∧ s.ws[1]? = some .clAcq ∧
      ∀ t, Steps Cfg.asIs s t →
        t.tok = true ∧ tot tokW t.ws = 0 ∧ t.closeTok = false ∧ ∀ (i : Nat), t.ws[i]? ≠ some .clWait :=
  leak_setreadonly_of Cfg.asIs rfl rfl

/-- **KNOWN FINDING, current source**: as long as the extractor reports that `SetReadOnly` does not give the
token back on its `closeC` arm, the race is a run of the model of the current code: `SetReadOnly` has
returned `ErrClosed`, and `Close` never gets the write lock. -/
theorem known_finding_setreadonly_close (hf : codeCfg.setReadOnlyReleasesOnClose = false) :
    ∃ s, Reachable codeCfg s ∧ s.ws[0]? = some (.ret false) ∧ s.ws[1]? = some .clAcq ∧
      ∀ t, Steps codeCfg s t →
        t.tok = true ∧ tot tokW t.ws = 0 ∧ t.closeTok = false ∧ ∀ (i : Nat), t.ws[i]? ≠ some .clWait :=
  leak_setreadonly_of codeCfg code_m hf

/-- the accounting of `released_on_return` fails in the code as it is -/
theorem asIs_not_released : ∃ s, Reachable Cfg.asIs s ∧ ¬ LocksHaveOwners s :=
  ⟨otxLeakSt, ⟨2, otxLeakRun⟩, fun h => by have := h.1; revert this; decide⟩

/-- regenerated tie: the four release facts read off the Go source are all true, `compactionError` has exactly the
cases of `MCfg.asCoded`, `tCompaction` consults `compReadOnly`, `SetReadOnly` / `compactionTransact` talk to the
machine as modelled; un-fixing any of them in the source breaks this `decide` -/
theorem code_all_fixed : codeCfg = Cfg.repaired := by decide

theorem code_covered_all (s : St) (hr : Reachable codeCfg s) : Covered codeCfg s :=
  ⟨code_three_fixed, code_m, Or.inl code_hands_over, Or.inl ⟨by decide, Or.inl hr⟩⟩

/-- for EVERY reachable state of the code's configuration — `SetReadOnly` at any point (also while a
compaction is in its transient-error retry loop, also concurrently with `Close`), storage failures and
corruption errors anywhere -/
theorem code_all_locks_have_owners (s : St) (hr : Reachable codeCfg s) : LocksHaveOwners s :=
  locks_have_owners codeCfg s (code_covered_all s hr)
theorem code_all_progress (s : St) (hr : Reachable codeCfg s) : Progress codeCfg s :=
  progress codeCfg s (code_covered_all s hr)
theorem code_all_recovers_after_faults (s : St) (hr : Reachable codeCfg s) : RecoversAfterFaults codeCfg s :=
  recovers_after_faults codeCfg s (code_covered_all s hr)
theorem code_all_close_returns (s : St) (hr : Reachable codeCfg s) : CloseReturns codeCfg s :=
  close_returns codeCfg s (code_covered_all s hr)
/-- **the exact accounting, full strength**: in every reachable state of the code's configuration the write-lock
token, `compCommitLk` and `tr.lk` are held by exactly their owners, and a call that has returned owns nothing -/
theorem code_all_released_on_return (s : St) (hr : Reachable codeCfg s) : ReleasedOnReturn s :=
  released_on_return codeCfg s (code_covered_all s hr) code_hands_over (by decide)

/-- the `select` on `writeLockC` at the start of `Put` / `Delete` / `Write` (`putSel`), `OpenTransaction` and the
large-batch `Write` (`otxSel`), `CompactRange` (`crSel`), `SetReadOnly` (`srSel`) -/
def AtFirstSelect (p : Pc) : Prop := ∃ q, selNext p = some q

/-- **`SetReadOnly` takes effect**, in every interleaving of the code's configuration.  In every reachable
state in which `compReadOnly` is set — it is set by the step with which `SetReadOnly` returns nil, and never
reset — :
* while the DB is open, `compactionError` is in `hasperr` with `ErrReadOnly`, the write-lock token is in
  `writeLockC`, no thread and no transaction owns it, and for every thread at the first `select` of a write-side
  call — in particular every `Put`, `Delete`, `Write`, `OpenTransaction`, `CompactRange` started later — the
  `compPerErrC` arm is enabled and yields `ErrReadOnly` (the call does not block), and no step moves the thread
  anywhere else (it never gets the lock);
* no call blocks (`Progress`), once failures stop every call completes (`RecoversAfterFaults`), `Close` returns
  (`CloseReturns`).
(After `Close` has closed `closeC` such a call returns `ErrReadOnly` or `ErrClosed`, and never gets the lock either:
`readonly_no_write_after_close`.) -/
theorem setReadOnly_takes_effect (s : St) (hr : Reachable codeCfg s) (hro : s.ro = true) :
    (s.closed = false →
      s.eh = .hasperr ∧ s.ehErr = .readonly ∧ s.tok = true ∧ tot tokW s.ws = 0 ∧ s.trOpen = false ∧
      ∀ (i : Nat) (p : Pc), s.ws[i]? = some p → AtFirstSelect p →
        (∃ t, Step codeCfg false s t ∧ t.ws[i]? = some (.retE .readonly)) ∧
        (∀ f t, Step codeCfg f s t → t.ws[i]? = some p ∨ t.ws[i]? = some (.retE .readonly))) ∧
    (∀ t, Steps codeCfg s t → t.ro = true) ∧
    Progress codeCfg s ∧ RecoversAfterFaults codeCfg s ∧ CloseReturns codeCfg s := by
  have hc := code_covered_all s hr
  have g := covered_goodE codeCfg s hc
  refine ⟨fun hcl => ?_, fun t ht => steps_ro codeCfg s t ht hro, progress codeCfg s hc,
    recovers_after_faults codeCfg s hc, close_returns codeCfg s hc⟩
  have herr := (g.1.e.2.1 hro).1
  have heh : s.eh = .hasperr := (g.1.a.ro_alt hro).resolve_left (by rw [hcl]; exact Bool.false_ne_true)
  obtain ⟨htok, h0, htr, _⟩ := tokE_owner (g.2 hcl) (.inl (g.1.e.2.2 hro hcl).1)
  refine ⟨heh, herr, htok, h0, htr, fun i p hi ⟨q, hq⟩ => ⟨?_, fun f t hst => ?_⟩⟩
  · refine ⟨_, Step.selPerErr s i p q hi hq (offPer_of code_m heh), ?_⟩
    simp [herr, (List.getElem?_eq_some_iff.1 hi).1]
  · have := sel_thread_step codeCfg s t f hst i p q hi hq htok hcl
    rwa [herr] at this

/-- **The persistent-error state fails fast**, in every interleaving of the code's configuration.  In every
reachable state in which `compactionError` is in `hasperr` (it got a corruption error or `ErrReadOnly`):
* every thread at a blocking point of a write-side call has its error arm enabled: at the first `select` the
  `compPerErrC` arm (the call returns the machine's error), while sending a compaction command or waiting for its
  ack the `compErrC` arm, in `SetReadOnly`'s second `select` the `compPerErrC` arm;
* the state and its error last until `Close`;
* once `compWriteLocking` is set (the machine has taken `ErrReadOnly`, or it has put its own token into
  `writeLockC` — it does so as soon as the lock is free), the token stays in `writeLockC` until `Close`, and while
  the DB is open no thread gets the lock: a thread at a first `select` moves only by returning the machine's
  error. -/
theorem persistent_error_fails_fast (s : St) (hr : Reachable codeCfg s) (he : s.eh = .hasperr) :
    (∀ (i : Nat) (p : Pc), s.ws[i]? = some p →
      (∀ q, selNext p = some q → ∃ t, Step codeCfg false s t ∧ t.ws[i]? = some (.retE s.ehErr)) ∧
      (∀ b site lg, p = .cwSend b site lg → ∃ t, Step codeCfg false s t ∧ t.ws[i]? = some (onErr site lg)) ∧
      (∀ b site lg, p = .cwAck b site lg → ∃ t, Step codeCfg false s t ∧ t.ws[i]? = some (onErr site lg)) ∧
      (p = .srSet → ∃ t, Step codeCfg false s t ∧ t.ws[i]? = some (.retE s.ehErr))) ∧
    (∀ f t, Step codeCfg f s t → (t.eh = .hasperr ∧ t.ehErr = s.ehErr) ∨ s.closed = true) ∧
    (s.cwl = true → s.closed = false →
      s.tok = true ∧ tot tokW s.ws = 0 ∧
      (∀ f t, Step codeCfg f s t → t.ehTok = true ∧ t.cwl = true) ∧
      ∀ (i : Nat) (p : Pc), s.ws[i]? = some p → AtFirstSelect p →
        ∀ f t, Step codeCfg f s t → t.ws[i]? = some p ∨ t.ws[i]? = some (.retE s.ehErr)) := by
  have hc := code_covered_all s hr
  have g := covered_goodE codeCfg s hc
  have hm := code_m
  have hset : ∀ (i : Nat) (p q : Pc), s.ws[i]? = some p → (s.ws.set i q)[i]? = some q :=
    fun i p q hi => List.getElem?_set_self (getElem?_lt hi)
  refine ⟨fun i p hi => ⟨?_, ?_, ?_, ?_⟩, fun _ _ hst => (sim hst).hasperr he, fun hcw hcl => ?_⟩
  · intro q hq
    exact ⟨_, Step.selPerErr s i p q hi hq (offPer_of hm he), hset i p _ hi⟩
  · rintro b site lg rfl
    exact ⟨_, Step.cwSendErr s i b site lg hi (Or.inl (offErr_of hm he)), hset i _ _ hi⟩
  · rintro b site lg rfl
    refine ⟨_, Step.cwAckErr s i b site lg hi (Or.inl (offErr_of hm he)), ?_⟩
    cases b <;> simpa [St.setBg] using hset i _ _ hi
  · rintro rfl
    exact ⟨_, Step.srPerErr s i hi (offPer_of hm he), hset i _ _ hi⟩
  · have hH := (exact_handsOver codeCfg s hc code_hands_over (by decide)).2
    obtain ⟨hk, hw⟩ := hH.1 hcw (by rw [he]; simp)
    obtain ⟨htok, h0, _⟩ := tokE_owner (g.2 hcl) (.inl hk)
    exact ⟨htok, h0,
      fun _ _ hst => have := (sim hst).hasperr_locked he hk htok hw; ⟨this.1, this.2.trans hcw⟩,
      fun i p hi ⟨q, hq⟩ f t hst => sel_thread_step codeCfg s t f hst i p q hi hq htok hcl⟩

/-- `SetReadOnly` arrives while a table compaction is in the retry loop after a transient error: it returns nil,
the retry completes (reporting through `compPerErrC`), `tCompaction` parks, a `Close` returns -/
example : Reachable Cfg.repaired stRetryRO ∧ stRetryRO.ws = [.ret false, .ret true, .ret true] := ⟨⟨3, runRetryRO⟩, rfl⟩

/-- after `SetReadOnly` returned nil a `Put` is at its `select`: the state of `setReadOnly_takes_effect` -/
example : Reachable Cfg.repaired (stRO .putSel) ∧ (stRO .putSel).ro = true ∧ (stRO .putSel).closed = false ∧
    AtFirstSelect .putSel :=
  ⟨⟨2, runRO.step (Step.startPut _ 1 rfl)⟩, rfl, rfl, ⟨_, rfl⟩⟩

/-- a corruption puts the machine into `hasperr`; it then takes the write lock: the state of the last part of
`persistent_error_fails_fast` -/
example : Reachable Cfg.repaired (stCorrupt .idle true |> fun s => { s with ehTok := true, cwl := true }) :=
  ⟨2, runCorrupt.step (Step.ehAcquire _ rfl rfl)⟩

/-! ## every `select` case of the machine that these theorems need: the run that hangs without it

Each configuration is the code's with one case of `compactionError` removed; the final state of the run has a
call pending and no successor at all (`canStep … = false` is `decide`d, `stuck_of_canStep`): a deadlock. -/

/-- a call is pending in `s`, and `s` has no successor, with or without storage failures -/
def Deadlock (cfg : Cfg) (s : St) : Prop :=
  (∃ (i : Nat) (p : Pc), s.ws[i]? = some p ∧ pending p = true) ∧ ¬ ∃ f t, Step cfg f s t

/-- **`haserr` without `err == ErrReadOnly`** (the seeded change): `SetReadOnly` called during the retry loop of a
compaction that failed with a transient error returns nil, the machine stays in `haserr` and goes back to
`noerr` when the retry succeeds; the token stays in `writeLockC`, nobody offers `compPerErrC`: a later `Put`
blocks for ever. -/
theorem hang_without_haserr_readonly_case :
    ∃ s, Reachable cfgNoHaserrRO s ∧ s.ws[1]? = some (.ret true) ∧ s.ws[2]? = some .putSel ∧ Deadlock cfgNoHaserrRO s :=
  ⟨_, ⟨3, runNoHaserrRO_put⟩, rfl, rfl, ⟨2, _, rfl, rfl⟩, stuck_of_canStep _ _ (by decide)⟩

/-- … and so does a later `Close`, in `db.writeLockC <- struct{}{}` -/
theorem close_hangs_without_haserr_readonly_case :
    ∃ s, Reachable cfgNoHaserrRO s ∧ s.ws[2]? = some .clAcq ∧ Deadlock cfgNoHaserrRO s :=
  ⟨_, ⟨3, runNoHaserrRO_close⟩, rfl, ⟨2, _, rfl, rfl⟩, stuck_of_canStep _ _ (by decide)⟩

/-- **`noerr` without `err == ErrReadOnly`**: `SetReadOnly` returns nil with the machine in `haserr`; a later
`Put` blocks for ever. -/
theorem hang_without_noerr_readonly_case :
    ∃ s, Reachable cfgNoNoerrRO s ∧ s.ws[0]? = some (.ret true) ∧ s.ws[1]? = some .putSel ∧ Deadlock cfgNoNoerrRO s :=
  ⟨_, ⟨2, runNoNoerrRO⟩, rfl, rfl, ⟨1, _, rfl, rfl⟩, stuck_of_canStep _ _ (by decide)⟩

/-- **`noerr` without `case err = <-db.compErrSetC`**: the first compaction blocks in `compactionTransact`'s
`select`, `CompactRange` waits for its ack for ever. -/
theorem hang_without_noerr_recv :
    ∃ s, Reachable cfgNoNoerrRecv s ∧ s.ws[0]? = some (.cwAck true .crRange false) ∧ Deadlock cfgNoNoerrRecv s :=
  ⟨_, ⟨1, runNoNoerrRecv⟩, rfl, ⟨0, _, rfl, rfl⟩, stuck_of_canStep _ _ (by decide)⟩

/-- **`haserr` without `case err = <-db.compErrSetC`**: after a transient error the retry cannot report its
success; `SetReadOnly` holds the token and cannot post `ErrReadOnly`: it blocks for ever (and with it every
writer). -/
theorem hang_without_haserr_recv :
    ∃ s, Reachable cfgNoHaserrRecv s ∧ s.ws[1]? = some .srSet ∧ Deadlock cfgNoHaserrRecv s :=
  ⟨_, ⟨2, runNoHaserrRecv⟩, rfl, ⟨1, _, rfl, rfl⟩, stuck_of_canStep _ _ (by decide)⟩

/-- **`hasperr` without `case db.compPerErrC <- err`**: after `SetReadOnly` returned nil a `Put` blocks for ever. -/
theorem hang_without_hasperr_compPerErrC :
    ∃ s, Reachable cfgNoPerErr s ∧ s.ws[0]? = some (.ret true) ∧ s.ws[1]? = some .putSel ∧ Deadlock cfgNoPerErr s :=
  ⟨_, ⟨2, runNoPerErr⟩, rfl, rfl, ⟨1, _, rfl, rfl⟩, stuck_of_canStep _ _ (by decide)⟩

/-- **`hasperr` without `case db.compErrC <- err`**: a `CompactRange` that wants to send its command while
`tCompaction` is busy, when `SetReadOnly` makes `tCompaction` park, blocks for ever. -/
theorem hang_without_hasperr_compErrC :
    ∃ s, Reachable cfgNoHasperrErr s ∧ s.ws[1]? = some (.cwSend true .crRange false) ∧ Deadlock cfgNoHasperrErr s :=
  ⟨_, ⟨3, runNoHasperrErr⟩, rfl, ⟨1, _, rfl, rfl⟩, stuck_of_canStep _ _ (by decide)⟩

/-- **`hasperr` without `case <-db.closeC`**: after `SetReadOnly`, `Close` blocks for ever in
`db.writeLockC <- struct{}{}`. -/
theorem hang_without_hasperr_closeC :
    ∃ s, Reachable cfgNoHasperrClose s ∧ s.ws[1]? = some .clAcq ∧ Deadlock cfgNoHasperrClose s :=
  ⟨_, ⟨2, runNoHasperrClose⟩, rfl, ⟨1, _, rfl, rfl⟩, stuck_of_canStep _ _ (by decide)⟩

/-- **`hasperr` whose `closeC` case does not give the token back** (the configuration as found, `Close` with its
plain send): the same. -/
theorem hang_without_hasperr_giveback :
    ∃ s, Reachable cfgNoGiveBack s ∧ s.ws[1]? = some .clAcq ∧ Deadlock cfgNoGiveBack s :=
  ⟨_, ⟨2, runNoGiveBack⟩, rfl, ⟨1, _, rfl, rfl⟩, stuck_of_canStep _ _ (by decide)⟩

/-- **`hasperr` whose `closeC` case does not close `compLockedC`** (the code's configuration): the machine returns
with the lock, `Close` waits in its `select` for ever. -/
theorem hang_without_hasperr_keep :
    ∃ s, Reachable cfgNoKeep s ∧ s.ws[1]? = some .clAcq ∧ Deadlock cfgNoKeep s :=
  ⟨_, ⟨2, runNoKeep⟩, rfl, ⟨1, _, rfl, rfl⟩, stuck_of_canStep _ _ (by decide)⟩

/-- **`Close` without the `compLockedC` arm** while the machine keeps the lock (half of the repair of D42): `Close`
blocks for ever in `db.writeLockC <- struct{}{}`. -/
theorem hang_without_close_select :
    ∃ s, Reachable cfgNoCloseSel s ∧ s.ws[1]? = some .clAcq ∧ Deadlock cfgNoCloseSel s :=
  ⟨_, ⟨2, runNoCloseSel⟩, rfl, ⟨1, _, rfl, rfl⟩, stuck_of_canStep _ _ (by decide)⟩

/-- **`hasperr` without `case db.writeLockC <- struct{}{}`** breaks `persistent_error_fails_fast`, not liveness:
after a corruption the machine is in `hasperr`, it has no step of its own left (it never takes the lock), and a
`Put` started afterwards succeeds. -/
theorem write_succeeds_without_hasperr_lock :
    ∃ s t, Reachable cfgNoLock s ∧ s.eh = .hasperr ∧ s.ehErr = .corrupt ∧ s.ws[1]? = some .idle ∧
      ehEn cfgNoLock s = false ∧ Steps cfgNoLock s t ∧ t.ws[1]? = some (.ret true) :=
  ⟨_, _, ⟨2, runCorruptNoLock⟩, rfl, rfl, rfl, by decide, runNoLock_put, rfl⟩

/-- **DEFECT (repaired by 832d000)**, on the configuration of the source before that commit: a compaction reports
a corruption while `SetReadOnly` is between its two `select`s, then `Close`: `compactionError` (in `hasperr`,
reading the `compWriteLocking` that `SetReadOnly` had set) takes `SetReadOnly`'s token out on `closeC`, `Close`
acquires the lock, `SetReadOnly`'s `closeC` arm (`select { case <-db.writeLockC: default: }`) takes `Close`'s token
out.  In the reachable state `s`, `Close` (thread 2) is in `db.closeW.Wait()` owning the lock (`closeTok`), and
`writeLockC` is empty; a `Put` (thread 3) that had passed `db.ok()` before `Close` takes the `writeLockC` arm of
its `select` and is inside `writeLocked` (state `t`) while `Close` goes on to close the journal.  (Reproduced on
that source by `vh -prop C09`, signature `setReadOnly:corruption-then-close:write-lock-lost`.) -/
theorem write_lock_lost :
    ∃ s t, Reachable Cfg.before832 s ∧ s.ws[2]? = some .clWait ∧ s.closeTok = true ∧ s.tok = false ∧
      ¬ ReleasedOnReturn s ∧ Step Cfg.before832 false s t ∧ t.ws[3]? = some .putFlush ∧ t.closeTok = true :=
  ⟨_, _, ⟨4, runLost⟩, rfl, rfl, rfl, fun h => by have := h.1; revert this; decide, stepLost, rfl, rfl⟩

/-- before 832d000 the exact accounting did not hold in every reachable state -/
theorem released_on_return_fails_before_832d000 : ¬ ∀ s, Reachable Cfg.before832 s → ReleasedOnReturn s := by
  intro h
  obtain ⟨s, _, hr, _, _, _, hn, _⟩ := write_lock_lost
  exact hn (h s hr)

/-- the same schedule in the code's configuration: `Close` ends up owning the one token in `writeLockC` -/
example : Reachable Cfg.repaired stKept ∧ stKept.closeTok = true ∧ stKept.tok = true ∧ stKept.ws[2]? = some .clWait :=
  ⟨⟨4, runKept⟩, rfl, rfl, rfl⟩

/-- **DEFECT (repaired, D42)**, on the configuration of the source as found (`Cfg.asFound`: after 832d000, the
`closeC` case of `hasperr` gives the lock back, `Close` takes it with a plain send) — a decided trace.
`SetReadOnly` (thread 0) returned nil; a `Put` (thread 1) called afterwards passed `db.ok()` and reached its `select`;
`Close` (thread 2) closed `closeC`, `compactionError` took its token back and exited.  In the reachable state `s` the
DB is read-only and closing, `writeLockC` is empty, `Close` has not acquired it yet, and the `Put`'s `select` has two
ready arms, `writeLockC` and `closeC`: the step to `t` takes the lock — the `Put` is inside `writeLocked` — and the run
goes on to `u`, where it has written to the journal and the memdb of a read-only DB and returned nil.  (With a DB
*opened* read-only there is no journal: nil dereference, the lock stays taken, `Close` hangs.)  The same window
exists after a corruption error.  Reproduced on that source by `vh -prop C18` / `C09`, signatures
`put:readonly-close-race:write-accepted`, `put:readonly-close-race:panic:journal.(*Writer).Next`,
`close:close-race:hang:after-client-panic`. -/
theorem readonly_write_slips_through_on_close :
    ∃ s t u, Reachable Cfg.asFound s ∧ s.ro = true ∧ s.closed = true ∧ s.tok = false ∧
      s.ws[0]? = some (.ret true) ∧ s.ws[1]? = some .putSel ∧ s.ws[2]? = some .clAcq ∧
      Step Cfg.asFound false s t ∧ t.ws[1]? = some .putFlush ∧ tot tokW t.ws = 1 ∧
      Steps Cfg.asFound t u ∧ u.ro = true ∧ u.ws[1]? = some (.ret true) :=
  ⟨_, _, stROWrite, ⟨3, runROGap⟩, rfl, rfl, rfl, rfl, rfl, rfl, stepROGap, rfl, by decide,
    ((Steps.refl _).step (Step.putNoWait _ 1 rfl)).step (Step.putJournalOk _ 1 rfl) |>.step
      (Step.putUnlock _ 1 true rfl), rfl, rfl⟩

/-- the token is in `writeLockC` and belongs to `compactionError` or to `Close`: no thread is between acquiring and
releasing the write lock, none between the two `select`s of `SetReadOnly`, no transaction is open -/
def NoWriteLockHeld (s : St) : Prop :=
  s.tok = true ∧ (s.ehTok = true ∨ s.closeTok = true) ∧ tot tokW s.ws = 0 ∧ tot srW s.ws = 0 ∧ s.trOpen = false

/-- once `compWriteLocking` is set (or `SetReadOnly` has returned nil) in a configuration with the repair of D42, the
lock is kept in every state of every continuation: `kept_locked` there, since `compWriteLocking` is never reset -/
theorem keeps_no_write (cfg : Cfg) (hk : cfg.Keeps) (s : St) (hr : Reachable cfg s) (hw : s.cwl = true ∨ s.ro = true)
    (t : St) (ht : Steps cfg s t) : Reachable cfg t ∧ NoWriteLockHeld t := by
  obtain ⟨n, h0⟩ := hr
  have hrt : Reachable cfg t := ⟨n, h0.trans ht⟩
  exact ⟨hrt, (kept_locked cfg hk t hrt (.inl (steps_cwl cfg s t ht (kept_locked cfg hk s ⟨n, h0⟩ hw).1))).2⟩

/-- **A read-only DB takes no write, also while it is being closed** (the repair of D42), in every interleaving of
the code's configuration — storage failures, corruption errors, `SetReadOnly`, `Close` anywhere.  From every
reachable state in which `compWriteLocking` is set — `compactionError` holds the write lock: `SetReadOnly` returned nil
(`compReadOnly` set), or the machine took the lock after a corruption — , in every state of every continuation
(`Close` not yet called, running, or returned):
* the token is in `writeLockC` and belongs to `compactionError` or to `Close`; no thread is between acquiring and
  releasing the write lock (no `Put`/`Delete`/`Write`, `OpenTransaction`, `CompactRange`: `tot tokW = 0`; no
  `SetReadOnly` between its `select`s: `tot srW = 0`), no transaction is open;
* a thread at the first `select` of a write-side call moves only by returning the machine's error (`compPerErrC`) or
  `ErrClosed` — it never takes the `writeLockC` arm;
* and still nothing blocks: `Progress`, `RecoversAfterFaults`, `CloseReturns` (`Close`'s wait is satisfied by
  `compLockedC`: step `clAcqKept`). -/
theorem readonly_no_write_after_close (s : St) (hr : Reachable codeCfg s) (hw : s.cwl = true ∨ s.ro = true) :
    (∀ t, Steps codeCfg s t →
      NoWriteLockHeld t ∧
      (∀ (i : Nat) (p : Pc), t.ws[i]? = some p → AtFirstSelect p → ∀ f u, Step codeCfg f t u →
        u.ws[i]? = some p ∨ u.ws[i]? = some (.retE t.ehErr) ∨ u.ws[i]? = some (.ret false)) ∧
      Progress codeCfg t ∧ RecoversAfterFaults codeCfg t ∧ CloseReturns codeCfg t) := by
  intro t ht
  obtain ⟨hrt, hn⟩ := keeps_no_write codeCfg code_keeps_lock s hr hw t ht
  have hc := code_covered_all t hrt
  exact ⟨hn, fun i p hi ⟨q, hq⟩ f u hst => sel_thread_step_tok codeCfg t u f hst i p q hi hq hn.1,
    progress codeCfg t hc, recovers_after_faults codeCfg t hc, close_returns codeCfg t hc⟩

/-- the same for every repaired configuration (`Cfg.Keeps`), in particular `Cfg.repaired` -/
theorem repaired_no_write_after_close (s : St) (hr : Reachable Cfg.repaired s) (hw : s.cwl = true ∨ s.ro = true) :
    ∀ t, Steps Cfg.repaired s t → NoWriteLockHeld t :=
  fun t ht => (keeps_no_write _ ⟨⟨rfl, rfl, rfl⟩, rfl, rfl, by decide, rfl⟩ s hr hw t ht).2

/-- non-vacuity: the schedule of `readonly_write_slips_through_on_close` in the code's configuration — the `Put`
returns `ErrClosed`, `Close` returns through the `compLockedC` arm, the token never left `writeLockC` -/
example : Reachable Cfg.repaired stROKept ∧ stROKept.ro = true ∧ stROKept.ws = [.ret true, .ret false, .ret true] ∧
    NoWriteLockHeld stROKept :=
  ⟨⟨3, runROKept⟩, rfl, rfl, rfl, Or.inr rfl, by decide, by decide, rfl⟩

/-- the accounting fails in the state of the trace: as found, the DB is read-only and nobody holds its write lock -/
theorem asFound_lock_not_kept : ¬ ∀ s, Reachable Cfg.asFound s → s.ro = true → NoWriteLockHeld s := by
  intro h
  have := (h stROGap ⟨3, runROGap⟩ rfl).1
  revert this; decide

section TxClose
open GoLevel.TrClose (OPc CPc)

/-- **the tie of the repair of D43**: `OpenTransaction` does `db.trMu.Lock(); db.tr = tr; closed := db.isClosed();
db.trMu.Unlock()` and discards its transaction itself when `closed`; `setDone` clears `db.tr` under `trMu`; `Close`
reads `db.tr` under `trMu`, once, after `setClosed` and `close(db.closeC)`, and discards what it saw (regenerated
facts `trOpenRegistersThenChecksClosed`, `trCloseReadsUnderMuAfterClosed`) -/
theorem code_tx_registration : TrClose.codeCfg = TrClose.Cfg.repaired := by decide

theorem tx_seen (s : TrClose.St) (hr : TrClose.Reachable TrClose.codeCfg s) : TrClose.Inv s ∧ TrClose.SeenInv s := by
  obtain ⟨n, c, hs⟩ := hr
  have c1 : TrClose.codeCfg.otxChecks = true := by decide
  have c2 : TrClose.codeCfg.closeLocked = true := by decide
  exact TrClose.steps_inv _ (fun s => TrClose.Inv s ∧ TrClose.SeenInv s)
    (fun s t h g => ⟨TrClose.step_inv _ s t h g.1, TrClose.step_seenInv _ c1 c2 s t h g.1 g.2⟩) _ _ hs
    ⟨TrClose.inv_init n c, TrClose.seenInv_init n c⟩

/-- **No transaction is left in a client's hands behind `Close`'s back**, in every interleaving of any number of
`OpenTransaction` calls (each followed by whatever its client does with the transaction) with `Close`, for the
code's configuration.  In every reachable state in which `Close` is at (or past) the acquisition of the write lock:
* no goroutine is `live` (holding a transaction `OpenTransaction` returned, which nobody has ended): every transaction
  that was open when `Close` looked at `db.tr` was the one it saw, and has been discarded by `Close`
  (`endedClose`); every `OpenTransaction` that registers later sees the closed flag and discards its own transaction
  (`selfDiscard`, then `ErrClosed`);
* whoever holds the write lock is such an `OpenTransaction` on its way out (`body`: it may still fail or register;
  `reg`; `selfDiscard`), or `Close` itself;
* the token in `writeLockC` has exactly that owner. -/
theorem tx_close_no_live_transaction (s : TrClose.St) (hr : TrClose.Reachable TrClose.codeCfg s)
    (hc : s.cl = .atAcq ∨ s.cl = .done) :
    (∀ (i : Nat), s.os[i]? ≠ some .live) ∧
    (∀ (i : Nat) (p : OPc), s.os[i]? = some p → TrClose.holds p = true →
      p = .body ∨ p = .reg ∨ p = .selfDiscard false) ∧
    (s.tok = true → s.cl = .done ∨ ∃ (i : Nat) (p : OPc), s.os[i]? = some p ∧ TrClose.holds p = true) := by
  obtain ⟨inv, k⟩ := tx_seen s hr
  have hp : s.cl.pastDiscard = true := by rcases hc with h | h <;> rw [h] <;> rfl
  refine ⟨k.2 hp, fun i p hi hh => ?_, fun ht => ?_⟩
  · rcases (TrClose.holds_cases p).1 hh with h | h | h | h
    · exact .inl h
    · exact .inr (.inl h)
    · exact .inr (.inr h)
    · subst h; exact absurd hi (k.2 hp i)
  · exact inv.holder ht

/-- **`Close` acquires the write lock in every schedule** of the code's configuration — clients that take `ErrClosed`
from `Commit` as final and never call `Discard` included (`St.coop = false`): every step decreases `measure`, so every
run is finite whatever the scheduler; from every state some run cannot be extended; and a run from a reachable state
in which `Close` has been called that cannot be extended ends with `Close` past the acquisition. -/
theorem tx_close_returns (s : TrClose.St) (hr : TrClose.Reachable TrClose.codeCfg s) (hs : s.cl ≠ .idle) :
    (∀ t u, TrClose.Step TrClose.codeCfg t u → TrClose.measure u < TrClose.measure t) ∧
    (∃ t, TrClose.Steps TrClose.codeCfg s t ∧ ¬ ∃ u, TrClose.Step TrClose.codeCfg t u) ∧
    (∀ t, TrClose.Steps TrClose.codeCfg s t → (¬ ∃ u, TrClose.Step TrClose.codeCfg t u) → t.cl = .done) := by
  refine ⟨TrClose.step_measure _, TrClose.settle _ s, fun t ht hq => ?_⟩
  have hst : s.cl.started = true := by cases h : s.cl <;> simp_all [TrClose.CPc.started]
  have hrt : TrClose.Reachable TrClose.codeCfg t := by
    obtain ⟨n, c, h0⟩ := hr; exact ⟨n, c, TrClose.Steps.trans h0 ht⟩
  obtain ⟨inv, k⟩ := tx_seen t hrt
  cases hd : t.cl with
  | done => rfl
  | _ =>
    exact absurd (TrClose.close_progress _ t inv k (TrClose.steps_started _ s t ht hst) (by rw [hd]; simp)) hq

/-- `OpenTransaction` (goroutine 0) holds the write lock and has not registered yet; `Close` set the flag, closed
`closeC`, looked at `db.tr` (nil) and waits for the write lock; `OpenTransaction` registers — without a look at the
flag — and returns the transaction; its client gets `ErrClosed` from `Commit` and takes that as final -/
def stTxHang : TrClose.St :=
  { os := [.live], cl := .atAcq, tok := true, closed := true, closeC := true, tr := some 0, owner := some (.thr 0) }

/-- **DEFECT (repaired by bfb31ce, D43)**, a decided run of the configuration as found (`Close` looks at `db.tr`
once, `OpenTransaction` registers without looking at the closed flag): `stTxHang` is reachable, a transaction is in
its client's hands on a closed DB, `Close` is at `db.writeLockC <- struct{}{}`, and NO step is enabled: `Close` hangs
until somebody calls `Discard`.  (Reproduced on that source by `vh -prop C18` / `C09`, signature
`close:close-race:hang:open-transaction-not-discarded`.) -/
theorem tx_close_hangs_as_found :
    TrClose.Reachable TrClose.Cfg.asFound stTxHang ∧ stTxHang.cl = .atAcq ∧ stTxHang.os[0]? = some .live ∧
    stTxHang.closed = true ∧ ¬ ∃ t, TrClose.Step TrClose.Cfg.asFound stTxHang t := by
  refine ⟨⟨1, false, ?_⟩, rfl, rfl, rfl, ?_⟩
  · have h := TrClose.Steps.refl (cfg := TrClose.Cfg.asFound) (TrClose.init 1 false)
    have h := h.step (TrClose.Step.oStart _ 0 rfl)
    have h := h.step (TrClose.Step.oSelTok _ 0 rfl rfl)
    have h := h.step (TrClose.Step.oBodyOk _ 0 rfl)
    have h := h.step (TrClose.Step.cStart _ rfl)
    have h := h.step (TrClose.Step.cCloseC _ rfl)
    have h := h.step (TrClose.Step.cRead _ rfl)
    have h := h.step (TrClose.Step.cDiscardNone _ rfl)
    have h := h.step (TrClose.Step.oReg _ 0 rfl)
    exact h
  · exact TrClose.stuck_of_live _ _ (by simp [stTxHang]) rfl rfl rfl rfl

/-- the registration under `trMu` alone is not enough: with the unsynchronised look at `db.tr` (a data race: it may
miss a registration that happened before) `Close` misses a transaction that was opened BEFORE it was called -/
theorem tx_close_hangs_with_racy_read :
    TrClose.Reachable { otxChecks := true, closeLocked := false } stTxHang ∧
    ¬ ∃ t, TrClose.Step { otxChecks := true, closeLocked := false } stTxHang t := by
  refine ⟨⟨1, false, ?_⟩, ?_⟩
  · have h := TrClose.Steps.refl (cfg := { otxChecks := true, closeLocked := false }) (TrClose.init 1 false)
    have h := h.step (TrClose.Step.oStart _ 0 rfl)
    have h := h.step (TrClose.Step.oSelTok _ 0 rfl rfl)
    have h := h.step (TrClose.Step.oBodyOk _ 0 rfl)
    have h := h.step (TrClose.Step.oReg _ 0 rfl)
    have h := h.step (TrClose.Step.cStart _ rfl)
    have h := h.step (TrClose.Step.cCloseC _ rfl)
    have h := h.step (TrClose.Step.cReadStale _ rfl rfl)
    have h := h.step (TrClose.Step.cDiscardNone _ rfl)
    exact h
  · exact TrClose.stuck_of_live _ _ (by simp [stTxHang]) rfl rfl rfl rfl

/-- non-vacuity: the schedule of `tx_close_hangs_as_found` in the code's configuration — `OpenTransaction` sees the
flag, discards its transaction, returns `ErrClosed`; `Close` acquires the lock -/
example : TrClose.Reachable TrClose.Cfg.repaired
    { os := [.retClosed], cl := .done, tok := true, closed := true, closeC := true, owner := some .close } := by
  refine ⟨1, false, ?_⟩
  have h := TrClose.Steps.refl (cfg := TrClose.Cfg.repaired) (TrClose.init 1 false)
  have h := h.step (TrClose.Step.oStart _ 0 rfl)
  have h := h.step (TrClose.Step.oSelTok _ 0 rfl rfl)
  have h := h.step (TrClose.Step.oBodyOk _ 0 rfl)
  have h := h.step (TrClose.Step.cStart _ rfl)
  have h := h.step (TrClose.Step.cCloseC _ rfl)
  have h := h.step (TrClose.Step.cRead _ rfl)
  have h := h.step (TrClose.Step.cDiscardNone _ rfl)
  have h := h.step (TrClose.Step.oReg _ 0 rfl)
  have h := h.step (TrClose.Step.oSelfDiscard _ 0 false rfl)
  have h := h.step (TrClose.Step.cAcq _ rfl rfl)
  exact h

end TxClose

def theorems : List String :=
  ["GoLevel.C09.code_three_fixed", "GoLevel.C09.code_comperr_machine", "GoLevel.C09.code_hands_over",
   "GoLevel.C09.code_all_fixed",
   "GoLevel.C09.code_all_released_on_return", "GoLevel.C09.code_all_locks_have_owners",
   "GoLevel.C09.code_all_progress", "GoLevel.C09.code_all_recovers_after_faults",
   "GoLevel.C09.code_all_close_returns",
   "GoLevel.C09.setReadOnly_takes_effect", "GoLevel.C09.persistent_error_fails_fast",
   "GoLevel.C09.hang_without_haserr_readonly_case", "GoLevel.C09.close_hangs_without_haserr_readonly_case",
   "GoLevel.C09.hang_without_noerr_readonly_case", "GoLevel.C09.hang_without_noerr_recv",
   "GoLevel.C09.hang_without_haserr_recv", "GoLevel.C09.hang_without_hasperr_compPerErrC",
   "GoLevel.C09.hang_without_hasperr_compErrC", "GoLevel.C09.hang_without_hasperr_closeC",
   "GoLevel.C09.hang_without_hasperr_giveback", "GoLevel.C09.hang_without_hasperr_keep",
   "GoLevel.C09.hang_without_close_select", "GoLevel.C09.write_succeeds_without_hasperr_lock",
   "GoLevel.C09.write_lock_lost", "GoLevel.C09.released_on_return_fails_before_832d000",
   "GoLevel.C09.readonly_write_slips_through_on_close", "GoLevel.C09.readonly_no_write_after_close",
   "GoLevel.C09.repaired_no_write_after_close", "GoLevel.C09.asFound_lock_not_kept",
   "GoLevel.C09.code_keeps_lock", "GoLevel.C09.code_m", "GoLevel.C09.asFound_covered",
   "GoLevel.C09.code_tx_registration", "GoLevel.C09.tx_close_no_live_transaction", "GoLevel.C09.tx_close_returns",
   "GoLevel.C09.tx_close_hangs_as_found", "GoLevel.C09.tx_close_hangs_with_racy_read",
   "GoLevel.C09.released_on_return", "GoLevel.C09.released_on_return_partial", "GoLevel.C09.locks_have_owners",
   "GoLevel.C09.nothing_held_when_quiet", "GoLevel.C09.progress",
   "GoLevel.C09.recovers_after_faults", "GoLevel.C09.close_returns",
   "GoLevel.C09.code_released_on_return", "GoLevel.C09.code_progress",
   "GoLevel.C09.code_recovers_after_faults", "GoLevel.C09.code_close_returns",
   "GoLevel.C09.repaired_released_on_return", "GoLevel.C09.repaired_progress",
   "GoLevel.C09.repaired_recovers_after_faults", "GoLevel.C09.repaired_close_returns",
   "GoLevel.C09.before832_covered",
   "GoLevel.C09.known_finding_setreadonly_close", "GoLevel.C09.leak_setreadonly_of",
   "GoLevel.C09.leak_opentx", "GoLevel.C09.leak_commit", "GoLevel.C09.leak_largebatch",
   "GoLevel.C09.leak_setreadonly", "GoLevel.C09.asIs_not_released"]

end GoLevel.C09

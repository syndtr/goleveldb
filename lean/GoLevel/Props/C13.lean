import GoLevel.Model.Key
import GoLevel.Proofs.TableTop
import GoLevel.Proofs.BlockIterSlice
import GoLevel.Proofs.TableMeta
import GoLevel.Proofs.TableFooter
import GoLevel.Proofs.Key
import GoLevel.Proofs.ListSum
/-!
# Property C13: sorted tables round-trip, lookups, offsets, damage detection

Model: `GoLevel/Model/Block.lean`, `GoLevel/Model/Table.lean` (byte-exact against `table.NewWriter`/`NewReader`,
see `harness/wp/c13`).  Standing size assumptions (the format stores restart points and filter offsets in 32
bits and lengths as 64-bit varints): `SmallKV` (key and value lengths `< 2^64`) and a block / file shorter than
`2^32` bytes (the second implies the first, `smallKV_of_build`: the table theorems carry `SmallKV` without using
it).  The checksum is a parameter; `Cksum32` says it is a 32-bit value, `DetectsSingle` that altering
one input position changes it.
-/
namespace GoLevel.C13
open GoLevel

/-! ## (a) block round trip -/

/-- a full forward pass over a written block yields exactly the appended pairs — any restart interval, any
pairs (sortedness is not needed) -/
theorem block_decode_build (ri : Nat) (kvs : List KV) (hs : SmallKV kvs)
    (hsz : (Block.build ri kvs).length < 2 ^ 32) :
    Block.decode (Block.build ri kvs) = some kvs := by
  unfold Block.decode
  rw [read_build ri kvs hsz]
  exact (layout_build ri kvs hs hsz).entries

def exKVs : List KV :=
  [([1], [10]), ([1, 2], [11]), ([1, 2, 3], []), ([2], [13, 14, 15, 16, 17, 18, 19, 20, 21, 22, 23, 24, 25]),
   ([3], [1]), ([3, 0], [2]), ([3, 0, 0], [3])]

theorem exKVs_small : SmallKV exKVs := by
  intro kv h
  simp only [exKVs, List.mem_cons, List.mem_nil_iff, or_false] at h
  rcases h with rfl | rfl | rfl | rfl | rfl | rfl | rfl <;> decide

/-- whatever the restart interval: 31 bytes of keys and values, seven pairs -/
theorem exBuild_small (ri : Nat) : (Block.build ri exKVs).length < 2 ^ 32 :=
  Nat.lt_of_le_of_lt (build_length_le ri exKVs exKVs_small) (by decide)

example : Block.decode (Block.build 2 exKVs) = some exKVs :=
  block_decode_build 2 exKVs exKVs_small (exBuild_small 2)

example : Block.decode (Block.build 16 []) = some [] :=
  block_decode_build 16 [] (by intro kv h; simp at h) (by decide +kernel)

/-! ## (b) block seek -/

/-- `blockIter.Seek` (binary search over the restart points, then linear scan) on a written block of strictly
increasing keys lands on the first pair whose key is not below the target -/
theorem block_seek_spec {cmp : Bytes → Bytes → Ordering} (hc : LawfulCmp cmp) (ri : Nat) (kvs : List KV)
    (hs : SmallKV kvs) (hsorted : StrictSorted cmp kvs) (hsz : (Block.build ri kvs).length < 2 ^ 32) (key : Bytes) :
    Block.seek cmp (Block.build ri kvs) key = some (kvs.find? fun e => cmp e.1 key != .lt) := by
  unfold Block.seek
  rw [read_build ri kvs hsz]
  simp only [(layout_build ri kvs hs hsz).seekCursor hc hsorted key, Option.map_some, curAt_kv]
  exact congrArg some List.find?_eq_getElem?_findIdx.symm

/-- `bytes.Compare` in the form the block layer asks for -/
theorem bytesCompare_lawful : LawfulCmp bytesCompare :=
  ⟨bytesCompare_refl, bytesCompare_eq, bytesCompare_gt_iff, bytesCompare_trans⟩

theorem exKVs_sorted : StrictSorted bytesCompare exKVs := by
  unfold StrictSorted exKVs
  decide

example : Block.seek bytesCompare (Block.build 3 exKVs) [2, 5] = some (some ([3], [1])) := by
  rw [block_seek_spec bytesCompare_lawful 3 exKVs exKVs_small exKVs_sorted (exBuild_small 3)]
  decide

example : Block.seek bytesCompare (Block.build 3 exKVs) [9] = some none := by
  rw [block_seek_spec bytesCompare_lawful 3 exKVs exKVs_small exKVs_sorted (exBuild_small 3)]
  decide

/-! ## (c) table round trip -/

/-- `NewReader` opens what the writer produced and a full forward iteration yields exactly the appended pairs:
every block size, restart interval, filter setting; both checksum-verification settings -/
theorem table_entries_write (cfg : TableCfg) (hck : Cksum32 cfg.cksum) (kvs : List KV) (hs : SmallKV kvs)
    (hsz : (Table.write cfg kvs).length < 2 ^ 32) (verify : Bool) :
    ∃ t, Table.open cfg verify (Table.write cfg kvs) = some t ∧ t.entries = some kvs := by
  obtain ⟨cs, hfile, hflat, _⟩ := write_shape cfg kvs
  rw [hfile] at hsz ⊢
  obtain ⟨t, ho, hr, _⟩ := open_reads cfg hck cs _ (by simp) hsz verify
  exact ⟨t, ho, by rw [hr.entries hck, hflat]⟩

/-- a configuration for the examples: 32-byte blocks, restart interval 2, no filter, bytewise order with a
comparer that never shortens keys, a toy 32-bit checksum -/
def exCfg : TableCfg := ⟨32, 2, none, 4, bytesCompare, fun _ _ => none, fun _ => none, fun bs => bs.length % 7⟩

/-- the example table is 176 bytes -/
theorem exTable_small : (Table.write exCfg exKVs).length < 2 ^ 32 := by decide +kernel

example : ∃ t, Table.open exCfg true (Table.write exCfg exKVs) = some t ∧ t.entries = some exKVs :=
  table_entries_write exCfg (by intro bs; simp only [exCfg]; omega) exKVs exKVs_small exTable_small true

/-! ## (d) lookups -/

/-- `Reader.Find` (unfiltered) on a written table returns the first pair whose key is not below the sought key,
`ErrNotFound` if there is none -/
theorem table_find_spec (cfg : TableCfg) (hok : CfgOK cfg) (kvs : List KV) (hs : SmallKV kvs)
    (hsorted : StrictSorted cfg.cmp kvs) (hk : TailKeysNonempty kvs)
    (hsz : (Table.write cfg kvs).length < 2 ^ 32) (verify : Bool) (key : Bytes) :
    ∃ t, Table.open cfg verify (Table.write cfg kvs) = some t ∧
      t.find key false = resultOf (kvs.find? fun e => cfg.cmp e.1 key != .lt) :=
  let ⟨t, ho, _, hf, _⟩ := written_reader cfg hok kvs hsorted hk hsz verify
  ⟨t, ho, hf key⟩

/-- `Reader.Get`: the value stored under exactly that key, `ErrNotFound` if the key is not in the table -/
theorem table_get_spec (cfg : TableCfg) (hok : CfgOK cfg) (kvs : List KV) (hs : SmallKV kvs)
    (hsorted : StrictSorted cfg.cmp kvs) (hk : TailKeysNonempty kvs)
    (hsz : (Table.write cfg kvs).length < 2 ^ 32) (verify : Bool) (key : Bytes) :
    ∃ t, Table.open cfg verify (Table.write cfg kvs) = some t ∧
      (∀ v, (key, v) ∈ kvs → t.get key = .ok v) ∧ ((∀ kv ∈ kvs, kv.1 ≠ key) → t.get key = .notFound) := by
  obtain ⟨t, ho, hcmp, hf, _⟩ := written_reader cfg hok kvs hsorted hk hsz verify
  have hf := hf key
  refine ⟨t, ho, ?_, ?_⟩
  · intro v hm
    have := find?_ge_of_mem hok.cmp kvs hsorted (key, v) hm
    simp only at this
    simp [TableR.get, hf, this, resultOf, hcmp, hok.cmp.refl]
  · intro hnone
    unfold TableR.get
    rw [hf]
    cases hfd : kvs.find? (fun e => cfg.cmp e.1 key != .lt) with
    | none => rfl
    | some kv =>
      have hm := List.mem_of_find?_eq_some hfd
      have hne : cfg.cmp kv.1 key ≠ .eq := fun e => hnone kv hm (hok.cmp.eq_of _ _ e)
      simp [resultOf, hcmp, hne]

theorem exCfg_ok : CfgOK exCfg :=
  ⟨bytesCompare_lawful, by intro a b d _ h; simp [exCfg] at h, by intro b d h; simp [exCfg] at h,
   by intro bs; simp only [exCfg]; omega⟩

theorem exKVs_keys : TailKeysNonempty exKVs := by
  intro kv h
  simp only [exKVs, List.tail_cons, List.mem_cons, List.mem_nil_iff, or_false] at h
  rcases h with rfl | rfl | rfl | rfl | rfl | rfl <;> decide

example : ∃ t, Table.open exCfg true (Table.write exCfg exKVs) = some t ∧
    t.find [2, 5] false = .ok ([3], [1]) := by
  obtain ⟨t, ho, hf⟩ := table_find_spec exCfg exCfg_ok exKVs exKVs_small exKVs_sorted exKVs_keys
    exTable_small true [2, 5]
  exact ⟨t, ho, by rw [hf]; decide⟩

example : ∃ t, Table.open exCfg false (Table.write exCfg exKVs) = some t ∧
    (∀ v, (([1, 2] : Bytes), v) ∈ exKVs → t.get [1, 2] = .ok v) :=
  let ⟨t, ho, h1, _⟩ := table_get_spec exCfg exCfg_ok exKVs exKVs_small exKVs_sorted exKVs_keys
    exTable_small false [1, 2]
  ⟨t, ho, h1⟩

/-! ## range-restricted iteration -/

/-- `NewIterator(&util.Range{Start, Limit})` (content of a full forward pass; `nil` bounds are `none`): exactly the
pairs with `Start ≤ key < Limit` — any bounds, including inverted ones (`Limit ≤ Start`: nothing) and bounds
outside the key range.  Mirrors `newBlockIter` / `indexIter.Get` after the D21 fix: the index sliced with the
limit inclusive, the slice applied to the first and the last data block. -/
theorem table_range_spec (cfg : TableCfg) (hok : CfgOK cfg) (kvs : List KV) (hs : SmallKV kvs)
    (hsorted : StrictSorted cfg.cmp kvs) (hk : TailKeysNonempty kvs)
    (hsz : (Table.write cfg kvs).length < 2 ^ 32) (verify : Bool) (start limit : Option Bytes) :
    ∃ t, Table.open cfg verify (Table.write cfg kvs) = some t ∧
      t.entriesInRange start limit = some (kvs.filter (inRange cfg.cmp start limit)) :=
  let ⟨t, ho, _, _, hr⟩ := written_reader cfg hok kvs hsorted hk hsz verify
  ⟨t, ho, hr start limit⟩

example : ∃ t, Table.open exCfg true (Table.write exCfg exKVs) = some t ∧
    t.entriesInRange (some [1, 2]) (some [3]) = some [([1, 2], [11]), ([1, 2, 3], []),
      ([2], [13, 14, 15, 16, 17, 18, 19, 20, 21, 22, 23, 24, 25])] := by
  obtain ⟨t, ho, hr⟩ := table_range_spec exCfg exCfg_ok exKVs exKVs_small exKVs_sorted exKVs_keys
    exTable_small true (some [1, 2]) (some [3])
  exact ⟨t, ho, by rw [hr]; decide⟩

/-- inverted bounds yield nothing -/
example : ∃ t, Table.open exCfg true (Table.write exCfg exKVs) = some t ∧
    t.entriesInRange (some [3]) (some [1, 2]) = some [] := by
  obtain ⟨t, ho, hr⟩ := table_range_spec exCfg exCfg_ok exKVs exKVs_small exKVs_sorted exKVs_keys
    exTable_small true (some [3]) (some [1, 2])
  exact ⟨t, ho, by rw [hr]; decide⟩

/-- corollary: the unrestricted range (`Start = Limit = nil`) yields all pairs (no order assumptions needed) -/
theorem table_range_partial (cfg : TableCfg) (hck : Cksum32 cfg.cksum) (kvs : List KV) (hs : SmallKV kvs)
    (hsz : (Table.write cfg kvs).length < 2 ^ 32) (verify : Bool) :
    ∃ t, Table.open cfg verify (Table.write cfg kvs) = some t ∧ t.entriesInRange none none = some kvs := by
  obtain ⟨t, ho, he⟩ := table_entries_write cfg hck kvs hs hsz verify
  exact ⟨t, ho, by rw [entriesInRange_none, he]⟩

/-! ## (e) approximate offsets -/

/-- `Reader.OffsetOf` never fails on a written table and never decreases as the key grows -/
theorem offsetOf_monotone (cfg : TableCfg) (hok : CfgOK cfg) (kvs : List KV)
    (hsorted : StrictSorted cfg.cmp kvs) (hk : TailKeysNonempty kvs)
    (hsz : (Table.write cfg kvs).length < 2 ^ 32) (verify : Bool) :
    ∃ t, Table.open cfg verify (Table.write cfg kvs) = some t ∧
      ∀ k1 k2, cfg.cmp k1 k2 ≠ .gt → ∃ o1 o2, t.offsetOf k1 = .ok o1 ∧ t.offsetOf k2 = .ok o2 ∧ o1 ≤ o2 := by
  obtain ⟨cs, fb, hfile, hflat, hfb, hsh⟩ := written_chunks cfg kvs hsorted hk
  rw [hfile] at hsz ⊢
  obtain ⟨t, ho, hr, hde, _⟩ := open_reads cfg hok.ck cs fb hfb hsz verify
  exact ⟨t, ho, fun k1 k2 hle => ⟨_, _, hr.offsetOf hok hsh hde k1,
    hr.offsetOf hok hsh hde k2, offsetSpec_mono hok.cmp cs k1 k2 hle⟩⟩

example : ∃ t, Table.open exCfg true (Table.write exCfg exKVs) = some t ∧
    ∃ o1 o2, t.offsetOf [1, 2] = .ok o1 ∧ t.offsetOf [3] = .ok o2 ∧ o1 ≤ o2 :=
  let ⟨t, ho, h⟩ := offsetOf_monotone exCfg exCfg_ok exKVs exKVs_sorted exKVs_keys exTable_small true
  ⟨t, ho, h [1, 2] [3] (by decide)⟩

/-! ## (f) filter blocks -/

/-- **filter partition.**  Feed the filter writer any sequence of data blocks — `add` for each key, then
`flush(end offset)` — with non-decreasing offsets (`bs` lists the blocks as (end offset, keys); block `i` starts
where block `i-1` ended, the first at 0).  Then `finish` emits a filter block holding one filter per key list in
some `segs` such that: the keys added while the block starting at offset `s` was being filled are in list number
`s >>> baseLg`; every list holds only keys of blocks mapped to it; and once the block is read back from a file,
`filterBlock.contains` for a data block at offset `o` consults exactly the filter generated from list
`o >>> baseLg`. -/
theorem filter_partition (pol : FilterPolicy) (lg : Nat) (bs : List (Nat × List Bytes)) (hm : MonoEnds 0 bs) :
    ∃ segs, (feedAll pol lg {} bs).finish pol lg = filterBlockBytes pol lg segs ∧
      (∀ b ∈ histOf 0 bs, ∀ k ∈ b.2, b.1 >>> lg < segs.length ∧ k ∈ segs.getD (b.1 >>> lg) []) ∧
      (∀ f k, k ∈ segs.getD f [] → ∃ b ∈ histOf 0 bs, b.1 >>> lg = f ∧ k ∈ b.2) ∧
      (∀ cksum, Cksum32 cksum → lg < 256 → (flat pol segs).length < 2 ^ 32 → ∀ A C : Bytes,
        ∃ fb, readFilterBlock cksum (A ++ (withTrailer cksum (filterBlockBytes pol lg segs) ++ C))
              ⟨A.length, (filterBlockBytes pol lg segs).length⟩ = some fb ∧
          ∀ o key, o >>> lg < segs.length → segBytes pol (segs.getD (o >>> lg) []) ≠ [] →
            fb.contains pol o key = pol.contains (segBytes pol (segs.getD (o >>> lg) [])) key) := by
  obtain ⟨segs, h1, h2, h3⟩ := filter_partition_writer pol lg bs hm
  refine ⟨segs, h1, h2, h3, ?_⟩
  intro cksum hck hlg hsz A C
  exact ⟨_, readFilterBlock_at hck A C pol lg segs hlg hsz, fun o key hi hne =>
    contains_written pol lg segs hsz o key hi hne⟩

/-- a toy policy for the examples: the filter is the list of first bytes of the keys (plus a terminator) -/
def exPol : FilterPolicy where
  name := [102, 98]
  generate := fun ks => ks.map (fun k => k.headD 0) ++ [0]
  contains := fun f k => f.contains (k.headD 0)

theorem exPol_lawful : LawfulFilter exPol := by
  intro ks k hk
  simp only [exPol, List.contains_eq_mem, List.mem_append, List.mem_map, decide_eq_true_eq]
  exact Or.inl ⟨k, hk, rfl⟩

theorem exPol_gen : GenNonempty exPol := by
  intro ks _
  simp [exPol]

example : ∃ segs, (feedAll exPol 4 {} [(20, [[1], [2]]), (40, [[3]]), (41, [])]).finish exPol 4
      = filterBlockBytes exPol 4 segs ∧
    ∀ b ∈ histOf 0 [(20, [[1], [2]]), (40, [[3]]), (41, [])], ∀ k ∈ b.2,
      b.1 >>> 4 < segs.length ∧ k ∈ segs.getD (b.1 >>> 4) [] :=
  let ⟨segs, h1, h2, _⟩ := filter_partition exPol 4 [(20, [[1], [2]]), (40, [[3]]), (41, [])] (by simp [MonoEnds])
  ⟨segs, h1, h2⟩

/-- with a lawful filter policy (no false negatives, non-empty output for a non-empty key set) a *filtered*
`Find` / `FindKey` of a stored key is never answered "absent": it returns the stored pair -/
theorem table_filtered_find_stored (cfg : TableCfg) (pol : FilterPolicy) (hf : cfg.filter = some pol)
    (hok : CfgOK cfg) (hlaw : LawfulFilter pol) (hgen : GenNonempty pol) (hlg : cfg.filterBaseLg < 256)
    (kvs : List KV) (hs : SmallKV kvs) (hsorted : StrictSorted cfg.cmp kvs) (hk : TailKeysNonempty kvs)
    (hsz : (Table.write cfg kvs).length < 2 ^ 32) (verify : Bool) (kv : KV) (hm : kv ∈ kvs) :
    ∃ t, Table.open cfg verify (Table.write cfg kvs) = some t ∧
      t.find kv.1 true = .ok kv ∧ t.findKey kv.1 true = .ok kv.1 := by
  obtain ⟨cs, hfile, hflat, hshape⟩ := write_shape cfg kvs
  rw [hf] at hfile
  rw [hfile] at hsz ⊢
  have hne : ∀ c ∈ cs, c ≠ [] := hshape.resolve_left fun h => by subst h hflat; cases hm
  obtain ⟨t, ho, hfind⟩ := find_filtered_stored cfg pol hf hok hlaw hgen hlg cs
    (chunksOK_of hflat hne hsorted hk) hsz verify kv (hflat ▸ hm)
  exact ⟨t, ho, hfind, by simp [TableR.findKey, hfind]⟩

def exCfgF : TableCfg := { exCfg with filter := some exPol }

example : ∃ t, Table.open exCfgF true (Table.write exCfgF exKVs) = some t ∧
    t.find [3, 0] true = .ok ([3, 0], [2]) ∧ t.findKey [3, 0] true = .ok [3, 0] :=
  table_filtered_find_stored exCfgF exPol rfl
    ⟨exCfg_ok.cmp, exCfg_ok.sep, exCfg_ok.succ, exCfg_ok.ck⟩
    exPol_lawful exPol_gen (by decide) exKVs exKVs_small exKVs_sorted exKVs_keys (by decide +kernel) true
    ([3, 0], [2]) (by simp [exKVs])

/-! ## (h) `blockIter`: the byte-level iterator over one block refines the cursor

Model: `GoLevel/Model/BlockIter.lean` — `block.seek` / `restartIndex` / `restartOffset` / `entry` and `blockIter`
with `offset`, `prevOffset`, `prevNode`, `prevKeys`, `restartIndex`, `dir`, the slice fields and `err`, methods
`First/Last/Seek/Next/Prev` as coded, `newBlockIter` with a `util.Range` (differential: `tbl biter` lines of
`harness/wp/c13`, answered by the real `blockIter`).  `BIter.run` lists, per call, the Boolean returned and
`Key()/Value()`; `BIter.exec` is the iterator afterwards.  The proofs are over an abstract block layout
(`Proofs/BlockIterLayout.lean`: any strictly increasing restart array whose targets store their key in full), which
`Block.build` output has for every restart interval. -/

/-- **Whole block.**  Over a block written from strictly increasing pairs — any restart interval — a fresh
unsliced `blockIter` answers EVERY finite sequence of `First/Last/Seek/Next/Prev` exactly like the specification
cursor over the pairs: same Boolean, same `Key()/Value()` after each call (restart-point binary search, the
`Prev` cache rebuilt from the previous restart point, direction changes, running off either end and coming
back); and `err` stays `nil` (so no loop of the model runs out of fuel either). -/
theorem block_iter_refines_cursor {cmp : Bytes → Bytes → Ordering} (hc : LawfulCmp cmp) (ri : Nat) (kvs : List KV)
    (hs : SmallKV kvs) (hsorted : StrictSorted cmp kvs) (hsz : (Block.build ri kvs).length < 2 ^ 32)
    (cs : List (Call Bytes)) :
    ∃ b, Block.read (Block.build ri kvs) = some b ∧
      BIter.run cmp b (newBlockIter cmp b none false) cs =
        ((Cursor.run kvs (geK cmp) .soi cs).map fun o => (o.isSome, o)) ∧
      (BIter.exec cmp b (newBlockIter cmp b none false) cs).err = none :=
  ⟨_, read_build ri kvs hsz, run_whole (layout_build ri kvs hs hsz) hc hsorted cs⟩

/-- a walk with `Prev` after `Seek`, `Next` after `Last`, movement past both ends -/
def exWalk : List (Call Bytes) :=
  [.first, .next, .next, .prev, .seek [2, 5], .prev, .prev, .last, .next, .prev, .prev, .seek [9], .prev,
   .first, .prev, .prev, .next, .seek [], .prev]

-- restart interval 2 (restart points at entries 0, 2, 4, 6): the answers, spelled out
example : ∃ b, Block.read (Block.build 2 exKVs) = some b ∧
    (BIter.run bytesCompare b (newBlockIter bytesCompare b none false) exWalk).map (fun r => r.2.map (·.1)) =
      [some [1], some [1, 2], some [1, 2, 3], some [1, 2], some [3], some [2], some [1, 2, 3], some [3, 0, 0], none,
       some [3, 0, 0], some [3, 0], none, some [3, 0, 0], some [1], none, none, some [1], some [1], none] := by
  obtain ⟨b, hb, hrun, _⟩ := block_iter_refines_cursor bytesCompare_lawful 2 exKVs exKVs_small exKVs_sorted
    (exBuild_small 2) exWalk
  exact ⟨b, hb, by rw [hrun]; decide⟩

-- restart interval 1 (every entry a restart point), 3 and 16 (a single restart point)
example (cs : List (Call Bytes)) : ∃ b, Block.read (Block.build 1 exKVs) = some b ∧
    BIter.run bytesCompare b (newBlockIter bytesCompare b none false) cs =
      ((Cursor.run exKVs (geK bytesCompare) .soi cs).map fun o => (o.isSome, o)) ∧
    (BIter.exec bytesCompare b (newBlockIter bytesCompare b none false) cs).err = none :=
  block_iter_refines_cursor bytesCompare_lawful 1 exKVs exKVs_small exKVs_sorted (exBuild_small 1) cs

example (cs : List (Call Bytes)) : ∃ b, Block.read (Block.build 3 exKVs) = some b ∧
    BIter.run bytesCompare b (newBlockIter bytesCompare b none false) cs =
      ((Cursor.run exKVs (geK bytesCompare) .soi cs).map fun o => (o.isSome, o)) ∧
    (BIter.exec bytesCompare b (newBlockIter bytesCompare b none false) cs).err = none :=
  block_iter_refines_cursor bytesCompare_lawful 3 exKVs exKVs_small exKVs_sorted (exBuild_small 3) cs

example (cs : List (Call Bytes)) : ∃ b, Block.read (Block.build 16 exKVs) = some b ∧
    BIter.run bytesCompare b (newBlockIter bytesCompare b none false) cs =
      ((Cursor.run exKVs (geK bytesCompare) .soi cs).map fun o => (o.isSome, o)) ∧
    (BIter.exec bytesCompare b (newBlockIter bytesCompare b none false) cs).err = none :=
  block_iter_refines_cursor bytesCompare_lawful 16 exKVs exKVs_small exKVs_sorted (exBuild_small 16) cs

/-- **Sliced block.**  `newBlockIter(b, _, &util.Range{Start, Limit}, inclLimit)` — the bounds found with `Seek`
(and `Next` when `inclLimit`), `riStart/riLimit`, `offsetStart/offsetRealStart/offsetLimit` set from them — answers
every call sequence like the cursor over the slice: `sliceBlock` (pairs from the first key `≥ Start` up to the
first key `≥ Limit`, exclusive) for a data block, `sliceIndex` (… inclusive) for the index block; any bounds
(absent, inverted, outside the key range), any restart interval, the empty block included (example below);
`err` stays `nil`. -/
theorem block_iter_slice_refines_cursor {cmp : Bytes → Bytes → Ordering} (hc : LawfulCmp cmp) (ri : Nat)
    (kvs : List KV) (hs : SmallKV kvs) (hsorted : StrictSorted cmp kvs) (hsz : (Block.build ri kvs).length < 2 ^ 32)
    (sl : BRange) (inclLimit : Bool) (cs : List (Call Bytes)) :
    ∃ b, Block.read (Block.build ri kvs) = some b ∧
      BIter.run cmp b (newBlockIter cmp b (some sl) inclLimit) cs =
        ((Cursor.run (sliceOf cmp sl inclLimit kvs) (geK cmp) .soi cs).map fun o => (o.isSome, o)) ∧
      (BIter.exec cmp b (newBlockIter cmp b (some sl) inclLimit) cs).err = none :=
  ⟨_, read_build ri kvs hsz, run_slice (layout_build ri kvs hs hsz) hc hsorted sl inclLimit cs⟩

/-- … for a data block (`inclLimit = false`) the slice is the sub-list of the pairs with `Start ≤ key < Limit` -/
theorem block_iter_range_refines_cursor {cmp : Bytes → Bytes → Ordering} (hc : LawfulCmp cmp) (ri : Nat)
    (kvs : List KV) (hs : SmallKV kvs) (hsorted : StrictSorted cmp kvs) (hsz : (Block.build ri kvs).length < 2 ^ 32)
    (sl : BRange) (cs : List (Call Bytes)) :
    ∃ b, Block.read (Block.build ri kvs) = some b ∧
      BIter.run cmp b (newBlockIter cmp b (some sl) false) cs =
        ((Cursor.run (kvs.filter (inRange cmp sl.start sl.limit)) (geK cmp) .soi cs).map fun o => (o.isSome, o)) ∧
      (BIter.exec cmp b (newBlockIter cmp b (some sl) false) cs).err = none := by
  obtain ⟨b, hb, hrun, herr⟩ := block_iter_slice_refines_cursor hc ri kvs hs hsorted hsz sl false cs
  refine ⟨b, hb, ?_, herr⟩
  rw [hrun]
  simp only [sliceOf, Bool.false_eq_true, if_false]
  rw [sliceBlock_sorted hc sl.start sl.limit kvs hsorted]

-- a slice that starts inside a restart range and ends at a restart point (restart interval 2, range [[1,2], [3])):
-- `Last` then `Prev` down past the start, `Seek` below the start, `Seek` at the limit
example : ∃ b, Block.read (Block.build 2 exKVs) = some b ∧
    (BIter.run bytesCompare b (newBlockIter bytesCompare b (some ⟨some [1, 2], some [3]⟩) false)
        [.last, .prev, .prev, .prev, .next, .seek [], .seek [3], .prev]).map (fun r => r.2.map (·.1)) =
      [some [2], some [1, 2, 3], some [1, 2], none, some [1, 2], some [1, 2], none, some [2]] := by
  obtain ⟨b, hb, hrun, _⟩ := block_iter_range_refines_cursor bytesCompare_lawful 2 exKVs exKVs_small exKVs_sorted
    (exBuild_small 2) ⟨some [1, 2], some [3]⟩
    [.last, .prev, .prev, .prev, .next, .seek [], .seek [3], .prev]
  exact ⟨b, hb, by rw [hrun]; decide⟩

-- the index-block flavour (`inclLimit = true`, restart interval 1): the first key `≥ Limit` is kept
example : ∃ b, Block.read (Block.build 1 exKVs) = some b ∧
    (BIter.run bytesCompare b (newBlockIter bytesCompare b (some ⟨some [1, 2], some [2, 5]⟩) true)
        [.last, .next, .prev, .prev, .first]).map (fun r => r.2.map (·.1)) =
      [some [3], none, some [3], some [2], some [1, 2]] := by
  obtain ⟨b, hb, hrun, _⟩ := block_iter_slice_refines_cursor bytesCompare_lawful 1 exKVs exKVs_small exKVs_sorted
    (exBuild_small 1) ⟨some [1, 2], some [2, 5]⟩ true [.last, .next, .prev, .prev, .first]
  exact ⟨b, hb, by rw [hrun]; decide⟩

-- defect D57, repaired: on an EMPTY block sliced with a non-nil `Start`, `Seek` makes `block.seek` run with
-- `rstart = rlimit = restartsLen`; the code as found read the restart COUNT (1) as an offset and `Next` reported
-- "entries offset not aligned" (1 ≠ offsetLimit = 0) on an undamaged table.  The repaired `block.seek` returns
-- `restartsOffset` for an index behind the last restart point (`Gen.blockSeekGuardsIndex`), so the two theorems above
-- need no hypothesis `kvs ≠ [] ∨ sl.start = none`, and the walk finds nothing, without an error:
example : (Block.read (Block.build 16 [])).map (fun b =>
    (BIter.exec bytesCompare b (newBlockIter bytesCompare b (some ⟨some [1], none⟩) false) [.seek [2]]).err)
      = some none := by decide +kernel

/-- the guard is in the source (`tools/extract`: `if index >= b.restartsLen { return index, b.restartsOffset, nil }`
    before the read of the restart array in `block.seek`) -/
theorem code_block_seek_guards_index : Gen.blockSeekGuardsIndex = true := by decide

/-! ## (g) damage -/

/-- if the block at `bh` verifies, altering any single byte of payload ‖ type ‖ checksum makes `readRawBlock`
(verification on) report corruption — stated over the abstract checksum -/
theorem block_damage_detected {cksum : Bytes → Nat} (hd : DetectsSingle cksum) (file : Bytes) (bh : BH)
    (hin : bh.offset + bh.length + Gen.blockTrailerLen ≤ file.length)
    (hok : rd32 ((rawSlice file bh).drop (bh.length + 1)) = cksum ((rawSlice file bh).take (bh.length + 1)))
    (i : Nat) (b : UInt8) (hlo : bh.offset ≤ i) (hhi : i < bh.offset + bh.length + Gen.blockTrailerLen)
    (hne : b ≠ file[i]'(by omega)) :
    readRawBlock cksum (file.set i b) bh true = none :=
  readRawBlock_damage hd file bh hin hok i b hlo hhi hne

/-- non-vacuity: the little-endian value of the input is a checksum that detects every single altered position -/
example : readRawBlock rdLE ((withTrailer rdLE [1, 2, 3]).set 1 9) ⟨0, 3⟩ true = none :=
  block_damage_detected (cksum := rdLE) (fun bs i b h hne => rdLE_set_ne bs i b h hne)
    (withTrailer rdLE [1, 2, 3]) ⟨0, 3⟩ (by decide) (by decide) 1 9 (by decide) (by decide) (by decide)

-- a checksum without `DetectsSingle` (here: the length mod 7) lets the same damage through
example : readRawBlock (fun bs => bs.length % 7) ((withTrailer (fun bs => bs.length % 7) [1, 2, 3]).set 1 9) ⟨0, 3⟩ true
    = some [1, 9, 3] := by decide

/-! ## (i) the reader repairs of wp64: damaged metaindex block, footer handles, short blocks

Findings 1, 2 and 5 of the Recover hunt wp60, repaired in `table/reader.go` / `table/table.go`.  The reader model
carries the repaired places as switches (`ReaderFix`, `Model/Table.lean`); the theorems are about
`ReaderFix.repaired`, which is the code at hand by `code_reader_repaired` (regenerated facts). -/

/-- the reader of the working tree is the repaired one: the four facts `tools/extract` reads off `NewReader`,
`readRawBlock` and `decodeBlockHandle` -/
theorem code_reader_repaired : ReaderFix.code = ReaderFix.repaired := by decide

/-- **Finding 1 repaired (any content).**  Take a written table, cut it at the metaindex handle of its footer as
`pre ‖ M ‖ post` (`M` = payload ‖ type ‖ checksum of the metaindex block) and put ANY bytes `M'` of the same length
there that do not read as a block (checksum mismatch, unknown type, undecodable).  `NewReader` still constructs a
reader, without filter and with `dataEnd` from the footer, and `Find` (filtered or not), `Get`, range iteration and
full iteration return exactly what the undamaged table returns. -/
theorem damaged_metaindex_block_costs_only_the_filter (cfg : TableCfg) (hok : CfgOK cfg) (kvs : List KV)
    (hs : SmallKV kvs) (hsorted : StrictSorted cfg.cmp kvs) (hk : TailKeysNonempty kvs)
    (hsz : (Table.write cfg kvs).length < 2 ^ 32) (verify : Bool)
    (mbh ibh : BH) (hfh : Table.footerHandles (Table.write cfg kvs) = some (mbh, ibh))
    (pre M M' post : Bytes) (hsplit : Table.write cfg kvs = pre ++ M ++ post) (hpre : pre.length = mbh.offset)
    (hMl : M.length = mbh.length + Gen.blockTrailerLen) (hM' : M'.length = M.length)
    (hbad : readBlock cfg.cksum (pre ++ M' ++ post) mbh true = none) :
    ∃ t0 t, Table.open cfg verify (Table.write cfg kvs) = some t0 ∧
      Table.open cfg verify (pre ++ M' ++ post) = some t ∧ t.filter = none ∧ t.dataEnd = mbh.offset ∧
      (∀ key filtered, t.find key filtered = t0.find key false) ∧
      (∀ key, t.get key = t0.get key) ∧
      (∀ start limit, t.entriesInRange start limit = t0.entriesInRange start limit) ∧
      t.entries = t0.entries := by
  obtain ⟨cs, fb, t0, hfile, _, hfh', ho0, hdam⟩ := damaged_meta_of_write cfg hok kvs hsorted hk hsz verify
  obtain ⟨rfl, rfl⟩ := hfh' _ _ hfh
  have e := split_at_meta cfg cs fb pre M post (hfile ▸ hsplit) hpre (by rw [hMl]; rfl) M'
  rw [e] at hbad ⊢
  obtain ⟨t, ho, hflt, hde, h1, h2, h3, h4⟩ := hdam M' (by rw [hM', hMl]; rfl) hbad
  exact ⟨t0, t, ho0, ho, hflt, hde, h1, h2, h3, h4⟩

/-- **Finding 1 repaired (one altered byte).**  With a checksum that detects single-position changes (CRC32C does,
C12/C13(g)), altering ANY one byte of the metaindex block of a written table — payload, type byte or stored
checksum — leaves a table that `NewReader` opens without filter and that answers `Find` (filtered or not), `Get`,
range iteration and full iteration exactly like the undamaged table. -/
theorem damaged_metaindex_costs_only_the_filter (cfg : TableCfg) (hok : CfgOK cfg) (hd : DetectsSingle cfg.cksum)
    (kvs : List KV) (hs : SmallKV kvs) (hsorted : StrictSorted cfg.cmp kvs) (hk : TailKeysNonempty kvs)
    (hsz : (Table.write cfg kvs).length < 2 ^ 32) (verify : Bool)
    (mbh ibh : BH) (hfh : Table.footerHandles (Table.write cfg kvs) = some (mbh, ibh))
    (i : Nat) (b : UInt8) (hlo : mbh.offset ≤ i) (hhi : i < mbh.offset + mbh.length + Gen.blockTrailerLen)
    (hne : (Table.write cfg kvs)[i]? ≠ some b) :
    ∃ t0 t, Table.open cfg verify (Table.write cfg kvs) = some t0 ∧
      Table.open cfg verify ((Table.write cfg kvs).set i b) = some t ∧ t.filter = none ∧ t.dataEnd = mbh.offset ∧
      (∀ key filtered, t.find key filtered = t0.find key false) ∧
      (∀ key, t.get key = t0.get key) ∧
      (∀ start limit, t.entriesInRange start limit = t0.entriesInRange start limit) ∧
      t.entries = t0.entries := by
  obtain ⟨cs, fb, t0, hfile, hsz', hfh', ho0, hdam⟩ := damaged_meta_of_write cfg hok kvs hsorted hk hsz verify
  obtain ⟨rfl, rfl⟩ := hfh' _ _ hfh
  rw [hfile] at hne
  obtain ⟨hset, hbad⟩ := meta_byte_unreadable cfg hok.ck hd cs fb hsz' i b hlo hhi hne
  rw [hset] at hbad
  have hlen : ((withTrailer cfg.cksum (metaB cfg cs fb)).set (i - (metaBHOf cfg cs fb).offset) b).length =
      (metaB cfg cs fb).length + 5 := by rw [List.length_set, withTrailer_length]
  obtain ⟨t, ho, hflt, hde, h1, h2, h3, h4⟩ := hdam _ hlen hbad
  refine ⟨t0, t, ho0, ?_, hflt, hde, h1, h2, h3, h4⟩
  rw [hfile, hset]; exact ho

/-- **Finding 2 repaired.**  `NewReader` constructs a reader only with both footer handles inside the file: they
are the handles the footer names, and each block with its trailer ends within the file.  If a footer handle does not
lie in front of the footer the reader carries the FOOTER error (before anything is read).  And no buffer longer than
the file is ever requested from the pool for the two blocks the footer names — whatever the pool's buffers hold. -/
theorem footer_handles_in_file (cfg : TableCfg) (verify : Bool) (file : Bytes) :
    (∀ t, Table.open cfg verify file = some t →
      Table.footerHandles file = some (t.metaBH, t.indexBH) ∧
      t.metaBH.offset + t.metaBH.length + Gen.blockTrailerLen ≤ file.length ∧
      t.indexBH.offset + t.indexBH.length + Gen.blockTrailerLen ≤ file.length) ∧
    (∀ m i, Table.footerHandles file = some (m, i) →
      ¬ (m.offset + m.length ≤ file.length - Gen.footerLen ∧ i.offset + i.length ≤ file.length - Gen.footerLen) →
      Table.openE cfg verify file = .error .footer) ∧
    (∀ stale n, n ∈ (Table.openX .repaired stale cfg verify file).bufs → n ≤ file.length) := by
  unfold Table.open Table.openE Table.footerHandles Table.openX
  cases hfx : Table.footerHandlesX .repaired file with
  | error e => simp
  | ok p =>
    obtain ⟨m, i⟩ := p
    have hl := footerHandlesX_length _ _ _ hfx
    simp only
    cases hin : (m.inFile (file.length - Gen.footerLen) && i.inFile (file.length - Gen.footerLen)) with
    | false =>
      have k := fun stale => (openBody_repaired stale cfg verify file m i).1 hin
      refine ⟨fun t ho => ?_, fun m' i' _ _ => (k []).1, fun stale n hn => ?_⟩
      · rw [(k []).1] at ho; simp at ho
      · rw [(k stale).2] at hn; simp at hn
    | true =>
      have k := fun stale => (openBody_repaired stale cfg verify file m i).2 hin
      simp only [Bool.and_eq_true] at hin
      have b1 := inFile_bound m _ hl hin.1
      have b2 := inFile_bound i _ hl hin.2
      refine ⟨fun t ho => ?_, fun m' i' hmi hout => ?_, fun stale n hn => ?_⟩
      · cases hres : (Table.openBody .repaired [] cfg verify file m i).res with
        | error e => rw [hres] at ho; simp at ho
        | ok t' =>
          rw [hres] at ho
          cases ho
          obtain ⟨hm, hi⟩ := (k []).2 t hres
          rw [hm, hi]
          exact ⟨rfl, b1, b2⟩
      · cases hmi
        exfalso; apply hout
        simp only [BH.inFile, Bool.and_eq_true, decide_eq_true_eq] at hin
        omega
      · have := (k stale).1 n hn
        omega

/-- **Finding 5 repaired.**  A block handle that reaches beyond the end of the file is a corrupted block — with
and without checksum verification, for `readRawBlock`, `readBlock`, the data-block read of an open reader, and for
the reader under the switches with repair 5 in, WHATEVER the recycled pool buffer holds (`stale`). -/
theorem short_block_is_corruption (cksum : Bytes → Nat) (file : Bytes) (bh : BH) (verify : Bool)
    (h : file.length < bh.offset + bh.length + Gen.blockTrailerLen) :
    readRawBlock cksum file bh verify = none ∧ readBlock cksum file bh verify = none ∧
      (∀ fx stale, fx.shortReadIsCorruption = true → readBlockX fx stale cksum file bh verify = none) ∧
      (∀ t : TableR, t.file = file → t.cksum = cksum → t.dataBlock bh = none) := by
  refine ⟨readRawBlock_short cksum file bh verify h, readBlock_short cksum file bh verify h, ?_, ?_⟩
  · intro fx stale hfx
    unfold readBlockX
    rw [hfx, if_pos rfl]
    exact readBlock_short cksum file bh verify h
  · intro t hf hc
    unfold TableR.dataBlock
    rw [hf, hc]
    exact readBlock_short cksum file bh t.verify h

/-! ### non-vacuity, and the code as found (decided traces of the reader with a repair switched off) -/

/-- byte sum modulo 2^32: a toy checksum that is a 32-bit value AND detects every single altered position -/
def bsum : Bytes → Nat
  | [] => 0
  | x :: t => x.toNat + bsum t

theorem bsum_eq (l : Bytes) : bsum l = (l.map (·.toNat)).sum := by
  induction l with
  | nil => rfl
  | cons x t ih => simp [bsum, ih]

theorem bsum_detects : DetectsSingle (fun bs => bsum bs % 4294967296) := by
  intro bs i b h hne
  have h1 := sum_map_set (·.toNat) (List.getElem?_eq_getElem h) b
  rw [← bsum_eq, ← bsum_eq] at h1
  have h2 : b.toNat ≠ bs[i].toNat := fun e => hne (UInt8.toNat_inj.mp e)
  have h3 := b.toNat_lt
  have h4 := bs[i].toNat_lt
  simp only
  omega

/-- the example table with the toy filter and the byte-sum checksum: 229 bytes, filter block at 84, metaindex block
`⟨123, 22⟩` (bytes 123 … 149 with the trailer), index block `⟨150, 26⟩` -/
def exCfgS : TableCfg := { exCfgF with cksum := fun bs => bsum bs % 4294967296 }

theorem exCfgS_ok : CfgOK exCfgS :=
  ⟨exCfg_ok.cmp, exCfg_ok.sep, exCfg_ok.succ, by intro bs; simp only [exCfgS]; omega⟩

theorem exTableS_length : (Table.write exCfgS exKVs).length = 229 := by decide +kernel

theorem exTableS_small : (Table.write exCfgS exKVs).length < 2 ^ 32 := by rw [exTableS_length]; decide

theorem exTableS_handles : Table.footerHandles (Table.write exCfgS exKVs) = some (⟨123, 22⟩, ⟨150, 26⟩) := by
  decide +kernel

example : Table.footerHandles (Table.write exCfgS exKVs) = some (⟨123, 22⟩, ⟨150, 26⟩) := exTableS_handles

-- byte 130 (inside the metaindex payload, the `e` of "filter.") altered: the table opens, without filter, and answers
-- like the undamaged one, which does have its filter
example : ∃ t0 t, Table.open exCfgS true (Table.write exCfgS exKVs) = some t0 ∧
    Table.open exCfgS true ((Table.write exCfgS exKVs).set 130 9) = some t ∧ t.filter = none ∧
    (∀ key filtered, t.find key filtered = t0.find key false) ∧
    (∀ start limit, t.entriesInRange start limit = t0.entriesInRange start limit) :=
  let ⟨t0, t, h0, h1, h2, _, h3, _, h4, _⟩ := damaged_metaindex_costs_only_the_filter exCfgS exCfgS_ok bsum_detects exKVs
    exKVs_small exKVs_sorted exKVs_keys exTableS_small true ⟨123, 22⟩ ⟨150, 26⟩ exTableS_handles 130 9
    (by decide) (by decide) (by decide +kernel)
  ⟨t0, t, h0, h1, h2, h3, h4⟩

example : (Table.open exCfgS true (Table.write exCfgS exKVs)).map (fun t => t.filter.isSome) = some true := by
  decide +kernel

-- the same damage on the code AS FOUND (repair 1 off, the others in): the reader carries the metaindex block's
-- error for good — every read of the table fails, Recover drops the table
example : (Table.openX ⟨false, true, true, true⟩ [] exCfgS true ((Table.write exCfgS exKVs).set 130 9)).err
    = some .metaBlock := by decide +kernel

example : (Table.openX .repaired [] exCfgS true ((Table.write exCfgS exKVs).set 130 9)).err = none := by
  decide +kernel

-- any content: 27 bytes `0xff` in the place of the metaindex block (unknown block type, wrong checksum)
example : ∃ t0 t, Table.open exCfgS false (Table.write exCfgS exKVs) = some t0 ∧
    Table.open exCfgS false ((Table.write exCfgS exKVs).take 123 ++ List.replicate 27 255 ++
      (Table.write exCfgS exKVs).drop 150) = some t ∧ t.filter = none ∧ t.entries = t0.entries :=
  let ⟨t0, t, h0, h1, h2, _, _, _, _, h3⟩ := damaged_metaindex_block_costs_only_the_filter exCfgS exCfgS_ok exKVs
    exKVs_small exKVs_sorted exKVs_keys exTableS_small false ⟨123, 22⟩ ⟨150, 26⟩ exTableS_handles
    ((Table.write exCfgS exKVs).take 123) (((Table.write exCfgS exKVs).drop 123).take 27) (List.replicate 27 255)
    ((Table.write exCfgS exKVs).drop 150)
    (by rw [List.append_assoc, ← List.drop_drop (i := 27) (j := 123), List.take_append_drop, List.take_append_drop])
    (by rw [List.length_take, exTableS_length]; rfl) (by rw [List.length_take, List.length_drop, exTableS_length]; rfl)
    (by rw [List.length_take, List.length_drop, exTableS_length]; rfl) (by decide +kernel)
  ⟨t0, t, h0, h1, h2, h3⟩

/-- the example table of `exCfg` (176 bytes: metaindex `⟨84, 8⟩`, index `⟨97, 26⟩`) with another footer -/
def exRefoot (m i : BH) : Bytes := (Table.write exCfg exKVs).take 128 ++ TableWriter.footer m i

example : exRefoot ⟨84, 8⟩ ⟨97, 26⟩ = Table.write exCfg exKVs := by decide +kernel

-- a metaindex handle beyond the end of the file (offset 1000): the footer error, nothing requested from the pool
example : (Table.openX .repaired [] exCfg true (exRefoot ⟨1000, 8⟩ ⟨97, 26⟩)).err = some .footer ∧
    (Table.openX .repaired [] exCfg true (exRefoot ⟨1000, 8⟩ ⟨97, 26⟩)).bufs = [] := by decide +kernel

-- … an index handle whose length reaches into the footer
example : (Table.openX .repaired [] exCfg true (exRefoot ⟨84, 8⟩ ⟨97, 32⟩)).err = some .footer := by decide +kernel

example : Table.footerHandles (exRefoot ⟨1000, 8⟩ ⟨97, 26⟩) = some (⟨1000, 8⟩, ⟨97, 26⟩) ∧
    Table.openE exCfg true (exRefoot ⟨1000, 8⟩ ⟨97, 26⟩) = .error .footer :=
  ⟨by decide +kernel, (footer_handles_in_file exCfg true _).2.1 ⟨1000, 8⟩ ⟨97, 26⟩ (by decide +kernel) (by decide +kernel)⟩

-- the code AS FOUND on that file (finding 5): the short read goes unnoticed and the checksum is verified over what
-- the recycled buffer holds.  If that is the (byte-identical) metaindex block of the table read before, the table
-- with the damaged footer is ACCEPTED; with a zeroed buffer it is rejected with the metaindex block's error
example : (Table.openX .asFound (withTrailer exCfg.cksum (Block.build 2 [])) exCfg true (exRefoot ⟨1000, 8⟩ ⟨97, 26⟩)).err
    = none := by decide +kernel

example : (Table.openX .asFound [] exCfg true (exRefoot ⟨1000, 8⟩ ⟨97, 26⟩)).err = some .metaBlock := by decide +kernel

-- a footer-only file (48 bytes, intact magic) whose metaindex handle claims 2^62 bytes (finding 2).  As found (only
-- the short-read repair in, so that the trace ends): the reader asks the pool for 2^62 + 5 bytes — the Go runtime
-- panics in `makeslice`; repaired: the footer error, nothing requested
example : (TableWriter.footer ⟨0, 2 ^ 62⟩ ⟨0, 0⟩).length = 48 := by decide +kernel

example : (Table.openX ⟨false, false, true, true⟩ [] exCfg true (TableWriter.footer ⟨0, 2 ^ 62⟩ ⟨0, 0⟩)).bufs = [2 ^ 62 + 5] ∧
    (Table.openX ⟨false, false, true, true⟩ [] exCfg true (TableWriter.footer ⟨0, 2 ^ 62⟩ ⟨0, 0⟩)).err = some .metaBlock := by
  decide +kernel

example : (Table.openX .repaired [] exCfg true (TableWriter.footer ⟨0, 2 ^ 62⟩ ⟨0, 0⟩)).bufs = [] ∧
    (Table.openX .repaired [] exCfg true (TableWriter.footer ⟨0, 2 ^ 62⟩ ⟨0, 0⟩)).err = some .footer := by decide +kernel

-- with repairs 1 and 5 but not 2 the same file would be opened (no filter, empty index handle at 0 …): the request
-- for 2^62 + 5 bytes is still made
example : (Table.openX ⟨true, false, true, true⟩ [] exCfg true (TableWriter.footer ⟨0, 2 ^ 62⟩ ⟨0, 0⟩)).bufs.head? = some (2 ^ 62 + 5) := by
  decide +kernel

/-- a footer (intact magic) that starts with an 11-byte varint: `binary.Uvarint` reports an overflow -/
def exOverflowFooter : Bytes := List.replicate 11 255 ++ List.replicate 29 0 ++ Gen.tableMagic

example : exOverflowFooter.length = Gen.footerLen := by decide

-- `decodeBlockHandle` as found uses the negative count as a slice index (panic); repaired: a bad handle
example : BH.decodeGo false exOverflowFooter = .panics ∧ BH.decodeGo true exOverflowFooter = .bad := by decide +kernel

def errOf {α : Type} : Except OpenErr α → Option OpenErr
  | .ok _ => none
  | .error e => some e

example : errOf (Table.footerHandlesX .asFound exOverflowFooter) = some .panics ∧
    errOf (Table.footerHandlesX .repaired exOverflowFooter) = some .footer := by decide +kernel

-- the second varint overflowing: as found the caller gets a negative count with a half-decoded handle
example : BH.decodeGo false (1 :: List.replicate 11 255) = .neg ⟨1, 0⟩ ∧
    BH.decodeGo true (1 :: List.replicate 11 255) = .bad := by decide +kernel

-- finding 5 on a single block: the file ends inside the block.  Repaired: corruption, whatever the buffer holds;
-- as found: the block the buffer held before is returned
example : readBlockX .repaired (withTrailer exCfg.cksum (Block.build 2 exKVs)) exCfg.cksum [1, 2, 3] ⟨0, (Block.build 2 exKVs).length⟩ true
    = none :=
  (short_block_is_corruption exCfg.cksum [1, 2, 3] ⟨0, (Block.build 2 exKVs).length⟩ true (by decide +kernel)).2.2.1 _ _ rfl

example : (readBlockX .asFound (withTrailer exCfg.cksum (Block.build 2 exKVs)) exCfg.cksum [] ⟨0, (Block.build 2 exKVs).length⟩ true).isSome
    = true := by decide +kernel

/-! ## compressed blocks (reader side; executable model only, tied by the differential) -/

-- literal "ab", then an overlapping copy (offset 2, length 8): "ababababab"
example : Snappy.decode [10, 4, 97, 98, 17, 2] = some [97, 98, 97, 98, 97, 98, 97, 98, 97, 98] := by decide

-- a stated length that the elements do not fill is an error
example : Snappy.decode [11, 4, 97, 98, 17, 2] = none := by decide

-- `readRawBlock` decodes a block whose type byte says snappy (toy checksum as in `exCfg`)
example : readRawBlock (fun bs => bs.length % 7) ([10, 4, 97, 98, 17, 2] ++ [1] ++ le32 0) ⟨0, 6⟩ true
    = some [97, 98, 97, 98, 97, 98, 97, 98, 97, 98] := by decide

end GoLevel.C13

/-- the property theorems of C13 -/
def GoLevel.C13.theorems : List String :=
  ["GoLevel.C13.block_decode_build", "GoLevel.C13.block_seek_spec", "GoLevel.C13.table_entries_write",
   "GoLevel.C13.table_range_spec", "GoLevel.C13.table_find_spec", "GoLevel.C13.table_get_spec", "GoLevel.C13.offsetOf_monotone",
   "GoLevel.C13.filter_partition", "GoLevel.C13.table_filtered_find_stored", "GoLevel.C13.block_damage_detected",
   "GoLevel.C13.block_iter_refines_cursor", "GoLevel.C13.block_iter_slice_refines_cursor",
   "GoLevel.C13.block_iter_range_refines_cursor", "GoLevel.C13.code_block_seek_guards_index", "GoLevel.C13.code_reader_repaired",
   "GoLevel.C13.damaged_metaindex_block_costs_only_the_filter", "GoLevel.C13.damaged_metaindex_costs_only_the_filter",
   "GoLevel.C13.footer_handles_in_file", "GoLevel.C13.short_block_is_corruption"]

#print axioms GoLevel.C13.block_decode_build
#print axioms GoLevel.C13.block_seek_spec
#print axioms GoLevel.C13.table_entries_write
#print axioms GoLevel.C13.table_range_spec
#print axioms GoLevel.C13.table_find_spec
#print axioms GoLevel.C13.table_get_spec
#print axioms GoLevel.C13.offsetOf_monotone
#print axioms GoLevel.C13.filter_partition
#print axioms GoLevel.C13.table_filtered_find_stored
#print axioms GoLevel.C13.block_damage_detected
#print axioms GoLevel.C13.block_iter_refines_cursor
#print axioms GoLevel.C13.block_iter_slice_refines_cursor
#print axioms GoLevel.C13.block_iter_range_refines_cursor
#print axioms GoLevel.C13.code_reader_repaired
#print axioms GoLevel.C13.damaged_metaindex_block_costs_only_the_filter
#print axioms GoLevel.C13.damaged_metaindex_costs_only_the_filter
#print axioms GoLevel.C13.footer_handles_in_file
#print axioms GoLevel.C13.short_block_is_corruption

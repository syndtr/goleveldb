import GoLevel.Proofs.Score
import GoLevel.Proofs.Seek
import GoLevel.Props.C06
/-!
# C06 / C09 — which level a version wants compacted (`version.computeCompaction`, `needCompaction`)

`Model/Pick.lean` takes `v.cScore >= 1` and `v.cLevel` as given numbers (`PickState`); here they are computed from the
version the way the code computes them (`Model/Score.lean`, exact fractions), and the seek candidate `v.cSeek` the way
`version.get` records it (`Model/Seek.lean`).

Tie: `lsm score` lines of the trace validation — every installed version of the real DB is scored by the model from the
real `GetCompactionL0Trigger()` / `GetCompactionTotalSize(level)` and compared with the `cLevel` / `cScore >= 1` the
real `computeCompaction` left in it (hook field of `VerifVersion`).
-/
namespace GoLevel.C06Score
open GoLevel.Pick GoLevel.Score

/-- **`computed_level_is_first_max`**.  For every version and every sanitised option set, what `computeCompaction`
leaves is: nothing (`bestLevel = -1`) exactly for a version without levels; otherwise a real level `l` with its own
score `s`, no level scores higher, every level before `l` scores strictly lower. -/
theorem computed_level_is_first_max {o : ScoreOpts} (hp : o.Pos) (v : Version) :
    (computeCompaction o v = none ↔ v.levels = []) ∧
    ∀ l s, computeCompaction o v = some (l, s) →
      l < v.levels.length ∧ s = scoreAt o v l ∧
      (∀ j, j < v.levels.length → s.lt (scoreAt o v j) = false) ∧
      (∀ j, j < l → (scoreAt o v j).lt s = true) := by
  have hi := computeCompaction_inv hp v
  constructor
  · constructor
    · intro h
      rw [h] at hi
      exact List.eq_nil_of_length_eq_zero hi
    · intro h
      unfold computeCompaction
      rw [h]; rfl
  · intro l s h
    rw [h] at hi
    exact hi

/-- **`score_ge1_iff_some_level_over`**.  `v.cScore >= 1` holds exactly when some level is at or over its limit
(level 0: at least `CompactionL0Trigger` tables; level `i ≥ 1`: at least `GetCompactionTotalSize(i)` bytes). -/
theorem score_ge1_iff_some_level_over {o : ScoreOpts} (hp : o.Pos) (v : Version) :
    scoreGE1 o v = true ↔ ∃ j, j < v.levels.length ∧ (scoreAt o v j).ge1 = true := by
  obtain ⟨hnone, hsome⟩ := computed_level_is_first_max hp v
  unfold scoreGE1
  cases hc : computeCompaction o v with
  | none =>
    have := hnone.1 hc
    simp [this]
  | some p =>
    obtain ⟨l, s⟩ := p
    obtain ⟨hl, hs, hmax, _⟩ := hsome l s hc
    constructor
    · intro h
      exact ⟨l, hl, by rw [← hs]; exact h⟩
    · rintro ⟨j, hj, hge⟩
      exact Frac.ge1_of_le (scoreAt_den_pos hp v j) (hmax j hj) hge

/-- **`score_pick_has_inputs`**.  When `computeCompaction` left a score `≥ 1`, the level it names holds a table, so
the score-based branch of `pickCompaction` finds its inputs (`tables[0]` exists: no index panic) — for every
compaction-pointer state. -/
theorem score_pick_has_inputs {o : ScoreOpts} (hp : o.Pos) (c : UCmp) (v : Version)
    (compPtrs : List (Option IKey)) (cSeek : Option (Nat × Table)) (h : scoreGE1 o v = true) :
    lvlOf v (cLevel o v) ≠ [] ∧
    ∃ t0, pickInputs c v (pickState o v compPtrs cSeek) = some (cLevel o v, t0) := by
  have hge := h
  have hi := computeCompaction_inv hp v
  unfold scoreGE1 at h
  cases hc : computeCompaction o v with
  | none => rw [hc] at h; cases h
  | some p =>
    rw [hc] at h hi
    have hcl : cLevel o v = p.1 := by unfold cLevel; rw [hc]
    have hne : lvlOf v p.1 ≠ [] := scoreAt_ge1_nonempty hp v p.1 (hi.2.1 ▸ h)
    rw [hcl]
    refine ⟨hne, ?_⟩
    obtain ⟨t0, ht0⟩ := scoreInputs_isSome c hne p.1 (getCompPtr (pickState o v compPtrs cSeek) p.1)
    unfold pickInputs
    simp only [pickState, hge, if_true, hcl] at ht0 ⊢
    rw [ht0]
    exact ⟨t0, rfl⟩

/-- **`paused_writer_waits_for_real_work`** (C09).  `DB.flush` parks a writer on `compTriggerWait(tcompCmdC)` when level 0
holds at least `WriteL0PauseTrigger` tables.  If the pause trigger is not below the level-0 compaction trigger, then
on every well-formed version in that state `pickCompaction` builds a compaction: the table-compaction goroutine the
writer waits for has work, whatever the compaction pointers and the seek state are. -/
theorem paused_writer_waits_for_real_work {c : UCmp} (hl : LawfulUCmp c) {o : ScoreOpts} (hp : o.Pos) (lim : Limits)
    (v : Version) (hv : v.wfB c = true) (pause : Nat) (hpt : o.l0Trigger ≤ pause)
    (hpaused : pause ≤ (lvlOf v 0).length)
    (compPtrs : List (Option IKey)) (cSeek : Option (Nat × Table))
    (hseek : ∀ lvl t, cSeek = some (lvl, t) → t ∈ v.lvl lvl) :
    scoreGE1 o v = true ∧ ∃ cm, pickCompaction c lim v (pickState o v compPtrs cSeek) = some cm := by
  have hlen : 0 < v.levels.length := List.length_pos_iff.2 fun hlv => by
    have := hp.1
    simp [lvlOf, hlv] at hpaused
    omega
  have hge : scoreGE1 o v = true := by
    rw [score_ge1_iff_some_level_over hp v]
    refine ⟨0, hlen, ?_⟩
    unfold scoreAt levelScore
    simp only [if_true, Frac.ge1, decide_eq_true_eq]
    omega
  refine ⟨hge, ?_⟩
  obtain ⟨_, t0, ht0⟩ := score_pick_has_inputs hp c v compPtrs cSeek hge
  obtain ⟨cm, hcm, _⟩ := C06.pick_compaction_inputs_closed hl lim v hv (pickState o v compPtrs cSeek) hseek _ t0 ht0
  exact ⟨cm, hcm⟩


private def tb (n : Nat) (a b : Nat) : Table :=
  ⟨n, 10, [⟨⟨[a.toUInt8], 257⟩, []⟩, ⟨⟨[b.toUInt8], 257⟩, []⟩], ⟨[a.toUInt8], 257⟩, ⟨[b.toUInt8], 257⟩⟩

/-- **`pause_below_trigger_waits_for_nothing`**.  With `WriteL0PauseTrigger = 2` below `CompactionL0Trigger = 4` a
version with two level-0 tables parks every writer that needs room, yet `computeCompaction` scores it below 1 and
`pickCompaction` (no seek state) returns nil: the writer waits for a compaction that is never needed (wp41's third
observation; the option getters do not order the two triggers). -/
theorem pause_below_trigger_waits_for_nothing :
    let o : ScoreOpts := ⟨4, fun _ => 1000⟩
    let v : Version := ⟨[[tb 2 5 6, tb 1 1 2]]⟩
    2 ≤ (lvlOf v 0).length ∧ scoreGE1 o v = false ∧
    pickCompaction bytewise ⟨fun _ => 0, fun _ => 0, fun _ => 0⟩ v (pickState o v [] none) = none := by
  decide +kernel

/-- non-vacuity: a three-level version; level 1 (30 of 20 bytes) beats level 0 (1 of 4 tables) and level 2 (10 of 100) -/
example :
    let o : ScoreOpts := ⟨4, fun l => if l = 1 then 20 else 100⟩
    let v : Version := ⟨[[tb 9 1 2], [tb 5 1 2, tb 6 3 4, tb 7 5 6], [tb 1 1 9]]⟩
    o.Pos ∧ computeCompaction o v = some (1, ⟨30, 20⟩) ∧ scoreGE1 o v = true ∧ cLevel o v = 1 ∧
    (pickInputs bytewise v (pickState o v [] none)).map (fun p => (p.1, p.2.map (·.num))) = some (1, [5]) := by
  refine ⟨⟨by decide, fun l => by show 0 < (if l = 1 then 20 else 100); split <;> omega⟩, by decide, by decide, by decide, by decide⟩

/-- non-vacuity of the tie-break: equal scores keep the FIRST level (`score > bestScore` is strict) -/
example :
    computeCompaction ⟨1, fun _ => 10⟩ ⟨[[tb 9 1 2], [tb 5 1 2], [tb 1 1 9]]⟩ = some (0, ⟨1, 1⟩) := by decide +kernel


/-- **`seek_charge_in_version`**.  The table a lookup charges a seek to — the first table of the version it consulted,
when it had to consult a second one — is a table of that version at the level recorded with it, for every version,
transaction table set, key and sequence number.  This is the premise `hseek` of `C06.pick_compaction_inputs_closed`
(`v.cSeek` is only ever set by a lookup on `v` itself). -/
theorem seek_charge_in_version (c : UCmp) (aux : Level) (v : Version) (k : Bytes) (s : Nat) (l : Nat) (t : Table)
    (h : Seek.seekCharge c aux v k s = some (l, t)) :
    t ∈ v.lvl l ∧ 2 ≤ (Seek.visits c aux v k s).length ∧ (Seek.visits c aux v k s).head? = some (l, t) := by
  unfold Seek.seekCharge at h
  cases hv : Seek.visits c aux v k s with
  | nil => rw [hv] at h; cases h
  | cons a rest =>
    rw [hv] at h
    cases rest with
    | nil => cases h
    | cons b rest' =>
      simp only [Option.some.injEq] at h
      subst h
      refine ⟨Seek.visits_mem c aux v k s l t (by rw [hv]; simp), by simp, rfl⟩

/-- **`seek_pick_inputs_closed`**.  A seek-based pick whose candidate was recorded by a lookup on the same version
builds a compaction with closed inputs: `C06.pick_compaction_inputs_closed` without its premise on `cSeek`. -/
theorem seek_pick_inputs_closed {c : UCmp} (hl : LawfulUCmp c) (lim : Limits) (v : Version) (hv : v.wfB c = true)
    (aux : Level) (k : Bytes) (s : Nat) (l : Nat) (t : Table)
    (hcharge : Seek.seekCharge c aux v k s = some (l, t)) (compPtrs : List (Option IKey)) (cl : Nat) :
    ∃ cm, pickCompaction c lim v ⟨false, cl, compPtrs, some (l, t)⟩ = some cm ∧ cm.sourceLevel = l ∧
      (∀ x ∈ cm.s0, x ∈ v.lvl l) ∧ (∀ x ∈ cm.s1, x ∈ v.lvl (l + 1)) ∧ t ∈ cm.s0 ∧
      (∀ x ∈ v.lvl (l + 1), x.overlapsRange c cm.imin.ukey cm.imax.ukey = true ↔ x ∈ cm.s1) := by
  have hmem := (seek_charge_in_version c aux v k s l t hcharge).1
  obtain ⟨cm, hcm, hsrc, h0, h1, ht0, _, hall, _⟩ :=
    C06.pick_compaction_inputs_closed hl lim v hv ⟨false, cl, compPtrs, some (l, t)⟩
      (by intro lvl t' he; cases he; exact hmem) l [t] rfl
  exact ⟨cm, hcm, hsrc, h0, h1, ht0 t (by simp), hall⟩

/-- **`lookup_without_visits_misses`**.  The walk and the answer agree at the empty end: when no auxiliary table holds the
key and `version.get` consults no table of the version (no level-0 range contains the key, no deeper level has a
candidate), the lookup reports the key absent from the version — the model of the walk (`Seek.visits`) and the
lookup of C01 (`versionGet`) are two views of the same code. -/
theorem lookup_without_visits_misses (c : UCmp) (aux : Level) (v : Version) (k : Bytes) (s : Nat)
    (haux : l0Get c aux k s = none) (h : Seek.visits c aux v k s = []) : versionGet c aux v k s = .miss := by
  unfold Seek.visits at h
  unfold versionGet
  rw [haux] at h ⊢
  simp only at h ⊢
  cases hlv : v.levels with
  | nil => rfl
  | cons l0 rest =>
    rw [hlv] at h
    simp only [List.append_eq_nil_iff, List.map_eq_nil_iff] at h
    obtain ⟨h0, h1⟩ := h
    have hl0 : l0Get c l0 k s = none := by rw [Seek.l0Get_eq_visits, h0]; rfl
    rw [hl0] at h1
    simp only [hl0]
    exact Seek.deeperGet_miss_of_no_visits c rest k s 1 h1

/-- non-vacuity: key `[3]` lies in the ranges of both level-0 tables and is held by neither (entries `[1],[5]` /
`[2],[4]`): the first one consulted is charged; key `[1]` is found in the first table consulted after one more
level-0 visit; a key outside every range consults nothing -/
example :
    let v : Version := ⟨[[tb 7 1 5, tb 6 2 4], [tb 3 1 9]]⟩
    (Seek.visits bytewise [] v [3] 9).map (fun p => (p.1, p.2.num)) = [(0, 7), (0, 6), (1, 3)] ∧
    (Seek.seekCharge bytewise [] v [3] 9).map (fun p => (p.1, p.2.num)) = some (0, 7) ∧
    (Seek.visits bytewise [] v [1] 9).map (fun p => (p.1, p.2.num)) = [(0, 7)] ∧
    Seek.seekCharge bytewise [] v [1] 9 = none ∧
    Seek.visits bytewise [] v [10] 9 = [] := by decide +kernel

end GoLevel.C06Score

def GoLevel.C06Score.theorems : List String :=
  ["GoLevel.C06Score.computed_level_is_first_max", "GoLevel.C06Score.score_ge1_iff_some_level_over",
   "GoLevel.C06Score.score_pick_has_inputs", "GoLevel.C06Score.paused_writer_waits_for_real_work",
   "GoLevel.C06Score.pause_below_trigger_waits_for_nothing", "GoLevel.C06Score.seek_charge_in_version",
   "GoLevel.C06Score.seek_pick_inputs_closed", "GoLevel.C06Score.lookup_without_visits_misses"]

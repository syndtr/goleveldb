import GoLevel.Proofs.Strict
/-!
# C19 — the strict level `Recover` rebuilds tables with

Model: `GoLevel/Model/Strict.lean`; lemmas: `GoLevel/Proofs/Strict.lean`.  C19 promises that a damaged block costs only its
own entries; that rests on `recoverTable` reading tables with a NON-strict reader whatever `Options.Strict` says.  For
every one of the 2⁶⁴ values of `Options.Strict`:

* `recover_reader_never_strict` — the options `recoverTable` hands its readers never answer `GetStrict(StrictReader)` with
  true;
* `recover_keeps_other_flags` — every other flag of `StrictAll` is answered as the user's own options answer it
  (block checksums stay on exactly when the user had them on, …);
* `as_found_reader_strict_again` — without the zero repair `Options.Strict = StrictReader` made the reader strict again
  (defect D58, exhibited on the code by `recover:strict-reader-only:undamaged-blocks-lost`);
* `code_recover_reader_never_strict` — the facts regenerated from `db.go`, `options.go`, `opt/options.go` say the code
  has the repaired shape, so the first theorem is about the code as it is.
-/
namespace GoLevel.C19Strict
open GoLevel GoLevel.Strict

theorem recover_reader_never_strict (s : Nat) : getStrict (recoverStrict true s) Gen.optStrictReader = false := by
  rw [reader_is_bit5, getStrict_recover s 5 (by omega)]; exact testBit_mask_self _ 5 (by omega)

/-- the flags of `StrictAll` other than `StrictReader` are bits 0–4 and 6 -/
theorem recover_keeps_other_flags (s k : Nat) (hk : k < 7) (hk5 : k ≠ 5) :
    getStrict (recoverStrict true s) (2 ^ k) = getStrict s (2 ^ k) := by
  rw [getStrict_recover s k hk, testBit_mask_of_ne _ (by omega) (by omega) (Ne.symm hk5), getStrict_dup]

theorem as_found_reader_strict_again :
    getStrict (recoverStrict false Gen.optStrictReader) Gen.optStrictReader = true := by decide

theorem code_recover_reader_never_strict :
    codeZeroFix = true ∧ ∀ s, getStrict (recoverStrict codeZeroFix s) Gen.optStrictReader = false := by
  have h : codeZeroFix = true := by decide
  exact ⟨h, fun s => by rw [h]; exact recover_reader_never_strict s⟩

/-- the seven flags are the bits the theorems speak about -/
theorem flags_are_bits :
    [Gen.optStrictManifest, Gen.optStrictJournalChecksum, Gen.optStrictJournal, Gen.optStrictBlockChecksum,
      Gen.optStrictCompaction, Gen.optStrictReader, Gen.optStrictRecovery] = (List.range 7).map (2 ^ ·) ∧
    Gen.optStrictAll = 2 ^ 7 - 1 := by decide

/-- non-vacuity: default options, `StrictAll`, `StrictReader` alone, reader + checksum -/
example :
    recoverStrict true 0 = 26 ∧ recoverStrict true 127 = 95 ∧ recoverStrict true 32 = noStrict ∧
    recoverStrict true 40 = 8 ∧ getStrict (recoverStrict true 40) Gen.optStrictBlockChecksum = true ∧
    getStrict (recoverStrict true 32) Gen.optStrictBlockChecksum = false := by decide

/-! ## C08 — a table compaction reads its inputs strictly exactly when `StrictCompaction` is set -/

/-- **`compaction_reader_strict_iff`**.  For every value of `Options.Strict`, the iterators `compaction.newIterator` builds
over the input tables are strict (`opt.GetStrict(o, ro, StrictReader)`) exactly when the options have
`StrictCompaction`: a damaged block then stops the compaction with an error instead of being skipped, so a compaction
never commits an output that lacks a block's entries while deleting the input (C08: no acknowledged write is lost to a
damaged block). -/
theorem compaction_reader_strict_iff (o : Nat) :
    getStrictRO o (compactionRO Gen.optStrictReader o) Gen.optStrictReader = getStrict o Gen.optStrictCompaction := by
  rw [compactionRO_reader, show roGetStrict (Gen.optStrictOverride ||| Gen.optStrictReader) Gen.optStrictReader = true by decide,
    Bool.and_true]

/-- with the default options (`Strict` unset) a compaction reads strictly -/
theorem default_compaction_reader_strict :
    getStrictRO 0 (compactionRO Gen.optStrictReader 0) Gen.optStrictReader = true := by decide

/-- the wrong constant (`ro.Strict |= opt.StrictCompaction`, seeded change `C08-compaction-iter-not-strict`) makes the
reader lenient for EVERY option value: damaged blocks are skipped silently -/
theorem compaction_flag_instead_of_reader_never_strict (o : Nat) :
    getStrictRO o (compactionRO Gen.optStrictCompaction o) Gen.optStrictReader = false := by
  rw [compactionRO_reader,
    show roGetStrict (Gen.optStrictOverride ||| Gen.optStrictCompaction) Gen.optStrictReader = false by decide, Bool.and_false]

theorem code_compaction_reader_shape : codeCompactionIterShape = true := by decide

end GoLevel.C19Strict

def GoLevel.C19Strict.theorems : List String :=
  ["GoLevel.C19Strict.recover_reader_never_strict", "GoLevel.C19Strict.recover_keeps_other_flags",
   "GoLevel.C19Strict.as_found_reader_strict_again", "GoLevel.C19Strict.code_recover_reader_never_strict",
   "GoLevel.C19Strict.flags_are_bits", "GoLevel.C19Strict.compaction_reader_strict_iff",
   "GoLevel.C19Strict.default_compaction_reader_strict", "GoLevel.C19Strict.compaction_flag_instead_of_reader_never_strict",
   "GoLevel.C19Strict.code_compaction_reader_shape"]

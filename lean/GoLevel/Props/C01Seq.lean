import GoLevel.Proofs.SeqDBSim
/-!
# Properties C01 and C03, end to end over the LSM model

C01: "For any sequence of Put, Delete, batch Write, CompactRange … calls issued by one client, every Get and
Has returns exactly what a plain in-memory map driven by the same sequence would return … no matter whether
the newest entry currently sits in the write buffer, the frozen buffer, a level-0 table or a deeper table,
and no matter which flushes and compactions have run.  Has(k) is true exactly when Get(k) succeeds."

C03: "A snapshot … reflects exactly the DB contents at the instant it was created.  Every read through it
keeps returning those contents, unchanged, however many writes, deletes, buffer flushes, automatic or manual
compactions happen afterwards and however long it is held; releasing it affects neither other snapshots nor
the live DB."

Model: `GoLevel/Model/SeqDB.lean` — the state `(mem, frozen, version, seq, snapshots)`, the client operations
`put / del / write / get / has / snapAcquire / snapGet / snapRelease` (`clientStep`), the background steps
`rotate / flush / compact / move` (`bgStep`; a step whose guard fails is rejected and leaves the state
unchanged), `run : State → List Event → List Output`, and the specification `Spec` (a plain association-list
map, per-snapshot frozen copies) with `Spec.run`.  `CompactRange` is, for this property, some sequence of
`rotate`, `flush`, `compact` and `move` steps; the scheduler may pick any.
**Close/reopen is outside this model** (crash and recovery are property C04).

The theorems hold for every lawful comparer, from the empty DB, for **every** event list: any length, any
interleaving of client operations with background steps, accepted or rejected.  Proof: `Inv`
(`Proofs/SeqDBInv.lean`) is preserved by every step, and an accepted background step changes no admissible
reader's view (`BgKeeps`) — flush, compaction and trivial move by `C06.flush_preserves_wf`, `compaction_wf` +
`compaction_view` (the two halves of `C03.compaction_preserves_lookup`), `C06.trivial_move_preserves_wf`,
`C03.trivial_move_preserves_view`, `view_congr` —; the simulation `Sim` (`Proofs/SeqDBSim.lean`, ghost history +
floor) is preserved with equal outputs — reads by `C01.lookup_refines_view`, writes by `view_cons_of_newer`.
-/
namespace GoLevel.C01Seq
open GoLevel.SeqDB


/-- **`inv_preserved`**: in every state reachable from the empty DB the sources of `DB.get` satisfy the
hypotheses of C01 (`SourcesOK`: buffers sorted, version well formed, write buffer ▸ frozen buffer ▸ version
newer per user key), no two entries share user key and sequence number, table numbers are distinct, every
entry has `seq ≤ db.seq` and kind ≤ `keyTypeVal`, every snapshot is at most `db.seq`. -/
theorem inv_preserved {c : UCmp} (hl : LawfulUCmp c) (es : List Event) : Inv c (runState c init es) :=
  inv_runState hl es (inv_init hl)

theorem inv_spelled {c : UCmp} (hl : LawfulUCmp c) (es : List Event) :
    let st := runState c init es
    C01.SourcesOK c none [] st.mem st.frozen st.ver ∧ st.ver.wfB c = true ∧
    UniqSeq (st.mem ++ (st.frozen.getD [] ++ st.ver.entries)) ∧
    (∀ i j, ∀ x ∈ st.ver.lvl i, ∀ y ∈ st.ver.lvl j, x.num = y.num → x = y) ∧
    (∀ e ∈ st.mem ++ (st.frozen.getD [] ++ st.ver.entries), e.seq ≤ st.seq ∧ e.kind ≤ Gen.keyTypeVal) ∧
    (∀ p ∈ st.snaps, p.2 ≤ st.seq) := by
  have h := inv_preserved hl es
  exact ⟨h.sources, h.sources.wf, h.uniq, h.nums, fun e he => ⟨h.seq_le e he, h.kinds e he⟩, h.snaps_le⟩


/-- **`run_refines_spec`**: the outputs of any run of the DB model — client operations interleaved in any
way with rotations, flushes, compactions and trivial moves — are the outputs of the plain-map
specification run on the client operations alone. -/
theorem run_refines_spec {c : UCmp} (hl : LawfulUCmp c) (es : List Event) :
    run c init es = Spec.run Spec.init (clientOps es) :=
  (sim_run hl es (inv_init hl) (sim_init c)).1

/-- the specification's map after the client operations `ops` is the plain map driven by their writes,
whatever reads and snapshot operations lie in between -/
theorem spec_map_is_plain (ops : List ClientOp) :
    (Spec.runState Spec.init ops).map = (writesOf ops).foldl Map.apply [] :=
  spec_map_eq_fold ops Spec.init


/-- **`get_refines_map`**: after any events `pre`, `Get k` returns what the plain map driven by the client
operations of `pre` holds for `k` — wherever the newest entry of `k` sits and whatever background work ran. -/
theorem get_refines_map {c : UCmp} (hl : LawfulUCmp c) (pre : List Event) (k : Bytes) :
    (clientStep c (runState c init pre) (.get k)).2 =
      .value ((Spec.runState Spec.init (clientOps pre)).map.get k) :=
  (sim_clientStep hl (inv_preserved hl pre) (sim_reachable hl pre) (.get k)).1

theorem get_refines_map_run {c : UCmp} (hl : LawfulUCmp c) (pre post : List Event) (k : Bytes) :
    run c init (pre ++ .client (.get k) :: post) =
      run c init pre ++ .value (((writesOf (clientOps pre)).foldl Map.apply []).get k)
        :: run c (runState c init pre) post := by
  rw [run_append, ← spec_map_is_plain, ← get_refines_map hl pre k]
  rfl

theorem has_refines_map {c : UCmp} (hl : LawfulUCmp c) (pre : List Event) (k : Bytes) :
    (clientStep c (runState c init pre) (.has k)).2 =
      .found ((Spec.runState Spec.init (clientOps pre)).map.get k).isSome :=
  (sim_clientStep hl (inv_preserved hl pre) (sim_reachable hl pre) (.has k)).1

/-- **`has_iff_get`**: in every state, `Has k` is true exactly when `Get k` succeeds -/
theorem has_iff_get (c : UCmp) (st : State) (k : Bytes) :
    ∃ v, (clientStep c st (.get k)).2 = .value v ∧ (clientStep c st (.has k)).2 = .found v.isSome :=
  ⟨_, rfl, congrArg Output.found (isValue_eq _)⟩


/-- **`snapshot_frozen`**: let `snapAcquire` be issued after the events `pre`; it returns the id
`(runState c init pre).nextSnap`.  After any further events `mid` that do not release *that* id — writes,
deletes, batches, rotations, flushes, compactions (accepted only with `minSeq ≤` the snapshot), moves,
acquisitions and releases of other snapshots — `snapGet id k` returns what the plain map held for `k` at
the moment of acquisition. -/
theorem snapshot_frozen {c : UCmp} (hl : LawfulUCmp c) (pre mid : List Event) (k : Bytes)
    (hno : ClientOp.snapRelease (runState c init pre).nextSnap ∉ clientOps mid) :
    (clientStep c (runState c init pre) .snapAcquire).2 = .snap (runState c init pre).nextSnap ∧
    (clientStep c (runState c init (pre ++ .client .snapAcquire :: mid))
        (.snapGet (runState c init pre).nextSnap k)).2 =
      .value ((Spec.runState Spec.init (clientOps pre)).map.get k) := by
  refine ⟨rfl, ?_⟩
  rw [runState_append]
  exact snapGet_frozen hl (inv_preserved hl pre) (sim_reachable hl pre) mid k hno

/-- releasing a snapshot does not change what `Get` returns (the live DB is unaffected) -/
theorem release_keeps_get (c : UCmp) (st : State) (id : Nat) (k : Bytes) :
    (clientStep c (clientStep c st (.snapRelease id)).1 (.get k)).2 = (clientStep c st (.get k)).2 := rfl

/-! ## non-vacuity: a concrete run

Keys `[1] … [5]`.  `[1]` is written twice and deleted; `[2]` written, deleted, rewritten; `[3]` overwritten
after snapshot 0 (taken at sequence 5); a three-record batch.  Background: rotate + flush (table 1, level 0);
a compaction with `minSeq = 9` is **rejected** (snapshot 0 is at 5); with `minSeq = 5` it is accepted and
drops the overwritten `[1]@1`, the tombstone `[2]@4` and `[2]@3` under it, but keeps `[1]@2` and `[3]@5`, which
snapshot 0 needs; second rotate + flush (table 4); a trivial move of table 2 to level 2.  At the end the
newest entry of `[5]` sits in the write buffer, of `[4]` in a level-0 table, of `[2]`, `[3]` in level 1, of `[1]`
in level 2. -/

def e (k : UInt8) (seq kind : Nat) (v : List UInt8) : Entry := ⟨mkIKey [k] seq kind, v⟩

def exT1 : Table := tableOf 1
  [e 1 7 0 [], e 1 2 1 [0xa1], e 1 1 1 [0xa0], e 2 9 1 [0xb1], e 2 4 0 [], e 2 3 1 [0xb0],
   e 3 6 1 [0xc1], e 3 5 1 [0xc0], e 4 8 1 [0xd0]]
def exN2 : Table := tableOf 2 [e 1 7 0 [], e 1 2 1 [0xa1]]
def exN3 : Table := tableOf 3 [e 2 9 1 [0xb1], e 3 6 1 [0xc1], e 3 5 1 [0xc0], e 4 8 1 [0xd0]]
def exT4 : Table := tableOf 4 [e 4 10 1 [0xd1]]
/-- what the builder would write with `minSeq = 9` -/
def exBad : Table := tableOf 2 [e 2 9 1 [0xb1], e 3 6 1 [0xc1], e 4 8 1 [0xd0]]

def exEvents : List Event := [
  .client (.put [1] [0xa0]), .client (.put [1] [0xa1]), .client (.put [2] [0xb0]), .client (.del [2]),
  .client (.put [3] [0xc0]), .client .snapAcquire, .client (.put [3] [0xc1]),
  .client (.write [(false, [1], []), (true, [4], [0xd0]), (true, [2], [0xb1])]),
  .bg .rotate, .client (.get [1]), .bg .flush, .client (.snapGet 0 [1]),
  .bg (.compact 0 [exT1] [] [exBad] 9 [1] [4]),
  .bg (.compact 0 [exT1] [] [exN2, exN3] 5 [1] [4]),
  .client (.snapGet 0 [1]), .client (.snapGet 0 [2]), .client (.snapGet 0 [3]),
  .client (.put [4] [0xd1]), .bg .rotate, .client (.put [5] [0xe0]), .client .snapAcquire, .client (.del [5]),
  .bg .flush,
  .client (.get [1]), .client (.get [2]), .client (.get [3]), .client (.get [4]), .client (.get [5]),
  .client (.has [2]), .client (.has [5]), .client (.snapGet 1 [5]), .client (.snapRelease 0),
  .client (.snapGet 0 [1]), .client (.snapGet 1 [5]), .bg (.move 1 exN2), .client (.get [1]),
  .client (.get [2])]

theorem exTrace :
    run bytewise init exEvents =
      [.ok, .ok, .ok, .ok, .ok, .snap 0, .ok, .ok, .value none, .value (some [0xa1]), .value (some [0xa1]),
       .value none, .value (some [0xc0]), .ok, .ok, .snap 1, .ok, .value none, .value (some [0xb1]),
       .value (some [0xc1]), .value (some [0xd1]), .value none, .found true, .found false, .value (some [0xe0]),
       .ok, .badSnap, .value (some [0xe0]), .value none, .value (some [0xb1])] ∧
    accepted bytewise init exEvents = [true, true, false, true, true, true, true] ∧
    (let st := runState bytewise init exEvents
     st.mem = [e 5 12 0 [], e 5 11 1 [0xe0]] ∧ st.frozen = none ∧ st.ver = ⟨[[exT4], [exN3], [exN2]]⟩ ∧
     st.seq = 12 ∧ st.snaps = [(1, 11)]) := by decide +kernel

example : run bytewise init exEvents =
    [.ok, .ok, .ok, .ok, .ok, .snap 0, .ok, .ok,
     .value none,                     -- get [1] (tombstone in the frozen buffer)
     .value (some [0xa1]),            -- snapGet 0 [1] (level-0 table)
     .value (some [0xa1]), .value none, .value (some [0xc0]),   -- snapshot 0 after the compaction
     .ok, .ok, .snap 1, .ok,
     .value none, .value (some [0xb1]), .value (some [0xc1]), .value (some [0xd1]), .value none,
     .found true, .found false,
     .value (some [0xe0]),            -- snapGet 1 [5]: written at 11, deleted at 12
     .ok, .badSnap, .value (some [0xe0]),
     .value none, .value (some [0xb1])] := exTrace.1

example : run bytewise init exEvents = Spec.run Spec.init (clientOps exEvents) :=
  run_refines_spec bytewise_lawful exEvents

example : run bytewise init exEvents = Spec.run Spec.init (clientOps exEvents) :=
  run_refines_spec bytewise_lawful exEvents

/-- every background step but the compaction with `minSeq = 9 >` snapshot 0 was accepted -/
example : accepted bytewise init exEvents = [true, true, false, true, true, true, true] := exTrace.2.1

/-- that compaction fails only the snapshot clause of its guard … -/
example :
    let st := runState bytewise init (exEvents.take 12)
    CompactionOK bytewise st.ver 0 [exT1] [] [exBad] 9 [1] [4] ∧ 9 ≤ st.seq ∧ FreshNums st.nextTable [exBad] ∧
    st.snaps = [(0, 5)] := by decide +kernel

/-- … and the clause is needed: committed anyway, it makes snapshot 0 lose `[1]` and `[3]` -/
example :
    let st := runState bytewise init (exEvents.take 12)
    let st' := { st with ver := st.ver.apply bytewise (replaceEdit 0 [exT1] [] [exBad]) }
    (getAt bytewise st [1] 5).toOption = some [0xa1] ∧ (getAt bytewise st' [1] 5).toOption = none ∧
    (getAt bytewise st [3] 5).toOption = some [0xc0] ∧ (getAt bytewise st' [3] 5).toOption = none := by
  decide +kernel

/-- the accepted compaction dropped a tombstone and overwritten values, and kept what snapshot 0 reads -/
example :
    (runState bytewise init (exEvents.take 12)).ver = ⟨[[exT1]]⟩ ∧
    (runState bytewise init (exEvents.take 14)).ver = ⟨[[], [exN2, exN3]]⟩ ∧
    e 2 4 0 [] ∈ exT1.entries ∧ e 2 4 0 [] ∉ exN2.entries ++ exN3.entries ∧
    e 1 1 1 [0xa0] ∈ exT1.entries ∧ e 1 1 1 [0xa0] ∉ exN2.entries ++ exN3.entries ∧
    e 1 2 1 [0xa1] ∈ exN2.entries ∧ e 3 5 1 [0xc0] ∈ exN3.entries := by decide +kernel

example :
    let st := runState bytewise init exEvents
    st.mem = [e 5 12 0 [], e 5 11 1 [0xe0]] ∧ st.frozen = none ∧ st.ver = ⟨[[exT4], [exN3], [exN2]]⟩ ∧
    st.seq = 12 ∧ st.snaps = [(1, 11)] := exTrace.2.2

/-- `snapshot_frozen` on the run: snapshot 0 was acquired after the first five events -/
example : (clientStep bytewise (runState bytewise init (exEvents.take 5 ++ .client .snapAcquire ::
      ((exEvents.drop 6).take 25))) (.snapGet 0 [3])).2 = .value (some [0xc0]) :=
  (snapshot_frozen bytewise_lawful (exEvents.take 5) ((exEvents.drop 6).take 25) [3] (by decide +kernel)).2.trans
    (by decide +kernel)

end GoLevel.C01Seq

def GoLevel.C01Seq.theorems : List String :=
  ["GoLevel.C01Seq.inv_preserved", "GoLevel.C01Seq.inv_spelled", "GoLevel.C01Seq.run_refines_spec",
   "GoLevel.C01Seq.spec_map_is_plain", "GoLevel.C01Seq.get_refines_map",
   "GoLevel.C01Seq.get_refines_map_run", "GoLevel.C01Seq.has_refines_map", "GoLevel.C01Seq.has_iff_get",
   "GoLevel.C01Seq.snapshot_frozen", "GoLevel.C01Seq.release_keeps_get"]

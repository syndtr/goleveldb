import GoLevel.Proofs.RefLoopStep
import GoLevel.Proofs.RefLoopLong
import GoLevel.Props.C07Full
/-! # C07 — file deletion

"The DB never removes a file that the current state, an unreleased iterator or an in-flight read still needs: an
iterator keeps returning correct data through any number of later compactions.  Conversely, once readers are
released and background work settles - and in any case after close and reopen - storage holds nothing but the
live tables, the live journal(s), the live manifest and its pointer, and the space of overwritten or deleted
data is given back by compaction instead of accumulating."

Model: `GoLevel.RefLoop` (`Model/RefLoop.lean`) — `session.refLoop` exactly as written (version tasks cached
up to `maxCachedNumber`, conversion to full references, the timer as the message `expire`).  A table is removed
from storage only through this loop (`tOps.remove`; C17 covers the cache that defers the actual `Remove` until
the table's handles are released) or by the start-up sweep `checkAndCleanFiles` (`startup_sweep` below).

Environment hypotheses (`EnvStep`, `Env.WF` in `Proofs/RefLoopInv.lean`), all explicit:
* version ids are consecutive and `ref v` is the first message about `v`; the first version of a session is empty;
* the delta of version `v` is sent after `ref (v+1)`, deltas arrive in version order, `rel v` comes after the
  delta of `v`, once;
* `ExactDelta`: the delta lists `files(v+1) − files(v)` and `files(v) − files(v+1)`;
* `NodupDelta`: `added` and `deleted` list each table once.  On the first commit after every
  `Open` the RECORD lists tables twice (`session.commit` → `newManifest(r, nv)` adds every table of `nv` to
  `r.addedTables` again); `session.setVersion` in /repo builds the delta through a `seen` map, so the delta lists
  each once (`Gen.setVersionAddedOnce`, `producer_added_once` in `Props/C07Full.lean`).  Without that map the
  hypothesis fails and a table leaks: `delta_once_needed`;
* a table that left the version never comes back (`Env.WF.mono`).
The theorems of THIS file keep these hypotheses (they are the simplest statement of the argument); they are proved
by embedding `Env` in the environment of `Props/C07Full.lean` (`Env.emb`, `Proofs/RefLoopStep.lean`).
`Props/C07Full.lean` removes them: abandoned version ids at any point, trivial-move deltas (a table on both
sides), the empty delta of `session.recover`, the shutdown messages of `session.close`, file-number reuse, and
the producers (`session.setVersion/commit/recover/close`, reader pins) modelled over the LSM versions so that
"consecutive ids, exact duplicate-free deltas" are lemmas (`no_premature_delete_full`, `eventual_delete_full`,
`producer_…`, `shutdown_…`, `no_remove_of_reused_number`). -/
namespace GoLevel.C07
open GoLevel.RefLoop

/-- The loop (from its initial state) driven by a well-behaved environment: state, history, all removals. -/
inductive Reach : State → Env → List Nat → Prop
  | init : Reach State.init Env.init []
  | step {S S' : State} {G G' : Env} {R rm : List Nat} {m : Msg} :
      Reach S G R → EnvStep G m G' → RefLoop.step S m = some (S', rm) → Reach S' G' (R ++ rm)

theorem reach_inv {S : State} {G : Env} {R : List Nat} (h : Reach S G R) :
    Inv S G ∧ Settled S ∧ Hist S G R := by
  induction h with
  | init => exact ⟨inv_init, ⟨rfl, by simp [State.init]⟩, hist_init⟩
  | @step S S' G G' R rm m _ hs hstep ih =>
    obtain ⟨S2, rm2, h1, h2, _, h3⟩ := step_inv ih.1 ih.2.2 hs
    rw [hstep] at h1
    simp only [Option.some.injEq, Prod.mk.injEq] at h1
    obtain ⟨rfl, rfl⟩ := h1
    exact ⟨h2, step_settled hstep, h3⟩

/-- **no_premature_delete.**  Whatever message a well-behaved environment sends next, the loop does not panic,
and every table it hands to `tOps.remove` while handling it belongs to no version that has been referenced and
not released — in particular not to the current version. -/
theorem no_premature_delete {S : State} {G G' : Env} {R : List Nat} {m : Msg}
    (h : Reach S G R) (hs : EnvStep G m G') :
    ∃ S' rm, RefLoop.step S m = some (S', rm) ∧
      (∀ f ∈ rm, ∀ k, k < G'.n → k ∉ G'.rel → f ∉ G'.F k) ∧
      (∀ f ∈ rm, f ∉ G'.F (G'.n - 1)) := by
  obtain ⟨S', rm, h1, h2, h3, _⟩ := step_inv (reach_inv h).1 (reach_inv h).2.2 hs
  refine ⟨S', rm, h1, h3, fun f hf => ?_⟩
  by_cases hn : G'.n = 0
  · rw [F_ge (by omega)]; simp
  · refine h3 f hf (G'.n - 1) (by omega) (fun hrel => ?_)
    have := h2.wf.rel_lt _ hrel
    rcases h2.wf.nd_lt with h4 | h4 <;> omega

/-- No table is ever removed twice. -/
theorem removed_at_most_once {S : State} {G : Env} {R : List Nat} (h : Reach S G R) : R.Nodup :=
  nodup_of_exact_history (reach_inv h).2.2

/-- **eventual_delete.**  When every delta has arrived, every version but the current one has been released and
all messages have been processed: the counters cover exactly the tables of the current version
(`dom fileRef = files(current)`), and every table that ever belonged to a version and is not in the current one
has been removed exactly once. -/
theorem eventual_delete {S : State} {G : Env} {R : List Nat} (h : Reach S G R)
    (hn : 0 < G.n) (hnd : G.nd + 1 = G.n) (hrel : ∀ k, k + 1 < G.n → k ∈ G.rel) :
    (∀ f, f ∈ S.fileRef ↔ f ∈ G.F (G.n - 1)) ∧
    (∀ f k, k < G.n → f ∈ G.F k → f ∉ G.F (G.n - 1) → R.count f = 1) := by
  obtain ⟨hI, hs, hH⟩ := reach_inv h
  obtain ⟨hge, hq⟩ := quiescent_fileRef hI hs hn hnd hrel
  refine ⟨hq, fun f k hk hfk hcur => ?_⟩
  refine (hH f).1 ⟨⟨k, ?_, hfk⟩, ?_⟩
  · by_cases hkn : k < S.next
    · exact Or.inl hkn
    · right; have := hI.nx; omega
  · rw [List.count_eq_zero]; exact fun hm => hcur ((hq f).mp hm)

/-! ## `NodupDelta` is needed (its `added` half) -/

/-- Versions 0 (empty), 1 = {5}, 2 (empty): table 5 is added by the first delta and deleted by the second. -/
def history (added0 : List Nat) : List Msg :=
  [ .ref 0 [], .ref 1 [5], .delta 0 ⟨added0, []⟩, .rel 0 [],
    .ref 2 [], .delta 1 ⟨[], [5]⟩, .rel 1 [5] ]

/-- **delta_once_needed.**  With the delta listing table 5 once, the history above removes it and ends with empty
counters; with the delta listing it TWICE (what `setVersion` would send on the first commit after `Open` if it
copied the record's `addedTables` as they are, without the `seen` map it has in /repo), table 5 is never removed
although no version needs it: its counter stays at 1.  So `NodupDelta` is a hypothesis the loop needs, not a
convenience. -/
theorem delta_once_needed :
    (run State.init (history [5])).map (fun r => (r.1.fileRef, r.2)) = some ([], [5]) ∧
    (run State.init (history [5, 5])).map (fun r => (r.1.fileRef, r.2)) = some ([5], []) := by
  decide

/-! ## the start-up sweep (`DB.checkAndCleanFiles`) -/

inductive FType
  | manifest | journal | table | temp
  deriving DecidableEq, Repr

structure FileDesc where
  typ : FType
  num : Nat
  deriving DecidableEq, Repr

/-- `keep` of `checkAndCleanFiles`: `journalNum` is `frozenJournalFd.Num` when that is set, else `journalFd.Num`. -/
def keep (tables : List Nat) (manifestNum journalNum : Nat) (fd : FileDesc) : Bool :=
  match fd.typ with
  | .manifest => decide (fd.num ≥ manifestNum)
  | .journal => decide (fd.num ≥ journalNum)
  | .table => decide (fd.num ∈ tables)
  | .temp => true

/-- `checkAndCleanFiles`: `none` = `ErrMissingFiles` (a table of the version is not in storage; nothing is
removed); otherwise the files that stay and the files that are removed. -/
def sweep (tables : List Nat) (manifestNum journalNum : Nat) (files : List FileDesc) :
    Option (List FileDesc × List FileDesc) :=
  if tables.all (fun t => decide (⟨.table, t⟩ ∈ files)) then
    some (files.filter (keep tables manifestNum journalNum), files.filter (fun fd => !keep tables manifestNum journalNum fd))
  else none

/-- **startup_sweep.**  After `Open` storage holds, of the files that were there, exactly: the tables of the
recovered version (all of them), the manifests and journals that are not older than the live ones, and
temporary files; everything else (tables no version needs — e.g. leaked by a delta that lists a table twice —, old
journals and manifests) is removed. -/
theorem startup_sweep {tables : List Nat} {m j : Nat} {files kept removed : List FileDesc}
    (h : sweep tables m j files = some (kept, removed)) :
    (∀ t ∈ tables, ⟨.table, t⟩ ∈ kept) ∧
    (∀ fd ∈ kept, fd.typ = .table → fd.num ∈ tables) ∧
    (∀ fd ∈ kept, fd.typ = .manifest → fd.num ≥ m) ∧
    (∀ fd ∈ kept, fd.typ = .journal → fd.num ≥ j) ∧
    (∀ fd ∈ files, fd ∈ kept ∨ fd ∈ removed) ∧
    (∀ fd ∈ removed, fd ∉ kept) := by
  unfold sweep at h
  split at h
  · rename_i hall
    simp only [Option.some.injEq, Prod.mk.injEq] at h
    obtain ⟨rfl, rfl⟩ := h
    simp only [List.all_eq_true, decide_eq_true_eq] at hall
    have hk : ∀ fd ∈ files.filter (keep tables m j), keep tables m j fd = true := fun fd h => (List.mem_filter.mp h).2
    refine ⟨fun t ht => List.mem_filter.mpr ⟨hall t ht, by simp [keep, ht]⟩,
      fun fd hfd htyp => by simpa [keep, htyp] using hk fd hfd,
      fun fd hfd htyp => by simpa [keep, htyp] using hk fd hfd,
      fun fd hfd htyp => by simpa [keep, htyp] using hk fd hfd, ?_, ?_⟩
    · intro fd hfd
      cases hk : keep tables m j fd with
      | true => exact Or.inl (List.mem_filter.mpr ⟨hfd, hk⟩)
      | false => exact Or.inr (List.mem_filter.mpr ⟨hfd, by simp [hk]⟩)
    · intro fd hfd hk
      have h1 := (List.mem_filter.mp hfd).2
      have h2 := (List.mem_filter.mp hk).2
      simp [h2] at h1
  · cases h

/-! ## Non-vacuity -/

/-- A history produced by a well-behaved environment. -/
inductive EnvChain : Env → List Msg → Env → Prop
  | nil (G : Env) : EnvChain G [] G
  | cons {G G1 G2 : Env} {m : Msg} {ms : List Msg} : EnvStep G m G1 → EnvChain G1 ms G2 → EnvChain G (m :: ms) G2

theorem reach_of_chain {S : State} {G G' : Env} {R : List Nat} {ms : List Msg} (h : Reach S G R)
    (hc : EnvChain G ms G') : ∃ S' R', run S ms = some (S', R') ∧ Reach S' G' (R ++ R') := by
  induction hc generalizing S R with
  | nil G => exact ⟨S, [], rfl, by simpa using h⟩
  | cons hs _ ih =>
    obtain ⟨S1, rm, h1, _, _, _⟩ := step_inv (reach_inv h).1 (reach_inv h).2.2 hs
    obtain ⟨S2, R2, h2, h3⟩ := ih (Reach.step h hs h1)
    exact ⟨S2, rm ++ R2, run_cons h1 h2, by simpa [List.append_assoc] using h3⟩

/-- The history with the single listing is a well-behaved one (every hypothesis checked on it). -/
theorem history_chain : EnvChain Env.init (history [5]) ⟨[[], [5], []], [⟨[5], []⟩, ⟨[], [5]⟩], [1, 0]⟩ := by
  refine .cons (EnvStep.ref Env.init [] List.nodup_nil (fun _ => rfl) (by intro f hf; cases hf)) ?_
  refine .cons (EnvStep.ref ⟨[[]], [], []⟩ [5] (by simp) (by simp [Env.n]) (by
    intro f _ j k hjk hk; simp [Env.n] at hk; omega)) ?_
  refine .cons (EnvStep.delta ⟨[[], [5]], [], []⟩ ⟨[5], []⟩ (by simp [Env.n, Env.nd]) ⟨by simp, by simp⟩
    ⟨by intro f; simp [Env.F, Env.nd], by intro f; simp [Env.F, Env.nd]⟩) ?_
  refine .cons (EnvStep.rel ⟨[[], [5]], [⟨[5], []⟩], []⟩ 0 (by simp [Env.nd]) (by simp)) ?_
  refine .cons (EnvStep.ref ⟨[[], [5]], [⟨[5], []⟩], [0]⟩ [] List.nodup_nil (by simp [Env.n])
    (by intro f hf; cases hf)) ?_
  refine .cons (EnvStep.delta ⟨[[], [5], []], [⟨[5], []⟩], [0]⟩ ⟨[], [5]⟩ (by simp [Env.n, Env.nd])
    ⟨by simp, by simp⟩ ⟨by intro f; simp [Env.F, Env.nd], by intro f; simp [Env.F, Env.nd]⟩) ?_
  refine .cons (EnvStep.rel ⟨[[], [5], []], [⟨[5], []⟩, ⟨[], [5]⟩], [0]⟩ 1 (by simp [Env.nd]) (by simp)) ?_
  exact .nil _

/-- So the theorems are not vacuous: a reachable state in which a table was removed (and, the state being
quiescent, `eventual_delete` applies: the counters are those of the empty current version). -/
example : ∃ S G R, Reach S G R ∧ R = [5] ∧ S.fileRef = [] ∧ G.n = 3 := by
  obtain ⟨S, R, h1, h2⟩ := reach_of_chain Reach.init history_chain
  have hd : run State.init (history [5]) = some (S, R) := h1
  have he := delta_once_needed.1
  rw [hd] at he
  simp only [Option.map_some, Option.some.injEq, Prod.mk.injEq] at he
  exact ⟨S, _, R, by simpa using h2, he.2, he.1, rfl⟩

/-- The version task of the held version expires (`maxCachedTime`): it is converted to full references
(`referenced = [1]`), the loop goes on to version 7, and table 7 is still counted — nothing was removed. -/
example : (run State.init (longHeld 5 ++ [.expire 1])).map (fun r => (r.1.fileRef, r.1.referenced, r.1.next, r.2)) =
    some ([7], [1], 7, []) :=
  congrArg _ (RefLoop.run_append (run_longHeld (by decide)) (S2 := { held 5 with
    ref := [(7, [])], deltas := [], referenced := [1], released := [], old := [1], next := 7 }) (rm' := [])
    (by decide))

/-- … and it is removed exactly when the held version is released.  (The same with more than `maxCachedNumber`
versions instead of the timer: the last example of `Proofs/RefLoopLong.lean`.) -/
example : (run State.init (longHeld 5 ++ [.expire 1, .rel 1 [7]])).map (fun r => (r.1.fileRef, r.1.referenced, r.2)) =
    some ([], [], [7]) :=
  congrArg _ (RefLoop.run_append (run_longHeld (by decide)) (S2 := { held 5 with
    fileRef := [], ref := [(7, [])], deltas := [], released := [], old := [1], next := 7 }) (rm' := [7])
    (by decide))

/-- The sweep removes a leaked table and an old journal, keeps the live files. -/
example : sweep [4, 9] 12 11 [⟨.table, 4⟩, ⟨.table, 7⟩, ⟨.table, 9⟩, ⟨.journal, 8⟩, ⟨.journal, 11⟩, ⟨.manifest, 12⟩] =
    some ([⟨.table, 4⟩, ⟨.table, 9⟩, ⟨.journal, 11⟩, ⟨.manifest, 12⟩], [⟨.table, 7⟩, ⟨.journal, 8⟩]) := by decide

/-- The property theorems of C07 (for the audit). -/
def theorems : List String :=
  ["GoLevel.C07.no_premature_delete", "GoLevel.C07.eventual_delete", "GoLevel.C07.removed_at_most_once",
   "GoLevel.C07.delta_once_needed", "GoLevel.C07.startup_sweep",
   "GoLevel.C07.no_premature_delete_msgs", "GoLevel.C07.eventual_delete_msgs",
   "GoLevel.C07.removed_at_most_once_msgs", "GoLevel.C07.no_premature_delete_full",
   "GoLevel.C07.eventual_delete_full", "GoLevel.C07.used_covers_held",
   "GoLevel.C07.producer_added_once", "GoLevel.C07.producer_delta_exact",
   "GoLevel.C07.producer_first_delta_exact", "GoLevel.C07.producer_ids", "GoLevel.C07.producer_edit_facts",
   "GoLevel.C07.code_producer_facts",
   "GoLevel.C07.shutdown_frontier", "GoLevel.C07.code_close_order", "GoLevel.C07.shutdown_removes_nothing",
   "GoLevel.C07.shutdown_requests_live_table",
   "GoLevel.C07.code_reuse_in_callback", "GoLevel.C07.no_remove_of_reused_number",
   "GoLevel.C07.code_no_remove_of_reused_number", "GoLevel.C07.early_reuse_removes_new_file"]

end GoLevel.C07

import GoLevel.Proofs.SessionCheck
import GoLevel.Proofs.SessionApply
import GoLevel.Proofs.TableRemove
/-! # C07 — file deletion, full message histories and the producers

Closes the gaps left by `Props/C07.lean` (which assumes consecutive version ids, set-exact deltas, no abandon,
no close):

* **message level** (`ReachF`, environment `EnvStepF` in `Proofs/RefLoopFEnv.lean`): version ids with holes
  (`abandon` at any point), deltas that are exact as a NET effect (a trivial move lists a table on both sides),
  the empty delta of `session.recover` (the loop's view `L` of the recovered version is empty although its task
  lists tables `T`), the shutdown messages of `session.close` (`ref` of the closing version, `rel` of the
  current version without a delta), reader releases during and after that, and FILE NUMBER REUSE: "a table
  that left the version never comes back" is only required relative to versions that still matter (`GL`);
  `NoReuse` is needed for "removed exactly once" only.
* **producer level** (`Model/Session.lean`, `Session.Reachable`): sequences of session operations — recover,
  create, commit ok, commit failed (+abandon), reader pin / unpin, close, timer — over the LSM model's versions
  (`Version.apply`); consecutive ids and exact duplicate-free deltas are LEMMAS (`producer_…` below), the
  hypotheses left are about what `Version.apply` does to table numbers and where numbers come from
  (`Session.EditFacts`, `Session.OpOK`).
* **physical removal** (`Model/TableRemove.lean`): `no_remove_of_reused_number`. -/
namespace GoLevel.C07
open GoLevel GoLevel.RefLoop GoLevel.Session

/-- The loop driven by the full environment: state, ghost history, every removal request. -/
inductive ReachF : State → EnvF → List Nat → Prop
  | init : ReachF State.init EnvF.init []
  | step {S S' : State} {G G' : EnvF} {R rm : List Nat} {m : Msg} :
      ReachF S G R → EnvStepF S.next G m G' → RefLoop.step S m = some (S', rm) → ReachF S' G' (R ++ rm)

theorem reachF_ok {S : State} {G : EnvF} {R : List Nat} (h : ReachF S G R) : LoopOK S G R := by
  induction h with
  | init => exact loopOK_init
  | @step S S' G G' R rm m _ hs hstep ih =>
    obtain ⟨S2, rm2, e, ok, _, _⟩ := loop_step ih hs
    rw [e] at hstep
    simp only [Option.some.injEq, Prod.mk.injEq] at hstep
    obtain ⟨rfl, rfl⟩ := hstep
    exact ok

/-- **no_premature_delete, every message.**  Whatever the environment sends next — a reference or release
task, a delta (exact as a net effect), the id of a failed commit (`abandon`), the closing version's reference
or the final release of `session.close` — the loop does not panic, and every table it hands to `tOps.remove`
belongs to no version that is unreleased (a live reader, the current version) nor, until `close`, to a released
version whose task the loop has not passed yet. -/
theorem no_premature_delete_msgs {S : State} {G G' : EnvF} {R : List Nat} {m : Msg}
    (h : ReachF S G R) (hs : EnvStepF S.next G m G') :
    ∃ S' rm, RefLoop.step S m = some (S', rm) ∧
      (∀ f ∈ rm, ∀ k, G'.inst k → k ∉ G'.rel → f ∉ G'.T k) ∧ SafeF G' S'.next rm := by
  obtain ⟨S', rm, e, _, _, sf⟩ := loop_step (reachF_ok h) hs
  exact ⟨S', rm, e, fun f hf k hk hr => sf f hf k hk (Or.inl hr), sf⟩

/-- No table number is requested twice — until `close`, and as long as no number names two tables. -/
theorem removed_at_most_once_msgs {S : State} {G : EnvF} {R : List Nat} (h : ReachF S G R)
    (hc : G.closing = false) (hnu : NoReuse G) : R.Nodup :=
  nodup_of_exact_history ((reachF_ok h).hist hc hnu)

theorem reachF_settled {S : State} {G : EnvF} {R : List Nat} (h : ReachF S G R) : Settled S := by
  cases h with
  | init => exact ⟨rfl, by simp [State.init]⟩
  | step _ _ e => exact step_settled e

/-- **eventual_delete, every message history.**  Before `close`, when no delta is pending and every installed
version below the current one (`G.dn`) has been released — failed commits and their abandoned ids, trivial
moves, a recovery in between or not —: the loop has caught up (`next` reached the current version), the
counters cover the loop's view of the current version (`L`, which IS the version's table list except between
`session.recover` and the first commit) and nothing outside its tables; and, if no file number was used for two
tables, every table of an older version that is not in the current one has been requested for removal exactly
once. -/
theorem eventual_delete_msgs {S : State} {G : EnvF} {R : List Nat} (h : ReachF S G R)
    (hN : 0 < G.N) (hc : G.closing = false) (hcur : G.N ≤ G.up (G.dn + 1))
    (hrel : ∀ k, k < G.dn → G.inst k → k ∈ G.rel) :
    G.dn ≤ S.next ∧ (∀ f, f ∈ G.L G.dn → f ∈ S.fileRef) ∧ (∀ f, f ∈ S.fileRef → f ∈ G.T G.dn) ∧
    (NoReuse G → ∀ f k, k < G.dn → f ∈ G.T k → f ∉ G.T G.dn → R.count f = 1) := by
  have ok := reachF_ok h
  obtain ⟨h1, h2, h3⟩ := quiescentF ok.inv (reachF_settled h) hN hcur hrel
  refine ⟨h1, h2, h3, fun hnu f k hk hfk hcurf => ?_⟩
  refine ((ok.hist hc hnu) f).1 ⟨Or.inl ⟨k, by omega, hfk⟩, ?_⟩
  rw [List.count_eq_zero]; exact fun hm => hcurf (h3 f hm)

/-- Non-vacuity at the message level: the state after `newSession`'s reference task is reachable (and the
session-level examples at the end of the file are message histories with abandons, holes and the shutdown
messages, via `reachable_sim`). -/
example : ∃ S G, ReachF S G [] ∧ G.N = 1 ∧ S.ref.lookup 0 = some [] := by
  have e : RefLoop.step State.init (.ref 0 []) =
      some ({ State.init with ref := [(0, [])] }, []) := by decide
  exact ⟨_, _, ReachF.step ReachF.init envStepF_first e, rfl, rfl⟩

/-- **The delta is duplicate-free** (the D13 repair, `Gen.setVersionAddedOnce`): whatever the record lists. -/
theorem producer_added_once (r : Edit) : (mkDelta r).added.Nodup := nodup_dedup _

/-- **The delta of a commit is exact** (as a net effect; given what `Version.apply` does to the numbers). -/
theorem producer_delta_exact {v : Version} {c : UCmp} {r : Edit} {U : List Nat} (h : EditFacts v c r U)
    (hU : ∀ f ∈ v.nums, f ∈ U) : NetExact v.nums (mkDelta r) (v.apply c r).nums := netExact_commit h hU

/-- **The first commit after a recovery** (`newManifest(r, nv)` fills the record with every table of the new
version): its delta lists each table of the new version once and is exact relative to the empty view. -/
theorem producer_first_delta_exact {v : Version} {c : UCmp} {r : Edit} {U : List Nat} (h : EditFacts v c r U)
    (hdel : r.deleted = []) : NetExact [] (mkDelta (fillRecord r (v.apply c r))) (v.apply c r).nums :=
  netExact_first h hdel

/-- **Version ids are consecutive with known holes.**  In every reachable state the loop's ghost history has
exactly one slot per id handed out (`ntVersionID`; one more for the closing version), each either an installed
version or the abandoned id of a failed commit, and the loop is in step with it (`Sim`). -/
theorem producer_ids {y : Sys} {U : List Nat} (h : Reachable y U) :
    ∃ G, Sim y G U ∧ G.N = y.sess.nt + (if y.sess.closed then 1 else 0) ∧
      ∀ k, k < G.N → (G.inst k ∨ (y.loop.next ≤ k → k ∈ y.loop.abandoned)) := by
  obtain ⟨G, hs⟩ := reachable_sim h
  refine ⟨G, hs, hs.nt, fun k hk => ?_⟩
  by_cases hi : G.inst k
  · exact Or.inl hi
  · exact Or.inr (fun hle => (hs.ok.inv.ab.2 k).mpr ⟨hle, hk, hi⟩)

/-- **What `Version.apply` does to the table numbers is a lemma too** (`EditFacts`, the hypothesis of
`OpOK` for a commit): in a reachable state the current version lists each table once and its numbers are in use,
so only the hypotheses about the record itself remain (`RecordHyp`: each deleted table at the level it names,
numbers listed once, a new table's number not in use unless the record moves the table). -/
theorem producer_edit_facts {y : Sys} {U : List Nat} (h : Reachable y U) (hc : y.sess.closed = false)
    {r : Edit} (hr : RecordHyp y.sess.lsm r U) (c : UCmp) : EditFacts y.sess.lsm c r U := by
  obtain ⟨G, hs⟩ := reachable_sim h
  refine editFacts_of_record hr ?_ (hs.cur_used hc) c
  rw [hs.lsm hc]; exact hs.ok.inv.wf.nodupT _

/-- **no_premature_delete_full.**  In any state reached by session operations (recover, create, commit ok,
commit failed + abandon, reader pin / unpin, close, timer; `OpOK` = what `Version.apply` does to table numbers
and where numbers come from), any enabled operation makes the loop neither panic nor request the removal of a
table of a version object that anybody still holds afterwards — a reader's pin, or the session's current
version — including every step of the shutdown (`close`, and reader releases delivered or dropped after it). -/
theorem no_premature_delete_full {y : Sys} {U : List Nat} {o : Op} (h : Reachable y U)
    (hok : OpOK y.sess U o) (hen : (y.sess.op o).isSome) :
    ∃ y' rm, y.step o = some (y', rm) ∧ Reachable y' (nextUsed U y.sess o rm) ∧
      ∀ f ∈ rm, ∀ v ∈ y'.sess.objs, f ∉ v.files := by
  obtain ⟨G, hs⟩ := reachable_sim h
  obtain ⟨y', rm, G', e, hs', sf⟩ := sim_sys_step hs hok hen
  exact ⟨y', rm, e, Reachable.step h hok e, safe_objs hs' sf⟩

/-- **eventual_delete_full.**  Before `close`, when no reader holds a version other than the current one: the
loop's counters name only tables of the current version, and — once a manifest exists, i.e. always except
between `recover` and the first commit — exactly those; and if no number was used for two tables, every table of
an older version that is not in the current one has been requested for removal exactly once. -/
theorem eventual_delete_full {y : Sys} {U : List Nat} (h : Reachable y U) (hc : y.sess.closed = false)
    (hq : ∀ o ∈ y.sess.objs, o.id = y.sess.cur) :
    (∀ f, f ∈ y.loop.fileRef → f ∈ y.sess.lsm.nums) ∧
    (y.sess.manifest = true → ∀ f, f ∈ y.sess.lsm.nums → f ∈ y.loop.fileRef) ∧
    ∃ G, Sim y G U ∧ (NoReuse G → ∀ f k, k < y.sess.cur → f ∈ G.T k → f ∉ y.sess.lsm.nums →
      y.requests.count f = 1) := by
  obtain ⟨G, hs⟩ := reachable_sim h
  obtain ⟨h1, h3, h4⟩ := quiescent_sess hs (reachable_settled h) hc hq
  refine ⟨h3, h4, G, hs, fun hnu f k hk hfk hnot => ?_⟩
  obtain ⟨hdn, _⟩ := hs.cur hc
  have hGc : G.closing = false := by rw [hs.closing]; exact hc
  refine ((hs.ok.hist hGc hnu) f).1 ⟨Or.inl ⟨k, by omega, hfk⟩, ?_⟩
  rw [List.count_eq_zero]; exact fun hm => hnot (h3 f hm)

/-- The numbers in use cover every table of every held version (so `OpOK`'s "a new table gets a number that is
not in use" keeps new tables apart from the tables of held versions). -/
theorem used_covers_held {y : Sys} {U : List Nat} (h : Reachable y U) (hc : y.sess.closed = false) :
    ∀ v ∈ y.sess.objs, ∀ f ∈ v.files, f ∈ U := by
  obtain ⟨G, hs⟩ := reachable_sim h
  intro v hv f hf
  obtain ⟨h1, h2⟩ := hs.objs v hv
  rw [hs.files v hv] at hf
  exact hs.used hc v.id h1 (Or.inl h2) f hf

/-- **What is processed and what is dropped.**  In every reachable state — in particular after `close`, when
release tasks may have been dropped (`<-closeC`) — the loop has processed every id below its frontier `next`;
the frontier is the oldest installed version whose release has not reached the loop (a reader still pinned it at
`close`, or its release was dropped; the closing version itself when there is none) and everything released
above it waits in `released` with its delta: those deltas are never applied, so the tables they delete stay on
storage until the sweep of the next `Open` (`startup_sweep`). -/
theorem shutdown_frontier {y : Sys} {U : List Nat} (h : Reachable y U) :
    ∃ G, Sim y G U ∧ (y.loop.next = G.N ∨ (G.inst y.loop.next ∧ y.loop.next ∉ G.rel)) ∧
      ∀ k ∈ G.rel, y.loop.next ≤ k → (y.loop.released.lookup k).isSome := by
  obtain ⟨G, hs⟩ := reachable_sim h
  obtain ⟨h1, h2⟩ := reachable_settled h
  have hI := hs.ok.inv
  refine ⟨G, hs, ?_, fun k hk hle => by rw [hI.rld k]; simp [hle, hk]⟩
  rcases Nat.lt_or_ge y.loop.next G.N with hlt | hge
  · right
    have hi : G.inst y.loop.next := by
      apply Classical.byContradiction; intro hi
      exact h2 ((hI.ab.2 _).mpr ⟨Nat.le_refl _, hlt, hi⟩)
    refine ⟨hi, fun hr => ?_⟩
    have := hI.rld y.loop.next
    rw [h1] at this; simp [hr] at this
  · left; have := hI.nx; omega

/-- `session.close` closes the table cache first, and a closed cache ignores `Delete` (extracted facts). -/
theorem code_close_order : Gen.closeTopsBeforeFinalSetVersion = true ∧ Gen.cacheDeleteClosedNoDelFunc = true := by
  decide

/-- **Nothing is removed from storage during shutdown**: once `tOps.close()` has run (before the closing version
is installed: `code_close_order`), no request of the reference loop and no handle release removes a file. -/
theorem shutdown_removes_nothing {s : TableRemove.St} {ops : List TableRemove.Op} (hc : s.closed = true)
    (h : TableRemove.Inv s) : (TableRemove.run true s ops).log = s.log ∧
      ∀ p ∈ s.files, p.1 ∈ (TableRemove.run true s ops).files.map (·.1) := by
  induction ops generalizing s with
  | nil => exact ⟨rfl, fun p hp => List.mem_map_of_mem hp⟩
  | cons o ops ih =>
    obtain ⟨h1, h2, h3⟩ := TableRemove.closed_removes_nothing h hc o
    obtain ⟨h4, h5⟩ := ih h2 (TableRemove.step_inv h o)
    refine ⟨by show (TableRemove.run true (TableRemove.step true s o) ops).log = _; rw [h4, h1], fun p hp => ?_⟩
    obtain ⟨q, hq, hqp⟩ := List.mem_map.mp (h3 p hp)
    have := h5 q hq
    rw [hqp] at this; exact this

/-- `reuseFileNum` is called inside the func literal passed to `fileCache.Delete` in `tOps.remove`. -/
theorem code_reuse_in_callback : Gen.removeReusesInsideDelete = true := by decide

/-- **no_remove_of_reused_number.**  With the number given back only inside the delete callback, every physical
removal removes the very file the request was made for: a removal deferred behind open handles never deletes a
file created later under the same number.  The ordering fact used: `Remove` and `reuseFileNum` run together,
when the last handle is gone (`TableRemove.Inv.pend`: a pending removal still names its file, because its number
is below `next` and cannot be allocated again). -/
theorem no_remove_of_reused_number (n0 : Nat) (ops : List TableRemove.Op) :
    TableRemove.LogOK (TableRemove.run true (TableRemove.St.init n0) ops) :=
  (TableRemove.run_inv (TableRemove.inv_init n0) ops).log

theorem code_no_remove_of_reused_number (n0 : Nat) (ops : List TableRemove.Op) :
    TableRemove.LogOK (TableRemove.run Gen.removeReusesInsideDelete (TableRemove.St.init n0) ops) := by
  rw [code_reuse_in_callback]; exact no_remove_of_reused_number n0 ops

/-- **The seeded change** (`reuseFileNum` moved out of the callback): table 5 is created and opened by an
iterator, its removal is requested (deferred; the number is given back at once), the next table is created
under number 5 again, the iterator is released — and the callback removes the NEW file (stamp 1, requested 0). -/
theorem early_reuse_removes_new_file :
    (TableRemove.run false (TableRemove.St.init 5) [.create, .acquire 5, .remove 5, .create, .release 5]).log =
      [(5, 0, 1)] ∧
    (TableRemove.run true (TableRemove.St.init 5) [.create, .acquire 5, .remove 5, .create, .release 5]).log =
      [(5, 0, 0)] := by decide

/-! ## Non-vacuity: concrete session histories on which every hypothesis is checked (`checkedFromInit`) -/

private def tb (n : Nat) : Table := ⟨n, 1, [], ⟨[1], 257⟩, ⟨[1], 257⟩⟩
/-- a flush: table `n` is added to level 0 -/
private def addT (n : Nat) : Edit := ⟨[], [(0, tb n)]⟩
/-- a compaction: table `o` of level 0 is replaced by table `n` -/
private def replT (o n : Nat) : Edit := ⟨[(0, o)], [(0, tb n)]⟩
private def view (r : Option (Sys × List Nat)) :=
  r.map fun p => (p.1.requests, p.1.loop.fileRef, p.1.loop.next, p.1.sess.objs.map (fun o => (o.id, o.pins)))

/-- A history with an ABANDON: version 1 = {5}, the commit that spawned id 2 fails, version 3 = {6} replaces 5.
The loop skips id 2, requests table 5 and counts exactly {6}. -/
example : view (checkedFromInit [.create, .commit bytewise (addT 5), .commitFail bytewise (addT 9),
      .commit bytewise (replT 5 6)]) = some ([5], [6], 3, [(3, 0)]) := by decide

/-- … and it is a reachable state, so the theorems apply to it (`eventual_delete_full`: the counters are the
current version's tables). -/
example : ∃ y U, Reachable y U ∧ y.requests = [5] ∧ y.loop.abandoned = [] ∧ y.loop.next = 3 := by
  have h2 : (checkedFromInit [.create, .commit bytewise (addT 5), .commitFail bytewise (addT 9),
      .commit bytewise (replT 5 6)]).map (fun p => (p.1.requests, p.1.loop.abandoned, p.1.loop.next)) =
      some ([5], [], 3) := by decide
  obtain ⟨p, hy, h2⟩ := Option.map_eq_some_iff.1 h2
  exact ⟨p.1, p.2, checkedFromInit_reachable hy, by simpa using h2⟩

/-- A reader PINNED ACROSS 3 VERSIONS: it pins version 1 = {5}; versions 2 = {6}, 3 = {7}, 4 = {7, 8} follow
(their deltas delete 5 and 6).  Nothing is requested while the pin is held … -/
example : view (checkedFromInit [.create, .commit bytewise (addT 5), .pin, .commit bytewise (replT 5 6),
      .commit bytewise (replT 6 7), .commit bytewise (addT 8)]) =
    some ([], [5], 1, [(1, 1), (4, 0)]) := by decide

/-- … and tables 5 and 6 are requested, in order, when it is released. -/
example : view (checkedFromInit [.create, .commit bytewise (addT 5), .pin, .commit bytewise (replT 5 6),
      .commit bytewise (replT 6 7), .commit bytewise (addT 8), .unpin 1 true]) =
    some ([5, 6], [8, 7], 4, [(4, 0)]) := by decide

/-- CLOSE WITH A READER STILL PINNED: nothing is requested at `close` (tables 5 and 6, deleted by the deltas of
versions 1 and 2, stay: `shutdown_frontier` — the frontier is the pinned version 1) … -/
example : view (checkedFromInit [.create, .commit bytewise (addT 5), .pin, .commit bytewise (replT 5 6),
      .commit bytewise (replT 6 7), .close]) =
    some ([], [5], 1, [(1, 1), (4, 0)]) := by decide

/-- … if the reader's release is still delivered the loop requests them (the closed table cache ignores it:
`shutdown_removes_nothing`); if it is dropped (`<-closeC`) they are never requested. -/
example : view (checkedFromInit [.create, .commit bytewise (addT 5), .pin, .commit bytewise (replT 5 6),
      .commit bytewise (replT 6 7), .close, .unpin 1 true]) = some ([5, 6], [7], 4, [(4, 0)]) ∧
    view (checkedFromInit [.create, .commit bytewise (addT 5), .pin, .commit bytewise (replT 5 6),
      .commit bytewise (replT 6 7), .close, .unpin 1 false]) = some ([], [5], 1, [(4, 0)]) :=
  ⟨by decide, by decide⟩

/-- A trivial move (table 5 deleted from level 0 and added to level 1 by the same record: listed on both sides
of the delta) keeps the counter; the later compaction removes it. -/
example : view (checkedFromInit [.create, .commit bytewise (addT 5), .commit bytewise ⟨[(0, 5)], [(1, tb 5)]⟩,
      .commit bytewise ⟨[(1, 5)], []⟩]) = some ([5], [], 3, [(3, 0)]) := by decide

/-- **The loop requests the removal of LIVE tables at `close`.**  A session that only recovered (read-only open:
no commit follows `session.recover`, whose delta is empty, so the loop's view of version 1 is empty) and stayed
idle for `maxCachedTime` (its version task is converted to full references) releases version 1 at `close`:
the counter of table 3 — the only table of the database — drops to zero and `tOps.remove` is called for it.
Only `code_close_order` (the table cache is closed first and ignores the request) keeps the file. -/
theorem shutdown_requests_live_table :
    (checkedFromInit [.recover ⟨[[tb 3]]⟩, .expire 1, .close]).map (fun p => p.1.requests) = some [3] := by decide

/-- The producer model follows the code (extracted facts): `setVersion` lists each added table once (the `seen`
map), and only the commit that finds `s.manifest == nil` hands its own record to `newManifest` (a rotation
passes a fresh one). -/
theorem code_producer_facts : Gen.setVersionAddedOnce = true ∧ Gen.commitRotationFreshRecord = true := by decide

end GoLevel.C07

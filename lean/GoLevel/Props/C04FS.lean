import GoLevel.Proofs.FSMetaTable
import GoLevel.Proofs.FSMetaImage
import GoLevel.Proofs.FSMetaRO
/-!
# C04, the storage contract: `fileStorage.SetMeta` / `GetMeta` inside the model

`Model/Disk.lean` / `Model/Durable.lean` assume "SetMeta is atomic; a crash leaves the old or the new CURRENT".  For
the file storage that contract is code (`leveldb/storage/file_storage.go`: `setMeta`, `GetMeta`, `writeFileSynced`,
`rename`, `syncDir`).  `Model/FSMeta.lean` models that code system call by system call, with a fault oracle (any call
fails; the process dies before / in the middle of any call) and the two crash semantics (process death: the state
as it is; machine crash `FS.image`: unsynced file contents lost / kept / emptied / cut, every directory operation
since the last `syncDir` kept or lost independently, `rename` atomic).

Tie to the code: `code_is_modelled` (the model's configuration is read off the source by `tools/extract`: order of
the steps of `setMeta`, equality shortcut, `GetMeta`'s precedence rule, order and repair) and the differential
`harness/checks/c04fs.go` (`fsm …` lines: real `storage.OpenFile(dir).GetMeta/SetMeta` on real directories, the
system-call sequence through the hook `storage.VerifStep`, every crash point, the model's machine-crash images built
for real).

A *clean* directory (`CleanP`, `CleanP.Ok`): `CURRENT` = pointer to manifest `a` (canonical or not), synced and durable;
no pending file; `CURRENT.bak` absent or anything; the files of manifests `a ≠ b` exist; nothing waits for a `syncDir`.

Proved (all for every oracle `o : Nat → Fault`, i.e. every combination of failing calls and every point of death):
* `setmeta_crash_atomic` — after `setMeta b` ended anywhere, dead or returned, `GetMeta` (read-only or not) answers
  `a` or `b` on the state itself and on EVERY machine-crash image, never an error; once `setMeta b` returned nil it is
  `b` on every image.
* `setmeta_failure_outcomes` / `setmeta_failure_table` — what `GetMeta` answers after a failed `setMeta b`:
  `b` exactly when the rename has happened, or `CURRENT.<b>` is completely written and `b > a`.  By failing call:
  calls 0-7 (`Stat`, `ReadFile`, the four of `CURRENT.bak`, `OpenFile` and `Write` of `CURRENT.<b>`): `a`;
  calls 8-10 (`Sync`, `Close` of `CURRENT.<b>`, `rename`): `b` if `b > a` else `a`; call 11 (`syncDir`): `b`.
* `getmeta_readonly_pure` — a read-only `GetMeta` leaves ANY file system untouched, whatever fails (general).
* `getmeta_repairs_partial` — on every crash image of `setMeta b` from a clean directory a read-write `GetMeta`
  leaves `CURRENT` = its answer, no pending file, and answers the same again.  It is the instance on those images
  of `FSMeta.getMeta_repairs` (`Proofs/FSMetaRepair.lean`), which proves the same for EVERY directory (every `FS`
  each of whose pending entries has an inode), whatever `GetMeta` answers there — provided no call of that `GetMeta`
  fails (the differential compares the directory after `GetMeta` on random real directories).  Outside it: a
  repair that meets a fault; the clause "or the repair failed and the answer is unchanged" is FALSE —
  `repair_destroys_backup`, `repair_truncates_pending`.
* `cleanup_after_crash` — when `GetMeta` answered `a` after the crash and the file of manifest `b` is then removed,
  the answer stays `a`.
* decided traces: `stale_pending_wins` (a pending file left by a failed `rename` is preferred over the genuine
  `CURRENT` once a file with its target's name exists again), `stale_pending_after_smaller_setmeta` (the same after a
  `SetMeta` with a smaller number, which is what `RecoverFile` does: reproduced on the implementation), `no_syncdir_loses_update`,
  `rename_before_sync_unopenable`, `backup_rescues_ordered`, `no_guard_prefers_older`,
  `shortcut_returns_nil_without_syncdir`, `manifest_sync_window` (model level only).
-/
namespace GoLevel.C04FS
open GoLevel GoLevel.FSMeta

/-- **the model's configuration is the code's**: every ordering decision the theorems depend on is read off the
    source (`tools/extract`, facts `fsSetMeta*` / `fsGetMeta*` in `Gen/Consts.lean`) -/
theorem code_is_modelled :
    codeCfg = {} ∧ Gen.fsSetMetaEqualShortcut = true ∧ Gen.fsSetMetaBackupFirst = true ∧
    Gen.fsSetMetaSyncedBeforeRename = true ∧ Gen.fsSetMetaSyncDirLast = true ∧ Gen.fsGetMetaPendGuard = true ∧
    Gen.fsGetMetaOrder = true ∧ Gen.fsGetMetaRepair = true := by decide

theorem codeCfg_eq : codeCfg = {} := code_is_modelled.1

/-- **`SetMeta` is crash atomic** (clean start).  Whatever happens to the system calls of `setMeta b` — any of them
    failing, the process dying before or inside any of them — `GetMeta` answers `a` or `b`, never an error and
    never anything else, on the state `setMeta` ended in (process death / error return) and on every machine-crash
    image of it; once `setMeta b` has returned nil every image answers `b`. -/
theorem setmeta_crash_atomic (p : CleanP) (hp : p.Ok) (o : Nat → Fault) (ro : Bool) :
    let r := setMeta codeCfg (m p.b) (W.of p.fs o)
    (∀ ch, ask codeCfg ro (r.2.fs.image ch) = .ok (m p.a) ∨ ask codeCfg ro (r.2.fs.image ch) = .ok (m p.b)) ∧
    (ask codeCfg ro r.2.fs = .ok (m p.a) ∨ ask codeCfg ro r.2.fs = .ok (m p.b)) ∧
    (r.2.dead = false → r.1 = .ok () →
      (∀ ch, ask codeCfg ro (r.2.fs.image ch) = .ok (m p.b)) ∧ ask codeCfg ro r.2.fs = .ok (m p.b)) := by
  intro r
  have hs : Shape p r.1 r.2.fs := setMeta_shape p hp o
  rw [codeCfg_eq]
  refine ⟨fun ch => ?_, ?_, fun _ hr => ?_⟩
  · exact shape_image p hp hs ch ro
  · exact hs.shows.answer_cases hp ro
  · rw [hr] at hs
    exact ⟨fun ch => shape_done p hp hs ch ro, shape_done_live p hp hs ro⟩

/-- non-vacuity: a clean directory, and a run that dies between the `Sync` of `CURRENT.7` and the `rename` -/
def c57 : CleanP := ⟨5, 7, true, none, fun x => decide (x = m 5) || decide (x = m 7)⟩

example : c57.Ok := ⟨by decide, by decide, by decide⟩
example : (setMeta codeCfg (m 7) (W.of c57.fs (oneFault 10 .crash))).2.dead = true ∧
    ask codeCfg false (setMeta codeCfg (m 7) (W.of c57.fs (oneFault 10 .crash))).2.fs = .ok (m 7) ∧
    ask codeCfg false ((setMeta codeCfg (m 7) (W.of c57.fs (oneFault 10 .crash))).2.fs.image
      ⟨fun _ => false, fun _ => .lost⟩) = .ok (m 5) := by decide

/-- **what `GetMeta` answers after a failed `setMeta b`** (clean start, any oracle, the process alive): `b` exactly
    when `CURRENT` already holds the new pointer (the rename has happened: only `syncDir` can still have failed),
    or `CURRENT.<b>` is completely written and `b` is the greater number (its `Sync`, its `Close` or the `rename`
    failed); `a` in every other case.  This is what the repair of D26 (`newManifest`: after a failed `SetMeta` ask
    `GetMeta`) relies on. -/
theorem setmeta_failure_outcomes (p : CleanP) (hp : p.Ok) (o : Nat → Fault) (ro : Bool) :
    let r := setMeta codeCfg (m p.b) (W.of p.fs o)
    ask codeCfg ro r.2.fs = .ok (liveAnswer p r.2.fs) := by
  intro r
  have hs : Shape p r.1 r.2.fs := setMeta_shape p hp o
  rw [codeCfg_eq]
  exact shape_live p hp hs ro

/-- **by failing call** (exactly one call fails, `fail` = without effect, `failPartial` = a write after a part of
    the data): see `FSMeta.failure_table` for the numbering of the twelve calls -/
theorem setmeta_failure_table (p : CleanP) (hp : p.Ok) (k : Nat) (hk : k < 12) (f : Fault)
    (hf : f = .fail ∨ f = .failPartial) (ro : Bool) :
    let r := setMeta codeCfg (m p.b) (W.of p.fs (oneFault k f))
    r.1 = .error .io ∧ r.2.dead = false ∧
    ask codeCfg ro r.2.fs =
      .ok (if k ≤ 7 then m p.a else if k ≤ 10 then (if p.a < p.b then m p.b else m p.a) else m p.b) := by
  intro r
  have := failure_table p hp k hk f hf ro
  simp only [r, codeCfg_eq]
  exact this

example : ask codeCfg false (setMeta codeCfg (m 7) (W.of c57.fs (oneFault 7 .failPartial))).2.fs = .ok (m 5) ∧
    ask codeCfg false (setMeta codeCfg (m 7) (W.of c57.fs (oneFault 10 .fail))).2.fs = .ok (m 7) ∧
    ask codeCfg false (setMeta codeCfg (m 7) (W.of c57.fs (oneFault 11 .fail))).2.fs = .ok (m 7) := by decide

/-- the guard in the other direction: the new number is the smaller one, the rename fails: `GetMeta` stays with `a` -/
example : ask codeCfg false (setMeta codeCfg (m 5) (W.of
    (CleanP.fs ⟨7, 5, true, none, fun x => decide (x = m 5) || decide (x = m 7)⟩) (oneFault 10 .fail))).2.fs = .ok (m 7) := by
  decide

/-- **a read-only `GetMeta` is pure**: any file system, any configuration, any oracle: nothing changes, and a
    second call gives the same answer -/
theorem getmeta_readonly_pure (cfg : Cfg) (w : W) :
    (getMeta cfg true w).2.fs = w.fs ∧
    (∀ ro, ask cfg ro (after cfg true w.fs) = ask cfg ro w.fs) := by
  refine ⟨getMeta_ro_fs cfg w, fun ro => ?_⟩
  unfold after
  rw [getMeta_ro_fs]
  rfl

example : (after codeCfg true (setMeta codeCfg (m 7) (W.of c57.fs (oneFault 10 .crash))).2.fs).pending = [7] := by decide

/-- **`GetMeta` repairs**, on the directories a crash inside `setMeta b` can leave (clean start).  After a machine
    crash in any state `setMeta b` can end in, the first read-write `GetMeta` (no fault during it) answers
    `fd ∈ {a, b}` and leaves a directory whose `CURRENT` holds `fd`, without pending files, on which `GetMeta` answers
    `fd` again.  Everything but `fd ∈ {a, b}` holds on any directory: `FSMeta.getMeta_repairs`.  PARTIAL in one
    respect: a repair that meets a fault is outside (see the header). -/
theorem getmeta_repairs_partial (p : CleanP) (hp : p.Ok) (o : Nat → Fault) (ch : Choice) :
    let img := (setMeta codeCfg (m p.b) (W.of p.fs o)).2.fs.image ch
    let fs' := after codeCfg false img
    ∃ fd, (fd = m p.a ∨ fd = m p.b) ∧ ask codeCfg false img = .ok fd ∧
      fs'.names = some fd ∧ fs'.pending = [] ∧ ∀ ro, ask codeCfg ro fs' = .ok fd := by
  intro img fs'
  have hi : Shows p _ := shape_image_cases p (setMeta_shape p hp o) ch
  have ha := hi.answer hp false
  simp only [img, fs', codeCfg_eq]
  exact ⟨_, liveAnswer_cases p _, ha, getMeta_repairs hi.pendOK ha⟩

/-- **the session's cleanup after a crashed `SetMeta b`**: when the reopened DB was told `a` (so it may remove the
    file of manifest `b`), `GetMeta` keeps answering `a` after the removal — a pending or backup file that points to
    the missing target is skipped. -/
theorem cleanup_after_crash (p : CleanP) (hp : p.Ok) (o : Nat → Fault) (ch : Choice) :
    let img := (setMeta codeCfg (m p.b) (W.of p.fs o)).2.fs.image ch
    ask codeCfg false img = .ok (m p.a) →
    ∀ ro, ask codeCfg ro (rmFile (m p.b) (W.of (after codeCfg false img))).2.fs = .ok (m p.a) := by
  intro img h ro
  have hi : Shows p _ := shape_image_cases p (setMeta_shape p hp o) ch
  simp only [img, codeCfg_eq] at h ⊢
  exact getMeta_repairs_rm hi.pendOK h (by simp [hp.ne]) ro

/-- non-vacuity of both: the crash image that keeps the half-written pending file -/
example : let img := (setMeta codeCfg (m 7) (W.of c57.fs (oneFault 8 .crash))).2.fs.image ⟨fun _ => true, fun _ => .cut⟩
    img.pending = [7] ∧ ask codeCfg false img = .ok (m 5) ∧ (after codeCfg false img).pending = [] ∧
    ask codeCfg false (rmFile (m 7) (W.of (after codeCfg false img))).2.fs = .ok (m 5) := by decide

/-- `CURRENT` is junk, `CURRENT.bak` points to manifest 9 (the situation the backup exists for) -/
def bakOnly : FS :=
  { inodes := [⟨.junk 0, .junk 0, false⟩, ⟨.gen (m 9), .gen (m 9), false⟩],
    ddir := { ents := [(.cur, 0), (.bak, 1)], files := fun x => decide (x = m 9) } }

/-- **the repair destroys the backup it answers from.**  `GetMeta` answers 9 from `CURRENT.bak`; its repair
    `setMeta 9` begins by copying the junk `CURRENT` over `CURRENT.bak`.  If the process dies between the
    `OpenFile(O_TRUNC)` of `CURRENT.bak` (call 6 of this `GetMeta`) and the completed `Write` of `CURRENT.9`
    (call 11), no file names manifest 9 any more: the next `GetMeta` returns an error although the manifest is
    intact.  (Replayed on the implementation: `fsm gat` lines of the differential and `TestRepairDestroysBackup`.) -/
theorem repair_destroys_backup :
    ask codeCfg false bakOnly = .ok (m 9) ∧
    (∀ k, 7 ≤ k → k ≤ 11 → ∃ e, ask codeCfg false (getMeta codeCfg false (W.of bakOnly (oneFault k .crash))).2.fs = .error e) ∧
    ask codeCfg false (getMeta codeCfg false (W.of bakOnly (oneFault 12 .crash))).2.fs = .ok (m 9) := by
  refine ⟨by decide, fun k h1 h2 => ?_, by decide⟩
  have : k = 7 ∨ k = 8 ∨ k = 9 ∨ k = 10 ∨ k = 11 := by omega
  rcases this with rfl | rfl | rfl | rfl | rfl <;> exact ⟨.corrupted, by decide⟩

/-- the directory a crash between the `Sync` of `CURRENT.7` and the `rename` leaves -/
def pend7 : FS := (setMeta codeCfg (m 7) (W.of c57.fs (oneFault 10 .crash))).2.fs

/-- **the repair truncates the pending file it answers from**: `GetMeta` answers 7 (from `CURRENT.7`); its repair
    `setMeta 7` re-creates `CURRENT.7` with `O_TRUNC`; a death right after that makes the next `GetMeta` answer 5.
    So "the answer is unchanged when the repair failed" does not hold.  (Both answers are legitimate outcomes of the
    interrupted `SetMeta 7`.) -/
theorem repair_truncates_pending :
    ask codeCfg false pend7 = .ok (m 7) ∧
    ask codeCfg false (getMeta codeCfg false (W.of pend7 (oneFault 12 .crash))).2.fs = .ok (m 5) := by decide

/-- **a stale pending file wins over the genuine `CURRENT`.**  `setMeta 7` fails at the `rename` (call 10):
    `CURRENT.7` stays behind, complete and synced.  The caller gives up manifest 7 (removes its file — what
    `newManifest` did before the repair of D26, followed by `reuseFileNum`), later a file `MANIFEST-000007` is
    created again (the next rotation reuses the number) and the process dies before any `SetMeta`: `GetMeta` answers 7
    although `CURRENT` names 5 and no `SetMeta 7` was issued for the new file; a read-write `GetMeta` even makes it
    permanent (`CURRENT` := 7).  With the repair of D26 the first step is excluded: right after the failed `SetMeta`
    the session asks `GetMeta`, which answers 7, and keeps the file. -/
theorem stale_pending_wins :
    let fs1 := (setMeta codeCfg (m 7) (W.of c57.fs (oneFault 10 .fail))).2.fs
    let fs2 := (rmFile (m 7) (W.of fs1)).2.fs
    let fs3 := (mkFile (m 7) (W.of fs2)).2.fs
    ask codeCfg true fs1 = .ok (m 7) ∧ ask codeCfg true fs2 = .ok (m 5) ∧ fs2.pending = [7] ∧
    ask codeCfg true fs3 = .ok (m 7) ∧ (after codeCfg false fs3).names = some (m 7) := by decide

/-- **the same through `RecoverFile`** (reachable with the code as it is; replayed on the implementation,
    `TestStalePendingAfterRecover`): a crash left `CURRENT` = 5 with the complete pending file `CURRENT.7`; instead of
    opening the DB the user runs `RecoverFile`, which never calls `GetMeta` and numbers its new manifest after the
    TABLES it found — here 6 — and `SetMeta 6` succeeds.  `CURRENT.7` and the file of manifest 7 are still there
    (the janitor keeps manifests with numbers ≥ 6), and the next `GetMeta` prefers the stale 7 over the genuine 6. -/
theorem stale_pending_after_smaller_setmeta :
    let fs1 := (mkFile (m 6) (W.of pend7)).2.fs
    let r := setMeta codeCfg (m 6) (W.of fs1)
    r.1 = .ok () ∧ r.2.fs.names = some (m 6) ∧ r.2.fs.pending = [7] ∧ ask codeCfg true r.2.fs = .ok (m 7) ∧
    (∀ k, k ≤ 3 → ask codeCfg true (r.2.fs.image (.ordered k fun _ => .kept)) = .ok (m 7)) := by
  refine ⟨by decide, by decide, by decide, by decide, fun k hk => ?_⟩
  have : k = 0 ∨ k = 1 ∨ k = 2 ∨ k = 3 := by omega
  rcases this with rfl | rfl | rfl | rfl <;> decide

/-- **without `syncDir`** `setMeta` returns nil and a machine crash that loses nothing but the unsynced directory
    operations brings the old `CURRENT` back -/
theorem no_syncdir_loses_update :
    (setMeta { syncDirLast := false } (m 7) (W.of c57.fs)).1 = .ok () ∧
    ask {} false ((setMeta { syncDirLast := false } (m 7) (W.of c57.fs)).2.fs.image (.ordered 0 fun _ => .kept)) = .ok (m 5) := by
  decide

/-- **rename before the new file is synced**, directory operations reaching the disk in any order: the image that
    keeps the `rename` but neither the data nor the creation of `CURRENT.bak` cannot be opened -/
theorem rename_before_sync_unopenable :
    ask {} false ((setMeta { syncBeforeRename := false } (m 7) (W.of c57.fs (oneFault 10 .crash))).2.fs.image
      ⟨fun i => decide (i = 2), fun _ => .lost⟩) = .error .corrupted := by decide

/-- … whereas with ordered directory operations the backup rescues that variant (the old manifest is answered),
    and without the backup it does not -/
theorem backup_rescues_ordered :
    (∀ k, k ≤ 3 → ask {} false ((setMeta { syncBeforeRename := false } (m 7) (W.of c57.fs (oneFault 10 .crash))).2.fs.image
      (.ordered k fun _ => .lost)) = .ok (m 5)) ∧
    ask {} false ((setMeta { syncBeforeRename := false, backupFirst := false } (m 7) (W.of c57.fs (oneFault 6 .crash))).2.fs.image
      (.ordered 2 fun _ => .lost)) = .error .corrupted := by
  refine ⟨fun k hk => ?_, by decide⟩
  have : k = 0 ∨ k = 1 ∨ k = 2 ∨ k = 3 := by omega
  rcases this with rfl | rfl | rfl | rfl <;> decide

/-- a pending file with the smaller number next to a valid `CURRENT` -/
def olderPending : FS :=
  { inodes := [⟨.gen (m 7), .gen (m 7), false⟩, ⟨.gen (m 5), .gen (m 5), false⟩],
    ddir := { ents := [(.cur, 0), (.pend 5, 1)], files := fun x => decide (x = m 5) || decide (x = m 7) } }

/-- **without the guard** `pendCur.fd.Num > curCur.fd.Num` an obsolete pending file overrides `CURRENT` -/
theorem no_guard_prefers_older :
    ask { pendGuard := false } false olderPending = .ok (m 5) ∧ ask {} false olderPending = .ok (m 7) := by decide

/-- **`setMeta` can return nil without the new `CURRENT` being durable**: `setMeta 7` fails at `syncDir` (the rename
    has happened), the caller retries, the equality shortcut returns nil without a `syncDir`; a machine crash then
    still brings manifest 5 back.  (A caller that treats nil as "durable" is wrong in this corner; goleveldb's
    manifest `Sync` runs `syncDir` at the next commit.) -/
theorem shortcut_returns_nil_without_syncdir :
    let fs1 := (setMeta codeCfg (m 7) (W.of c57.fs (oneFault 11 .fail))).2.fs
    (setMeta codeCfg (m 7) (W.of fs1)).1 = .ok () ∧
    ask codeCfg false ((setMeta codeCfg (m 7) (W.of fs1)).2.fs.image (.ordered 0 fun _ => .kept)) = .ok (m 5) := by decide

/-! ## optional, model level only: `fileWrap.Sync` of a manifest is `File.Sync()` and THEN `syncDir`

ASSUMED POSIX semantics (not replayable in the sandbox): the directory entry of a new file is durable only after a
`syncDir`; `fsync` of one file says nothing about the directory entries of other files.  `fileWrap.Sync` calls
`syncDir` only for manifests, after the manifest's own `File.Sync()`; a table's `Sync` is `File.Sync()` alone. -/

inductive WStep | createTable | syncTable | appendRecord | syncManifestFile | syncDirAfter
  deriving DecidableEq, Repr

structure WinSt where
  /-- the table's directory entry exists / is durable -/
  tableLinked : Bool := false
  tableLinkDur : Bool := false
  tableDataDur : Bool := false
  /-- the manifest record that adds the table is written / durable -/
  recWritten : Bool := false
  recDur : Bool := false
  deriving DecidableEq, Repr

def WinSt.step (s : WinSt) : WStep → WinSt
  | .createTable => { s with tableLinked := true }
  | .syncTable => { s with tableDataDur := true }
  | .appendRecord => { s with recWritten := true }
  | .syncManifestFile => { s with recDur := s.recWritten }
  | .syncDirAfter => { s with tableLinkDur := s.tableLinked }

/-- a machine crash now can leave a manifest whose durable record names a table without a directory entry -/
def WinSt.dangling (s : WinSt) : Bool := s.recDur && !s.tableLinkDur

/-- a flush / compaction commit as the file storage executes it -/
def codeOrder : List WStep := [.createTable, .syncTable, .appendRecord, .syncManifestFile, .syncDirAfter]
def dirFirst : List WStep := [.createTable, .syncTable, .appendRecord, .syncDirAfter, .syncManifestFile]

/-- **what the model says**: between the manifest's `File.Sync()` and the `syncDir` that follows it there is a window
    in which the record is durable and the table's directory entry is not (`dangling`); it closes with the `syncDir`;
    with the two calls in the other order there is no such window.  Whether a real file system exhibits it depends on
    semantics this model only assumes (ext4 in its default mode commits the pending directory operations with the
    `fsync` of the manifest). -/
theorem manifest_sync_window :
    ((codeOrder.take 4).foldl WinSt.step {}).dangling = true ∧ (codeOrder.foldl WinSt.step {}).dangling = false ∧
    (∀ k, k ≤ 5 → ((dirFirst.take k).foldl WinSt.step {}).dangling = false) := by
  refine ⟨by decide, by decide, fun k hk => ?_⟩
  have : k = 0 ∨ k = 1 ∨ k = 2 ∨ k = 3 ∨ k = 4 ∨ k = 5 := by omega
  rcases this with rfl | rfl | rfl | rfl | rfl | rfl <;> decide

/-- The property theorems of this file (for the audit). -/
def theorems : List String :=
  ["GoLevel.C04FS.code_is_modelled", "GoLevel.C04FS.setmeta_crash_atomic", "GoLevel.C04FS.setmeta_failure_outcomes",
   "GoLevel.C04FS.setmeta_failure_table", "GoLevel.C04FS.getmeta_readonly_pure", "GoLevel.C04FS.getmeta_repairs_partial",
   "GoLevel.C04FS.cleanup_after_crash", "GoLevel.C04FS.repair_destroys_backup", "GoLevel.C04FS.repair_truncates_pending",
   "GoLevel.C04FS.stale_pending_wins", "GoLevel.C04FS.stale_pending_after_smaller_setmeta", "GoLevel.C04FS.no_syncdir_loses_update",
   "GoLevel.C04FS.rename_before_sync_unopenable", "GoLevel.C04FS.backup_rescues_ordered",
   "GoLevel.C04FS.no_guard_prefers_older", "GoLevel.C04FS.shortcut_returns_nil_without_syncdir",
   "GoLevel.C04FS.manifest_sync_window"]

end GoLevel.C04FS

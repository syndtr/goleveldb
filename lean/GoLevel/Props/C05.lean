import GoLevel.Proofs.Key
import GoLevel.Proofs.ConcDriver
/-!
# Property C05 — linearizability of writes and reads on a shared DB (and C03 at this level)

"When many goroutines share one DB, every write batch takes effect atomically at a single instant between
its call and its return, in an order consistent with real time, and every Get, snapshot and iterator
observes the state at a single instant between its own call and return.  Hence no reader ever sees part
of a batch, or a client's later write without its earlier ones, or an older state after a newer one, and a
write that has returned is visible to every read that starts afterwards - whether or not writes were
merged, and while flushes, compactions and transactions run."

Model: `GoLevel/Model/Conc.lean` — an interleaving system whose atomic steps are the critical sections of
`db_write.go` (`writeLocked`), `db_state.go` (`newMem`, `getMems`, `dropFrozenMem`), `db.go` (`DB.get`),
`db_snapshot.go`, `db_compaction.go` (`memCompaction`, `tableCompaction`), `db_iter.go`,
`db_transaction.go`.  Any number of readers, snapshots and writers (the write lock serialises write
groups; a group may be inserted in several pieces before it is published), one flush, one table
compaction and one transaction in flight at any time, any interleaving.

The specification state is `σ.hist` (ghost): the list of all entries ever inserted by a writer or committed
by a transaction.  The linearization point of a write group / transaction commit is the step that
changes `σ.pub` (`db.addSeq` / `db.setSeq`; `seqSkip` and `trDiscard` also move `pub`, over numbers that no
entry carries); the linearization point of a `Get`/iterator/snapshot is the
step that reads `db.seq` (`rSeq`, `snapAcquire`).  "Reads `view c σ.hist k s`" = sees exactly the writes
published up to position `s`, all of them.

`Reachable Cfg.real c σ` = `σ` is reachable from the empty DB by steps of the real system.
Everything is for an arbitrary user comparer `c` (no lawfulness is needed at this level).
-/
namespace GoLevel.C05

open GoLevel.Conc

variable {c : UCmp}

def ent (k : UInt8) (s kt : Nat) (v : UInt8) : Entry := ⟨mkIKey [k] s kt, [v]⟩

/-- two batches published as one group, a snapshot, a reader (an iterator) that pins its triple around a
rotation, a flush committed but the frozen buffer not yet dropped, a table compaction in flight, a second
group (merged from two batches) inserted piecewise, a second reader that starts after it was published -/
def exTrace : List Action :=
  [.writeInsert [ent 1 1 1 10, ent 2 2 1 20], .publish, .snapAcquire,
   .rNew, .rSeq 0, .rotate, .rMems 0,
   .writeInsert [ent 1 3 0 0], .writeInsert [ent 3 4 1 30],
   .flushInstall, .compStart, .rNew, .publish,
   .rSeq 1, .rVer 0, .rLookup 0 [1], .rMems 1]

def exState : State := (run Cfg.real bytewise init exTrace).getD init

theorem exState_run : run Cfg.real bytewise init exTrace = some exState := by decide +kernel

theorem exState_reachable : Reachable Cfg.real bytewise exState :=
  steps_of_run exTrace init exState (by decide) exState_run

/-- it goes on: the flush finishes, the compaction commits, reader 1 finishes, the iterator (reader 0)
releases its registration and is used again, a snapshot read -/
def exTrace2 : List Action :=
  [.flushDrop, .compCommit [ent 1 1 1 10, ent 2 2 1 20], .rVer 1, .rLookup 1 [1], .rLookup 1 [3],
   .rRelease 0, .rotate, .flushInstall, .flushDrop, .rLookup 0 [3], .rLookup 0 [2],
   .rNew, .rSeqSnap 2 1, .rMems 2, .rVer 2, .rLookup 2 [1], .snapRelease 1]

def exState2 : State := (run Cfg.real bytewise exState exTrace2).getD init

theorem exState2_run : run Cfg.real bytewise exState exTrace2 = some exState2 := by decide +kernel

/-- the one semantic guard of `exTrace2` (a compaction that rewrites the tables without dropping anything) -/
theorem exState2_steps : Steps Cfg.real bytewise exState exState2 := by
  refine steps_of_run_commit [.flushDrop] (exTrace2.drop 2) _ (by decide) (by decide) ?_ exState2_run
  intro m _ k s _
  rw [show ((run Cfg.real bytewise exState [.flushDrop]).getD init).tabs = [ent 1 1 1 10, ent 2 2 1 20] by
    decide +kernel]

theorem exState2_reachable : Reachable Cfg.real bytewise exState2 :=
  Steps.trans exState_reachable exState2_steps

example : exState.pub = 4 ∧ exState.frozen = some 0 ∧ exState.flushed = true ∧ exState.comp = some 2
    ∧ exState.floor = 2 ∧ exState.readers.length = 2
    ∧ exState.readers.map (·.seq?) = [some 2, some 4]
    ∧ exState.readers.map (·.results) = [[([1], some [10])], []]
    ∧ exState.groups.map (fun g => (g.lo, g.hi)) = [(2, 4), (0, 2)] := by decide +kernel

example : exState2.readers.map (·.results) =
    [[([1], some [10]), ([3], none), ([2], some [20])], [([1], none), ([3], some [30])], [([1], some [10])]] := by
  decide +kernel


/-- Along any execution `pub` (= `db.seq`) never decreases, the history only grows, nothing is ever added
to the history at or below a position that was already published, and so the state "as of `s`" is the
same for ever once `s ≤ pub`. -/
theorem pub_monotone {σ σ' : State} (h : Reachable Cfg.real c σ) (hs : Steps Cfg.real c σ σ') :
    σ.pub ≤ σ'.pub
    ∧ (∀ e ∈ σ.hist, e ∈ σ'.hist)
    ∧ (∀ e ∈ σ'.hist, e.seq ≤ σ.pub → e ∈ σ.hist)
    ∧ (∀ k s, s ≤ σ.pub → view c σ'.hist k s = view c σ.hist k s) := by
  have hb := (inv_reachable h).basic
  have hg := runSum hb hs
  exact ⟨hg.pubLe, hg.histGrow.sub, fun e he hle => (hg.histGrow.old e he).resolve_right (Nat.not_lt.2 hle),
    fun k s hs' => steps_view_stable hb hs k s hs'⟩

/-- Entries carry unique sequence numbers (not every number at or below `pub` need be carried by an
entry: failed journal writes and discarded transactions leave gaps); every *entry* a buffer or the tables
hold at or below `pub` is a published entry of the history; the unpublished part of the history is exactly
the group being inserted. -/
theorem published_in_hist {σ : State} (h : Reachable Cfg.real c σ) :
    (∀ a ∈ σ.hist, ∀ b ∈ σ.hist, a.seq = b.seq → a = b)
    ∧ (∀ e ∈ memBuf σ ++ frozenBuf σ ++ σ.tabs, e.seq ≤ σ.pub → e ∈ σ.hist)
    ∧ (∀ e ∈ σ.hist, σ.pub < e.seq ↔ e ∈ σ.pending) := by
  have hb := (inv_reachable h).basic
  refine ⟨hb.uniq.sub (fun e he => List.mem_append_left _ he), ?_, ?_⟩
  · intro e he hle
    rcases List.mem_append.1 he with he | he
    · exact rBufs_sub hb (σ.mem, σ.frozen) e he
    · exact hb.tab_hist_le e he hle
  · intro e he
    exact ⟨hb.histPub e he, fun hp => (hb.pendSeq e hp).1⟩

example : exState.pub ≤ exState2.pub ∧ ∀ k s, s ≤ 4 → view bytewise exState2.hist k s = view bytewise exState.hist k s :=
  ⟨(pub_monotone exState_reachable exState2_steps).1, (pub_monotone exState_reachable exState2_steps).2.2.2⟩
example : exState.pub = 4 ∧ exState.hist.length = 4 ∧ exState.pending = [] := by decide +kernel

/-- `floor` is the `minSeq` of the latest table compaction (they only rise).  It never exceeds `pub` nor any
registered snapshot or running reader, and at every position from `floor` to `pub` a lookup in
(write buffer, frozen buffer, current tables) answers exactly like the history — whatever flushes,
compactions and transactions have done. -/
theorem cover_invariant {σ : State} (h : Reachable Cfg.real c σ) :
    σ.floor ≤ σ.pub
    ∧ (∀ p ∈ σ.snaps, σ.floor ≤ p.2 ∧ p.2 ≤ σ.pub)
    ∧ (∀ m, σ.comp = some m → m ≤ σ.floor)
    ∧ (∀ k s, σ.floor ≤ s → s ≤ σ.pub →
        view c (memBuf σ ++ frozenBuf σ ++ σ.tabs) k s = view c σ.hist k s) := by
  have hi := inv_reachable h
  have hb := hi.basic
  exact ⟨hb.floorPub, fun p hp => ⟨hb.floorSnap p hp, hb.snapsLe p hp⟩, hb.compLe,
    fun k s h1 h2 => hi.cover.cov_pub hb h1 h2 k⟩

theorem floor_monotone {σ σ' : State} (h : Reachable Cfg.real c σ) (hs : Steps Cfg.real c σ σ') :
    σ.floor ≤ σ'.floor := (runSum (inv_reachable h).basic hs).floorLe

example : exState.floor = 2 ∧ exState.pub = 4 ∧ exState.tabs.length = 2 ∧ (memBuf exState).length = 2
    ∧ (frozenBuf exState).length = 2 := by decide +kernel
example : view bytewise (memBuf exState ++ frozenBuf exState ++ exState.tabs) [1] 2 = some [10]
    ∧ view bytewise (memBuf exState ++ frozenBuf exState ++ exState.tabs) [1] 3 = none := by decide +kernel

/-- a compaction of the real system that does drop entries: with no snapshot left (`minSeq = 4`) the
overwritten value `1@1` goes by rule (A) and the tombstone `1@3` by rule (B); a reader started afterwards
is still answered like the full history -/
def dropTrace1 : List Action :=
  [.writeInsert [ent 1 1 1 10, ent 2 2 1 20], .publish, .writeInsert [ent 1 3 0 0, ent 3 4 1 30], .publish,
   .rotate, .flushInstall, .flushDrop, .compStart]
def dropTrace2 : List Action := [.rNew, .rSeq 0, .rMems 0, .rVer 0, .rLookup 0 [1], .rLookup 0 [2]]

/-- the semantic guard of that compaction: at every position from 4 on the two table collections answer alike -/
theorem drop_guard (k : Bytes) (s : Nat) (hs : 4 ≤ s) :
    view bytewise [ent 2 2 1 20, ent 3 4 1 30] k s
      = view bytewise [ent 1 1 1 10, ent 2 2 1 20, ent 1 3 0 0, ent 3 4 1 30] k s := by
  -- nothing lies above 4, so read at 4; there it is a fact about the keys `[1]`, `[2]`, `[3]` and "any other"
  rw [view_clip (p := 4) (by decide) hs, view_clip (p := 4) (by decide) hs]
  by_cases h1 : k = [1]
  · subst h1; decide
  by_cases h2 : k = [2]
  · subst h2; decide
  by_cases h3 : k = [3]
  · subst h3; decide
  have other : ∀ L : List Entry, (∀ e ∈ L, e.ukey = [1] ∨ e.ukey = [2] ∨ e.ukey = [3]) →
      view bytewise L k 4 = none := by
    intro L hL
    have : newest bytewise L k 4 = none := (newest_eq_none_iff ..).2 fun e he hm => by
      have hk := bytesCompare_eq _ _ hm.1
      rcases hL e he with h | h | h
      · exact h1 (hk.symm.trans h)
      · exact h2 (hk.symm.trans h)
      · exact h3 (hk.symm.trans h)
    simp only [view, this]
  rw [other _ (by decide), other _ (by decide)]

def dropState : State :=
  (run Cfg.real bytewise
    ((step Cfg.real bytewise ((run Cfg.real bytewise init dropTrace1).getD init)
      (.compCommit [ent 2 2 1 20, ent 3 4 1 30])).getD init) dropTrace2).getD init

theorem dropState_reachable : Reachable Cfg.real bytewise dropState := by
  refine steps_of_run_commit dropTrace1 dropTrace2 [ent 2 2 1 20, ent 3 4 1 30] (by decide) (by decide) ?_
    (by decide +kernel)
  intro m hm k s hs
  rw [show ((run Cfg.real bytewise init dropTrace1).getD init).comp = some 4 by decide +kernel] at hm
  cases hm
  rw [show ((run Cfg.real bytewise init dropTrace1).getD init).tabs
    = [ent 1 1 1 10, ent 2 2 1 20, ent 1 3 0 0, ent 3 4 1 30] by decide +kernel]
  exact drop_guard k s hs

example : dropState.floor = 4 ∧ dropState.pub = 4 ∧ dropState.tabs = [ent 2 2 1 20, ent 3 4 1 30]
    ∧ dropState.hist.length = 4 ∧ dropState.readers.map (·.results) = [[([1], none), ([2], some [20])]] := by
  decide +kernel
example : ∀ k, view bytewise (memBuf dropState ++ frozenBuf dropState ++ dropState.tabs) k 4
    = view bytewise dropState.hist k 4 :=
  fun k => (cover_invariant dropState_reachable).2.2.2 k 4 (by decide +kernel) (by decide +kernel)

/-- The sequence number a `DB.Get`/`DB.NewIterator` works with is the value `db.seq` had at its `rSeq`
step (a step after the call `rNew` and before any lookup), and it is registered at that same instant. -/
theorem reader_seq_is_pub {σ σ' : State} {i : Nat} (h : Step Cfg.real c σ (.rSeq i) σ') :
    ∃ r', σ'.readers[i]? = some r' ∧ r'.seq? = some σ.pub ∧ r'.live = true
      ∧ (Owner.reader i, σ.pub) ∈ σ'.snaps := by
  obtain ⟨r0, g1, g2, rfl⟩ := doRSeq_some h.1
  exact ⟨_, List.getElem?_set_self (getElem?_lt g1), rfl, rfl,
    List.mem_append_right _ List.mem_cons_self⟩

/-- … and it never changes afterwards, nor do the pinned buffers and tables; results only accumulate. -/
theorem reader_triple_fixed {σ σ' : State} (h : Reachable Cfg.real c σ) (hs : Steps Cfg.real c σ σ')
    (i : Nat) (r : Reader) (hi : σ.readers[i]? = some r) :
    ∃ r', σ'.readers[i]? = some r' ∧ (∀ s, r.seq? = some s → r'.seq? = some s)
      ∧ (∀ mf, r.mems? = some mf → r'.mems? = some mf) ∧ (∀ v, r.ver? = some v → r'.ver? = some v)
      ∧ ∃ more, r'.results = r.results ++ more := by
  obtain ⟨r', h1, k⟩ := (runSum (inv_reachable h).basic hs).rdKeep i r hi
  exact ⟨r', h1, fun s hs' => (k.seqKeep s hs').1, k.memsKeep, k.verKeep, k.resKeep⟩

/-- **Linearizable reads.**  Whatever a reader (a `Get`, or an iterator doing many lookups at any later
time) has returned for key `k` is the value of `k` in the history as of its sequence number `s` — the
state at the single instant of its `rSeq` step — and `s ≤ pub`.  This holds for the history of the moment
and of every later moment. -/
theorem read_linearizable {σ : State} (h : Reachable Cfg.real c σ) (i : Nat) (r : Reader)
    (hi : σ.readers[i]? = some r) (k : Bytes) (v : Option Bytes) (hkv : (k, v) ∈ r.results) :
    ∃ s, r.seq? = some s ∧ s ≤ σ.pub ∧ v = view c σ.hist k s
      ∧ ∀ σ', Steps Cfg.real c σ σ' → v = view c σ'.hist k s :=
  read_lin h i r hi k v hkv

/-- The same, one step earlier: any lookup a reader with a pinned triple may perform now or later
yields the history's value at its position. -/
theorem lookup_correct {σ : State} (h : Reachable Cfg.real c σ) (i : Nat) (r : Reader)
    (hi : σ.readers[i]? = some r) (s : Nat) (mf : Nat × Option Nat) (v : List Entry)
    (hs : r.seq? = some s) (hm : r.mems? = some mf) (hv : r.ver? = some v) (k : Bytes) :
    view c (readSrc σ mf v) k s = view c σ.hist k s :=
  ((inv_reachable h).readers i r hi).rcAt hv hs hm k

example : ∀ r ∈ exState2.readers, ∀ kv ∈ r.results, ∃ s, r.seq? = some s ∧ kv.2 = view bytewise exState2.hist kv.1 s := by
  intro r hr kv hkv
  obtain ⟨i, hi⟩ := List.getElem?_of_mem hr
  obtain ⟨s, h1, _, h2, _⟩ := read_linearizable exState2_reachable i r hi kv.1 kv.2 hkv
  exact ⟨s, h1, h2⟩
/-- reader 0 (position 2) and reader 1 (position 4) disagree about key `[1]`, both rightly -/
example : (exState2.readers.map fun r => (r.seq?, r.results.head?)) =
    [(some 2, some ([1], some [10])), (some 4, some ([1], none)), (some 2, some ([1], some [10]))] := by decide +kernel

/-- **The order of consultation is immaterial.**  `DB.get` asks the write buffer, then the frozen buffer, then
the version, and stops at the first that knows the key (`scView`); the reader steps of the model take the
view of the union.  For every reader of the real system the two agree (the pinned buffers are an intact,
ordered top segment of what the reader may see), hence `DB.get`'s answer is the history's too. -/
theorem lookup_order_irrelevant {σ : State} (h : Reachable Cfg.real c σ) (i : Nat) (r : Reader)
    (hi : σ.readers[i]? = some r) (s : Nat) (mf : Nat × Option Nat) (v : List Entry)
    (hs : r.seq? = some s) (hm : r.mems? = some mf) (hv : r.ver? = some v) (k : Bytes) :
    scView c [getBuf σ mf.1, optBuf σ mf.2, v] k s = view c σ.hist k s := by
  rw [reader_sc (inv_reachable h) i r hi s mf v hs hm hv k]
  exact lookup_correct h i r hi s mf v hs hm hv k

/-- reader 0 of `exState2`: position 2, buffers (2, frozen 0), tables pinned after the first flush -/
example : (exState2.readers[0]?.map fun r => (r.seq?, r.mems?)) = some (some 2, some (2, some 0))
    ∧ ∀ v, (exState2.readers[0]?.bind (·.ver?)) = some v →
        scView bytewise [getBuf exState2 2, getBuf exState2 0, v] [1] 2 = some [10] := by
  refine ⟨by decide +kernel, ?_⟩
  intro v hv
  have : v = [ent 1 1 1 10, ent 2 2 1 20] := by
    have h2 : (exState2.readers[0]?.bind (·.ver?)) = some [ent 1 1 1 10, ent 2 2 1 20] := by decide +kernel
    rw [h2] at hv; exact (Option.some.inj hv).symm
  subst this; decide +kernel

/-- the result some reader of `σ` returned differs from the history's value at its position -/
def WrongRead (c : UCmp) (σ : State) : Prop :=
  ∃ r ∈ σ.readers, ∃ kv ∈ r.results, ∃ s, r.seq? = some s ∧ kv.2 ≠ view c σ.hist kv.1 s

theorem no_wrong_read {σ : State} (h : Reachable Cfg.real c σ) : ¬ WrongRead c σ := by
  rintro ⟨r, hr, kv, hkv, s, hs, hne⟩
  obtain ⟨i, hi⟩ := List.getElem?_of_mem hr
  obtain ⟨s', h1, _, h2, _⟩ := read_linearizable h i r hi kv.1 kv.2 hkv
  rw [hs] at h1; cases h1
  exact hne h2

/-- **"Install before drop" is necessary**: if `dropFrozenMem` could run before the flush's version is
installed, a `Get` that starts after a write returned misses it. -/
def dropEarlyTrace : List Action :=
  [.writeInsert [ent 1 1 1 10], .publish, .rotate, .rNew, .rSeq 0, .flushDrop, .rMems 0, .rVer 0, .rLookup 0 [1]]

theorem dropEarly_breaks : ∃ σ, Reachable { dropEarly := true } bytewise σ ∧ WrongRead bytewise σ := by
  refine ⟨(run { dropEarly := true } bytewise init dropEarlyTrace).getD init,
    steps_of_run dropEarlyTrace init _ (by decide) (by decide +kernel), ?_⟩
  refine ⟨_, List.mem_cons_self, ([1], none), by decide +kernel, 1, by decide +kernel, by decide +kernel⟩

/-- **"Buffers before version" is necessary**: if a reader took the version first and the buffers
afterwards, a complete flush in between makes the data vanish from its sight. -/
def verFirstTrace : List Action :=
  [.writeInsert [ent 1 1 1 10], .publish, .rotate, .rNew, .rSeq 0, .rVer 0, .flushInstall, .flushDrop,
   .rMems 0, .rLookup 0 [1]]

theorem verFirst_breaks : ∃ σ, Reachable { verFirst := true } bytewise σ ∧ WrongRead bytewise σ := by
  refine ⟨(run { verFirst := true } bytewise init verFirstTrace).getD init,
    steps_of_run verFirstTrace init _ (by decide) (by decide +kernel), ?_⟩
  refine ⟨_, List.mem_cons_self, ([1], none), by decide +kernel, 1, by decide +kernel, by decide +kernel⟩

/-- the same two traces are refused by the real system (the offending step is not enabled) -/
example : run Cfg.real bytewise init dropEarlyTrace = none ∧ run Cfg.real bytewise init verFirstTrace = none := by
  decide +kernel


/-- **`OpenTransaction` must not overtake a pending flush** (the third ordering the proof needs — one the code
enforces only since the repair of D3, see `code_is_real`): with a frozen buffer still
unflushed, a transaction's newer tombstone reaches the tables first, a table compaction legitimately drops
it (rule (B): nothing older below), and the late flush then resurrects the deleted value. -/
def trOverFrozenTrace1 : List Action :=
  [.writeInsert [ent 1 1 1 10], .publish, .rotate, .trOpen, .trPut (ent 1 2 0 0), .trInstall, .trPublish,
   .compStart]
def trOverFrozenTrace2 : List Action :=
  [.flushInstall, .flushDrop, .rNew, .rSeq 0, .rMems 0, .rVer 0, .rLookup 0 [1]]

theorem trOverFrozen_breaks : ∃ σ, Reachable { trOverFrozen := true } bytewise σ ∧ WrongRead bytewise σ := by
  refine ⟨(run { trOverFrozen := true } bytewise init
      (trOverFrozenTrace1 ++ .compCommit [] :: trOverFrozenTrace2)).getD init,
    steps_of_run_commit trOverFrozenTrace1 trOverFrozenTrace2 [] (by decide) (by decide) ?_ (by decide +kernel), ?_⟩
  · intro m _ k s _
    rw [show ((run { trOverFrozen := true } bytewise init trOverFrozenTrace1).getD init).tabs = [ent 1 2 0 0] by
      decide +kernel]
    simp only [view, newest, List.foldl]
    by_cases h : bytewise.cmp (ent 1 2 0 0).ukey k = Ordering.eq ∧ (ent 1 2 0 0).seq ≤ s
    · rw [if_pos h]; decide
    · rw [if_neg h]
  · exact ⟨_, List.mem_cons_self, ([1], some [10]), by decide +kernel, 2, by decide +kernel, by decide +kernel⟩

/-- In that variant the damage is visible even before any compaction: right after the commit has returned,
a `Get` consults the still pending frozen buffer first and returns the deleted value (this is what
goleveldb did under that schedule before the repair of D3 — reproduced on the Go side). -/
def trOverFrozenTrace0 : List Action :=
  [.writeInsert [ent 1 1 1 10], .publish, .rotate, .trOpen, .trPut (ent 1 2 0 0), .trInstall, .trPublish,
   .rNew, .rSeq 0, .rMems 0, .rVer 0]

theorem trOverFrozen_stale_read : ∃ σ, Reachable { trOverFrozen := true } bytewise σ ∧
    ∃ r ∈ σ.readers, ∃ s mf v, r.seq? = some s ∧ r.mems? = some mf ∧ r.ver? = some v ∧
      scView bytewise [getBuf σ mf.1, optBuf σ mf.2, v] [1] s = some [10] ∧ view bytewise σ.hist [1] s = none := by
  refine ⟨(run { trOverFrozen := true } bytewise init trOverFrozenTrace0).getD init,
    steps_of_run trOverFrozenTrace0 init _ (by decide) (by decide +kernel), ?_⟩
  refine ⟨_, List.mem_cons_self, 2, (1, some 0), [ent 1 2 0 0], by decide +kernel, by decide +kernel, by decide +kernel, by decide +kernel, by decide +kernel⟩

/-- the real system refuses to open the transaction there -/
example : run Cfg.real bytewise init trOverFrozenTrace1 = none := by decide +kernel

/-- Every change of `pub` is a single step (`publish` = `db.addSeq`, `trPublish` = `db.setSeq`, or one of
the two steps that only consume numbers: `seqSkip`, `trDiscard`) and is recorded as one group consisting of
exactly the entries of the history above the old `pub` (none for the latter two) — all of which are at or
below the new one.  No other step changes `pub`. -/
theorem publication_is_one_step {σ σ' : State} {a : Action} (h : Reachable Cfg.real c σ)
    (hs : Step Cfg.real c σ a σ') :
    (σ'.groups = σ.groups ∧ σ'.pub = σ.pub) ∨
    ∃ g, σ'.groups = g :: σ.groups ∧ g.lo = σ.pub ∧ g.hi = σ'.pub ∧
      (∀ e, e ∈ g.es ↔ e ∈ σ'.hist ∧ σ.pub < e.seq) ∧ (∀ e ∈ g.es, e.seq ≤ σ'.pub) :=
  (stepSum (inv_reachable h).basic hs).grp

/-- **Batch atomicity.**  For every group ever published and every reader position (and every
snapshot): all of the group's entries are at or below it, or all are above it.  Together with
`read_linearizable` (a result is the view at that position): a reader sees all of a batch / merged group /
committed transaction or none of it. -/
theorem batch_atomic {σ : State} (h : Reachable Cfg.real c σ) (g : Group) (hg : g ∈ σ.groups) :
    g.hi ≤ σ.pub
    ∧ (∀ e ∈ g.es, e ∈ σ.hist ∧ g.lo < e.seq ∧ e.seq ≤ g.hi)
    ∧ (∀ e ∈ σ.hist, g.lo < e.seq → e.seq ≤ g.hi → e ∈ g.es)
    ∧ (∀ r ∈ σ.readers, ∀ s, r.seq? = some s → (∀ e ∈ g.es, e.seq ≤ s) ∨ (∀ e ∈ g.es, s < e.seq))
    ∧ (∀ p ∈ σ.snaps, (∀ e ∈ g.es, e.seq ≤ p.2) ∨ (∀ e ∈ g.es, p.2 < e.seq)) := by
  obtain ⟨g1, g3, g4, g5⟩ := ginv_reachable h g hg
  have side : ∀ s, Pos σ s → (∀ e ∈ g.es, e.seq ≤ s) ∨ (∀ e ∈ g.es, s < e.seq) := fun s hs =>
    (g5 s hs).symm.imp (fun h1 e he => Nat.le_trans (g3 e he).2.1 h1) (fun h1 e he => Nat.lt_of_le_of_lt h1 (g3 e he).1)
  exact ⟨g1, fun e he => ⟨(g3 e he).2.2, (g3 e he).1, (g3 e he).2.1⟩, g4,
    fun r hr s hs => side s (Or.inr ⟨r, hr, hs⟩), fun p hp => side p.2 (Or.inl ⟨p, hp, rfl⟩)⟩

/-- in `exState` the second group was inserted in two pieces (two merged batches); reader 0 (position 2)
sees none of it, reader 1 (position 4) all of it -/
example : exState.groups.map (fun g => (g.lo, g.hi, g.es.length)) = [(2, 4, 2), (0, 2, 2)]
    ∧ exState.readers.map (·.seq?) = [some 2, some 4] := by decide +kernel
example (g : Group) (hg : g ∈ exState.groups) (r : Reader) (hr : r ∈ exState.readers) (s : Nat)
    (hs : r.seq? = some s) : (∀ e ∈ g.es, e.seq ≤ s) ∨ (∀ e ∈ g.es, s < e.seq) :=
  (batch_atomic exState_reachable g hg).2.2.2.1 r hr s hs

/-- sequence numbers may have gaps — `seqSkip` (a failed journal write consumes its numbers) and a discarded
transaction (`trDiscard` moves `pub` over the numbers it used) publish *empty* groups: no entry carries
those numbers, ever; everything above holds verbatim (a gap only makes more numbers invisible by absence) -/
def gapTrace : List Action :=
  [.writeInsert [ent 1 1 1 10], .publish, .seqSkip 2, .rotate, .flushInstall, .flushDrop,
   .trOpen, .trPut (ent 1 4 0 0), .trPut (ent 2 5 1 21), .snapAcquire, .trDiscard,
   .writeInsert [ent 2 6 1 20], .publish, .rNew, .rSeq 0, .rMems 0, .rVer 0, .rLookup 0 [1], .rLookup 0 [2],
   .rNew, .rSeqSnap 1 2, .rMems 1, .rVer 1, .rLookup 1 [1], .rLookup 1 [2]]

def gapState : State := (run Cfg.real bytewise init gapTrace).getD init

theorem gapState_reachable : Reachable Cfg.real bytewise gapState :=
  steps_of_run gapTrace init gapState (by decide) (by decide +kernel)

example : gapState.pub = 6 ∧ gapState.hist = [ent 1 1 1 10, ent 2 6 1 20]
    ∧ gapState.groups.map (fun g => (g.lo, g.hi, g.es.length)) = [(5, 6, 1), (3, 5, 0), (1, 3, 0), (0, 1, 1)]
    ∧ gapState.readers.map (·.seq?) = [some 6, some 3]
    ∧ gapState.readers.map (·.results) = [[([1], some [10]), ([2], some [20])], [([1], some [10]), ([2], none)]] := by
  decide +kernel
example : ∀ g ∈ gapState.groups, ∀ r ∈ gapState.readers, ∀ s, r.seq? = some s →
    (∀ e ∈ g.es, e.seq ≤ s) ∨ (∀ e ∈ g.es, s < e.seq) :=
  fun g hg r hr s hs => (batch_atomic gapState_reachable g hg).2.2.2.1 r hr s hs

/-- **A write that has returned is visible to every read that starts afterwards**: if group `g` is
published in `σ` and reader `i` takes its sequence number from `db.seq` at some later step, its position
is at or above all of `g`'s entries (so it sees them, unless overwritten by still newer ones).
**No older state after a newer one**: if reader `j` already has position `sA` in `σ` and reader `i` takes
its own afterwards, `sA ≤ sB`. -/
theorem real_time_order {σ σ' : State} (h : Reachable Cfg.real c σ) (hs : Steps Cfg.real c σ σ')
    (i : Nat) (hnew : σ.readers[i]? = none ∨ ∃ r, σ.readers[i]? = some r ∧ r.seq? = none)
    (rB : Reader) (hi : σ'.readers[i]? = some rB) (sB : Nat) (hsB : rB.seq? = some sB)
    (hlive : rB.live = true) :
    σ.pub ≤ sB
    ∧ (∀ g ∈ σ.groups, ∀ e ∈ g.es, e.seq ≤ sB)
    ∧ (∀ (j : Nat) (rA : Reader) (sA : Nat), σ.readers[j]? = some rA → rA.seq? = some sA → sA ≤ sB)
    ∧ (∀ p ∈ σ.snaps, p.2 ≤ sB) := by
  have hinv := inv_reachable h
  have hp := steps_reader_new hinv.basic hs i hnew rB hi sB hsB hlive
  refine ⟨hp, ?_, ?_, ?_⟩
  · intro g hg e he
    obtain ⟨g1, g3, _⟩ := ginv_reachable h g hg
    have := (g3 e he).2.1; omega
  · intro j rA sA hj hsA
    have := (hinv.readers j rA hj).seqLe sA hsA; omega
  · intro p hp'
    have := hinv.basic.snapsLe p hp'; omega

/-- groups are published in sequence order: an older group lies entirely below a newer one, so whoever sees
a client's later write sees its earlier ones -/
theorem writes_ordered {σ : State} (h : Reachable Cfg.real c σ) :
    σ.groups.Pairwise (fun newer older => older.hi ≤ newer.lo) :=
  (ginv_ordered_reachable h).2

/-- reader 1 of `exState` took its position after the second group was published and after reader 0 -/
example : ∃ σ₀, Reachable Cfg.real bytewise σ₀ ∧ Steps Cfg.real bytewise σ₀ exState
    ∧ σ₀.groups.length = 2 ∧ (σ₀.readers.map (·.seq?)) = [some 2, none] := by
  refine ⟨(run Cfg.real bytewise init (exTrace.take 13)).getD init,
    steps_of_run (exTrace.take 13) init _ (by decide) (by decide +kernel),
    steps_of_run (exTrace.drop 13) _ _ (by decide) (by decide +kernel),
    by decide +kernel, by decide +kernel⟩

/-- **Snapshot stability.**  Let `p` be a registered snapshot (of a client, or of a running reader) in a
reachable state `σ`, and let the system run on arbitrarily (writes, rotations, flushes, compactions started
before or after, transactions, other snapshots acquired and released):
1. the state as of `p` never changes;
2. every reader positioned at `p`, whenever it performs its lookups, returns exactly that state;
3. as long as `p` itself is still registered, a fresh read of the current buffers and tables at `p`
   yields it — so a new `Snapshot.Get` can always be served. -/
theorem snapshot_stable {σ σ' : State} (h : Reachable Cfg.real c σ) (p : Owner × Nat) (hp : p ∈ σ.snaps)
    (hs : Steps Cfg.real c σ σ') :
    (∀ k, view c σ'.hist k p.2 = view c σ.hist k p.2)
    ∧ (∀ (i : Nat) (r : Reader), σ'.readers[i]? = some r → r.seq? = some p.2 →
        ∀ k v, (k, v) ∈ r.results → v = view c σ.hist k p.2)
    ∧ (p ∈ σ'.snaps → ∀ k, view c (memBuf σ' ++ frozenBuf σ' ++ σ'.tabs) k p.2 = view c σ.hist k p.2) := by
  have hb := (inv_reachable h).basic
  have hle := hb.snapsLe p hp
  have h' : Reachable Cfg.real c σ' := Steps.trans h hs
  have hst := fun k => steps_view_stable hb hs k p.2 hle
  refine ⟨hst, ?_, ?_⟩
  · intro i r hi hseq k v hkv
    obtain ⟨s, h1, _, h2, _⟩ := read_linearizable h' i r hi k v hkv
    rw [hseq] at h1; cases h1
    rw [h2, hst]
  · intro hp' k
    obtain ⟨_, h2, _, h4⟩ := cover_invariant h'
    rw [h4 k p.2 (h2 p hp').1 (h2 p hp').2, hst]

/-- **Iterator stability.**  A reader that has pinned its (sequence number, buffers, tables) triple —
an iterator — answers every lookup it performs at any later time with the state as of its position at
the time of pinning, even after its snapshot registration was released and compactions have rewritten
the tables: versions are immutable and buffers only gain newer entries. -/
theorem iterator_stable {σ σ' : State} (h : Reachable Cfg.real c σ) (hs : Steps Cfg.real c σ σ')
    (i : Nat) (r : Reader) (hi : σ.readers[i]? = some r) (s : Nat) (mf : Nat × Option Nat)
    (v : List Entry) (hseq : r.seq? = some s) (hm : r.mems? = some mf) (hv : r.ver? = some v) (k : Bytes) :
    view c (readSrc σ' mf v) k s = view c σ.hist k s := by
  have hinv := inv_reachable h
  have h' : Reachable Cfg.real c σ' := Steps.trans h hs
  obtain ⟨r', h1, kp⟩ := (runSum hinv.basic hs).rdKeep i r hi
  rw [lookup_correct h' i r' h1 s mf v (kp.seqKeep s hseq).1 (kp.memsKeep mf hm) (kp.verKeep v hv) k]
  exact steps_view_stable hinv.basic hs k s ((hinv.readers i r hi).seqLe s hseq)

/-- in `exState2` the client snapshot (id 1, position 2) was read by reader 2 after two more rotations and a
compaction; the iterator (reader 0) did lookups after releasing its registration -/
example : (exState.snaps.map (·.2)) = [2, 2, 4] ∧ exState2.snaps = [(Owner.reader 1, 4), (Owner.reader 2, 2)]
    ∧ exState2.readers.map (·.reg) = [false, true, true] := by decide +kernel
example : ∀ k, view bytewise exState2.hist k 2 = view bytewise exState.hist k 2 :=
  (snapshot_stable exState_reachable (Owner.user 1, 2) (by decide +kernel) exState2_steps).1

/-- The configuration of the interleaving model that the source exhibits: each flag of `Cfg` is the negation of an
order fact the extractor reads off the Go AST on every run (`Gen/Consts.lean`): `memCompaction` commits before it
drops the frozen buffer; `DB.get`/`has`/`newRawIterator` take the buffers before the version; `OpenTransaction`
waits for a pending frozen-buffer flush (repair of D3); `Transaction.discard` advances the sequence number past the
discarded range (repair of D16). -/
def codeCfg : Cfg :=
  { dropEarly := !Gen.ordFlushCommitBeforeDrop
    verFirst := !Gen.ordReadersBuffersBeforeVersion
    trOverFrozen := !Gen.ordOpenTxWaitsForFrozenFlush
    discardReusesSeq := !Gen.ordDiscardKeepsSeq }

/-- the code as it is lies in the configuration all theorems above are about (each of the other configurations has an
explicit violating trace: `dropEarly_breaks`, `verFirst_breaks`, `trOverFrozen_breaks`, `C11.discardReuse_breaks`);
and a group is inserted into the buffer before its sequence number is published (the order of the model's
`writeInsert` / `publish` steps); and a point read keeps its snapshot registered until it returns (the model's
readers are registered from their `rSeq` step to their release, which is what bounds `minSeq` of a compaction) -/
theorem code_is_real : codeCfg = Cfg.real ∧ Gen.ordApplyBeforePublish = true ∧ Gen.ordPointReadsHoldSnapshot = true := by decide

/-- **`minSeq` returns the oldest live snapshot.**  Take any history of `acquireSnapshot` / `releaseSnapshot` calls as
the DB can produce it (`Snaps.Legal`: every acquisition reads a `db.seq` at least as large as every one read before,
every release gives back an acquisition that is still held): no call panics (neither "sequence number is not
increasing" nor "negative element reference"), and afterwards `minSeq()` returns the minimum over all
acquired-and-not-released sequence numbers — or `db.seq` if there is none. -/
theorem minSeq_is_oldest_live (ops : List Snaps.Op) (h : Snaps.Legal 0 [] ops) (dbSeq : Nat) :
    ∃ l, Snaps.run [] ops = some l ∧
      (Snaps.liveRun [] ops = [] → Snaps.minSeq l dbSeq = dbSeq) ∧
      (Snaps.liveRun [] ops ≠ [] → Snaps.minSeq l dbSeq ∈ Snaps.liveRun [] ops ∧
        ∀ s ∈ Snaps.liveRun [] ops, Snaps.minSeq l dbSeq ≤ s) := by
  obtain ⟨l, h1, h2⟩ := Snaps.run_legal ops [] [] 0 Snaps.rep_nil (by simp) h
  exact ⟨l, h1, Snaps.rep_minSeq h2 dbSeq⟩

/-- three acquisitions at 5, 5, 7 (the two at 5 share one element), a release of one 5, one more at 9, the other 5
released: the list is `[7 ×1, 9 ×1]` and `minSeq` = 7 -/
def snapOps : List Snaps.Op := [.acquire 5, .acquire 5, .acquire 7, .release 5, .acquire 9, .release 5]
example : Snaps.Legal 0 [] snapOps := by simp [snapOps, Snaps.Legal]
example : Snaps.run [] snapOps = some [⟨7, 1⟩, ⟨9, 1⟩] ∧ Snaps.liveRun [] snapOps = [7, 9]
    ∧ Snaps.run [] (snapOps.take 3) = some [⟨5, 2⟩, ⟨7, 1⟩] := by decide
example : ∃ l, Snaps.run [] snapOps = some l ∧ Snaps.minSeq l 12 = 7 := ⟨[⟨7, 1⟩, ⟨9, 1⟩], by decide, by decide⟩
/-- what the two panics guard against: an acquisition below the back element, a release of a released element -/
example : Snaps.run [] [.acquire 5, .acquire 4] = none ∧ Snaps.run [] [.acquire 5, .release 5, .release 5] = none := by
  decide

/-- **The snapshot list never panics in the DB**, and it is the list of the model's live registrations: along every
execution of the interleaving model, drive the real list by the same steps (`Conc.snapsStep`: `GetSnapshot`, `DB.Get`,
`DB.NewIterator` acquire the current `db.seq`; their releases give it back) — every reachable state has its list
(`Joint`), and from a state with its list every step of the model is a non-panicking operation of the list.
The acquisitions are non-decreasing because `db.seq` only grows (`pub_monotone`; here: every registration is at or
below `pub`, `cover_invariant`). -/
theorem snapshot_list_never_panics :
    (∀ σ, Reachable Cfg.real c σ → ∃ l, Joint c σ l)
    ∧ (∀ σ l a σ', Joint c σ l → Step Cfg.real c σ a σ' → ∃ l', snapsStep σ l a = some l' ∧ Joint c σ' l') :=
  ⟨fun _ => joint_of_reachable, fun _ _ _ _ => Joint.next⟩

/-- **The model's `minSeq` is the real one.**  For a state with its list: the list represents the live registrations
(a reference per client snapshot and per running `DB.Get`/iterator), its `minSeq` is the oldest of them (`db.seq` if
none), `Conc.minSeq` — what the model's `compStart` reads — never exceeds it, and the two are equal whenever every
running `Snapshot.Get` still has its client snapshot registered (`SnapHeld`: what `snap.mu` guarantees). -/
theorem minSeq_matches_model {σ : State} {l : Snaps.SList} (h : Joint c σ l) :
    Snaps.Rep l (liveSeqs σ)
    ∧ (liveSeqs σ = [] → Snaps.minSeq l σ.pub = σ.pub)
    ∧ (liveSeqs σ ≠ [] → Snaps.minSeq l σ.pub ∈ liveSeqs σ ∧ ∀ s ∈ liveSeqs σ, Snaps.minSeq l σ.pub ≤ s)
    ∧ Conc.minSeq σ ≤ Snaps.minSeq l σ.pub
    ∧ (SnapHeld σ → Snaps.minSeq l σ.pub = Conc.minSeq σ) := by
  have hr := h.inv.2
  have hb := (inv_reachable h.reachable).basic
  exact ⟨hr, (Snaps.rep_minSeq hr σ.pub).1, (Snaps.rep_minSeq hr σ.pub).2, (minSeq_list hb hr).1, (minSeq_list hb hr).2⟩

/-- `exTrace` with its snapshot list: the client snapshot and reader 0 share the element 2, reader 1 holds 4 -/
theorem exJoint : Joint bytewise exState [⟨2, 2⟩, ⟨4, 1⟩] :=
  joint_of_runJ exTrace (by decide) Joint.init (by decide +kernel)
example : liveSeqs exState = [2, 2, 4] ∧ Conc.minSeq exState = 2 ∧ Snaps.minSeq [⟨2, 2⟩, ⟨4, 1⟩] exState.pub = 2 := by decide +kernel
theorem exState_snapHeld : SnapHeld exState := by
  intro i s hp hl
  have hs : exState.snaps = [(Owner.user 1, 2), (Owner.reader 0, 2), (Owner.reader 1, 4)] := by decide +kernel
  rw [hs] at hp ⊢
  simp only [List.mem_cons, Prod.mk.injEq, List.not_mem_nil, or_false, Owner.reader.injEq, reduceCtorEq, false_and,
    false_or] at hp
  rcases hp with ⟨rfl, rfl⟩ | ⟨rfl, rfl⟩
  · exact ⟨1, by simp⟩
  · obtain ⟨r, h1, h2⟩ := Option.map_eq_some_iff.1
      (show (exState.readers[1]?).map (·.live) = some true by decide +kernel)
    rw [hl r h1] at h2; cases h2
example : Snaps.minSeq [⟨2, 2⟩, ⟨4, 1⟩] exState.pub = Conc.minSeq exState :=
  (minSeq_matches_model exJoint).2.2.2.2 exState_snapHeld

open GoLevel.Driver in
theorem answerOk_spec {ans : String} {val v : Option Bytes} (h : Driver.answerOk ans val v = true) :
    (ans = "notfound" ∧ v = none) ∨ (ans = "found" ∧ ∃ b, v = some b ∧ ∀ b', val = some b' → b' = b) := by
  unfold Driver.answerOk at h
  split at h
  · exact Or.inl ⟨‹_›, Option.isNone_iff_eq_none.1 h⟩
  · split at h
    · refine Or.inr ⟨‹_›, ?_⟩
      cases val with
      | none => exact (Option.isSome_iff_exists.1 h).imp fun b hb => ⟨hb, nofun⟩
      | some b0 => exact ⟨b0, beq_iff_eq.1 h, fun b' hh => (Option.some.inj hh).symm⟩
    · cases h

open GoLevel.Driver in
/-- **Reader-side trace soundness.**  Feed the validator (`gldriver`'s `conc` protocol, `Driver.feed`) any sequence of
lines from a fresh state.  Whatever it accepted, its state is a reachable state of the interleaving model; and if it
answered `ok` to a line `rget <rid> <key> <found|notfound> <value>` — the recorded answer of a `Get` / `Snapshot.Get`
/ iterator of the real DB, whose snapshot acquisition, `getMems`, `version()` and release were replayed as the
reader steps `rSeq`/`rSeqSnap`, `rMems`, `rVer`, `rRelease` of model reader `rid` — then the recorded answer is
**the value of the key in the history as of the reader's sequence number** `s` (`view hist k s`, `s ≤ db.seq`): of the
history at the end of the run (the same as at any moment since the read, `read_linearizable`).  In words: every
sampled read of the real DB is checked to be linearizable at its `acquireSnapshot`. -/
theorem reader_trace_sound (pre post : List (List String)) (rid key ans vid : String)
    (hok : (feed {} (pre ++ [["rget", rid, key, ans, vid]] ++ post)).2[pre.length]? = some "ok")
    (hpost : ∀ l ∈ post, l.head? ≠ some "reset") :
    Reachable Cfg.real bytewise (feed {} (pre ++ [["rget", rid, key, ans, vid]] ++ post)).1.σ ∧
    ∃ (i : Nat) (k : Bytes) (r : Reader) (s : Nat) (val : Option Bytes),
      natOf rid = some i ∧ fromHex key = some k ∧ parseVal vid = some val ∧
      (feed {} (pre ++ [["rget", rid, key, ans, vid]] ++ post)).1.σ.readers[i]? = some r ∧ r.seq? = some s ∧
      s ≤ (feed {} (pre ++ [["rget", rid, key, ans, vid]] ++ post)).1.σ.pub ∧
      ((ans = "notfound" ∧
          view bytewise (feed {} (pre ++ [["rget", rid, key, ans, vid]] ++ post)).1.σ.hist k s = none) ∨
       (ans = "found" ∧ ∃ b,
          view bytewise (feed {} (pre ++ [["rget", rid, key, ans, vid]] ++ post)).1.σ.hist k s = some b ∧
          ∀ b', val = some b' → b' = b)) := by
  have hgood := feed_good (pre ++ [["rget", rid, key, ans, vid]] ++ post) good_init
  refine ⟨hgood.reachable, ?_⟩
  have hg1 : Good (feed {} pre).1 := feed_good pre good_init
  obtain ⟨st2, hh, e⟩ := feed_at pre hok (by decide)
  rw [e]
  obtain ⟨i, k, r, s, val, v, e1, e2, e3, e4, e5, e6, e7, hv⟩ :=
    rget_sound hg1 hh (feed_steps post (handleConc_good hg1 hh) hpost)
  refine ⟨i, k, r, s, val, e1, e2, e3, e4, e5, e6, ?_⟩
  rcases answerOk_spec e7 with ⟨a1, a2⟩ | ⟨a1, b, a2, a3⟩
  · exact Or.inl ⟨a1, by rw [← hv, a2]⟩
  · exact Or.inr ⟨a1, b, by rw [← hv, a2], a3⟩

/-- a recorded run: a group of two puts, a client snapshot, a `Get` (reader 0) that acquires at 2 and pins its buffers
before a deletion is published and the buffer is rotated, flushed (with a compaction whose `minSeq` 2 is the front of
the snapshot list) and dropped; its answer for key `61`; then a second `Get` at 3 that sees the deletion, a `Has`, a
`Snapshot.Get` at the client snapshot's position, the release of the snapshot and a compaction at `minSeq` 3 -/
def exLines : List (List String) :=
  [["reset", "0"], ["insert", "1", "2", "p61:0a", "p62:0b"], ["publish", "2"], ["snap", "1", "2"],
   ["racq", "0", "2"], ["rmems", "0", "0"], ["insert", "3", "1", "d61"], ["publish", "3"], ["rotate"],
   ["rver", "0"], ["rrel", "0"], ["flushinstall"], ["minseq", "2"], ["compact", "2"], ["drop"]]
def exPost : List (List String) :=
  [["racq", "1", "3"], ["rmems", "1", "0"], ["rver", "1"], ["rrel", "1"], ["rget", "1", "61", "notfound", "-"],
   ["rget", "1", "62", "found", "*"], ["rget", "1", "62", "found", "0c"], ["racqs", "2", "1", "2"], ["rmems", "2"],
   ["rver", "2"], ["rrel", "2"], ["rget", "2", "61", "found", "0a"], ["snaprel", "1"], ["compact", "3"]]

set_option maxRecDepth 100000 in
/-- everything is accepted except the wrong value `0c` for key `62` -/
example : (Driver.feed {} (exLines ++ [["rget", "0", "61", "found", "0a"]] ++ exPost)).2 =
    List.replicate 22 "ok" ++ ["illegal read-62-real-found-0c-model-found-0b"] ++ List.replicate 7 "ok" := by decide +kernel

set_option maxRecDepth 100000 in
/-- the first `rget` of that run: reader 0 read key `61` = `0a` at position 2, although the deletion at 3 was
published (and flushed) before it looked -/
example : ∃ r, (Driver.feed {} (exLines ++ [["rget", "0", "61", "found", "0a"]] ++ exPost)).1.σ.readers[0]? = some r
    ∧ r.seq? = some 2
    ∧ view bytewise (Driver.feed {} (exLines ++ [["rget", "0", "61", "found", "0a"]] ++ exPost)).1.σ.hist [0x61] 2
        = some [0x0a] := by
  obtain ⟨_, i, k, r, s, val, h1, h2, h3, h4, h5, _, h7⟩ :=
    reader_trace_sound exLines exPost "0" "61" "found" "0a" (by decide +kernel) (by decide)
  have e1 : i = 0 := by
    have : Driver.natOf "0" = some 0 := by decide
    rw [this] at h1; exact (Option.some.inj h1).symm
  have e2 : k = [0x61] := by
    have : fromHex "61" = some [0x61] := by decide
    rw [this] at h2; exact (Option.some.inj h2).symm
  subst e1; subst e2
  have e3 : s = 2 := by
    have : ((Driver.feed {} (exLines ++ [["rget", "0", "61", "found", "0a"]] ++ exPost)).1.σ.readers[0]?).bind (·.seq?)
        = some 2 := by decide +kernel
    rw [h4] at this
    simp only [Option.bind_some] at this
    rw [h5] at this; exact Option.some.inj this
  subst e3
  refine ⟨r, h4, h5, ?_⟩
  rcases h7 with ⟨hh, _⟩ | ⟨_, b, hb, hv⟩
  · exact absurd hh (by decide)
  · have : Driver.parseVal "0a" = some (some [0x0a]) := by decide
    rw [this] at h3
    have := hv [0x0a] (Option.some.inj h3).symm
    rw [hb, ← this]

def theorems : List String :=
  ["GoLevel.C05.code_is_real", "GoLevel.C05.pub_monotone", "GoLevel.C05.published_in_hist", "GoLevel.C05.cover_invariant",
   "GoLevel.C05.floor_monotone", "GoLevel.C05.reader_seq_is_pub", "GoLevel.C05.reader_triple_fixed",
   "GoLevel.C05.read_linearizable", "GoLevel.C05.lookup_correct", "GoLevel.C05.lookup_order_irrelevant",
   "GoLevel.C05.no_wrong_read", "GoLevel.C05.dropEarly_breaks", "GoLevel.C05.verFirst_breaks",
   "GoLevel.C05.trOverFrozen_breaks", "GoLevel.C05.trOverFrozen_stale_read",
   "GoLevel.C05.publication_is_one_step", "GoLevel.C05.batch_atomic", "GoLevel.C05.real_time_order",
   "GoLevel.C05.writes_ordered", "GoLevel.C05.snapshot_stable", "GoLevel.C05.iterator_stable",
   "GoLevel.C05.minSeq_is_oldest_live", "GoLevel.C05.snapshot_list_never_panics", "GoLevel.C05.minSeq_matches_model",
   "GoLevel.C05.reader_trace_sound"]

end GoLevel.C05

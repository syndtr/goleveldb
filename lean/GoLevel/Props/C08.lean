import GoLevel.Proofs.DurableFault
import GoLevel.Proofs.DurableStepFault
import GoLevel.Props.C04
/-!
# Property C08 — storage failures

"Whatever sequence of storage failures occurs … the DB never returns a wrong value and never loses or hides
a write it reported as successful, neither while running nor after a later reopen.  A write that returned an
error is either wholly applied or wholly absent …, and with checksum verification on (the default) damaged
data is reported as an error rather than served."

Model: the same machine as C04 (`Dur.step`); every storage action carries an `Outcome`
(`ok | failNoEffect | failEffect`), the error paths are those of the code (`writeLocked` returns the error;
`compactionTransact` retries; `tWriter.drop`; `newManifest`'s clean-up; `Open` gives up).

What is proved (`fault_safe_partial`): for the *write path* (`wAppend`, `wSync`, `wApply`, `wPublish`,
`wAck` on the initial journal; no buffer rotation, no flush), with **every journal `Write`/`Flush`/`Sync`
allowed to fail at any position, with or without effect, any number of times**, and with
`consumeSeqOnJournalError = true` (a failed group consumes its sequence numbers):

* while running, the write buffer — what `Get` and iterators read — holds exactly the acknowledged groups
  plus the one just applied; a failed group is never in it;
* after a reopen without a crash `Open` succeeds and returns exactly the journal's groups: every
  acknowledged group (with or without `Sync`), only issued groups, each whole;
* after a crash, every crash image opens, with every group acknowledged with `Sync`, only issued groups, each
  whole.

`d4_loses_acked_write`: the explicit losing run for the code as found (`consumeSeqOnJournalError = false`,
D4): a journal `Sync` fails, the next write re-uses the sequence number, is acknowledged with `Sync`, and is
dropped by `decodeBatchToMem` at the next `Open`.

What is proved for the whole machine (`fault_safe_jobs`): crash consistency (the statement of
`C04.crash_consistent`) for every run in which **the storage operations of a memdb flush, a table compaction,
a transaction commit and a recovery may fail**, with or without effect, at any position and any number of times:
create / write / sync of an output table (the half-made table is dropped, the job retries; a recovery gives
up), the journal `newMem` creates in a recovery, the creation / write / sync of a new manifest and `SetMeta`
(the new manifest is dropped, the commit is retried), the append of a record to the manifest failing without
effect (`session.manifestFailed`: the retry writes a fresh manifest — the repair of D8), the removal of the old
manifest (logged only — the repair of D27), every removal of an obsolete file (logged only).  The two known
findings are excluded by hypotheses named after them, evaluated in the state in which the action is taken:
`Act.noD10` (the append to the manifest does not fail after the record reached the file, the manifest `Sync`
does not fail) and `Act.noD26` (`SetMeta` does not fail after it took effect — the machine has no such step:
with `failEffect` there `newManifest` removes the manifest `CURRENT` already names; `fileStorage.GetMeta`
survives this only through its `CURRENT.bak` fallback, which is outside the `storage.Storage` contract).
Journal faults of the write path are excluded there (`Act.writerFaultFree`).

`fault_safe_writer` includes them: the same statement for **every run whose storage faults avoid only D10 and D26**
(`Act.faultsOK = noD10 ∧ noD26`): every journal `Write`/`Flush`/`Sync` failure of the write path, with or without
effect, the `Create` of `newMem` failing with or without effect, and all the faults of `fault_safe_jobs`,
interleaved in any way with rotations, flushes, table compactions, transactions, crashes and recoveries
(`consumeSeqOnJournalError = true`, the repair of D4).  Two situations this covers (the invariant's clauses for them:
`JournalHolds`, `ViewOK.jseq`/`tj`, `RecOK.todoSeq`, `RunOK.nums`/`jmax` in `Proofs/DurableInv.lean`):

* the record of a failed write sits in a journal the next `Open` replays, *below the manifest's sequence number* (a
  transaction was committed meanwhile; `OpenTransaction` rotates the journal only when the write buffer is not
  empty).  It is never a record that must survive, and the replay skips it (`replayJ_filter`; `decodeBatchToMem`
  checks the first sequence number of the batch, `recoverJournal` logs "journal error … (skipped)").
  **`Options.StrictJournal` is outside the model** (`Dur.recoverR` is the default, non-strict `Open`): with it
  `recoverJournal` returns that "invalid sequence number" error and `Open` fails although nothing acknowledged is
  lost;
* `newMem`'s `Create` made the journal file and reported an error, `reuseFileNum` handed the number back: an empty
  journal at or above the next file number.  File numbers are per type, a table or a manifest may take the number;
  the next `newMem` truncates and adopts the file, an `Open` replays it last and finds nothing.

D10 and D26 are repaired in the tree (commits 5cf4e90, 8a67fea) and the machine follows the repaired code:
`Transaction.Discard` after a failed `Commit` (`Dur.trDiscardJob`) leaves the transaction's tables alone while
`session.manifestFailed` is set (`Cfg.discardKeepsTablesWhenUncertain`), and the cleanup of `newManifest` keeps the
new manifest when `SetMeta` reported an error after it took effect (`Cfg.cleanupChecksCurrent`; the commit still
fails, `manifestFailed` is set, the retry writes another manifest).  The code as found is behind the two flags, with
its losing runs as the records of the findings (`d10_discard_after_failed_commit_loses_table`,
`d26_setmeta_effect_then_cleanup_loses_current`); `code_discard_guard_and_cleanup_check` ties the flags to the
source.  The first repair of D26 left one combination of *two* storage faults that lost the entry point: `SetMeta`
fails after it took effect and the `GetMeta` of the cleanup fails too (`setmeta_and_getmeta_fail_lose_current`, on
`cleanupKeepsWhenGetMetaFails = false`); commit 98bd5c2 keeps the file in that case as well.

`fault_safe_writer` (and `fault_safe_writer_created`, from an empty storage) hold for every good configuration,
the code as found included, and therefore carry `noD10`/`noD26`.

**The repaired code under every storage fault: `fault_safe` (= `fault_safe_full`).**  Between a manifest append,
`Sync` or `SetMeta` that reported an error *with the record in the file* and the next successful `newManifest` the
storage is one edit ahead of the session: a crash image may show an edit whose commit was reported as failed.  The
machine carries that edit as a ghost (`St.limbo`, never read by the machine); the invariant says the session mirrors
the manifest up to it (`MirrorL`, `LimboOK`, `OrphanOK` in `Proofs/DurableInv.lean`).  `fault_safe` proves crash
consistency for the repaired configuration, from an empty storage, for **every run of the machine: every storage
operation may fail in any way at any time** — the shapes of D10 and D26 (with or without the `GetMeta` of the cleanup
failing too) included, followed by `Discard`, retries, further faults, crashes.  There is no side condition on the
run; the side condition on the configuration is the three repairs.  The standing condition inside the proof is
`Dur.LimboSafe`: while the storage is ahead, `Discard` must leave the tables alone — for the code as found the D10 run
violates exactly it.
Random exploration of the machine with every fault class enabled (outside this framework, the
invariant itself evaluated after every step) agrees: 0 violations for the repaired configuration, violations for
`discardKeepsTablesWhenUncertain = false`, `cleanupChecksCurrent = false` and `cleanupKeepsWhenGetMetaFails = false`.
Damaged data under checksum verification: C12 (journal chunks) and C13 (table blocks).
-/
namespace GoLevel.C08
open GoLevel GoLevel.Dur

/-- the groups whose write returned `nil` -/
def acked (s : St) (g : Grp) : Prop := statusOf s g .acked

/-- **C08 for the write path under journal faults** (`consumeSeqOnJournalError = true`). -/
theorem fault_safe_partial {cfg : Cfg} (hc : cfg.consumeSeqOnJournalError = true) {s : St} {d : Disk}
    (hr : ReachableW cfg (s, d)) :
    -- while running: reads see the acknowledged groups and the one just applied, nothing else
    ((∀ g ∈ s.mem, g ∈ issuedGrps s ∧ (acked s g ∨ g ∈ appliedNow s.w)) ∧ (∀ g, acked s g → g ∈ s.mem)) ∧
    -- after a reopen (no crash): everything acknowledged, only issued groups, each whole
    (∃ r, recoverR cfg d = .ok r ∧ (∀ g, acked s g → g ∈ r.grps) ∧ (∀ g ∈ r.grps, g ∈ issuedGrps s) ∧
      r.entries = r.grps.flatMap Grp.ents) ∧
    -- after a crash: everything acknowledged with `Sync`
    (∀ ch, ∃ r, recoverR cfg (crashWith ch d) = .ok r ∧
      (∀ g, acked s g → g.sync = true → g ∈ r.grps) ∧ (∀ g ∈ r.grps, g ∈ issuedGrps s)) := by
  obtain ⟨jf, hw⟩ := winv_reachable hc hr
  obtain ⟨hm1, hm2, _⟩ := hw.mem
  refine ⟨⟨fun g hg => ⟨hw.issued g (hm1 g hg).1, (hm1 g hg).2⟩, hm2⟩, ?_, fun ch => ?_⟩
  · obtain ⟨r, hrec, hgr⟩ := hw.disk.open_ok cfg
    refine ⟨r, hrec, fun g hg => ?_, fun g hg => ?_, rfl⟩
    · rw [hgr]; exact (hm1 g (hm2 g hg)).1
    · rw [hgr] at hg; exact hw.issued g hg
  · obtain ⟨r, hrec, hgr⟩ := (hw.disk.crash ch).open_ok cfg
    have hall := crashLog_all (ch.cutJ 2) jf
    refine ⟨r, hrec, fun g hg hgs => ?_, fun g hg => ?_⟩
    · rw [hgr, hall.1]; exact List.mem_append_left _ (hw.synced.1 g hg hgs)
    · rw [hgr] at hg
      apply hw.issued
      rw [hall.2.2]; exact List.mem_append_left _ hg

/-! ## non-vacuity, and D4 -/

def putA : List Batch.Rec := [⟨1, [97], [1]⟩]
def putB : List Batch.Rec := [⟨1, [98], [2]⟩]

/-- a journal `Sync` fails (the record is in the file), then a second write is acknowledged with `Sync` -/
def syncFailsThenWrite : List Act :=
  [.wAppend putA true .ok, .wSync .failNoEffect,
   .wAppend putB true .ok, .wSync .ok, .wApply, .wPublish, .wAck]

/-- the acknowledged-with-`Sync` groups missing after a reopen of the final state of a run -/
def lostAfterReopen (cfg : Cfg) (as : List Act) : Option (List Nat) :=
  (run cfg init as).map fun sd =>
    match recoverR cfg sd.2 with
    | .ok r => ((Dur.ackedSync sd.1.issued).filter fun g => !(r.grps.contains g)).map (·.seq)
    | .error _ => [0]

/-- what the reopened DB returns for keys `"a"` and `"b"` -/
def readsAB (cfg : Cfg) (as : List Act) : Option (Option Bytes × Option Bytes) :=
  (run cfg init as).map fun sd =>
    match recoverR cfg sd.2 with
    | .ok r => (r.get bytewise [97], r.get bytewise [98])
    | .error _ => (none, none)

/-- with the sequence numbers consumed, the acknowledged write `b` is there after the reopen; the failed write
    `a` happens to be there as well (its record reached the file) — wholly -/
example : lostAfterReopen {} syncFailsThenWrite = some [] := by decide +kernel
example : readsAB {} syncFailsThenWrite = some (some [1], some [2]) := by decide +kernel

/-- **D4 (the code as found).**  The failed group keeps sequence number 1, the next group gets 1 again, is
    acknowledged with `Sync` — and `Open` drops it ("invalid sequence number"): `b` is gone, `a`, whose write
    returned an error, is served. -/
theorem d4_loses_acked_write :
    lostAfterReopen { consumeSeqOnJournalError := false } syncFailsThenWrite = some [1] ∧
    readsAB { consumeSeqOnJournalError := false } syncFailsThenWrite = some (some [1], none) := by decide +kernel

/-- **C08 for the jobs under storage faults.**  Every run whose faults are those of `Act.jobFaultsOnly` (every
    failure inside a flush, a table compaction, a transaction commit or a recovery, the known findings D10 and
    D26 excepted) ends in a state all of whose crash images open and are consistent with the history. -/
theorem fault_safe_jobs {cfg : Cfg} (hg : cfg.Good) {as : List Act} {s : St} {d : Disk}
    (hal : Allowed cfg (fun sd a => a.jobFaultsOnly sd.1) init as) (hr : run cfg init as = some (s, d))
    {d' : Disk} (hi : IsCrashImage d d') {c : UCmp} (hl : LawfulUCmp c) (hw : ∀ g ∈ issuedGrps s, g.wf) :
    ∃ r, recoverR cfg d' = .ok r ∧ ∃ sel, C04.Consistent c s r sel := by
  obtain ⟨ch, rfl⟩ := hi
  exact C04.consistent_of_inv hg.noTrace (inv_run_jobFaults hg (inv_init cfg) as hal hr) ch hl hw

/-- a flush in which the table `Write` fails once (with effect), the creation of the table fails once, the
    append to the manifest fails without effect (so that the retry writes a new manifest), the `Write` of the
    new manifest fails once and the removal of the old manifest fails -/
def faultyFlush : List Act :=
  [.wAppend C04.putKV true .ok, .wSync .ok, .wApply, .wPublish, .wAck, .rotate .ok, .flushStart,
   .job false .ok, .job false .failEffect,             -- tCreate, tWrite fails: back to tCreate
   .job false .failNoEffect,                            -- tCreate fails
   .job false .ok, .job false .ok, .job false .ok,      -- the table
   .job false .failNoEffect,                            -- append fails: `manifestFailed`
   .job false .ok,                                      -- append: a new manifest is created
   .job false .failEffect,                              -- rotWrite fails: the new manifest is dropped
   .job false .ok, .job false .ok, .job false .ok, .job false .ok,   -- create, rotWrite, rotSync, rotSetMeta
   .job false .failNoEffect,                            -- rotRemove fails: logged
   .job false .ok, .job false .failNoEffect, .job false .ok, .job false .ok, .job false .ok]

/-- … is a run `fault_safe_jobs` speaks about, the acknowledged write survives every step of it … -/
example : allowed {} (fun sd a => a.jobFaultsOnly sd.1) init faultyFlush = true := by decide +kernel
example : (List.range (faultyFlush.length + 1)).all (fun n =>
    C04.losesAcked {} {} (faultyFlush.take n) == some false) = true := by decide +kernel
/-- … the flush completes and the value is read from the table after a reopen -/
example : (run {} init faultyFlush).map (fun sd => (sd.1.job, sd.2.journals.map (·.1), sd.2.current,
    sd.2.manifests.map (·.1))) = some (none, [2, 3], some 6, [1, 6]) := by decide +kernel
example : C04.readsK {} faultyFlush = some (some [118]) := by decide +kernel

/-- **C08 for the whole machine, D10 and D26 excepted** (the header's `fault_safe_writer` paragraph): the faults are
    those of `Act.faultsOK`, evaluated in the state in which the action is taken; the conclusion is the statement of
    `C04.crash_consistent`.  `Open` is the default one (`Options.StrictJournal` is outside the model). -/
theorem fault_safe_writer {cfg : Cfg} (hg : cfg.Good) (hcs : cfg.consumeSeqOnJournalError = true)
    {as : List Act} {s : St} {d : Disk}
    (hal : Allowed cfg Act.faultsOK init as) (hr : run cfg init as = some (s, d))
    {d' : Disk} (hi : IsCrashImage d d') {c : UCmp} (hl : LawfulUCmp c) (hw : ∀ g ∈ issuedGrps s, g.wf) :
    ∃ r, recoverR cfg d' = .ok r ∧ ∃ sel, C04.Consistent c s r sel := by
  obtain ⟨ch, rfl⟩ := hi
  exact C04.consistent_of_inv hg.noTrace (inv_run_faults hg hcs (inv_init cfg) as hal hr) ch hl hw

/-- a write whose journal `Write` fails after the record reached the file, a write whose `Sync` fails, a good
    synced write, then the rotation of the buffer and its flush — with a failing table `Write` on the way -/
def faultyWrites : List Act :=
  [.wAppend [⟨1, [97], [1]⟩] true .failEffect,                       -- "a": Write fails, the record is in the file
   .wAppend [⟨1, [98], [2]⟩] true .ok, .wSync .failNoEffect,         -- "b": Sync fails
   .wAppend C04.putKV true .ok, .wSync .ok, .wApply, .wPublish, .wAck,   -- "k": acknowledged with Sync
   .rotate .failNoEffect, .rotate .ok, .flushStart,
   .job false .ok, .job false .failEffect,                            -- tCreate, tWrite fails
   .job false .ok, .job false .ok, .job false .ok,                    -- the table
   .job false .ok, .job false .ok, .job false .ok,                    -- append, sync, install
   .job false .ok, .job false .ok, .job false .ok, .job false .ok]    -- removals, done

/-- … is a run `fault_safe_writer` speaks about; the acknowledged write survives a crash after every
    prefix; after the flush the failed records are gone with the journal, the acknowledged value is read -/
example : allowed {} Act.faultsOK init faultyWrites = true := by decide +kernel
example : (List.range (faultyWrites.length + 1)).all (fun n =>
    C04.losesAcked {} {} (faultyWrites.take n) == some false) = true := by decide +kernel
example : C04.readsK {} faultyWrites = some (some [118]) := by decide +kernel
/-- before the flush a reopen (no crash) replays the failed records too: "a" and "b" are wholly applied -/
example : readsAB {} (faultyWrites.take 8) = some (some [1], some [2]) := by decide +kernel
/-- … after it they are wholly absent -/
example : readsAB {} faultyWrites = some (none, none) := by decide +kernel

/-- the two shapes `JournalHolds` and `RunOK.nums` allow for: a write whose journal `Write` fails with the record
    in the file while the buffer is empty, then a transaction over that journal (its commit puts the manifest's
    sequence number above the record), an acknowledged write, a crash and the recovery; and before that a
    `newMem` whose `Create` fails after the file was made, twice, with a table taking the number in between -/
def staleRecordAndLeftover : List Act :=
  [.wAppend C04.putKV true .ok, .wSync .ok, .wApply, .wPublish, .wAck,
   .rotate .failEffect, .rotate .ok, .flushStart] ++ List.replicate 10 (.job false .ok) ++
  [.rotate .failEffect, .compactStart [4]] ++ List.replicate 10 (.job false .ok) ++
  [.wAppend [⟨1, [97], [1]⟩] true .failEffect,                        -- "a": failed, but in the journal
   .trBegin, .trPut [⟨1, [98], [2]⟩], .trCommit] ++ List.replicate 9 (.job false .ok) ++    -- "b" by transaction
  [.crash {}, .recOpen, .recStep, .recStep] ++ List.replicate 4 (.job false .ok)

example : allowed {} Act.faultsOK init staleRecordAndLeftover = true := by decide +kernel
example : (run {} init staleRecordAndLeftover).isSome = true := by decide +kernel
example : (List.range (staleRecordAndLeftover.length + 1)).all (fun n =>
    C04.losesAcked {} {} (staleRecordAndLeftover.take n) == some false) = true := by decide +kernel
/-- after the transaction a reopen skips "a" (below the manifest's sequence number) and has "b" and "k" -/
example : readsAB {} (staleRecordAndLeftover.take 45) = some (none, some [2]) := by decide +kernel
example : C04.readsK {} staleRecordAndLeftover = some (some [118]) := by decide +kernel

/-! ## the records of D10 and D26, and the double fault that is left -/

/-- a transaction whose commit fails at the manifest `Sync` — after the record became durable —, three attempts later
    (here: at once) the client discards it -/
def trCommitSyncFailsThenDiscard : List Act :=
  [.trBegin, .trPut C04.putKV, .trCommit, .job false .ok, .job false .ok, .job false .ok,   -- the table
   .job false .ok, .job false .failEffect,                                                   -- append, Sync fails
   .trDiscard]

/-- **D10 (the code as found, `discardKeepsTablesWhenUncertain = false`).**  `Transaction.discard` removes the
    transaction's table although the record that names it is in the manifest: the next `Open` fails with missing
    files — after a clean exit and after a crash. -/
theorem d10_discard_after_failed_commit_loses_table :
    ((run { discardKeepsTablesWhenUncertain := false } init trCommitSyncFailsThenDiscard).map fun sd =>
      (C04.openError { discardKeepsTablesWhenUncertain := false } sd.2,
       C04.openError { discardKeepsTablesWhenUncertain := false } (crashWith {} sd.2))) =
    some (some .missingFiles, some .missingFiles) := by decide +kernel

/-- … repaired (commit 5cf4e90): the manifest is uncertain, the table stays; `Open` succeeds and the transaction that
    was reported as failed is there as a whole -/
example : ((run {} init trCommitSyncFailsThenDiscard).map fun sd =>
    (C04.openError {} sd.2, C04.openError {} (crashWith {} sd.2), sd.2.tables.map (·.1))) =
    some (none, none, [3]) := by decide +kernel
example : C04.readsK {} trCommitSyncFailsThenDiscard = some (some [118]) := by decide +kernel

/-- a synced write, its flush with the commit rotating the manifest; `SetMeta` reports an error (`o`) -/
def flushRotatingSetMeta (getMetaFails : Bool) (o : Outcome) : List Act :=
  [.wAppend C04.putKV true .ok, .wSync .ok, .wApply, .wPublish, .wAck, .rotate .ok, .flushStart,
   .job false .ok, .job false .ok, .job false .ok,                      -- the table
   .job true .ok, .job false .ok, .job false .ok,                       -- newManifest: Create, the record, Sync
   .job getMetaFails o]                                                 -- SetMeta

/-- **D26 (the code as found, `cleanupChecksCurrent = false`).**  `SetMeta` fails after it took effect, the cleanup of
    `newManifest` removes the manifest `CURRENT` names: every later `Open` fails. -/
theorem d26_setmeta_effect_then_cleanup_loses_current :
    ((run { cleanupChecksCurrent := false } init (flushRotatingSetMeta false .failEffect)).map fun sd =>
      (C04.openError { cleanupChecksCurrent := false } sd.2, sd.2.current, sd.2.manifests.map (·.1))) =
    some (some .corrupted, some 5, [1]) := by decide +kernel

/-- … repaired (commit 8a67fea): `GetMeta` names the new manifest, it is kept; the commit fails all the same, is
    retried, and writes yet another manifest -/
example : ((run {} init (flushRotatingSetMeta false .failEffect)).map fun sd =>
    (C04.openError {} sd.2, sd.2.current, sd.2.manifests.map (·.1), sd.1.manifestFailed, sd.1.manifestFd)) =
    some (none, some 5, [1, 5], true, some 1) := by decide +kernel
example : C04.losesAcked {} {} (flushRotatingSetMeta false .failEffect) = some false := by decide +kernel
example : C04.losesAcked {} {} (flushRotatingSetMeta false .failEffect ++
    [.job false .ok, .job false .ok, .job false .ok, .job false .ok, .job false .ok]) = some false := by decide +kernel

/-- **D26, second part (commit 8a67fea alone, `cleanupKeepsWhenGetMetaFails = false`): two storage faults in a row.**
    `SetMeta` reports an error after it took effect *and* the `GetMeta` of the cleanup fails too: `gerr != nil`, the
    cleanup falls through to `Remove(fd)` and removes the manifest `CURRENT` names. -/
theorem setmeta_and_getmeta_fail_lose_current :
    ((run { cleanupKeepsWhenGetMetaFails := false } init (flushRotatingSetMeta true .failEffect)).map fun sd =>
      (C04.openError { cleanupKeepsWhenGetMetaFails := false } sd.2, sd.2.current, sd.2.manifests.map (·.1))) =
    some (some .corrupted, some 5, [1]) := by decide +kernel

/-- … repaired (commit 98bd5c2, `metaTried`): the manifest is kept when `GetMeta` fails (`gerr != nil || cur == fd`) —
    also when `SetMeta` had no effect: the file stays behind, not current, `manifestFailed` is set -/
example : ((run {} init (flushRotatingSetMeta true .failEffect)).map fun sd =>
    (C04.openError {} sd.2, sd.2.current, sd.2.manifests.map (·.1), sd.1.manifestFailed)) =
    some (none, some 5, [1, 5], true) := by decide +kernel
example : ((run {} init (flushRotatingSetMeta true .failNoEffect)).map fun sd =>
    (C04.openError {} sd.2, sd.2.current, sd.2.manifests.map (·.1), sd.1.manifestFailed)) =
    some (none, some 1, [1, 5], true) := by decide +kernel
example : C04.losesAcked {} {} (flushRotatingSetMeta true .failNoEffect ++
    [.job false .ok, .job false .ok, .job false .ok, .job false .ok, .job false .ok]) = some false := by decide +kernel

/-- the model follows the code in the tree for the two repairs (`tools/extract`): `Transaction.discard` returns
    before its removal loop when `tr.db.s.manifestUncertain()`; the error branch of `newManifest`'s cleanup, once
    `SetMeta(fd)` has been attempted (`metaTried`), asks `s.stor.GetMeta()` and keeps the file when
    `gerr != nil || cur == fd`, before `s.stor.Remove(fd)` -/
theorem code_discard_guard_and_cleanup_check :
    C04.codeCfg.discardKeepsTablesWhenUncertain = true ∧ Gen.discardGuardsUncertainManifest = true ∧
    C04.codeCfg.cleanupChecksCurrent = true ∧ C04.codeCfg.cleanupKeepsWhenGetMetaFails = true ∧
    Gen.newManifestCleanupChecksCurrent = true ∧ C04.codeCfg = {} := by
  decide +kernel

/-- `fault_safe_writer` from an empty storage: the machine with the creation of the DB in front
    (`Dur.bigStep`), every storage operation of the creation may fail as well (`SetMeta` after it took effect
    excepted, as `noD26`) and the machine may crash inside it. -/
theorem fault_safe_writer_created {cfg : Cfg} (hg : cfg.Good) (hcs : cfg.consumeSeqOnJournalError = true)
    (hc : cfg.manifestsAloneAreNoDB = true) {xs : List BAct} {b : Big}
    (hal : bigAllowed cfg Act.faultsOK CPc.noD26 init0 xs = true) (hr : bigRun cfg init0 xs = some b)
    {d' : Disk} (hi : IsCrashImage b.disk d') {c : UCmp} (hl : LawfulUCmp c) (hw : ∀ g ∈ issuedGrps b.st, g.wf) :
    ∃ r, recoverR cfg d' = .ok r ∧ ∃ sel, C04.Consistent c b.st r sel := by
  obtain ⟨ch, rfl⟩ := hi
  have hinv : BigInv cfg b := by
    refine bigInv_run (fun s d a s' d' h hp hs => inv_step_faults hg h (Or.inr hcs) hp hs) ?_ (bigInv_init0 cfg) xs hal hr
    intro pc o gm hq hp ho
    subst hp ho
    simp [CPc.noD26] at hq
  exact C04.consistent_of_bigInv hg.noTrace hc hinv ch hl hw

/-- every storage operation of the creation fails once (with effect where it can), then the DB is created and used -/
def faultyCreation : List BAct :=
  [.c .failEffect false, .c .ok false, .c .failEffect false, .c .ok false, .c .ok false, .c .failNoEffect false,
   .c .ok false, .c .ok false, .c .ok false, .c .failNoEffect false, .c .ok false, .c .ok false, .c .ok false, .c .ok false] ++
  (([Act.recStep] ++ List.replicate 8 (Act.job false .ok) ++
    [Act.wAppend C04.putKV true .ok, Act.wSync .ok, Act.wApply, Act.wPublish, Act.wAck] : List Act).map BAct.a)

example : bigAllowed {} Act.faultsOK CPc.noD26 init0 faultyCreation = true := by decide +kernel
example : (bigRun {} init0 faultyCreation).map (fun b => (C04.openError {} (crashWith {} b.disk), b.st.phase)) =
    some (none, .running) := by decide +kernel

/-- **The statement with every fault class**: crash consistency for every run of the machine with the creation in
    front in which any storage operation may fail in any way, for the configuration with D4, D10, D12 and D26 repaired. -/
def fault_safe_full : Prop :=
  ∀ (cfg : Cfg), cfg.Good → cfg.consumeSeqOnJournalError = true → cfg.manifestsAloneAreNoDB = true →
    cfg.discardKeepsTablesWhenUncertain = true → cfg.cleanupChecksCurrent = true →
    cfg.cleanupKeepsWhenGetMetaFails = true →
    ∀ (xs : List BAct) (b : Big), bigRun cfg init0 xs = some b →
      ∀ d', IsCrashImage b.disk d' → ∀ (c : UCmp), LawfulUCmp c → (∀ g ∈ issuedGrps b.st, g.wf) →
        ∃ r, recoverR cfg d' = .ok r ∧ ∃ sel, C04.Consistent c b.st r sel

/-- **C08 for the repaired code, every storage fault** (the header's last paragraph): from an empty storage
    (`Dur.init0`), for the configuration with D4, D10, D12 and D26 repaired, every run ends in a state all of whose crash
    images open and are consistent with the history. -/
theorem fault_safe : fault_safe_full := by
  intro cfg hg hcs hc h10 h26a h26b xs b hr d' hi c hl hw
  obtain ⟨ch, rfl⟩ := hi
  have hrep : cfg.Repaired := ⟨hg, hcs, h10, h26a, h26b⟩
  have hinv : BigInv cfg b := by
    refine bigInv_run (P := fun _ _ => true) (Q := fun _ _ _ => true)
      (fun s d a s' d' h _ hs => inv_step_repaired hrep h hs) ?_ (bigInv_init0 cfg) xs (bigAllowed_true cfg _ xs) hr
    intro pc o gm _ _ _
    rw [h26a, h26b]
    cases gm <;> rfl
  exact C04.consistent_of_bigInv hg.noTrace hc hinv ch hl hw

/-- … and from the created DB (`Dur.init`) -/
theorem fault_safe_running {cfg : Cfg} (hg : cfg.Good) (hcs : cfg.consumeSeqOnJournalError = true)
    (h10 : cfg.discardKeepsTablesWhenUncertain = true)
    (h26a : cfg.cleanupChecksCurrent = true) (h26b : cfg.cleanupKeepsWhenGetMetaFails = true)
    {as : List Act} {s : St} {d : Disk} (hr : run cfg init as = some (s, d))
    {d' : Disk} (hi : IsCrashImage d d') {c : UCmp} (hl : LawfulUCmp c) (hw : ∀ g ∈ issuedGrps s, g.wf) :
    ∃ r, recoverR cfg d' = .ok r ∧ ∃ sel, C04.Consistent c s r sel := by
  obtain ⟨ch, rfl⟩ := hi
  exact C04.consistent_of_inv hg.noTrace (inv_run_repaired ⟨hg, hcs, h10, h26a, h26b⟩ (inv_init cfg) as hr) ch hl hw

/-- a transaction whose commit fails at the append of its record — after the record reached the file —, the client
    discards it; then a synced write, the rotation of the buffer and its flush, whose commit goes through
    `newManifest` (`manifestFailed`) with `SetMeta` failing after it took effect, and the retry -/
def trAppendFailsDiscardThenSetMetaFails : List Act :=
  [.trBegin, .trPut [⟨1, [98], [2]⟩], .trCommit, .job false .ok, .job false .ok, .job false .ok,   -- the table
   .job false .failEffect,                                              -- append fails, the record is in the file
   .trDiscard,                                                          -- the table stays
   .wAppend C04.putKV true .ok, .wSync .ok, .wApply, .wPublish, .wAck, .rotate .ok, .flushStart,
   .job false .ok, .job false .ok, .job false .ok,                      -- the table of the flush
   .job false .ok, .job false .ok, .job false .ok,                      -- newManifest: Create, the record, Sync
   .job false .failEffect,                                              -- SetMeta fails after it took effect
   .job false .ok, .job false .ok, .job false .ok, .job false .ok,      -- the retry: another manifest
   .job false .ok, .job false .ok, .job false .ok, .job false .ok, .job false .ok, .job false .ok]

/-- … is a run `fault_safe_running` speaks about and none `fault_safe_writer` does; the acknowledged
    write survives a crash after every prefix; at the end the flush is complete and the value is read -/
example : allowed {} Act.faultsOK init trAppendFailsDiscardThenSetMetaFails = false := by decide +kernel
example : (List.range (trAppendFailsDiscardThenSetMetaFails.length + 1)).all (fun n =>
    C04.losesAcked {} {} (trAppendFailsDiscardThenSetMetaFails.take n) == some false) = true := by decide +kernel
example : (run {} init trAppendFailsDiscardThenSetMetaFails).map (fun sd => (sd.1.job, sd.1.limbo.isSome, sd.1.manifestFailed)) =
    some (none, false, false) := by decide +kernel
example : C04.readsK {} trAppendFailsDiscardThenSetMetaFails = some (some [118]) := by decide +kernel
/-- after the `Discard` the storage is ahead of the session (the ghost edit), every crash image opens, the discarded
    transaction's table is adopted by that `Open` -/
example : (run {} init (trAppendFailsDiscardThenSetMetaFails.take 8)).map (fun sd =>
    (sd.1.limbo.isSome, sd.1.job, C04.openError {} (crashWith {} sd.2), sd.2.tables.map (·.1))) =
    some (true, none, none, [3]) := by decide +kernel

/-- a synced write and its flush; the `Sync` of the manifest after the append of the commit's record fails (`o`: with the
    record durable or not); the commit is retried through `newManifest` and completes -/
def flushManifestSyncFails (o : Outcome) : List Act :=
  [.wAppend C04.putKV true .ok, .wSync .ok, .wApply, .wPublish, .wAck, .rotate .ok, .flushStart,
   .job false .ok, .job false .ok, .job false .ok,                      -- the table
   .job false .ok, .job false o] ++                                     -- append, Sync fails
  List.replicate 10 (.job false .ok)                                    -- the retry, the removals

/-- … no acknowledged write is lost after any prefix, whichever way the `Sync` fails; the storage is ahead of the
    session after the failure; the flush completes and the value is read -/
example : (List.range ((flushManifestSyncFails .failEffect).length + 1)).all (fun n =>
    C04.losesAcked {} {} ((flushManifestSyncFails .failEffect).take n) == some false) = true := by decide +kernel
example : (List.range ((flushManifestSyncFails .failNoEffect).length + 1)).all (fun n =>
    C04.losesAcked {} {} ((flushManifestSyncFails .failNoEffect).take n) == some false) = true := by decide +kernel
example : (run {} init ((flushManifestSyncFails .failNoEffect).take 12)).map (fun sd =>
    (sd.1.limbo.isSome, sd.1.manifestFailed, sd.1.job.map (·.pc))) = some (true, true, some .append) := by decide +kernel
example : (run {} init (flushManifestSyncFails .failNoEffect)).map (fun sd => (sd.1.job, sd.1.limbo.isSome)) =
    some (none, false) := by decide +kernel
example : C04.readsK {} (flushManifestSyncFails .failEffect) = some (some [118]) := by decide +kernel
example : C04.readsK {} (flushManifestSyncFails .failNoEffect) = some (some [118]) := by decide +kernel

/-- The property theorems of this file (for the audit). -/
def theorems : List String :=
  ["GoLevel.C08.fault_safe_partial", "GoLevel.C08.fault_safe_jobs", "GoLevel.C08.fault_safe_writer",
   "GoLevel.C08.fault_safe_writer_created", "GoLevel.C08.fault_safe",
   "GoLevel.C08.fault_safe_running", "GoLevel.C08.d4_loses_acked_write",
   "GoLevel.C08.d10_discard_after_failed_commit_loses_table",
   "GoLevel.C08.d26_setmeta_effect_then_cleanup_loses_current", "GoLevel.C08.setmeta_and_getmeta_fail_lose_current",
   "GoLevel.C08.code_discard_guard_and_cleanup_check"]

end GoLevel.C08

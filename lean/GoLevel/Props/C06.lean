import GoLevel.Proofs.LSMCompactView
import GoLevel.Proofs.LSMOverlap
import GoLevel.Proofs.PickCut
/-!
# Property C06 — the live table set is always a well-formed LSM tree

"After every version edit (memdb flush, table compaction, trivial move) the live tables form a
well-formed LSM tree: every table is sorted with exact smallest/largest keys, the tables of each level
≥ 1 have pairwise disjoint user-key ranges and are ordered, and for every user key each level holds only
newer entries than all deeper levels."

Model: `GoLevel/Model/LSM.lean` — `Version.wfB` (`Table.wfB`, `levelDisjointB`, `levelsOrderedB`),
`Version.apply` (`version.spawn` / `versionStaging`), `legalCut`, `getOverlapsL0`, `getOverlapsSorted`,
`getRange`; the edits `flushEdit`, `replaceEdit` and the Go index arithmetic `getOverlapsSortedIdx` are in
`GoLevel/Proofs/LSMEdits.lean`, `GoLevel/Proofs/LSMOverlap.lean`.

The hypotheses are the ones the Go code establishes and a trace validator must check on each edit:
* flush: the new table is newer than everything live, and (if placed at `L > 0`) overlaps no table of
  levels `0…L` — `pickMemdbLevel`;
* compaction (`CompactionOK`): (L0) for `ℓ = 0` the inputs `S0` are closed under user-key overlap within
  level 0 — `expand` calls `getOverlaps(…, overlapped = true)`; (L1) `S1` is exactly the set of tables of
  level `ℓ+1` whose user-key range meets that of `S0` **under the user comparer**; (L2) the output is cut
  only between different user keys.  Each is shown necessary by a concrete counterexample below.
-/
namespace GoLevel.C06

def e (k : UInt8) (seq kind : Nat) (v : UInt8) : Entry := ⟨mkIKey [k] seq kind, [v]⟩

def tA : Table := ⟨5, 10, [e 1 7 0 0, e 2 6 1 0xb2], mkIKey [1] 7 0, mkIKey [2] 6 1⟩
def tB : Table := ⟨4, 10, [e 1 5 1 0xa1, e 3 4 1 0xc1], mkIKey [1] 5 1, mkIKey [3] 4 1⟩
def tC : Table := ⟨2, 10, [e 1 2 1 0xa0, e 2 3 1 0xb0], mkIKey [1] 2 1, mkIKey [2] 3 1⟩
def tD : Table := ⟨3, 10, [e 5 3 1 0xe0], mkIKey [5] 3 1, mkIKey [5] 3 1⟩
def tF : Table := ⟨1, 10, [e 2 1 1 0xbb], mkIKey [2] 1 1, mkIKey [2] 1 1⟩
/-- level 0 = {A, B} (overlapping), level 1 = {C, D}, level 2 = {F} -/
def exV : Version := ⟨[[tA, tB], [tC, tD], [tF]]⟩
def tN1 : Table := ⟨6, 10, [e 1 7 0 0, e 1 5 1 0xa1], mkIKey [1] 7 0, mkIKey [1] 5 1⟩
def tN2 : Table := ⟨7, 10, [e 2 6 1 0xb2, e 2 3 1 0xb0, e 3 4 1 0xc1], mkIKey [2] 6 1, mkIKey [3] 4 1⟩

example : exV.wfB bytewise = true := by decide +kernel

theorem wf_iff {c : UCmp} (hl : LawfulUCmp c) (v : Version) :
    v.wfB c = true ↔
      (∀ i, ∀ t ∈ v.lvl i, t.wfB c = true) ∧
      (∀ i, 1 ≤ i → (v.lvl i).Pairwise (fun a b => c.lt a.imax.ukey b.imin.ukey)) ∧
      (∀ i j, i < j → NewerThan (Level.entries (v.lvl i)) (Level.entries (v.lvl j))) := by
  rw [Version.wfB_iff_WFi hl]
  exact ⟨fun h => ⟨h.tables, h.disjoint, h.ordered⟩, fun h => ⟨h.1, h.2.1, h.2.2⟩⟩

theorem level_sorted {c : UCmp} (hl : LawfulUCmp c) (l : Level) (hwf : ∀ t ∈ l, t.wfB c = true)
    (hd : levelDisjointB c l = true) : sortedB c (Level.entries l) = true :=
  (sortedB_iff hl _).2 (Level.entries_sorted hl l hwf hd)

example : sortedB bytewise (Level.entries [tC, tD]) = true := by decide

theorem edit_preserves_wf {c : UCmp} (hl : LawfulUCmp c) (v : Version) (ed : Edit) (hv : v.wfB c = true)
    (he : EditOK c v ed) : (v.apply c ed).wfB c = true := apply_wf hl v ed hv he

/-- **`flush_preserves_wf`**: a table made of a buffer whose entries are newer (per user key) than
everything in the version, placed at level 0 — or at level `L > 0` when no table of levels `0…L` overlaps
its user-key range (`pickMemdbLevel`) — keeps the version well formed. -/
theorem flush_preserves_wf {c : UCmp} (hl : LawfulUCmp c) (v : Version) (t : Table) (L : Nat)
    (hv : v.wfB c = true) (ht : t.wfB c = true) (hnew : newerThanB c t.entries v.entries = true)
    (hno : L = 0 ∨ ∀ i, i ≤ L → ∀ x ∈ v.lvl i, x.overlapsRange c t.imin.ukey t.imax.ukey = false) :
    (v.apply c (flushEdit L t)).wfB c = true := by
  have hnew := (newerThanB_iff hl _ _).1 hnew
  have hw := (Version.wfB_iff_WFi hl v).1 hv
  have hsurv := v.survivors_sub (flushEdit L t)
  have hdis : ∀ i, i ≤ L → L ≠ 0 → ∀ x ∈ v.lvl i, tlt c t x ∨ tlt c x t := by
    intro i hi hL x hx
    rcases hno with h | h
    · exact absurd h hL
    · exact ((not_overlapsRange_iff hl x _ _).1 (h i hi x hx)).symm
  -- the edit adds the one pair `(L, t)`
  refine apply_wf hl v _ hv ⟨List.forall_mem_singleton.2 ht, List.forall_mem_singleton.2 ?_,
    List.pairwise_singleton _ _, List.forall_mem_singleton.2 ?_, List.forall_mem_singleton.2 ?_, ?_⟩
  · intro h1 x hx
    exact hdis L (Nat.le_refl _) (Nat.ne_of_gt h1) x (hsurv _ x hx)
  · intro j _
    exact hnew.mono (fun _ h => h) fun b hb =>
      Version.mem_entries.2 ⟨j, Level.entries_mono (hsurv j) b hb⟩
  · intro i hi a ha b hb hk
    obtain ⟨x, hx, hax⟩ := Level.mem_entries.1 ha
    have hxl := hsurv i x hx
    exact newerThan_of_disjoint hl (hw.tables i x hxl) ht
      (hdis i (Nat.le_of_lt hi) (Nat.ne_of_gt (Nat.zero_lt_of_lt hi)) x hxl).symm a hax b hb hk
  · intro p hp q hq hpq
    rw [List.mem_singleton.1 hp, List.mem_singleton.1 hq] at hpq
    exact absurd hpq (Nat.lt_irrefl _)

def tM : Table := ⟨9, 1, [e 3 8 1 0xc2, e 4 9 1 0xd0], mkIKey [3] 8 1, mkIKey [4] 9 1⟩
def tM2 : Table := ⟨9, 1, [e 4 9 1 0xd0], mkIKey [4] 9 1, mkIKey [4] 9 1⟩
example : tM.wfB bytewise = true ∧ newerThanB bytewise tM.entries exV.entries = true := by decide +kernel
example : exV.apply bytewise (flushEdit 0 tM) = ⟨[[tM, tA, tB], [tC, tD], [tF]]⟩ := by decide +kernel
example : (exV.apply bytewise (flushEdit 0 tM)).wfB bytewise = true := by decide +kernel
example : (∀ i, i ≤ 2 → ∀ x ∈ exV.lvl i, x.overlapsRange bytewise tM2.imin.ukey tM2.imax.ukey = false) := by
  intro i hi
  have : i ∈ [0, 1, 2] := by simp; omega
  revert i; decide
example : exV.apply bytewise (flushEdit 2 tM2) = ⟨[[tA, tB], [tC, tD], [tF, tM2]]⟩
    ∧ (exV.apply bytewise (flushEdit 2 tM2)).wfB bytewise = true := by decide +kernel

/-- the no-overlap condition is needed: a newer `[3]` pushed under the level-0 table `B` that holds an
older `[3]` breaks "shallower is newer", and `version.get` returns the stale value -/
example :
    let v' := exV.apply bytewise (flushEdit 1 tM)
    v'.wfB bytewise = false ∧ versionGet bytewise [] v' [3] 9 = .value [0xc1] ∧
    view bytewise v'.entries [3] 9 = some [0xc2] := by decide +kernel

/-- **`compaction_preserves_wf`**: replacing `S0 ⊆ level ℓ` and `S1 ⊆ level ℓ+1` by a legal cut of the
builder output at level `ℓ+1` keeps the version well formed, provided `CompactionOK` — (L0), (L1), (L2) of
the header. -/
theorem compaction_preserves_wf {c : UCmp} (hl : LawfulUCmp c) (v : Version) (ℓ : Nat)
    (S0 S1 nts : List Table) (minSeq : Nat) (umin umax : Bytes) (hv : v.wfB c = true)
    (h : CompactionOK c v ℓ S0 S1 nts minSeq umin umax) :
    (v.apply c (replaceEdit ℓ S0 S1 nts)).wfB c = true :=
  compaction_wf hl hv h

/-- the same for any drop predicate `base` (well-formedness does not depend on what the builder drops),
and with the generic form of the replacement: new tables whose entries come from `S0 ∪ S1` and are
pairwise disjoint -/
theorem replace_preserves_wf {c : UCmp} (hl : LawfulUCmp c) (v : Version) (ℓ : Nat)
    (S0 S1 nts : List Table) (umin umax : Bytes) (hv : v.wfB c = true)
    (hS0sub : ∀ t ∈ S0, t ∈ v.lvl ℓ) (hS1sub : ∀ t ∈ S1, t ∈ v.lvl (ℓ + 1))
    (hnt_wf : ∀ t ∈ nts, t.wfB c = true)
    (hnt_sub : ∀ t ∈ nts, ∀ x ∈ t.entries, ∃ s ∈ S0 ++ S1, x ∈ s.entries)
    (hnt_pw : nts.Pairwise (fun a b => tlt c a b ∨ tlt c b a))
    (hrange : ∀ t ∈ S0, c.le umin t.imin.ukey ∧ c.le t.imax.ukey umax)
    (hS1 : ∀ t ∈ v.lvl (ℓ + 1), t.overlapsRange c umin umax = true ↔ t ∈ S1)
    (hsrc : ∀ x ∈ v.lvl ℓ, x ∉ S0 → NewerThan x.entries (Level.entries S0)) :
    (v.apply c (replaceEdit ℓ S0 S1 nts)).wfB c = true :=
  replace_wf hl v ℓ S0 S1 nts umin umax hv hS0sub hS1sub hnt_wf hnt_sub hnt_pw hrange hS1 hsrc

/-- the range `expand` uses (`getRange` of `S0`) satisfies the `range` clause -/
theorem getRange_bounds {c : UCmp} (hl : LawfulUCmp c) (S : List Table) (mn mx : IKey)
    (h : getRange c S = some (mn, mx)) : ∀ t ∈ S, c.le mn.ukey t.imin.ukey ∧ c.le t.imax.ukey mx.ukey :=
  getRange_covers hl S mn mx h

example : getRange bytewise [tA, tB] = some (mkIKey [1] 7 0, mkIKey [3] 4 1) := by decide +kernel
example : CompactionOK bytewise exV 0 [tA, tB] [tC] [tN1, tN2] 5 [1] [3] := by decide +kernel
example : exV.apply bytewise (replaceEdit 0 [tA, tB] [tC] [tN1, tN2]) = ⟨[[], [tN1, tN2, tD], [tF]]⟩
    ∧ (exV.apply bytewise (replaceEdit 0 [tA, tB] [tC] [tN1, tN2])).wfB bytewise = true := by decide +kernel

def tNew : Table := ⟨3, 1, [e 1 7 1 0xa2], mkIKey [1] 7 1, mkIKey [1] 7 1⟩
def tOld : Table := ⟨2, 1, [e 1 5 1 0xa1], mkIKey [1] 5 1, mkIKey [1] 5 1⟩
def tNew' : Table := ⟨4, 1, [e 1 7 1 0xa2], mkIKey [1] 7 1, mkIKey [1] 7 1⟩
def exW : Version := ⟨[[tNew, tOld], []]⟩

/-- **(L0) is needed.**  Level 0 holds `[1]@7` (table 3) and `[1]@5` (table 2).  Compacting table 3 alone —
every clause of `CompactionOK` holds except `src_closed` — moves the newer entry below the older one:
the result is not well formed and `version.get` returns the stale value.  This is why `expand` runs
`getOverlaps(…, overlapped = true)` on level 0. -/
example :
    let v' := exW.apply bytewise (replaceEdit 0 [tNew] [] [tNew'])
    exW.wfB bytewise = true ∧
    (∀ t ∈ [tNew], t ∈ exW.lvl 0) ∧
    legalCut bytewise (build bytewise 9 (baseLevelForKey bytewise exW 0) {} (mergeAll bytewise [tNew]))
      ([tNew'].map (·.entries)) = true ∧
    tNew'.wfB bytewise = true ∧
    (∀ t ∈ exW.lvl 1, t.overlapsRange bytewise [1] [1] = true ↔ t ∈ ([] : List Table)) ∧
    ¬ (∀ x ∈ exW.lvl 0, x ∉ [tNew] → x.overlapsRange bytewise [1] [1] = false) ∧
    v' = ⟨[[tOld], [tNew']]⟩ ∧ v'.wfB bytewise = false ∧
    versionGet bytewise [] v' [1] 9 = .value [0xa1] ∧ view bytewise v'.entries [1] 9 = some [0xa2] := by
  decide +kernel

def tP : Table := ⟨5, 1, [e 2 8 1 0xb1, e 3 9 1 0xc1], mkIKey [2] 8 1, mkIKey [3] 9 1⟩
def tQ : Table := ⟨1, 1, [e 1 3 1 0xa0, e 2 4 1 0xb0], mkIKey [1] 3 1, mkIKey [2] 4 1⟩
def tR : Table := ⟨2, 1, [e 3 2 1 0xc0, e 4 1 1 0xd0], mkIKey [3] 2 1, mkIKey [4] 1 1⟩
def tPQ : Table := ⟨6, 1, [e 1 3 1 0xa0, e 2 8 1 0xb1, e 2 4 1 0xb0, e 3 9 1 0xc1], mkIKey [1] 3 1, mkIKey [3] 9 1⟩
def exX : Version := ⟨[[tP], [tQ, tR]]⟩

/-- **(L1) is needed.**  `P = [2]..[3]` at level 0 meets both `Q = [1]..[2]` and `R = [3]..[4]` at level 1.
If `R` is not picked up (`S1 = [Q]`) the output `[1]..[3]` overlaps `R`: level 1 is no longer disjoint. -/
example :
    let v' := exX.apply bytewise (replaceEdit 0 [tP] [tQ] [tPQ])
    exX.wfB bytewise = true ∧
    legalCut bytewise (build bytewise 0 (baseLevelForKey bytewise exX 0) {} (mergeAll bytewise [tP, tQ]))
      ([tPQ].map (·.entries)) = true ∧
    tR.overlapsRange bytewise [2] [3] = true ∧
    v' = ⟨[[], [tPQ, tR]]⟩ ∧ v'.wfB bytewise = false := by decide +kernel

def tCut1 : Table := ⟨7, 1, [e 1 7 1 0xa2], mkIKey [1] 7 1, mkIKey [1] 7 1⟩
def tCut2 : Table := ⟨8, 1, [e 1 5 1 0xa1], mkIKey [1] 5 1, mkIKey [1] 5 1⟩

/-- **(L2) is needed.**  Cutting the output between two entries of the same user key (`minSeq = 0`, both
versions of `[1]` are kept) yields two level-1 tables with the same user-key range. -/
example :
    let out := build bytewise 0 (baseLevelForKey bytewise exW 0) {} (mergeAll bytewise [tNew, tOld])
    let v' := exW.apply bytewise (replaceEdit 0 [tNew, tOld] [] [tCut1, tCut2])
    out = [e 1 7 1 0xa2, e 1 5 1 0xa1] ∧
    legalCut bytewise out ([tCut1, tCut2].map (·.entries)) = false ∧
    v' = ⟨[[], [tCut1, tCut2]]⟩ ∧ v'.wfB bytewise = false := by decide +kernel

/-- **`trivial_move_preserves_wf`**: a single table of level `ℓ` that overlaps nothing at level `ℓ+1` —
and, for `ℓ = 0`, nothing else at level 0 — may be moved down unchanged. -/
theorem trivial_move_preserves_wf {c : UCmp} (hl : LawfulUCmp c) (v : Version) (ℓ : Nat) (t : Table)
    (hv : v.wfB c = true) (ht : t ∈ v.lvl ℓ)
    (hdst : ∀ x ∈ v.lvl (ℓ + 1), x.overlapsRange c t.imin.ukey t.imax.ukey = false)
    (hL0 : ℓ = 0 → ∀ x ∈ v.lvl 0, x ≠ t → x.overlapsRange c t.imin.ukey t.imax.ukey = false) :
    (v.apply c (replaceEdit ℓ [t] [] [t])).wfB c = true :=
  trivial_move_wf hl v ℓ t hv ht hdst hL0

example : (∀ x ∈ exV.lvl 2, x.overlapsRange bytewise tD.imin.ukey tD.imax.ukey = false) := by decide
example : exV.apply bytewise (replaceEdit 1 [tD] [] [tD]) = ⟨[[tA, tB], [tC], [tF, tD]]⟩
    ∧ (exV.apply bytewise (replaceEdit 1 [tD] [] [tD])).wfB bytewise = true := by decide +kernel
/-- the level-0 side condition is needed (same situation as (L0) above, without any rewriting) -/
example : (exW.apply bytewise (replaceEdit 0 [tNew] [] [tNew])) = ⟨[[tOld], [tNew]]⟩
    ∧ (exW.apply bytewise (replaceEdit 0 [tNew] [] [tNew])).wfB bytewise = false := by decide +kernel

/-- **`getOverlapsSorted_spec`**: on a sorted, disjoint level the binary-search formulation of
`tFiles.getOverlaps(…, overlapped = false)` — `searchMinUkey` / `searchMaxUkey` and the two "expand by one"
tests — returns exactly the tables whose user-key range meets `[umin, umax]`, **when the two tests use the
user comparer**. -/
theorem getOverlapsSorted_spec {c : UCmp} (hl : LawfulUCmp c) (tables : Level)
    (hwf : ∀ t ∈ tables, t.wfB c = true) (hd : levelDisjointB c tables = true) (umin umax : Bytes) :
    getOverlapsSortedIdx c c.cmp tables umin umax = getOverlapsSorted c tables umin umax := by
  have hle : ∀ t ∈ tables, c.le t.imin.ukey t.imax.ukey := fun t ht => Table.wf_imin_le_imax hl (hwf t ht)
  exact getOverlapsSortedIdx_eq hl tables hle ((levelDisjoint_pairwise hl tables hle).1 hd) umin umax

example : getOverlapsSortedIdx bytewise bytesCompare [tQ, tR, tD] [2] [3] = [tQ, tR] := by decide +kernel
example : getOverlapsSortedIdx bytewise bytesCompare [tQ, tR, tD] [5] [9] = [tD] := by decide +kernel
example : getOverlapsSortedIdx bytewise bytesCompare [tQ, tR] [5] [9] = [] := by decide

/-! ### what defect D1 (`bytes.Compare` in the two expansion tests) does to the tree

Comparer: reversed byte order (`revCmp`, lawful).  Level 1 = {X1 = [60]..[50], X2 = [40]..[30],
X3 = [20]..[10]} (sorted and disjoint under `revCmp`), level 0 = {Y = [45]..[35]}.  `Y` meets only `X2`,
but the code as written picks `X1`.  Compacting `Y` with `X1` writes `[60]..[35]` next to `X2`: level 1 is
no longer disjoint, and `version.get` misses the live key `[40]`. -/

def r (k : UInt8) (seq : Nat) (v : UInt8) : Entry := ⟨mkIKey [k] seq 1, [v]⟩
def tX1 : Table := ⟨1, 1, [r 60 1 0x60, r 50 2 0x50], mkIKey [60] 1 1, mkIKey [50] 2 1⟩
def tX2 : Table := ⟨2, 1, [r 40 3 0x40, r 30 4 0x30], mkIKey [40] 3 1, mkIKey [30] 4 1⟩
def tX3 : Table := ⟨3, 1, [r 20 5 0x20, r 10 6 0x10], mkIKey [20] 5 1, mkIKey [10] 6 1⟩
def tY : Table := ⟨4, 1, [r 45 8 0x45, r 35 9 0x35], mkIKey [45] 8 1, mkIKey [35] 9 1⟩
def tYX : Table := ⟨5, 1, [r 60 1 0x60, r 50 2 0x50, r 45 8 0x45, r 35 9 0x35], mkIKey [60] 1 1, mkIKey [35] 9 1⟩
def exD1 : Version := ⟨[[tY], [tX1, tX2, tX3]]⟩

example :
    let S1go := getOverlapsSortedIdx revCmp bytesCompare (exD1.lvl 1) [45] [35]
    let v' := exD1.apply revCmp (replaceEdit 0 [tY] S1go [tYX])
    exD1.wfB revCmp = true ∧
    getOverlapsSorted revCmp (exD1.lvl 1) [45] [35] = [tX2] ∧ S1go = [tX1] ∧
    legalCut revCmp (build revCmp 0 (baseLevelForKey revCmp exD1 0) {} (mergeAll revCmp ([tY] ++ S1go)))
      ([tYX].map (·.entries)) = true ∧
    v' = ⟨[[], [tYX, tX2, tX3]]⟩ ∧ v'.wfB revCmp = false ∧
    versionGet revCmp [] exD1 [40] 9 = .value [0x40] ∧ versionGet revCmp [] v' [40] 9 = .miss ∧
    view revCmp v'.entries [40] 9 = some [0x40] := by decide +kernel

example :
    let S1 := getOverlapsSortedIdx revCmp revCmp.cmp (exD1.lvl 1) [45] [35]
    let tYX2 : Table := ⟨5, 1, [r 45 8 0x45, r 40 3 0x40, r 35 9 0x35, r 30 4 0x30], mkIKey [45] 8 1, mkIKey [30] 4 1⟩
    S1 = [tX2] ∧ CompactionOK revCmp exD1 0 [tY] S1 [tYX2] 0 [45] [35] ∧
    (exD1.apply revCmp (replaceEdit 0 [tY] S1 [tYX2])).wfB revCmp = true ∧
    versionGet revCmp [] (exD1.apply revCmp (replaceEdit 0 [tY] S1 [tYX2])) [40] 9 = .value [0x40] := by decide +kernel

/-- **`getOverlapsL0_spec`**: with fuel `2·len + 1` the level-0 search returns exactly the tables meeting a
final range `[umin', umax'] ⊇ [umin, umax]`, and every returned table lies inside that range: the result
is closed under user-key overlap, contains every table meeting the requested range, and satisfies the
`range` and `src_closed` clauses of `CompactionOK`. -/
theorem getOverlapsL0_spec {c : UCmp} (hl : LawfulUCmp c) (tables : Level) (fuel : Nat) (umin umax : Bytes)
    (hfuel : 2 * tables.length + 1 ≤ fuel) :
    ∃ umin' umax', c.le umin' umin ∧ c.le umax umax' ∧
      getOverlapsL0 c tables fuel umin umax = tables.filter (·.overlapsRange c umin' umax') ∧
      (∀ t ∈ getOverlapsL0 c tables fuel umin umax, c.le umin' t.imin.ukey ∧ c.le t.imax.ukey umax') :=
  GoLevel.getOverlapsL0_spec hl tables fuel umin umax hfuel

example : getOverlapsL0 bytewise [tA, tB] 5 [2] [2] = [tA, tB] := by decide +kernel

/-! ## the inputs the code chooses (`session_compaction.go`: `pickCompaction`, `getCompactionRange`, `newCompaction`, `expand`)

Model: `GoLevel/Model/Pick.lean`; proofs: `GoLevel/Proofs/PickOverlap.lean`, `PickExpand.lean`, `PickInputs.lean`.
The input clauses of `CompactionOK`, which the trace validator checks on every real compaction, are derived from the
selection logic. -/

/-- **`compaction_inputs_closed`** (P1).  On a well-formed version, `newCompaction` applied to any non-empty
sublist `t0` of level `src` does not panic, and the sets `expand` settles on — also after its "grow the source
level" step — satisfy the input conditions of `CompactionOK` for the range `[imin.ukey, imax.ukey]` it
records: the level-`src` inputs lie in the level, contain `t0` and are bounded by the range (which is their
`getRange`); the level-`src+1` inputs are **exactly** the tables of that level whose user-key range meets it (no
overlapping table is left behind); for `src = 0` no level-0 table outside the inputs meets it. -/
theorem compaction_inputs_closed {c : UCmp} (hl : LawfulUCmp c) (o : Pick.Limits) (v : Version)
    (hv : v.wfB c = true) (src : Nat) (t0 : List Table) (hsub : t0.Sublist (v.lvl src)) (hne : t0 ≠ []) :
    ∃ cm, Pick.newCompaction c o v src t0 = some cm ∧
      (∀ t ∈ cm.s0, t ∈ v.lvl src) ∧ (∀ t ∈ cm.s1, t ∈ v.lvl (src + 1)) ∧ (∀ t ∈ t0, t ∈ cm.s0) ∧
      getRange c cm.s0 = some (cm.imin, cm.imax) ∧
      (∀ t ∈ cm.s0, c.le cm.imin.ukey t.imin.ukey ∧ c.le t.imax.ukey cm.imax.ukey) ∧
      (∀ t ∈ v.lvl (src + 1), t.overlapsRange c cm.imin.ukey cm.imax.ukey = true ↔ t ∈ cm.s1) ∧
      (src = 0 → ∀ x ∈ v.lvl 0, x ∉ cm.s0 → x.overlapsRange c cm.imin.ukey cm.imax.ukey = false) := by
  have hw := (Version.wfB_iff_WFi hl v).1 hv
  obtain ⟨cm, hcm⟩ := Pick.newCompaction_isSome hl o v hw src t0 hsub hne
  obtain ⟨hin, hok⟩ := Pick.newCompaction_ok hl o v hw src t0 hsub hne cm hcm
  exact ⟨cm, hcm, hin.src_sub, hin.dst_sub, hok.keeps, hok.src_ok.rng, hin.range, hin.dst_all, hin.src_closed⟩

/-- … for every way `pickCompaction` picks (score based: the first table after the compaction pointer, else
the first table; seek based: the table recorded in `v.cSeek`, which is a table of `v`) -/
theorem pick_compaction_inputs_closed {c : UCmp} (hl : LawfulUCmp c) (o : Pick.Limits) (v : Version)
    (hv : v.wfB c = true) (p : Pick.PickState) (hseek : ∀ lvl t, p.cSeek = some (lvl, t) → t ∈ v.lvl lvl)
    (src : Nat) (t0 : List Table) (hpick : Pick.pickInputs c v p = some (src, t0)) :
    ∃ cm, Pick.pickCompaction c o v p = some cm ∧ cm.sourceLevel = src ∧
      (∀ t ∈ cm.s0, t ∈ v.lvl src) ∧ (∀ t ∈ cm.s1, t ∈ v.lvl (src + 1)) ∧ (∀ t ∈ t0, t ∈ cm.s0) ∧
      (∀ t ∈ cm.s0, c.le cm.imin.ukey t.imin.ukey ∧ c.le t.imax.ukey cm.imax.ukey) ∧
      (∀ t ∈ v.lvl (src + 1), t.overlapsRange c cm.imin.ukey cm.imax.ukey = true ↔ t ∈ cm.s1) ∧
      (src = 0 → ∀ x ∈ v.lvl 0, x ∉ cm.s0 → x.overlapsRange c cm.imin.ukey cm.imax.ukey = false) := by
  obtain ⟨hsub, hne, _⟩ := Pick.pickInputs_ok c v p hseek src t0 hpick
  obtain ⟨cm, hcm, h1, h2, h3, _, h5, h6, h7⟩ := compaction_inputs_closed hl o v hv src t0 hsub hne
  refine ⟨cm, ?_, (Pick.newCompaction_cursorInv c o v src t0 cm hcm).2.1, h1, h2, h3, h5, h6, h7⟩
  unfold Pick.pickCompaction
  rw [hpick]; exact hcm

/-- … and for `getCompactionRange` (`CompactRange`; bounds may be nil; the source-size limit may cut the
level-`src` set short when `src > 0`) -/
theorem range_compaction_inputs_closed {c : UCmp} (hl : LawfulUCmp c) (o : Pick.Limits) (v : Version)
    (hv : v.wfB c = true) (src : Nat) (umin umax : Option Bytes) (noLimit : Bool) (t0 : List Table)
    (hr : Pick.rangeInputs c o v src umin umax noLimit = some t0) :
    ∃ cm, Pick.getCompactionRange c o v src umin umax noLimit = some cm ∧ cm.sourceLevel = src ∧
      (∀ t ∈ cm.s0, t ∈ v.lvl src) ∧ (∀ t ∈ cm.s1, t ∈ v.lvl (src + 1)) ∧ (∀ t ∈ t0, t ∈ cm.s0) ∧
      (∀ t ∈ cm.s0, c.le cm.imin.ukey t.imin.ukey ∧ c.le t.imax.ukey cm.imax.ukey) ∧
      (∀ t ∈ v.lvl (src + 1), t.overlapsRange c cm.imin.ukey cm.imax.ukey = true ↔ t ∈ cm.s1) ∧
      (src = 0 → ∀ x ∈ v.lvl 0, x ∉ cm.s0 → x.overlapsRange c cm.imin.ukey cm.imax.ukey = false) := by
  obtain ⟨hsub, hne⟩ := Pick.rangeInputs_ok c o v src umin umax noLimit t0 hr
  obtain ⟨cm, hcm, h1, h2, h3, _, h5, h6, h7⟩ := compaction_inputs_closed hl o v hv src t0 hsub hne
  refine ⟨cm, ?_, (Pick.newCompaction_cursorInv c o v src t0 cm hcm).2.1, h1, h2, h3, h5, h6, h7⟩
  unfold Pick.getCompactionRange
  rw [hr]; exact hcm

/-- hence: a compaction built by `newCompaction` whose *output* is a legal cut of the builder output keeps the
version well formed — no hypothesis about the inputs is left -/
theorem picked_compaction_preserves_wf {c : UCmp} (hl : LawfulUCmp c) (o : Pick.Limits) (v : Version)
    (hv : v.wfB c = true) (src : Nat) (t0 : List Table) (hsub : t0.Sublist (v.lvl src)) (hne : t0 ≠ [])
    (cm : Pick.Compaction) (hcm : Pick.newCompaction c o v src t0 = some cm) (nts : List Table) (minSeq : Nat)
    (hdistinct : ((cm.s0 ++ cm.s1).flatMap (·.entries)).Pairwise (fun a b => a.key ≠ b.key))
    (hcut : legalCut c (build c minSeq (baseLevelForKey c v src) {} (mergeAll c (cm.s0 ++ cm.s1)))
      (nts.map (·.entries)) = true)
    (hnew : ∀ t ∈ nts, t.wfB c = true) :
    CompactionOK c v src cm.s0 cm.s1 nts minSeq cm.imin.ukey cm.imax.ukey ∧
    (v.apply c (replaceEdit src cm.s0 cm.s1 nts)).wfB c = true := by
  have hok := Pick.compactionOK_of_built hl o v ((Version.wfB_iff_WFi hl v).1 hv) src t0 hsub hne cm hcm nts
    minSeq hdistinct hcut hnew
  exact ⟨hok, compaction_preserves_wf hl v src cm.s0 cm.s1 nts minSeq _ _ hv hok⟩

def lim (n : Nat) : Pick.Limits := ⟨fun _ => n, fun _ => n, fun _ => n⟩

/-- non-vacuity on the 3-level `exV`: a level-0 compaction started from `A` alone (`[1]..[2]`) is closed to
`{A, B}` (`B = [1]..[3]` overlaps `A`), picks up `C` (`[1]..[2]`) but not `D` (`[5]`) at level 1, and has `F` as
grandparent; the result is the compaction of the example `CompactionOK` above -/
example :
    (Pick.newCompaction bytewise (lim 100) exV 0 [tA]).map (·.chosen) =
      some ⟨[tA, tB], [tC], mkIKey [1] 7 0, mkIKey [3] 4 1, [tF]⟩ := by decide +kernel
example : [tA].Sublist (exV.lvl 0) := by decide
example : Pick.pickInputs bytewise exV ⟨true, 1, [none, some tC.imax], none⟩ = some (1, [tD]) ∧
    Pick.pickInputs bytewise exV ⟨true, 1, [], none⟩ = some (1, [tC]) ∧
    Pick.pickInputs bytewise exV ⟨true, 1, [none, some tD.imax], none⟩ = some (1, [tC]) ∧
    Pick.pickInputs bytewise exV ⟨false, 0, [], some (1, tD)⟩ = some (1, [tD]) ∧
    Pick.pickInputs bytewise exV ⟨false, 0, [], none⟩ = none := by decide +kernel
example : Pick.rangeInputs bytewise (lim 100) exV 1 none (some [2]) true = some [tC] := by decide +kernel

/-! ### the "grow the source level" step

level 1 = {G1 = `[1]..[2]`, G2 = `[3]..[4]`}, level 2 = {H = `[1]..[4]`}, level 3 = {K = `[2]..[2]`}.  Started from
`G1`, the level-2 set is `{H}`; the whole range `[1]..[4]` also covers `G2` at level 1 and adding it does not
change the level-2 set: with a generous limit the compaction grows to `{G1, G2}`, with a tight one it does not. -/

def tG1 : Table := ⟨11, 10, [e 1 15 1 0x11, e 2 16 1 0x12], mkIKey [1] 15 1, mkIKey [2] 16 1⟩
def tG2 : Table := ⟨12, 10, [e 3 17 1 0x13, e 4 18 1 0x14], mkIKey [3] 17 1, mkIKey [4] 18 1⟩
def tH : Table := ⟨13, 10, [e 1 11 1 0x21, e 4 12 1 0x24], mkIKey [1] 11 1, mkIKey [4] 12 1⟩
def tK : Table := ⟨14, 10, [e 2 1 1 0x32], mkIKey [2] 1 1, mkIKey [2] 1 1⟩
def exG : Version := ⟨[[], [tG1, tG2], [tH], [tK]]⟩

example : exG.wfB bytewise = true := by decide +kernel
example :
    (Pick.newCompaction bytewise (lim 100) exG 1 [tG1]).map (·.chosen) =
      some ⟨[tG1, tG2], [tH], mkIKey [1] 15 1, mkIKey [4] 18 1, [tK]⟩ ∧
    (Pick.newCompaction bytewise (lim 20) exG 1 [tG1]).map (·.chosen) =
      some ⟨[tG1], [tH], mkIKey [1] 15 1, mkIKey [2] 16 1, [tK]⟩ := by decide +kernel

/-! ### where the builder cuts (`tableCompactionBuilder.run`: `shouldStopBefore`, `needFlush`)

Model: `Pick.cutStep`, `Pick.cutRun`, `Pick.runTables` (`GoLevel/Model/Pick.lean`); proofs: `GoLevel/Proofs/PickCut.lean`. -/

/-- **`builder_cut_legal`** (L2 derived from the code).  For a compaction fresh from `newCompaction` on a
well-formed version, the tables `run` writes for the merged input — rotating only at the first occurrence of a
user key, when `shouldStopBefore` (grandparent overlap) or `needFlush` (any size predicate) ask for it, and
dropping entries with the *stateful* `baseLevelForKey` — are a legal cut of the model builder's output. -/
theorem builder_cut_legal {c : UCmp} (hl : LawfulUCmp c) (o : Pick.Limits) (v : Version) (hv : v.wfB c = true)
    (src : Nat) (t0 : List Table) (cm : Pick.Compaction) (hcm : Pick.newCompaction c o v src t0 = some cm)
    (minSeq : Nat) (needFlush : List Entry → Bool)
    (hdistinct : ((cm.s0 ++ cm.s1).flatMap (·.entries)).Pairwise (fun a b => a.key ≠ b.key)) :
    legalCut c (build c minSeq (baseLevelForKey c v src) {} (mergeAll c (cm.s0 ++ cm.s1)))
      (Pick.runTables c minSeq needFlush cm (mergeAll c (cm.s0 ++ cm.s1))) = true :=
  Pick.runTables_legal hl o v ((Version.wfB_iff_WFi hl v).1 hv) src t0 cm hcm minSeq needFlush _
    (Pick.ukeys_sorted_of_ESorted hl _ (mergeAll_sorted hl _ hdistinct))

/-- **`run_compaction_ok`**: all of `CompactionOK` from the code's logic.  What remains as hypotheses are facts
about other layers: the input tables hold no internal key twice (`UniqSeq` of the version), and the table
writer records each output table's exact bounds and order (`Table.wfB`, C13). -/
theorem run_compaction_ok {c : UCmp} (hl : LawfulUCmp c) (o : Pick.Limits) (v : Version) (hv : v.wfB c = true)
    (src : Nat) (t0 : List Table) (hsub : t0.Sublist (v.lvl src)) (hne : t0 ≠ []) (cm : Pick.Compaction)
    (hcm : Pick.newCompaction c o v src t0 = some cm) (minSeq : Nat) (needFlush : List Entry → Bool)
    (nts : List Table)
    (hnts : nts.map (·.entries) = Pick.runTables c minSeq needFlush cm (mergeAll c (cm.s0 ++ cm.s1)))
    (hnew : ∀ t ∈ nts, t.wfB c = true)
    (hdistinct : ((cm.s0 ++ cm.s1).flatMap (·.entries)).Pairwise (fun a b => a.key ≠ b.key)) :
    CompactionOK c v src cm.s0 cm.s1 nts minSeq cm.imin.ukey cm.imax.ukey ∧
    (v.apply c (replaceEdit src cm.s0 cm.s1 nts)).wfB c = true :=
  picked_compaction_preserves_wf hl o v hv src t0 hsub hne cm hcm nts minSeq hdistinct
    (by rw [hnts]; exact builder_cut_legal hl o v hv src t0 cm hcm minSeq needFlush hdistinct) hnew

/-- non-vacuity on `exV`, level-0 compaction from `A`, `minSeq = 5`, a table is "full" with two entries: the
output `[1]@7 [1]@5 [2]@6 [2]@3 [3]@4` is cut before `[2]` and before `[3]`, never between the two `[1]` or the two
`[2]`; with a grandparent-overlap limit of 0 and no size limit, `shouldStopBefore` alone cuts once the
grandparent `F = [2]..[2]` has been passed (before `[3]`) -/
example :
    (Pick.newCompaction bytewise (lim 100) exV 0 [tA]).map (fun cm =>
      Pick.runTables bytewise 5 (fun tw => decide (tw.length ≥ 2)) cm (mergeAll bytewise (cm.s0 ++ cm.s1))) =
      some [[e 1 7 0 0, e 1 5 1 0xa1], [e 2 6 1 0xb2, e 2 3 1 0xb0], [e 3 4 1 0xc1]] ∧
    (Pick.newCompaction bytewise (lim 0) exV 0 [tA]).map (fun cm =>
      Pick.runTables bytewise 5 (fun _ => false) cm (mergeAll bytewise (cm.s0 ++ cm.s1))) =
      some [[e 1 7 0 0, e 1 5 1 0xa1, e 2 6 1 0xb2, e 2 3 1 0xb0], [e 3 4 1 0xc1]] := by decide +kernel

/-- **`trivial_move_ok`** (P3).  If `trivial()` holds for a compaction built by `newCompaction` on a well-formed
version — one level-`src` input, no level-`src+1` input, grandparent overlap within the limit — then that
single table overlaps nothing at level `src+1` (and, for `src = 0`, nothing else at level 0), i.e. the
hypotheses of `trivial_move_preserves_wf` hold, and moving it down keeps the version well formed. -/
theorem trivial_move_ok {c : UCmp} (hl : LawfulUCmp c) (o : Pick.Limits) (v : Version) (hv : v.wfB c = true)
    (src : Nat) (t0 : List Table) (hsub : t0.Sublist (v.lvl src)) (hne : t0 ≠ []) (cm : Pick.Compaction)
    (hcm : Pick.newCompaction c o v src t0 = some cm) (htriv : cm.trivial = true) :
    ∃ t, cm.s0 = [t] ∧ cm.s1 = [] ∧ (∀ x ∈ t0, x = t) ∧ t ∈ v.lvl src ∧
      (∀ x ∈ v.lvl (src + 1), x.overlapsRange c t.imin.ukey t.imax.ukey = false) ∧
      (src = 0 → ∀ x ∈ v.lvl 0, x ≠ t → x.overlapsRange c t.imin.ukey t.imax.ukey = false) ∧
      (v.apply c (replaceEdit src [t] [] [t])).wfB c = true := by
  obtain ⟨hin, hok⟩ := Pick.newCompaction_ok hl o v ((Version.wfB_iff_WFi hl v).1 hv) src t0 hsub hne cm hcm
  have hrng : getRange c cm.s0 = some (cm.imin, cm.imax) := hok.src_ok.rng
  have hkeep : ∀ x ∈ t0, x ∈ cm.s0 := hok.keeps
  unfold Pick.Compaction.trivial at htriv
  simp only [Bool.and_eq_true, beq_iff_eq, decide_eq_true_eq] at htriv
  obtain ⟨t, hs0⟩ := List.length_eq_one_iff.1 htriv.1.1
  have hs1 : cm.s1 = [] := List.eq_nil_of_length_eq_zero htriv.1.2
  rw [hs0] at hrng hin hkeep
  rw [hs1] at hin
  -- the range of the single table is its own
  obtain ⟨h1, h2⟩ := Prod.mk.inj (Option.some.inj hrng)
  rw [← h1, ← h2] at hin
  have ht : t ∈ v.lvl src := hin.src_sub t (List.mem_singleton_self t)
  have hdst : ∀ x ∈ v.lvl (src + 1), x.overlapsRange c t.imin.ukey t.imax.ukey = false :=
    fun x hx => Bool.eq_false_iff.2 fun hov => List.not_mem_nil ((hin.dst_all x hx).1 hov)
  have hL0 : src = 0 → ∀ x ∈ v.lvl 0, x ≠ t → x.overlapsRange c t.imin.ukey t.imax.ukey = false :=
    fun h0 x hx hxt => hin.src_closed h0 x hx fun hm => hxt (List.mem_singleton.1 hm)
  have ht0 : ∀ x ∈ t0, x = t := fun x hx => List.mem_singleton.1 (hkeep x hx)
  exact ⟨t, hs0, hs1, ht0, ht, hdst, hL0, trivial_move_wf hl v src t hv ht hdst hL0⟩

/-- non-vacuity on `exV`: the compaction picked from `D` at level 1 is trivial (`D = [5]` meets nothing at
level 2, no grandparents); the one picked from `C` is not (`F = [2]` at level 2 overlaps `C`); nor is the
level-0 one from `A` -/
example :
    (Pick.newCompaction bytewise (lim 100) exV 1 [tD]).map (fun cm => (cm.s0, cm.s1, cm.trivial)) =
      some ([tD], [], true) ∧
    (Pick.newCompaction bytewise (lim 100) exV 1 [tC]).map (fun cm => (cm.s0, cm.s1, cm.trivial)) =
      some ([tC], [tF], false) ∧
    (Pick.newCompaction bytewise (lim 100) exV 0 [tA]).map (·.trivial) = some false ∧
    (exV.apply bytewise (replaceEdit 1 [tD] [] [tD])).wfB bytewise = true := by decide +kernel
example :
    (Pick.newCompaction bytewise (lim 100) ⟨[[], [tG1], [], [tK]]⟩ 1 [tG1]).map (fun cm => (cm.gp, cm.trivial)) =
      some ([tK], true) ∧
    (Pick.newCompaction bytewise (lim 5) ⟨[[], [tG1], [], [tK]]⟩ 1 [tG1]).map (fun cm => (cm.gp, cm.trivial)) =
      some ([tK], false) := by decide +kernel

end GoLevel.C06

def GoLevel.C06.theorems : List String :=
  ["GoLevel.C06.wf_iff", "GoLevel.C06.level_sorted", "GoLevel.C06.edit_preserves_wf",
   "GoLevel.C06.flush_preserves_wf", "GoLevel.C06.compaction_preserves_wf",
   "GoLevel.C06.replace_preserves_wf", "GoLevel.C06.getRange_bounds",
   "GoLevel.C06.trivial_move_preserves_wf", "GoLevel.C06.getOverlapsSorted_spec",
   "GoLevel.C06.getOverlapsL0_spec", "GoLevel.C06.compaction_inputs_closed",
   "GoLevel.C06.pick_compaction_inputs_closed", "GoLevel.C06.range_compaction_inputs_closed",
   "GoLevel.C06.picked_compaction_preserves_wf", "GoLevel.C06.builder_cut_legal",
   "GoLevel.C06.run_compaction_ok", "GoLevel.C06.trivial_move_ok"]

import GoLevel.Proofs.Ownership
/-!
# Property C20: buffers crossing the API boundary are never shared

Model: `GoLevel/Model/Ownership.lean` — a heap of byte cells, the store maps a key to the cell holding its
value, the caller owns its argument buffers and whatever a call handed back, and may overwrite (`scribble`)
any cell it owns at any point of a program.  Which boundary paths copy is the configuration `Own.Cfg`;
`Own.codeCfg` is assembled from the regenerated facts `Gen.own*` (read off `Batch.appendRec`, `memdb.Put`,
`DB.get`, `table.Reader.find`, `dbIter.next/prev` by the extractor).

* `noninterference` — under a configuration where every path copies, for every program the outputs with
  arbitrary scribbling equal the outputs of the same program without it; `stored_unchanged` says the same of
  the final store.  `code_safe` ties this to the Go source, `code_noninterference` is the statement for the code.
* `args_not_retained`, `put_keeps_no_reference`, `results_private`, `iter_results_private` — the invariant
  behind it: no stored cell is caller-owned; the cell a read hands out is new.
* `alias_*_breaks` — each of the four copies is necessary: with just that one removed there is a short program
  on which scribbling changes a later result (`alias_table_get_breaks` is defect D9).
-/
namespace GoLevel.C20
open GoLevel

/-! ## noninterference -/

/-- for every program — any length, any interleaving of puts, flushes, gets, iterator reads and caller
scribbles over any buffer the caller owns (argument buffers, returned Get values, iterator values) — the values
returned are those of the same program with the scribbles removed -/
theorem noninterference : ∀ (c : Own.Cfg), c.safe = true → ∀ ops,
    Own.run c Own.State.init ops = Own.run c Own.State.init (Own.clean ops) :=
  fun c hc ops => (Own.exec_run_rel c hc ops _ _ Own.rel_init).2

/-- the regenerated tie: every boundary path of the Go code copies (removing a copy in the source flips a
`Gen.own*` fact and breaks this) -/
theorem code_safe : Own.codeCfg.safe = true := by decide

theorem code_noninterference (ops : List Own.Op) :
    Own.run Own.codeCfg Own.State.init ops = Own.run Own.codeCfg Own.State.init (Own.clean ops) :=
  noninterference Own.codeCfg code_safe ops

/-- the scribbles do not change what the DB stores either: at the end both runs bind every key to the same
cell and location, with the same contents -/
theorem stored_unchanged (c : Own.Cfg) (hc : c.safe = true) (ops : List Own.Op) (k : Bytes) :
    (Own.exec c Own.State.init ops).lookup k = (Own.exec c Own.State.init (Own.clean ops)).lookup k ∧
    ∀ cell loc, (Own.exec c Own.State.init ops).lookup k = some (cell, loc) →
      (Own.exec c Own.State.init ops).read cell = (Own.exec c Own.State.init (Own.clean ops)).read cell := by
  have h := (Own.exec_run_rel c hc ops _ _ Own.rel_init).1
  exact ⟨(Own.rel_lookup h k).symm, fun cell loc hl => h.same cell (Own.lookup_mem hl)⟩

def exProg : List Own.Op :=
  [.put [1] [10, 11], .put [2] [20], .scribble 0 [99], .get [1], .flush, .get [2], .scribble 2 [77],
   .scribble 3 [88, 89], .get [1], .iterAt [2], .scribble 4 [66], .scribble 1 [], .get [2], .iterAt [1], .get [3]]

example : Own.run Own.codeCfg Own.State.init exProg = [[10, 11], [20], [10, 11], [20], [20], [10, 11], []] := by
  decide
example : Own.run Own.codeCfg Own.State.init (Own.clean exProg) =
    [[10, 11], [20], [10, 11], [20], [20], [10, 11], []] := by decide
example : (Own.clean exProg).length = 10 ∧ exProg.length = 15 := by decide
/-- the scribbles of `exProg` do hit live buffers: the heaps of the two runs differ -/
example : (Own.exec Own.codeCfg Own.State.init exProg).heap ≠
    (Own.exec Own.codeCfg Own.State.init (Own.clean exProg)).heap := by decide
example : (Own.exec Own.codeCfg Own.State.init exProg).lookup [1] = some (1, .table) ∧
    (Own.exec Own.codeCfg Own.State.init exProg).read 1 = [10, 11] := by decide

/-! ## the callee keeps no reference to an argument buffer -/

/-- in every reachable state of a safe configuration (scribbles included in "reachable") no cell holding a
stored value is owned by the caller: overwriting an argument buffer cannot change the store -/
theorem args_not_retained (c : Own.Cfg) (hc : c.safe = true) (ops : List Own.Op) :
    ∀ x ∈ (Own.exec c Own.State.init ops).storeCells, x ∉ (Own.exec c Own.State.init ops).owned :=
  (Own.inv_exec c hc ops _ Own.inv_init).disj

/-- `put k v` after any program: the argument buffer is the cell the caller newly owns; the key is bound to a
different cell, holding `v`, that the caller does not own -/
theorem put_keeps_no_reference (c : Own.Cfg) (hc : c.safe = true) (ops : List Own.Op) (k v : Bytes) :
    let s := Own.exec c Own.State.init ops
    let s' := (Own.step c s (.put k v)).1
    s'.owned = s.owned ++ [s.heap.length] ∧
    s'.lookup k = some (s.heap.length + 1, .mem) ∧
    s'.read (s.heap.length + 1) = v ∧
    s.heap.length + 1 ∉ s'.owned :=
  Own.put_copy_spec c (Own.safe_flags hc).1 (Own.inv_exec c hc ops _ Own.inv_init) k v

example : (Own.exec Own.codeCfg Own.State.init exProg).storeCells = [3, 1] ∧
    (Own.exec Own.codeCfg Own.State.init exProg).owned = [0, 2, 4, 5, 6, 7, 8, 9] := by decide

/-! ## what Get and an iterator hand out is private -/

/-- a `get` that finds the key, after any program of a safe configuration: the caller receives exactly one new
cell `r`; `r` is not a stored cell, was not owned before, differs from the stored cell, holds the stored bytes,
and store and stored bytes are as before -/
theorem results_private (c : Own.Cfg) (hc : c.safe = true) (ops : List Own.Op) (k : Bytes) (cell : Own.Cell)
    (loc : Own.Loc) (h : (Own.exec c Own.State.init ops).lookup k = some (cell, loc)) :
    let s := Own.exec c Own.State.init ops
    let s' := (Own.step c s (.get k)).1
    let r := s.heap.length
    s'.owned = s.owned ++ [r] ∧ s'.store = s.store ∧ r ∉ s'.storeCells ∧ r ∉ s.owned ∧ r ≠ cell ∧
      s'.read r = s.read cell ∧ s'.read cell = s.read cell ∧
      (Own.step c s (.get k)).2 = some (s.read cell) := by
  have hinv := Own.inv_exec c hc ops _ Own.inv_init
  have hf := Own.hand_copy_fresh hinv (Own.lookup_mem h)
  simp only [Own.step, h, Own.safe_getCopies hc, and_true]
  exact hf

/-- the same for the value an iterator exposes -/
theorem iter_results_private (c : Own.Cfg) (hc : c.safe = true) (ops : List Own.Op) (k : Bytes)
    (cell : Own.Cell) (loc : Own.Loc) (h : (Own.exec c Own.State.init ops).lookup k = some (cell, loc)) :
    let s := Own.exec c Own.State.init ops
    let s' := (Own.step c s (.iterAt k)).1
    let r := s.heap.length
    s'.owned = s.owned ++ [r] ∧ s'.store = s.store ∧ r ∉ s'.storeCells ∧ r ∉ s.owned ∧ r ≠ cell ∧
      s'.read r = s.read cell ∧ s'.read cell = s.read cell ∧
      (Own.step c s (.iterAt k)).2 = some (s.read cell) := by
  have hinv := Own.inv_exec c hc ops _ Own.inv_init
  have hf := Own.hand_copy_fresh hinv (Own.lookup_mem h)
  simp only [Own.step, h, (Own.safe_flags hc).2.2.2, and_true]
  exact hf

example : (Own.exec Own.codeCfg Own.State.init [.put [1] [10], .flush]).lookup [1] = some (1, .table) := by decide
example : (Own.step Own.codeCfg (Own.exec Own.codeCfg Own.State.init [.put [1] [10], .flush]) (.get [1])).1.owned
    = [0, 2] := by decide

/-! ## every one of the copies is needed -/

def noTableGetCopy : Own.Cfg := { putCopies := true, memGetCopies := true, tableGetCopies := false, iterCopies := true }
def noPutCopy : Own.Cfg := { putCopies := false, memGetCopies := true, tableGetCopies := true, iterCopies := true }
def noIterCopy : Own.Cfg := { putCopies := true, memGetCopies := true, tableGetCopies := true, iterCopies := false }
def noMemGetCopy : Own.Cfg := { putCopies := true, memGetCopies := false, tableGetCopies := true, iterCopies := true }

/-- defect D9 (`table.Reader.find` returned a slice of the cached block): the caller modifies the value a Get
returned (owned cell 1: cell 0 is its `put` argument) and the next Get of the same key returns the modification -/
theorem alias_table_get_breaks :
    Own.run noTableGetCopy Own.State.init [.put [1] [10], .flush, .get [1], .scribble 1 [66], .get [1]]
      = [[10], [66]] ∧
    Own.run noTableGetCopy Own.State.init
        (Own.clean [.put [1] [10], .flush, .get [1], .scribble 1 [66], .get [1]]) = [[10], [10]] ∧
    ¬ (∀ ops, Own.run noTableGetCopy Own.State.init ops = Own.run noTableGetCopy Own.State.init (Own.clean ops)) := by
  refine ⟨by decide, by decide, fun h => ?_⟩
  exact absurd (h [.put [1] [10], .flush, .get [1], .scribble 1 [66], .get [1]]) (by decide)

/-- if `Put` kept the caller's buffer, reusing that buffer (owned cell 0) after `Put` returned would change the
stored value -/
theorem alias_put_breaks :
    Own.run noPutCopy Own.State.init [.put [1] [10], .scribble 0 [66], .get [1]] = [[66]] ∧
    Own.run noPutCopy Own.State.init (Own.clean [.put [1] [10], .scribble 0 [66], .get [1]]) = [[10]] ∧
    ¬ (∀ ops, Own.run noPutCopy Own.State.init ops = Own.run noPutCopy Own.State.init (Own.clean ops)) := by
  refine ⟨by decide, by decide, fun h => ?_⟩
  exact absurd (h [.put [1] [10], .scribble 0 [66], .get [1]]) (by decide)

/-- if an iterator exposed the stored bytes themselves, writing into its Value() would change later reads -/
theorem alias_iter_breaks :
    Own.run noIterCopy Own.State.init [.put [1] [10], .iterAt [1], .scribble 1 [66], .get [1]] = [[10], [66]] ∧
    Own.run noIterCopy Own.State.init (Own.clean [.put [1] [10], .iterAt [1], .scribble 1 [66], .get [1]])
      = [[10], [10]] ∧
    ¬ (∀ ops, Own.run noIterCopy Own.State.init ops = Own.run noIterCopy Own.State.init (Own.clean ops)) := by
  refine ⟨by decide, by decide, fun h => ?_⟩
  exact absurd (h [.put [1] [10], .iterAt [1], .scribble 1 [66], .get [1]]) (by decide)

/-- if a Get served from the write buffer returned the memdb's bytes, modifying the result would change later reads -/
theorem alias_mem_get_breaks :
    Own.run noMemGetCopy Own.State.init [.put [1] [10], .get [1], .scribble 1 [66], .get [1]] = [[10], [66]] ∧
    Own.run noMemGetCopy Own.State.init (Own.clean [.put [1] [10], .get [1], .scribble 1 [66], .get [1]])
      = [[10], [10]] ∧
    ¬ (∀ ops, Own.run noMemGetCopy Own.State.init ops = Own.run noMemGetCopy Own.State.init (Own.clean ops)) := by
  refine ⟨by decide, by decide, fun h => ?_⟩
  exact absurd (h [.put [1] [10], .get [1], .scribble 1 [66], .get [1]]) (by decide)

/-- the configurations of the negative results differ from a safe one in exactly the named flag -/
example : noTableGetCopy.safe = false ∧ noPutCopy.safe = false ∧ noIterCopy.safe = false ∧
    noMemGetCopy.safe = false := by decide
/-- the D9 program is harmless for the code as it is now -/
example : Own.run Own.codeCfg Own.State.init [.put [1] [10], .flush, .get [1], .scribble 1 [66], .get [1]]
    = [[10], [10]] := by decide

end GoLevel.C20

namespace GoLevel
def C20.theorems : List String :=
  ["GoLevel.C20.noninterference", "GoLevel.C20.code_safe", "GoLevel.C20.code_noninterference",
   "GoLevel.C20.stored_unchanged", "GoLevel.C20.args_not_retained", "GoLevel.C20.put_keeps_no_reference",
   "GoLevel.C20.results_private", "GoLevel.C20.iter_results_private",
   "GoLevel.C20.alias_table_get_breaks", "GoLevel.C20.alias_put_breaks", "GoLevel.C20.alias_iter_breaks",
   "GoLevel.C20.alias_mem_get_breaks"]
end GoLevel

#print axioms GoLevel.C20.noninterference
#print axioms GoLevel.C20.code_safe
#print axioms GoLevel.C20.code_noninterference
#print axioms GoLevel.C20.stored_unchanged
#print axioms GoLevel.C20.args_not_retained
#print axioms GoLevel.C20.put_keeps_no_reference
#print axioms GoLevel.C20.results_private
#print axioms GoLevel.C20.iter_results_private
#print axioms GoLevel.C20.alias_table_get_breaks
#print axioms GoLevel.C20.alias_put_breaks
#print axioms GoLevel.C20.alias_iter_breaks
#print axioms GoLevel.C20.alias_mem_get_breaks

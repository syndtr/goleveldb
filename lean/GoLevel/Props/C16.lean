import GoLevel.Proofs.Bloom
/-!
# C16 — filters never hide a stored key (Bloom-filter part)

"A key that was added to a filter is always reported as possibly present, for every key set, every
bits-per-key setting and every filter-block layout."

This file: the built-in Bloom policy (`filter/bloom.go`) and the `iFilter` wrapper (`leveldb/filter.go`).
The filter-block layout (`C13.filter_partition`) and the filtered lookup (`C13.find_filtered_stored`,
`Proofs/TableFF.lean`) belong to the table layer.

Side condition.  `Generate` computes `nBits := uint32(len(keyHashes) * n)` and then `(nBits + 7) / 8` in
`uint32`.  `(len * bpk) % 2^32 + 7 < 2^32` says that this last addition does not wrap.
It is *exactly* the condition under which Go's `Generate` does not panic (`bloom_side_condition_exact`): if it fails,
`nBytes = nBits = 0` and the first `kh % nBits` is an integer division by zero.  A wrap of the product
`len * bpk` itself is harmless (the filter is merely smaller than intended): the reader recomputes
`nBits` from the filter length, so the theorem covers those cases too.  `bitsPerKey = 0` is covered as well.
-/
namespace GoLevel.C16
open GoLevel

/-- `NewGenerator` always picks `1 ≤ k ≤ 30`, also where `uint8(f*69/100)` wraps -/
theorem bloom_k_range (b : Nat) : 1 ≤ bloomK b ∧ bloomK b ≤ 30 := by
  simp only [bloomK]
  generalize Gen.bloomKRaw b % 256 = k
  split
  · omega
  · split <;> omega

/-- What happens beyond the side condition: it fails exactly when Go's `Generate` panics
    (`nBytes = 0`, integer division by zero at the first probe) once a key has been added. -/
theorem bloom_side_condition_exact (bpk nKeys : Nat) :
    bloomGenPanics bpk nKeys = true ↔ ¬ ((nKeys * bpk) % 2 ^ 32 + 7 < 2 ^ 32) := by
  rw [bloomGenPanics, beq_iff_eq, ← UInt32.toNat_inj, bloomNBytes_toNat]
  have : (nKeys * bpk) % 2 ^ 32 < 2 ^ 32 := Nat.mod_lt _ (by decide)
  generalize (nKeys * bpk) % 2 ^ 32 = m at *
  show _ = 0 ↔ _
  omega

/-- No false negatives, full strength: every `bitsPerKey ≥ 0`, every key list for which Go's `Generate`
    does not panic.  Depends on `Gen.bloomDeltaContains = Gen.bloomDeltaGenerate` (`bloomDelta_eq`, by `rfl`
    on the generated definitions) and on the reader recomputing the generator's `nBits`. -/
theorem bloom_no_false_negative (bpk : Nat) (keys : List Bytes) (k : Bytes)
    (hok : (keys.length * bpk) % 2 ^ 32 + 7 < 2 ^ 32) (hmem : k ∈ keys) :
    bloomContains (bloomGenerate bpk keys) k = true := by
  -- the filter has at least one byte, since `Generate` does not panic
  have h0 : (bloomNBytes bpk keys.length).toNat ≠ 0 := fun h =>
    (bloom_side_condition_exact bpk keys.length).1 (beq_iff_eq.2 (UInt32.toNat_inj.1 h)) hok
  simp only [bloomGenerate, List.length_map]
  exact bloomContains_fill _ (bloom_k_range bpk).2 _ (Nat.pos_of_ne_zero h0) (bloomNBytes_mul_lt _ _) _ _
    Array.size_replicate k (List.mem_map_of_mem hmem)

private def ks : List Bytes := [[1, 2, 3], [], [0xff, 0x00, 0xff, 0x00, 0x61], [0x61, 0x62]]

/-- non-vacuity: a member is found, and `bloomContains` is not constantly `true` on that filter -/
example : bloomContains (bloomGenerate 10 ks) [0xff, 0x00, 0xff, 0x00, 0x61] = true :=
  bloom_no_false_negative 10 ks _ (by decide) (by decide)
example : bloomContains (bloomGenerate 10 ks) [0x7a] = false := by decide +kernel

/-- The same in the shape "no `uint32` wrap at all": `1 ≤ bpk` and `len * bpk ≤ 2^32 - 8`.
    (`len * bpk < 2^32` alone is **not** enough: the seven values `2^32-7 … 2^32-1` make Go panic.) -/
theorem bloom_no_false_negative_nowrap (bpk : Nat) (keys : List Bytes) (k : Bytes)
    (_hb : 1 ≤ bpk) (hsz : keys.length * bpk + 7 < 2 ^ 32) (hmem : k ∈ keys) :
    bloomContains (bloomGenerate bpk keys) k = true :=
  bloom_no_false_negative bpk keys k
    (Nat.lt_of_le_of_lt (Nat.add_le_add_right (Nat.mod_le _ _) 7) hsz) hmem

example : bloomContains (bloomGenerate 1 ks) [] = true :=
  bloom_no_false_negative_nowrap 1 ks _ (by decide) (by decide) (by decide)

/-- non-vacuity: 16 843 009 keys at 255 bits per key give `len * bpk = 2^32 - 1` -/
example : bloomGenPanics 255 16843009 = true := by decide
example : bloomGenPanics 10 2000 = false := by decide

/-- The Bloom policy satisfies the filter contract for key sets of at most `n` keys whenever
    `n * bpk ≤ 2^32 - 8`.  The bound cannot be dropped for every `bpk` (`bloom_unbounded_fails`), hence
    `LawfulFilterBounded` instead of `LawfulFilter`; for `bpk = 10` it allows 429 496 728 keys per filter,
    whereas the table writer puts the keys of one data block (a few hundred) into one filter. -/
theorem bloom_lawful (bpk n : Nat) (hb : n * bpk + 7 < 2 ^ 32) :
    LawfulFilterBounded (bloomPolicy bpk) n := by
  intro keys k hlen hmem
  rw [bloomPolicy_contains_generate]
  exact bloom_no_false_negative bpk keys k (Nat.lt_of_le_of_lt (Nat.add_le_add_right
    (Nat.le_trans (Nat.mod_le _ _) (Nat.mul_le_mul_right bpk hlen)) 7) hb) hmem

example : LawfulFilterBounded (bloomPolicy 10) 400000000 := bloom_lawful 10 400000000 (by decide)
example : (bloomPolicy 10).contains ((bloomPolicy 10).generate ks) [0x61, 0x62] = true :=
  bloom_lawful 10 4 (by decide) ks _ (by decide) (by decide)

/-- When `8 ∣ bpk` the product is a multiple of 8, the rounding never wraps, and the contract holds
    without any bound. -/
theorem bloom_lawful_of_dvd (bpk : Nat) (h8 : 8 ∣ bpk) : LawfulFilter (bloomPolicy bpk) := by
  intro keys k hmem
  obtain ⟨c, rfl⟩ := h8
  rw [bloomPolicy_contains_generate]
  apply bloom_no_false_negative _ keys k _ hmem
  rw [Nat.mul_left_comm]
  omega

example : LawfulFilter (bloomPolicy 16) := bloom_lawful_of_dvd 16 (by decide)

/-- … and it does fail for some `bpk` in the model (in Go: a panic instead of a wrong answer). -/
theorem bloom_unbounded_fails : ¬ LawfulFilter (bloomPolicy 255) := by
  intro h
  have h1 := h (List.replicate 16843009 []) [] (List.mem_replicate.mpr ⟨by decide, rfl⟩)
  rw [bloomPolicy_contains_generate,
    bloom_panic_model 255 _ [] (by rw [List.length_replicate]; decide)] at h1
  cases h1

/-- `iFilter`: a lawful user policy stays lawful when wrapped for internal keys — an internal key that was
    added is found because its user key (all but the last 8 bytes) was added to the inner filter. -/
theorem internal_lawful (f : FilterPolicy) (h : LawfulFilter f) : LawfulFilter f.internal := by
  intro ikeys ik hmem
  exact h _ _ (List.mem_map_of_mem (f := fun k : Bytes => k.take (k.length - 8)) hmem)

theorem internal_lawful_bounded (f : FilterPolicy) (n : Nat) (h : LawfulFilterBounded f n) :
    LawfulFilterBounded f.internal n := by
  intro ikeys ik hlen hmem
  exact h _ _ (by rw [List.length_map]; exact hlen)
    (List.mem_map_of_mem (f := fun k : Bytes => k.take (k.length - 8)) hmem)

/-- non-vacuity: two internal keys (user key ++ 8 trailer bytes) through the wrapped Bloom policy;
    the wrapped filter is the filter of the user keys -/
private def iks : List Bytes := [[0x61, 1, 5, 0, 0, 0, 0, 0, 0], [0x62, 0x63, 0, 9, 0, 0, 0, 0, 0, 0]]
example : (bloomPolicy 16).internal.contains ((bloomPolicy 16).internal.generate iks)
    [0x62, 0x63, 0, 9, 0, 0, 0, 0, 0, 0] = true :=
  internal_lawful _ (bloom_lawful_of_dvd 16 (by decide)) iks _ (by decide)
example : (bloomPolicy 10).internal.contains ((bloomPolicy 10).internal.generate iks)
    [0x61, 1, 5, 0, 0, 0, 0, 0, 0] = true :=
  internal_lawful_bounded _ 2 (bloom_lawful 10 2 (by decide)) iks _ (by decide) (by decide)
example : (bloomPolicy 10).internal.generate iks = (bloomPolicy 10).generate [[0x61], [0x62, 0x63]] :=
  congrArg (bloomGenerate 10) (by rfl : iks.map (fun k => k.take (k.length - 8)) = [[0x61], [0x62, 0x63]])

example : bloomK 10 = 6 ∧ bloomK 1 = 1 ∧ bloomK 64 = 30 ∧ bloomK 372 = 1 ∧ bloomK 400 = 20 := by decide

end GoLevel.C16

namespace GoLevel
def C16.theorems : List String :=
  ["GoLevel.C16.bloom_no_false_negative", "GoLevel.C16.bloom_no_false_negative_nowrap",
   "GoLevel.C16.bloom_side_condition_exact", "GoLevel.C16.bloom_lawful", "GoLevel.C16.bloom_lawful_of_dvd",
   "GoLevel.C16.bloom_unbounded_fails", "GoLevel.C16.internal_lawful", "GoLevel.C16.internal_lawful_bounded",
   "GoLevel.C16.bloom_k_range"]
end GoLevel

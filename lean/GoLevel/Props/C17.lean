import GoLevel.Proofs.CacheStep
import GoLevel.Proofs.CacheLocksClose
import GoLevel.Proofs.CacheProgress
import GoLevel.Proofs.CacheTableRun
import GoLevel.Proofs.CacheTableDriver   -- the driver's `cache …` protocol runs exactly these two models
/-! # C17 — the cache that holds open tables and blocks

"Concurrent lookups of the same (namespace, key) obtain the same live value, whose constructor runs once per
residency; a value is finalised exactly once, and - except when the whole cache is force-closed - only after
every handle to it has been released; deletion callbacks run exactly once and never while a handle is
outstanding.  The total charge of entries retained by the replacement policy never exceeds the configured
capacity."

Model: `GoLevel.CacheM` (`Model/Cache.lean`), the interleaving system `sysStep` over the critical sections of
`cache.go` / `lru.go`, for any number of threads and handles.  `Reachable g s`: `s` is reachable; with `g = true`
the system is *guarded*: `Close` takes `r.mu` only while no thread sits between the decrement that brought a
counter to zero in `Node.unRefExternal` and the `RLock` that follows it.

The model carries the version of the code as configuration (`Cfg`, read off the source by `tools/extract`:
`Cfg.code`, used by `Sys.init` / `Shared.new`): `clearDel` — `mBucket.delete` takes the delFuncs out of the removed
node before calling them (repair of D30) — and `recheck` — the closed branch of `unRefExternal` calls the
finaliser only if the counter is still zero (repair of D32).  Before these repairs the finalisation properties
needed the guard: `close_race_finalises_under_handle` (`recheck = false`) and `close_race_delfunc_twice`
(`clearDel = false`) are kept as the records of the two defects, both reproduced on the implementation at the
time.  FOR THE CODE AS IT IS NO CLAUSE NEEDS THE GUARD: `no_finalise_under_handle(_code)`,
`delfunc_at_most_once(_code)`, `finalise_exactly_once`, and `lru_capacity` / `unique_live_value` hold for every
reachable state of the unguarded system.  What a `Close` race still produces there is a `callFinalizer` through a
pointer to a node that `mBucket.delete` removed (`close_race_stale_finaliser`, flagged `bug` by the model): it
finds neither a value nor delFuncs and does nothing.  (`Close(true)` finalises under outstanding handles by design:
the clauses about handles carry `forced = false`.)

`Node.callFinalizer` is one atomic step: the repaired code ("make Node.callFinalizer safe against a concurrent second
call") takes the value and the delFuncs out of the node under `n.mu`; `callFinalizer_race` below records what the
unrepaired code did, `callFinalizer_repaired` that two overlapping calls now release the value once.

**Quiescence** (`Quiescent s`): no thread has an instruction pending — every call that was started has returned.
`finalise_exactly_once` is a statement about all reachable quiescent states, for every interleaving that leads
there; it assumes nothing else about the scheduler (in particular no fairness: a state in which some call never
finishes is simply not quiescent).

The hash table (`mHead`/`mBucket`, lazily initialised buckets, grow/shrink) that `Model/Cache.lean` abstracts to a
list of nodes is modelled sequentially in `Model/CacheTable.lean`; `table_refines_map` shows that it is a finite
map keyed by (ns,key). -/
namespace GoLevel.C17
open GoLevel.CacheM

/-- **unique_live_value.**  In every reachable state: (1) there is at most one node per (ns,key) — so `Get`s that
overlap obtain handles to the same node; (2) (with the repaired `unRefExternal` — `recheck`, the code as it is — or
guarded or not yet closed; not force-closed) every outstanding
handle — of a caller, of the LRU list, or in flight in a thread — refers to an existing node that has its
value; (3) a step never replaces the value of a node: it can only disappear, and only through its finaliser;
keys never change; (4) the constructor (`setFunc`) runs only for a node without a value and installs the
value it returns — once per residency. -/
theorem unique_live_value {g : Bool} {s : Sys} (hr : Reachable g s) :
    (∀ n ∈ s.sh.nodes, ∀ m ∈ s.sh.nodes, n.key = m.key → n = m) ∧
    ((g = true ∨ s.sh.recheck = true ∨ s.sh.closed = false) → s.sh.forced = false → ∀ id, 0 < outstanding s id →
        ∃ n ∈ s.sh.nodes, n.id = id ∧ n.value.isSome = true) ∧
    (∀ a s', sysStep g s a = some s' →
      (∀ n ∈ s.sh.nodes, ∀ n' ∈ s'.sh.nodes, n'.id = n.id →
          n'.key = n.key ∧ ∀ v, n.value = some v →
            n'.value = some v ∨ (n'.value = none ∧ ∃ f, Ev.fin n.id v f ∈ emitted s a)) ∧
      (∀ id v, Ev.ctor id v ∈ emitted s a →
          (∃ n ∈ s.sh.nodes, n.id = id ∧ n.value = none) ∧ ∃ n' ∈ s'.sh.nodes, n'.id = id ∧ n'.value = some v)) := by
  have hinv := inv_reachable hr
  refine ⟨?_, ?_, ?_⟩
  · exact fun n hn m hm hk => eq_of_nodup_map (·.key) hinv.core.keys hn hm hk
  · intro hg hf id hpos
    refine hinv.core.holds_val (eff_of hg) hf ?_
    unfold outstanding at hpos
    by_cases h1 : id ∈ s.sh.handles
    · exact .inl h1
    by_cases h2 : id ∈ s.sh.lru.recent
    · exact .inr (.inl h2)
    have c1 := List.count_eq_zero.mpr h1
    have c2 := List.count_eq_zero.mpr h2
    obtain ⟨j, hj, hv⟩ := List.countP_pos_iff.mp (by omega : 0 < (pending s).countP (holdsHandle id))
    exact .inr (.inr ⟨j, hj, holdsHandle_holdsVal hv⟩)
  · intro a s' hs
    rcases sysStep_cases hs with ⟨t, c, rfl, _, hem, rfl⟩ | ⟨t, i, rest, sh', push, evs, rfl, ht, he, hem, rfl⟩
    · refine ⟨fun n hn n' hn' hid => ?_, fun id v hev => ?_⟩
      · have := same_of_id hinv.core.ids.1 hn' hn hid; subst this
        exact ⟨rfl, fun v hv => Or.inl hv⟩
      · rw [hem] at hev; cases hev
    · obtain ⟨Q, _, _, hP, _⟩ := hinv.at_step hs ht
      rw [hem]
      refine ⟨fun n hn n' hn' hid => ?_, fun id v hev => ?_⟩
      · have := node_step hP he hn hn' hid
        exact ⟨this.key, fun v => this.value⟩
      · exact ctor_step he hev

/-- Two handles whose nodes have the same (ns,key) are handles to the same node, hence to the same value. -/
theorem same_key_same_value {g : Bool} {s : Sys} (hr : Reachable g s) {n m : Node}
    (hn : n ∈ s.sh.nodes) (hm : m ∈ s.sh.nodes) (hk : n.key = m.key) : n.id = m.id ∧ n.value = m.value := by
  have := (unique_live_value hr).1 n hn m hm hk
  subst this; exact ⟨rfl, rfl⟩

/-- **finalise_once_after_release.**  (1) No value's `Release` appears twice in the history, and a finalised
value is not resident any more; (2) with the repaired `unRefExternal` (`recheck = true`, the code as it is:
`code_closed_unref_rechecks`) — or in the guarded system, or before `Close` — and unless the cache was
force-closed, a finaliser only runs in a state in which no handle to its node is outstanding (callers, LRU
list and threads all counted).  Before that repair this needed the guard: `close_race_finalises_under_handle`.
`no_finalise_under_handle` states it for the code's configuration without any side condition. -/
theorem finalise_once_after_release {g : Bool} {s : Sys} (hr : Reachable g s) :
    (s.log.filterMap finVal).Nodup ∧
    (∀ v ∈ s.log.filterMap finVal, ∀ n ∈ s.sh.nodes, n.value ≠ some v) ∧
    (∀ a s', sysStep g s a = some s' → s.sh.forced = false → (g = true ∨ s.sh.recheck = true ∨ s.sh.closed = false) →
      ∀ id v f, Ev.fin id v f ∈ emitted s a → outstanding s id = 0) := by
  have hinv := inv_reachable hr
  have hlog := logOK_reachable hr
  have hv := List.nodup_append.mp (hlog.vals.nodup_iff.mpr List.nodup_range)
  refine ⟨hv.1, ?_, ?_⟩
  · intro v hvm n hn hval
    exact hv.2.2 v hvm v (List.mem_filterMap.mpr ⟨n, hn, hval⟩) rfl
  · exact fun a s' hs hf hg id v f hev => outstanding_zero_of_fin hr hs hf hg hev (by simp [isFinOf])

/-- **finalise_exactly_once.**  In every reachable *quiescent* state (no thread inside the cache: every call has
returned), guarded or not:

(1) no value's `Release` ran twice, and every value that was constructed (`Ev.ctor _ v` in the history) is either
finalised — exactly once, and then no node holds it any more — or not finalised and still the value of a node
that is *retained*: the cache was not force-closed and a caller still owns a handle to the node, or the cache is
open and the node is on the LRU list.  So a value whose handles have all been released and that has left the
cache (evicted, deleted, or the cache closed — after `Close` nothing is on the LRU list) has been finalised
exactly once; after `Close(true)` every value has.

(2) with the repaired `mBucket.delete` (`clearDel = true`, the code as it is: `code_delete_clears_delFuncs`) no
delFunc ran twice, guarded or not — `delfunc_at_most_once` states it for every reachable state; before that repair
this needed the guard (`close_race_delfunc_twice`); and, guarded or not, every delFunc handed to `Cache.Delete` so far (they are numbered in
call order, `d < nextDel`) has run, or is still attached to a retained node, or was handed to a `Delete` that
found the cache closed (`dropped`; the code then returns `false` and never calls it — contrary to the comment on
`Delete`, reported).  So the delFuncs of a node that was deleted have all run exactly once.

(3) after `Close` nothing is left on the LRU list. -/
theorem finalise_exactly_once {g : Bool} {s : Sys} (hr : Reachable g s) (hq : Quiescent s) :
    ((s.log.filterMap finVal).Nodup ∧
      ∀ id v, Ev.ctor id v ∈ s.log →
        (v ∈ s.log.filterMap finVal ∧ ∀ n ∈ s.sh.nodes, n.value ≠ some v) ∨
        (v ∉ s.log.filterMap finVal ∧ ∃ n ∈ s.sh.nodes, n.value = some v ∧ Retained s n)) ∧
    (((g = true ∨ s.sh.clearDel = true ∨ s.sh.stale = false) → (s.log.filterMap delId).Nodup) ∧
      ∀ d, d < s.sh.nextDel →
        d ∈ s.log.filterMap delId ∨ (∃ n ∈ s.sh.nodes, d ∈ n.delFuncs ∧ Retained s n) ∨ d ∈ s.sh.dropped) ∧
    (s.sh.closed = true → s.sh.lru.recent = []) := by
  obtain ⟨hnd, hgone, _⟩ := finalise_once_after_release hr
  refine ⟨⟨hnd, fun id v hc => ?_⟩, ⟨delf_nodup hr, fun d hd => ?_⟩, recent_nil_of_closed_quiescent hr hq⟩
  · have hlt := (logOK_reachable hr).ct id v hc
    rcases List.mem_append.mp ((logOK_reachable hr).vals.mem_iff.mpr (List.mem_range.mpr hlt)) with hf | hn
    · exact Or.inl ⟨hf, hgone v hf⟩
    · obtain ⟨n, hn, hval⟩ := List.mem_filterMap.mp hn
      refine Or.inr ⟨fun hf => hgone v hf n hn hval, n, hn, hval, ?_⟩
      exact retained_of_quiescent hr hq hn (fun h => by rw [h.1] at hval; cases hval)
  · have hD := (logOK_reachable hr).da d hd
    simp only [D, show pending s = [] from hq, List.flatMap_nil, List.append_nil, List.mem_append,
      List.mem_flatMap] at hD
    rcases hD with (hl | ⟨n, hn, hdn⟩) | hdrop
    · exact Or.inl hl
    · exact Or.inr (Or.inl ⟨n, hn, hdn, retained_of_quiescent hr hq hn (fun h => by rw [h.2] at hdn; cases hdn)⟩)
    · exact Or.inr (Or.inr hdrop)

/-- **no_deadlock** — quiescence is not reached by getting stuck: in every reachable state that is not quiescent
some thread can take a step (`Close` waits for the readers inside and, guarded, for the threads in the zero branch
of `unRefExternal`; those can always move).  No fairness is assumed anywhere: `finalise_exactly_once` speaks about
whatever quiescent states a schedule reaches. -/
theorem no_deadlock {g : Bool} {s : Sys} (hr : Reachable g s) (hnq : ¬ Quiescent s) :
    ∃ t s', sysStep g s (.step t) = some s' :=
  progress hr hnq

/-! ## The locks: `mu` and `unrefMu` with Go's writer preference (`Model/CacheLocks.lean`)

`no_deadlock` above is about the base system, in which readers never wait.  The lock-level system `CacheL.LSys`
adds the two `sync.RWMutex`es as Go implements them (an announced writer blocks NEW readers; readers inside
proceed), and who takes what: see the header of `Model/CacheLocks.lean`. -/

open GoLevel.CacheL in
/-- **lock_system_refines** — the lock-level system only restricts the base system: every state it reaches is a
reachable state of the (unguarded) base system, so every safety theorem of this file holds for it. -/
theorem lock_system_refines {ls : LSys} (hr : LReachable ls) : Reachable false ls.base :=
  lreachable_base hr

open GoLevel.CacheL in
/-- **code_unref_own_lock** — the lock configuration of the model is the code's: `tools/extract` finds that
`Node.unRefExternal` read-locks `n.r.unrefMu` (and never `n.r.mu`) around its closed-check, and that `Cache.Close`
runs `if !r.closed {…}` between `r.mu.Lock(); r.unrefMu.Lock()` and `r.unrefMu.Unlock(); r.mu.Unlock()`. -/
theorem code_unref_own_lock : unrefUsesMuCode = false := by decide

open GoLevel.CacheL in
/-- **no_deadlock_locks** — WITH the locks, for the code as it is (`unRefExternal` uses `unrefMu`): in every
reachable state of the lock-level system in which some call has not returned (`¬ LQuiescent`), some thread can
take a step.  (The only waits are: a new reader for an announced writer; a writer for the readers inside.  A reader
of `mu` never needs `mu` again, and what it may need — `unrefMu`, for the releases the LRU performs from inside
`Promote` / `Ban` / `Evict` — is only ever write-locked by a `Close` that already holds `mu`, i.e. when there is no
reader of `mu`; a reader of `unrefMu` takes no lock at all.) -/
theorem no_deadlock_locks {ls : LSys} (hr : LReachable ls) (hc : ls.unrefUsesMu = false) (hnq : ¬ LQuiescent ls) :
    ∃ t ls', lstepThread ls t = some ls' :=
  lock_progress hr hc hnq

open GoLevel.CacheL in
/-- … in particular for every state run from `LSys.init`, the configuration read off the source. -/
theorem no_deadlock_locks_code {c n : Nat} {sched : List Act} {ls : LSys}
    (h : lrun (LSys.init c n) sched = some ls) (hnq : ¬ LQuiescent ls) : ∃ t ls', lstepThread ls t = some ls' := by
  -- the flag never changes
  have hc : ls.unrefUsesMu = false :=
    lrun_induct (P := fun ls => ls.unrefUsesMu = false) (fun hu hs => (lstep_frame hs).1.trans hu) code_unref_own_lock h
  exact lock_progress (lreachable_lrun (LReachable.init Cfg.code unrefUsesMuCode c n) h) hc hnq

open GoLevel.CacheL in
/-- **close_returns** — `Close` gets through its locking, measure-style (for the code as it is).  Let thread `w` be
inside `Close`'s locking (`phase ≠ idle`: `r.mu.Lock()` announced … `r.mu.Unlock()` not yet done).  Then

(1) somebody HELPFUL is enabled: `w` itself, or — while `w` waits for the readers of `mu` (resp. `unrefMu`) — a
thread `t ≠ w` that holds that lock for reading, and its step strictly decreases `Phi mu` (resp. `Phi un`), the
total weight of the instructions the readers still have to execute;
(2) `w`'s own step takes it one phase further (`Phase.rank` decreases: six lock steps and the body);
(3) NO step of any other thread undoes this: it leaves `w`'s phase alone and does not increase `Phi mu` (nor
`Phi un` while `w` waits on `unrefMu`): new readers are blocked by the announced writer, and nothing lengthens a
reader's remaining work (`CacheLocksMeasure`: every instruction weighs more than what it pushes);
(4) when `Phi l` is zero the lock `l` has no readers, i.e. `w`'s acquisition is enabled.

So under weak fairness (a thread that stays enabled is eventually scheduled: a reader is never blocked, (1)) `Phi`
reaches zero after at most `Phi` reader steps, `w` acquires, and after at most 6 more steps of its own `w` has
released both locks: `Close`'s critical section always completes.  What follows it in `Close` — `lru.Evict` and,
forced, `callFinalizer` for each node — are non-blocking single steps except `unRefExternal`'s
`unrefMu.RLock()`, which waits only for another `Close` inside its own locking, to which this theorem applies. -/
theorem close_returns {ls : LSys} {w : Nat} {th : LThread} (hr : LReachable ls) (hc : ls.unrefUsesMu = false)
    (hth : ls.tl[w]? = some th) (hp : th.phase ≠ .idle) :
    ((∃ ls', lstepThread ls w = some ls') ∨
      (th.phase = .annMu ∧ ∃ t ls', t ≠ w ∧ lstepThread ls t = some ls' ∧ Phi .mu ls' < Phi .mu ls) ∨
      (th.phase = .annUn ∧ ∃ t ls', t ≠ w ∧ lstepThread ls t = some ls' ∧ Phi .un ls' < Phi .un ls)) ∧
    (∀ ls', lstepThread ls w = some ls' → ∃ th', ls'.tl[w]? = some th' ∧ th'.phase.rank < th.phase.rank) ∧
    (∀ a ls', lstep ls a = some ls' → a ≠ .step w →
      ls'.tl[w]? = some th ∧ Phi .mu ls' ≤ Phi .mu ls ∧ (unPhase th.phase = true → Phi .un ls' ≤ Phi .un ls)) ∧
    (Phi .mu ls = 0 → ls.mu.readers = 0) ∧ (Phi .un ls = 0 → ls.un.readers = 0) :=
  ⟨close_helpful hr hc hth hp, fun _ => own_step_rank hth hp, fun _ _ => close_stable hr hc hth hp,
   fun h0 => phi_zero (l := .mu) hr hc h0, fun h0 => phi_zero (l := .un) hr hc h0⟩

namespace D36
open GoLevel.CacheL

/-- Thread 0: `Get` key (0,1) in a cache of capacity 1 and release the handle (the node stays on the LRU list);
then `Get` key (0,2): `r.mu.RLock()`, the table access, `setFunc`, `lru.Promote` — which evicts node 0 and
releases the LRU's handle: `unRefExternal` brings the counter to zero.  Thread 1: `Close`: `r.mu.Lock()`
announces itself and waits for thread 0 to leave.  Thread 0's `unRefExternal` now wants a read lock. -/
def sched : List Act :=
  [ .call 0 (.get (0, 1) (.val 1)) ] ++ List.replicate 6 (.step 0) ++
  [ .call 0 (.release 0), .step 0, .step 0 ] ++
  [ .call 0 (.get (0, 2) (.val 1)) ] ++ List.replicate 5 (.step 0) ++
  [ .call 1 (.close false), .step 1 ]

/-- Before the repair `unRefExternal` read-locked `r.mu`. -/
def before : LSys := LSys.initCfg Cfg.code true 1 2

theorem eval :
    (lrun before sched).map (fun ls => ls.unrefUsesMu && ls.tl.length == 2 && !(pending ls.base).isEmpty &&
      (lstepThread ls 0).isNone && (lstepThread ls 1).isNone) = some true := by decide +kernel

end D36

open GoLevel.CacheL in
/-- **d36_deadlock** — RECORD OF A REPAIRED DEFECT (D36).  With `unRefExternal` read-locking `r.mu`
(`unrefUsesMu = true`, the code before the repair) the lock-level system reaches a state that is not quiescent
and in which NO thread can take a step: thread 0 is inside `Get` (holds `r.mu` for reading) and its
`lru.Promote` released the last handle of the evicted node, so `unRefExternal` asks for `r.mu.RLock()` again;
thread 1's `Close` has announced `r.mu.Lock()`, which blocks that new read lock and itself waits for thread 0 to
leave.  (`DB.Get` racing `DB.Close` with a full table cache; reproduced on the implementation at cache level and at
DB level before the repair.) -/
theorem d36_deadlock :
    ∃ ls, LReachable ls ∧ ls.unrefUsesMu = true ∧ ¬ LQuiescent ls ∧ Stuck ls := by
  obtain ⟨ls, hs, h⟩ := Option.map_eq_some_iff.1 D36.eval
  simp only [Bool.and_eq_true, Bool.not_eq_true', beq_iff_eq, Option.isNone_iff_eq_none] at h
  obtain ⟨⟨⟨⟨h1, h2⟩, h3⟩, h4⟩, h5⟩ := h
  refine ⟨ls, lreachable_lrun (LReachable.init _ _ _ _) hs, h1, ?_, ?_⟩
  · intro hq
    rw [hq.1] at h3; simp at h3
  · intro t
    match t with
    | 0 => exact h4
    | 1 => exact h5
    | t + 2 =>
      unfold lstepThread
      have : ls.tl[t + 2]? = none := List.getElem?_eq_none (by omega)
      rw [this]

/-- The same interleaving with the lock the code uses now (`unrefMu`): thread 0's `unRefExternal` is not blocked —
it proceeds, leaves `Get`, and `Close` gets `r.mu`. -/
example :
    (GoLevel.CacheL.lrun (GoLevel.CacheL.LSys.init 1 2) D36.sched).map
      (fun ls => ((GoLevel.CacheL.lstepThread ls 0).isSome, (GoLevel.CacheL.lstepThread ls 1).isSome)) =
    some (true, false) := by decide +kernel

/-- … and run on (thread 0 finishes its `Get`, then `Close` completes): everything returns. -/
example :
    (GoLevel.CacheL.lrun (GoLevel.CacheL.LSys.init 1 2)
      (D36.sched ++ List.replicate 5 (.step 0) ++ List.replicate 8 (.step 1))).map
      (fun ls => ((pending ls.base).isEmpty, ls.tl.map (·.phase), ls.mu.writer, ls.un.writer, ls.base.sh.closed)) =
    some (true, [.idle, .idle], none, none, true) := by decide +kernel

/-- After a forced `Close`, once quiescent, every constructed value has been finalised (exactly once). -/
theorem forced_close_finalises_all {g : Bool} {s : Sys} (hr : Reachable g s) (hq : Quiescent s)
    (hf : s.sh.forced = true) : ∀ id v, Ev.ctor id v ∈ s.log → v ∈ s.log.filterMap finVal := by
  intro id v hc
  rcases (finalise_exactly_once hr hq).1.2 id v hc with h | ⟨_, n, _, _, hret⟩
  · exact h.1
  · rw [hret.1] at hf; cases hf

/-- A weaker bound: every finalised or resident value is below `nextVal`. -/
theorem finalise_exactly_once_partial {g : Bool} {s : Sys} (hr : Reachable g s) :
    ∀ v ∈ s.log.filterMap finVal ++ s.sh.nodes.filterMap (·.value), v < s.sh.nextVal :=
  fun _ hv => List.mem_range.mp ((logOK_reachable hr).vals.mem_iff.mp hv)

/-- **del_after_last_handle.**  (1) With the repaired `mBucket.delete` (`clearDel = true`), or in the guarded
system, no delFunc runs twice — false for the unguarded system before that repair, `close_race_delfunc_twice`; (2) (guarded or before `Close`, not force-closed) a
delFunc attached to a node only runs in a state with no outstanding handle to that node; (3) when `Delete`
finds no node, its next two actions are the delFunc itself and the return. -/
theorem del_after_last_handle {g : Bool} {s : Sys} (hr : Reachable g s) :
    ((g = true ∨ s.sh.clearDel = true ∨ s.sh.stale = false) → (s.log.filterMap delId).Nodup) ∧
    (∀ a s', sysStep g s a = some s' → s.sh.forced = false → (g = true ∨ s.sh.recheck = true ∨ s.sh.closed = false) →
      ∀ d id f, Ev.delf d (some id) f ∈ emitted s a → outstanding s id = 0) ∧
    (∀ (sh : Shared) k d, sh.closed = false → findKey sh.nodes k = none →
      exec sh (.bget k (.del (some d))) = some (sh, [.runDel d, .retBool false], []) ∧
      exec sh (.runDel d) = some (sh, [], [.delf d none false])) := by
  refine ⟨delf_nodup hr, ?_, ?_⟩
  · exact fun a s' hs hf hg d id f hev => outstanding_zero_of_fin hr hs hf hg hev (by simp [isFinOf])
  · intro sh k d hc hk
    constructor
    · simp [exec, execBget, hc, hk]
    · rfl

/-- **lru_capacity.**  Every instruction is one critical section, so "after every LRU critical section" is "in
every reachable state": `used` is the sum of the sizes of the listed nodes and never exceeds the capacity; the
list has no repetition and holds exactly the nodes marked as listed; a banned node stays banned (it is never
re-admitted).  Holds for the unguarded system as well. -/
theorem lru_capacity {g : Bool} {s : Sys} (hr : Reachable g s) :
    s.sh.lru.used = (s.sh.lru.recent.map (sizeOf s.sh.nodes)).sum ∧
    s.sh.lru.used ≤ s.sh.lru.capacity ∧
    s.sh.lru.recent.Nodup ∧
    (∀ id, id ∈ s.sh.lru.recent ↔ ∃ n ∈ s.sh.nodes, n.id = id ∧ n.lru = .inList) ∧
    (∀ a s', sysStep g s a = some s' → ∀ n ∈ s.sh.nodes, n.lru = .banned →
      ∀ n' ∈ s'.sh.nodes, n'.id = n.id → n'.lru = .banned) := by
  have hinv := inv_reachable hr
  refine ⟨hinv.core.us.1, hinv.core.us.2, hinv.core.lr.1, hinv.core.lr.2, ?_⟩
  intro a s' hs n hn hb n' hn' hid
  rcases sysStep_cases hs with ⟨t, c, rfl, _, hem, rfl⟩ | ⟨t, i, rest, sh', push, evs, rfl, ht, he, hem, rfl⟩
  · have := same_of_id hinv.core.ids.1 hn' hn hid; subst this; exact hb
  · obtain ⟨Q, _, _, hP, _⟩ := hinv.at_step hs ht
    exact (node_step hP he hn hn' hid).banned hb

/-- The reference counter of every node is exactly the number of references that exist (callers' handles, the
LRU list's handle, references held by threads inside the cache) — the invariant everything above rests on. -/
theorem ref_is_count {g : Bool} {s : Sys} (hr : Reachable g s) (hf : s.sh.forced = false) :
    ∀ n ∈ s.sh.nodes, n.ref = refsP s.sh (pending s) n.id :=
  (inv_reachable hr).core.rc hf


/-! ## Races of `Close` with the last `Release` in the unguarded system -/

/-- Thread 0 gets key (0,1) from a cache of capacity 0 and releases its handle: the counter drops to zero and the
thread stalls in `unRefExternal` before `n.r.mu.RLock()`.  Thread 1 `Get`s the same key (the node is still in
its bucket: the counter goes back to 1) and keeps the handle.  Thread 2 runs `Close(false)`.  Thread 0 resumes,
sees `closed` and calls `callFinalizer`. -/
def raceSched : List Act :=
  [ .call 0 (.get (0, 1) (.val 1)), .step 0, .step 0, .step 0, .step 0, .step 0, .step 0,
    .call 0 (.release 0), .step 0, .step 0,
    .call 1 (.get (0, 1) .none), .step 1, .step 1, .step 1, .step 1, .step 1, .step 1,
    .call 2 (.close false), .step 2,
    .step 0 ]

def finUnderHandle (g : Bool) (s : Sys) (a : Act) : Bool :=
  !s.sh.forced && (sysStep g s a).isSome &&
    (emitted s a).any fun e => match e with
      | .fin id _ _ => decide (0 < outstanding s id)
      | _ => false

/-- The code before the repair of D32: `mBucket.delete` already takes the delFuncs out of the node, `unRefExternal`
does not re-check the counter yet. -/
def cfgBeforeD32 : Cfg := { clearDel := true, recheck := false }

/-- The code before the repair of D30 (and D32). -/
def cfgBeforeD30 : Cfg := { clearDel := false, recheck := false }

theorem raceSched_eval :
    (runSched false (Sys.initCfg cfgBeforeD32 0 3) raceSched).map
      (fun s => finUnderHandle false s (.step 0)) = some true := by
  decide +kernel

/-- **close_race_finalises_under_handle** — RECORD OF A REPAIRED DEFECT (D32).  With `unRefExternal` as it was
before the repair (`recheck = false`: on a closed cache it called `callFinalizer` without looking at the counter
again) and without the guard, `finalise_once_after_release` (2) fails: a reachable state, not force-closed, in
which a value is finalised while a caller holds a handle to it (`Cache.Close(false)` racing with the last
`Handle.Release` and a `Get`).  Reproduced on the implementation before the repair
(`checks/c17conc.go:c17FinaliseUnderHandle`, 77 of 904 000 trials; now part of the C17 run as a regression
detector). -/
theorem close_race_finalises_under_handle :
    ∃ s a, Reachable false s ∧ s.sh.recheck = false ∧ s.sh.forced = false ∧ (sysStep false s a).isSome = true ∧
      ∃ id v f, Ev.fin id v f ∈ emitted s a ∧ 0 < outstanding s id := by
  obtain ⟨s, hs, h⟩ := Option.map_eq_some_iff.1 raceSched_eval
  simp only [finUnderHandle, Bool.and_eq_true, Bool.not_eq_true', List.any_eq_true] at h
  obtain ⟨⟨hf, hstep⟩, e, he, hout⟩ := h
  refine ⟨s, .step 0, reachable_of_runSched (Reachable.init _ 0 3) hs, ?_, hf, hstep, ?_⟩
  · rw [(cfg_runSched hs).2]; rfl
  · cases e <;> simp at hout
    exact ⟨_, _, _, he, hout⟩

/-- The guarded system does not allow that schedule (the `Close` step is not enabled). -/
example : runSched true (Sys.initCfg cfgBeforeD32 0 3) raceSched = none := by decide +kernel

/-- The same interleaving with the repaired `unRefExternal` (the code as it is): thread 0 finds the counter at 1
and does not call the finaliser; run to the end, nothing was finalised and thread 1's handle still has its value. -/
example :
    (runSched false (Sys.init 0 3) (raceSched ++ [.step 0, .step 2])).map
      (fun s => (pending s, s.log.filterMap finVal, s.sh.handles, s.sh.nodes.map (fun n => n.value))) =
    some ([], [], [0], [some 0]) := by decide +kernel

/-- Thread 0 as before; thread 1 gets the key again and releases it, which removes the node from its bucket;
thread 2 closes; thread 0 then calls `callFinalizer` on the removed node (harmless since `mBucket.delete` takes the
delFuncs out of the node; before that repair they ran a second time: `close_race_delfunc_twice`).  The model flags
the stale pointer as `bug`. -/
def staleSched : List Act :=
  [ .call 0 (.get (0, 1) (.val 1)), .step 0, .step 0, .step 0, .step 0, .step 0, .step 0,
    .call 0 (.release 0), .step 0, .step 0,
    .call 1 (.get (0, 1) .none), .step 1, .step 1, .step 1, .step 1, .step 1, .step 1,
    .call 1 (.release 0), .step 1, .step 1, .step 1, .step 1, .step 1,
    .call 2 (.close false), .step 2,
    .step 0, .step 0 ]

/-- **close_race_stale_finaliser** — unguarded: `callFinalizer` reaches a node that was already deleted. -/
theorem close_race_stale_finaliser :
    ∃ s, Reachable false s ∧ s.sh.bug = true := by
  have h : (runSched false (Sys.init 0 3) staleSched).map (fun s => s.sh.bug) = some true := by decide +kernel
  obtain ⟨s, hs, h⟩ := Option.map_eq_some_iff.1 h
  exact ⟨s, reachable_of_runSched (Reachable.init _ 0 3) hs, h⟩

/-- As `staleSched`, with a delFunc: thread 0 `Get`s key (0,1), `Delete`s it with delFunc 0 (deferred: the handle
is outstanding) and releases the handle — the counter drops to zero and the thread stalls in `unRefExternal`
before `n.r.mu.RLock()`.  Thread 1 `Get`s the key (the node is still in its bucket) and releases it:
`mBucket.delete` removes the node and runs delFunc 0 (it does not clear `n.delFuncs`).  Thread 2 runs
`Close(false)`.  Thread 0 resumes, sees `closed`, calls `callFinalizer` on the removed node: delFunc 0 runs again.
Every call returns: the final state is quiescent. -/
def delTwiceSched : List Act :=
  [ .call 0 (.get (0, 1) (.val 1)) ] ++ List.replicate 6 (.step 0) ++
  [ .call 0 (.delete (0, 1) true) ] ++ List.replicate 7 (.step 0) ++
  [ .call 0 (.release 0), .step 0, .step 0 ] ++
  [ .call 1 (.get (0, 1) .none) ] ++ List.replicate 6 (.step 1) ++
  [ .call 1 (.release 0) ] ++ List.replicate 5 (.step 1) ++
  [ .call 2 (.close false), .step 2 ] ++
  [ .step 0, .step 0, .step 0 ]

/-- **close_race_delfunc_twice** — RECORD OF A REPAIRED DEFECT (D30).  With `mBucket.delete` as it was before the
repair (`clearDel = false`: it ran `n.delFuncs` and left them in the node) the unguarded system reaches a
quiescent state whose history contains delFunc 0 twice (and the value's `Release` once): `unRefExternal` decides
"I am the last one" before it synchronises with `Close`, and the later `callFinalizer` on the removed node finds the
delFuncs still there.  The interleaving was replayed on the implementation by a stress of exactly these three
threads (75 of 1.85 million trials; `checks/c17conc.go:c17StaleFinalizer`, now part of the C17 run as a regression
detector). -/
theorem close_race_delfunc_twice :
    ∃ s, Reachable false s ∧ s.sh.clearDel = false ∧ Quiescent s ∧ ¬ (s.log.filterMap delId).Nodup ∧
      s.log.filterMap delId = [0, 0] ∧ s.log.filterMap finVal = [0] := by
  have h : (runSched false (Sys.initCfg cfgBeforeD30 0 3) delTwiceSched).map
      (fun s => (pending s, s.log.filterMap delId, s.log.filterMap finVal)) = some ([], [0, 0], [0]) := by decide +kernel
  obtain ⟨s, hs, h⟩ := Option.map_eq_some_iff.1 h
  rw [Prod.mk.injEq, Prod.mk.injEq] at h
  refine ⟨s, reachable_of_runSched (Reachable.init cfgBeforeD30 0 3) hs, ?_, h.1, ?_, h.2.1, h.2.2⟩
  · rw [(cfg_runSched hs).1]; rfl
  · rw [h.2.1]; decide

/-- The same interleaving with the repaired `mBucket.delete`: the stale `callFinalizer` finds no delFuncs, delFunc 0
runs once. -/
example :
    (runSched false (Sys.init 0 3) delTwiceSched).map
      (fun s => (pending s, s.log.filterMap delId, s.log.filterMap finVal)) = some ([], [0], [0]) := by decide +kernel

/-- **code_delete_clears_delFuncs** — the configuration of the model is the code's: `tools/extract` finds, in
`mBucket.delete`, `delFuncs := n.delFuncs; n.delFuncs = nil` between `n.mu.Lock()` and `n.mu.Unlock()` before the
loop that calls them (and no `range n.delFuncs`).  `Shared.new` / `Sys.init` use this flag. -/
theorem code_delete_clears_delFuncs : Gen.cacheDeleteClearsDelFuncs = true := by decide

/-- **code_closed_unref_rechecks** — the second flag of the model's configuration is the code's: `tools/extract`
finds that in the `if n.r.closed` branch of `Node.unRefExternal` the only call of `n.callFinalizer()` is inside
`if atomic.LoadInt32(&n.ref) == 0 { … }`. -/
theorem code_closed_unref_rechecks : Gen.cacheClosedUnrefRechecks = true := by decide

/-- **no_finalise_under_handle** — with the repaired `unRefExternal` (`recheck = true`), in EVERY reachable state,
guarded or not, unless `Close(true)` ran: every outstanding handle (caller's, LRU list's, in flight) refers to an
existing node that has its value, and a step that releases a value or runs a delFunc of a node does so while no
handle to that node is outstanding. -/
theorem no_finalise_under_handle {g : Bool} {s : Sys} (hr : Reachable g s) (hc : s.sh.recheck = true)
    (hf : s.sh.forced = false) :
    (∀ id, 0 < outstanding s id → ∃ n ∈ s.sh.nodes, n.id = id ∧ n.value.isSome = true) ∧
    (∀ a s', sysStep g s a = some s' →
      (∀ id v f, Ev.fin id v f ∈ emitted s a → outstanding s id = 0) ∧
      (∀ d id f, Ev.delf d (some id) f ∈ emitted s a → outstanding s id = 0)) :=
  ⟨(unique_live_value hr).2.1 (Or.inr (Or.inl hc)) hf,
   fun a s' hs => ⟨(finalise_once_after_release hr).2.2 a s' hs hf (Or.inr (Or.inl hc)),
     (del_after_last_handle hr).2.1 a s' hs hf (Or.inr (Or.inl hc))⟩⟩

/-- … in particular in every state run from `Sys.init`, the configuration read off the source. -/
theorem no_finalise_under_handle_code {g : Bool} {c n : Nat} {sched : List Act} {s : Sys}
    (h : runSched g (Sys.init c n) sched = some s) (hf : s.sh.forced = false) :
    (∀ id, 0 < outstanding s id → ∃ n ∈ s.sh.nodes, n.id = id ∧ n.value.isSome = true) ∧
    (∀ a s', sysStep g s a = some s' →
      (∀ id v f, Ev.fin id v f ∈ emitted s a → outstanding s id = 0) ∧
      (∀ d id f, Ev.delf d (some id) f ∈ emitted s a → outstanding s id = 0)) :=
  no_finalise_under_handle (reachable_of_runSched (Reachable.init _ c n) h)
    (by rw [(cfg_runSched h).2]; exact code_closed_unref_rechecks) hf

/-- **delfunc_at_most_once** — with the repaired `mBucket.delete` no delFunc runs twice in ANY reachable state,
guarded or not, quiescent or not; in particular in every state reached from `Sys.init` (the code as extracted). -/
theorem delfunc_at_most_once {g : Bool} {s : Sys} (hr : Reachable g s) (hc : s.sh.clearDel = true) :
    (s.log.filterMap delId).Nodup :=
  (del_after_last_handle hr).1 (Or.inr (Or.inl hc))

theorem delfunc_at_most_once_code {g : Bool} {c n : Nat} {sched : List Act} {s : Sys}
    (h : runSched g (Sys.init c n) sched = some s) : (s.log.filterMap delId).Nodup :=
  delfunc_at_most_once (reachable_of_runSched (Reachable.init _ c n) h)
    (by rw [(cfg_runSched h).1]; exact code_delete_clears_delFuncs)

/-- The guarded system does not allow that schedule either. -/
example : runSched true (Sys.initCfg cfgBeforeD30 0 3) delTwiceSched = none := by decide +kernel

/-! ## `callFinalizer`: before and after the repair

The model executes `Node.callFinalizer` as one step.  It is called from two places that can overlap:
`Cache.Close(true)` (for every node) and `Node.unRefExternal` (when the counter reached zero and the cache is
closed).  BEFORE the repair ("make Node.callFinalizer safe against a concurrent second call") it ran without a
lock; the micro-model `finStep` splits that version into its two memory accesses: two overlapping executions
release the value twice (`callFinalizer_race`; the concurrent stress of the Go check reproduced exactly this on
the implementation, signature `cache.Close(force):concurrent-release:finalised-twice`).  The repaired code takes
value and delFuncs out of the node under `n.mu` (`finStepFixed`): whatever the interleaving of two calls, the
value is released once (`callFinalizer_repaired`) — which is what justifies the atomic `fin` step. -/

/-- One thread inside `callFinalizer`: about to read `n.value`, or holding what it read. -/
inductive FinPc
  | read | release (v : Option Nat) | done
  deriving DecidableEq, Repr

/-- `if n.value != nil { n.value.Release(); n.value = nil }` as read / release-and-clear. -/
def finStep (value : Option Nat) (released : List Nat) : FinPc → Option Nat × List Nat × FinPc
  | .read => (value, released, .release value)
  | .release (some v) => (none, released ++ [v], .done)
  | .release none => (value, released, .done)
  | .done => (value, released, .done)

/-- **callFinalizer_race**: thread A reads, thread B reads, both release: value 0 is released twice. -/
theorem callFinalizer_race :
    let s0 := finStep (some 0) [] .read            -- A reads
    let s1 := finStep s0.1 s0.2.1 .read            -- B reads
    let s2 := finStep s1.1 s1.2.1 s0.2.2           -- A releases and clears
    let s3 := finStep s2.1 s2.2.1 s1.2.2           -- B releases
    s3.2.1 = [0, 0] := by decide

/-- The repaired `callFinalizer`: `n.mu.Lock(); value := n.value; n.value = nil; n.mu.Unlock()` is one step
(`take`), the `Release()` of what was taken the next. -/
inductive FinPcFixed
  | take | release (v : Option Nat) | done
  deriving DecidableEq, Repr

def finStepFixed (value : Option Nat) (released : List Nat) : FinPcFixed → Option Nat × List Nat × FinPcFixed
  | .take => (none, released, .release value)
  | .release (some v) => (value, released ++ [v], .done)
  | .release none => (value, released, .done)
  | .done => (value, released, .done)

/-- Two threads inside the repaired `callFinalizer`, scheduled by `sched` (`false` = thread A, `true` = B). -/
def finRun : Option Nat → List Nat → FinPcFixed → FinPcFixed → List Bool → List Nat
  | _, released, _, _, [] => released
  | value, released, a, b, false :: rest =>
    let r := finStepFixed value released a
    finRun r.1 r.2.1 r.2.2 b rest
  | value, released, a, b, true :: rest =>
    let r := finStepFixed value released b
    finRun r.1 r.2.1 a r.2.2 rest

/-- **callFinalizer_repaired**: every interleaving of two complete calls (each thread takes two steps) releases
value 0 exactly once. -/
theorem callFinalizer_repaired :
    ∀ sched ∈ [[false, false, true, true], [false, true, false, true], [false, true, true, false],
               [true, false, false, true], [true, false, true, false], [true, true, false, false]],
      finRun (some 0) [] .take .take sched = [0] := by decide

/-! ## Non-vacuity: concrete runs that exercise the statements -/

structure View where
  handles : List Nat
  ctors : List Nat
  fins : List Nat
  dels : List Nat
  nodes : List (Nat × Int × Option Nat × LruSt)
  used : Nat
  recent : List Nat
  deriving DecidableEq

def view (s : Sys) : View :=
  { handles := s.sh.handles,
    ctors := s.log.filterMap (fun e => match e with | .ctor _ v => some v | _ => none),
    fins := s.log.filterMap finVal, dels := s.log.filterMap delId,
    nodes := s.sh.nodes.map (fun n => (n.id, n.ref, n.value, n.lru)),
    used := s.sh.lru.used, recent := s.sh.lru.recent }

/-- Two threads `Get` the same key concurrently (interleaved instruction by instruction): one constructor run,
both handles refer to node 0 with value 0. -/
example :
    (runSched true (Sys.init 4 2)
      [ .call 0 (.get (7, 1) (.val 2)), .call 1 (.get (7, 1) (.val 2)),
        .step 0, .step 1, .step 0, .step 1, .step 1, .step 0, .step 0, .step 1, .step 0, .step 1,
        .step 0, .step 1 ]).map view =
    some ⟨[0, 0], [0], [], [], [(0, 3, some 0, LruSt.inList)], 2, [0]⟩ := by decide +kernel

/-- Capacity 2: a third charge evicts the least recently used node; its value is finalised only when the
caller's handle goes as well; `Delete` with a delFunc on a held node defers the delFunc to the last release. -/
example :
    (runSched true (Sys.init 2 1)
      ([ .call 0 (.get (0, 1) (.val 1)) ] ++ List.replicate 6 (.step 0) ++
       [ .call 0 (.get (0, 2) (.val 1)) ] ++ List.replicate 6 (.step 0) ++
       [ .call 0 (.get (0, 3) (.val 1)) ] ++ List.replicate 7 (.step 0) ++     -- evicts node 0 (still held)
       [ .call 0 (.delete (0, 1) true) ] ++ List.replicate 7 (.step 0) ++      -- banned, delFunc 0 deferred
       [ .call 0 (.release 0) ] ++ List.replicate 5 (.step 0))).map view =      -- last handle: finalise, delFunc
    some ⟨[2, 1], [0, 1, 2], [0], [0], [(2, 2, some 2, LruSt.inList), (1, 2, some 1, LruSt.inList)], 2, [2, 1]⟩ := by
  decide +kernel

/-- `finalise_exactly_once` on a concrete interleaved-by-call run of two threads (capacity 1): node 0 is deleted
with delFunc 0 while thread 0 holds it (deferred to the release), `Delete` of an absent key runs delFunc 1 at
once, `Close(false)` evicts node 1, `Delete` on the closed cache drops delFunc 2, the last release finalises
value 1.  The final state is quiescent; values 0 and 1 are finalised once each, delFuncs 0 and 1 ran once, 2 was
dropped; nothing is retained. -/
def quiesceSched : List Act :=
  [ .call 0 (.get (0, 1) (.val 1)) ] ++ List.replicate 6 (.step 0) ++
  [ .call 1 (.get (0, 2) (.val 1)) ] ++ List.replicate 7 (.step 1) ++
  [ .call 0 (.delete (0, 1) true) ] ++ List.replicate 7 (.step 0) ++
  [ .call 1 (.delete (0, 9) true) ] ++ List.replicate 5 (.step 1) ++
  [ .call 0 (.release 0) ] ++ List.replicate 5 (.step 0) ++
  [ .call 1 (.close false) ] ++ List.replicate 3 (.step 1) ++
  [ .call 0 (.delete (0, 2) true) ] ++ List.replicate 1 (.step 0) ++
  [ .call 1 (.release 1) ] ++ List.replicate 5 (.step 1)

structure QView where
  pending : List Instr
  ctors : List Nat
  fins : List Nat
  dels : List Nat
  dropped : List Nat
  nextDel : Nat
  handles : List Nat
  recent : List Nat
  closed : Bool
  values : List (Nat × Option Nat)
  deriving DecidableEq

def qview (s : Sys) : QView :=
  { pending := pending s, ctors := (view s).ctors, fins := (view s).fins, dels := (view s).dels,
    dropped := s.sh.dropped, nextDel := s.sh.nextDel, handles := s.sh.handles, recent := s.sh.lru.recent,
    closed := s.sh.closed, values := s.sh.nodes.map fun n => (n.id, n.value) }

example :
    (runSched true (Sys.init 1 2) quiesceSched).map qview =
    some ⟨[], [0, 1], [0, 1], [1, 0], [2], 3, [], [], true, [(1, none)]⟩ := by decide +kernel

/-- … and one call earlier (before the last `Release`): value 1 is not finalised and its node is retained by the
caller's handle 1. -/
example :
    (runSched true (Sys.init 1 2) (quiesceSched.take 41)).map qview =
    some ⟨[], [0, 1], [0], [1, 0], [2], 3, [1], [], true, [(1, some 1)]⟩ := by decide +kernel

/-! ## The hash table (`Model/CacheTable.lean`) is a finite map -/

open GoLevel.CacheT in
/-- **table_refines_map.**  For every hash function and every sequence of table operations — the table accesses
of `Cache.Get` with / without setFunc, `Cache.Delete`, `Cache.Evict` (`TOp.get`), `Cache.delete(n)` with either
outcome of the `n.ref == 0` test (`TOp.delete`), and the steps of the background `initBuckets` goroutines
scheduled anywhere between them (`TOp.bgInit`, `TOp.bgDone`) — starting from `NewCache`:
(1) every operation returns what the same operation returns on a finite map keyed by (ns,key) (`specRun`): a
lookup finds exactly the node that was created for that key and not deleted since, creation happens only for an
absent key, deletion only of the present node and only when its counter is zero;
(2) the code never panics and the `for` loops never have to retry (`bug = false`);
(3) the nodes in the table are exactly the nodes of the map — each exactly once (`contents` is a permutation of
the map, which has no duplicates);
(4) `Nodes()` is the size of the map = the number of nodes physically in the buckets. -/
theorem table_refines_map (hashfn : Nat → Nat → Nat) (ops : List TOp) :
    (run hashfn Table.new ops).2 = (specRun hashfn Spec.new ops).2 ∧
    (run hashfn Table.new ops).1.bug = false ∧
    (∀ x, x ∈ (specRun hashfn Spec.new ops).1.m ↔ Mem (run hashfn Table.new ops).1 x) ∧
    (specRun hashfn Spec.new ops).1.m.Nodup ∧
    (contents (run hashfn Table.new ops).1.heads).Perm (specRun hashfn Spec.new ops).1.m ∧
    (run hashfn Table.new ops).1.Nodes = (specRun hashfn Spec.new ops).1.m.length ∧
    (run hashfn Table.new ops).1.Nodes = (contents (run hashfn Table.new ops).1.heads).length := by
  obtain ⟨h1, h2⟩ := run_refines ops (refines_new hashfn)
  have h3 := contents_perm h2
  exact ⟨h1, h2.wf.bug, h2.mem, h2.nodup, h3.1, h2.nodes, h3.2⟩

open GoLevel.CacheT in
/-- **table_buckets.**  In every state the table reaches: the number of buckets is a power of two; every bucket
of the current head — as stored if initialised, as `initBucket` would build it if not — is strictly sorted by
(ns,key) (the order `mNodes.search` relies on); a node sits in the bucket its hash selects and in no other, its
hash is the hash of its key, and no bucket holds a node twice; the current head has no frozen bucket. -/
theorem table_buckets (hashfn : Nat → Nat → Nat) (ops : List TOp) :
    ∃ h ps, (run hashfn Table.new ops).1.heads = h :: ps ∧
      (∃ k, h.buckets.length = 2 ^ k ∧ h.mask = 2 ^ k - 1) ∧
      (∀ i, i < h.buckets.length →
        Sorted (vnodes (h :: ps) i) ∧ (vnodes (h :: ps) i).Nodup ∧
        ((h.bucket i).state ≠ .uninit → vnodes (h :: ps) i = (h.bucket i).nodes) ∧
        (h.bucket i).state ≠ .frozen ∧
        ∀ x ∈ vnodes (h :: ps) i, x.hash = hashfn x.ns x.key ∧ x.hash &&& h.mask = i) := by
  have hr := (run_refines ops (refines_new hashfn)).2
  obtain ⟨h, ps, hh⟩ := twf_heads hr.wf
  have hw := hr.wf.chain
  rw [hh] at hw
  refine ⟨h, ps, hh, hw.headOK, fun i hi => ?_⟩
  have hb := vnodes_ok hw hi
  refine ⟨hb.1, sorted_nodup hb.1, fun hst => vnodes_init hi hst, hr.wf.nf h ps hh i, fun x hx => ?_⟩
  have := hb.2 x hx
  exact ⟨this.1, by rw [land_mask hw.headOK]; exact this.2⟩

namespace TableExample
open GoLevel.CacheT

/-- A hash that sends every key of namespace 0 into bucket 3 of a 16-bucket table (and spreads them over buckets
3 and 19 of a 32-bucket table): the table grows through the overflow counter. -/
def hash (ns key : Nat) : Nat := ns * 1000003 + key * 16 + 3

/-- 160 insertions (the table grows from 16 to 32 buckets at the 160th: 32 + 128 nodes in one bucket), two steps
of the background goroutine, a lookup, the goroutine's final store (refused: not every bucket is initialised),
then 149 deletions (the table shrinks back to 16 buckets when the 145th leaves 15 nodes; the buckets touched
afterwards are merged from two frozen buckets each), and two lookups. -/
def ops : List TOp :=
  (List.range 160).map (fun k => TOp.get 0 k false) ++
  [.bgInit 0 3, .bgInit 0 19, .get 0 5 true, .bgDone 0] ++
  (List.range 149).map (fun k => TOp.delete 0 k true) ++ [.get 0 155 true, .get 0 3 true]

def summary (t : Table) : Nat × Int × Nat × Nat × Bool × Nat :=
  (t.Buckets, t.Nodes, t.statGrow, t.statShrink, t.bug, t.heads.length)

/-- Non-vacuity of `table_refines_map` / `table_buckets`: a run with a grow, a shrink and lazily merged buckets. -/
example :
    summary (run hash Table.new ops).1 = (16, 11, 1, 1, false, 3) ∧
    (run hash Table.new ops).2.drop 313 =
      [.get (.found { ns := 0, key := 155, hash := 2483, id := 155 }), .get .absent] := by decide +kernel

/-- A small run, checked against the map by plain evaluation: same answers, same size. -/
example :
    (run hash Table.new [.get 0 1 false, .get 0 1 false, .get 0 2 true, .delete 0 1 false, .delete 0 1 true,
      .get 0 1 true]).2 =
    (specRun hash Spec.new [.get 0 1 false, .get 0 1 false, .get 0 2 true, .delete 0 1 false, .delete 0 1 true,
      .get 0 1 true]).2 := by decide +kernel

end TableExample

/-- The property theorems of C17 (for the audit). -/
def theorems : List String :=
  ["GoLevel.C17.unique_live_value", "GoLevel.C17.same_key_same_value",
   "GoLevel.C17.finalise_once_after_release", "GoLevel.C17.finalise_exactly_once",
   "GoLevel.C17.forced_close_finalises_all", "GoLevel.C17.finalise_exactly_once_partial",
   "GoLevel.C17.del_after_last_handle", "GoLevel.C17.lru_capacity", "GoLevel.C17.ref_is_count",
   "GoLevel.C17.close_race_finalises_under_handle", "GoLevel.C17.close_race_stale_finaliser",
   "GoLevel.C17.close_race_delfunc_twice", "GoLevel.C17.code_delete_clears_delFuncs",
   "GoLevel.C17.delfunc_at_most_once", "GoLevel.C17.delfunc_at_most_once_code",
   "GoLevel.C17.code_closed_unref_rechecks", "GoLevel.C17.no_finalise_under_handle",
   "GoLevel.C17.no_finalise_under_handle_code", "GoLevel.C17.no_deadlock",
   "GoLevel.C17.lock_system_refines", "GoLevel.C17.code_unref_own_lock", "GoLevel.C17.no_deadlock_locks",
   "GoLevel.C17.no_deadlock_locks_code", "GoLevel.C17.close_returns", "GoLevel.C17.d36_deadlock",
   "GoLevel.C17.callFinalizer_race", "GoLevel.C17.callFinalizer_repaired",
   "GoLevel.C17.table_refines_map", "GoLevel.C17.table_buckets"]

end GoLevel.C17

import GoLevel.Gen.Consts
/-!
# The goroutine `compactionError` (`leveldb/db_compaction.go`) as a state machine (properties C09, C18)

```go
func (db *DB) compactionError() {
	var err error
noerr:
	for { select {
		case err = <-db.compErrSetC:
			switch {
			case err == nil:
			case err == ErrReadOnly: db.compWriteLocking = true; goto hasperr
			case errors.IsCorrupted(err): goto hasperr
			default: goto haserr
			}
		case <-db.closeC: return
	} }
haserr:
	for { select {
		case db.compErrC <- err:
		case err = <-db.compErrSetC:
			switch {
			case err == nil: goto noerr
			case err == ErrReadOnly: db.compWriteLocking = true; goto hasperr
			case errors.IsCorrupted(err): goto hasperr
			default:
			}
		case <-db.closeC: return
	} }
hasperr:
	for { select {
		case db.compErrC <- err:
		case db.compPerErrC <- err:
		case db.writeLockC <- struct{}{}: db.compWriteLocking = true
		case <-db.closeC:
			if db.compWriteLocking { close(db.compLockedC) }   // as found (until wp51): { <-db.writeLockC }
			return
	} }
}
```

The `closeC` case of `hasperr` exists in two recognised forms.  *As found*: `if db.compWriteLocking { <-db.writeLockC }`
— the goroutine gives the write lock back so that `Close` (`db.writeLockC <- struct{}{}`) can take it; a writer parked
in its `select` may take it first (`C09.readonly_write_slips_through_on_close`).  *Now*
(`MCfg.hasperrKeepsLock`): `if db.compWriteLocking { close(db.compLockedC) }` — the goroutine keeps the lock and tells
`Close`, which waits in `select { case db.writeLockC <- struct{}{}: case <-db.compLockedC: }`.  In both forms the
machine passes through the label `closing` ("inside the `closeC` case with `compWriteLocking` set"): as found it
leaves it by the blocking receive (`Locks.Step.ehTake`); now it leaves it together with `Close`'s receive from
`compLockedC` (`Locks.Step.clAcqKept`: closing a channel never blocks and nobody but `Close`'s `select` looks at
`compLockedC`, so "close the channel, return" and "`Close` takes the `compLockedC` arm" are one step of the model).

The machine is described by *which `select` cases and `switch` cases exist* (`MCfg`, one flag per case); the
functions below say, for a configuration, which channel operation is offered in which label and where a
received error kind leads.  `MCfg.asCoded` has every case of the source above; `codeM` takes every flag from
`Gen/Consts.lean`, i.e. from the Go AST of the function as it is now (`tools/extract`, facts `ce…`).
-/
namespace GoLevel.CompErr

/-- what is sent on `compErrSetC`: `nil`, an error that is neither `ErrReadOnly` nor a corruption (transient),
`ErrReadOnly` (only `SetReadOnly` sends it), an error with `errors.IsCorrupted(err)` -/
inductive EK | nil | transient | readonly | corrupt
deriving DecidableEq, Repr

/-- the labels of `compactionError`; `closing`: inside the `closeC` case of `hasperr` with `compWriteLocking` set —
at `<-db.writeLockC` (a blocking receive; as found), or at `close(db.compLockedC)` (now); `exited`: returned -/
inductive Eh | noerr | haserr | hasperr | closing | exited
deriving DecidableEq, Repr

/-- one flag per `select` case / `switch` case of `compactionError` (`true` = the case is in the source) -/
structure MCfg where
  /-- `noerr`: `case err = <-db.compErrSetC` -/
  noerrRecv : Bool
  /-- `noerr`: `case err == nil:` (empty: stay) -/
  noerrNil : Bool
  /-- `noerr`: a case with `err == ErrReadOnly` does `goto hasperr` (whether it also sets `compWriteLocking` is
  `Locks.Cfg.noerrROSetsLock`: that variable belongs to the lock model) -/
  noerrRO : Bool
  /-- `noerr`: `errors.IsCorrupted(err)` is in the case list that does `goto hasperr` -/
  noerrCorrupt : Bool
  /-- `noerr`: `default: goto haserr` -/
  noerrOther : Bool
  /-- `noerr`: `case <-db.closeC: return` -/
  noerrClose : Bool
  /-- `haserr`: `case db.compErrC <- err` -/
  haserrErr : Bool
  /-- `haserr`: `case err = <-db.compErrSetC` -/
  haserrRecv : Bool
  /-- `haserr`: `case err == nil: goto noerr` -/
  haserrNil : Bool
  /-- `haserr`: `err == ErrReadOnly` is in the case list that does `goto hasperr` -/
  haserrRO : Bool
  /-- `haserr`: `errors.IsCorrupted(err)` is in the case list that does `goto hasperr` -/
  haserrCorrupt : Bool
  /-- `haserr`: `case <-db.closeC: return` -/
  haserrClose : Bool
  /-- `hasperr`: `case db.compErrC <- err` -/
  hasperrErr : Bool
  /-- `hasperr`: `case db.compPerErrC <- err` -/
  hasperrPerErr : Bool
  /-- `hasperr`: `case db.writeLockC <- struct{}{}: db.compWriteLocking = true` -/
  hasperrLock : Bool
  /-- `hasperr`: `case <-db.closeC: … return` -/
  hasperrClose : Bool
  /-- `hasperr`, in the `closeC` case: `if db.compWriteLocking { <-db.writeLockC }` -/
  hasperrGivesBack : Bool
  /-- `hasperr`, in the `closeC` case: `if db.compWriteLocking { close(db.compLockedC) }` (the lock is kept for
  `Close`; since the repair of D42) -/
  hasperrKeepsLock : Bool
  /-- nothing else: the function is exactly three labelled `for { select { … } }` loops, every `select` case
  and `switch` case is one of the above, `default:` of `haserr` is empty, `hasperr` does not receive from
  `compErrSetC` -/
  shape : Bool
deriving DecidableEq, Repr

/-- the function as printed above: `keeps = true` with `close(db.compLockedC)` in the `closeC` case of `hasperr`
(the source now), `keeps = false` with `<-db.writeLockC` there (the source as found) -/
def MCfg.asCoded (keeps : Bool) : MCfg :=
  { noerrRecv := true, noerrNil := true, noerrRO := true, noerrCorrupt := true, noerrOther := true,
    noerrClose := true, haserrErr := true, haserrRecv := true, haserrNil := true, haserrRO := true,
    haserrCorrupt := true, haserrClose := true, hasperrErr := true, hasperrPerErr := true,
    hasperrLock := true, hasperrClose := true, hasperrGivesBack := !keeps, hasperrKeepsLock := keeps,
    shape := true }

/-- the function as it is in the source now (regenerated facts) -/
def codeM : MCfg :=
  { noerrRecv := Gen.ceNoerrRecv, noerrNil := Gen.ceNoerrNil, noerrRO := Gen.ceNoerrRO,
    noerrCorrupt := Gen.ceNoerrCorrupt, noerrOther := Gen.ceNoerrOther, noerrClose := Gen.ceNoerrClose,
    haserrErr := Gen.ceHaserrErr, haserrRecv := Gen.ceHaserrRecv, haserrNil := Gen.ceHaserrNil,
    haserrRO := Gen.ceHaserrRO, haserrCorrupt := Gen.ceHaserrCorrupt, haserrClose := Gen.ceHaserrClose,
    hasperrErr := Gen.ceHasperrErr, hasperrPerErr := Gen.ceHasperrPerErr, hasperrLock := Gen.ceHasperrLock,
    hasperrClose := Gen.ceHasperrClose, hasperrGivesBack := Gen.ceHasperrGivesBack,
    hasperrKeepsLock := Gen.ceHasperrKeepsLockOnClose, shape := Gen.ceShape }

/-- `compErrSetC` is received in this label -/
def recvs (m : MCfg) : Eh → Bool
  | .noerr => m.noerrRecv
  | .haserr => m.haserrRecv
  | _ => false

/-- where the `switch` after `err = <-db.compErrSetC` leads (a missing case falls to `default`; a missing
`default` leaves the `switch`: the loop goes on in the same label) -/
def next (m : MCfg) : Eh → EK → Eh
  | .noerr, k =>
    let dflt : Eh := if m.noerrOther then .haserr else .noerr
    match k with
    | .nil => if m.noerrNil then .noerr else dflt
    | .readonly => if m.noerrRO then .hasperr else dflt
    | .corrupt => if m.noerrCorrupt then .hasperr else dflt
    | .transient => dflt
  | .haserr, k =>
    match k with
    | .nil => if m.haserrNil then .noerr else .haserr
    | .readonly => if m.haserrRO then .hasperr else .haserr
    | .corrupt => if m.haserrCorrupt then .hasperr else .haserr
    | .transient => .haserr
  | e, _ => e

/-- `db.compErrC <- err` is offered -/
def offErr (m : MCfg) : Eh → Bool
  | .haserr => m.haserrErr
  | .hasperr => m.hasperrErr
  | _ => false

/-- `db.compPerErrC <- err` is offered -/
def offPer (m : MCfg) : Eh → Bool
  | .hasperr => m.hasperrPerErr
  | _ => false

/-- `db.writeLockC <- struct{}{}` is offered -/
def offLock (m : MCfg) : Eh → Bool
  | .hasperr => m.hasperrLock
  | _ => false

/-- the label has a `case <-db.closeC` -/
def closes (m : MCfg) : Eh → Bool
  | .noerr => m.noerrClose
  | .haserr => m.haserrClose
  | .hasperr => m.hasperrClose
  | _ => false

/-- the `closeC` case: `return`, in `hasperr` after `if db.compWriteLocking { <-db.writeLockC }` resp.
`if db.compWriteLocking { close(db.compLockedC) }` (label `closing`) -/
def onClose (m : MCfg) (e : Eh) (compWriteLocking : Bool) : Eh :=
  if e = .hasperr ∧ (m.hasperrGivesBack || m.hasperrKeepsLock) = true ∧ compWriteLocking = true then .closing
  else .exited

@[simp] theorem recvs_hasperr (m : MCfg) : recvs m .hasperr = false := rfl
@[simp] theorem recvs_closing (m : MCfg) : recvs m .closing = false := rfl
@[simp] theorem recvs_exited (m : MCfg) : recvs m .exited = false := rfl
@[simp] theorem next_hasperr (m : MCfg) (k : EK) : next m .hasperr k = .hasperr := rfl
@[simp] theorem next_closing (m : MCfg) (k : EK) : next m .closing k = .closing := rfl
@[simp] theorem next_exited (m : MCfg) (k : EK) : next m .exited k = .exited := rfl
@[simp] theorem offErr_noerr (m : MCfg) : offErr m .noerr = false := rfl
@[simp] theorem offErr_closing (m : MCfg) : offErr m .closing = false := rfl
@[simp] theorem offErr_exited (m : MCfg) : offErr m .exited = false := rfl
@[simp] theorem offPer_noerr (m : MCfg) : offPer m .noerr = false := rfl
@[simp] theorem offPer_haserr (m : MCfg) : offPer m .haserr = false := rfl
@[simp] theorem offPer_closing (m : MCfg) : offPer m .closing = false := rfl
@[simp] theorem offPer_exited (m : MCfg) : offPer m .exited = false := rfl
@[simp] theorem offLock_noerr (m : MCfg) : offLock m .noerr = false := rfl
@[simp] theorem offLock_haserr (m : MCfg) : offLock m .haserr = false := rfl
@[simp] theorem offLock_closing (m : MCfg) : offLock m .closing = false := rfl
@[simp] theorem offLock_exited (m : MCfg) : offLock m .exited = false := rfl
@[simp] theorem closes_closing (m : MCfg) : closes m .closing = false := rfl
@[simp] theorem closes_exited (m : MCfg) : closes m .exited = false := rfl

@[simp] theorem onClose_noerr (m : MCfg) (w : Bool) : onClose m .noerr w = .exited := by simp [onClose]
@[simp] theorem onClose_haserr (m : MCfg) (w : Bool) : onClose m .haserr w = .exited := by simp [onClose]
theorem onClose_false (m : MCfg) (e : Eh) : onClose m e false = .exited := by simp [onClose]

/-- a receive never leads into the `closeC` case -/
theorem next_ne_closing (m : MCfg) (e : Eh) (k : EK) (h : ¬ e = .closing) : ¬ next m e k = .closing := by
  cases e <;> cases k <;> simp [next] at h ⊢ <;> (repeat' split) <;> simp

theorem offPer_hasperr (m : MCfg) (e : Eh) (h : offPer m e = true) : e = .hasperr := by
  cases e <;> simp [offPer] at h ⊢
theorem offLock_hasperr (m : MCfg) (e : Eh) (h : offLock m e = true) : e = .hasperr := by
  cases e <;> simp [offLock] at h ⊢

@[simp] theorem recvs_asCoded (k : Bool) (e : Eh) : recvs (.asCoded k) e = true ↔ e = .noerr ∨ e = .haserr := by
  cases e <;> simp [recvs, MCfg.asCoded]
@[simp] theorem offErr_asCoded (k : Bool) (e : Eh) : offErr (.asCoded k) e = true ↔ e = .haserr ∨ e = .hasperr := by
  cases e <;> simp [offErr, MCfg.asCoded]
@[simp] theorem offPer_asCoded (k : Bool) (e : Eh) : offPer (.asCoded k) e = true ↔ e = .hasperr := by
  cases e <;> simp [offPer, MCfg.asCoded]
@[simp] theorem offLock_asCoded (k : Bool) (e : Eh) : offLock (.asCoded k) e = true ↔ e = .hasperr := by
  cases e <;> simp [offLock, MCfg.asCoded]
@[simp] theorem closes_asCoded (k : Bool) (e : Eh) :
    closes (.asCoded k) e = true ↔ e = .noerr ∨ e = .haserr ∨ e = .hasperr := by
  cases e <;> simp [closes, MCfg.asCoded]

@[simp] theorem asCoded_noerrRO (k : Bool) : (MCfg.asCoded k).noerrRO = true := rfl
@[simp] theorem asCoded_haserrRO (k : Bool) : (MCfg.asCoded k).haserrRO = true := rfl
@[simp] theorem asCoded_givesBack (k : Bool) : (MCfg.asCoded k).hasperrGivesBack = !k := rfl
@[simp] theorem asCoded_keepsLock (k : Bool) : (MCfg.asCoded k).hasperrKeepsLock = k := rfl

/-- the transitions of the machine as coded -/
def nextC : Eh → EK → Eh
  | .noerr, .nil => .noerr
  | .noerr, .transient => .haserr
  | .haserr, .nil => .noerr
  | .haserr, .transient => .haserr
  | .noerr, _ => .hasperr
  | .haserr, _ => .hasperr
  | e, _ => e

@[simp] theorem next_asCoded (b : Bool) (e : Eh) (k : EK) : next (.asCoded b) e k = nextC e k := by
  cases e <;> cases k <;> rfl

@[simp] theorem onClose_asCoded (k : Bool) (e : Eh) (w : Bool) :
    onClose (.asCoded k) e w = if e = .hasperr ∧ w = true then .closing else .exited := by
  cases k <;> simp [onClose, MCfg.asCoded]

end GoLevel.CompErr

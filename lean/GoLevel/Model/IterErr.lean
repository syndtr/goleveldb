import GoLevel.Model.Iter
/-!
# The error paths of the iterator stack (properties C02 / C08)

`Model/Iter.lean` models `indexedIterator`, `mergedIterator` and `dbIter` over children that never fail.
This file adds what the Go code does when a child iterator fails:

* `Err`, `EIterOps`: an iterator that also has `Error()`;
* `FailChild`: a child iterator that fails at one chosen movement and is dead from then on (what `blockIter`
  after `sErr`, `emptyIterator` with an error and a strict `indexedIterator` do: every later movement returns
  `false`, `Valid()` is `false`, `Key()`/`Value()` are `nil`, `Error()` keeps returning the error);
* `EIndexed` — `leveldb/iterator/indexed_iter.go` with `dataErr`, `i.err`, `errf`;
* `EMerged`  — `leveldb/iterator/merged_iter.go` with `iterErr`, `i.err`, `errf`, `strict`;
* `EDBIter`  — `leveldb/db_iter.go` with `setErr`/`iterErr`.

`strict` is `opt.GetStrict(o, ro, opt.StrictReader)` (`db_iter.go` `newRawIterator`/`newIterator`,
`version.go` `getIterators`, `table/reader.go` `NewIterator`); it is on by default
(`opt.DefaultStrict` contains `StrictReader`).

The step functions are built from the error-free ones of `Model/Iter.lean`: a method that did not hit a failing
child does literally what the old definition does (`Proofs/IterErrMerged.lean`, `IterErrIndexed.lean`,
`IterErrDB.lean` prove the coincidence), so the C02 theorems keep applying up to the first failure.

Not modelled: errors of the index iterator (`indexErr`; the index is an in-memory array or the table's
index block read at open), internal keys that do not parse (`kerr`, the only use of `dbIter.strict`),
`Release` of children.  Core Lean only.
-/
namespace GoLevel

/-- error classes: `errors.IsCorrupted(err)` (a block that fails its checksum, a malformed block), any other
error (I/O), `iterator.ErrIterReleased` -/
inductive Err
  | corrupted
  | io
  | released
deriving DecidableEq, Repr

/-- `errors.IsCorrupted` -/
def Err.isCorrupted : Err → Bool
  | .corrupted => true
  | _ => false

/-- an iterator with `Error()` -/
structure EIterOps (σ : Type) extends IterOps σ where
  err : σ → Option Err

/-- what the caller observes after each call: the pair under the cursor (`none` = the call returned
`false`) and `Error()` -/
def EIterOps.run {σ : Type} (o : EIterOps σ) : σ → List (Call IKey) → List (Option Entry × Option Err)
  | _, [] => []
  | s, cl :: cs => let s' := o.toIterOps.step cl s; (o.cur s', o.err s') :: o.run s' cs

/-- an iterator that never fails -/
def IterOps.noErr {σ : Type} (o : IterOps σ) : EIterOps σ := { o with err := fun _ => none }

/-! ## a child that fails -/

/-- a child iterator over `inner` that fails at movement number `plan.1` (counted from 0 over all of
`First/Last/Seek/Next/Prev`) with error `plan.2` -/
structure FailChild (σ : Type) where
  inner : σ
  moves : Nat
  plan  : Option (Nat × Err)
  err   : Option Err

namespace FailChild
variable {σ : Type}

def new (s : σ) (plan : Option (Nat × Err)) : FailChild σ := ⟨s, 0, plan, none⟩

/-- one movement: `if i.err != nil { return false }`; the planned movement sets the error (`sErr`) and
returns `false`; any other one is the inner iterator's -/
def move (f : σ → σ) (x : FailChild σ) : FailChild σ :=
  if x.err.isSome then x
  else
    match x.plan with
    | some (k, e) =>
      if k = x.moves then { x with moves := x.moves + 1, err := some e }
      else { x with inner := f x.inner, moves := x.moves + 1 }
    | none => { x with inner := f x.inner, moves := x.moves + 1 }

def ops (o : IterOps σ) : EIterOps (FailChild σ) where
  first := move o.first
  last := move o.last
  seek k := move (o.seek k)
  next := move o.next
  prev := move o.prev
  cur x := if x.err.isSome then none else o.cur x.inner
  err x := x.err

end FailChild

/-! ## `indexedIterator` with `dataErr`

The index is an `arrayIteratorIndexer`; `Get()` makes a fresh data iterator, which fails as its block says
(`plan = some (0, e)`: the block cannot be read — `Reader.getDataIter` returns `NewEmptyIterator(err)`, whose
first movement returns `false` with `Error() = err`). -/

structure EIdxChild where
  sep  : IKey
  es   : List Entry
  plan : Option (Nat × Err)
deriving Repr

structure EIndexed where
  children : List EIdxChild
  ipos   : Pos
  data   : Option (FailChild ArrIter)
  strict : Bool
  err    : Option Err
  /-- the errors handed to the error callback `errf`, oldest first -/
  errf   : List Err

namespace EIndexed

def new (children : List EIdxChild) (strict : Bool) : EIndexed := ⟨children, .soi, none, strict, none, []⟩

abbrev dops (c : UCmp) : EIterOps (FailChild ArrIter) := FailChild.ops (ArrIter.ops c)

def indexOk (x : EIndexed) : Bool := (Cursor.get x.children x.ipos).isSome

/-- `setData` -/
def setData (x : EIndexed) : EIndexed :=
  { x with data := (Cursor.get x.children x.ipos).map fun ch => FailChild.new ⟨ch.es, .soi⟩ ch.plan }

def clearData (x : EIndexed) : EIndexed := { x with data := none }

/-- `dataErr`: the new state and the returned Boolean -/
def dataErr (x : EIndexed) : EIndexed × Bool :=
  match x.data.bind (·.err) with
  | none => (x, false)
  | some e =>
    if x.strict || !e.isCorrupted then ({ x with err := some e, errf := x.errf ++ [e] }, true)
    else ({ x with errf := x.errf ++ [e] }, false)

/-- `Valid()`/`Key()`/`Value()`: `i.data != nil && i.data.Valid()` — `i.err` is not consulted -/
def cur (c : UCmp) (x : EIndexed) : Option Entry := x.data.bind (dops c).cur

/-- `Next` after its guard (`fuel` as in `IndexedIter.nextF`; the guard of the recursive `return i.Next()`
is passed because `i.err` is still nil there) -/
def nextF (c : UCmp) : Nat → EIndexed → EIndexed
  | 0, x => x
  | fuel + 1, x =>
    let advance (x : EIndexed) : EIndexed :=
      let x := { x with ipos := Cursor.next x.children x.ipos }
      if !x.indexOk then x else nextF c fuel x.setData
    match x.data with
    | some a =>
      let a' := (dops c).next a
      if (dops c).ok a' then { x with data := some a' }
      else
        let r := dataErr { x with data := some a' }
        if r.2 then r.1 else advance r.1.clearData
    | none => advance x

/-- `Prev` after its guard -/
def prevF (c : UCmp) : Nat → EIndexed → EIndexed
  | 0, x => x
  | fuel + 1, x =>
    let retreat (x : EIndexed) : EIndexed :=
      let x := { x with ipos := Cursor.prev x.children x.ipos }
      if !x.indexOk then x
      else
        let x := x.setData
        match x.data with
        | some a =>
          let a' := (dops c).last a
          if (dops c).ok a' then { x with data := some a' }
          else
            let r := dataErr { x with data := some a' }
            if r.2 then r.1 else prevF c fuel r.1.clearData
        | none => x
    match x.data with
    | some a =>
      let a' := (dops c).prev a
      if (dops c).ok a' then { x with data := some a' }
      else
        let r := dataErr { x with data := some a' }
        if r.2 then r.1 else retreat r.1.clearData
    | none => retreat x

def fuel (x : EIndexed) : Nat := x.children.length + 2

/-- the guard every method starts with: `if i.err != nil { return false }` (`Released()` is not modelled) -/
def guard (x : EIndexed) (k : EIndexed → EIndexed) : EIndexed := if x.err.isSome then x else k x

def next (c : UCmp) (x : EIndexed) : EIndexed := guard x fun x => nextF c x.fuel x
def prev (c : UCmp) (x : EIndexed) : EIndexed := guard x fun x => prevF c x.fuel x

def first (c : UCmp) (x : EIndexed) : EIndexed := guard x fun x =>
  let x := { x with ipos := Cursor.first x.children }
  if !x.indexOk then x.clearData else nextF c x.fuel x.setData

def last (c : UCmp) (x : EIndexed) : EIndexed := guard x fun x =>
  let x := { x with ipos := Cursor.last x.children }
  if !x.indexOk then x.clearData
  else
    let x := x.setData
    match x.data with
    | some a =>
      let a' := (dops c).last a
      if (dops c).ok a' then { x with data := some a' }
      else
        let r := dataErr { x with data := some a' }
        if r.2 then r.1 else prevF c x.fuel r.1.clearData
    | none => x

def seek (c : UCmp) (k : IKey) (x : EIndexed) : EIndexed := guard x fun x =>
  let x := { x with ipos := Cursor.seek x.children (fun ch => icmp c ch.sep k != Ordering.lt) }
  if !x.indexOk then x.clearData
  else
    let x := x.setData
    match x.data with
    | some a =>
      let a' := (dops c).seek k a
      if (dops c).ok a' then { x with data := some a' }
      else
        let r := dataErr { x with data := some a' }
        if r.2 then r.1 else nextF c x.fuel r.1.clearData
    | none => x

def ops (c : UCmp) : EIterOps EIndexed where
  first := first c
  last := last c
  seek := seek c
  next := next c
  prev := prev c
  cur := cur c
  err x := x.err

end EIndexed

/-! ## `mergedIterator` with `iterErr` -/

structure EMerged (σ : Type) where
  base   : MergedIter σ
  strict : Bool
  err    : Option Err
  /-- the errors handed to the error callback `errf`, oldest first -/
  errf   : List Err

namespace EMerged
variable {σ : Type}
open MergedIter (keyAt keyOf)

def new (iters : List σ) (strict : Bool) : EMerged σ := ⟨MergedIter.new iters, strict, none, []⟩

/-- the loop `for x, iter := range i.iters { switch { case iter.Move(): …; case i.iterErr(iter): return false;
default: … } }` of `First`/`Last`/`Seek` and of `Prev`'s `case dirForward:`, from child `x` on.  `g x s` is the
moved child, `none` for `continue` (the current child in `Prev`).  Result: the children (moved up to and
including the one whose `iterErr` returned `true`), the errors handed to `errf`, and the error of the
`return false`, if any. -/
def moveLoop (o : EIterOps σ) (strict : Bool) (g : Nat → σ → Option σ) :
    Nat → List σ → List σ × List Err × Option Err
  | _, [] => ([], [], none)
  | x, s :: rest =>
    let r := moveLoop o strict g (x + 1) rest
    match g x s with
    | none => (s :: r.1, r.2.1, r.2.2)
    | some s' =>
      if o.ok s' then (s' :: r.1, r.2.1, r.2.2)
      else
        match o.err s' with
        | none => (s' :: r.1, r.2.1, r.2.2)
        | some e =>
          if strict || !e.isCorrupted then (s' :: rest, [e], some e)
          else (s' :: r.1, e :: r.2.1, r.2.2)

/-- `h.Reset(rev)` + the loop + (`heap.Init`): the body shared by `First`, `Last`, `Seek`.  When the loop
returns early the Go fields `keys`/`indexes` are left half updated; no method reads them once `i.err` is set,
the model leaves `keys` alone and empties the heap. -/
def resetAllE (o : EIterOps σ) (rev : Bool) (f : σ → σ) (m : EMerged σ) : EMerged σ :=
  let r := moveLoop o m.strict (fun _ s => some (f s)) 0 m.base.iters
  match r.2.2 with
  | some e =>
    { m with base := { m.base with iters := r.1, reverse := rev, heap := [] },
             err := some e, errf := m.errf ++ r.2.1 }
  | none =>
    let keys := r.1.map (keyOf o.toIterOps)
    { m with base := { m.base with iters := r.1, keys := keys, reverse := rev,
                                   heap := (List.range r.1.length).filter fun x => (keyAt keys x).isSome },
             errf := m.errf ++ r.2.1 }

def first (o : EIterOps σ) (c : UCmp) (m : EMerged σ) : EMerged σ :=
  if m.err.isSome then m
  else if m.base.dir = .released then { m with err := some .released }
  else
    let m := resetAllE o false o.first m
    if m.err.isSome then m else { m with base := MergedIter.popNext c { m.base with dir := .soi } }

def last (o : EIterOps σ) (c : UCmp) (m : EMerged σ) : EMerged σ :=
  if m.err.isSome then m
  else if m.base.dir = .released then { m with err := some .released }
  else
    let m := resetAllE o true o.last m
    if m.err.isSome then m else { m with base := MergedIter.popPrev c { m.base with dir := .eoi } }

def seek (o : EIterOps σ) (c : UCmp) (k : IKey) (m : EMerged σ) : EMerged σ :=
  if m.err.isSome then m
  else if m.base.dir = .released then { m with err := some .released }
  else
    let m := resetAllE o false (o.seek k) m
    if m.err.isSome then m else { m with base := MergedIter.popNext c { m.base with dir := .soi } }

/-- the tail of `Next`/`Prev`: `iter := i.iters[i.index]; switch { case iter.Move(): keys[x] = …; heap.Push;
case i.iterErr(iter): return false; default: keys[x] = nil }` -/
def stepIndexE (o : EIterOps σ) (f : σ → σ) (m : EMerged σ) : EMerged σ :=
  match m.base.iters[m.base.index]? with
  | none => m
  | some s =>
    let s' := f s
    let moved : EMerged σ := { m with base := MergedIter.stepIndex o.toIterOps f m.base }
    if o.ok s' then moved
    else
      match o.err s' with
      | none => moved
      | some e =>
        if m.strict || !e.isCorrupted then
          { m with base := { m.base with iters := m.base.iters.set m.base.index s' },
                   err := some e, errf := m.errf ++ [e] }
        else { moved with errf := m.errf ++ [e] }

/-- `… ; return i.next()` -/
def tailNext (o : EIterOps σ) (c : UCmp) (m : EMerged σ) : EMerged σ :=
  let m := stepIndexE o o.next m
  if m.err.isSome then m else { m with base := MergedIter.popNext c m.base }

/-- `… ; return i.prev()` -/
def tailPrev (o : EIterOps σ) (c : UCmp) (m : EMerged σ) : EMerged σ :=
  let m := stepIndexE o o.prev m
  if m.err.isSome then m else { m with base := MergedIter.popPrev c m.base }

def next (o : EIterOps σ) (c : UCmp) (m : EMerged σ) : EMerged σ :=
  if m.base.dir = .eoi ∨ m.err.isSome then m
  else
    match m.base.dir with
    | .released => { m with err := some .released }
    | .soi => first o c m
    | .backward =>
      match keyAt m.base.keys m.base.index with
      | none => m
      | some key =>
        let m := seek o c key m                       -- `if !i.Seek(key) { return false }`
        if m.err.isSome || !m.base.dir.valid then m else tailNext o c m   -- `return i.Next()`
    | _ => tailNext o c m

/-- what the loop of `Prev`'s `case dirForward:` does with child `x`: `if x == i.index { continue }`;
`seek := iter.Seek(key)`, then `iter.Prev()` if `seek`, else `iter.Last()` -/
def turnG (o : IterOps σ) (key : IKey) (index : Nat) (x : Nat) (s : σ) : Option σ :=
  if x = index then none
  else
    let s1 := o.seek key s
    some (if o.ok s1 then o.prev s1 else o.last s1)

/-- the `case dirForward:` block of `Prev` (`case seek && iter.Prev(), !seek && iter.Last(): …;
case i.iterErr(iter): return false`) -/
def turnBackE (o : EIterOps σ) (key : IKey) (m : EMerged σ) : EMerged σ :=
  let r := moveLoop o m.strict (turnG o.toIterOps key m.base.index) 0 m.base.iters
  match r.2.2 with
  | some e =>
    { m with base := { m.base with iters := r.1, reverse := true, heap := [] },
             err := some e, errf := m.errf ++ r.2.1 }
  | none =>
    let keys := r.1.mapIdx fun x s => if x = m.base.index then keyAt m.base.keys x else keyOf o.toIterOps s
    { m with base := { m.base with iters := r.1, keys := keys, reverse := true,
                                   heap := (List.range r.1.length).filter fun x =>
                                     x ≠ m.base.index && (keyAt keys x).isSome },
             errf := m.errf ++ r.2.1 }

def prev (o : EIterOps σ) (c : UCmp) (m : EMerged σ) : EMerged σ :=
  if m.base.dir = .soi ∨ m.err.isSome then m
  else
    match m.base.dir with
    | .released => { m with err := some .released }
    | .eoi => last o c m
    | .forward =>
      match keyAt m.base.keys m.base.index with
      | none => m
      | some key =>
        let m := turnBackE o key m
        if m.err.isSome then m else tailPrev o c m
    | _ => tailPrev o c m

/-- `Key()`/`Value()`: `nil` when `i.err != nil || i.dir <= dirEOI` -/
def cur (o : EIterOps σ) (m : EMerged σ) : Option Entry :=
  if m.err.isSome then none else MergedIter.cur o.toIterOps m.base

def ops (o : EIterOps σ) (c : UCmp) : EIterOps (EMerged σ) where
  first := first o c
  last := last o c
  seek := seek o c
  next := next o c
  prev := prev o c
  cur := cur o
  err m := m.err

end EMerged

/-! ## `dbIter` with `setErr`/`iterErr`

Every path of `First`/`Last`/`Seek`/`Next`/`Prev` that returns `false` after having touched the raw iterator
ends with `i.iterErr()` (`First`, `Seek`: the `else` branch and the only `false` exit of `next()`; `Last`: the
`else` branch and the `del` exit of `prev()`; `Next`: both exits; `Prev`: the end of the `for i.iter.Prev()`
loop and `prev()`), and nothing happens between the failing raw movement and that call; the paths that
return `true` never call it — except, since the repair of D40, the last exit of `prev()` (see `step`).  So each
method is the error-free one followed by `iterErr()` when it returned `false`.  The guards `i.err != nil` (all five) and `i.dir == dirEOI` (`Next`) / `dirSOI` (`Prev`) return
before anything else. -/

structure EDBIter (σ : Type) where
  base : DBIter σ
  err  : Option Err

namespace EDBIter
variable {σ : Type}

def new (raw : σ) (seq fuel : Nat) : EDBIter σ := ⟨DBIter.new raw seq fuel, none⟩

/-- `setErr` -/
def setErr (e : Err) (d : EDBIter σ) : EDBIter σ :=
  { base := { d.base with key := [], value := [] }, err := some e }

/-- `iterErr` -/
def iterErr (o : EIterOps σ) (d : EDBIter σ) : EDBIter σ :=
  match o.err d.base.raw with
  | some e => setErr e d
  | none => d

/-- does the call end in `prev()` (`Last`, `Prev`)? -/
def viaPrev : Call Bytes → Bool
  | .last => true
  | .prev => true
  | _ => false

/-- the guards `i.dir == dirEOI` of `Next` and `i.dir == dirSOI` of `Prev` -/
def atEnd (cl : Call Bytes) (d : EDBIter σ) : Bool :=
  match cl with
  | .next => d.base.dir = .eoi
  | .prev => d.base.dir = .soi
  | _ => false

/-- what the method does after the error-free part has produced `b`: `iterErr()` on the paths that return
`false`.  `chk` = `Gen.iterPrevChecksErr`: the last exit of `prev()` — the loop was left because
`i.iter.Prev()` returned `false` while a candidate is held — is `if i.iterErr(); i.err != nil { return false };
return true` (`true`, the code since the repair of D40) or just `return true` (`false`, the code as found: a
raw iterator that failed there went unnoticed until the next call). -/
def finish (chk : Bool) (o : EIterOps σ) (cl : Call Bytes) (d : EDBIter σ) (b : DBIter σ) : EDBIter σ :=
  if b.dir.valid then
    if chk && viaPrev cl && !o.ok b.raw then iterErr o { d with base := b } else { d with base := b }
  else iterErr o { d with base := b }

/-- one call -/
def step (chk : Bool) (o : EIterOps σ) (c : UCmp) (cl : Call Bytes) (d : EDBIter σ) : EDBIter σ :=
  if d.err.isSome then d
  else if atEnd cl d then d
  else if d.base.dir = .released then { d with err := some .released }
  else finish chk o cl d (DBIter.step o.toIterOps c cl d.base)

/-- `Valid()`, `Key()`, `Value()` -/
def out (d : EDBIter σ) : Option (Bytes × Bytes) := if d.err.isSome then none else d.base.out

/-- what the caller observes after each call: the pair (`none` = `false`) and `Error()` -/
def run (chk : Bool) (o : EIterOps σ) (c : UCmp) :
    EDBIter σ → List (Call Bytes) → List (Option (Bytes × Bytes) × Option Err)
  | _, [] => []
  | d, cl :: cs => let d' := step chk o c cl d; (d'.out, d'.err) :: run chk o c d' cs

end EDBIter

/-! ## children of the raw iterator that can fail -/

/-- a memdb / level-0 table iterator that fails as a whole (`arr`), or an indexed iterator whose blocks fail
(`idx`) -/
inductive ENode
  | arr (a : FailChild ArrIter)
  | idx (x : EIndexed)

def ENode.ops (c : UCmp) : EIterOps ENode where
  first | .arr a => .arr ((EIndexed.dops c).first a) | .idx x => .idx (x.first c)
  last  | .arr a => .arr ((EIndexed.dops c).last a)  | .idx x => .idx (x.last c)
  seek k | .arr a => .arr ((EIndexed.dops c).seek k a) | .idx x => .idx (x.seek c k)
  next  | .arr a => .arr ((EIndexed.dops c).next a)  | .idx x => .idx (x.next c)
  prev  | .arr a => .arr ((EIndexed.dops c).prev a)  | .idx x => .idx (x.prev c)
  cur   | .arr a => (EIndexed.dops c).cur a | .idx x => x.cur c
  err   | .arr a => a.err | .idx x => x.err

end GoLevel

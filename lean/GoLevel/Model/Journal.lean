import GoLevel.Gen.Consts
import GoLevel.Model.Bytes
import GoLevel.Model.CRC
/-!
# Journal (`leveldb/journal/journal.go`)

* `Journal.encode` — functional specification of the byte stream produced by `Writer`
  (`Next`/`Write`/`Close`) for a list of records.
* `Journal.Writer` — small-step machine with Go's fields, ops `next | write p | flush | close`, and the
  bytes handed to the underlying `io.Writer` so far (`out`).
* `Journal.decode strict checksum` — `Reader.Next` + `io.ReadAll` of every record, consumer loop as in
  `DB.recoverJournal` (`io.ErrUnexpectedEOF` from a record ⇒ go on with the next record, any other error
  ⇒ stop).

Constants come from `GoLevel.Gen`; the facts used about them are the `decide`d lemmas at the top.
-/
namespace GoLevel.Journal
open GoLevel.Gen (journalBlockSize journalHeaderSize fullChunkType firstChunkType middleChunkType lastChunkType)

namespace Sizes
scoped notation "blockSize" => GoLevel.Gen.journalBlockSize
scoped notation "headerSize" => GoLevel.Gen.journalHeaderSize
end Sizes
open Sizes

theorem headerSize_eq : journalHeaderSize = 7 := by decide
theorem headerSize_lt_blockSize : journalHeaderSize < journalBlockSize := by decide
theorem blockSize_lt_u16 : journalBlockSize < 65536 := by decide
theorem chunkTypes_eq : fullChunkType = 1 ∧ firstChunkType = 2 ∧ middleChunkType = 3 ∧ lastChunkType = 4 := by
  decide

/-! ## Wire format -/

/-- `Writer.fillHeader`: which of the four chunk types -/
def chunkType (first last : Bool) : Nat :=
  if last then (if first then fullChunkType else lastChunkType)
  else (if first then firstChunkType else middleChunkType)

/-- the 7 header bytes written by `Writer.fillHeader` for a chunk of type `ty` with payload `payload`:
    LE32 `util.NewCRC(buf[i+6:j]).Value()`, LE16 `j-i-headerSize`, type byte -/
def chunkHeader (ty : Nat) (payload : Bytes) : Bytes :=
  le32 (CRC.crcValue (ty.toUInt8 :: payload)).toNat ++ le16 payload.length ++ [ty.toUInt8]

def chunk (ty : Nat) (payload : Bytes) : Bytes := chunkHeader ty payload ++ payload

/-! ## Functional writer -/

/-- chunks of a record after its first chunk; they start at in-block offset 0 (the previous chunk filled
    its block exactly).  Returns the bytes and the in-block offset after the last chunk. -/
def restChunks (rec : Bytes) : Bytes × Nat :=
  if rec.length ≤ blockSize - headerSize then
    (chunk (chunkType false true) rec, headerSize + rec.length)
  else
    let r := restChunks (rec.drop (blockSize - headerSize))
    (chunk (chunkType false false) (rec.take (blockSize - headerSize)) ++ r.1, r.2)
termination_by rec.length
decreasing_by
  have := headerSize_lt_blockSize
  simp only [List.length_drop]; omega

/-- all chunks of a record whose first header starts at in-block offset `pos`
    (`pos + headerSize ≤ blockSize`): a chunk is closed as non-last exactly when the block is full and
    more payload follows (`singleWriter.Write`: `if w.j == blockSize { w.fillHeader(false); … }`). -/
def emitChunks (pos : Nat) (rec : Bytes) : Bytes × Nat :=
  let avail := blockSize - (pos + headerSize)
  if rec.length ≤ avail then
    (chunk (chunkType true true) rec, pos + headerSize + rec.length)
  else
    let r := restChunks (rec.drop avail)
    (chunk (chunkType true false) (rec.take avail) ++ r.1, r.2)

/-- `Writer.Next`: if the header of the next record does not fit, the rest of the block is zero-filled -/
def pad (pos : Nat) : Bytes × Nat :=
  if pos + headerSize > blockSize then (List.replicate (blockSize - pos) 0, 0) else ([], pos)

def emitRecord (pos : Nat) (rec : Bytes) : Bytes × Nat :=
  let z := pad pos
  let c := emitChunks z.2 rec
  (z.1 ++ c.1, c.2)

/-- stream for records `rs` when the writer is at in-block offset `pos` -/
def encodeFrom : Nat → List Bytes → Bytes
  | _, [] => []
  | pos, r :: rs => let e := emitRecord pos r; e.1 ++ encodeFrom e.2 rs

/-- in-block offset after writing `rs` from offset `pos` -/
def endPos : Nat → List Bytes → Nat
  | pos, [] => pos
  | pos, r :: rs => endPos (emitRecord pos r).2 rs

/-- the byte stream of `NewWriter; (Next; Write r)* ; Close` -/
def encode (rs : List Bytes) : Bytes := encodeFrom 0 rs

/-! ## Writer machine -/

/-- `journal.Writer`.  `buf` is `w.buf[:w.j]` (the bytes beyond `j` are stale and never reach the
    output), so Go's `j` is `buf.length`.  `cur` abstracts `x.seq == w.seq` for the last `singleWriter`
    handed out; `closed` is `w.err != nil` (the underlying writer never fails in the model);
    `bad` records a Go panic (`fillHeader`'s "bad writer state" or a slice-bounds panic in `Write`);
    `out` is the concatenation of all slices passed to `w.w.Write`. -/
structure Writer where
  buf : Bytes := []
  i : Nat := 0
  written : Nat := 0
  first : Bool := false
  pending : Bool := false
  cur : Bool := false
  closed : Bool := false
  bad : Bool := false
  out : Bytes := []
deriving Repr, DecidableEq

namespace Writer

def j (w : Writer) : Nat := w.buf.length

/-- `Writer.fillHeader` -/
def fillHeader (w : Writer) (last : Bool) : Writer :=
  if w.i + headerSize > w.j ∨ w.j > blockSize then { w with bad := true }
  else
    let payload := w.buf.drop (w.i + headerSize)
    { w with buf := w.buf.take w.i ++ chunkHeader (chunkType w.first last) payload ++ payload }

/-- `Writer.writeBlock`; the 7 reserved header bytes of the next block are modelled as zeros -/
def writeBlock (w : Writer) : Writer :=
  { w with out := w.out ++ w.buf.drop w.written, i := 0, buf := List.replicate headerSize 0, written := 0 }

/-- `Writer.writePending` -/
def writePending (w : Writer) : Writer :=
  if w.closed then w else
  let w := if w.pending then { (w.fillHeader true) with pending := false } else w
  { w with out := w.out ++ (w.buf.drop w.written), written := w.j }

/-- `Writer.Close` -/
def close (w : Writer) : Writer :=
  let w := { w with cur := false }
  let w := w.writePending
  { w with closed := true }

/-- `Writer.Flush` -/
def flush (w : Writer) : Writer :=
  let w := { w with cur := false }
  w.writePending

/-- `Writer.Next` -/
def next (w : Writer) : Writer :=
  let w := { w with cur := false }
  if w.closed then w else
  let w := if w.pending then w.fillHeader true else w
  let i := w.j
  let w := { w with i := i }
  let w :=
    if i + headerSize > blockSize then
      -- fill the rest of the block with zeroes, write it out
      ({ w with buf := w.buf ++ List.replicate (blockSize - i) 0 }).writeBlock
    else { w with buf := w.buf ++ List.replicate headerSize 0 }
  { w with first := true, pending := true, cur := true }

/-- `singleWriter.Write`, loop body: "Write a block, if it is full." -/
def roll (w : Writer) : Writer :=
  if w.j = blockSize then { (w.fillHeader false).writeBlock with first := false } else w

/-- the `for len(p) > 0` loop of `singleWriter.Write` -/
def writeLoop (w : Writer) (p : Bytes) : Writer :=
  if _hp : p.length = 0 then w else
  if _hj : blockSize ≤ w.roll.j then { w.roll with bad := true }   -- `w.buf[w.j:]`, `j > blockSize`: panic
  else
    -- "Copy bytes into the buffer."
    writeLoop { w.roll with buf := w.roll.buf ++ p.take (min (blockSize - w.roll.j) p.length) }
      (p.drop (min (blockSize - w.roll.j) p.length))
termination_by p.length
decreasing_by simp only [List.length_drop]; omega

/-- `singleWriter.Write` (stale writer / closed writer ⇒ error, nothing written) -/
def write (w : Writer) (p : Bytes) : Writer :=
  if !w.cur || w.closed then w else w.writeLoop p

end Writer

inductive Op
  | next | write (p : Bytes) | flush | close
deriving Repr, DecidableEq

def Writer.step (w : Writer) : Op → Writer
  | .next => w.next
  | .write p => w.write p
  | .flush => w.flush
  | .close => w.close

def Writer.run (w : Writer) (ops : List Op) : Writer := ops.foldl Writer.step w

/-- What an op sequence asks for: `next` finishes the current record and opens a new one, `write` while
    the `singleWriter` is current appends to it (a stale `singleWriter` returns an error), `flush` and
    `close` finish the current record, nothing counts after `close`. -/
structure RecState where
  done : List Bytes := []
  cur : Option Bytes := none
  closed : Bool := false
deriving Repr, DecidableEq

def RecState.all (s : RecState) : List Bytes := s.done ++ s.cur.toList

def RecState.step (s : RecState) (op : Op) : RecState :=
  if s.closed then s else
  match op with
  | .next => { s with done := s.all, cur := some [] }
  | .write p => { s with cur := s.cur.map (· ++ p) }
  | .flush => { s with done := s.all, cur := none }
  | .close => { done := s.all, cur := none, closed := true }

def recState (ops : List Op) : RecState := ops.foldl RecState.step {}

/-- the records written by an op sequence (the last one possibly still open) -/
def recordsOf (ops : List Op) : List Bytes := (recState ops).all

/-! ## Reader -/

/-- the `reason` strings passed to `Reader.corrupt` -/
inductive DropReason
  | zeroHeader | invalidType | lengthOverflow | checksumMismatch | orphan | missingPart
deriving Repr, DecidableEq

/-- Reader position on a flat stream: `pos` is Go's `r.j`; `rest` is `r.buf[r.j:r.n]` followed by the
    bytes of `r.r` not read yet.  Hence `r.n = pos + min (blockSize - pos) rest.length`.  (Go's initial
    state `n = 0` behaves as `pos = 0` on the whole stream: the first thing `nextChunk` does is read a
    block.) -/
structure RState where
  pos : Nat
  rest : Bytes
deriving Repr, DecidableEq

/-- result of one call of `Reader.nextChunk` -/
inductive ChunkRes
  /-- `nil`: `r.buf[r.i:r.j]` is `payload`, `r.last = last` -/
  | ok (payload : Bytes) (last : Bool) (st : RState)
  /-- `errSkip` after `Drop(n, why)` -/
  | skip (n : Nat) (why : DropReason) (st : RState)
  /-- strict mode: `r.err = ErrCorrupted` after `Drop(n, why)` -/
  | corrupt (n : Nat) (why : DropReason)
  /-- `r.err = io.EOF` -/
  | eof
deriving Repr, DecidableEq

/-- `Reader.corrupt` (the dropper is always called; we record its arguments) -/
def corrupt (strict : Bool) (n : Nat) (why : DropReason) (skip : Bool) (st : RState) : ChunkRes :=
  if strict && !skip then .corrupt n why else .skip n why st

/-- `nextChunk`, branch `if r.j+headerSize <= r.n { … }` -/
def parseChunk (strict checksum first : Bool) (pos : Nat) (rest : Bytes) (n : Nat) : ChunkRes :=
  let cks := rd32 rest
  let len := rd16 (rest.drop 4)
  let tyb := rest.getD 6 0
  let ty := tyb.toNat
  let unproc := n - pos
  let dropped : RState := ⟨n, rest.drop unproc⟩     -- r.i = r.n; r.j = r.n
  if cks = 0 ∧ len = 0 ∧ ty = 0 then corrupt strict unproc .zeroHeader false dropped
  else if ty < fullChunkType ∨ ty > lastChunkType then corrupt strict unproc .invalidType false dropped
  else if pos + headerSize + len > n then corrupt strict unproc .lengthOverflow false dropped
  else
    let payload := (rest.drop headerSize).take len
    let after : RState := ⟨pos + headerSize + len, rest.drop (headerSize + len)⟩
    if checksum ∧ cks ≠ (CRC.crcValue (tyb :: payload)).toNat then
      corrupt strict unproc .checksumMismatch false dropped
    else if first ∧ ty ≠ fullChunkType ∧ ty ≠ firstChunkType then
      corrupt strict (len + headerSize) .orphan true after
    else .ok payload (ty = fullChunkType ∨ ty = lastChunkType) after

/-- `nextChunk`: the two places that end the stream (`!first` ⇒ "missing chunk part", else `io.EOF`) -/
def endOfStream (strict first : Bool) (st : RState) : ChunkRes :=
  if !first then corrupt strict 0 .missingPart false st else .eof

/-- the `for` loop of `Reader.nextChunk`; two rounds always suffice (`nextChunkLoop_fuel`) -/
def nextChunkLoop (strict checksum first : Bool) : Nat → RState → ChunkRes
  | 0, _ => .eof
  | k+1, st =>
    let n := st.pos + min (blockSize - st.pos) st.rest.length
    if st.pos + headerSize ≤ n then parseChunk strict checksum first st.pos st.rest n
    else if n < blockSize ∧ n > 0 then endOfStream strict first st        -- "The last block."
    else
      -- "Read block."  `io.ReadFull` returns `min blockSize (bytes left)` bytes
      let rest' := st.rest.drop (n - st.pos)
      if min blockSize rest'.length = 0 then endOfStream strict first st
      else nextChunkLoop strict checksum first k ⟨0, rest'⟩

def nextChunk (strict checksum first : Bool) (st : RState) : ChunkRes :=
  nextChunkLoop strict checksum first 2 st

/-- how reading ended: `Next` returned `io.EOF`, or (strict) an `ErrCorrupted` came out of `Next` or of
    reading a record -/
inductive End
  | eof | corrupt
deriving Repr, DecidableEq

/-- what the consumer sees, in order -/
inductive Event
  | record (bs : Bytes)
  | drop (n : Nat) (why : DropReason)
deriving Repr, DecidableEq

structure DecodeResult where
  events : List Event
  final : End
deriving Repr, DecidableEq

def DecodeResult.cons (e : Event) (r : DecodeResult) : DecodeResult := { r with events := e :: r.events }

def eventRecords : List Event → List Bytes
  | [] => []
  | .record bs :: es => bs :: eventRecords es
  | .drop _ _ :: es => eventRecords es

def eventDrops : List Event → List (Nat × DropReason)
  | [] => []
  | .record _ :: es => eventDrops es
  | .drop n w :: es => (n, w) :: eventDrops es

/-- the records delivered, in order -/
def DecodeResult.records (r : DecodeResult) : List Bytes := eventRecords r.events
/-- the arguments of the `Drop` calls, in order -/
def DecodeResult.drops (r : DecodeResult) : List (Nat × DropReason) := eventDrops r.events

/-- measure for the reader loop -/
def RState.measure (st : RState) (cur : Option Bytes) : Nat :=
  2 * st.rest.length + (if cur.isSome then 1 else 0)

theorem parseChunk_shrinks {s c f pos rest n st'} (hn : n = pos + min (blockSize - pos) rest.length)
    (hp : pos + headerSize ≤ n) :
    (∀ p l, parseChunk s c f pos rest n = .ok p l st' → st'.rest.length < rest.length) ∧
    (∀ m w, parseChunk s c f pos rest n = .skip m w st' → st'.rest.length < rest.length) := by
  -- the two states `parseChunk` returns, the end of the block and the end of the chunk, lie at least a header further on
  have := headerSize_eq
  unfold parseChunk corrupt
  grind

theorem nextChunkLoop_shrinks {s c f k st st'} :
    (∀ p l, nextChunkLoop s c f k st = .ok p l st' → st'.rest.length < st.rest.length) ∧
    (∀ m w, nextChunkLoop s c f k st = .skip m w st' →
      st'.rest.length < st.rest.length ∨ (f = false ∧ st'.rest.length ≤ st.rest.length)) := by
  -- at the end of the stream only "missing chunk part" (`f = false`) is a skip; it keeps the state
  induction k generalizing st with
  | zero => exact ⟨nofun, nofun⟩
  | succ k ih =>
    rw [nextChunkLoop]
    unfold endOfStream corrupt
    have hp := @parseChunk_shrinks s c f st.pos st.rest _ st' rfl
    grind

theorem nextChunk_ok_shrinks {s c f st p l st'} (h : nextChunk s c f st = .ok p l st') :
    st'.rest.length < st.rest.length := nextChunkLoop_shrinks.1 p l h

theorem nextChunk_skip_shrinks {s c f st m w st'} (h : nextChunk s c f st = .skip m w st') :
    st'.rest.length < st.rest.length ∨ (f = false ∧ st'.rest.length ≤ st.rest.length) :=
  nextChunkLoop_shrinks.2 m w h

/-- `Reader.Next` / `singleReader.Read` driven by a consumer that reads every record to its end.
    `cur = none`: inside the `for` loop of `Reader.Next` (`nextChunk(true)`);
    `cur = some acc`: inside `io.ReadAll` of a record, `acc` read so far (`nextChunk(false)`).
    `errSkip` inside a record becomes `io.ErrUnexpectedEOF`: the consumer abandons the record and calls
    `Next` again; `ErrCorrupted` (strict) ends everything. -/
def decodeLoop (strict checksum : Bool) (st : RState) (cur : Option Bytes) : DecodeResult :=
  match _h : nextChunk strict checksum cur.isNone st with
  | .eof => ⟨[], .eof⟩
  | .corrupt n why => ⟨[.drop n why], .corrupt⟩
  | .skip n why st' => (decodeLoop strict checksum st' none).cons (.drop n why)
  | .ok payload last st' =>
    let acc := cur.getD [] ++ payload
    if last then (decodeLoop strict checksum st' none).cons (.record acc)
    else decodeLoop strict checksum st' (some acc)
termination_by st.measure cur
decreasing_by
  · have := nextChunk_skip_shrinks _h
    simp only [RState.measure]
    rcases this with h1 | ⟨h1, h2⟩
    · simp; split <;> omega
    · cases cur <;> simp_all; omega
  · have := nextChunk_ok_shrinks _h
    simp only [RState.measure]; simp; split <;> omega
  · have := nextChunk_ok_shrinks _h
    simp only [RState.measure]; simp; split <;> omega

/-- `journal.NewReader(bytes.NewReader(bs), dropper, strict, checksum)` read to the end -/
def decode (strict checksum : Bool) (bs : Bytes) : DecodeResult :=
  decodeLoop strict checksum ⟨0, bs⟩ none

end GoLevel.Journal

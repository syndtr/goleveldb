import GoLevel.Model.RefLoop
import GoLevel.Model.LSM
/-! The PRODUCERS of the reference loop's messages (C07): `session.setVersion`, `version.incref/releaseNB`,
`session.commit` (success and failure → `s.abandon <- nv.id`), `session.recover`, `session.close`
(`leveldb/session.go`, `session_util.go`, `version.go`), over the versions of the LSM model.

All sends are on unbuffered channels to the single `refLoop` goroutine and all but the abandon happen under
`s.vmu`, so the loop sees the messages of one operation in program order; the model runs the loop
(`RefLoop.step`) on each message at once.  The id of a failed commit is allocated and abandoned in one step:
between `v.spawn` and `s.abandon <- nv.id` only reader releases can be sent (commits are serialised by the
caller), and those do not depend on `ntVersionID`. -/
namespace GoLevel.Session
open GoLevel GoLevel.RefLoop

/-- the `seen` map of `setVersion` (the D13 repair): first occurrences only -/
def dedup : List Nat → List Nat
  | [] => []
  | a :: l => a :: (dedup l).filter (· != a)

/-- `setVersion`: `&vDelta{vid: s.stVersion.id, added: …, deleted: …}` from the record -/
def mkDelta (r : Edit) : Delta :=
  { added := dedup (r.added.map (·.2.num)), deleted := r.deleted.map (·.2) }

/-- every table of a version with its level (`version.fillRecord`) -/
def levelTables (v : Version) : List (Nat × Table) :=
  (v.levels.zipIdx).flatMap fun (l, i) => l.map fun t => (i, t)

/-- `version.fillRecord(rec)` as called by `newManifest(rec, nv)`: every table of `nv` is added to the record -/
def fillRecord (r : Edit) (nv : Version) : Edit := { r with added := r.added ++ levelTables nv }

/-- a `*version` object that somebody still holds -/
structure VObj where
  id : Nat
  files : List Nat
  /-- references held by readers (`s.version()` … `v.release()`) -/
  pins : Nat
  deriving Repr, DecidableEq

structure Sess where
  /-- the version objects with `ref > 0` -/
  objs : List VObj
  /-- `s.stVersion` -/
  cur : Nat
  lsm : Version
  /-- `s.ntVersionID` -/
  nt : Nat
  /-- `s.manifest != nil` -/
  manifest : Bool
  /-- `session.close` ran: `closeC` is closed, the session's own reference is gone -/
  closed : Bool
  deriving Repr

/-- What the session does.  (Readers: `pin` = `s.version()`, `unpin` = `v.release()`.) -/
inductive Op
  /-- `session.recover`: the version read from the manifest -/
  | recover (v : Version)
  /-- `session.create`: `newManifest(nil, nil)` -/
  | create
  /-- `session.commit(r)` succeeded -/
  | commit (c : UCmp) (r : Edit)
  /-- `session.commit(r)` failed (manifest write error): `s.abandon <- nv.id` -/
  | commitFail (c : UCmp) (r : Edit)
  | pin
  /-- `v.release()`; `delivered = false`: the sender took the `<-closeC` arm (only after `close`) -/
  | unpin (id : Nat) (delivered : Bool)
  | close
  /-- the 5-minute timer found the task of version `vid` old -/
  | expire (vid : Nat)

/-- `newSession`: `go s.refLoop(); s.setVersion(nil, newVersion(s))` -/
def Sess.init : Sess × List Msg :=
  ({ objs := [⟨0, [], 0⟩], cur := 0, lsm := ⟨[]⟩, nt := 1, manifest := false, closed := false },
   [.ref 0 []])

def Sess.obj (s : Sess) (id : Nat) : Option VObj := s.objs.find? (·.id = id)

/-- `releaseNB` on version `id`, by a reader or by the session: the object stays while someone
holds it, otherwise the release task is sent. -/
def Sess.drop (s : Sess) (id : Nat) : Sess × List Msg :=
  match s.obj id with
  | none => (s, [])
  | some o =>
    let held := o.pins + (if id = s.cur ∧ ¬ s.closed then 1 else 0)
    if held > 0 then (s, [])
    else ({ s with objs := s.objs.filter (·.id != id) }, [.rel id o.files])

/-- `setVersion(r, nv)` on a session whose current version exists: `nv.incref()`, the delta (when `r != nil`),
`s.stVersion.releaseNB()`, `s.stVersion = nv`. -/
def Sess.setVersion (s : Sess) (r : Option Edit) (nvId : Nat) (nv : Version) : Sess × List Msg :=
  let old := s.cur
  let s1 : Sess := { s with objs := s.objs ++ [⟨nvId, nv.nums, 0⟩], cur := nvId, lsm := nv }
  let (s2, rel) := s1.drop old
  (s2, [.ref nvId nv.nums] ++ (match r with | some r => [.delta old (mkDelta r)] | none => []) ++ rel)

/-- One operation: the new session state and the messages sent, in order (`none` = the operation is not
possible in this state). -/
def Sess.op (s : Sess) : Op → Option (Sess × List Msg)
  | .recover v =>
    if s.closed then none else
    -- `s.setVersion(rec, staging.finish(false))`: `rec`'s table lists were reset after each manifest record
    some (({ s with nt := s.nt + 1 }).setVersion (some ⟨[], []⟩) s.nt v)
  | .create => if s.closed then none else some ({ s with manifest := true }, [])
  | .commit c r =>
    if s.closed then none else
    let nv := s.lsm.apply c r
    -- the first commit after `recover` goes through `newManifest(r, nv)`, which fills `r` with `nv`'s tables
    let r' := if s.manifest then r else fillRecord r nv
    some (({ s with nt := s.nt + 1, manifest := true }).setVersion (some r') s.nt nv)
  | .commitFail _ _ =>
    if s.closed then none else some ({ s with nt := s.nt + 1 }, [.abandon s.nt])
  | .pin =>
    if s.closed then none else
    some ({ s with objs := s.objs.map fun o => if o.id = s.cur then { o with pins := o.pins + 1 } else o }, [])
  | .unpin id delivered =>
    match s.obj id with
    | none => none
    | some o =>
      if o.pins = 0 ∨ (!delivered ∧ !s.closed) then none else
      let s1 : Sess := { s with objs := s.objs.map fun o => if o.id = id then { o with pins := o.pins - 1 } else o }
      let (s2, rel) := s1.drop id
      some (s2, if delivered then rel else [])
  | .close =>
    if s.closed then none else
    -- `s.setVersion(nil, &version{s: s, closing: true, id: s.ntVersionID})`, then `close(s.closeC)`
    let (s1, ms) := s.setVersion none s.nt ⟨[]⟩
    some ({ s1 with closed := true }, ms)
  | .expire vid => some (s, [.expire vid])

/-- The session together with its reference loop.  `alive = false`: the loop has taken its `<-s.closeC` arm;
`requests` = every table number handed to `tOps.remove`, in order. -/
structure Sys where
  sess : Sess
  loop : State
  requests : List Nat
  deriving Repr

/-- deliver the messages of one operation to the loop, in order (`none` = the loop panics) -/
def deliver (l : State) : List Msg → Option (State × List Nat) := RefLoop.run l

def Sys.init : Option Sys :=
  match deliver State.init Sess.init.2 with
  | some (l, rm) => some ⟨Sess.init.1, l, rm⟩
  | none => none

/-- one operation; the removals it caused are appended to `requests` -/
def Sys.step (y : Sys) (o : Op) : Option (Sys × List Nat) :=
  match y.sess.op o with
  | none => none
  | some (s', ms) =>
    match deliver y.loop ms with
    | none => none
    | some (l', rm) => some (⟨s', l', y.requests ++ rm⟩, rm)

def Sys.run (y : Sys) : List Op → Option Sys
  | [] => some y
  | o :: os =>
    match y.step o with
    | none => none
    | some (y', _) => y'.run os

end GoLevel.Session
